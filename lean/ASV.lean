import ASV.Proofs.Base.Except
import ASV.Proofs.Base.AList
import ASV.Model.Loc
import ASV.Model.Rules
import ASV.Spec.Bases
import ASV.Spec.Formula
import ASV.Proofs.Loc
import ASV.Proofs.Rules
import ASV.Props.C01
import ASV.Model.LocOps
import ASV.Proofs.LocRing
import ASV.Proofs.LocConnectRingN
import ASV.Proofs.LocConnectRingIn
import ASV.Proofs.LocConnectRingSpec
import ASV.Proofs.LocConnectRingPerm
import ASV.Proofs.LocExtendArea
import ASV.Proofs.CanonIvs
import ASV.Proofs.LocConnectRingArc
import ASV.Props.C04
import ASV.Model.Ids
import ASV.Spec.Ids
import ASV.Proofs.Ids
import ASV.Proofs.IdsFix
import ASV.Proofs.IdsMain
import ASV.Proofs.IdsGenes
import ASV.Proofs.IdsScan
import ASV.Props.C16
import ASV.Model.PosixPath
import ASV.Model.WriteSafety
import ASV.Spec.WriteSafety
import ASV.Proofs.WriteSafety
import ASV.Proofs.PosixPath
import ASV.Proofs.OutputDir
import ASV.Proofs.WriteSafetyNames
import ASV.Proofs.WriteSafetyRun
import ASV.Proofs.WriteSafetyFull
import ASV.Props.C20
import ASV.Generated.Orf
import ASV.Model.Orf
import ASV.Spec.Orf
import ASV.Proofs.OrfScan
import ASV.Proofs.OrfCoords
import ASV.Proofs.OrfExtract
import ASV.Proofs.OrfGaps
import ASV.Proofs.OrfArea
import ASV.Proofs.OrfTrim
import ASV.Proofs.OrfRecord
import ASV.Proofs.OrfTranslate
import ASV.Props.C15
import ASV.Model.Packing
import ASV.Spec.Layout
import ASV.Spec.TokenLayout
import ASV.Proofs.PackingBase
import ASV.Proofs.PackingRows
import ASV.Proofs.PackingAreas
import ASV.Proofs.PackingAreaCases
import ASV.Proofs.PackingBuild
import ASV.Proofs.PackingGenes
import ASV.Proofs.PackingUnique
import ASV.Proofs.PackingJson
import ASV.Props.C19
import ASV.Model.ProtDna
import ASV.Spec.ProtDna
import ASV.Spec.ProtDnaRebuild
import ASV.Proofs.ProtDna
import ASV.Proofs.ProtDnaRebuild
import ASV.Proofs.ProtDnaFeature
import ASV.Proofs.ProtDnaConvert
import ASV.Props.C09
import ASV.Model.Refine
import ASV.Model.HitFilter
import ASV.Spec.Refine
import ASV.Spec.HitFilter
import ASV.Props.C13
import ASV.Proofs.Rotation
import ASV.Model.Modules
import ASV.Spec.Modules
import ASV.Props.C14
import ASV.Model.Protocluster
import ASV.Spec.ChainPartition
import ASV.Spec.Chains
import ASV.Props.C03
import ASV.Model.Regions
import ASV.Spec.Components
import ASV.Props.C06
import ASV.Props.C08
import ASV.Model.Parser
import ASV.Spec.Grammar
import ASV.Proofs.Parser.Basic
import ASV.Proofs.Parser.Post
import ASV.Proofs.Parser.Flat
import ASV.Proofs.Parser.Natural
import ASV.Proofs.Parser.Rule
import ASV.Proofs.Parser.Main
import ASV.Proofs.Parser.Stream
import ASV.Proofs.Parser.Complete
import ASV.Proofs.Parser.Grammar
import ASV.Proofs.Parser.Tokeniser
import ASV.Proofs.Parser.RulePP
import ASV.Proofs.Parser.Alias
import ASV.Proofs.Parser.Subst
import ASV.Proofs.Parser.SubstRule
import ASV.Proofs.Parser.FuelMono
import ASV.Proofs.Parser.FuelEnough
import ASV.Proofs.Parser.FuelTop
import ASV.Proofs.Parser.ReprintTokens
import ASV.Proofs.Parser.ReprintNorm
import ASV.Proofs.Parser.ReprintRule
import ASV.Spec.Reprint
import ASV.Model.Rulesets
import ASV.Spec.Rulesets
import ASV.Proofs.Rulesets
import ASV.Props.C02
import ASV.Props.C02Examples
import ASV.Props.C02Examples2
import ASV.Model.Results
import ASV.Spec.Results
import ASV.Props.C11
import ASV.Model.Parallel
import ASV.Spec.Parallel
import ASV.Proofs.Parallel
import ASV.Proofs.ParallelPool
import ASV.Proofs.ParallelMain
import ASV.Proofs.ParallelState
import ASV.Model.ParallelWorkers
import ASV.Proofs.ParallelWorkers
import ASV.Generated.RecordPickle
import ASV.Model.ParallelPickle
import ASV.Model.ParallelFilters
import ASV.Props.C18
import ASV.Props.C12
import ASV.Props.C10
import ASV.Model.Determinism
import ASV.Spec.Determinism
import ASV.Proofs.DeterminismSort
import ASV.Proofs.DeterminismStages
import ASV.Props.C17
import ASV.Props.C05
import ASV.Model.DetectRecord
import ASV.Proofs.RotationStages
import ASV.Proofs.RuleOrder
import ASV.Proofs.RotationCandidates
import ASV.Model.Rotate
import ASV.Model.Pipeline
import ASV.Proofs.RotateLoc
import ASV.Proofs.RotationRing
import ASV.Proofs.RulesetSelection
import ASV.Proofs.RuleOrderPerm
import ASV.Proofs.MergeApart
import ASV.Proofs.RotationWitness
import ASV.Props.C07
import ASV.Proofs.Parser.FilePP
import ASV.Model.HitCallers
import ASV.Model.Continuations
import ASV.Proofs.Continuations
import ASV.Proofs.Parser.Prefix
