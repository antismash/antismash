/-
  C19 — region overview layout data is complete, non-overlapping and in range.
  Property theorems only; helper lemmas live in ASV/Proofs/Packing*.lean.

  All statements are for every region: any number and nesting of protoclusters, candidate
  clusters and subregions *in any order*, on a linear record, inside a circular record, across
  the origin, or covering a whole circular record; every record length.  The hypotheses
  (`inputOK`, `viewOK`: Spec/Layout.lean) say only what the secmet constructors and region
  formation guarantee: areas are one part or `[s, L) + [0, e)` with `e ≤ s`, lie inside the
  region, a protocluster's core lies inside the protocluster.  The model is the code with the
  repairs D24, D30, D31, D70-C19, D72-C19 (fixes/) applied; without them 3, 5, 6 are false (corpus/C19).
-/
import ASV.Proofs.PackingBuild
import ASV.Proofs.PackingGenes
import ASV.Proofs.PackingUnique
import ASV.Proofs.PackingJson
namespace ASV.C19
open ASV ASV.Packing ASV.Packing.Spec

/-! ### pack -/

/-- `pack` neither loses nor duplicates an area: the rows' contents, concatenated, are a
    permutation of the input (any `length` argument, any input order, no well-formedness needed) -/
theorem pack_is_partition (areas : List Feat) (length : Int) (rows : List Row)
    (h : pack areas length = some rows) : (rows.flatMap (·.contents)).Perm areas :=
  pack_perm areas length rows h

/-- `pack` never raises "cannot fit area into row" on well-formed areas -/
theorem pack_total (L : Int) (areas : List Feat) (length : Int)
    (hwf : ∀ a ∈ areas, collOK L a.loc = true) : ∃ rows, pack areas length = some rows :=
  pack_isSome areas length fun a ha => collOK_start_nonneg (hwf a ha)

/-- no two areas of one row share a base of the record — for every input order (sortedness is
    only needed for compactness), every `length`, including rows closed by an origin-spanning
    area.  Unconditional since `can_fit` tests an origin-spanning area against the whole row (D24). -/
theorem rows_disjoint (L : Int) (areas : List Feat) (length : Int) (rows : List Row)
    (hwf : ∀ a ∈ areas, collOK L a.loc = true) (h : pack areas length = some rows) :
    ∀ r ∈ rows, r.contents.Pairwise fun a b => ¬ SharesBase a.loc b.loc := by
  intro r hr
  exact (pack_inv areas length rows hwf h r hr).apart.imp fun hab => hab.not_sharesBase

/-! ### build_area_rows -/

/-- `build_area_rows` never trips an assertion / ValueError on a well-formed region -/
theorem build_total (c : Ctx) (r : RegionIn) (hin : inputOK c r = true) :
    ∃ out, buildAreaRows c r = some out := by
  obtain ⟨_, out, _, h, _⟩ := build_run hin
  exact ⟨out, h⟩

/-- every emitted area lies in the announced range, its core inside its extent, nothing
    inverted: `lo ≤ neighbouring_start ≤ start ≤ end ≤ neighbouring_end ≤ hi` (all five branches
    of `adjust_cross_origin_area`, both halves of a split, the shifted post-origin areas) -/
theorem areas_in_range (c : Ctx) (r : RegionIn) (out : List Area) (hin : inputOK c r = true)
    (h : buildAreaRows c r = some out) : areasInRange c out = true := by
  obtain ⟨_, _, bok, _⟩ := build_ok hin h
  simp only [areasInRange, List.all_eq_true]
  intro a ha
  obtain ⟨_, _, _, _, _, good, hm⟩ := bok.src a ha
  exact good.range a hm

/-- no two areas placed on the same row (= drawn at the same height) overlap in their full
    extents, in the coordinates actually emitted (after shifting / splitting) -/
theorem same_row_disjoint (c : Ctx) (r : RegionIn) (out : List Area) (hin : inputOK c r = true)
    (h : buildAreaRows c r = some out) : RowsDisjoint out := by
  obtain ⟨_, _, bok, _⟩ := build_ok hin h
  exact bok.sep

/-- every protocluster, shown candidate cluster and subregion is drawn exactly once — as one
    area, or as two adjacent halves with the same non-zero group id, the first ending at the
    record end and the second starting at the origin — nothing else is drawn, folding the drawn
    coordinates back onto the record gives exactly the feature's extent (and core, for
    protoclusters), and different split features have different group ids -/
theorem drawn_exactly_once (c : Ctx) (r : RegionIn) (out : List Area) (hin : inputOK c r = true)
    (h : buildAreaRows c r = some out) : Complete c.L r out := by
  obtain ⟨seq, hseq, bok, _⟩ := build_ok hin h
  obtain ⟨ds, hp, hs, hids⟩ := bok.parse
  refine ⟨ds, hp, ⟨_, hs, ?_⟩, hids.nodup⟩
  have := (emission_perm hseq).map expectedShown
  simpa [List.map_map, Function.comp_def] using this

/-- the executable form used by the driver is the same statement -/
theorem completeB_iff (L : Int) (r : RegionIn) (out : List Area) :
    completeB L r out = true ↔ Complete L r out := by
  unfold completeB Complete
  cases hp : parse out with
  | none => simp
  | some ds =>
    simp only [Option.some.injEq, exists_eq_left', Bool.and_eq_true, decide_eq_true_eq]
    cases hs : ds.mapM (Drawn.shown L) with
    | none => simp
    | some ss => simp [List.isPerm_iff]

/-- order along the drawing equals order along the genome: an area drawn whole starts at the
    region's first base plus the distance travelled along the genome (through the origin if need
    be) to the feature's start, and is as long as the feature -/
theorem areas_order_preserved (c : Ctx) (r : RegionIn) (out : List Area) (hin : inputOK c r = true)
    (h : buildAreaRows c r = some out) :
    ∀ a ∈ out, a.group = 0 → ∃ f ∈ toDraw r, a.kind = f.kind ∧
      a.nstart = (drawRange c).1 + ringOffset c.L (drawRange c).1 f.start ∧
      a.nend = a.nstart + f.loc.len := by
  intro a ha hg
  obtain ⟨f, hfm, _, hgt, gid, good, hsh⟩ := whole_area_src hin h ha hg
  rw [shown_whole, expectedShown_eq] at hsh
  exact ⟨f, hfm, congrArg Shown.kind (Option.some.inj hsh), good.placed a rfl⟩

/-- `to_minimal_json` loses nothing: reading the written object back (missing neighbouring
    coordinate = the core's, missing string = empty, missing group = 0) gives the area again —
    in particular a height of 0, a start of 0 and an end of 0 are always written -/
theorem minimal_json_roundtrip (a : Area) : readArea a.toMinimalJson = some a :=
  minimal_json_lossless a

/-- in a region that spans the origin — including one that also tiles the whole record,
    `[s, L) + [0, s)` — no area is ever split at the origin: every area is drawn whole, continuing
    past the record length (splitting is for the whole-record region `[0, L)` only; deciding it by
    "the region covers the record" instead of "the region does not span the origin" falsifies this
    and `areas_in_range`) -/
theorem origin_spanning_region_never_splits (c : Ctx) (r : RegionIn) (out : List Area)
    (hin : inputOK c r = true) (hx : c.regionCrosses = true) (h : buildAreaRows c r = some out) :
    ∀ a ∈ out, a.group = 0 := by
  obtain ⟨seq, hseq, bok, _⟩ := build_ok hin h
  -- the range starts after position 0
  have hlo : 0 < (drawRange c).1 := by
    rcases regionOK_cases (inputOK_parts hin).1 with ⟨R, _, _, _, _, hx', _⟩ | ⟨S, E, _, h1, h2, h3, _, _, _, _, hd⟩
    · rw [hx] at hx'; cases hx'
    · simp only [hd]; omega
  intro a ha
  obtain ⟨x, _, gid, as, _, good, hm⟩ := bok.src a ha
  rcases good.drawn with ⟨a', rfl, hg, _⟩ | ⟨a', b', rfl, _, _, hsh, _⟩
  · simp only [List.mem_singleton] at hm
    subst hm; exact hg
  · -- a second half would start at 0, before the range
    exfalso
    have hb := (areaInRange_iff _ _ _).1 (good.range b' (by simp))
    have h0 : b'.nstart = 0 := by
      simp only [Drawn.shown] at hsh
      split at hsh
      · rename_i hcond
        simp only [Bool.and_eq_true, beq_iff_eq] at hcond
        exact hcond.1.1.2
      · simp at hsh
    omega

/-- a protocluster drawn whole shows exactly as many core positions as its core has bases — in
    particular never an empty core, also when the core tiles the whole record from a position back
    to itself (`core_start == core_end`; D72-C19).  For split protoclusters the same count over
    both halves is part of `drawn_exactly_once` (`Shown.coreLen`). -/
theorem cores_drawn_in_full (c : Ctx) (r : RegionIn) (out : List Area) (hin : inputOK c r = true)
    (h : buildAreaRows c r = some out) :
    ∀ a ∈ out, a.group = 0 → a.kind = .proto →
      ∃ f ∈ toDraw r, f.kind = .proto ∧ a.end - a.start = f.core.len ∧ 0 < f.core.len := by
  intro a ha hg hk
  obtain ⟨f, hfm, hfeat, hgt, gid, good, hsh⟩ := whole_area_src hin h ha hg
  rw [shown_whole, expectedShown_eq] at hsh
  have hxk : f.kind = .proto := (congrArg Shown.kind (Option.some.inj hsh)).symm.trans hk
  have hcore : shownCore f = f.core := by rw [shownCore, hxk]
  refine ⟨f, hfm, hxk, ?_, ?_⟩
  · rw [← hcore]
    exact congrArg Shown.coreLen (Option.some.inj hsh)
  · exact (collOK_arc (proto_core hfeat hxk).2.1).len_pos

/-! ### get_unique_protoclusters: from the region's children to the drawing -/

/-- `region.get_unique_protoclusters()` delivers exactly the protoclusters of the region's
    candidate clusters: every object once however many candidates share it, and every *distinct*
    object — two protoclusters that agree in extent and product (a detected cluster and a
    sideloaded annotation of it, two clusters of one product with different cores) are both
    there.  (Gathering them under their sort key instead of by identity falsifies this.) -/
theorem unique_protoclusters_complete (c : Ctx) (cands : List Cand)
    (hid : idsConsistent (cands.flatMap (·.members)) = true) :
    (uniqueProtoclusters c cands).Perm (regionProtos cands) :=
  uniqueProtoclusters_perm c cands

/-- the executable form the driver evaluates on the delivered list -/
theorem unique_protoclusters_delivered (c : Ctx) (cands : List Cand)
    (hid : idsConsistent (cands.flatMap (·.members)) = true) :
    deliveredOk cands (uniqueProtoclusters c cands) = true := by
  simp only [deliveredOk, List.isPerm_iff]
  exact (uniqueProtoclusters_perm c cands).map _

/-- … in non-decreasing order of `(start [+ L after the origin], -length, product)` -/
theorem unique_protoclusters_sorted (c : Ctx) (cands : List Cand) :
    sortedByKey c ((uniqueProtoclusters c cands).map (·.feat)) = true :=
  sortByKey_sorted c _

/-- every protocluster of the region's candidate clusters (by identity), every shown candidate
    and every subregion is drawn exactly once, whatever order the protoclusters are delivered in
    (CPython's set order decides between protoclusters with equal keys) -/
theorem drawn_exactly_once_any_order (c : Ctx) (subs : List Feat) (cands : List Cand)
    (delivered : List PObj) (out : List Area) (hp : delivered.Perm (regionProtos cands))
    (hin : inputOK c (regionSpecIn subs cands) = true)
    (h : buildAreaRows c ⟨subs, cands.map (·.feat), delivered.map (·.feat)⟩ = some out) :
    Complete c.L (regionSpecIn subs cands) out :=
  complete_of_perm (hp.map _)
    (drawn_exactly_once c _ out (inputOK_of_perm (hp.map _) hin) h)

/-- the property's first clause from the region's children: `build_area_rows` of a region draws
    every protocluster of its candidate clusters, every shown candidate and every subregion
    exactly once (or as two linked halves) -/
theorem every_protocluster_drawn_once (c : Ctx) (subs : List Feat) (cands : List Cand)
    (out : List Area) (hid : idsConsistent (cands.flatMap (·.members)) = true)
    (hin : inputOK c (regionSpecIn subs cands) = true) (h : buildRegion c subs cands = some out) :
    Complete c.L (regionSpecIn subs cands) out :=
  drawn_exactly_once_any_order c subs cands _ out (uniqueProtoclusters_perm c cands) hin h

/-- … and never refuses such a region -/
theorem build_region_total (c : Ctx) (subs : List Feat) (cands : List Cand)
    (hid : idsConsistent (cands.flatMap (·.members)) = true)
    (hin : inputOK c (regionSpecIn subs cands) = true) : ∃ out, buildRegion c subs cands = some out :=
  build_total c _ (inputOK_of_perm ((uniqueProtoclusters_perm c cands).map _) hin)

/-! ### convert_regions / convert_cds_features -/

/-- the `start`/`end` numbers written for a region describe its drawing range: from the region's
    first base, as long as the region, i.e. up to `L + parts[1].end` for an origin-spanning one -/
theorem announced_range (c : Ctx) (h : regionOK c = true) : announcedOk c (announced c) = true :=
  announced_ok c h

/-- every drawn gene (both halves of a split one) lies within the announced range -/
theorem genes_in_range (c : Ctx) (views : List GeneView) (hc : regionOK c = true)
    (hv : ∀ v ∈ views, viewOK c v = true) : orfsInRange c (convertCds c views) = true := by
  simp only [orfsInRange, List.all_eq_true, convertCds]
  intro o ho
  obtain ⟨v, hvm, gid, hm⟩ := convertCdsFrom_mem views 0 o ho
  exact (convertOne_good hc (hv v hvm) gid).range o hm

/-- every gene is drawn exactly once, in the order given — whole, or (origin-spanning gene in a
    whole-record region) as two linked halves `[start, L]` + `[1, end]` of which the one without
    the arrow head is strand-less — with exactly its own coordinates once folded back -/
theorem genes_exactly_once (c : Ctx) (views : List GeneView) (hc : regionOK c = true)
    (hv : ∀ v ∈ views, viewOK c v = true) : orfsCompleteB c.L views (convertCds c views) = true :=
  convertCds_complete hc views hv

/-- order along the drawing equals order along the genome: a gene drawn whole sits at the
    region's first base plus the distance travelled along the genome to the gene's start (so
    genes after the origin are shifted by exactly the record length) -/
theorem order_preserved (c : Ctx) (v : GeneView) (gid : Int) (hc : regionOK c = true)
    (hv : viewOK c v = true) :
    ∀ o, convertOne c v gid = [o] → orfPlaced c v o = true := by
  intro o ho
  rcases (convertOne_good hc hv gid).drawn with ⟨o', ho', _, _, hpl⟩ | ⟨a, b, hab, _⟩
  · rw [ho] at ho'
    simp only [List.cons.injEq, and_true] at ho'
    subst ho'; exact hpl
  · rw [ho] at hab
    simp at hab

/-- the three gene statements with the hypothesis on the *locations*: for genes of one or two
    exons (incl. forward and reverse genes running over the origin) well-formedness of the
    location inside the region is all that is needed — `Feature.start/end`, `crosses_origin` and
    `is_contained_by(region.location.parts[-1])` are computed by the model from the location -/
theorem genes_drawn_from_locations (c : Ctx) (genes : List Loc) (hc : regionOK c = true)
    (hg : ∀ g ∈ genes, geneOK c g = true) :
    orfsInRange c (convertCds c (genes.map (geneView c))) = true ∧
    orfsCompleteB c.L (genes.map (geneView c)) (convertCds c (genes.map (geneView c))) = true ∧
    ∀ g ∈ genes, ∀ gid o, convertOne c (geneView c g) gid = [o] → orfPlaced c (geneView c g) o = true := by
  have hv : ∀ v ∈ genes.map (geneView c), viewOK c v = true := by
    intro v hv
    simp only [List.mem_map] at hv
    obtain ⟨g, hgm, rfl⟩ := hv
    exact geneView_ok hc (hg g hgm)
  exact ⟨genes_in_range c _ hc hv, genes_exactly_once c _ hc hv,
    fun g hgm gid o ho => order_preserved c _ gid hc (geneView_ok hc (hg g hgm)) o ho⟩

/-! ### the constructors behind the hypotheses -/

/-- every well-formed location is accepted by `CDSCollection.__init__` / `Feature.__init__`:
    the hypotheses of the theorems above describe constructible objects -/
theorem wellformed_is_constructible (L : Int) (l : Loc) (h : collOK L l = true) :
    collectionInit l = .ok := by
  rcases collOK_cases h with ⟨p, rfl, h1, h2, h3⟩ | ⟨s, e, rfl, h1, h2, h3⟩
  · exact (collectionInit_simple p).2 ⟨h1, Int.le_of_lt h2⟩
  · exact (collectionInit_pair _ _).2 ⟨rfl, rfl, rfl, by simp only; omega, by simp only; omega, by simp only; omega⟩

/-- what the constructors establish and what they leave open (one part): an accepted
    single-part location is well-formed as soon as it is non-empty and ends inside the record —
    the constructor checks the sign of the start, not emptiness -/
theorem constructed_simple_wellformed (L : Int) (p : Part) (h : collectionInit (.simple p) = .ok)
    (hne : p.lo < p.hi) (hin : p.hi ≤ L) : collOK L (.simple p) = true := by
  simp only [collOK, Bool.and_eq_true, decide_eq_true_eq]
  exact ⟨⟨((collectionInit_simple p).1 h).1, hne⟩, hin⟩

/-- … and two parts: the constructors force the second part to start at 0 and both parts onto
    the forward strand; non-emptiness, "the first part ends the record" and `e ≤ s` are what the
    theorems' hypothesis `collOK` adds ("overlapping exons" only compares end coordinates) -/
theorem constructed_pair_wellformed (L : Int) (p q : Part) (h : collectionInit (.compound [p, q]) = .ok)
    (hp : p.lo < p.hi) (hq : q.lo < q.hi) (hend : p.hi = L) (hsep : q.hi ≤ p.lo) :
    collOK L (.compound [p, q]) = true := by
  obtain ⟨h1, h2, h3, _, _, _⟩ := (collectionInit_pair p q).1 h
  simp only [collOK, Bool.and_eq_true, decide_eq_true_eq, beq_iff_eq]
  exact ⟨⟨⟨⟨⟨⟨h2, h3⟩, h1⟩, by omega⟩, hsep⟩, hp⟩, hend⟩

/-! ### non-vacuity: the hypotheses hold on concrete layouts that reach every branch -/

private def sl (a b : Int) : Loc := .simple ⟨a, b, .fwd⟩
private def xl (s L e : Int) : Loc := .compound [⟨s, L, .fwd⟩, ⟨0, e, .fwd⟩]

/-- the D24 layout and more: origin-spanning region `[800,1000) + [0,90)`; protoclusters before
    the origin (a1, b, a2), with the right neighbourhood across it (x), the core across it (y),
    after it (z) and with the left neighbourhood across it (w); an origin-spanning candidate
    cluster whose collective core does not span the origin (D30) and an origin-spanning subregion -/
def exCross : Ctx := ⟨xl 800 1000 90, 1000, true⟩
def exCrossIn : RegionIn :=
  { subregions := [⟨xl 900 1000 50, .sub, default, false, "s"⟩],
    candidates := [⟨xl 800 1000 90, .cand, sl 810 960, false, "CC"⟩],
    protos := [⟨sl 800 850, .proto, sl 810 820, false, "a1"⟩, ⟨sl 840 870, .proto, sl 845 850, false, "b"⟩,
               ⟨sl 860 900, .proto, sl 870 880, false, "a2"⟩, ⟨xl 880 1000 90, .proto, sl 950 960, false, "x"⟩,
               ⟨xl 990 1000 80, .proto, xl 995 1000 5, false, "y"⟩, ⟨sl 10 60, .proto, sl 20 30, false, "z"⟩,
               ⟨xl 950 1000 85, .proto, sl 20 40, false, "w"⟩] }

example : inputOK exCross exCrossIn = true := by decide +kernel
/-- (extent start, core start, core end, extent end, height): a1, a2 and y share the first
    protocluster row; x is tested against a2 as well and goes to b's row -/
example : (buildAreaRows exCross exCrossIn).map
      (·.map fun a => (a.nstart, a.start, a.end, a.nend, a.height)) =
    some [(800, 800, 1090, 1090, 0), (900, 900, 1050, 1050, 2),
          (800, 810, 820, 850, 4), (860, 870, 880, 900, 4), (990, 995, 1005, 1080, 4),
          (840, 845, 850, 870, 6), (880, 950, 960, 1090, 6),
          (1010, 1020, 1030, 1060, 8), (950, 1020, 1040, 1085, 10)] := by decide +kernel

/-- whole circular record `[0,1000)`: the origin-spanning protocluster covering 90 % of the
    record with its core before the origin but in the lower half (D31) is split into linked
    halves, the first carrying the core, the second an empty core at 0 -/
def exWhole : Ctx := ⟨sl 0 1000, 1000, true⟩
def exWholeIn : RegionIn :=
  { subregions := [],
    candidates := [⟨xl 300 1000 200, .cand, sl 350 400, true, "CC 1"⟩, ⟨sl 0 1000, .cand, sl 500 600, true, "CC 2"⟩],
    protos := [⟨xl 300 1000 200, .proto, sl 350 400, false, "a"⟩, ⟨sl 0 1000, .proto, sl 500 600, false, "b"⟩] }

example : inputOK exWhole exWholeIn = true := by decide +kernel
example : (buildAreaRows exWhole exWholeIn).map
      (·.map fun a => ((a.nstart, a.start, a.end, a.nend), (a.height, a.group))) =
    some [((300, 350, 400, 1000), (1, 1)), ((0, 0, 0, 200), (1, 1)), ((0, 500, 600, 1000), (3, 0))] := by
  decide +kernel

/-- genes: before the origin, across it (forward and reverse), after it; and split in a
    whole-record region -/
def exGenes : List GeneView :=
  [⟨960, 980, false, false, -1⟩, ⟨990, 12, true, false, 1⟩, ⟨985, 7, true, false, -1⟩, ⟨10, 40, false, true, 1⟩]
example : regionOK exCross = true ∧ exGenes.all (viewOK exCross) = true := by decide +kernel
example : (convertCds exCross exGenes).map (fun o => (o.start, o.end, o.strand)) =
    [(961, 980, -1), (991, 1012, 1), (986, 1007, -1), (1011, 1040, 1)] := by decide +kernel
example : (convertCds exWhole [⟨990, 12, true, true, 1⟩, ⟨985, 7, true, true, -1⟩]).map
      (fun o => ((o.start, o.end, o.strand), (o.split, o.group))) =
    [((991, 1000, 0), (false, 1)), ((1, 12, 1), (true, 1)), ((986, 1000, -1), (false, 2)),
     ((1, 7, 0), (true, 2))] := by
  decide +kernel

/-- a detected T1PKS protocluster, a sideloaded annotation of it on the same coordinates (other
    core), and an NRPS one; the T1PKS pair is shared by two candidate clusters.  All three are
    delivered (the shared ones once) and drawn. -/
def exTwins : List Cand :=
  let det : PObj := ⟨0, ⟨sl 500 1500, .proto, sl 800 1200, false, "T1PKS"⟩⟩
  let side : PObj := ⟨1, ⟨sl 500 1500, .proto, sl 900 1100, false, "T1PKS"⟩⟩
  let other : PObj := ⟨2, ⟨sl 1300 2200, .proto, sl 1600 1900, false, "NRPS"⟩⟩
  [⟨⟨sl 500 2200, .cand, sl 800 1900, false, "CC 1"⟩, [det, side, other]⟩,
   ⟨⟨sl 500 1500, .cand, sl 800 1200, false, "CC 2"⟩, [det, side]⟩,
   ⟨⟨sl 1300 2200, .cand, sl 1600 1900, true, "CC 3"⟩, [other]⟩]
def exTwinsCtx : Ctx := ⟨sl 500 2200, 3000, false⟩

example : idsConsistent (exTwins.flatMap (·.members)) = true ∧
    inputOK exTwinsCtx (regionSpecIn [] exTwins) = true := by decide +kernel
example : (uniqueProtoclusters exTwinsCtx exTwins).map (·.id) = [0, 1, 2] := by decide +kernel
example : ((buildRegion exTwinsCtx [] exTwins).map
      (·.map fun a => (a.kind, a.start, a.end, a.height))) =
    some [(.cand, 500, 2200, 0), (.cand, 500, 1500, 2),
          (.proto, 800, 1200, 4), (.proto, 900, 1100, 6), (.proto, 1600, 1900, 8)] := by decide +kernel

/-- genes as locations: forward and reverse genes over the origin, a two-exon reverse gene -/
def exGeneLocs : List Loc :=
  [.simple ⟨960, 980, .rev⟩, .compound [⟨990, 1000, .fwd⟩, ⟨0, 12, .fwd⟩],
   .compound [⟨0, 7, .rev⟩, ⟨985, 1000, .rev⟩], .compound [⟨30, 40, .rev⟩, ⟨10, 20, .rev⟩]]
example : exGeneLocs.all (geneOK exCross) = true ∧ exGeneLocs.all (geneOK exWhole) = true := by decide +kernel
example : exGeneLocs.map (geneView exCross) =
    [⟨960, 980, false, false, -1⟩, ⟨990, 12, true, false, 1⟩, ⟨985, 7, true, false, -1⟩,
     ⟨10, 40, false, true, -1⟩] := by decide +kernel

/-- a region that spans the origin *and* tiles the record, `[700,1000) + [0,700)`: the
    origin-spanning protocluster and candidate continue past 1000, nothing is split; and a child
    that itself tiles the record from 600 back to 600 (D70-C19) -/
def exTile : Ctx := ⟨xl 700 1000 700, 1000, true⟩
def exTileIn : RegionIn :=
  { subregions := [⟨sl 150 700, .sub, default, false, "s"⟩],
    candidates := [⟨xl 700 1000 200, .cand, xl 900 1000 50, true, "CC 1"⟩],
    protos := [⟨xl 700 1000 200, .proto, xl 900 1000 50, false, "a"⟩] }
example : inputOK exTile exTileIn = true ∧ exTile.regionCrosses = true := by decide +kernel
example : (buildAreaRows exTile exTileIn).map
      (·.map fun a => ((a.nstart, a.start, a.end, a.nend), (a.height, a.group))) =
    some [((700, 700, 1200, 1200), (0, 0)), ((1150, 1150, 1700, 1700), (2, 0)),
          ((700, 900, 1050, 1200), (4, 0))] := by decide +kernel
example : inputOK ⟨xl 600 1000 600, 1000, true⟩ ⟨[⟨xl 600 1000 600, .sub, default, false, "x"⟩], [], []⟩ = true ∧
    (buildAreaRows ⟨xl 600 1000 600, 1000, true⟩ ⟨[⟨xl 600 1000 600, .sub, default, false, "x"⟩], [], []⟩).map
      (·.map fun a => (a.nstart, a.nend, a.group)) = some [(600, 1600, 0)] := by decide +kernel

/-- a protocluster whose core tiles the record from 600 back to 600, in the origin-spanning region
    `[600,1000) + [0,600)` and in the whole-record region: the core is drawn in full (D72-C19) -/
example : inputOK ⟨xl 600 1000 600, 1000, true⟩
      ⟨[], [⟨xl 600 1000 600, .cand, xl 600 1000 600, true, "CC"⟩], [⟨xl 600 1000 600, .proto, xl 600 1000 600, false, "a"⟩]⟩ = true ∧
    (buildAreaRows ⟨xl 600 1000 600, 1000, true⟩
      ⟨[], [⟨xl 600 1000 600, .cand, xl 600 1000 600, true, "CC"⟩], [⟨xl 600 1000 600, .proto, xl 600 1000 600, false, "a"⟩]⟩).map
      (·.map fun a => (a.nstart, a.start, a.end, a.nend)) = some [(600, 600, 1600, 1600)] := by decide +kernel
example : (buildAreaRows exWhole
      ⟨[⟨sl 0 1000, .sub, default, false, "y"⟩], [], [⟨xl 600 1000 600, .proto, xl 600 1000 600, false, "a"⟩]⟩).map
      (·.map fun a => ((a.nstart, a.start, a.end, a.nend), a.group)) =
    some [((0, 0, 1000, 1000), 0), ((600, 600, 1000, 1000), 2), ((0, 0, 600, 600), 2)] := by decide +kernel

/-- the constructors accept `[800,1000) + [0,900)` (halves overlapping on 800..900: only equal
    *ends* count as overlapping exons), which is not well-formed; and refuse what they check -/
example : collectionInit (xl 800 1000 900) = .ok ∧ collOK 1000 (xl 800 1000 900) = false ∧
    collectionInit (xl 800 1000 90) = .ok ∧ collOK 1000 (xl 800 1000 90) = true ∧
    collectionInit (.compound [⟨800, 1000, .fwd⟩, ⟨5, 90, .fwd⟩]) = .valueError ∧
    collectionInit (.compound [⟨800, 1000, .rev⟩, ⟨0, 90, .rev⟩]) = .valueError ∧
    collectionInit (.compound [⟨800, 1000, .fwd⟩, ⟨0, 90, .rev⟩]) = .assertion ∧
    collectionInit (.simple ⟨-1, 5, .fwd⟩) = .valueError := by decide +kernel

end ASV.C19
