/-
  C06 — Regions are the disjoint connected components of overlapping areas; numbering; parent links.
  Property theorems only; helper lemmas in ASV/Proofs/{SweepRegions,RegionsSort,RegionsLine,
  RegionsComponents,…}.lean.  Model: ASV/Model/Regions.lean; spec: ASV/Spec/Components.lean.
-/
import ASV.Proofs.RegionsComponents
import ASV.Proofs.RegionsInv
import ASV.Proofs.RegionsOrder
import ASV.Proofs.RegionsHeld
import ASV.Proofs.RegionsReload
import ASV.Proofs.RegionsRing
import ASV.Proofs.RegionsRingShort
import ASV.Proofs.RegionsGiven
import ASV.Proofs.RegionsRingOne
import ASV.Proofs.RegionsRingNear
import ASV.Proofs.RegionsRingUnion
import ASV.Proofs.RegionsRingOrder
import ASV.Proofs.RegionsRingInit
namespace ASV.C06
open ASV ASV.Regions ASV.Components

/-! ### regions are the connected components (linear records) -/

/-- On a linear record whose candidate clusters and subregions are non-empty single spans inside the
    record (any number, any arrangement: disjoint, nested, chained, touching, covering everything),
    `create_regions` **succeeds**, leaves the areas untouched and adds one region per connected
    component of the "share a base" relation:
    * `IsComponents`: every area lies in exactly one group, the members of a group are linked by
      chains of overlapping areas, and no member of one group shares a base with a member of another
      (so two areas are in the same region **iff** a chain of overlapping areas links them, see
      `same_region_iff_linked`);
    * the regions are, in order, exactly one per group: location = the hull `[min start, max end)`
      of the group, children = the group's candidate clusters and subregions;
    * no two regions share a base. -/
theorem regions_are_components_linear (s : State) (h : LinearOK s) :
    ∃ (s' : State) (groups : List (List Feat)), createRegions s = .ok s' ∧
      s'.cands = s.cands ∧ s'.subs = s.subs ∧ s'.protos = s.protos ∧
      IsComponents (areasOf s) (groups.map (·.map toArea)) ∧
      s'.regions.map view = groups.map expectedRegion ∧
      s'.regions.Pairwise (fun r r' => ¬ r.loc.SharesBase r'.loc) :=
  createRegions_linear_components s h.noSpan

/-- **Circular records too**, as long as no candidate cluster or subregion spans the origin: the same
    statement, with `connect_locations` called with the record length as wrap point throughout the sweep
    (it returns the line hull for two overlapping spans: `connect_ring_overlap`, from the closed form
    `connect_ring_closed` of C04). -/
theorem regions_are_components_no_origin_span (s : State) (h : NoSpanOK s) :
    ∃ (s' : State) (groups : List (List Feat)), createRegions s = .ok s' ∧
      s'.cands = s.cands ∧ s'.subs = s.subs ∧ s'.protos = s.protos ∧
      IsComponents (areasOf s) (groups.map (·.map toArea)) ∧
      s'.regions.map view = groups.map expectedRegion ∧
      s'.regions.Pairwise (fun r r' => ¬ r.loc.SharesBase r'.loc) :=
  createRegions_linear_components s h

/-- the property's wording, for any family of groups that `IsComponents`: two areas are in the same
    group iff a chain of areas, each sharing a base with the next, links them -/
theorem same_region_iff_linked {areas : List Area} {groups : List (List Area)} (h : IsComponents areas groups)
    {a b : Area} {g : List Area} (hg : g ∈ groups) (ha : a ∈ g) : b ∈ g ↔ Linked areas a b :=
  h.same_iff_linked hg ha

/-- the generic sweep lemma (shared shape with C03): for spans sorted by start, comparing each span
    with the running hull yields groups that concatenate to the input, are separated (a closed group
    ends before any later group starts), whose hull is exact, and in which every member but the first
    overlaps an earlier member -/
theorem sweep_components_generic {α : Type} (lo hi : α → Int) (x : α) (xs : List α)
    (hsorted : (x :: xs).Pairwise (fun a b => lo a ≤ lo b)) (hwf : ∀ y ∈ x :: xs, lo y < hi y) :
    SweepG.GoSpec lo hi ⟨lo x, hi x, [x]⟩ xs (SweepG.sweep lo hi (x :: xs)) :=
  SweepG.sweep_spec lo hi x xs hsorted hwf

/-! ### the invariant of the bookkeeping, for every history (linear and circular records alike) -/

/-- `Inv` (see `ASV/Proofs/RegionsInv0.lean`) holds after **every** sequence of add / construct / clear /
    create operations that runs without an exception, started from an empty record of any length and
    topology with any genes.  `Inv` says: object ids are distinct; in each of the four lists
    `number x = index x + 1`; regions pairwise do not overlap; a candidate's / subregion's parent is a
    region *of the record* that lists it as a child; a protocluster's parent is a candidate cluster of the
    record (or one constructed and not yet added) that lists it; `cds.region` points at a region of the
    record that lists the gene. -/
theorem invariant_all_histories (len : Int) (circ : Bool) (cds : List Loc) (ops : List Op) (s : State)
    (h : run { len := len, circular := circ, cds := cds } ops = .ok s) : Inv s :=
  (run_steps (A := fun _ => True) ops (init_inv len circ cds) (fun _ _ _ _ => trivial) h).inv (init_inv len circ cds)

/-- one step: whatever the operation, the invariant is kept -/
theorem invariant_step (s s' : State) (op : Op) (hi : Inv s) (h : step s op = .ok s') : Inv s' :=
  (step_steps (A := fun _ => True) op hi (fun _ _ => trivial) h).inv hi

/-- numbers are 1..n in list order: the `j`-th protocluster / candidate cluster / subregion / region
    (0-based) is numbered `j + 1` -/
theorem numbers_are_positions (s : State) (hi : Inv s) (j : Nat) (f : Feat) :
    (s.protos[j]? = some f → numberOf s.numP f = some (j + 1)) ∧
    (s.cands[j]? = some f → numberOf s.numC f = some (j + 1)) ∧
    (s.subs[j]? = some f → numberOf s.numS f = some (j + 1)) ∧
    (s.regions[j]? = some f → numberOf s.numR f = some (j + 1)) :=
  ⟨hi.numP j f, hi.numC j f, hi.numS j f, hi.numR j f⟩

/-- the number shown on a feature identifies that same feature: `get_X(get_X_number(x)) is x` -/
theorem number_identifies_feature (s : State) (hi : Inv s) (f : Feat) (n : Nat) :
    (f ∈ s.protos → numberOf s.numP f = some n → 1 ≤ n ∧ s.protos[n - 1]? = some f) ∧
    (f ∈ s.cands → numberOf s.numC f = some n → 1 ≤ n ∧ s.cands[n - 1]? = some f) ∧
    (f ∈ s.subs → numberOf s.numS f = some n → 1 ≤ n ∧ s.subs[n - 1]? = some f) ∧
    (f ∈ s.regions → numberOf s.numR f = some n → 1 ≤ n ∧ s.regions[n - 1]? = some f) :=
  ⟨fun hf hn => numbered_lookup hi.numP hf hn, fun hf hn => numbered_lookup hi.numC hf hn,
    fun hf hn => numbered_lookup hi.numS hf hn, fun hf hn => numbered_lookup hi.numR hf hn⟩

/-- regions of the record never overlap one another — after any history, on linear and circular
    records (this relies on the D39 repair of `add_region`) -/
theorem regions_never_overlap (s : State) (hi : Inv s) :
    s.regions.Pairwise (fun r r' => locationsOverlap r.loc r'.loc = false) := hi.disjointR

/-- no stale links, after any history: a parent link of a candidate cluster / subregion names a
    region of the record holding it, a protocluster's names a constructed candidate cluster holding
    it, a gene's `region` names a region of the record holding the gene -/
theorem no_stale_links (s : State) (hi : Inv s) :
    (∀ f ∈ s.cands ++ s.subs, ∀ p, s.parentOf f.id = some p → ∃ r ∈ s.regions, r.id = p ∧ f.id ∈ r.kids ++ r.subs) ∧
    (∀ f ∈ s.protos, ∀ c, s.parentOf f.id = some c → ∃ c' ∈ s.cands ++ s.pool, c'.id = c ∧ f.id ∈ c'.kids) ∧
    (∀ i p, s.regionOfCds i = some p → ∃ r ∈ s.regions, r.id = p ∧ i ∈ r.cdses) :=
  ⟨hi.parentA, hi.parentP, hi.cdsLink⟩

/-! ### no stale parent link on any object, held references included -/

/-- After **every** history (adds, constructions, `create_regions()` and `create_regions(candidate_clusters=[…],
    subregions=[…])` with explicitly passed lists, the four `clear_*`, in any order, linear or circular record),
    every parent link of every object that was ever constructed — whether it is still in the record's lists or
    only referenced from outside after a `clear_*` — names a region of the record that lists the object, or a
    candidate cluster (of the record, or constructed and deliberately not stored) that lists it.  No link
    points at a region or candidate cluster that is gone.  (`parentOf k` is the `_parent` slot of object `k`;
    the parent dictionary of the model is never pruned, so removed objects are covered.) -/
theorem no_stale_parent_after_any_history (len : Int) (circ : Bool) (cds : List Loc) (ops : List Op) (s : State)
    (h : run { len := len, circular := circ, cds := cds } ops = .ok s) : ParentsLive s :=
  (run_steps (A := fun _ => True) ops (init_inv len circ cds) (fun _ _ _ _ => trivial) h).live (init_inv len circ cds)
    (init_live len circ cds)

/-- one step, from any state satisfying the invariants -/
theorem no_stale_parent_step (s s' : State) (op : Op) (hi : Inv s) (hp : ParentsLive s) (h : step s op = .ok s') :
    ParentsLive s' :=
  (step_steps (A := fun _ => True) op hi (fun _ _ => trivial) h).live hi hp

/-! ### the numbers written on features identify the same features after reading the record back -/

/-- `Record.from_biopython` adds protoclusters and subregions again in the order they were written
    (`bisect_right`: after equal coordinates) and candidate clusters from the last written to the first
    (`bisect_left`: before equal coordinates).  On a linear record whose lists are in location order — which
    `numbered_in_location_order_linear` gives for every history — this reproduces each list exactly, also when
    several areas share their coordinates; with `numbers_are_positions` every feature gets the number that was
    written on it. -/
theorem reload_keeps_written_order_linear (s : State) (hl : LineSorted s) :
    readdInOrder [] s.protos = .ok s.protos ∧ readdInOrder [] s.subs = .ok s.subs ∧
    readdFromLast [] s.cands.reverse = .ok s.cands :=
  ⟨readdInOrder_same (len := s.len) [] s.protos hl.sP hl.protos,
    readdInOrder_same (len := s.len) [] s.subs hl.sS hl.subs,
    by simpa using readdFromLast_same (len := s.len) [] s.cands.reverse (by simpa using hl.sC) (by simpa using hl.cands)⟩

/-! ### numbered in location order (linear records) -/

/-- On a linear record, after **every** history whose added areas are non-empty single spans inside
    the record, each of the four lists is sorted by location — by start, the longer first on equal
    starts (`lineKey`) — so with `numbers_are_positions` the features are numbered 1..n in location
    order.  (`bisect_left` is modelled as the binary search it is, the scan of `add_region` as written;
    candidate clusters and regions get the hull `connect_locations` returns on a line.) -/
theorem numbered_in_location_order_linear (len : Int) (cds : List Loc) (ops : List Op) (s : State)
    (hops : ∀ op ∈ ops, OpLine len op)
    (h : run { len := len, circular := false, cds := cds } ops = .ok s) :
    SortedBy lkey s.protos ∧ SortedBy lkey s.cands ∧ SortedBy lkey s.subs ∧ SortedBy lkey s.regions := by
  have := (run_steps (A := LineArea len) ops (init_inv len false cds) (fun op ho => (hops op ho).loc) h).sorted
    (init_inv len false cds) (init_sorted len cds)
  exact ⟨this.sP, this.sC, this.sS, this.sR⟩

/-- the sort key of the model is the spec's "location order" key on such spans -/
theorem spec_order_key_agrees (L len : Int) (l : Loc) (h : LineArea len l) : orderKey L l = lineKey l := by
  obtain ⟨p, rfl, _⟩ := h
  simp [orderKey, firstBase, lineKey, Loc.parts]

/-  On a circular record the same statement is **false** in general (`full_record_order_witness`,
    KF-C06-full-record-order) and is not proved under the exclusion either; the executable
    `sortedByKey` check runs on every dump of the correspondence.
    `def numbered_in_location_order_ring : Prop := ∀ history on a ring without a full-record single-part
       span next to an origin-spanning one, every list is sorted by `orderKey L`` -/

/-! ### region creation, any record (circular included), when it succeeds -/

/-- Whenever `create_regions` returns on a record without regions — linear or circular, whatever
    `connect_locations` did — every candidate cluster and subregion lies in **exactly one** region
    (the regions' children, concatenated, are a rearrangement of the record's areas) and its parent
    link is the region holding it. -/
theorem create_regions_covers_each_area_once (s s' : State) (hi : Inv s) (hreg : s.regions = [])
    (h : createRegions s = .ok s') : RegionsCoverAreas s' :=
  createRegions_covers hi hreg h

/-- `clear_protoclusters / clear_candidate_clusters / clear_subregions` on a record with regions leave
    no stale parent links: the regions are re-created for the remaining areas, each remaining area lies
    in exactly one of them and points at it -/
theorem clear_then_create_no_stale_links (s s' : State) (op : Op)
    (hop : op = .clearProtos ∨ op = .clearCands ∨ op = .clearSubs)
    (hi : Inv s) (hreg : s.regions ≠ []) (h : step s op = .ok s') : RegionsCoverAreas s' ∧ Inv s' :=
  ⟨clear_recreates op hop hi hreg h, (step_steps (A := fun _ => True) op hi (fun _ _ => trivial) h).inv hi⟩

/-- … and `clear_regions` resets every parent link of an area and every gene's region -/
theorem clear_regions_resets_links (s : State) (hi : Inv s) :
    (∀ f ∈ s.cands ++ s.subs, (clearRegions s).parentOf f.id = none) ∧
    (∀ i, (clearRegions s).regionOfCds i = none) := by
  have hi' := clearRegions_inv hi
  constructor
  · intro f hf
    cases hp : (clearRegions s).parentOf f.id with
    | none => rfl
    | some p =>
      obtain ⟨r, hr, _⟩ := hi'.parentA f hf p hp
      simp [clearRegions] at hr
  · intro i
    cases hp : (clearRegions s).regionOfCds i with
    | none => rfl
    | some p =>
      obtain ⟨r, hr, _⟩ := hi'.cdsLink i p hp
      simp [clearRegions] at hr

/-- **Circular record, origin-spanning areas included**: whenever `create_regions` returns on a region-less
    record whose candidate clusters and subregions are well-formed spans of the ring (`RingArea`: a single part
    inside the record, or `[x, L) + [0, y)` with `0 < y ≤ x < L`), two areas linked by a chain of overlapping areas
    — around the origin too — are in the same region: no connected component is split over two regions.
    Together with `create_regions_covers_each_area_once` (each area in exactly one region) and
    `regions_never_overlap`, every region is a union of whole components.  Ingredients: the region covers every
    base of its children (`connect_ring_closed`, `connR_covers`, `connR_wf` of C04 with the wrap point
    `Region.__init__` infers, `regionWrap_ring`), and `add_region` refuses overlapping regions. -/
theorem ring_components_never_split (s s' : State) (hL : 0 < s.len) (hi : Inv s) (hreg : s.regions = [])
    (hring : ∀ f ∈ s.cands ++ s.subs, RingArea s.len f.loc) (h : createRegions s = .ok s')
    (a b : Feat) (ha : a ∈ s.cands ++ s.subs) (hl : Linked (areasOf s) (toArea a) (toArea b)) :
    ∀ r ∈ s'.regions, a.id ∈ memberIds r → b.id ∈ memberIds r :=
  ring_components_not_split s s' hL hi hreg hring h a b ha hl

/-- **Circular record**: after `create_regions`, a region that lists an origin-spanning area is the **shortest
    covering arc** of the areas it lists — it is no longer than, and lies inside, every well-formed span `c` that
    covers them, whenever such a span shorter than half the record exists (`connect_ring_shortest` of C04 applied
    to `Region.__init__`, whose inferred wrap point is the record length); a region listing no origin-spanning
    area is the line hull of the areas it lists. -/
theorem ring_region_is_shortest_cover (s s' : State) (hL : 0 < s.len) (hi : Inv s) (hreg : s.regions = [])
    (hring : ∀ f ∈ s.cands ++ s.subs, RingArea s.len f.loc) (h : createRegions s = .ok s') :
    RegionsShortest s.len s' :=
  createRegions_shortest s s' hL hi hreg hring h

/-- **Circular record with origin-spanning areas — a region lists only one component** (`_partial`).
    Hypothesis `ArcUnions`: the union of every family of areas grown by joining overlapping families is a
    well-formed span of the ring shorter than half the record (the set-of-bases reading of "every component is
    shorter than half the record"; it is not derived here from the executable `halfRecordComponent = false`).
    Conditional on `create_regions` returning (success on such rings is still open).  Then any two areas a region
    lists are linked by a chain of overlapping areas: the sweep's running location is always exactly the union of
    the section's members (`connect_ring_exact`, from `connect_ring_closed` / `connR_covers` / `connR_shortest` of
    C04), an area joins a section only if it shares a base with that union, and the first/last merge joins two
    sections only if their unions share a base. -/
theorem ring_region_lists_one_component_partial (s s' : State) (hcirc : s.circular = true) (hL : 0 < s.len)
    (hi : Inv s) (hreg : s.regions = []) (hring : ∀ f ∈ s.cands ++ s.subs, RingArea s.len f.loc)
    (harc : ArcUnions s.len (s.cands ++ s.subs)) (h : createRegions s = .ok s') :
    ∀ r ∈ s'.regions, ∀ a ∈ s.cands ++ s.subs, ∀ b ∈ s.cands ++ s.subs,
      a.id ∈ memberIds r → b.id ∈ memberIds r → Linked (areasOf s) (toArea a) (toArea b) :=
  ring_region_one_component s s' hcirc hL hi hreg hring harc h

/-- … hence, with `ring_components_never_split`: under the same hypotheses two areas of the record are listed by
    the same region **iff** a chain of overlapping areas links them — the regions' member sets are exactly the
    connected components, around the origin too. -/
theorem ring_same_region_iff_linked_partial (s s' : State) (hcirc : s.circular = true) (hL : 0 < s.len)
    (hi : Inv s) (hreg : s.regions = []) (hring : ∀ f ∈ s.cands ++ s.subs, RingArea s.len f.loc)
    (harc : ArcUnions s.len (s.cands ++ s.subs)) (h : createRegions s = .ok s')
    (a b : Feat) (ha : a ∈ s.cands ++ s.subs) (hb : b ∈ s.cands ++ s.subs)
    (r : Feat) (hr : r ∈ s'.regions) (hma : a.id ∈ memberIds r) :
    b.id ∈ memberIds r ↔ Linked (areasOf s) (toArea a) (toArea b) :=
  ⟨fun hmb => ring_region_one_component s s' hcirc hL hi hreg hring harc h r hr a ha b hb hma hmb,
   fun hl => ring_components_not_split s s' hL hi hreg hring h a b ha hl r hr hma⟩

/-- **Around the origin, no extra hypothesis on unions**: on a circular record of length `L` whose candidate
    clusters and subregions all lie within `W` bases of the origin, `4 W < L` — single spans ending before `W`,
    single spans starting after `L - W`, and origin-spanning spans `[x, L) + [0, y)` with `L - W ≤ x`, `y ≤ W`, any
    number of them, overlapping in any way — whenever `create_regions` returns, two areas are listed by the same
    region **iff** a chain of overlapping areas links them (`ArcUnions` is proved for such layouts:
    `arcUnions_near_origin`, unions of joined families are intervals in coordinates unrolled at the origin).
    This widens `regions_are_components_no_origin_span` to layouts with any number of origin-spanning areas, up
    to success of the call. -/
theorem ring_regions_are_components_near_origin (s s' : State) (W : Int) (hcirc : s.circular = true)
    (hW : 0 < W) (hWL : 4 * W < s.len) (hi : Inv s) (hreg : s.regions = [])
    (hnear : ∀ f ∈ s.cands ++ s.subs, NearOrigin W s.len f.loc) (h : createRegions s = .ok s')
    (a b : Feat) (ha : a ∈ s.cands ++ s.subs) (hb : b ∈ s.cands ++ s.subs)
    (r : Feat) (hr : r ∈ s'.regions) (hma : a.id ∈ memberIds r) :
    b.id ∈ memberIds r ↔ Linked (areasOf s) (toArea a) (toArea b) :=
  ring_same_region_iff_linked_partial s s' hcirc (by omega) hi hreg
    (fun f hf => (hnear f hf).ringArea hW hWL) (arcUnions_near_origin hW hWL hnear) h a b ha hb r hr hma

/-- non-vacuity: ring of 1000, `W = 100`: subregions join{[950,1000),[0,30)}, [20,60), [900,960), [70,90) and a
    second origin-spanning one join{[990,1000),[0,10)}: all near the origin; `create_regions` returns two regions,
    join{[900,1000),[0,60)} holding four of them and [70,90) -/
def nearDemo : State :=
  { len := 1000, circular := true,
    subs := [⟨0, .sub, areaTwo 950 30 1000 .fwd, [], [], []⟩, ⟨4, .sub, areaTwo 990 10 1000 .fwd, [], [], []⟩,
             ⟨1, .sub, .simple ⟨20, 60, .fwd⟩, [], [], []⟩, ⟨3, .sub, .simple ⟨70, 90, .fwd⟩, [], [], []⟩,
             ⟨2, .sub, .simple ⟨900, 960, .fwd⟩, [], [], []⟩], nextId := 5 }

example : ∀ f ∈ nearDemo.cands ++ nearDemo.subs, NearOrigin 100 nearDemo.len f.loc := by
  intro f hf
  simp only [nearDemo, List.nil_append, List.mem_cons, List.not_mem_nil, or_false] at hf
  rcases hf with rfl | rfl | rfl | rfl | rfl
  · exact Or.inr (Or.inr ⟨950, 30, rfl, by decide, by decide, by decide, by decide⟩)
  · exact Or.inr (Or.inr ⟨990, 10, rfl, by decide, by decide, by decide, by decide⟩)
  · exact Or.inl ⟨_, rfl, by decide, by decide, by decide⟩
  · exact Or.inl ⟨_, rfl, by decide, by decide, by decide⟩
  · exact Or.inr (Or.inl ⟨_, rfl, by decide, by decide, by decide⟩)

example : (createRegions nearDemo).toOption.map (fun s => s.regions.map view) =
    some [(.compound [⟨900, 1000, .fwd⟩, ⟨0, 60, .fwd⟩], [], [0, 4, 1, 2]), (.simple ⟨70, 90, .fwd⟩, [], [3])] := by
  decide +kernel

/-- **Region location on a ring = exactly the union of its members** (`_partial`: hypothesis `ArcUnions`,
    conditional on `create_regions` returning): base `i` lies in a region's location iff it lies in one of the areas
    the region lists — not merely "shortest covering arc".  With an origin-spanning member this is
    `connect_ring_exact` applied to `Region.__init__`'s own `connect_locations` call (wrap point = record length,
    `regionWrap_ring`); without one the location is the line hull, which is the union because the members were
    grown by joining overlapping families (`joined_line_union`). -/
theorem ring_region_location_is_union_partial (s s' : State) (hcirc : s.circular = true) (hL : 0 < s.len)
    (hi : Inv s) (hreg : s.regions = []) (hring : ∀ f ∈ s.cands ++ s.subs, RingArea s.len f.loc)
    (harc : ArcUnions s.len (s.cands ++ s.subs)) (h : createRegions s = .ok s') :
    ∀ r ∈ s'.regions, ∀ i, r.loc.mem i = true ↔
      ∃ f ∈ s.cands ++ s.subs, f.id ∈ memberIds r ∧ f.loc.mem i = true :=
  ring_region_union s s' hcirc hL hi hreg hring harc h

/-- … without the hypothesis on unions for layouts in the near-origin window (`4 W < L`) -/
theorem ring_region_location_is_union_near_origin (s s' : State) (W : Int) (hcirc : s.circular = true)
    (hW : 0 < W) (hWL : 4 * W < s.len) (hi : Inv s) (hreg : s.regions = [])
    (hnear : ∀ f ∈ s.cands ++ s.subs, NearOrigin W s.len f.loc) (h : createRegions s = .ok s') :
    ∀ r ∈ s'.regions, ∀ i, r.loc.mem i = true ↔
      ∃ f ∈ s.cands ++ s.subs, f.id ∈ memberIds r ∧ f.loc.mem i = true :=
  ring_region_union s s' hcirc (by omega) hi hreg (fun f hf => (hnear f hf).ringArea hW hWL)
    (arcUnions_near_origin hW hWL hnear) h

/-- **The comparison of areas on a ring** (first of the three pieces missing for success of `create_regions` with
    origin-spanning areas): for well-formed areas of a ring — single parts inside the record and origin-spanning
    `[x, L) + [0, y)` — `CDSCollection.__lt__` never raises (`split_origin_bridging_location` succeeds) and is
    exactly the strict lexicographic order of the spec's `orderKey` (first base going round from the origin, an
    origin-spanning area starting before it; longer first), **unless** the left operand is a single part covering
    the whole record — the recorded class `KF-C06-full-record-order`, for which `full_record_order_witness` shows
    the statement false. -/
theorem collectionLt_is_key_order_on_ring_areas (L : Int) (a b : Loc) (ha : RingArea L a) (hb : RingArea L b)
    (hfull : ∀ p, a = .simple p → ¬ (p.lo = 0 ∧ p.hi = L)) :
    collectionLt a b = .ok (keyLt (orderKey L a) (orderKey L b)) :=
  collectionLt_ring ha hb hfull

/-- … so `areas.sort()` of `create_regions` never raises on such areas and is the stable insertion sort by that key -/
theorem ring_sort_succeeds (L : Int) (l : List Feat) (hring : ∀ f ∈ l, RingArea L f.loc)
    (hfull : ∀ f ∈ l, ∀ p, f.loc = .simple p → ¬ (p.lo = 0 ∧ p.hi = L)) :
    sortAreas l = .ok (sortP (fun y x => keyLt (orderKey L y.loc) (orderKey L x.loc)) l) :=
  sortAreas_eq _ l (fun x hx y hy => collectionLt_ring (hring y hy) (hring x hx) (hfull y hy))

/-- non-vacuity: an origin-spanning area sorts before a single part, the longer origin-spanning one first -/
example : (collectionLt (areaTwo 950 30 1000 .fwd) (.simple ⟨20, 60, .fwd⟩)).toOption = some true ∧
    (collectionLt (areaTwo 950 30 1000 .fwd) (areaTwo 990 10 1000 .fwd)).toOption = some true ∧
    RingArea 1000 (areaTwo 950 30 1000 .fwd) ∧ RingArea 1000 (.simple ⟨20, 60, .fwd⟩) := by
  refine ⟨by decide +kernel, by decide +kernel, Or.inr ⟨950, 30, rfl, by decide, by decide, by decide⟩,
    Or.inl ⟨_, rfl, by decide, by decide, by decide⟩⟩

/-- **The containment check of the `parent` setter on a ring** (second of the pieces missing for success): a
    well-formed area all of whose bases lie in a well-formed span that does not cover the whole record is contained
    in it part by part — `location_contains_other(region, child)` holds, also when the region has two parts
    (`[a, L) + [0, b)`): a single-part child cannot straddle the gap, an origin-spanning child has `a ≤ x`, `y ≤ b`. -/
theorem parent_check_passes_on_ring (L : Int) (r child : Loc) (hr : RingArea L r) (hc : RingArea L child)
    (hsub : ∀ i, child.mem i = true → r.mem i = true) (hmiss : ∃ i, 0 ≤ i ∧ i < L ∧ r.mem i = false) :
    locationContainsOther r child = true :=
  parent_check_passes hr hc hsub hmiss

/-- **`Region(candidates, subregions)` never raises on a ring** (`_partial`: hypothesis `ArcUnions`) for the areas of
    a family grown by joining overlapping families — what every section of `create_regions` is (`SecOK.joined`):
    the wrap point is inferred, `connect_locations` returns, the `CDSCollection` / `Feature` constructor checks pass,
    the `parent` setter accepts every child, and the region's location has exactly the children's bases.
    Remaining for success of `create_regions` itself: `add_region`'s overlap rejection must not fire, i.e. sections
    of different components have disjoint locations (not proved). -/
theorem region_constructor_succeeds_on_ring_partial (L : Int) (hL : 0 < L) (all : List Feat)
    (hring : ∀ f ∈ all, RingArea L f.loc) (harc : ArcUnions L all) (s : State) (cands subs fam : List Feat)
    (hj : Joined all fam) (hmem : ∀ f, f ∈ subs ++ cands ↔ f ∈ fam) :
    ∃ s1 r, mkRegion s cands subs = .ok (s1, r) ∧ RingArea L r.loc ∧
      ∀ i, r.loc.mem i = true ↔ ∃ f ∈ fam, f.loc.mem i = true :=
  mkRegion_ring_ok hL hring harc s cands subs fam hj hmem

/-- … without the hypothesis on unions in the near-origin window -/
theorem region_constructor_succeeds_near_origin (W L : Int) (hW : 0 < W) (hWL : 4 * W < L) (all : List Feat)
    (hnear : ∀ f ∈ all, NearOrigin W L f.loc) (s : State) (cands subs fam : List Feat)
    (hj : Joined all fam) (hmem : ∀ f, f ∈ subs ++ cands ↔ f ∈ fam) :
    ∃ s1 r, mkRegion s cands subs = .ok (s1, r) ∧ RingArea L r.loc ∧
      ∀ i, r.loc.mem i = true ↔ ∃ f ∈ fam, f.loc.mem i = true :=
  mkRegion_ring_ok (by omega) (fun f hf => (hnear f hf).ringArea hW hWL) (arcUnions_near_origin hW hWL hnear)
    s cands subs fam hj hmem

/-- non-vacuity: children of the two-part region of `nearDemo` pass the setter's check; a child straddling the gap
    of a span covering the whole record would not -/
example : locationContainsOther (areaTwo 900 60 1000 .fwd) (.simple ⟨20, 60, .fwd⟩) = true ∧
    locationContainsOther (areaTwo 900 60 1000 .fwd) (areaTwo 950 30 1000 .fwd) = true ∧
    locationContainsOther (areaTwo 500 500 1000 .fwd) (.simple ⟨400, 600, .fwd⟩) = false := by decide +kernel

/-- **Forming the sections never raises on a ring** (`_partial`: hypothesis `ArcUnions`; no single part covering the
    whole record = outside `KF-C06-full-record-order`): for well-formed areas of a circular record, `areas.sort()`,
    the sweep — every `connect_locations([area, location], wrap_point=L)` call — and the first/last merge loop of
    `create_regions` all return; every section is a family of linked areas grown by joining overlapping families,
    located exactly at the union of its members, and the sections hold every area exactly once.  With
    `region_constructor_succeeds_on_ring_partial` the only step of `create_regions` not shown to return is
    `add_region`'s overlap rejection (sections of different components must have disjoint locations). -/
theorem ring_sections_succeed_partial (L : Int) (hL : 0 < L) (cands subs : List Feat)
    (hring : ∀ f ∈ cands ++ subs, RingArea L f.loc)
    (hfull : ∀ f ∈ cands ++ subs, ∀ p, f.loc = .simple p → ¬ (p.lo = 0 ∧ p.hi = L))
    (harc : ArcUnions L (cands ++ subs)) (hnd : (ids (cands ++ subs)).Nodup) :
    ∃ secs, sectionsOf (some L) cands subs = .ok secs ∧ (∀ sec ∈ secs, SecOK L (cands ++ subs) sec) ∧
      ((secs.map (·.2)).flatten).Perm (cands ++ subs) :=
  sectionsOf_total hL hring hfull harc hnd

/-- … in the near-origin window (`4 W < L`) without any hypothesis on unions or on full-record parts -/
theorem ring_sections_succeed_near_origin (W L : Int) (hW : 0 < W) (hWL : 4 * W < L) (cands subs : List Feat)
    (hnear : ∀ f ∈ cands ++ subs, NearOrigin W L f.loc) (hnd : (ids (cands ++ subs)).Nodup) :
    ∃ secs, sectionsOf (some L) cands subs = .ok secs ∧ (∀ sec ∈ secs, SecOK L (cands ++ subs) sec) ∧
      ((secs.map (·.2)).flatten).Perm (cands ++ subs) := by
  refine sectionsOf_total (by omega) (fun f hf => (hnear f hf).ringArea hW hWL) ?_ (arcUnions_near_origin hW hWL hnear) hnd
  intro f hf p hp
  rcases hnear f hf with ⟨q, hq, _, _, h3⟩ | ⟨q, hq, h1, _, _⟩ | ⟨x, y, hxy, _⟩
  · rw [hp] at hq; cases hq; omega
  · rw [hp] at hq; cases hq; omega
  · rw [hp] at hxy; simp [areaTwo] at hxy

/-- non-vacuity: the sections of `nearDemo` (two origin-spanning and three single-part subregions near the origin) -/
example : (sectionsOf (some 1000) nearDemo.cands nearDemo.subs).toOption.map (fun secs => secs.map (fun x => (x.1, x.2.map (·.id)))) =
    some [(.compound [⟨900, 1000, .fwd⟩, ⟨0, 60, .fwd⟩], [0, 4, 1, 2]), (.simple ⟨70, 90, .fwd⟩, [3])] := by
  decide +kernel

/-! ### `create_regions(candidate_clusters=…, subregions=…)`: regions are built from exactly the given areas -/

/-- On a record without regions, linear or circular, whatever the locations: after
    `create_regions(candidate_clusters=cs, subregions=ss)` the regions' children, concatenated, are a rearrangement
    of exactly the ids that were passed — an area of the record that was not passed is in no region (also when one
    of the two lists is explicitly EMPTY: it is not replaced by the record's own areas), every passed area is in
    exactly one. -/
theorem explicit_lists_regions_hold_exactly_the_given_areas (s s' : State) (cs ss : List Nat) (hreg : s.regions = [])
    (h : step s (.createRegionsWith cs ss) = .ok s') :
    ((s'.regions.map memberIds).flatten).Perm (cs ++ ss) :=
  createRegionsWith_members_given hreg h

/-- … and (given areas = non-empty single spans inside the record, none spanning the origin; linear or circular
    record) the call **succeeds** and the regions are the connected components of the GIVEN areas only: two given
    candidate clusters with no chain of given areas between them stay in two regions even if a subregion of the
    record bridges them.  (`createRegionsOf s cands subs` is the body of the op; `createRegionsOf_eq`: it behaves
    like `create_regions()` on a record holding just those areas.) -/
theorem explicit_lists_regions_are_components_of_the_given_areas (s : State) (cands subs : List Feat)
    (hreg : s.regions = []) (hareas : ∀ f ∈ cands ++ subs, LineArea s.len f.loc) :
    ∃ (s' : State) (groups : List (List Feat)), createRegionsOf s cands subs = .ok s' ∧
      IsComponents ((cands ++ subs).map toArea) (groups.map (·.map toArea)) ∧
      s'.regions.map view = groups.map expectedRegion ∧
      s'.regions.Pairwise (fun r r' => ¬ r.loc.SharesBase r'.loc) :=
  createRegionsOf_components s cands subs hreg hareas

/-- non-vacuity, the seeded layout: candidate clusters [100,200) and [300,400) given with `subregions=[]` while the
    record holds the bridging subregion [150,350): two regions, the subregion in neither -/
example :
    (step { len := 1000, circular := false,
            cands := [⟨3, .cand, .simple ⟨100, 200, .fwd⟩, [0], [], []⟩, ⟨4, .cand, .simple ⟨300, 400, .fwd⟩, [1], [], []⟩],
            subs := [⟨2, .sub, .simple ⟨150, 350, .fwd⟩, [], [], []⟩], nextId := 5 }
        (.createRegionsWith [3, 4] [])).toOption.map (fun s => s.regions.map view) =
      some [(.simple ⟨100, 200, .fwd⟩, [3], []), (.simple ⟨300, 400, .fwd⟩, [4], [])] := by
  decide +kernel

/-! ### what is *not* proved for circular records (left to the executable spec + correspondence)

  `def regions_are_components_ring : Prop :=
     ∀ s, RingOK s → ¬ halfRecordComponent … → ¬ fullRecordClash … →
       ∃ s' groups, createRegions s = .ok s' ∧ IsComponents (areasOf s) groups ∧ (one region per group)`
  for records **with** origin-spanning areas: proved are the case without origin-spanning areas
  (`regions_are_components_no_origin_span`, full statement incl. success) and, with them, the direction
  "components are never split" (`ring_components_never_split`) and "a region is the shortest covering arc of
  what it lists" (`ring_region_is_shortest_cover`) and "a region lists only one component"
  (`ring_region_lists_one_component_partial`, hypothesis `ArcUnions`); open are success of `create_regions`
  (sections of different components must be shown disjoint: the separation half of the sweep in unrolled
  coordinates) and deriving `ArcUnions` from
  `halfRecordComponent = false`; the component statement is
  **false** without the two exclusions (witnesses below, `KF-C06-half-record-component`,
  `KF-C06-full-record-order`).  What holds on a ring without any hypothesis is stated above:
  `create_regions_covers_each_area_once`, `regions_never_overlap`, `invariant_all_histories`. -/

/-- negation witness (KF-C06-half-record-component): ring of 12, subregions [4,6), join{[4,12),[0,2)},
    [2,3): one region [0,12) swallowing all three although [2,3) shares no base with the others -/
def halfWitness : State :=
  { len := 12, circular := true,
    subs := [⟨1, .sub, .compound [⟨4, 12, .fwd⟩, ⟨0, 2, .fwd⟩], [], [], []⟩,
             ⟨2, .sub, .simple ⟨2, 3, .fwd⟩, [], [], []⟩, ⟨0, .sub, .simple ⟨4, 6, .fwd⟩, [], [], []⟩] }

theorem half_record_component_witness :
    (createRegions halfWitness).toOption.map (fun s => s.regions.map view) =
      some [(.simple ⟨0, 12, .fwd⟩, [], [1, 0, 2])] ∧
    halfRecordComponent 12 (areasOf halfWitness) = true ∧
    classIds (areasOf halfWitness) = [[0, 1], [2]] := by
  decide +kernel

/-- negation witness (KF-C06-full-record-order): on a ring the comparison of [0,12) and
    join{[4,12),[0,4)} holds in both directions -/
theorem full_record_order_witness :
    (collectionLt (.simple ⟨0, 12, .fwd⟩) (.compound [⟨4, 12, .fwd⟩, ⟨0, 4, .fwd⟩])).toOption = some true ∧
    (collectionLt (.compound [⟨4, 12, .fwd⟩, ⟨0, 4, .fwd⟩]) (.simple ⟨0, 12, .fwd⟩)).toOption = some true ∧
    fullRecordClash 12 [.simple ⟨0, 12, .fwd⟩, .compound [⟨4, 12, .fwd⟩, ⟨0, 4, .fwd⟩]] = true := by
  decide +kernel

/-! ### non-vacuity -/

/-- three subregions and a candidate cluster on a linear record of 100: [10,30) ∪ [20,40) chain,
    [40,50) touches but shares no base, [60,70) ⊃ [62,65) nested -/
def demo : State :=
  { len := 100, circular := false,
    cands := [⟨4, .cand, .simple ⟨60, 70, .fwd⟩, [9], [], []⟩],
    subs := [⟨0, .sub, .simple ⟨10, 30, .fwd⟩, [], [], []⟩, ⟨1, .sub, .simple ⟨20, 40, .fwd⟩, [], [], []⟩,
             ⟨2, .sub, .simple ⟨40, 50, .fwd⟩, [], [], []⟩, ⟨3, .sub, .simple ⟨62, 65, .fwd⟩, [], [], []⟩] }

example : LinearOK demo := by
  refine ⟨rfl, ?_, rfl⟩
  intro f hf
  simp only [demo, List.cons_append, List.nil_append, List.mem_cons, List.not_mem_nil, or_false] at hf
  rcases hf with rfl | rfl | rfl | rfl | rfl <;> exact ⟨_, rfl, by decide, by decide, by decide⟩

example : (createRegions demo).toOption.map (fun s => s.regions.map view) =
    some [(.simple ⟨10, 40, .fwd⟩, [], [0, 1]), (.simple ⟨40, 50, .fwd⟩, [], [2]), (.simple ⟨60, 70, .fwd⟩, [4], [3])] := by
  decide +kernel


/-- a history on a circular record with a gene: the invariant's hypotheses are met by `run` itself -/
example : (run { len := 100, circular := true, cds := [.simple ⟨12, 18, .fwd⟩] }
      [.addSub (.compound [⟨90, 100, .fwd⟩, ⟨0, 20, .fwd⟩]), .addProto (.simple ⟨40, 60, .fwd⟩), .mkCand [1], .addCand 2,
       .addSub (.simple ⟨55, 70, .fwd⟩), .createRegions, .clearSubs]).toOption.map
      (fun s => (s.regions.map view, s.regions.map (·.cdses), s.parentOf 2)) =
    some ([(.simple ⟨40, 60, .fwd⟩, [2], [])], [[]], some 2) := by
  decide +kernel

end ASV.C06
