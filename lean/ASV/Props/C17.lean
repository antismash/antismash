/-
  C17 — same input, same output: results do not depend on the process or hash seed.
  Helper lemmas live in ASV/Proofs/Determinism{Sort,Stages,Areas}.lean.

  How the property is stated.  A Python `set` shows itself to the program through *some*
  enumeration of its members, chosen by `PYTHONHASHSEED` (string members) or by object addresses
  (identity-hashed members).  Every modelled stage takes that enumeration as an explicit argument;
  "the same result in every process" is then `stage l₁ = stage l₂` for every two enumerations
  `l₁ ~ l₂` of the same container — a statement over ALL seeds and layouts, for all inputs, in
  particular inputs full of ties (equal starts, equal scores, equal coordinates).

  The model is the code with the fixes D11, D26 (C13), 9b15a948 (sorted definition domains: D51,
  D51b) and D53–D55 (this property's patches) applied; the `…Old` definitions are the code
  before those fixes and carry the negation witnesses.
  Stages owned by other properties: C03 find_protoclusters / apply_cluster_rules are not modelled
  here; C05 candidate formation and C06 create_regions are treated over their own models in the
  last two sections, see design/C17.md.
-/
import ASV.Props.C13
import ASV.Proofs.DeterminismStages
import ASV.Proofs.DeterminismAreas
namespace ASV.C17
open ASV ASV.Refine ASV.HitFilter ASV.Determinism

/-! ## the generic argument: sort with a separating key, then do anything -/

/-- two duplicate-free enumerations of the same set are permutations of each other (so "for all
    permutations" below covers every pair of iteration orders of one `set`) -/
theorem set_enumerations_are_permutations {α : Type} (l₁ l₂ : List α) (n₁ : l₁.Nodup) (n₂ : l₂.Nodup)
    (h : ∀ x, x ∈ l₁ ↔ x ∈ l₂) : l₁.Perm l₂ :=
  (List.perm_ext_iff_of_nodup n₁ n₂).mpr h

/-- uniqueness of sorted permutations: for a total, transitive comparison that is antisymmetric on
    the members, `sorted(container)` is the same list for every enumeration of the container -/
theorem sorted_enumeration_unique {α : Type} (le : α → α → Bool)
    (total : ∀ a b, le a b = true ∨ le b a = true)
    (trans : ∀ a b c, le a b = true → le b c = true → le a c = true) :
    EnumerationInvariantOn (fun l => ∀ a ∈ l, ∀ b ∈ l, le a b = true → le b a = true → a = b) (sortBy le) :=
  fun _ _ antisymm h => sortBy_eq_of_perm_on total trans antisymm h

/-- `sorted(container, key=key)` with linearly ordered keys: one result for all enumerations as soon
    as no two members share a key -/
theorem sorted_by_injective_key_unique {α κ : Type} (key : α → κ) (leK : κ → κ → Bool)
    (total : ∀ a b, leK a b = true ∨ leK b a = true)
    (trans : ∀ a b c, leK a b = true → leK b c = true → leK a c = true)
    (antisymm : ∀ a b, leK a b = true → leK b a = true → a = b) :
    EnumerationInvariantOn (fun l => ∀ a ∈ l, ∀ b ∈ l, key a = key b → a = b)
      (sortBy (fun a b => leK (key a) (key b))) :=
  fun _ _ inj h => sortBy_key_eq_of_perm key total trans antisymm inj h

/-- … and then any loop over the sorted container is enumeration independent -/
theorem fold_after_sort_enumeration_independent {α β : Type} (le : α → α → Bool)
    (total : ∀ a b, le a b = true ∨ le b a = true)
    (trans : ∀ a b c, le a b = true → le b c = true → le a c = true) (f : β → α → β) (init : β) :
    EnumerationInvariantOn (fun l => ∀ a ∈ l, ∀ b ∈ l, le a b = true → le b a = true → a = b)
      (foldSorted le f init) :=
  fun _ _ antisymm h => foldSorted_perm total trans f init antisymm h

/-- the executable spec pins the output down: a listing of the members in non-decreasing key
    order is *the* keyed sort of every enumeration (keys separating the members) -/
theorem canonical_listing_unique {α : Type} [DecidableEq α] (key : α → Int × Int × Int × Int × Int) (members out : List α)
    (inj : ∀ a ∈ members, ∀ b ∈ members, key a = key b → a = b)
    (h : canonicalBy key tripleLt members out = true) :
    out = sortBy (fun a b => keyLe (key a) (key b)) members :=
  canonical_unique key tripleLt keyLe tripleLt_false_iff keyLe_total keyLe_trans keyLe_antisymm inj h

/-! ## stage `refine` (hmmscan_refinement.refine_hmmscan_results; = C13, fix D11) -/

/-- per gene: any two enumerations of the gene's hit set give the same refined hits, both modes -/
theorem refine_perm_invariant (env : Env) (nb : Bool) : EnumerationInvariant (refine env nb) :=
  fun l₁ l₂ h => C13.refine_perm_invariant env nb l₁ l₂ h

/-- … even enumerations with repeats: only the *set* of raw hits matters -/
theorem refine_enumeration_invariant (env : Env) (nb : Bool) (l₁ l₂ : List Hit) (h : ∀ x, x ∈ l₁ ↔ x ∈ l₂) :
    refine env nb l₁ = refine env nb l₂ :=
  C13.refine_enumeration_invariant env nb l₁ l₂ h

/-- the whole function: the dict of genes (insertion ordered) with every gene's set enumerated
    independently and arbitrarily -/
theorem refineAll_invariant (env : Env) (nb : Bool) (g₁ g₂ : List (Int × List Hit)) (h : SameDictOfSets g₁ g₂) :
    refineAll env nb g₁ = refineAll env nb g₂ := by
  induction h with
  | nil => rfl
  | cons h _ ih =>
    simp only [refineAll] at ih ⊢
    simp only [List.filterMap_cons, h.1, refine_perm_invariant env nb _ _ h.2, ih]

/-- `hmmer.remove_overlapping` (fix D26): the order of the input list is irrelevant -/
theorem hmmer_perm_invariant (cut : Int → Option Int) (limit : Int) (l₁ l₂ out : List HHit) (hp : l₁.Perm l₂)
    (h : HitFilter.removeOverlapping cut limit l₁ = .ok out) : HitFilter.removeOverlapping cut limit l₂ = .ok out :=
  C13.hmmer_perm_invariant cut limit l₁ l₂ out hp h

/-! ## stage `refine`, the walk over the profiles in `_merge_domain_list` -/

/-- the code walks the `categories` dict, i.e. the profiles in the order of their first hit in the
    sorted hit list: C13's `mergeDomainList` / default-mode `refine` are the explicit-walk versions
    with the identity enumerator (no set of names is involved) -/
theorem mergeDomainList_walks_first_occurrence_order : mergeDomainListE id = mergeDomainList := rfl

theorem refine_default_walks_first_occurrence_order (env : Env) : refineMergeE id env = refine env false := rfl

/-- H: the merged hits start at pairwise different positions.  Then any walk over the profiles
    (e.g. a set of names under any hash seed) gives the same merged list -/
theorem mergeDomainListE_invariant_partial (e₁ e₂ : List Int → List Int) (h₁ : ∀ l, (e₁ l).Perm l) (h₂ : ∀ l, (e₂ l).Perm l)
    (env : Env) (domains : List Hit)
    (hd : ∀ a ∈ (firstOcc (domains.map (·.prof))).flatMap (mergedOfProfile env domains),
          ∀ b ∈ (firstOcc (domains.map (·.prof))).flatMap (mergedOfProfile env domains), a.qs = b.qs → a = b) :
    mergeDomainListE e₁ env domains = mergeDomainListE e₂ env domains := by
  unfold mergeDomainListE
  have hp₁ := (h₁ (firstOcc (domains.map (·.prof)))).flatMap_right (mergedOfProfile env domains)
  have hp₂ := (h₂ (firstOcc (domains.map (·.prof)))).flatMap_right (mergedOfProfile env domains)
  apply sortBy_eq_of_perm_on Hit.leStart_total Hit.leStart_trans
  · intro a ha b hb hab hba
    apply hd a (hp₁.mem_iff.1 ha) b (hp₁.mem_iff.1 hb)
    simp only [Hit.leStart, decide_eq_true_eq] at hab hba
    omega
  · exact hp₁.trans hp₂.symm

/-- without H it is false, and it matters: profiles 0 and 3 hit `[0,100)` with the same score,
    profile 0 has a second fragment; walking the profiles as a set keeps a different hit than
    walking them in the other order — the code's walk gives profile 0's hit -/
theorem mergeDomainList_set_walk_witness :
    refineMergeE id C13.exEnv [⟨0, 0, 100, 1, 300⟩, ⟨3, 0, 100, 1, 300⟩, ⟨0, 300, 310, 1, 100⟩] ≠
      refineMergeE List.reverse C13.exEnv [⟨0, 0, 100, 1, 300⟩, ⟨3, 0, 100, 1, 300⟩, ⟨0, 300, 310, 1, 100⟩] ∧
    refine C13.exEnv false [⟨0, 0, 100, 1, 300⟩, ⟨3, 0, 100, 1, 300⟩, ⟨0, 300, 310, 1, 100⟩] = [⟨0, 0, 100, 1, 300⟩] := by
  decide +kernel

/-! ## stage `uniqueProtoclusters` (Region.get_unique_protoclusters, fix D54) -/

/-- the full sentence -/
def UniqueProtoclustersInvariant : Prop :=
  ∀ (cross : Bool) (L : Int), EnumerationInvariant (uniqueProtoclusters cross L)

/-- it is false when two *different* member protoclusters agree on `(start, −len, product, core start,
    core end)`: the stable sort leaves them in enumeration order -/
theorem uniqueProtoclusters_key_tie_witness : ¬ UniqueProtoclustersInvariant := by
  intro h
  have := h false 0 [⟨10, 70, 1, 30, 60, 1⟩, ⟨10, 70, 1, 30, 60, 2⟩] [⟨10, 70, 1, 30, 60, 2⟩, ⟨10, 70, 1, 30, 60, 1⟩] (List.Perm.swap _ _ _)
  revert this
  decide +kernel

/-- H: no two member protoclusters agree on the key.  Then every enumeration of the set gives the
    same list, for regions on a line and regions spanning the origin alike -/
theorem uniqueProtoclusters_invariant_partial (cross : Bool) (L : Int) :
    EnumerationInvariantOn (KeyInj cross L) (uniqueProtoclusters cross L) :=
  fun _ _ inj h => uniqueProtoclusters_perm inj h

/-- the result is the canonical listing of the members … -/
theorem uniqueProtoclusters_canonical (cross : Bool) (L : Int) (enum : List Proto) :
    canonicalBy (protoKey cross L) tripleLt enum (uniqueProtoclusters cross L enum) = true :=
  sortBy_canonical (protoKey cross L) tripleLt keyLe tripleLt_false_iff keyLe_total keyLe_trans enum

/-- … and under H any output that meets the executable spec *is* the model's output -/
theorem uniqueProtoclusters_spec_determines (cross : Bool) (L : Int) (members out : List Proto)
    (inj : KeyInj cross L members) (h : canonicalBy (protoKey cross L) tripleLt members out = true) :
    out = uniqueProtoclusters cross L members :=
  canonical_listing_unique (protoKey cross L) members out inj h

/-- the scope predicate is decidable: for a duplicate-free enumeration `hasKeyTie = false` is H -/
theorem uniqueProtoclusters_scope_decidable (cross : Bool) (L : Int) (l : List Proto) (hn : l.Nodup) :
    hasKeyTie (protoKey cross L) l = false ↔ KeyInj cross L l :=
  hasKeyTie_false_iff (protoKey cross L) l hn

/-- D54: before the fix a region not spanning the origin sorted by `(start, −len)` only; two
    protoclusters of *different products* on the same coordinates (H holds!) came out in
    enumeration order -/
theorem uniqueProtoclustersOld_not_invariant :
    ∃ l₁ l₂ : List Proto, l₁.Perm l₂ ∧ hasKeyTie (protoKey false 0) l₁ = false ∧
      uniqueProtoclustersOld l₁ ≠ uniqueProtoclustersOld l₂ ∧
      uniqueProtoclusters false 0 l₁ = uniqueProtoclusters false 0 l₂ :=
  ⟨[⟨10, 70, 1, 30, 60, 1⟩, ⟨10, 70, 2, 30, 60, 2⟩], [⟨10, 70, 2, 30, 60, 2⟩, ⟨10, 70, 1, 30, 60, 1⟩], List.Perm.swap _ _ _, by decide +kernel, by decide +kernel, by decide +kernel⟩

/-- H stated on the fields the key reads: no two members agree on start, length, product and core
    (coordinates inside the record for an origin-spanning region) — the shift over the origin never
    merges two keys -/
theorem uniqueProtoclusters_invariant_of_fields_partial (cross : Bool) (L : Int) (l₁ l₂ : List Proto)
    (h : FieldsInj l₁) (hr : cross = true → ∀ p ∈ l₁, 0 ≤ p.start ∧ p.start < L) (hp : l₁.Perm l₂) :
    uniqueProtoclusters cross L l₁ = uniqueProtoclusters cross L l₂ :=
  uniqueProtoclusters_perm (keyInj_of_fieldsInj h hr) hp

/-- the shape the property forbids after the origin of an origin-spanning region: a tie-break
    computed from the protocluster's own extent instead of its core does not separate two
    protoclusters of one product covering the same area — they come out in enumeration order; the
    code's key gives one order -/
theorem uniqueProtoclustersOwnExtent_not_invariant :
    ∃ l₁ l₂ : List Proto, l₁.Perm l₂ ∧ hasKeyTie (protoKey true 1000) l₁ = false ∧
      uniqueProtoclustersOwnExtent true 1000 l₁ ≠ uniqueProtoclustersOwnExtent true 1000 l₂ ∧
      uniqueProtoclusters true 1000 l₁ = uniqueProtoclusters true 1000 l₂ :=
  ⟨[⟨950, 100, 0, 960, 990, 0⟩, ⟨10, 50, 1, 14, 22, 2⟩, ⟨10, 50, 1, 13, 21, 1⟩],
   [⟨950, 100, 0, 960, 990, 0⟩, ⟨10, 50, 1, 13, 21, 1⟩, ⟨10, 50, 1, 14, 22, 2⟩],
   (List.Perm.swap _ _ _).cons _, by decide +kernel, by decide +kernel, by decide +kernel⟩

/-- D64: between D54 and D64 the key stopped at the product; two protoclusters of one product on the
    same coordinates with different cores (sideloaded annotations) came out in enumeration order;
    with the core in the key they do not -/
theorem uniqueProtoclustersNoCore_not_invariant :
    ∃ l₁ l₂ : List Proto, l₁.Perm l₂ ∧ hasKeyTie (protoKey false 0) l₁ = false ∧
      uniqueProtoclustersNoCore l₁ ≠ uniqueProtoclustersNoCore l₂ ∧
      uniqueProtoclusters false 0 l₁ = uniqueProtoclusters false 0 l₂ :=
  ⟨[⟨10, 70, 1, 30, 60, 1⟩, ⟨10, 70, 1, 20, 40, 2⟩], [⟨10, 70, 1, 20, 40, 2⟩, ⟨10, 70, 1, 30, 60, 1⟩],
   List.Perm.swap _ _ _, by decide +kernel, by decide +kernel, by decide +kernel⟩

/-- the numbers under which the `areas` JSON lists a region's protoclusters and under which its
    candidate clusters refer to them ("same numbering") do not depend on how the set iterates -/
theorem areasProtoclusterNumbers_invariant_partial (cross : Bool) (L : Int) (candidates : List (List Proto)) :
    EnumerationInvariantOn (KeyInj cross L) (fun enum => areasProtoclusterNumbers cross L enum candidates) :=
  fun l₁ l₂ inj h => by simp only [areasProtoclusterNumbers, uniqueProtoclusters_perm inj h]

/-! ## stages writing out sets of names (fixes D51, D51b, D53) -/

/-- `CDSResults.to_json`: the "definition_domains" lists do not depend on how the sets iterate -/
theorem definitionDomainsJson_invariant (d₁ d₂ : List (Int × List Int)) (h : SameDictOfSets d₁ d₂) :
    definitionDomainsJson d₁ = definitionDomainsJson d₂ :=
  map_eq_of_pointwise (fun a b hab => by rw [hab.1, sortedNames_perm hab.2]) h

/-- D51: `list(set)` is the iteration order itself (two-element witness) -/
theorem definitionDomainsJsonOld_not_invariant :
    ∃ d₁ d₂ : List (Int × List Int), SameDictOfSets d₁ d₂ ∧ definitionDomainsJsonOld d₁ ≠ definitionDomainsJsonOld d₂ :=
  ⟨[(0, [1, 2])], [(0, [2, 1])], .cons ⟨rfl, List.Perm.swap _ _ _⟩ .nil, by decide +kernel⟩

/-- `CDSResults.annotate`: the gene-function annotations (their order is the order of the
    `gene_functions` qualifier in the GenBank file) do not depend on how the sets iterate -/
theorem annotate_invariant (existing : List GeneFn) (prevIds domains : List Int) (d₁ d₂ : List (Int × List Int))
    (h : SameDictOfSets d₁ d₂) : annotate existing prevIds d₁ domains = annotate existing prevIds d₂ domains :=
  annotate_same existing prevIds domains h

/-- … from the results' own domain list (`SecMetQualifier.add_domains` included) -/
theorem annotateFull_invariant (existing : List GeneFn) (prevIds newDomains : List Int) (d₁ d₂ : List (Int × List Int))
    (h : SameDictOfSets d₁ d₂) : annotateFull existing prevIds d₁ newDomains = annotateFull existing prevIds d₂ newDomains :=
  annotate_same existing prevIds _ h

/-- D51b: before the fix the CORE annotations were added in iteration order -/
theorem annotateOld_not_invariant :
    ∃ d₁ d₂ : List (Int × List Int), SameDictOfSets d₁ d₂ ∧ annotateOld [] [] d₁ [1, 2] ≠ annotateOld [] [] d₂ [1, 2] :=
  ⟨[(0, [1, 2])], [(0, [2, 1])], .cons ⟨rfl, List.Perm.swap _ _ _⟩ .nil, by decide +kernel⟩

/-- `run_on_record`: "enabled_types" of the module's JSON (D53: it was `list(set)`) -/
theorem enabledTypes_invariant : EnumerationInvariant enabledTypes :=
  fun _ _ h => sortedNames_perm h

/-! ## stage `filterResults` (cluster_prediction.filter_results, fix D55) -/

/-- the best hit of an overlap group does not depend on how the group set iterates (distinct
    objects sit at distinct positions of the gene's hit list) — equal scores included -/
theorem bestOfGroup_invariant :
    EnumerationInvariantOn (fun l => ∀ a ∈ l, ∀ b ∈ l, a.uid = b.uid → a = b) bestOfGroup :=
  fun _ _ inj h => bestOfGroup_perm inj h

/-- the whole function for one gene: whatever order each group set is iterated in (to pick the
    best and to delete the rest), the surviving hits — or the failing assertion — are the same -/
theorem filterResults_enumeration_invariant (e₁ e₂ : List FHit → List FHit) (h₁ : Enumerates e₁) (h₂ : Enumerates e₂)
    (eqs : List (List Int)) (hits : List FHit) (hu : UidInj hits) :
    filterResultsE e₁ eqs hits = filterResultsE e₂ eqs hits := by
  simp only [filterResultsE, foldl_filterPassE_same h₁ h₂ eqs hits hu]

/-- before D55 (`best = list(group)[0]`, first strictly better hit in iteration order):
    H: no two different hits of the group have the same bitscore ⇒ invariant … -/
theorem bestOfGroupOld_invariant_partial : EnumerationInvariantOn NoScoreTies bestOfGroupOld := by
  intro l₁ l₂ hn h
  show groupBest l₁ = groupBest l₂
  cases l₁ with
  | nil => rw [h.symm.eq_nil]
  | cons b₁ t₁ =>
    cases l₂ with
    | nil => exact absurd h.eq_nil (by simp)
    | cons b₂ t₂ =>
      simp only [groupBest, Option.some.injEq]
      have hmem := bestIn_mem b₁ t₁
      have hmax : ∀ o ∈ b₁ :: t₁, o ≠ bestIn b₁ t₁ → o.sc < (bestIn b₁ t₁).sc := by
        intro o ho hne
        have h1 := bestIn_max b₁ t₁ o ho
        have h2 : o.sc ≠ (bestIn b₁ t₁).sc := fun e => hne (hn o ho _ hmem e)
        omega
      exact (bestIn_strict_max (bestIn b₁ t₁) b₂ t₂ (h.mem_iff.mp hmem)
        (fun o ho hne => hmax o (h.mem_iff.mpr ho) hne)).symm

/-- … and with a tie the survivor is whichever hit the set yields first -/
theorem bestOfGroupOld_tie_witness : ¬ EnumerationInvariant bestOfGroupOld := by
  intro h
  have := h [⟨0, 0, 0, 100, 300⟩, ⟨1, 1, 10, 110, 300⟩] [⟨1, 1, 10, 110, 300⟩, ⟨0, 0, 0, 100, 300⟩] (List.Perm.swap _ _ _)
  revert this
  decide +kernel

/-! ## stage `build_results`: genes of pre-existing subregions outside every protocluster -/

/-- `cds_results_outside_clusters` (the "outside_protoclusters" list of the saved JSON) is built by
    walking each subregion's genes in position order; the set `cdses_with_annotations` is only asked
    for membership, so however it iterates — any two enumerations with the same members, repeats
    allowed — the list is the same -/
theorem outsideResults_enumeration_invariant (hasDomains : Int → Bool) (subregions : List (List Int))
    (a₁ a₂ : List Int) (h : ∀ x, x ∈ a₁ ↔ x ∈ a₂) :
    outsideResults hasDomains a₁ subregions = outsideResults hasDomains a₂ subregions := by
  unfold outsideResults
  suffices H : ∀ (subs : List (List Int)) (s₁ s₂ : List Int × List Int), s₁.2 = s₂.2 → (∀ x, x ∈ s₁.1 ↔ x ∈ s₂.1) →
      (subs.foldl (fun st sub => outsideGo hasDomains st.1 st.2 sub) s₁).2 =
      (subs.foldl (fun st sub => outsideGo hasDomains st.1 st.2 sub) s₂).2 from H subregions _ _ rfl h
  intro subs
  induction subs with
  | nil => intro s₁ s₂ e _; exact e
  | cons sub rest ih =>
    intro s₁ s₂ e hm
    simp only [List.foldl_cons]
    have := outsideGo_congr hasDomains sub s₁.1 s₂.1 s₁.2 hm
    apply ih
    · rw [this.1, e]
    · rw [← e]; exact this.2

/-- the code is the set-difference loop with the identity enumerator on this layout, and the shape
    the property forbids (`for cds in set(subregion.cds_children).difference(…)`) follows the set's
    iteration order: genes 1, 2, 3 in one subregion, gene 2 already annotated -/
theorem outsideResults_set_walk_witness :
    outsideResultsSetE id (fun _ => true) [2] [[1, 2, 3]] = outsideResults (fun _ => true) [2] [[1, 2, 3]] ∧
    outsideResults (fun _ => true) [2] [[1, 2, 3]] = [1, 3] ∧
    outsideResultsSetE List.reverse (fun _ => true) [2] [[1, 2, 3]] = [3, 1] := by decide +kernel

/-! ## stage `sideloadByCds`: `--sideload-by-cds tag,tag,…` -/

/-- the subregions are created in the order of the tags on the command line: the labels of the
    result are exactly the known tags, in input order (repeats kept) — a function of the input LIST,
    no set of names is walked -/
theorem subregionsByCds_follow_the_tag_list (circular : Bool) (L pad : Int) (lookup : Int → Option (Int × Int))
    (markers : List Int) :
    (subregionsByCds circular L pad lookup markers).map (·.2.2) = markers.filter fun n => (lookup n).isSome := by
  induction markers with
  | nil => rfl
  | cons n rest ih =>
    unfold subregionsByCds at ih ⊢
    cases hl : lookup n with
    | none => simp only [List.filterMap_cons, hl, Option.map_none, List.filter_cons, Option.isSome_none]; exact ih
    | some g =>
      simp only [List.filterMap_cons, hl, Option.map_some, List.map_cons, byCdsArea_label, List.filter_cons,
        Option.isSome_some, if_true, ih]

/-- walking `set(cds_markers)` instead makes the list follow the string hash: two tags on a 5 kb contig
    with 20 kb padding (both subregions cover the whole contig and tie), in the two possible orders -/
theorem subregionsByCds_set_walk_witness :
    subregionsByCds false 5000 20000 (fun n => if n = 0 then some (1000, 1300) else if n = 1 then some (3000, 3300) else none) [0, 1] =
      [(0, 5000, 0), (0, 5000, 1)] ∧
    subregionsByCds false 5000 20000 (fun n => if n = 0 then some (1000, 1300) else if n = 1 then some (3000, 3300) else none) [1, 0] =
      [(0, 5000, 1), (0, 5000, 0)] := by decide +kernel

/-! ## stage `getRuleset`: the rule subset options of hmm_detection -/

/-- `--hmmdetection-limit-to-rule-names / -categories` arrive as sets that are only asked for
    membership: however they iterate (any two enumerations with the same members, repeats allowed —
    i.e. also however the user ordered or repeated the names), the restricted rule list, and with it
    the order in which the rules are applied, is the same -/
theorem restrictRules_enumeration_invariant (rules : List (Int × Int)) (n₁ n₂ c₁ c₂ : List Int)
    (hn : ∀ x, x ∈ n₁ ↔ x ∈ n₂) (hc : ∀ x, x ∈ c₁ ↔ x ∈ c₂) :
    restrictRules rules n₁ c₁ = restrictRules rules n₂ c₂ :=
  restrictRules_congr rules hn hc

/-- the restricted rules keep the order of the rule files -/
theorem restrictRules_keeps_file_order (rules : List (Int × Int)) (n c : List Int) :
    (restrictRules rules n c).Sublist rules := by
  unfold restrictRules
  have h1 : (if n.isEmpty then rules else rules.filter fun r => n.contains r.1).Sublist rules := by
    split
    · exact List.Sublist.refl _
    · exact List.filter_sublist
  simp only
  split
  · exact h1
  · exact List.filter_sublist.trans h1

/-- … and so is `enabled_types` of the saved results -/
theorem enabledTypesOf_enumeration_invariant (rules : List (Int × Int)) (n₁ n₂ c₁ c₂ : List Int)
    (hn : ∀ x, x ∈ n₁ ↔ x ∈ n₂) (hc : ∀ x, x ∈ c₁ ↔ x ∈ c₂) :
    enabledTypesOf rules n₁ c₁ = enabledTypesOf rules n₂ c₂ := by
  simp only [enabledTypesOf, restrictRules_congr rules hn hc]

/-- five rules in file order; names {4, 1, 3} given in two orders with a repeat, categories {7} -/
example : restrictRules [(3, 7), (1, 7), (5, 8), (4, 9), (2, 7)] [4, 1, 3] [7] = [(3, 7), (1, 7)] ∧
    restrictRules [(3, 7), (1, 7), (5, 8), (4, 9), (2, 7)] [3, 3, 1, 4] [7, 7] = [(3, 7), (1, 7)] ∧
    enabledTypesOf [(3, 7), (1, 7), (5, 8), (4, 9), (2, 7)] [4, 1, 3] [] = [1, 3, 4] := by decide +kernel

/-! ## stage `writeRecord` (Feature.to_biopython + Record.to_biopython → GenBank / JSON) -/

/-- no hash-ordered container reaches the output order: the features are emitted from a stable
    sort of the record's feature lists, every feature's qualifiers sorted by key and its notes
    sorted — so the output is the same however the qualifier dicts were filled and the notes were
    collected -/
theorem writeRecord_invariant (g₁ g₂ : List (List Feat)) (h : Pointwise (Pointwise SameFeature) g₁ g₂) :
    writeRecord g₁ = writeRecord g₂ := by
  simp only [writeRecord]
  exact map_eq_of_pointwise (fun a b hab => emitFeature_same hab)
    (sortBy_pointwise (R := SameFeature) (fun a a' b b' ha hb => featBefore_same ha hb) (flatten_pointwise h))

/-- what the writer does *not* repair: features with equal `(start, length)` keep the order of the
    record's lists, so those lists themselves must be built deterministically (that is what the
    stage theorems above and those of C03/C05/C06 are for) -/
theorem writeRecord_keeps_list_order_of_ties :
    writeRecord [[⟨0, 9, false, [(1, [1])], []⟩, ⟨0, 9, false, [(1, [2])], []⟩]] ≠
    writeRecord [[⟨0, 9, false, [(1, [2])], []⟩, ⟨0, 9, false, [(1, [1])], []⟩]] := by decide +kernel

/-! ## non-vacuity -/

/-- D11's shape through the whole dict: two genes, equal starts and scores, sets enumerated in
    different orders -/
example : refineAll C13.exEnv false [(0, [⟨0, 0, 100, 1, 500⟩, ⟨1, 0, 100, 1, 500⟩, ⟨3, 0, 100, 1, 500⟩]), (1, [⟨1, 0, 50, 1, 500⟩, ⟨0, 0, 50, 1, 500⟩])] =
    [(0, [⟨0, 0, 100, 1, 500⟩]), (1, [⟨0, 0, 50, 1, 500⟩])] ∧
    refineAll C13.exEnv false [(0, [⟨3, 0, 100, 1, 500⟩, ⟨0, 0, 100, 1, 500⟩, ⟨1, 0, 100, 1, 500⟩]), (1, [⟨0, 0, 50, 1, 500⟩, ⟨1, 0, 50, 1, 500⟩])] =
    [(0, [⟨0, 0, 100, 1, 500⟩]), (1, [⟨0, 0, 50, 1, 500⟩])] := by decide +kernel
/-- three protoclusters on identical coordinates, products 2, 0, 1: listed by product, whatever
    the enumeration; an origin-spanning region of a 1000-base record lists the pre-origin member first -/
example : uniqueProtoclusters false 0 [⟨10, 70, 2, 30, 60, 0⟩, ⟨10, 70, 0, 30, 60, 1⟩, ⟨10, 70, 1, 30, 60, 2⟩] =
    [⟨10, 70, 0, 30, 60, 1⟩, ⟨10, 70, 1, 30, 60, 2⟩, ⟨10, 70, 2, 30, 60, 0⟩] := by decide +kernel
example : uniqueProtoclusters true 1000 [⟨5, 70, 0, 25, 55, 0⟩, ⟨900, 150, 1, 920, 950, 1⟩, ⟨950, 80, 0, 970, 1000, 2⟩] =
    [⟨900, 150, 1, 920, 950, 1⟩, ⟨950, 80, 0, 970, 1000, 2⟩, ⟨5, 70, 0, 25, 55, 0⟩] := by decide +kernel
/-- twins after the origin of an origin-spanning region (one product, one area): ordered by core -/
example : uniqueProtoclusters true 1000 [⟨10, 50, 1, 14, 22, 2⟩, ⟨950, 100, 0, 960, 990, 0⟩, ⟨10, 50, 1, 13, 21, 1⟩] =
    [⟨950, 100, 0, 960, 990, 0⟩, ⟨10, 50, 1, 13, 21, 1⟩, ⟨10, 50, 1, 14, 22, 2⟩] := by decide +kernel
example : KeyInj false 0 [⟨10, 70, 2, 30, 60, 0⟩, ⟨10, 70, 0, 30, 60, 1⟩, ⟨10, 70, 1, 30, 60, 2⟩] :=
  (hasKeyTie_false_iff _ _ (by decide +kernel)).mp (by decide +kernel)
/-- two products, sets of two and three names -/
example : definitionDomainsJson [(1, [5, 3]), (0, [2, 9, 4])] = [(1, [3, 5]), (0, [2, 4, 9])] := by decide +kernel
/-- CORE annotations per product in name order, an equal existing annotation is not repeated,
    domains that defined nothing become ADDITIONAL -/
example : annotate [⟨true, 3, some 1⟩] [] [(1, [5, 3]), (0, [5])] [3, 5, 7] =
    [⟨true, 3, some 1⟩, ⟨true, 5, some 1⟩, ⟨true, 5, some 0⟩, ⟨false, 7, none⟩] := by decide +kernel
/-- three hits with equal scores overlapping pairwise: the first of the gene's list survives,
    whichever way the group set is enumerated -/
example : filterResultsE id [[0, 1]] [⟨0, 0, 0, 100, 300⟩, ⟨1, 1, 10, 110, 300⟩, ⟨2, 3, 20, 120, 300⟩] =
    some [⟨0, 0, 0, 100, 300⟩] ∧
    filterResultsE List.reverse [[0, 1]] [⟨0, 0, 0, 100, 300⟩, ⟨1, 1, 10, 110, 300⟩, ⟨2, 3, 20, 120, 300⟩] =
    some [⟨0, 0, 0, 100, 300⟩] := by decide +kernel
example : Enumerates List.reverse := fun g => List.reverse_perm g
/-- a source feature and a gene on the same coordinates, qualifiers filled in different orders -/
example : writeRecord [[⟨0, 9, true, [(3, [1]), (2, [7])], []⟩], [⟨0, 9, false, [(5, [1]), (1, [2])], [4, 3]⟩]] =
    [((0, 9, true), [(2, [7]), (3, [1])]), ((0, 9, false), [(0, [3, 4]), (1, [2]), (5, [1])])] := by decide +kernel

/-! ## area formation: `create_candidates_from_protoclusters` (C05's model `ASV.CC`) -/
section areas
open ASV.CC

/-- `_sorted_protoclusters` — the function every set of protoclusters in formation.py goes through
    before it is iterated — gives one list for all enumerations of the set.
    H (`TieInj`): no two different members agree on `(product, core start, core end)`. -/
theorem sortedProtoclusters_invariant_partial : EnumerationInvariantOn TieInj sortProtos :=
  fun _ _ inj h => sortProtos_eq_of_perm inj h

/-- the ORDERED result of candidate formation (kinds, members in constructor order, locations, the
    errors too) is a function of the multiset of protoclusters supplied: any permutation of the
    input list gives the identical output list.  H as above. -/
theorem formation_order_is_function_of_multiset_partial (ps qs : List CC.Proto) (wrap : Option Int)
    (inj : TieInj ps) (h : ps.Perm qs) : formation ps wrap = formation qs wrap := by
  have h1 : sortProtos ps = sortProtos qs := sortProtos_eq_of_perm inj h
  have h2 : ps.length = qs.length := h.length_eq
  have h3 : ps.isEmpty = qs.isEmpty := Refine.isEmpty_eq_of_same_members fun _ => h.mem_iff
  unfold formation formationCore
  rw [h1, h2, h3]

/-- without H it is false: two protoclusters equal in coordinates, core and product keep the
    order in which they were supplied -/
theorem formation_tie_key_witness :
    ∃ ps qs : List CC.Proto, ps.Perm qs ∧ ps.Nodup ∧
      candSummary (formation ps none) ≠ candSummary (formation qs none) :=
  ⟨[⟨0, .simple ⟨80, 130, .fwd⟩, .simple ⟨90, 120, .fwd⟩, [], "a"⟩, ⟨1, .simple ⟨80, 130, .fwd⟩, .simple ⟨90, 120, .fwd⟩, [], "a"⟩],
   [⟨1, .simple ⟨80, 130, .fwd⟩, .simple ⟨90, 120, .fwd⟩, [], "a"⟩, ⟨0, .simple ⟨80, 130, .fwd⟩, .simple ⟨90, 120, .fwd⟩, [], "a"⟩],
   List.Perm.swap _ _ _, by decide +kernel, by decide +kernel⟩

/-- the final loop of the code is the sorted one: C05's `formation` is `formationE` with the
    `singles` set iterated in the model's own (insertion) order -/
theorem formation_final_loop_is_sorted : formationE id = formation := formation_is_sorted_singles

/-- … and however the `singles` set of promoted protoclusters is iterated (any enumerator of sets
    of objects: any memory layout), the candidates, their order and their numbering are the same.
    H: distinct protoclusters, `TieInj`. -/
theorem formation_singles_enumeration_invariant_partial (e₁ e₂ : List CC.Proto → List CC.Proto)
    (h₁ : EnumeratesProtos e₁) (h₂ : EnumeratesProtos e₂) (ps : List CC.Proto) (wrap : Option Int)
    (hn : ps.Nodup) (inj : TieInj ps) : formationE e₁ ps wrap = formationE e₂ ps wrap := by
  apply formationWith_congr wrap hn
  intro un2 s hu hs
  apply singlesOrder_eq_of_perm
  · apply inj.subset
    intro x hx
    rcases List.mem_append.1 hx with h | h
    · exact hu x h
    · exact hs x ((h₁ s).mem_iff.1 h)
  · exact (h₁ s).trans (h₂ s).symm

/-- a chemical hybrid (T1PKS + NRPS sharing gene 1) and two protoclusters on identical coordinates
    whose cores overlap the hybrid's core without lying inside it: both are promoted into the hybrid
    and tracked in the `singles` set only -/
def promotedPair : List CC.Proto :=
  [⟨0, .simple ⟨100, 700, .fwd⟩, .simple ⟨300, 500, .fwd⟩, [0, 1], "T1PKS"⟩,
   ⟨1, .simple ⟨200, 1000, .fwd⟩, .simple ⟨400, 800, .fwd⟩, [1, 2], "NRPS"⟩,
   ⟨2, .simple ⟨600, 940, .fwd⟩, .simple ⟨700, 840, .fwd⟩, [], "terpene"⟩,
   ⟨3, .simple ⟨600, 940, .fwd⟩, .simple ⟨720, 820, .fwd⟩, [], "RiPP-like"⟩]

/-- the shape the property forbids (the loop without the re-sort): the order of the SINGLE
    candidates — which becomes candidate 2 and which 3 — follows the iteration order of the set;
    the code's loop gives one answer on the same input -/
theorem formation_unsorted_singles_witness :
    candSummary (formationUnsortedE id promotedPair none) ≠ candSummary (formationUnsortedE List.reverse promotedPair none) ∧
    candSummary (formationE id promotedPair none) = candSummary (formationE List.reverse promotedPair none) ∧
    candSummary (formationE id promotedPair none) =
      some [(.hybrid, [0, 1, 3, 2]), (.single, [3]), (.single, [2])] := by decide +kernel

/-! ## area formation: `Record.create_regions` (C06's model `ASV.Regions`) -/
open ASV.Regions

/-- the merge of the last section into the first over the origin takes the areas in LIST order:
    C06's `sectionsOf` is `sectionsOfE` with the identity enumerator (no set is involved) -/
theorem create_regions_merge_is_list_order (wrap : Option Int) (cands subs : List Regions.Feat) :
    sectionsOfE id wrap cands subs = sectionsOf wrap cands subs :=
  sectionsOf_is_list_order wrap cands subs

/-- the ORDERED sections (= regions, each with its areas in order) are a function of the multiset
    of candidate clusters and subregions.  H (`SeparatingKey`): on these areas `CDSCollection.__lt__`
    is the strict order of a key that separates them. -/
theorem create_regions_order_is_function_of_multiset_partial (wrap : Option Int) (key : Regions.Feat → Int × Int)
    (c₁ s₁ c₂ s₂ : List Regions.Feat) (h : SeparatingKey key (c₁ ++ s₁)) (hp : (c₁ ++ s₁).Perm (c₂ ++ s₂)) :
    sectionsOf wrap c₁ s₁ = sectionsOf wrap c₂ s₂ := by
  rw [← sectionsOf_is_list_order, ← sectionsOf_is_list_order]
  simp only [sectionsOfE, sortAreas_eq_of_perm h hp]

/-- on a linear record H is "no two areas have the same coordinates" -/
theorem create_regions_order_on_line (len : Int) (c₁ s₁ c₂ s₂ : List Regions.Feat)
    (hl : ∀ a ∈ c₁ ++ s₁, LineArea len a.loc)
    (hd : ∀ a ∈ c₁ ++ s₁, ∀ b ∈ c₁ ++ s₁, lineKey a.loc = lineKey b.loc → a = b)
    (hp : (c₁ ++ s₁).Perm (c₂ ++ s₂)) : sectionsOf none c₁ s₁ = sectionsOf none c₂ s₂ :=
  create_regions_order_is_function_of_multiset_partial none _ c₁ s₁ c₂ s₂ (separatingKey_line hl hd) hp

/-- the same on a CIRCULAR record as long as no area spans the origin (every area one part inside the
    record): `CDSCollection.__lt__` does not look at the wrap point, so H is again "no two areas have the
    same coordinates" — this covers the merge of the last section into the first over the origin -/
theorem create_regions_order_without_origin_spanning_areas_partial (wrap : Option Int) (len : Int)
    (c₁ s₁ c₂ s₂ : List Regions.Feat)
    (hl : ∀ a ∈ c₁ ++ s₁, LineArea len a.loc)
    (hd : ∀ a ∈ c₁ ++ s₁, ∀ b ∈ c₁ ++ s₁, lineKey a.loc = lineKey b.loc → a = b)
    (hp : (c₁ ++ s₁).Perm (c₂ ++ s₂)) : sectionsOf wrap c₁ s₁ = sectionsOf wrap c₂ s₂ :=
  create_regions_order_is_function_of_multiset_partial wrap _ c₁ s₁ c₂ s₂ (separatingKey_line hl hd) hp

/-- a circular record of 1000 bases, three candidates that do not span the origin, supplied in two orders -/
example : sectionIds (sectionsOf (some 1000) [⟨0, .cand, .simple ⟨100, 300, .fwd⟩, [], [], []⟩, ⟨1, .cand, .simple ⟨250, 400, .fwd⟩, [], [], []⟩,
      ⟨2, .cand, .simple ⟨700, 900, .fwd⟩, [], [], []⟩] []) = some [[0, 1], [2]] ∧
    sectionIds (sectionsOf (some 1000) [⟨2, .cand, .simple ⟨700, 900, .fwd⟩, [], [], []⟩, ⟨1, .cand, .simple ⟨250, 400, .fwd⟩, [], [], []⟩,
      ⟨0, .cand, .simple ⟨100, 300, .fwd⟩, [], [], []⟩] []) = some [[0, 1], [2]] := by decide +kernel

/-- **circular records with origin-spanning areas**: all areas well-formed areas of the ring (single parts
    inside the record, or two parts meeting at the origin), none a single part covering the whole record, no two
    with the same (first base counted round from the origin, length).  Then the ORDERED regions — including the
    merge of the last section into the first over the origin — are a function of the multiset of areas. -/
theorem create_regions_order_on_ring_partial (L : Int) (c₁ s₁ c₂ s₂ : List Regions.Feat)
    (hl : ∀ a ∈ c₁ ++ s₁, RingArea L a.loc)
    (hfull : ∀ a ∈ c₁ ++ s₁, ∀ p, a.loc = .simple p → ¬ (p.lo = 0 ∧ p.hi = L))
    (hd : ∀ a ∈ c₁ ++ s₁, ∀ b ∈ c₁ ++ s₁, ringKey L a.loc = ringKey L b.loc → a = b)
    (hp : (c₁ ++ s₁).Perm (c₂ ++ s₂)) : sectionsOf (some L) c₁ s₁ = sectionsOf (some L) c₂ s₂ :=
  create_regions_order_is_function_of_multiset_partial (some L) _ c₁ s₁ c₂ s₂ (separatingKey_ring hl hfull hd) hp

/-- … and so is the record after `create_regions(candidate_clusters, subregions)` -/
theorem create_regions_state_is_function_of_multiset_partial (s : Regions.State) (key : Regions.Feat → Int × Int)
    (c₁ s₁ c₂ s₂ : List Regions.Feat) (h : SeparatingKey key (c₁ ++ s₁)) (hc : c₁.Perm c₂) (hs : s₁.Perm s₂) :
    createRegionsOf s c₁ s₁ = createRegionsOf s c₂ s₂ := by
  have hp : (c₁ ++ s₁).Perm (c₂ ++ s₂) := hc.append hs
  have e1 : c₁.isEmpty = c₂.isEmpty := isEmpty_eq_of_same_members fun _ => hc.mem_iff
  have e2 : s₁.isEmpty = s₂.isEmpty := isEmpty_eq_of_same_members fun _ => hs.mem_iff
  simp only [createRegionsOf, e1, e2,
    create_regions_order_is_function_of_multiset_partial s.wrap key c₁ s₁ c₂ s₂ h hp]

/-- a circular record of 1000 bases: candidate 0 spans the origin, 1 lies far away, 2–4 lie before
    the origin and reach candidate 0 -/
def originMerge : List Regions.Feat :=
  [⟨0, .cand, .compound [⟨970, 1000, .fwd⟩, ⟨0, 30, .fwd⟩], [], [], []⟩,
   ⟨1, .cand, .simple ⟨400, 450, .fwd⟩, [], [], []⟩,
   ⟨2, .cand, .simple ⟨800, 980, .fwd⟩, [], [], []⟩,
   ⟨3, .cand, .simple ⟨845, 985, .fwd⟩, [], [], []⟩,
   ⟨4, .cand, .simple ⟨888, 982, .fwd⟩, [], [], []⟩]

/-- the shape the property forbids (`first_areas.extend(set(last_areas).difference(first_areas))`):
    the order of the candidates inside the merged region follows the set's iteration order; the
    code's list loop gives `[0, 2, 3, 4]` -/
theorem create_regions_set_merge_witness :
    sectionIds (sectionsOfE id (some 1000) originMerge []) ≠ sectionIds (sectionsOfE List.reverse (some 1000) originMerge []) ∧
    sectionIds (sectionsOf (some 1000) originMerge []) = some [[0, 2, 3, 4], [1]] := by decide +kernel

/-- the origin-merge layout (an origin-spanning candidate, one far away, three before the origin reaching it)
    meets the hypotheses -/
example : (∀ a : Regions.Feat, a ∈ originMerge → RingArea 1000 a.loc) ∧
    (∀ a : Regions.Feat, a ∈ originMerge → ∀ p : Part, a.loc = .simple p → ¬ (p.lo = 0 ∧ p.hi = 1000)) ∧
    (∀ a : Regions.Feat, a ∈ originMerge → ∀ b : Regions.Feat, b ∈ originMerge →
      ringKey 1000 a.loc = ringKey 1000 b.loc → a = b) := by
  refine ⟨?_, ?_, ?_⟩
  · intro a ha
    simp only [originMerge, List.mem_cons, List.mem_nil_iff, or_false] at ha
    rcases ha with rfl | rfl | rfl | rfl | rfl
    · exact Or.inr ⟨970, 30, rfl, by omega, by omega, by omega⟩
    all_goals exact Or.inl ⟨_, rfl, by simp, by simp, by simp⟩
  · intro a ha p hp
    simp only [originMerge, List.mem_cons, List.mem_nil_iff, or_false] at ha
    rcases ha with rfl | rfl | rfl | rfl | rfl <;> simp at hp <;> subst hp <;> simp
  · decide +kernel

/-- non-vacuity of the hypotheses: the promoted-pair layout has distinct tie keys, and permuting
    it leaves the ordered result alone -/
example : TieInj promotedPair := by
  unfold TieInj
  decide +kernel
example : candSummary (formation promotedPair.reverse none) = candSummary (formation promotedPair none) := by
  decide +kernel
example : sectionIds (sectionsOf (some 1000) originMerge.reverse []) = some [[0, 2, 3, 4], [1]] := by decide +kernel

end areas

end ASV.C17
