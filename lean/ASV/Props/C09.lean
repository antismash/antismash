/-
  C09 — annotations placed inside a gene cover the nucleotides that encode them.
  Property theorems only; helper lemmas live in ASV/Proofs/ProtDna.lean, ProtDnaRebuild.lean,
  ProtDnaFeature.lean, ProtDnaConvert.lean.

  All statements are for EVERY gene location satisfying `geneWF` (≥ 1 exon, no empty exon, one
  strand): any number of exons of any sizes, in any order (so: introns, origin-spanning genes,
  exons split by the origin, overlapping exons), either strand; and every range.  The model is of the
  tree with fixes D8, D8c, D9 applied (see design/C09.md); on the unrepaired tree the correspondence
  fails on the corpus witnesses.

  `bases l` = the gene's coordinates in transcription order (Spec/ProtDna.lean); `sliceL x a b = x[a:b]`.
-/
import ASV.Proofs.ProtDna
import ASV.Proofs.ProtDnaRebuild
import ASV.Proofs.ProtDnaFeature
import ASV.Proofs.ProtDnaConvert
namespace ASV.C09
open ASV ASV.ProtDna

/-- THE PROPERTY for domains/motifs/prepeptide sections (`Feature.get_sub_location_from_protein_coordinates`):
    for residues `[s,e)` inside the gene's product the call succeeds, and the returned location
    lists exactly nucleotides `[3s,3e)` of the gene in transcription order — hence three bases per
    residue — and every part of it is a non-empty piece of one exon on the gene's strand (so it lies
    inside the gene's location, and ranges starting/ending at exon borders never yield an empty part or
    a part of the wrong exon).  `coversSlice` is the same Bool the driver evaluates on implementation output. -/
theorem sub_is_slice (l : Loc) (hwf : geneWF l = true) (s e : Nat) (hse : s < e) (he : (e : Int) ≤ l.len / 3) :
    ∃ r, subLocation l s e = .ok r ∧
      bases r = sliceL (bases l) (3 * s) (3 * e) ∧
      (bases r).length = 3 * (e - s) ∧
      (∀ q ∈ r.parts, ∃ p ∈ l.parts, p.lo ≤ q.lo ∧ q.lo < q.hi ∧ q.hi ≤ p.hi ∧ q.strand = p.strand) ∧
      coversSlice l r (3 * s) (3 * e) = true := by
  obtain ⟨r, hr, hb, hi⟩ := subLocation_slice l hwf s e hse he
  have hlen := geneWF_len l hwf
  have hl : (bases r).length = 3 * e - 3 * s := by
    rw [hb, sliceL_length _ _ _ (by omega)]
  refine ⟨r, hr, hb, by omega, hi, ?_⟩
  unfold coversSlice
  rw [partsInside_of l r hi, hl, ← hb]
  simp

/-- … and extracting that location from the record and translating it gives exactly residues `[s,e)` of
    the gene's translation — for every sequence, complement function and genetic code -/
theorem sub_extract_translate {β γ} (seq : Int → β) (compl : β → β) (code : β × β × β → γ)
    (l : Loc) (hwf : geneWF l = true) (s e : Nat) (hse : s < e) (he : (e : Int) ≤ l.len / 3) :
    ∃ r, subLocation l s e = .ok r ∧
      extract seq compl r = sliceL (extract seq compl l) (3 * s) (3 * e) ∧
      translate code (extract seq compl r) = sliceL (translate code (extract seq compl l)) s e := by
  obtain ⟨r, hr, hb, hi⟩ := subLocation_slice l hwf s e hse he
  have hx := extract_slice seq compl l r hwf _ _ hb hi
  exact ⟨r, hr, hx, by rw [hx, translate_slice]⟩

/-- ranges not inside the product are refused (ValueError), never answered with a wrong location -/
theorem sub_refused (l : Loc) (s e : Int) (h : ¬ (0 ≤ s ∧ s < e ∧ e ≤ l.len / 3)) :
    subLocation l s e = .valueError := by
  unfold subLocation
  by_cases h1 : (!(decide (0 ≤ s) && decide (s ≤ l.len / 3 - 1))) = true
  · exact if_pos h1
  · rw [if_neg h1]
    by_cases h2 : (!(decide (1 ≤ e) && decide (e ≤ l.len / 3))) = true
    · exact if_pos h2
    · rw [if_neg h2]
      simp only [Bool.not_eq_true', Bool.not_eq_false, Bool.and_eq_true, decide_eq_true_eq] at h1 h2
      exact if_pos (by omega)

/-- the exon walk itself (`get_sub_location_from_offsets`, introduced by fix D8): nucleotide offsets
    `[a,b)` inside the gene give exactly `bases[a:b]`, parts inside exons -/
theorem offsets_is_slice (l : Loc) (hwf : geneWF l = true) (a b : Nat) (hab : a < b) (hb : (b : Int) ≤ l.len) :
    ∃ r, subLocationFromOffsets l a b = .ok r ∧ bases r = sliceL (bases l) a b ∧
      (∀ q ∈ r.parts, ∃ p ∈ l.parts, p.lo ≤ q.lo ∧ q.lo < q.hi ∧ q.hi ≤ p.hi ∧ q.strand = p.strand) :=
  subLocationFromOffsets_slice l hwf a b hab hb

/-- leader / core / tail of a precursor peptide (`Prepeptide.to_biopython`): the three sub-locations exist
    exactly when the peptide has that section, are consecutive slices of the gene, and together cover the
    translated part `bases[0 : 3·⌊len/3⌋]` -/
theorem prepeptide_partition (l : Loc) (hwf : geneWF l = true) (ld tl : Nat) (h : (ld : Int) + tl < l.len / 3) :
    ∃ a c b, prepeptideSections l ld tl = .ok (a, c, b) ∧
      (a = none ↔ ld = 0) ∧ (b = none ↔ tl = 0) ∧
      optBases a = sliceL (bases l) 0 (3 * ld) ∧
      bases c = sliceL (bases l) (3 * ld) (3 * ((l.len / 3).toNat - tl)) ∧
      optBases b = sliceL (bases l) (3 * ((l.len / 3).toNat - tl)) (3 * (l.len / 3).toNat) ∧
      optBases a ++ bases c ++ optBases b = (bases l).take (3 * (l.len / 3).toNat) := by
  obtain ⟨a, c, b, hm, ha0, hb0, ha, hc, hb, _⟩ := prepeptide_sections l hwf ld tl h
  have hpos := len_nonneg l hwf
  refine ⟨a, c, b, hm, ha0, hb0, ha, hc, hb, ?_⟩
  rw [ha, hc, hb, sliceL_three _ _ _ _ (by omega) (by omega)]

/-- a marked codon (`TTAResults.new_feature_from_other`, and the codon loop of `tta.detect`, after fix D9):
    the marker of the codon at nucleotide offset `off` covers exactly `bases[off : off+3]`, inside the gene;
    the only codons not marked are those whose location no secmet Feature can hold (two pieces ending at the
    same coordinate), which are refused / skipped — never misplaced -/
theorem tta_marker_is_codon (l : Loc) (hwf : geneWF l = true) (off : Nat) (h : (off : Int) + 3 ≤ l.len) :
    ∃ r, bases r = sliceL (bases l) off (off + 3) ∧
      (∀ q ∈ r.parts, ∃ p ∈ l.parts, p.lo ≤ q.lo ∧ q.lo < q.hi ∧ q.hi ≤ p.hi ∧ q.strand = p.strand) ∧
      ttaLocation l off = (if containsOverlappingExons r then .valueError else .ok r) ∧
      ttaDetectMarker l off = .ok (if containsOverlappingExons r then none else some r) := by
  obtain ⟨r, _, hb, hi, h1, h2⟩ := tta_marker l hwf off h
  exact ⟨r, hb, hi, h1, h2⟩

/-- a `codon_start` of `c` (`frameshift_location_by_qualifier`, as applied by `Feature.from_biopython`):
    under the code's own guard the shifted gene is the original minus its first `c-1` transcribed bases, on
    the same strand; it is again a well-formed gene when the first exon is longer than the shift, so
    `sub_is_slice` applies to it unchanged -/
theorem frameshift_drops_offset (l : Loc) (hwf : geneWF l = true) (c : Int) (hg : frameGuard l c false = true) :
    ∃ l', frameshift l c false = .ok l' ∧ bases l' = (bases l).drop (c - 1).toNat ∧ l'.strand = l.strand ∧
      (c - 1 < firstLen l → geneWF l' = true) := by
  obtain ⟨p, rest, h⟩ := List.exists_cons_of_ne_nil ((geneWF_iff l).mp hwf).1
  obtain ⟨q, hqs, hq, hf, hb, _⟩ := frameshift_shift l hwf p rest h c hg
  exact ⟨setFirst l q, hf, hb, setFirst_strand l p q rest h hqs,
    fun hlen => setFirst_wf l hwf p q rest h (hq hlen) hqs⟩

/-- `Feature.to_biopython` undoes the shift exactly (given that the undo's sanity assertion passes on the
    shifted location, which it does whenever its first exon is still the outermost one) -/
theorem frameshift_undo (l : Loc) (hwf : geneWF l = true) (c : Int) (hg : frameGuard l c false = true) :
    ∃ l', frameshift l c false = .ok l' ∧ (firstExonNotOuter l' = false → frameshift l' c true = .ok l) := by
  obtain ⟨p, rest, h⟩ := List.exists_cons_of_ne_nil ((geneWF_iff l).mp hwf).1
  obtain ⟨q, _, _, hf, _, hun⟩ := frameshift_shift l hwf p rest h c hg
  exact ⟨setFirst l q, hf, hun⟩

/-- outside that guard the shift is refused — an invalid qualifier or a first exon shorter than the shift
    with ValueError, nested exons with the code's AssertionError — never answered wrongly -/
theorem frameshift_refused (l : Loc) (hwf : geneWF l = true) (c : Int) (hg : frameGuard l c false = false) :
    frameshift l c false = .valueError ∨ frameshift l c false = .assertion := by
  by_cases hc : 1 ≤ c ∧ c ≤ 3
  · obtain ⟨p, rest, h⟩ := List.exists_cons_of_ne_nil ((geneWF_iff l).mp hwf).1
    have hg' : ¬ ((1 ≤ c ∧ c ≤ 3) ∧ (c = 1 ∨ (c - 1 ≤ firstLen l ∧ firstExonNotOuter l = false))) :=
      fun hh => by rw [(frameGuard_shift l c).mpr hh] at hg; cases hg
    rw [firstLen_eq l p rest h] at hg'
    rw [frameshift_value l hwf p rest h c ⟨by omega, hc.2⟩ false (c - 1) rfl]
    split
    · exact Or.inr rfl
    · rename_i hout
      split
      · exact Or.inl rfl
      · exact absurd ⟨hc, Or.inr ⟨by omega, by simpa using hout⟩⟩ hg'
  · exact Or.inl (frameshift_refuses l c false hc)


/-- THE WRITE-OUT / RE-READ CYCLE, repaired code (fix D107, `_combine_sections`): a prepeptide written with
    `to_biopython` and rebuilt by `Prepeptide.from_biopython` from its core feature gets a location `r` that lists
    exactly the gene's translated bases `bases l [0 : 3⌊len/3⌋]` in transcription order and is again a
    well-formed gene — for every gene shape (several exons, reverse strand, origin-spanning, overlapping exons) —
    and positioning leader/core/tail AGAIN from the rebuilt prepeptide gives the same slices of the ORIGINAL
    gene.  The only refusal is the constructor's (two exons of `r` ending at the same coordinate). -/
theorem prepeptide_rebuild_repaired (l : Loc) (hwf : geneWF l = true) (ld tl : Nat) (h : (ld : Int) + tl < l.len / 3) :
    ∃ r, bases r = (bases l).take (3 * (l.len / 3).toNat) ∧ geneWF r = true ∧
      prepeptideRebuild true l ld tl = (if containsOverlappingExons r then .valueError else .ok r) ∧
      ∃ a c b, prepeptideSections r ld tl = .ok (a, c, b) ∧
        (a = none ↔ ld = 0) ∧ (b = none ↔ tl = 0) ∧
        optBases a = sliceL (bases l) 0 (3 * ld) ∧
        bases c = sliceL (bases l) (3 * ld) (3 * ((l.len / 3).toNat - tl)) ∧
        optBases b = sliceL (bases l) (3 * ((l.len / 3).toNat - tl)) (3 * (l.len / 3).toNat) :=
  rebuild_cycle l hwf ld tl h (rebuildLocation true) fun x _ hne hok => combineSections_ok l.strand _ hne hok

/-- the same for the UNREPAIRED code (`build_location_from_others`), which is only right when each of its merges
    joins parts that really adjoin.  Full statement (false, see the witness below):
      `∀ l ld tl, geneWF l → ld + tl < len/3 → <conclusion of prepeptide_rebuild_repaired with `false`>`.
    Missing part = the hypothesis `rebuildSound l ld tl` (class predicate of KF-C09-prepeptide-false-merge: it
    fails only for genes whose exons are not listed in coordinate order). -/
theorem prepeptide_rebuild_unrepaired_partial (l : Loc) (hwf : geneWF l = true) (ld tl : Nat)
    (h : (ld : Int) + tl < l.len / 3) (hs : rebuildSound l ld tl = true) :
    ∃ r, bases r = (bases l).take (3 * (l.len / 3).toNat) ∧ geneWF r = true ∧
      prepeptideRebuild false l ld tl = (if containsOverlappingExons r then .valueError else .ok r) ∧
      ∃ a c b, prepeptideSections r ld tl = .ok (a, c, b) ∧
        (a = none ↔ ld = 0) ∧ (b = none ↔ tl = 0) ∧
        optBases a = sliceL (bases l) 0 (3 * ld) ∧
        bases c = sliceL (bases l) (3 * ld) (3 * ((l.len / 3).toNat - tl)) ∧
        optBases b = sliceL (bases l) (3 * ((l.len / 3).toNat - tl)) (3 * (l.len / 3).toNat) :=
  rebuild_cycle l hwf ld tl h (rebuildLocation false) fun x hx hne hok =>
    rebuildUnrepaired_ok l.strand _ hne hok (by simpa [rebuildSound, hx] using hs)

/-- partial genes (NCBI `<`/`>` positions): when the gene's 3' end is ambiguous (`amb`), a protein end beyond the
    product is truncated to the product — the annotation then covers exactly `bases[3s : 3⌊len/3⌋]`; in every other
    situation (exact end, or an end inside the product) the call is the ordinary one, so `sub_is_slice`,
    `sub_extract_translate` and `sub_refused` apply verbatim -/
theorem sub_partial_gene (l : Loc) (hwf : geneWF l = true) (s : Nat) (e : Int) :
    (∀ amb, (e ≤ l.len / 3 ∨ amb = false) → subLocationFuzzy amb l s e = subLocation l s e) ∧
    ((s : Int) < l.len / 3 → l.len / 3 < e →
      ∃ r, subLocationFuzzy true l s e = .ok r ∧
        bases r = sliceL (bases l) (3 * s) (3 * (l.len / 3).toNat) ∧
        coversSlice l r (3 * s) (3 * (l.len / 3).toNat) = true) := by
  refine ⟨fun amb h => subLocationFuzzy_eq amb l s e h, fun hs he => ?_⟩
  have hpos := len_nonneg l hwf
  obtain ⟨r, hr, hb, _, _, hc⟩ := sub_is_slice l hwf s (l.len / 3).toNat (by omega) (by omega)
  refine ⟨r, ?_, hb, hc⟩
  rw [subLocationFuzzy_truncates l s e (by omega) hs he]
  have : ((l.len / 3).toNat : Int) = l.len / 3 := by omega
  rw [← this]; exact hr

/-- the `codon_start` qualifier as GenBank text: only its first character counts; a digit behaves as that
    number (so `frameshift_drops_offset` / `frameshift_refused` apply), anything else is refused -/
theorem frameshift_text (l : Loc) (raw : String) (undo : Bool) :
    (∀ c, codonStartOfText raw = some c → frameshiftText l raw undo = frameshift l c undo) ∧
    (codonStartOfText raw = none → frameshiftText l raw undo = .valueError) := by
  constructor
  · intro c hc; simp [frameshiftText, hc]
  · intro hc; simp [frameshiftText, hc]

/-- `convert_protein_position_to_dna` itself (the public `Location` method; since fix D8 only the simple-location
    branch feeds an annotation).  Full statement — "for every well-formed gene the pair delimits the range's
    bases" — is FALSE for compound locations whose list order is not the coordinate order (origin-spanning genes:
    witness below; the suite pins the sorted reading).  Proved part: exons listed upwards without overlap on a
    non-reverse strand (`ascDisjointB`): the pair is (coordinate of base 3s, coordinate of base 3e-1, plus 1). -/
theorem convert_compound_forward_partial (ps : List Part) (hwf : geneWF (.compound ps) = true)
    (hnr : isRev (.compound ps) = false) (hasc : ascDisjointB ps = true) (s e : Nat) (hse : s < e)
    (he : (e : Int) ≤ (Loc.compound ps).len / 3) :
    ∃ ds de, convertProteinToDna s e (.compound ps) = .ok (ds, de) ∧
      (bases (.compound ps))[3 * s]? = some ds ∧ (bases (.compound ps))[3 * e - 1]? = some (de - 1) ∧ ds < de := by
  obtain ⟨p0, rest, rfl⟩ := List.exists_cons_of_ne_nil ((geneWF_iff _).mp hwf).1
  have hstr := compound_parts _ hwf false hnr
  have hpos : ∀ p ∈ p0 :: rest, p.lo < p.hi := fun p hp => (hstr p hp).1
  have hlen : (Loc.compound (p0 :: rest)).len = totalLen (p0 :: rest) := rfl
  have hg := convert_guard _ s e hse he
  rw [hlen] at he
  have hstart := start_of_asc p0 rest hpos hasc
  obtain ⟨hc, hlt⟩ := convert_compound_walk (p0 :: rest) p0 rest (sortParts_asc _ hpos hasc) (fun _ h => h) hpos hasc
    s e (3 * s) (3 * e) hg (by rw [hnr, hstart, if_neg Bool.false_ne_true, Int.mul_comm])
    (by rw [hnr, hstart, if_neg Bool.false_ne_true, Int.mul_comm]) (by omega) (by omega) (by omega)
  refine ⟨_, _, hc, ?_, ?_, hlt⟩
  · exact bases_getElem_fwd (p0 :: rest) hstr (3 * s) (by omega)
  · have := bases_getElem_fwd (p0 :: rest) hstr (3 * e - 1) (by omega)
    have e3 : ((3 * e - 1 : Nat) : Int) = 3 * (e : Int) - 1 := by omega
    rw [e3] at this
    rw [Int.add_sub_cancel]
    exact this

/-- … and on the reverse strand with exons listed downwards without overlap (`descDisjointB`): `dna_start` is the
    coordinate of the range's LAST base (3e-1), `dna_end` one past the coordinate of its FIRST base (3s) -/
theorem convert_compound_reverse_partial (ps : List Part) (hwf : geneWF (.compound ps) = true)
    (hr : isRev (.compound ps) = true) (hdesc : descDisjointB ps = true) (s e : Nat) (hse : s < e)
    (he : (e : Int) ≤ (Loc.compound ps).len / 3) :
    ∃ ds de, convertProteinToDna s e (.compound ps) = .ok (ds, de) ∧
      (bases (.compound ps))[3 * e - 1]? = some ds ∧ (bases (.compound ps))[3 * s]? = some (de - 1) ∧ ds < de := by
  have hstr := compound_parts ps hwf true hr
  have hpos : ∀ p ∈ ps, p.lo < p.hi := fun p hp => (hstr p hp).1
  have hlen : (Loc.compound ps).len = totalLen ps := rfl
  have hg := convert_guard _ s e hse he
  rw [hlen] at he
  -- the code sorts the exons upwards, which here is the reversed list; counted along it, the range's last base
  -- (3e-1 in transcription order) is at offset `totalLen - 3e` and one past its first base at `totalLen - 3s`
  have hsort := sortParts_desc ps hpos hdesc
  have hasc := ascDisjointB_reverse ps hpos hdesc
  have htot := totalLen_reverse ps
  have hne' : ps ≠ [] := ((geneWF_iff _).mp hwf).1
  obtain ⟨r0, rrest, hR⟩ := List.exists_cons_of_ne_nil (mt List.reverse_eq_nil_iff.mp hne')
  rw [hR] at hasc htot hsort
  have hmem : ∀ p ∈ r0 :: rrest, p ∈ ps := fun p hp => List.mem_reverse.mp (by rw [hR]; exact hp)
  have hposR : ∀ p ∈ r0 :: rrest, p.lo < p.hi := fun p hp => hpos p (hmem p hp)
  have hstart : (Loc.compound ps).start = r0.lo := by
    have hperm : ((r0 :: rrest).map (·.lo)).Perm (ps.map (·.lo)) := by
      rw [← hR]; exact (List.reverse_perm ps).map _
    show minList (ps.map (·.lo)) = r0.lo
    rw [← minList_perm hperm]
    exact start_of_asc r0 rrest hposR hasc
  obtain ⟨hc, hlt⟩ := convert_compound_walk ps r0 rrest hsort hmem hposR hasc s e
    (totalLen ps - 3 * e) (totalLen ps - 3 * s) hg
    (by rw [hr, hstart, hlen, if_pos rfl, Int.add_sub_assoc, Int.mul_comm])
    (by rw [hr, hstart, hlen, if_pos rfl, Int.add_sub_assoc, Int.mul_comm]) (by omega) (by omega) (by omega)
  refine ⟨_, _, hc, ?_, ?_, hlt⟩
  · have := bases_getElem_rev ps hstr (3 * e - 1) (by omega)
    have e4 : totalLen ps - 1 - ((3 * e - 1 : Nat) : Int) = totalLen ps - 3 * (e : Int) := by omega
    rw [hR, e4] at this
    exact this
  · have := bases_getElem_rev ps hstr (3 * s) (by omega)
    have e5 : totalLen ps - 1 - ((3 * s : Nat) : Int) = totalLen ps - 3 * (s : Int) - 1 := by omega
    rw [hR, e5] at this
    rw [Int.add_sub_cancel]
    exact this

/-- simple locations: exact, both strands -/
theorem convert_simple_location (p : Part) (s e : Int) (h0 : 0 ≤ s) (hse : s < e) (he : e ≤ (p.hi - p.lo) / 3) :
    convertProteinToDna s e (.simple p)
      = .ok (if p.strand == .rev then (p.hi - e * 3, p.hi - s * 3) else (p.lo + s * 3, p.lo + e * 3)) := by
  rw [convert_simple_ends p s e h0 hse he]
  cases (p.strand == Strand.rev)
  · rfl
  · rfl

/-- THE GENE'S OWN TABLE (`CDSFeature.from_biopython` for a CDS without a usable /translation, reached through
    `Record.from_biopython`): the translation antiSMASH stores is generated under `T = cdsTable recordTable qual` —
    the CDS's own /transl_table when it has one, the record's otherwise — which is also the gene's `transl_table`
    attribute.  Hence, for every genetic-code family `code`, every sub-location for residues `[s,e)`, `1 ≤ s`,
    up to the first stop, translated under the gene's OWN table, is exactly that stretch of the stored translation
    (residue 0 is the start codon, always shown as `M`: `forceMet`).  A translation generated under any other table
    (the seeded change: the record's default) falsifies this as soon as the tables differ in a codon of the range. -/
theorem cds_translation_own_table {β} (seq : Int → β) (compl : β → β) (code : Nat → β × β × β → Char)
    (l : Loc) (hwf : geneWF l = true) (recordTable : Nat) (qual : Option Nat) (s e : Nat) (hs : 1 ≤ s) (hse : s < e)
    (he : (e : Int) ≤ l.len / 3)
    (hclean : ∀ c ∈ (translate (code (cdsTable recordTable qual)) (extract seq compl l)).take e,
      "*BJOUZ".toList.contains c = false) :
    ∃ r, subLocation l s e = .ok r ∧
      translate (code (cdsTable recordTable qual)) (extract seq compl r)
        = sliceL (cdsGeneratedTranslation (fun t => translate (code t) (extract seq compl l)) recordTable qual) s e := by
  obtain ⟨r, hr, _, ht⟩ := sub_extract_translate seq compl (code (cdsTable recordTable qual)) l hwf s e hse he
  refine ⟨r, hr, ?_⟩
  rw [ht]
  unfold cdsGeneratedTranslation
  rw [sliceL_forceMet _ s e hs]
  apply sliceL_of_take_eq
  symm
  apply aaTranslation_take _ e (by omega) _ hclean
  have hl := extract_length seq compl l hwf
  simp only [translate, List.length_map, codons_length]
  omega

/-- FEATURES READ BACK (`Record.to_biopython` → `Record.from_biopython`, results reuse / GenBank re-read) on a record
    that can be circular: the origin test the reader makes (`location_bridges_origin`, `allow_reversing=False`) answers
    without touching the location (1); a gene, motif, domain or prepeptide section keeps its location exactly (2), so
    every theorem above about `subLocation` / `prepeptideSections` / `prepeptideRebuild` holds verbatim for the re-read
    feature; a misc_feature (TTA marker) keeps it when it does not bridge the origin (3) and when it is split in two over
    the origin with neither piece inside the other (4) — `remove_redundant_exons` finds nothing redundant.
    The seeded change (asking with `allow_reversing=True`) falsifies (1)/(2): see the witness below. -/
theorem read_back_keeps_location (c : Bool) (l : Loc) :
    bridgesOriginAR false l = (bridgesOrigin l, l) ∧
    readLocation c false l = l ∧
    (∀ m, bridgesOrigin l = false → readLocation c m l = l) ∧
    (∀ p q, l = .compound [p, q] → partContains p q = false → partContains q p = false → readLocation c true l = l) := by
  refine ⟨bridgesOriginAR_false l, readLocation_other c l, fun m h => readLocation_not_bridging c m l h, ?_⟩
  intro p q hl h1 h2
  subst hl
  simp only [readLocation, bridgesOriginAR_false]
  split <;> simp [removeRedundant_two p q h1 h2]

/-- … hence a re-read annotation still covers the nucleotides that encode it: the sub-location for residues `[s,e)`
    written out and read back (as CDS_motif / aSDomain / prepeptide section) lists `bases l [3s:3e]` and translates to
    that stretch of the gene's translation; the re-read gene lists `bases l` -/
theorem read_back_sub_feature {β γ} (seq : Int → β) (compl : β → β) (code : β × β × β → γ)
    (c : Bool) (l : Loc) (hwf : geneWF l = true) (s e : Nat) (hse : s < e) (he : (e : Int) ≤ l.len / 3) :
    bases (readLocation c false l) = bases l ∧
    ∃ r, subLocation l s e = .ok r ∧
      bases (readLocation c false r) = sliceL (bases l) (3 * s) (3 * e) ∧
      translate code (extract seq compl (readLocation c false r)) = sliceL (translate code (extract seq compl l)) s e := by
  obtain ⟨r, hr, hb, _⟩ := sub_is_slice l hwf s e hse he
  obtain ⟨r', hr', _, ht⟩ := sub_extract_translate seq compl code l hwf s e hse he
  rw [hr] at hr'; cases hr'
  exact ⟨by rw [readLocation_other], r, hr, by rw [readLocation_other]; exact hb, by rw [readLocation_other]; exact ht⟩

/-- `frameshift_undo` without its side hypothesis for single-exon genes: `Feature.to_biopython` restores the location
    of every single-exon gene read with a `codon_start` (the shifted location is again single-exon, where the undo's
    sanity assertion does not exist) -/
theorem frameshift_undo_single_exon (p : Part) (hwf : geneWF (.simple p) = true) (c : Int)
    (hg : frameGuard (.simple p) c false = true) :
    ∃ l', frameshift (.simple p) c false = .ok l' ∧ frameshift l' c true = .ok (.simple p) := by
  obtain ⟨q, _, _, hf, _, hun⟩ := frameshift_shift (.simple p) hwf p [] rfl c hg
  exact ⟨.simple q, hf, hun rfl⟩

/-- `Feature.start` / `Feature.end` (used wherever a gene's ends are needed: ordering, overlap, html): they are the
    gene's ends in TRANSCRIPTION order for every well-formed gene, origin-spanning or not — on a non-reverse strand
    the first transcribed base is `start`, the last `end - 1`; on the reverse strand the first is `end - 1`, the last `start` -/
theorem feature_start_end_are_gene_ends (l : Loc) (hwf : geneWF l = true) :
    (isRev l = false → (bases l).head? = some (featureStart l) ∧ (bases l).getLast? = some (featureEnd l - 1)) ∧
    (isRev l = true → (bases l).head? = some (featureEnd l - 1) ∧ (bases l).getLast? = some (featureStart l)) := by
  have h := feature_ends l hwf
  constructor
  · intro hr
    rw [hr] at h
    exact h
  · intro hr
    rw [hr] at h
    exact h

/-- the refusal clause of `tta_marker_is_codon` discharged for forward genes in the standard exon order (exons listed
    upwards without overlap, `ascDisjointB`): no codon (and no nucleotide range at all) of such a gene has a location
    the Feature constructor refuses, so EVERY in-frame TTA codon is marked, at exactly its three bases -/
theorem tta_marker_forward_standard_gene (l : Loc) (hwf : geneWF l = true) (hnr : isRev l = false)
    (hasc : ascDisjointB l.parts = true) (off : Nat) (h : (off : Int) + 3 ≤ l.len) :
    ∃ r, bases r = sliceL (bases l) off (off + 3) ∧ ttaLocation l off = .ok r ∧
      ttaDetectMarker l off = .ok (some r) :=
  tta_marker_standard l hwf (by rw [hnr]; exact hasc) off h

/-- mirror of `tta_marker_forward_standard_gene` for reverse-strand genes in their standard exon order (exons listed
    downwards without overlap, `descDisjointB`): every in-frame TTA codon is marked, at exactly its three bases -/
theorem tta_marker_reverse_standard_gene (l : Loc) (hwf : geneWF l = true) (hr : isRev l = true)
    (hdesc : descDisjointB l.parts = true) (off : Nat) (h : (off : Int) + 3 ≤ l.len) :
    ∃ r, bases r = sliceL (bases l) off (off + 3) ∧ ttaLocation l off = .ok r ∧
      ttaDetectMarker l off = .ok (some r) :=
  tta_marker_standard l hwf (by rw [hr]; exact hdesc) off h

/-- domains / motifs / pfam hits on a gene in the standard exon order of its strand (single-exon genes included): the
    feature built from the sub-location for residues `[s,e)` is NEVER refused by the Feature constructor, and covers
    `bases l [3s:3e]` — the `unrepresentable` refusal can only happen for overlapping or origin-spanning exons -/
theorem annotation_standard_gene_never_refused (l : Loc) (hwf : geneWF l = true)
    (hstd : (isRev l = false ∧ ascDisjointB l.parts = true) ∨ (isRev l = true ∧ descDisjointB l.parts = true))
    (s e : Nat) (hse : s < e) (he : (e : Int) ≤ l.len / 3) :
    ∃ r, featureAt (subLocation l s e) = .ok r ∧ bases r = sliceL (bases l) (3 * s) (3 * e) := by
  obtain ⟨r, hr, hb, _⟩ := subLocation_slice l hwf s e hse he
  have hstd' : stdOrder (isRev l) l.parts = true := by
    rcases hstd with ⟨h1, h2⟩ | ⟨h1, h2⟩
    · rw [h1]
      exact h2
    · rw [h1]
      exact h2
  have hno := subLocation_standard_no_overlap l hwf hstd' s e
    ⟨Int.natCast_nonneg s, Int.ofNat_lt.mpr hse, he⟩ r hr
  refine ⟨r, ?_, hb⟩
  rw [hr, featureAt, Res.bind, hno]
  rfl

/-! ### non-vacuity and witnesses (all decided by the kernel on the model) -/

/-- D8 witnesses on the repaired tree: the origin-spanning forward gene join{[90:102),[0:21)} and its reverse twin -/
def d8Fwd : Loc := .compound [⟨90, 102, .fwd⟩, ⟨0, 21, .fwd⟩]
def d8Rev : Loc := .compound [⟨0, 21, .rev⟩, ⟨90, 102, .rev⟩]
example : geneWF d8Fwd = true ∧ geneWF d8Rev = true := by decide +kernel
example : subLocation d8Fwd 0 2 = .ok (.simple ⟨90, 96, .fwd⟩) := by decide +kernel
example : subLocation d8Fwd 3 6 = .ok (.compound [⟨99, 102, .fwd⟩, ⟨0, 6, .fwd⟩]) := by decide +kernel
example : subLocation d8Rev 0 2 = .ok (.simple ⟨15, 21, .rev⟩) := by decide +kernel
example : subLocation d8Rev 4 8 = .ok (.compound [⟨0, 9, .rev⟩, ⟨99, 102, .rev⟩]) := by decide +kernel
example : bases (.compound [⟨0, 3, .rev⟩, ⟨8, 10, .rev⟩]) = [2, 1, 0, 9, 8] := by decide +kernel
/-- overlapping exons (a ribosomal frameshift): residues [2,4) of join{[10:16),[15:18),[30:40)} -/
example : subLocation (.compound [⟨10, 16, .fwd⟩, ⟨15, 18, .fwd⟩, ⟨30, 40, .fwd⟩]) 2 4
    = .ok (.compound [⟨15, 18, .fwd⟩, ⟨30, 33, .fwd⟩]) := by decide +kernel
/-- a range ending exactly at an exon border stays in that exon; one starting there starts the next -/
example : subLocation (.compound [⟨0, 6, .fwd⟩, ⟨12, 15, .fwd⟩, ⟨21, 27, .fwd⟩]) 0 2 = .ok (.simple ⟨0, 6, .fwd⟩) := by decide +kernel
example : subLocation (.compound [⟨0, 6, .fwd⟩, ⟨12, 15, .fwd⟩, ⟨21, 27, .fwd⟩]) 2 4
    = .ok (.compound [⟨12, 15, .fwd⟩, ⟨21, 24, .fwd⟩]) := by decide +kernel
/-- the refusals -/
example : subLocation d8Fwd 0 12 = .valueError ∧ subLocation d8Fwd 3 3 = .valueError
    ∧ subLocation d8Fwd (-1) 2 = .valueError := by decide +kernel
/-- D9 witness on the repaired tree: a codon split over two exons, and one in the second exon of a reverse gene -/
example : ttaLocation (.compound [⟨3, 10, .fwd⟩, ⟨20, 31, .fwd⟩]) 6
    = .ok (.compound [⟨9, 10, .fwd⟩, ⟨20, 22, .fwd⟩]) := by decide +kernel
example : ttaLocation (.compound [⟨20, 31, .rev⟩, ⟨3, 10, .rev⟩]) 12 = .ok (.simple ⟨6, 9, .rev⟩) := by decide +kernel
/-- the one refusal class: a codon over exons overlapping so that two pieces end at the same coordinate -/
example : ttaLocation (.compound [⟨2, 9, .rev⟩, ⟨0, 3, .rev⟩, ⟨10, 16, .rev⟩]) 6 = .valueError
    ∧ ttaDetectMarker (.compound [⟨2, 9, .rev⟩, ⟨0, 3, .rev⟩, ⟨10, 16, .rev⟩]) 6 = .ok none := by decide +kernel
/-- D8c witnesses on the repaired tree: codon_start on origin-spanning genes; and the guard's three failure modes -/
example : frameshift d8Fwd 2 false = .ok (.compound [⟨91, 102, .fwd⟩, ⟨0, 21, .fwd⟩]) := by decide +kernel
example : frameshift d8Rev 3 false = .ok (.compound [⟨0, 19, .rev⟩, ⟨90, 102, .rev⟩]) := by decide +kernel
example : frameGuard d8Fwd 2 false = true ∧ frameGuard d8Rev 3 false = true := by decide +kernel
example : frameshift d8Fwd 4 false = .valueError ∧ frameshift (.simple ⟨5, 6, .fwd⟩) 3 false = .valueError
    ∧ frameshift (.compound [⟨10, 12, .rev⟩, ⟨5, 30, .rev⟩]) 2 false = .assertion := by decide +kernel
/-- prepeptide on the origin-spanning gene: leader 3, tail 2 of 11 residues -/
example : prepeptideSections d8Fwd 3 2 = .ok (some (.simple ⟨90, 99, .fwd⟩),
    .compound [⟨99, 102, .fwd⟩, ⟨0, 15, .fwd⟩], some (.simple ⟨15, 21, .fwd⟩)) := by decide +kernel

/-- the seeded change's shape, on the repaired model: a reverse two-exon gene and the reverse origin-spanning gene
    come back as themselves (leader 2 / tail 2, leader 3 / tail 2) -/
example : prepeptideRebuild true (.compound [⟨50, 60, .rev⟩, ⟨30, 41, .rev⟩]) 2 2
    = .ok (.compound [⟨50, 60, .rev⟩, ⟨30, 41, .rev⟩]) := by decide +kernel
example : prepeptideRebuild true d8Rev 3 2 = .ok d8Rev := by decide +kernel
example : prepeptideRebuild true (.simple ⟨30, 60, .rev⟩) 3 3 = .ok (.simple ⟨30, 60, .rev⟩) := by decide +kernel
/-- unrepaired code on the same genes: same bases, more parts (C10's KF-C10-reverse-prepeptide-location) -/
example : prepeptideRebuild false (.simple ⟨30, 60, .rev⟩) 3 3
    = .ok (.compound [⟨51, 60, .rev⟩, ⟨39, 51, .rev⟩, ⟨30, 39, .rev⟩]) := by decide +kernel
example : rebuildSound d8Rev 3 2 = true ∧ rebuildSound (.compound [⟨50, 60, .rev⟩, ⟨30, 41, .rev⟩]) 2 2 = true := by decide +kernel
/-- negation witness of the full unrepaired statement (KF-C09-prepeptide-false-merge): exons not in coordinate
    order; the hypothesis fails and the rebuilt location has 31 bases instead of the gene's 15 -/
def kfShuffled : Loc := .compound [⟨16, 22, .rev⟩, ⟨0, 6, .rev⟩, ⟨22, 25, .rev⟩]
example : geneWF kfShuffled = true ∧ rebuildSound kfShuffled 1 1 = false := by decide +kernel
example : prepeptideRebuild false kfShuffled 1 1
    = .ok (.compound [⟨19, 22, .rev⟩, ⟨16, 19, .rev⟩, ⟨0, 25, .rev⟩]) := by decide +kernel
example : prepeptideRebuild true kfShuffled 1 1 = .ok kfShuffled := by decide +kernel

/-- partial gene `[10:>40)`: residues [8, 12) are cut back to [8, 10); with an exact end they are refused -/
example : subLocationFuzzy (ambiguousEnd (.simple ⟨10, 40, .fwd⟩) [(false, true)]) (.simple ⟨10, 40, .fwd⟩) 8 12
    = .ok (.simple ⟨34, 40, .fwd⟩) := by decide +kernel
example : subLocationFuzzy (ambiguousEnd (.simple ⟨10, 40, .fwd⟩) [(false, false)]) (.simple ⟨10, 40, .fwd⟩) 8 12
    = .valueError := by decide +kernel
/-- reverse partial gene `[<3:27)` in two exons: the open end is the START of the lowest exon -/
example : ambiguousEnd (.compound [⟨21, 27, .rev⟩, ⟨3, 15, .rev⟩]) [(false, false), (true, false)] = true
    ∧ ambiguousEnd (.compound [⟨21, 27, .rev⟩, ⟨3, 15, .rev⟩]) [(false, true), (false, false)] = false := by decide +kernel
example : codonStartOfText "2" = some 2 ∧ codonStartOfText "3x" = some 3 ∧ codonStartOfText "2.0" = some 2
    ∧ codonStartOfText " 2" = none ∧ codonStartOfText "-1" = none := by decide +kernel

/-- `convert_*_partial`: hypotheses satisfiable, and the negation witness of the full statement (D8's origin gene:
    the pair (0,6) is not where residues [0,2) are — base 0 of the gene is coordinate 90) -/
example : ascDisjointB [⟨0, 6, .fwd⟩, ⟨12, 15, .fwd⟩, ⟨21, 27, .fwd⟩] = true
    ∧ descDisjointB [⟨21, 27, .rev⟩, ⟨12, 15, .rev⟩, ⟨0, 6, .rev⟩] = true ∧ ascDisjointB d8Fwd.parts = false := by decide +kernel
example : convertProteinToDna 1 5 (.compound [⟨0, 6, .fwd⟩, ⟨12, 15, .fwd⟩, ⟨21, 27, .fwd⟩]) = .ok (3, 27) := by decide +kernel
example : convertProteinToDna 1 5 (.compound [⟨21, 27, .rev⟩, ⟨12, 15, .rev⟩, ⟨0, 6, .rev⟩]) = .ok (0, 24) := by decide +kernel
example : convertProteinToDna 0 2 d8Fwd = .ok (0, 6) ∧ (bases d8Fwd)[0]? = some 90 := by decide +kernel

/-- the seed's witness in the model: `ATG AAA TGA CCC …` — under the gene's table 4 `TGA` is `W` and the stored
    translation runs on; under the record's table 11 it would stop after `MK` -/
example : cdsTable 11 (some 4) = 4 ∧ cdsTable 11 none = 11 := by decide +kernel
example : cdsGeneratedTranslation (fun t => if t = 4 then "MKWPGFTCHL*".toList else "MK*PGFTCHL*".toList) 11 (some 4)
    = "MKWPGFTCHL".toList := by decide +kernel
example : cdsGeneratedTranslation (fun t => if t = 4 then "MKWPGFTCHL*".toList else "MK*PGFTCHL*".toList) 11 none
    = "MK".toList := by decide +kernel
/-- alternate start codon shown as M; a gene that is nothing but a stop comes back as X -/
example : cdsGeneratedTranslation (fun _ => "LKW*".toList) 1 none = "MKW".toList
    ∧ aaTranslation "*".toList = "X".toList := by decide +kernel

/-- the seeded change in the model: asked with `allow_reversing=True`, the helper leaves the exons of the reverse
    origin-spanning gene (and of a TTA marker split over the origin) REVERSED — other bases order; asked without, nothing moves -/
example : bridgesOriginAR true d8Rev = (false, .compound [⟨90, 102, .rev⟩, ⟨0, 21, .rev⟩])
    ∧ bridgesOriginAR false d8Rev = (true, d8Rev) := by decide +kernel
example : (bases (bridgesOriginAR true (.compound [⟨0, 1, .rev⟩, ⟨58, 60, .rev⟩])).2 = [59, 58, 0])
    ∧ bases (.compound [⟨0, 1, .rev⟩, ⟨58, 60, .rev⟩]) = [0, 59, 58] := by decide +kernel
example : readLocation true true (.compound [⟨0, 1, .rev⟩, ⟨58, 60, .rev⟩]) = .compound [⟨0, 1, .rev⟩, ⟨58, 60, .rev⟩] := by decide +kernel

/-- `Feature.start/end` of the origin-spanning genes: 90 / 21 forward, and 90 / 21 on the reverse twin -/
example : featureStart d8Fwd = 90 ∧ featureEnd d8Fwd = 21 ∧ featureStart d8Rev = 90 ∧ featureEnd d8Rev = 21 := by decide +kernel
example : frameGuard (.simple ⟨5, 20, .rev⟩) 3 false = true
    ∧ frameshift (.simple ⟨5, 20, .rev⟩) 3 false = .ok (.simple ⟨5, 18, .rev⟩) := by decide +kernel

/-- hypotheses of `tta_marker_forward_standard_gene` on a two-exon gene, codon split over the two exons -/
example : ascDisjointB [⟨3, 10, .fwd⟩, ⟨20, 31, .fwd⟩] = true
    ∧ ttaDetectMarker (.compound [⟨3, 10, .fwd⟩, ⟨20, 31, .fwd⟩]) 6 = .ok (some (.compound [⟨9, 10, .fwd⟩, ⟨20, 22, .fwd⟩])) := by decide +kernel

/-- hypotheses of the reverse-strand results on a two-exon gene; the refusal really needs overlapping exons -/
example : descDisjointB [⟨20, 31, .rev⟩, ⟨3, 10, .rev⟩] = true
    ∧ ttaDetectMarker (.compound [⟨20, 31, .rev⟩, ⟨3, 10, .rev⟩]) 9 = .ok (some (.compound [⟨20, 22, .rev⟩, ⟨9, 10, .rev⟩]))
    ∧ descDisjointB [⟨2, 9, .rev⟩, ⟨0, 3, .rev⟩, ⟨10, 16, .rev⟩] = false := by decide +kernel

end ASV.C09
