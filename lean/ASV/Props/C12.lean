/-
  C12 — per-region GenBank files are faithful, self-consistent extracts.
  Property theorems only; helper lemmas in ASV/Proofs/RegionExtract*.lean.

  `writeToGenbank rd rec = .ok w` : the model of `write_to_genbank(region, record, handle)` (the code
  with fixes D10, D21, D21b–e and D58 applied) wrote the record `w.extract` and left the full record's
  features as `w.parentAfter`.  `rec.length` is the record length `L`; position `i` of the file is
  position `toRecord L rd i` of the record (`start + i`, modulo `L` over the origin).

  Proved for all inputs (no size bounds):
    parent_restored              writing leaves every feature of the full record as it was
    annotations_parent_unchanged … and every (nested) dict of its annotations
    cross_origin_sequence        the file's sequence is `seq[start:] ++ seq[:end]` (or `seq[start:end]`)
    sequence_is_region_sequence  … i.e. nucleotide `i` of the file is nucleotide `toRecord i` of the record
    renumber_consistent          every cross reference by number is sent through ONE renumbering per
                                 kind, and each renumbering is a bijection of the region's areas onto
                                 1..n that follows their position in the file
    annotations_record_origin    `Orig. start` / `Orig. end`
    annotations_file_expected    the file's annotations are the record's plus NOTE / Orig. start / Orig. end
    outputs_region_files_own_record  `write_outputs` cuts every region file out of its own record
  Proved under input well-formedness (`wfInput`, and `consistent` for the last two):
    shift_same_bases_partial     every written feature covers exactly the bases of its original — any number
                                 of exons, regions over the origin and all the way round, features running over
                                 the origin with any number of exons
    inside_kept_partial          every feature inside the region is written (origin-spanning ones: one part on
                                 each side of the origin, or any number per side in transcription order)
    extract_reloads              the executable `selfConsistent` in full: the file is numbered as a record loading
                                 it numbers it (1..n per kind, each number once, in load order), every reference by
                                 number resolves, there is one region feature spanning the file, `core_location`
                                 texts read back to the canonical form of the `proto_core` features (also
                                 `regionFeatureOK`)
    write_succeeds_partial       (also `writable`) `write_to_genbank` does not raise
    motif_locations_partial      leader/tail texts of any number of parts are rewritten part by part to the text
                                 of the moved parts, which reads back and covers the same bases
    motif_locations_ordered      … from one executable condition on the original location (`motifOrdered`)
    references_resolve_partial   the written feature a rewritten reference points at is the image of the
                                 original referent
    ties_in_file_order           areas a loading record cannot tell apart carry their numbers in file order
                                 (`ties_in_file_order_partial`: the same for regions not over the origin)
  Left to the executable spec on the real output (correspondence): `Record.from_genbank` itself (executed, not
  modelled) showing one region with the same content; leader/tail texts whose parts are not in transcription
  order.
-/
import ASV.Proofs.RegionExtractRegion
import ASV.Proofs.RegionExtractWrite
import ASV.Proofs.RegionAnnotations
import ASV.Proofs.RegionExtractMotif
import ASV.Proofs.RegionOutputs
import ASV.Proofs.RegionExtractTies
namespace ASV.C12
open ASV ASV.RegionExtract

/-- the annotations record where the region came from -/
theorem annotations_record_origin (rd : RegionData) :
    (buildAnnotations rd).origStart = toString rd.start ∧ (buildAnnotations rd).origEnd = toString rd.end ∧
    (buildAnnotations rd).crossNote = rd.crossesOrigin := by
  simp [buildAnnotations]

/-- Writing a region file leaves the full record unchanged: whatever was reassigned on the way
    (locations of origin-spanning features, their qualifiers), every feature has its location and
    qualifiers back afterwards. -/
theorem parent_restored (rd : RegionData) (rec : BioRecord) (w : Written)
    (h : writeToGenbank rd rec = .ok w) : w.parentAfter = rec.features :=
  writeToGenbank_parent rd rec w h

/-- … and so do its annotations, nested dicts included.  The annotation dicts live in a heap of objects referring
    to each other by address (`AHeap`); `_build_annotations` (deep copy, `setdefault` twice, three item
    assignments — `buildAnnotationsHeap`) changes no object that existed before the call, so the full record's
    annotations dict, read with all references resolved (`readTop`), says afterwards what it said before —
    whether or not it already carried a structured comment or the antiSMASH-Data entry. -/
theorem annotations_parent_unchanged (h : AHeap) (parent : Nat) (rd : RegionData) (h' : AHeap) (a : Nat)
    (hb : buildAnnotationsHeap h parent rd = some (h', a)) :
    (∀ i, i < h.length → h'[i]? = h[i]?) ∧ ∃ t, readTop h parent = some t ∧ readTop h' parent = some t :=
  buildAnnotations_keeps_parent h parent rd h' a hb

def exLaterRd : RegionData := { start := 13, «end» := 15, cands := [], subs := [⟨2, .simple ⟨13, 15, .fwd⟩⟩] }

/-- a full record carrying the comment `main.add_antismash_comments` adds: top dict at address 2 -/
def exHeap : AHeap :=
  [.data [("Version", "7.1"), ("Run date", "2000-01-01")], .comments [("antiSMASH-Data", 0)],
   .top [("topology", "circular")] (some 1)]

/-- the code: the region file gets NOTE / Orig. start / Orig. end, the full record keeps its comment … -/
example : (buildAnnotationsHeap exHeap 2 exLaterRd).map (fun r => (readTop r.1 r.2, readTop r.1 2)) =
    some (some ⟨[("topology", "circular")], some [("antiSMASH-Data", [("Version", "7.1"), ("Run date", "2000-01-01"),
            ("NOTE", notePlain), ("Orig. start", "13"), ("Orig. end", "15")])]⟩,
          readTop exHeap 2) := by decide +kernel
/-- … which is what the spec expects of the file -/
example : (buildAnnotationsHeap exHeap 2 exLaterRd).map (fun r => readTop r.1 r.2) =
    (readTop exHeap 2).map (fun t => some (expectedAnn t exLaterRd)) := by decide +kernel
/-- the variant with one-level copies (`dict(annotations)`, `dict(structured_comment)`) shares the antiSMASH-Data
    dict with the full record and writes the region's NOTE into it: the theorem is false for it -/
example : (buildAnnotationsShallow exHeap 2 exLaterRd).map (fun r => decide (readTop r.1 2 = readTop exHeap 2)) = some false := by
  decide +kernel

/-- The annotations of the region file: `_build_annotations` (`buildAnnotationsHeap`) succeeds on every annotations
    dict it can read, and the dict it returns for the file, read with all references resolved, says exactly what the
    full record's says plus NOTE (plain or cross-origin), `Orig. start` and `Orig. end` in the antiSMASH-Data comment —
    that comment updated in place (its other entries and its position among the comments kept) when the full record
    has it, created after the other comments when it has not, the structured comment itself created when the full
    record has none (`expectedAnn`).  Hypothesis: the names of the full record's structured comments are distinct —
    they are the keys of a Python dict.  Together with `annotations_parent_unchanged`: the file gets the notes, the
    full record does not. -/
theorem annotations_file_expected (h : AHeap) (parent : Nat) (rd : RegionData) (t : AnnTree)
    (ht : readTop h parent = some t) (hnd : ((t.sc.getD []).map (·.1)).Nodup) :
    ∃ h' a, buildAnnotationsHeap h parent rd = some (h', a) ∧ readTop h' a = some (expectedAnn t rd) :=
  buildAnnotations_reads h parent rd t ht hnd

/-- Not vacuous: `exHeap` reads, its one comment name is distinct (see the examples above for the value); and a
    full record with two other comments and none from antiSMASH gets the antiSMASH-Data comment after them -/
example : (readTop exHeap 2).map (fun t => decide ((t.sc.getD []).map (·.1)).Nodup) = some true := by decide +kernel
example : (buildAnnotationsHeap
      [.data [("Assembly Method", "SPAdes")], .data [("Annotation Provider", "someone")],
       .comments [("Genome-Assembly-Data", 0), ("Genome-Annotation-Data", 1)], .top [] (some 2)] 3 exLaterRd).map
      (fun r => readTop r.1 r.2) =
    some (some ⟨[], some [("Genome-Assembly-Data", [("Assembly Method", "SPAdes")]),
      ("Genome-Annotation-Data", [("Annotation Provider", "someone")]),
      ("antiSMASH-Data", [("NOTE", notePlain), ("Orig. start", "13"), ("Orig. end", "15")])]⟩) := by decide +kernel

/-- The file's sequence: the part before the origin followed by the part after it for a region
    running over the origin, the plain slice otherwise. -/
theorem cross_origin_sequence (rd : RegionData) (rec : BioRecord) (w : Written)
    (h : writeToGenbank rd rec = .ok w) :
    w.extract.seq =
      if rd.crossesOrigin then (rec.seq.take rec.seq.length).drop rd.start.toNat ++ rec.seq.take rd.end.toNat
      else (rec.seq.take rd.end.toNat).drop rd.start.toNat := by
  rw [writeToGenbank_seq rd rec w h]
  simp [sliceSeq, BioRecord.length]

/-- … which is, nucleotide by nucleotide, the region's sequence: position `i` of the file carries
    the nucleotide at position `toRecord i` of the record, for `regionLen` positions.  The region lies
    inside the record (`0 ≤ start < end ≤ L`, or `0 < end ≤ start < L` over the origin). -/
theorem sequence_is_region_sequence (rd : RegionData) (rec : BioRecord) (w : Written)
    (h : writeToGenbank rd rec = .ok w)
    (hin : (0 ≤ rd.start ∧ rd.start < rd.end ∧ rd.end ≤ rec.length) ∨
           (0 < rd.end ∧ rd.end ≤ rd.start ∧ rd.start < rec.length)) :
    w.extract.seq = expectedSeq rec.length rd rec.seq := by
  rw [writeToGenbank_seq rd rec w h]
  rcases hin with ⟨h0, h1, h2⟩ | ⟨h0, h1, h2⟩
  · have hc : rd.crossesOrigin = false := by simp [RegionData.crossesOrigin]; omega
    simp only [hc, Bool.false_eq_true, if_false]
    exact sliceSeq_plain_spec rec.seq rd h0 h1 h2
  · have hc : rd.crossesOrigin = true := by simp [RegionData.crossesOrigin]; omega
    simp only [hc, if_true]
    exact sliceSeq_wrap_spec rec.seq rd h0 h1 h2

/-- The full statement: every written feature comes from a feature of the full record (same type,
    same untouched qualifiers) and covers exactly the same bases. -/
def ShiftSameBases (rd : RegionData) (rec : BioRecord) (w : Written) : Prop :=
  ∀ g ∈ w.extract.features, ∃ f ∈ rec.features, g.tag = f.tag ∧ g.type = f.type ∧
    SameBases rec.length rd f.loc g.loc

/-- Proved under `wfInput rd rec`: the record is not empty; the region lies in it (`0 ≤ start < end ≤ L`, or
    `0 < end ≤ start < L` over the origin, `start = end` being a region all the way round); every feature has
    non-empty parts inside the record; and, only for a region over the origin, where `offset_location` is at
    work: a feature running over the origin has one part on each side, or is shorter than the record with all
    parts on one strand (`oneStrand`: abutting pieces of different strands make `offset_location` raise); any
    other feature is not as long as the record and has all parts on one strand.  Nothing else is assumed: any
    number of exons, abutting exons in runs of any length (after the repair D58), both strands. -/
theorem shift_same_bases_partial (rd : RegionData) (rec : BioRecord) (w : Written)
    (h : writeToGenbank rd rec = .ok w) (hwf : wfInput rd rec = true) : ShiftSameBases rd rec w :=
  fun g hg => written_sameBases rd rec w h hwf g hg

/-- Nothing inside the region is left out: a feature of the full record that lies inside the region
    (`insideRegion`: all parts between the region's start and end; over the origin: all before it, all after it,
    or — for a feature that itself runs over the origin — each part on its side) is written.
    For a feature running over the origin inside a region over the origin: it has one part on each side of the
    origin (`twoPart`, also when it goes all the way round), or **any number of exons on each side** in transcription
    order (`ringOrdered`: forward strand — those before the origin ascending, then those after it ascending; reverse
    strand — those after the origin descending, then those before it descending; none empty, none reaching into
    another) and is not as long as the record.  The order is needed, not a gap of the proof: the loop keeps an
    origin-spanning feature only if, moved into file coordinates, it no longer looks origin-spanning
    (`location_bridges_origin`), and exons in another order still do — such a feature is not a gene lying over the
    origin but a scrambled location, and the code drops it. -/
theorem inside_kept_partial (rd : RegionData) (rec : BioRecord) (w : Written)
    (h : writeToGenbank rd rec = .ok w)
    (hreg : rd.crossesOrigin = true → 0 < rd.end ∧ rd.start < rec.length)
    (f : BioFeature) (hf : f ∈ rec.features) (hne : f.loc.parts ≠ [])
    (hin : insideRegion rec.length rd f.loc = true)
    (hord : rd.crossesOrigin = true → bridgesOrigin f.loc = true →
      twoPart rec.length f.loc = true ∨ (ringOrdered rec.length rd f.loc = true ∧ f.loc.len ≠ rec.length)) :
    ∃ g ∈ w.extract.features, g.tag = f.tag :=
  written_contains_inside rd rec w h hreg f hf hne hin hord

/-- Not vacuous: genes with two exons on each side of the origin, one per strand, inside the region `[16:20]+[0:6]`
    of a record of 20 bases: in transcription order, not `twoPart`, and written as one run each (abutting pieces
    joined where `offset_location` joins them: in ascending order) -/
def exMultiRd : RegionData := { start := 16, «end» := 6, cands := [], subs := [] }
def exMultiRec : BioRecord :=
  { seq := "ACGTACGTACGTACGTACGT".toList,
    features := [
      ⟨0, "CDS", .compound [⟨16, 17, .fwd⟩, ⟨18, 20, .fwd⟩, ⟨0, 2, .fwd⟩, ⟨3, 5, .fwd⟩], {}⟩,
      ⟨1, "CDS", .compound [⟨4, 6, .rev⟩, ⟨0, 1, .rev⟩, ⟨19, 20, .rev⟩, ⟨16, 18, .rev⟩], {}⟩] }

example : exMultiRec.features.all (fun f => bridgesOrigin f.loc && ringOrdered 20 exMultiRd f.loc &&
    !twoPart 20 f.loc && insideRegion 20 exMultiRd f.loc) = true := by decide +kernel
example : (writeToGenbank exMultiRd exMultiRec).toOption.map (fun w => w.extract.features.map fun f => (f.tag, f.loc)) =
    some [(0, .compound [⟨0, 1, .fwd⟩, ⟨2, 6, .fwd⟩, ⟨7, 9, .fwd⟩]),
          (1, .compound [⟨8, 10, .rev⟩, ⟨4, 5, .rev⟩, ⟨3, 4, .rev⟩, ⟨0, 2, .rev⟩])] := by decide +kernel
/-- … and the same exons in another order are still origin-spanning after the move, so the code leaves the feature out -/
example : (writeToGenbank exMultiRd
      { exMultiRec with features := [⟨0, "CDS", .compound [⟨18, 20, .fwd⟩, ⟨16, 17, .fwd⟩, ⟨0, 2, .fwd⟩], {}⟩] }).toOption.map
      (fun w => w.extract.features.length) = some 0 := by decide +kernel

/-- Renumbering is consistent: there is one renumbering per kind of area (protoclusters, candidate
    clusters, subregions) such that every written feature's references — the region's candidate and
    subregion numbers, a candidate's own number and its protocluster numbers, the number of a
    protocluster and of its core feature, a subregion's number — are its original's references sent
    through it; and each renumbering is a bijection from the region's areas onto `1..n` in which an
    area has the smaller number iff it comes first in the region file (position, then larger first).
    Ties (`TiesByRecordNumber`): areas of one kind at the same position with the same size are numbered in the
    order of their record-wide numbers — which is the order in which their features stand in the file, hence
    the order in which a record loading the file numbers them — whatever the order in which the region's
    candidate clusters list them (the order of the dictionaries `_number_by_position` is handed). -/
theorem renumber_consistent (rd : RegionData) (rec : BioRecord) (w : Written)
    (h : writeToGenbank rd rec = .ok w) :
    (∀ g ∈ w.extract.features, ∃ f ∈ rec.features, g.tag = f.tag ∧ g.type = f.type ∧
      RefsThrough (renumbering rd rec.length) f.type f.q g.q) ∧
    (GoodNumbering rd rec.length ((protoDict rd).map fun kv => (kv.1, kv.2.loc)) (renumbering rd rec.length).protos ∧
     GoodNumbering rd rec.length (candDict rd) (renumbering rd rec.length).cands ∧
     GoodNumbering rd rec.length (subDict rd) (renumbering rd rec.length).subs) ∧
    (TiesByRecordNumber rd rec.length ((protoDict rd).map fun kv => (kv.1, kv.2.loc)) (renumbering rd rec.length).protos ∧
     TiesByRecordNumber rd rec.length (candDict rd) (renumbering rd rec.length).cands ∧
     TiesByRecordNumber rd rec.length (subDict rd) (renumbering rd rec.length).subs) :=
  ⟨fun g hg => written_refs rd rec w h g hg, renumbering_good rd rec.length, renumbering_ties rd rec.length⟩

/-- Not vacuous: a region `[1000:1500]` of a record of 2000 bases with two protoclusters (record-wide numbers 2
    and 3) on the same coordinates, each in its own candidate cluster (numbers 3 and 2, same coordinates again);
    the region lists the candidate of protocluster 3 first, so the dictionary of protoclusters has 3 before 2. -/
def exTie : RegionData :=
  { start := 1000, «end» := 1500, subs := [],
    cands := [⟨2, .simple ⟨1000, 1500, .fwd⟩, [⟨3, .simple ⟨1000, 1500, .fwd⟩, .simple ⟨1200, 1300, .fwd⟩⟩]⟩,
              ⟨3, .simple ⟨1000, 1500, .fwd⟩, [⟨2, .simple ⟨1000, 1500, .fwd⟩, .simple ⟨1200, 1300, .fwd⟩⟩]⟩] }

example : (protoDict exTie).map (·.1) = [3, 2] := by decide +kernel
/-- the tied protoclusters are numbered by record-wide number (2 ↦ 1, 3 ↦ 2), not in dictionary order -/
example : (dictGet (renumbering exTie 2000).protos 2).toOption = some 1 ∧
    (dictGet (renumbering exTie 2000).protos 3).toOption = some 2 ∧
    (dictGet (renumbering exTie 2000).cands 2).toOption = some 1 ∧
    (dictGet (renumbering exTie 2000).cands 3).toOption = some 2 := by decide +kernel
/-- numbering the tied areas in dictionary order instead (what a stable sort on position and size alone gives:
    3 ↦ 1, 2 ↦ 2) breaks the tie rule -/
example : ¬ TiesByRecordNumber exTie 2000 ((protoDict exTie).map fun kv => (kv.1, kv.2.loc)) [(3, 1), (2, 2)] := by
  intro h
  have := h 3 2 (.simple ⟨1000, 1500, .fwd⟩) (.simple ⟨1000, 1500, .fwd⟩) 1 2 (by decide +kernel) (by decide +kernel) rfl rfl
    (by decide +kernel) (by decide +kernel)
  omega

/-- Ties in file order, for a region that does not run over the origin: written protoclusters (and subregions) that
    a loading record cannot tell apart by position and size — which it therefore numbers in the order in which they
    stand in the file (`Record.add_protocluster` / `add_subregion` insert behind equals) — carry their numbers in
    that order (`tiesInFileOrder`, until now only evaluated on each written file).  Three facts meet: the file keeps
    the record's order (`plain_tags_sublist`: a slice), the record lists the areas of a kind in the order of their
    numbers (hypothesis `InNumberOrder`, what `Record.to_biopython` does for protoclusters and subregions), and
    `_number_by_position` breaks ties by record-wide number (`TiesByRecordNumber`).  Falsified by the round-4
    seeded change C12_1 (sort key without the number).  Missing part: regions over the origin, where the file is
    put together from three groups of features (before / over / after the origin) and it remains to show that tied
    areas fall into the same group. -/
theorem ties_in_file_order_partial (rd : RegionData) (rec : BioRecord) (w : Written)
    (h : writeToGenbank rd rec = .ok w) (hwf : wfInput rd rec = true) (hcons : consistent rd rec = true)
    (hplain : rd.crossesOrigin = false)
    (hP : InNumberOrder "protocluster" (·.q.protoNumber) rec.features)
    (hS : InNumberOrder "subregion" (·.q.subNumber) rec.features) :
    tiesInFileOrder (·.q.protoNumber) (ofType "protocluster" w.extract.features) = true ∧
    tiesInFileOrder (·.q.subNumber) (ofType "subregion" w.extract.features) = true :=
  written_ties rd rec w h hwf hcons hP hS

/-- The same for every region, over the origin or not.  The file of a region over the origin is put together from
    three groups of features — before the origin, over it, after it —, each in the record's order; areas with the
    same position and size in the file have the same location (`area_posPair_inj`: one forward part, or a forward
    pair over the origin), so they fall into the same group and keep the record's order (`cross_file_order`). -/
theorem ties_in_file_order (rd : RegionData) (rec : BioRecord) (w : Written)
    (h : writeToGenbank rd rec = .ok w) (hwf : wfInput rd rec = true) (hcons : consistent rd rec = true)
    (hP : InNumberOrder "protocluster" (·.q.protoNumber) rec.features)
    (hS : InNumberOrder "subregion" (·.q.subNumber) rec.features) :
    tiesInFileOrder (·.q.protoNumber) (ofType "protocluster" w.extract.features) = true ∧
    tiesInFileOrder (·.q.subNumber) (ofType "subregion" w.extract.features) = true :=
  written_ties rd rec w h hwf hcons hP hS

/-- Not vacuous: two subregions (record-wide numbers 2 and 3) on the same coordinates behind another one; the region
    lists number 3 first -/
def exTieRec : BioRecord :=
  { seq := "ACGTACGTACGTACGTACGT".toList,
    features := [
      ⟨0, "subregion", .simple ⟨1, 3, .fwd⟩, { subNumber := some 1 }⟩,
      ⟨1, "region", .simple ⟨1, 3, .fwd⟩, { subNumbers := [1] }⟩,
      ⟨2, "subregion", .simple ⟨8, 14, .fwd⟩, { subNumber := some 2 }⟩,
      ⟨3, "subregion", .simple ⟨8, 14, .fwd⟩, { subNumber := some 3 }⟩,
      ⟨4, "region", .simple ⟨8, 14, .fwd⟩, { subNumbers := [2, 3] }⟩] }
def exTieSubs : RegionData :=
  { start := 8, «end» := 14, cands := [], subs := [⟨3, .simple ⟨8, 14, .fwd⟩⟩, ⟨2, .simple ⟨8, 14, .fwd⟩⟩] }

example : wfInput exTieSubs exTieRec = true ∧ consistent exTieSubs exTieRec = true ∧
    exTieSubs.crossesOrigin = false := by decide +kernel
example : InNumberOrder "subregion" (·.q.subNumber) exTieRec.features ∧
    InNumberOrder "protocluster" (·.q.protoNumber) exTieRec.features :=
  ⟨inNumberOrder_of_B _ _ _ (by decide +kernel), inNumberOrder_of_B _ _ _ (by decide +kernel)⟩
/-- the two tied subregions are written as 1 and 2 in file order (the region feature refers to both) -/
example : (writeToGenbank exTieSubs exTieRec).toOption.map (fun w =>
      (w.extract.features.map fun f => (f.tag, f.q.subNumber, f.q.subNumbers),
       tiesInFileOrder (·.q.subNumber) (ofType "subregion" w.extract.features))) =
    some ([(2, some 1, []), (3, some 2, []), (4, none, [1, 2])], true) := by decide +kernel

/-- … and over the origin: two subregions `[16:20]+[0:6]` (numbers 1 and 2 of the record), listed 2, 1 by the region -/
def exTieCrossRec : BioRecord :=
  { seq := "ACGTACGTACGTACGTACGT".toList,
    features := [
      ⟨0, "subregion", .compound [⟨16, 20, .fwd⟩, ⟨0, 6, .fwd⟩], { subNumber := some 1 }⟩,
      ⟨1, "subregion", .compound [⟨16, 20, .fwd⟩, ⟨0, 6, .fwd⟩], { subNumber := some 2 }⟩,
      ⟨2, "region", .compound [⟨16, 20, .fwd⟩, ⟨0, 6, .fwd⟩], { subNumbers := [1, 2] }⟩] }
def exTieCross : RegionData :=
  { start := 16, «end» := 6, cands := [],
    subs := [⟨2, .compound [⟨16, 20, .fwd⟩, ⟨0, 6, .fwd⟩]⟩, ⟨1, .compound [⟨16, 20, .fwd⟩, ⟨0, 6, .fwd⟩]⟩] }
example : wfInput exTieCross exTieCrossRec = true ∧ consistent exTieCross exTieCrossRec = true ∧
    exTieCross.crossesOrigin = true := by decide +kernel
example : (writeToGenbank exTieCross exTieCrossRec).toOption.map (fun w =>
      (w.extract.features.map fun f => (f.tag, f.q.subNumber, f.q.subNumbers),
       tiesInFileOrder (·.q.subNumber) (ofType "subregion" w.extract.features))) =
    some ([(0, some 1, []), (1, some 2, []), (2, none, [1, 2])], true) := by decide +kernel

/-- The full statement: the file, taken on its own, is what a record that loads it expects — areas of
    each kind numbered `1..n` in load order, every reference by number resolving, `core_location`
    texts denoting the core features, exactly one region over the whole file (all executable; the
    correspondence evaluates it on every file the real code writes). -/
def ExtractReloads (rd : RegionData) (rec : BioRecord) (w : Written) : Prop :=
  selfConsistent rec.length rd w.extract.features = true

/-- Proved: `ExtractReloads`, the executable `selfConsistent` in full —
    * `numberedAsLoaded` for protoclusters, candidate clusters and subregions: all written features of the kind
      carry a number, the numbers are `1..n` each exactly once (`n` = how many are written = how many areas the
      region has), and a feature that a loading record (`CDSCollection.__lt__`) orders strictly before another
      carries the smaller number;
    * `refsInRange`: every reference by number (region → candidates, subregions; candidate → protoclusters;
      core → protocluster) is the number of a feature present in the file;
    * `oneRegion`: the file has exactly one region feature and it spans the whole file;
    * `coresAgree`: the `core_location` text of each written protocluster reads back through
      `location_from_string` (shared `string_roundtrip`) to a location with the same canonical interval list as
      the written `proto_core` feature of the same number — from the pointwise `CoresAgree` (same bases) because
      the canonical form is determined by the set of bases (`sep_unique`, `canon_eq_of_mem`, on shared `canon_spec`).
    Hypotheses (what is handed to `write_to_genbank` is well-formed): `wfInput`; `consistent` — the record's features
    and `RegionData` describe the same areas (number ↦ location, one feature per area and kind, distinct numbers
    per kind, areas and cores inside the region, one forward part or a forward pair over the origin), features are
    told apart by `tag`, and a feature running over the origin reaches from the record's first to its last base;
    `regionFeatureOK` — exactly one `region` feature can reach the file and it has the region's location. -/
theorem extract_reloads (rd : RegionData) (rec : BioRecord) (w : Written)
    (h : writeToGenbank rd rec = .ok w) (hwf : wfInput rd rec = true) (hcons : consistent rd rec = true)
    (hreg : regionFeatureOK rd rec = true) :
    ExtractReloads rd rec w ∧ CoresAgree w.extract.features := by
  obtain ⟨h1, h2, h3, h4, h5⟩ := written_selfconsistent rd rec w h hwf hcons
  obtain ⟨htags, hspan, _⟩ := consistent_unpack rd rec hcons
  refine ⟨?_, h5⟩
  unfold ExtractReloads selfConsistent
  simp only [h1, h2, h3, h4, coresAgree_of_CoresAgree _ h5, written_oneRegion rd rec w h hwf htags hspan hreg,
    Bool.and_self]

/-- Leader and tail locations of precursor peptides (`_adjust_motif`): a `leader_location` / `tail_location`
    text naming any number of parts is rewritten part by part — each part by itself is moved into file coordinates,
    behind the stretch of the file that comes from before the origin if (and only if) that part lies after the
    origin, so a leader or tail with the origin inside it comes out in one piece —, abutting parts are joined
    (`build_location_from_others`), the new text reads back (`location_from_string`) and covers exactly the same
    bases.  Hypotheses: every part lies inside the region on one side of the origin; the moved parts are in
    ascending order (forward strand) or in descending order (reverse strand), none empty.
    Falsified by seeded change C12_3 (one decision per location, taken from its minimum coordinate). -/
theorem motif_locations_partial (t : String) (l : Loc) (rd : RegionData) (L : Int) (hL : 0 < L)
    (ht : locFromString t = some l) (hne : l.parts ≠ [])
    (hmono : AscParts (l.parts.map (motifPart rd L)) ∨ DescParts (l.parts.map (motifPart rd L)))
    (hplain : rd.crossesOrigin = false → ∀ p ∈ l.parts, rd.start ≤ p.lo ∧ p.hi ≤ rd.end)
    (hcross : rd.crossesOrigin = true → 0 < rd.end ∧ rd.end ≤ rd.start ∧ rd.start < L ∧
      ∀ p ∈ l.parts, (rd.start ≤ p.lo ∧ p.hi ≤ L) ∨ (0 ≤ p.lo ∧ p.hi ≤ rd.end ∧ p.lo < p.hi)) :
    ∃ l', adjustMotifLoc t rd L = .ok (locToString l') ∧ locFromString (locToString l') = some l' ∧
      SameBases L rd l l' :=
  adjustMotifLoc_parts t l rd L hL ht hne hmono hplain hcross

/-- the region `[800:200)` of a circular record of 1000 bases -/
def exOver : RegionData := { start := 800, «end» := 200, cands := [], subs := [] }
/-- a leader with the origin inside it, `join{[988:1000](+), [0:18](+)}`, comes out in one piece … -/
example : (adjustMotifLoc "join{[988:1000](+), [0:18](+)}" exOver 1000).toOption = some "[188:218](+)" := by decide +kernel
/-- … on the reverse strand as two parts in transcription order -/
example : (adjustMotifLoc "join{[0:12](-), [982:1000](-)}" exOver 1000).toOption = some "join{[200:212](-), [182:200](-)}" := by decide +kernel

/-- The same with the hypotheses on the ORIGINAL leader / tail location only, one executable condition
    (`motifOrdered`): no part empty, every part inside the region, parts in transcription order — ascending or
    descending when the region does not run over the origin or all parts lie on one side of it; with the origin
    inside the leader / tail (`ringOrdered`): forward strand — the parts before the origin ascending, then those
    after it ascending; reverse strand — those after the origin descending, then those before it descending; any
    number of parts on each side.  That the moved parts come out in one ascending or descending run
    (`motif_locations_partial`'s hypothesis) is now proved (`mono_ring`, `mono_same_shift`). -/
theorem motif_locations_ordered (t : String) (l : Loc) (rd : RegionData) (L : Int) (hL : 0 < L)
    (ht : locFromString t = some l) (hne : l.parts ≠ []) (hord : motifOrdered L rd l = true) :
    ∃ l', adjustMotifLoc t rd L = .ok (locToString l') ∧ locFromString (locToString l') = some l' ∧
      SameBases L rd l l' :=
  adjustMotifLoc_ordered t l rd L hL ht hne hord

/-- Not vacuous: a leader of four parts with the origin inside it, on either strand; a three-part tail after the
    origin; and the same parts out of order are not `motifOrdered` -/
example : motifOrdered 1000 exOver (.compound [⟨980, 985, .fwd⟩, ⟨988, 1000, .fwd⟩, ⟨0, 18, .fwd⟩, ⟨20, 30, .fwd⟩]) = true ∧
    motifOrdered 1000 exOver (.compound [⟨20, 30, .rev⟩, ⟨0, 18, .rev⟩, ⟨988, 1000, .rev⟩, ⟨980, 985, .rev⟩]) = true ∧
    motifOrdered 1000 exOver (.compound [⟨5, 10, .fwd⟩, ⟨20, 30, .fwd⟩, ⟨40, 50, .fwd⟩]) = true ∧
    motifOrdered 1000 exOver (.compound [⟨0, 18, .fwd⟩, ⟨988, 1000, .fwd⟩]) = false := by decide +kernel
example : (adjustMotifLoc "join{[980:985](+), [988:1000](+), [0:18](+), [20:30](+)}" exOver 1000).toOption =
    some "join{[180:185](+), [188:218](+), [220:230](+)}" := by decide +kernel

/-- The write does not raise: under `wfInput` every `offset_location` call of the extraction succeeds (features
    after the origin, features over the origin, core locations), and with every dictionary lookup of
    `_adjust_features` finding its key and the motif texts reading back (`writable`) `write_to_genbank` returns.
    Remaining hypothesis: `writable` (a `KeyError` for a feature whose number is not one of the region's is the
    code's behaviour) and `consistent` (used for the core locations). -/
theorem write_succeeds_partial (rd : RegionData) (rec : BioRecord) (hwf : wfInput rd rec = true)
    (hcons : consistent rd rec = true) (hwr : writable rd rec = true) : ∃ w, writeToGenbank rd rec = .ok w :=
  write_ok rd rec hwf hcons hwr

/-- The written cross references resolve to the images of the original referents: for every area of the region
    (number `n` in the record, of any of the three kinds) the record's feature of that kind carrying `n` has an
    image in the file (same `tag`), and this image carries the number `ν n` to which `renumber_consistent`
    says every reference to `n` was rewritten; by `extract_reloads` no other written feature of the kind
    carries `ν n`, and `ν n` is the number a loading record gives it.  Same hypotheses. -/
theorem references_resolve_partial (rd : RegionData) (rec : BioRecord) (w : Written)
    (h : writeToGenbank rd rec = .ok w) (hwf : wfInput rd rec = true) (hcons : consistent rd rec = true) :
    (∀ a ∈ protoAreas rd, ∃ f ∈ rec.features, f.type = "protocluster" ∧ f.q.protoNumber = some a.1 ∧ f.loc = a.2 ∧
      ∃ g ∈ w.extract.features, g.tag = f.tag ∧ g.type = "protocluster" ∧
        ∃ m, g.q.protoNumber = some m ∧ dictGet (renumbering rd rec.length).protos a.1 = .ok m) ∧
    (∀ a ∈ candDict rd, ∃ f ∈ rec.features, f.type = "cand_cluster" ∧ f.q.candNumber = some a.1 ∧ f.loc = a.2 ∧
      ∃ g ∈ w.extract.features, g.tag = f.tag ∧ g.type = "cand_cluster" ∧
        ∃ m, g.q.candNumber = some m ∧ dictGet (renumbering rd rec.length).cands a.1 = .ok m) ∧
    (∀ a ∈ subDict rd, ∃ f ∈ rec.features, f.type = "subregion" ∧ f.q.subNumber = some a.1 ∧ f.loc = a.2 ∧
      ∃ g ∈ w.extract.features, g.tag = f.tag ∧ g.type = "subregion" ∧
        ∃ m, g.q.subNumber = some m ∧ dictGet (renumbering rd rec.length).subs a.1 = .ok m) :=
  written_images rd rec w h hwf hcons

/-! ### non-vacuity: a concrete record on which every hypothesis holds and every branch is taken -/

/-- a circular record of 20 bases: an origin-spanning protocluster (neighbourhood `[16,20)+[0,6)`, core
    `[18,20)+[0,2)`) with its candidate cluster and region, a gene before and a gene after the origin,
    and two mid-record regions made of one subregion each (`[8,12)` and `[13,15)`) -/
def exRec : BioRecord :=
  { seq := "ACGTACGTACGTACGTACGT".toList,
    features := [
      ⟨0, "CDS", .simple ⟨1, 4, .rev⟩, {}⟩,
      ⟨1, "CDS", .simple ⟨16, 19, .fwd⟩, {}⟩,
      ⟨2, "protocluster", .compound [⟨16, 20, .fwd⟩, ⟨0, 6, .fwd⟩],
        { protoNumber := some 1, coreLoc := some "join{[18:20](+), [0:2](+)}" }⟩,
      ⟨3, "proto_core", .compound [⟨18, 20, .fwd⟩, ⟨0, 2, .fwd⟩], { protoNumber := some 1 }⟩,
      ⟨4, "cand_cluster", .compound [⟨16, 20, .fwd⟩, ⟨0, 6, .fwd⟩], { candNumber := some 1, protoNumbers := some [1] }⟩,
      ⟨5, "region", .compound [⟨16, 20, .fwd⟩, ⟨0, 6, .fwd⟩], { candNumbers := [1] }⟩,
      ⟨6, "subregion", .simple ⟨8, 12, .fwd⟩, { subNumber := some 1 }⟩,
      ⟨7, "region", .simple ⟨8, 12, .fwd⟩, { subNumbers := [1] }⟩,
      ⟨8, "subregion", .simple ⟨13, 15, .fwd⟩, { subNumber := some 2 }⟩,
      ⟨9, "region", .simple ⟨13, 15, .fwd⟩, { subNumbers := [2] }⟩] }

/-- the region over the origin -/
def exCross : RegionData :=
  { start := 16, «end» := 6,
    cands := [⟨1, .compound [⟨16, 20, .fwd⟩, ⟨0, 6, .fwd⟩],
               [⟨1, .compound [⟨16, 20, .fwd⟩, ⟨0, 6, .fwd⟩], .compound [⟨18, 20, .fwd⟩, ⟨0, 2, .fwd⟩]⟩]⟩],
    subs := [] }

/-- the last region, whose only subregion is number 2 of the record -/
def exLater : RegionData := { start := 13, «end» := 15, cands := [], subs := [⟨2, .simple ⟨13, 15, .fwd⟩⟩] }

example : wfInput exCross exRec = true ∧ wfInput exLater exRec = true := by decide +kernel
example : consistent exCross exRec = true ∧ consistent exLater exRec = true := by decide +kernel
example : regionFeatureOK exCross exRec = true ∧ regionFeatureOK exLater exRec = true := by decide +kernel
example : writable exCross exRec = true ∧ writable exLater exRec = true := by decide +kernel
/-- on the example the numbering part of the full statement holds too -/
example : (writeToGenbank exCross exRec).toOption.map (fun w =>
      numberedAsLoaded (·.q.protoNumber) (ofType "protocluster" w.extract.features) &&
      numberedAsLoaded (·.q.candNumber) (ofType "cand_cluster" w.extract.features) &&
      refsInRange w.extract.features) = some true := by decide +kernel

/-- the file of the origin-spanning region: 10 bases; the gene before the origin first, then the areas
    (now `[0,10)`, core `[2,6)`), then the gene after the origin at `[5,8)` -/
example : (writeToGenbank exCross exRec).toOption.map (fun w =>
      (String.ofList w.extract.seq, w.extract.features.map fun f => (f.tag, f.loc, f.q.coreLoc))) =
    some ("ACGTACGTAC", [(1, .simple ⟨0, 3, .fwd⟩, none), (2, .simple ⟨0, 10, .fwd⟩, some "[2:6](+)"),
      (3, .simple ⟨2, 6, .fwd⟩, none), (4, .simple ⟨0, 10, .fwd⟩, none), (5, .simple ⟨0, 10, .fwd⟩, none),
      (0, .simple ⟨5, 8, .rev⟩, none)]) := by decide +kernel

/-- the restore loop matters: before it the full record's origin-spanning features had been changed -/
example : (writeToGenbank exCross exRec).toOption.map (fun w =>
      (decide (w.parentBeforeRestore = exRec.features), decide (w.parentAfter = exRec.features))) =
    some (false, true) := by decide +kernel

/-- the later region: subregion 2 of the record is subregion 1 of the file, in the region feature too (D10) -/
example : (writeToGenbank exLater exRec).toOption.map (fun w =>
      w.extract.features.map fun f => (f.tag, f.loc, f.q.subNumber, f.q.subNumbers)) =
    some [(8, .simple ⟨0, 2, .fwd⟩, some 1, []), (9, .simple ⟨0, 2, .fwd⟩, none, [1])] := by decide +kernel

/-! ### the caller: `main.write_outputs` writes every region file from its own record -/

/-- `main.write_outputs` (the part writing region files: records converted with `to_biopython`, every record of the
    results zipped with its own converted record, every region of it written from that): the files written are
    exactly one per region of every record, in the order of the records and of their regions, named by the record's
    id and the region's number (`expectedFiles`) — records without regions, wherever they stand in the input, add
    no file and shift nothing —; and every file `<id>.region<n>.gbk` is what `write_to_genbank` makes of region `n`
    of a record `r` with that id and of THAT record's converted record `r.bio` — so everything the other theorems
    say about a `Written` holds for it relative to its own record; in particular its sequence is the region's
    sequence in its own record (`sequence_is_region_sequence`). -/
theorem outputs_region_files_own_record (records : List AnalysedRecord) (files : List RegionFile)
    (h : writeRegionFiles records = .ok files) :
    files.map (fun f => (f.id, f.number)) = expectedFiles records ∧
    ∀ f ∈ files, ∃ r ∈ records, f.id = r.id ∧ 1 ≤ f.number ∧
      ∃ rd, r.regions[f.number - 1]? = some rd ∧ writeToGenbank rd r.bio = .ok f.written ∧
        (((0 ≤ rd.start ∧ rd.start < rd.end ∧ rd.end ≤ r.bio.length) ∨
          (0 < rd.end ∧ rd.end ≤ rd.start ∧ rd.start < r.bio.length)) →
          f.written.extract.seq = expectedSeq r.bio.length rd r.bio.seq) := by
  obtain ⟨hn, hall⟩ := writeRegionFiles_own records files h
  refine ⟨hn, fun f hf => ?_⟩
  obtain ⟨r, hr, h1, h2, rd, h3, h4⟩ := hall f hf
  exact ⟨r, hr, h1, h2, rd, h3, h4, fun hin => sequence_is_region_sequence rd r.bio f.written h4 hin⟩

/-- a record without regions (one gene on twenty T's) -/
def exPlain : AnalysedRecord :=
  { id := "recA", bio := { seq := "TTTTTTTTTTTTTTTTTTTT".toList, features := [⟨0, "CDS", .simple ⟨1, 4, .fwd⟩, {}⟩] },
    regions := [] }
/-- `exRec` with its three regions -/
def exWith : AnalysedRecord :=
  { id := "recB", bio := exRec,
    regions := [exCross, { start := 8, «end» := 12, cands := [], subs := [⟨1, .simple ⟨8, 12, .fwd⟩⟩] }, exLater] }

/-- Not vacuous: records without regions before, between and after a record with regions; three files, all
    from `recB`'s own sequence -/
example : (writeRegionFiles [exPlain, exWith, exPlain, exWith, exPlain]).toOption.map
      (fun fs => fs.map fun f => (f.id, f.number, String.ofList f.written.extract.seq)) =
    some [("recB", 1, "ACGTACGTAC"), ("recB", 2, "ACGT"), ("recB", 3, "CG"),
          ("recB", 1, "ACGTACGTAC"), ("recB", 2, "ACGT"), ("recB", 3, "CG")] := by decide +kernel

/-- seeded change C12_2 (round 5): the records are filtered to those with regions and zipped with the UNFILTERED
    list of converted records -/
def writeRegionFilesFiltered (records : List AnalysedRecord) : E (List RegionFile) :=
  writePairs ((records.filter fun r => !r.regions.isEmpty).zip (records.map (·.bio)))

/-- … then `recB`'s regions are cut out of `recA`'s converted record (T's, no region feature), which the theorem
    excludes for `writeRegionFiles` -/
example : (writeRegionFilesFiltered [exPlain, exWith]).toOption.map
      (fun fs => fs.map fun f => (f.id, f.number, String.ofList f.written.extract.seq,
        (f.written.extract.features.filter (·.type == "region")).length)) =
    some [("recB", 1, "TTTTTTTTTT", 0), ("recB", 2, "TTTT", 0), ("recB", 3, "TT", 0)] := by decide +kernel

end ASV.C12
