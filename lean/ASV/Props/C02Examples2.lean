/-
C02 — non-vacuity examples for `superiors_list_checked` (`Props/C02.lean`) and the spec
`supListsDistinct`: repeated names in SUPERIORS lists below a chain of rules.  No theorems here.
-/
import ASV.Props.C02Examples

namespace ASV.C02
open ASV ASV.Rules ASV.Parser ASV.Grammar

/-- a repeated name in SUPERIORS is rejected also when the named rule inherits further superiors
    (chain top ← mid ← low); the same list without the repeat is accepted with the closed set -/
def exChain (sup : String) : List String :=
  [exHead "top" ++ "a " ++ "RULE mid CATEGORY cat SUPERIORS top CUTOFF 1 NEIGHBOURHOOD 1 CONDITIONS b " ++
   "RULE low CATEGORY cat SUPERIORS " ++ sup ++ " CUTOFF 1 NEIGHBOURHOOD 1 CONDITIONS c"]
/- the text is tokenised rule by rule (`tokeniseChars_append`), the head of the first once and for
   all (`tokeniseChars_ruleHead`) -/
example : exErr (exChain "mid, mid") = some .value := by
  simp only [exChain, exHead, String.append_assoc]
  rw [exErr, createRules, parseText, tokenise_eq_tokeniseChars, tokeniseChars_ruleHead _ _ (by decide +kernel),
    tokeniseChars_append "a ", tokeniseChars_append, tokeniseChars_append]
  decide +kernel
example : exErr (exChain "mid, top, mid") = some .value := by
  simp only [exChain, exHead, String.append_assoc]
  rw [exErr, createRules, parseText, tokenise_eq_tokeniseChars, tokeniseChars_ruleHead _ _ (by decide +kernel),
    tokeniseChars_append "a ", tokeniseChars_append, tokeniseChars_append]
  decide +kernel
example : (match createRules exCfg (exChain "mid") [] [] with
    | .ok rules => rules.map (·.superiors)
    | .error _ => []) = [[], ["top"], ["mid", "top"]] := by
  simp only [exChain, exHead, String.append_assoc]
  rw [createRules, parseText, tokenise_eq_tokeniseChars, tokeniseChars_ruleHead _ _ (by decide +kernel),
    tokeniseChars_append "a ", tokeniseChars_append, tokeniseChars_append]
  decide +kernel
example : (match tokenise "RULE low SUPERIORS mid, top, mid CUTOFF" with
    | .ok toks => supListsDistinct toks
    | .error _ => true) = false := by
  rw [tokenise_eq_tokeniseChars]
  decide +kernel
/-- base, then base + `extra`, then base + a rule below `extra`: the last is rejected (superior not
    defined in the files given), the base list still has one rule -/
example :
    let base := exHead "base" ++ "a"
    let x := exHead "extra" ++ "b"
    let y := "RULE other CATEGORY cat SUPERIORS extra CUTOFF 1 NEIGHBOURHOOD 1 CONDITIONS c"
    let r := Continuations.run exCfg [(none, base), (some 0, x), (some 0, y)] []
    (r.1.map fun o => (Continuations.outcome r.2 o).toOption.map fun l => l.map (·.name),
     r.2.map fun l => l.map (·.name)) =
    ([some ["base"], some ["base", "extra"], none], [["base"], ["base", "extra"]]) := by decide +kernel
end ASV.C02
