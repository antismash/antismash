/-
  C16 — Sanitised record identifiers are unique, short and filesystem-safe.
  Property theorems only; helper lemmas live in ASV/Proofs/Ids*.lean.

  `preProcessIds allowLong inp` is the identifier handling of `pre_process_sequences` (duplicate
  pass, `fix_record_name_id` per record, final "record has no name" check) on the list of
  `(id, name, accession annotation)` triples of the input records (repairs D14, D15 included).
  Every statement is for all input lists (any length, any characters, duplicates, ids equal to
  another record's rewritten form, …) and both settings of `allow_long_headers`; none has a
  side condition.  The illegal-character sets are the regenerated tables `ASV.Generated.Ids`.
-/
import ASV.Proofs.IdsMain
import ASV.Proofs.IdsGenes
import ASV.Proofs.IdsScan
namespace ASV.C16
open ASV ASV.Ids ASV.Generated.Ids

/-- all records have pairwise distinct identifiers afterwards -/
theorem ids_distinct (allowLong : Bool) (inp : List (Str × Str × Option Str)) (recs : List Rec)
    (h : preProcessIds allowLong inp = .ok recs) : (recs.map (·.id)).Nodup :=
  (preProcessIds_outcome h).distinct

/-- neither id nor name contains a character unusable in file names / GenBank headers -/
theorem ids_clean (allowLong : Bool) (inp : List (Str × Str × Option Str)) (recs : List Rec)
    (h : preProcessIds allowLong inp = .ok recs) :
    ∀ r ∈ recs, ∀ bad ∈ illegalRecordChars, bad ∉ r.id ∧ bad ∉ r.name :=
  fun r hr bad hb =>
    ⟨fun hm => (preProcessIds_outcome h).cleanId r hr bad hm hb,
     fun hm => (preProcessIds_outcome h).cleanName r hr bad hm hb⟩

/-- at most 16 characters unless long headers were allowed -/
theorem ids_short (inp : List (Str × Str × Option Str)) (recs : List Rec)
    (h : preProcessIds false inp = .ok recs) : ∀ r ∈ recs, r.id.length ≤ 16 ∧ r.name.length ≤ 16 :=
  (preProcessIds_outcome h).short rfl

/-- no record is lost or invented, and a record remembers its original identifier exactly when
    its identifier was changed (by the duplicate pass, the shortening or the stripping) -/
theorem original_remembered (allowLong : Bool) (inp : List (Str × Str × Option Str)) (recs : List Rec)
    (h : preProcessIds allowLong inp = .ok recs) :
    List.Forall₂ (fun p r => r.orig = if r.id = p.1 then none else some p.1) inp recs :=
  (preProcessIds_outcome h).remembers

/-- accepted inputs have no empty identifier, before or after -/
theorem ids_nonempty (allowLong : Bool) (inp : List (Str × Str × Option Str)) (recs : List Rec)
    (h : preProcessIds allowLong inp = .ok recs) : (∀ p ∈ inp, p.1 ≠ []) ∧ ∀ r ∈ recs, r.id ≠ [] :=
  ⟨(preProcessIds_outcome h).inputsNamed, (preProcessIds_outcome h).named⟩

/-- an input is rejected only because no 16-character identifier is left (`RuntimeError` of
    `generate_unique_id`) or because a record has no identifier; the `assert` on the size of the
    id set never fires and the counter loop of `generate_unique_id` always stops -/
theorem rejected_only_as_documented (allowLong : Bool) (inp : List (Str × Str × Option Str)) (e : Err)
    (h : preProcessIds allowLong inp = .error e) : e = .runtime ∨ e = .noName :=
  (preProcessIds_outcome h).imp_left And.left

/-- with `allow_long_headers` the only rejection left is a record without identifier -/
theorem allow_long_rejects_only_unnamed (inp : List (Str × Str × Option Str)) (e : Err)
    (h : preProcessIds true inp = .error e) : e = .noName :=
  (preProcessIds_outcome h).resolve_left fun hr => Bool.noConfusion hr.2

/-- the executable specification evaluated by the driver on the implementation's output holds of
    the model's output (same definition, `ASV.IdSpec.recordsOk`) -/
theorem sanitised_meets_spec (allowLong : Bool) (inp : List (Str × Str × Option Str)) (recs : List Rec)
    (h : preProcessIds allowLong inp = .ok recs) :
    IdSpec.recordsOk allowLong (inp.map (·.1)) (recs.map toOut) = true :=
  post_recordsOk (preProcessIds_outcome h)

/-- `generate_unique_id` returns `prefix_counter` for a counter not below `start`, not among the
    existing ids and within `max_length` when one is given -/
theorem unique_id_fresh (pre : Str) (taken : List Str) (start : Nat) (maxLength : Int) (n : Str) (k : Nat)
    (h : generateUniqueId pre taken start maxLength = .ok (n, k)) :
    n ∉ taken ∧ n = mkName pre k ∧ (0 < maxLength → (n.length : Int) ≤ maxLength) :=
  ⟨(generateUniqueId_ok h).2.1, (generateUniqueId_ok h).1, (generateUniqueId_ok h).2.2⟩

/-- … and it fails only with the `RuntimeError` for a positive `max_length` (totality of the loop) -/
theorem unique_id_total (pre : Str) (taken : List Str) (start : Nat) (maxLength : Int) (e : Err)
    (h : generateUniqueId pre taken start maxLength = .error e) : e = .runtime ∧ 0 < maxLength :=
  ⟨(generateUniqueId_outcome h).1, (generateUniqueId_outcome h).2.1⟩

/-- function level, in the terms the driver evaluates on the implementation's result
    (`IdSpec.uniqueOk`): whenever `generate_unique_id` returns, the RETURNED id is not among the
    existing ids and is within `max_length` — the bound is on the candidate finally chosen, however
    many taken candidates (and digit boundaries of the counter) the loop has skipped -/
theorem unique_id_meets_spec (pre : Str) (taken : List Str) (start : Nat) (maxLength : Int) (n : Str) (k : Nat)
    (h : generateUniqueId pre taken start maxLength = .ok (n, k)) : IdSpec.uniqueOk taken maxLength n = true :=
  uniqueOk_of_ok h

/-- one `fix_record_name_id` call with an arbitrary id set, `original_id` and `record_index`
    meets the executable per-call spec `IdSpec.fixOk` -/
theorem fix_meets_spec (allowLong : Bool) (taken : List Str) (r r' : Rec) (t' : List Str)
    (h : fixRecordNameId allowLong taken r = .ok (r', t')) :
    IdSpec.fixOk allowLong taken r.id r.orig (toOut r') t' = true :=
  fixOk_of_post (fixRecordNameId_outcome h)

/-- the `accession` annotation never exceeds 16 characters afterwards (it is shortened even when
    long headers are allowed) -/
theorem accession_short (allowLong : Bool) (inp : List (Str × Str × Option Str)) (recs : List Rec)
    (h : preProcessIds allowLong inp = .ok recs) : ∀ r ∈ recs, ∀ a, r.acc = some a → a.length ≤ 16 :=
  (preProcessIds_outcome h).accShort

/-- the repaired `_shorten_ids` always fits (D15) and is the old format for numbers of ≤ 5 digits -/
theorem shortened_fits (recordIndex : Nat) (s : Str) :
    (shortenIds recordIndex s).length ≤ 16 ∧
    ((Nat.toDigits 10 (contigNoOf recordIndex s)).length ≤ 5 →
      shortenIds recordIndex s = 'c' :: pad5 (contigNoOf recordIndex s) ++ '_' :: s.take 7 ++ ['.', '.']) :=
  ⟨shortenIds_length _ _, shortenIds_small _ _⟩

/-- gene identifiers: a successful `add_cds_feature` stores the feature under a name and a
    location key (`str(location)`) that no earlier CDS of the record has, and the name is
    `get_name()` or `get_name()_<crc32 of the location text>` -/
theorem add_cds_fresh_or_rejected (s s' : GState) (c : Cds) (n : Str) (h : addCds s c = .ok (s', n)) :
    n ∉ s.cdss.map (·.1) ∧ locChars c.loc ∉ s.cdss.map (fun x => locChars x.2) ∧
    s'.cdss = s.cdss ++ [(n, c.loc)] ∧
    ∃ name, c.getName = some name ∧ (n = name ∨ n = name ++ '_' :: locationChecksum c.loc) :=
  ⟨(addCds_outcome h).1, (addCds_outcome h).2.1, (addCds_outcome h).2.2.1, (addCds_outcome h).2.2.2.2⟩

/-- a rejected call (the three input errors are the only constructors of `GErr`: the renamed
    splice variant whose generated name is taken is an input error too, D60) leaves the record
    exactly as it was -/
theorem rejected_call_leaves_record (s : GState) (loc : Loc) (lt g p : Option Str) (e : GErr)
    (h : addCds s (mkCds loc lt g p) = .error e) : applyOp s (.cds loc lt g p) = s :=
  applyOp_rejected h

/-- after any sequence of `add_gene` / `add_cds_feature` calls on a fresh record the CDS names,
    the location keys and hence the locations are pairwise distinct -/
theorem gene_names_unique_or_rejected (ops : List GOp) :
    ((runOps {} ops).cdss.map (·.1)).Nodup ∧ ((runOps {} ops).cdss.map (fun x => locChars x.2)).Nodup ∧
    ((runOps {} ops).cdss.map (·.2)).Nodup :=
  have h := runOps_inv ops GInv.empty
  ⟨h.names, h.keys, locs_nodup_of_keys h.keys⟩

/-- `_sanitise_id_value` removes every gene-level illegal character, keeps the length and leaves
    legal values alone; the names of all CDS features are legal (the checksum suffix is made of
    hex digits, which the regenerated table does not contain) -/
theorem gene_names_safe (s : Str) (ops : List GOp) :
    (∀ bad ∈ illegalGeneChars, bad ∉ sanitiseIdValue s) ∧ (sanitiseIdValue s).length = s.length ∧
    ((∀ c ∈ s, c ∉ illegalGeneChars) → sanitiseIdValue s = s) ∧
    (∀ x ∈ (runOps {} ops).cdss, ∀ bad ∈ illegalGeneChars, bad ∉ x.1) :=
  ⟨fun bad hb hm => sanitise_safe s bad hm hb, sanitise_length s, sanitise_id_of_safe,
   fun x hx bad hb hm => (runOps_inv ops GInv.empty).safe x hx bad hm hb⟩

/-- the executable gene-level spec (`IdSpec.genesOk`, run by the driver on the implementation's
    CDS list) holds of the model's state after any operation sequence -/
theorem genes_meet_spec (ops : List GOp) : IdSpec.genesOk (runOps {} ops).cdss = true :=
  genesOk_of_inv (runOps_inv ops GInv.empty)

/-- reading a record (`Record.from_biopython`: gene / CDS features in file order, identifiers from
    the qualifiers with biopython's line-break blanks removed from locus tags, a position-based name
    when a CDS has none): either the record is rejected — and then only because two CDS features
    share a location or a name that cannot be told apart as splice variants, never for a missing
    identifier — or all its CDS features have pairwise distinct, legal names and pairwise distinct
    locations (`IdSpec.genesOk`, the spec the driver runs on the implementation's record) -/
theorem record_read_unique_or_rejected (feats : List BioFeat) :
    (∀ s, fromBiopython {} feats = .ok s →
      (s.cdss.map (·.1)).Nodup ∧ (s.cdss.map (·.2)).Nodup ∧ (∀ x ∈ s.cdss, ∀ bad ∈ illegalGeneChars, bad ∉ x.1) ∧
      IdSpec.genesOk s.cdss = true) ∧
    (∀ e, fromBiopython {} feats = .error e → e = .dupLocation ∨ e = .dupName) := by
  refine ⟨fun s h => ?_, fun e h => fromBiopython_outcome feats h⟩
  have hi := fromBiopython_outcome feats h GInv.empty
  exact ⟨hi.names, locs_nodup_of_keys hi.keys, fun x hx bad hb hm => hi.safe x hx bad hm hb, genesOk_of_inv hi⟩

/-! ### the options real runs reach the identifier handling through -/

/-- `pre_process_sequences` with every option combination: when sanitisation is required
    (neither `reuse_results` nor `skip_sanitisation`) the accepted records satisfy the whole
    record-level spec; an input is rejected only in the three documented ways -/
theorem preprocess_with_options_meets_spec (o : Options) (inp : List (Str × Str × Option Str))
    (recs : List Rec) (skips : List Bool) (hreq : checkingRequired o.reuse o.skip = true)
    (h : preProcess o inp = .ok (recs, skips)) :
    IdSpec.recordsOk o.allowLong (inp.map (·.1)) (recs.map toOut) = true ∧ skips.length = recs.length := by
  obtain ⟨hp, hf⟩ := preProcess_outcome h
  rw [if_pos hreq] at hp
  exact ⟨post_recordsOk (preProcessIds_outcome hp), (filterByName_outcome hf).1⟩

/-- … and with `reuse_results` / `skip_sanitisation` the identifiers are left exactly as read
    (only the "record has no name" check and the name filter still apply) -/
theorem unsanitised_ids_untouched (o : Options) (inp : List (Str × Str × Option Str))
    (recs : List Rec) (skips : List Bool) (hreq : checkingRequired o.reuse o.skip = false)
    (h : preProcess o inp = .ok (recs, skips)) :
    List.Forall₂ (fun p r => r.id = p.1 ∧ r.name = p.2.1 ∧ r.orig = none) inp recs ∧ ∀ r ∈ recs, r.id ≠ [] := by
  obtain ⟨hp, _⟩ := preProcess_outcome h
  rw [if_neg (Bool.eq_false_iff.mp hreq)] at hp
  obtain ⟨rfl, hne⟩ := checkNames_outcome hp
  exact ⟨mkRecs_forall₂ 1 inp, hne⟩

/-- `--limit-to-record` after sanitisation: because the sanitised ids are pairwise distinct, the
    filter keeps exactly one record, the one whose (new) id is the target, and marks all others -/
theorem limit_to_record_selects_one (o : Options) (inp : List (Str × Str × Option Str))
    (recs : List Rec) (skips : List Bool) (hreq : checkingRequired o.reuse o.skip = true)
    (hl : o.limitTo ≠ []) (h : preProcess o inp = .ok (recs, skips)) :
    skips = recs.map (fun r => r.id != o.limitTo) ∧ recs.countP (·.id == o.limitTo) = 1 := by
  obtain ⟨hp, hf⟩ := preProcess_outcome h
  rw [if_pos hreq] at hp
  obtain ⟨hs, hc⟩ := (filterByName_outcome hf).2.2 hl
  exact ⟨hs, Nat.le_antisymm (countP_le_one_of_nodup (preProcessIds_outcome hp).distinct) hc⟩

/-- rejections of the whole option-aware function: the two of the sanitisation, or nobody carries
    the `--limit-to-record` target (after renaming) -/
theorem preprocess_rejections (o : Options) (inp : List (Str × Str × Option Str)) (e : Err)
    (h : preProcess o inp = .error e) : e = .runtime ∨ e = .noName ∨ e = .noMatch := by
  rcases preProcess_outcome h with hp | ⟨recs, _, hf⟩
  · split at hp
    · exact (preProcessIds_outcome hp).imp And.left Or.inl
    · exact Or.inr (Or.inl (checkNames_outcome hp))
  · exact Or.inr (Or.inr (filterByName_outcome hf).1)

/-- `Record.has_name`: after sanitisation every record answers to the identifier it was read with,
    and to nothing but that and its current identifier (this is how sideloaded annotations find a
    renamed record) -/
theorem has_name_answers_to_input_id (allowLong : Bool) (inp : List (Str × Str × Option Str)) (recs : List Rec)
    (h : preProcessIds allowLong inp = .ok recs) :
    List.Forall₂ (fun p r => hasName r p.1 = true ∧ ∀ t, hasName r t = true → t = r.id ∨ t = p.1) inp recs :=
  (preProcessIds_outcome h).remembers.imp fun _ _ hr => hasName_of_remembers hr

/-! ### the counter is the least free one; the regex scanners against the patterns' declarative meaning -/

/-- `generate_unique_id` returns the LEAST counter from `start` on whose name is free: every
    smaller candidate is taken (so the result is fully determined by the inputs) -/
theorem unique_id_least (pre : Str) (taken : List Str) (start : Nat) (maxLength : Int) (n : Str) (k : Nat)
    (h : generateUniqueId pre taken start maxLength = .ok (n, k)) :
    start ≤ k ∧ ∀ j, start ≤ j → j < k → mkName pre j ∈ taken :=
  generateUniqueId_least h

/-- `(\d+)\b`: the scanner returns `ds` exactly when `ds` is a match in the declarative
    (backtracking) sense — a non-empty digit prefix followed by a word boundary; hence the match is
    unique and nothing can succeed by backtracking where the greedy run fails -/
theorem regex_digits_boundary_exact (s ds : Str) : digitsThenBoundary s = some ds ↔ MatchDigitsB s ds :=
  digitsThenBoundary_iff s ds

/-- `onti?g?(\d+)\b` anchored: scanner = declarative meaning with both optional letters free to be
    skipped or taken -/
theorem regex_contig_exact (s ds : Str) : matchContigAt s = some ds ↔ MatchContig s ds :=
  matchContigAt_iff s ds

/-- `caff?o?l?d?(\d+)\b` anchored: likewise, four optional letters -/
theorem regex_scaffold_exact (s ds : Str) : matchScaffoldAt s = some ds ↔ MatchScaffold s ds :=
  matchScaffoldAt_iff s ds

/-- `re.search`: the scanner loop returns the match at the leftmost start position that has one -/
theorem regex_search_leftmost (m : Str → Option Str) (r s : Str) :
    searchFrom m s = some r ↔
    ∃ pre suf, s = pre ++ suf ∧ m suf = some r ∧
      ∀ pre' suf', s = pre' ++ suf' → pre'.length < pre.length → m suf' = none :=
  searchFrom_iff m r s

/-- the regenerated illegal-character tables still contain every character they contained when
    the property was written (path separator, blank, shell/GenBank metacharacters; for gene ids
    also tab / newline / carriage return): shrinking a table breaks this obligation -/
theorem illegal_sets_cover_baseline :
    (['!', '"', '#', '$', '%', '&', '(', ')', '*', '+', ',', ':', ';', '=', '>', '?', '@', '[', ']', '^', '`',
      '\'', '{', '|', '}', '/', ' '].all fun c => illegalRecordChars.contains c && illegalGeneChars.contains c) = true ∧
    (['\t', '\n', '\r'].all fun c => illegalGeneChars.contains c) = true := by decide +kernel

/-! ### non-vacuity: the hypotheses are satisfiable on the inputs that used to break the property -/

/- Where an example has long literals, every `"…".toList` is first replaced by its character list
   (`String.toList_ofList`): left to the kernel, it decodes the literal's UTF-8 bytes one by one,
   which costs more than the function under test. -/

/-- D14 witness: used to give `ab`, `ab` -/
example : preProcessIds false [("a:b".toList, "a:b".toList, none), ("ab".toList, "ab".toList, none)] =
    .ok [⟨"ab_0".toList, "ab".toList, some "a:b".toList, 1, none⟩, ⟨"ab".toList, "ab".toList, none, 2, none⟩] := by
  repeat rw [String.toList_ofList]
  decide +kernel
/-- D15 witness: used to give the 18-character `c1234567_contig1..` -/
example : preProcessIds false [("contig1234567.abcdefghijklmnop".toList, "x".toList, some "scaffold12.abcdefghijk".toList)] =
    .ok [⟨"c1234567_conti..".toList, "x".toList, some "contig1234567.abcdefghijklmnop".toList, 1,
          some "c00012_scaffol..".toList⟩] := by
  repeat rw [String.toList_ofList]
  decide +kernel
/-- duplicates, allow_long_headers: second and third occurrence renamed, first kept -/
example : (preProcessIds true [("a".toList, [], none), ("a".toList, [], none), ("a_0".toList, [], none)]).map (·.map (·.id)) =
    .ok ["a".toList, "a_0".toList, "a_0_0".toList] := by
  repeat rw [String.toList_ofList]
  decide +kernel
/-- the two rejections happen -/
example : preProcessIds false [("a".toList, [], none), ([], [], none)] = .error .noName := by decide +kernel
example : generateUniqueId "ab".toList ["ab_0".toList] 0 3 = .error .runtime := by decide +kernel
/-- the counter crosses a digit boundary exactly where the length budget ends: `ab_0 … ab_9` taken,
    `ab_10` needs 5 characters — rejected with `max_length = 4` (although the first candidate `ab_0`
    fits), returned with 5 -/
def tenTaken : List Str := (List.range 10).map fun k => mkName "ab".toList k
example : generateUniqueId "ab".toList tenTaken 0 4 = .error .runtime := by decide +kernel
example : generateUniqueId "ab".toList tenTaken 0 5 = .ok ("ab_10".toList, 10) := by decide +kernel
/-- splice variant: same locus tag, overlapping location → renamed with the checksum; disjoint → rejected -/
example : (runOps {} [.cds (.simple ⟨10, 40, .fwd⟩) (some "a:b".toList) none none,
                      .cds (.simple ⟨20, 50, .fwd⟩) (some "a_b".toList) none none,
                      .cds (.simple ⟨100, 130, .fwd⟩) (some "a b".toList) none none]).cdss.map (·.1) =
    ["a_b".toList, "a_b_e50adf46".toList] := by
  repeat rw [String.toList_ofList]
  decide +kernel
/-- reading: a locus tag with a line-break blank collides with its unbroken form and is renamed as a
    splice variant; a CDS without identifiers is named after its position -/
example : (fromBiopython {} [⟨true, .simple ⟨10, 40, .fwd⟩, some "a b".toList, none, none, false⟩,
                             ⟨true, .simple ⟨20, 50, .fwd⟩, some "ab".toList, none, none, false⟩,
                             ⟨true, .simple ⟨100, 130, .rev⟩, none, none, none, true⟩]).toOption.map
            (fun s => s.cdss.map (·.1)) =
    some ["ab".toList, "ab_e50adf46".toList, "pseudo100_130".toList] := by
  repeat rw [String.toList_ofList]
  decide +kernel
/-- `f"{crc:x}"` drops leading zero nibbles: seven hex digits here -/
example : locationChecksum (.simple ⟨18, 45, .fwd⟩) = "cdea4e3".toList := by
  repeat rw [String.toList_ofList]
  decide +kernel
/-- options: the renamed duplicate is found under its new id only; the original id as target matches the
    first record; with sanitisation switched off nothing is renamed and both carry the target -/
example : (preProcess { limitTo := "a_0".toList } [("a".toList, [], none), ("a".toList, [], none)]).toOption.map (·.2) =
    some [true, false] := by decide +kernel
example : (preProcess { limitTo := "a".toList } [("a".toList, [], none), ("a".toList, [], none)]).toOption.map (·.2) =
    some [false, true] := by decide +kernel
example : (preProcess { skip := true, limitTo := "a".toList } [("a".toList, [], none), ("a".toList, [], none)]).toOption.map (·.2) =
    some [false, false] := by decide +kernel
example : (match preProcess { limitTo := "a:b".toList } [("a:b".toList, [], none)] with
           | .error .noMatch => true | _ => false) = true := by decide +kernel
/-- the declarative matches exist: `ontig12.x` matches with the `i` and `g` taken, `ont7` with both skipped,
    `cafod3-` with `f` and `l` skipped; `ontig12x` has no match (no boundary after the digits) -/
example : MatchContig "ontig12.x".toList "12".toList := (matchContigAt_iff _ _).mp (by decide +kernel)
example : MatchContig "ont7".toList "7".toList := (matchContigAt_iff _ _).mp (by decide +kernel)
example : MatchScaffold "cafod3-".toList "3".toList := (matchScaffoldAt_iff _ _).mp (by decide +kernel)
example : ¬ ∃ ds, MatchContig "ontig12x".toList ds := fun ⟨ds, h⟩ => by
  have := (matchContigAt_iff _ _).mpr h
  have hn : matchContigAt "ontig12x".toList = none := by decide +kernel
  rw [hn] at this
  exact absurd this (by simp)
/-- D60 witness: the generated name is already there → input error `dupName` (used to be a bare `assert`) -/
example : (match addCds (runOps {} [.cds (.simple ⟨100, 130, .fwd⟩) (some "geneX_e50adf46".toList) none none,
                                    .cds (.simple ⟨10, 40, .fwd⟩) (some "geneX".toList) none none])
                        (mkCds (.simple ⟨20, 50, .fwd⟩) (some "geneX".toList) none none) with
           | .error .dupName => true
           | _ => false) = true := by decide +kernel

end ASV.C16
