/-
  C18 — Parallel execution gives the sequential result, in order.
  Property theorems only; helper lemmas live in ASV/Proofs/Parallel*.lean.

  Every statement is for all call functions `f` (any argument, error and result types), all
  argument lists (any batch size), all worker counts `≥ 2` (given or defaulted from the config),
  and all schedules in the stated class: `Complete m sched` = every one of the `m` chunks
  completes exactly once, in ANY relative order (`Perm`), nothing else happens; `rest` = whatever
  the scheduler does afterwards.  No bound on anything.
-/
import ASV.Proofs.ParallelState
import ASV.Proofs.ParallelWorkers
namespace ASV.C18
open ASV ASV.Parallel

variable {α ε β : Type}

/-- **the property, success case**: for every number of workers, batch size and relative
    completion order, `parallel_function` returns exactly the list the sequential loop returns —
    same values, same order, same length, no `None` left in it -/
theorem parallel_eq_sequential (configCpus cpus : Nat) (f : α → Except ε β) (args : List α)
    (hasTimeout : Bool) (sched rest : List Event)
    (hk : 2 ≤ resolveCpus configCpus cpus)
    (hc : Complete (numChunks args.length (resolveCpus configCpus cpus)) sched)
    (l : List β) (hseq : sequential f args = .ok l) :
    parallelFunction configCpus f args cpus hasTimeout (sched ++ rest) = .returned (l.map some) := by
  rw [parallelFunction_pool hk]
  exact (poolRun_complete f (pos_of_two_le hk) hasTimeout rest hc).ok hseq

/-- **the property, failure case**: if any call fails, the caller gets an exception — the
    exception of one of the failing calls — never a list (shorter, reordered or otherwise) -/
theorem failure_surfaces (configCpus cpus : Nat) (f : α → Except ε β) (args : List α)
    (hasTimeout : Bool) (sched rest : List Event)
    (hk : 2 ≤ resolveCpus configCpus cpus)
    (hc : Complete (numChunks args.length (resolveCpus configCpus cpus)) sched)
    (hfail : ∃ a ∈ args, ∃ e, f a = .error e) :
    ∃ e, parallelFunction configCpus f args cpus hasTimeout (sched ++ rest) = .raised (.task e) ∧
      ∃ a ∈ args, f a = .error e := by
  rw [parallelFunction_pool hk]
  obtain ⟨e₀, hseq⟩ := sequential_error_of_failing f args hfail
  exact (poolRun_complete f (pos_of_two_le hk) hasTimeout rest hc).error hseq

/-- when the failing calls cannot be told apart by their error (in particular: a single failing
    call), the parallel outcome IS the sequential outcome; with several distinct errors the one
    re-raised depends on the completion order (see the examples below) — the property only asks
    for "an error" -/
theorem unambiguous_failure_eq_sequential (configCpus cpus : Nat) (f : α → Except ε β) (args : List α)
    (hasTimeout : Bool) (sched rest : List Event)
    (hk : 2 ≤ resolveCpus configCpus cpus)
    (hc : Complete (numChunks args.length (resolveCpus configCpus cpus)) sched)
    (e : ε) (hfail : ∃ a ∈ args, f a = .error e)
    (hsame : ∀ a ∈ args, ∀ e', f a = .error e' → e' = e) :
    parallelFunction configCpus f args cpus hasTimeout (sched ++ rest) = sequentialOutcome f args := by
  rw [parallelFunction_pool hk]
  exact (poolRun_complete f (pos_of_two_le hk) hasTimeout rest hc).eq_of_unambiguous
    e hsame

/-- a deadline that passes while work is outstanding surfaces as the time-out error, whatever
    completed before it (in whatever order) and whatever happens after it -/
theorem timeout_surfaces (configCpus cpus : Nat) (f : α → Except ε β) (args : List α)
    (pre post : List Event)
    (hk : 2 ≤ resolveCpus configCpus cpus)
    (hdone : ∀ e ∈ pre, e.isDone = true)
    (hvalid : ∀ i ∈ doneIdxs pre, i < numChunks args.length (resolveCpus configCpus cpus))
    (hfew : pre.length < numChunks args.length (resolveCpus configCpus cpus)) :
    parallelFunction configCpus f args cpus true (pre ++ .timeout :: post) = .raised .timeout := by
  rw [parallelFunction_pool hk]
  exact poolRunWith_interrupted_after_dones (comprehension_lengthPreserving f)
    (pos_of_two_le hk) true post .timeout .timeout hdone hvalid hfew rfl fun _ => rfl

/-- a worker process found dead while work is outstanding surfaces as an error, with or without
    a deadline (the repaired `_await_pool_results`; the unrepaired code blocks here, defect D44) -/
theorem worker_death_surfaces (configCpus cpus : Nat) (f : α → Except ε β) (args : List α)
    (hasTimeout : Bool) (pre post : List Event) (w : Nat)
    (hk : 2 ≤ resolveCpus configCpus cpus)
    (hdone : ∀ e ∈ pre, e.isDone = true)
    (hvalid : ∀ i ∈ doneIdxs pre, i < numChunks args.length (resolveCpus configCpus cpus))
    (hfew : pre.length < numChunks args.length (resolveCpus configCpus cpus)) :
    parallelFunction configCpus f args cpus hasTimeout (pre ++ .died w :: post) = .raised .workerDied := by
  rw [parallelFunction_pool hk]
  exact poolRunWith_interrupted_after_dones (comprehension_lengthPreserving f)
    (pos_of_two_le hk) hasTimeout post (.died w) .workerDied hdone hvalid hfew rfl fun _ => rfl

/-- with one cpu (given, or defaulted from the config) `parallel_function` is the plain
    sequential loop whatever the scheduler would have done and whatever timeout was given -/
theorem cpus_one_ignores_pool (configCpus cpus : Nat) (f : α → Except ε β) (args : List α)
    (hasTimeout : Bool) (evs : List Event) (h : resolveCpus configCpus cpus = 1) :
    parallelFunction configCpus f args cpus hasTimeout evs = sequentialOutcome f args := by
  simp only [parallelFunction, h, if_true, sequentialOutcome, comprehension_eq_sequential]
  rfl

/-- `parallel_execute` (no single-cpu shortcut: any worker count `≥ 1`): the return codes come
    back in command order; a failing `child_process` surfaces as its exception -/
theorem execute_eq_sequential (configCpus cpus : Nat) (runner : α → Except ε Int) (commands : List α)
    (hasTimeout : Bool) (sched rest : List Event)
    (hk : 1 ≤ resolveCpus configCpus cpus)
    (hc : Complete (numChunks commands.length (resolveCpus configCpus cpus)) sched) :
    (∀ codes, sequential runner commands = .ok codes →
      parallelExecute configCpus runner commands cpus hasTimeout (sched ++ rest) =
        .returned (codes.map some)) ∧
    (∀ e₀, sequential runner commands = .error e₀ →
      ∃ e, parallelExecute configCpus runner commands cpus hasTimeout (sched ++ rest) = .raised (.task e) ∧
        ∃ c ∈ commands, runner c = .error e) := by
  rw [parallelExecute_pool hk]
  show SequentialResults runner commands _
  exact poolRun_complete runner hk hasTimeout rest hc

/-- **the model meets the executable spec** — the Boolean `acceptable` that the harness evaluates
    on the real implementation's outcome — for every event list a pool can produce (`Valid`: no
    chunk completes twice, only existing chunks): deadlines and dead workers at any point,
    incomplete schedules, any events after completion, any cpu count including 0 and 1 -/
theorem model_meets_spec [DecidableEq ε] [DecidableEq β] (configCpus cpus : Nat)
    (f : α → Except ε β) (args : List α) (hasTimeout : Bool) (evs : List Event)
    (hv : Valid (numChunks args.length (resolveCpus configCpus cpus)) evs) :
    acceptable configCpus f args cpus hasTimeout evs
      (parallelFunction configCpus f args cpus hasTimeout evs) = true := by
  rcases resolveCpus_cases configCpus cpus with h1 | h0 | hk
  · rw [acceptable_eq, if_pos h1, cpus_one_ignores_pool configCpus cpus f args hasTimeout evs h1]
    exact beq_self_eq_true _
  · rw [acceptable_eq, if_neg (h0 ▸ Nat.zero_ne_one), if_pos h0, parallelFunction_zero h0]
    exact beq_self_eq_true _
  · rw [acceptable_eq, if_neg (Nat.ne_of_gt hk), if_neg (Nat.ne_of_gt (pos_of_two_le hk)),
      parallelFunction_pool hk]
    exact poolRun_acceptable f (pos_of_two_le hk) hasTimeout hv

/-- the same for `parallel_execute` -/
theorem execute_meets_spec [DecidableEq ε] (configCpus cpus : Nat) (runner : α → Except ε Int)
    (commands : List α) (hasTimeout : Bool) (evs : List Event)
    (hv : Valid (numChunks commands.length (resolveCpus configCpus cpus)) evs) :
    acceptableExecute configCpus runner commands cpus hasTimeout evs
      (parallelExecute configCpus runner commands cpus hasTimeout evs) = true := by
  rw [acceptableExecute_eq]
  by_cases h0 : resolveCpus configCpus cpus = 0
  · rw [parallelExecute_zero h0, if_pos h0]
    exact beq_self_eq_true _
  · have hk : 0 < resolveCpus configCpus cpus := Nat.pos_of_ne_zero h0
    rw [parallelExecute_pool hk, if_neg h0]
    exact poolRun_acceptable runner hk hasTimeout hv

/-- **never a shorter or reordered list**: whatever a pool does (any valid event list, complete or
    not, interrupted or not), if `parallel_function` returns a list at all it is exactly the
    sequential result -/
theorem never_partial_list (configCpus cpus : Nat) (f : α → Except ε β) (args : List α)
    (hasTimeout : Bool) (evs : List Event)
    (hv : Valid (numChunks args.length (resolveCpus configCpus cpus)) evs)
    (r : List (Option β))
    (hret : parallelFunction configCpus f args cpus hasTimeout evs = .returned r) :
    ∃ l, sequential f args = .ok l ∧ r = l.map some := by
  rcases resolveCpus_cases configCpus cpus with h1 | h0 | hk
  · rw [cpus_one_ignores_pool configCpus cpus f args hasTimeout evs h1, sequentialOutcome] at hret
    cases hseq : sequential f args with
    | ok l => rw [hseq] at hret; cases hret; exact ⟨l, rfl, rfl⟩
    | error e => rw [hseq] at hret; cases hret
  · rw [parallelFunction_zero h0] at hret
    cases hret
  · rw [parallelFunction_pool hk] at hret
    exact poolRun_returned (pos_of_two_le hk) hv hret

/-- The full statement about real worker processes — "every theorem above holds with the process
    boundary in place, for all arguments, results and exceptions" — is NOT provable: it is false
    for values that do not survive pickling (known finding KF-C18-unreconstructible-exception,
    negation witness below), and pickling itself is CPython's, not modelled. -/
def ProcessBoundaryInvisible (pa : α → α) (pb : β → β) (pe : ε → ε) : Prop :=
  ∀ (configCpus cpus : Nat) (f : α → Except ε β) (args : List α) (hasTimeout : Bool) (evs : List Event),
    parallelFunctionWire pa pb pe configCpus f args cpus hasTimeout evs =
      parallelFunction configCpus f args cpus hasTimeout evs

/-- **the process boundary** (partial: under the hypothesis that pickling is faithful on the
    arguments, results and exceptions involved, unpickle ∘ pickle = identity — which is what the
    harness checks for real `Record`s): running the calls in worker processes is
    indistinguishable from running them on the caller's objects, so every theorem above holds
    with the boundary in place -/
theorem faithful_pickling_invisible_partial (pa : α → α) (pb : β → β) (pe : ε → ε)
    (ha : ∀ a, pa a = a) (hb : ∀ b, pb b = b) (he : ∀ e, pe e = e)
    : ProcessBoundaryInvisible pa pb pe := by
  intro configCpus cpus f args hasTimeout evs
  have : overWire pa pb pe f = f := by
    funext a
    simp only [overWire, ha]
    cases f a with
    | ok b => simp [hb]
    | error e => simp [he]
  simp [parallelFunctionWire, this]

/-- **the process boundary, per batch** (widens `faithful_pickling_invisible_partial`): pickling
    need only be faithful on what THIS batch really sends — its arguments, the results its calls
    return and the exceptions its calls raise.  Values that do not survive pickling but do not occur
    in the batch (e.g. an unreconstructible exception class nobody raises) are irrelevant. -/
theorem pickling_invisible_on_batch (pa : α → α) (pb : β → β) (pe : ε → ε)
    (configCpus cpus : Nat) (f : α → Except ε β) (args : List α) (hasTimeout : Bool) (evs : List Event)
    (ha : ∀ a ∈ args, pa a = a)
    (hb : ∀ a ∈ args, ∀ b, f a = .ok b → pb b = b)
    (he : ∀ a ∈ args, ∀ e, f a = .error e → pe e = e) :
    parallelFunctionWire pa pb pe configCpus f args cpus hasTimeout evs =
      parallelFunction configCpus f args cpus hasTimeout evs := by
  unfold parallelFunctionWire
  split
  · rfl
  · apply parallelFunction_congr
    intro a hmem
    simp only [overWire, ha a hmem]
    cases hfa : f a with
    | ok b => simp [hb a hmem b hfa]
    | error e => simp [he a hmem e hfa]

/-- a lossy pickle of results is harmless for a batch whose results it does not touch: here `pb`
    forgets second components, and every result has second component 0 already -/
example : parallelFunctionWire id (fun (p : Nat × Nat) => (p.1, 0)) id 1
    (fun (n : Nat) => (Except.ok (n, 0) : Except String (Nat × Nat))) [1, 2, 3] 2 false
    [.done 2, .done 1, .done 0] = .returned [some (1, 0), some (2, 0), some (3, 0)] := by decide +kernel

/-- `parallel_execute(verbose=…)`: the logging runner and the silent one are the same function of
    the command's outcome, so the flag never changes the result -/
theorem verbose_flag_invisible (configCpus cpus : Nat) (interrupt : ε) (verbose : Bool)
    (commands : List (ExecResult ε)) (hasTimeout : Bool) (evs : List Event) :
    parallelExecute configCpus (runnerOf verbose interrupt) commands cpus hasTimeout evs =
      parallelExecute configCpus (childProcess interrupt) commands cpus hasTimeout evs := by
  cases verbose <;> rfl

/-! ### which children are workers -/

/-- a child process the caller already had when the helper was entered is never taken for a
    worker: its exit is a `bystander` event … -/
theorem earlier_child_exit_is_bystander (before after : List Nat) (p : Nat) (h : p ∈ before) :
    Observed.toEvent before after (.exit p) = .bystander p :=
  classifyExit_of_mem_before before after p h

/-- … whereas the exit of a process that appeared with the pool is a worker death
    (`worker_death_surfaces` then applies) -/
theorem pool_worker_exit_is_death (before after : List Nat) (p : Nat) (ha : p ∈ after) (hb : p ∉ before) :
    Observed.toEvent before after (.exit p) = .died p :=
  classifyExit_of_worker before after p ha hb

/-- **bystanders are invisible**: deleting every bystander exit from ANY event list — wherever it
    occurs relative to completions, deadlines and worker deaths — leaves the outcome of
    `parallel_function` unchanged; so all theorems above hold in a process that owns other children -/
theorem bystander_exit_invisible (configCpus cpus : Nat) (f : α → Except ε β) (args : List α)
    (hasTimeout : Bool) (evs : List Event) :
    parallelFunction configCpus f args cpus hasTimeout (evs.filter fun e => !e.isBystander) =
      parallelFunction configCpus f args cpus hasTimeout evs := by
  exact parallelFunction_drop_bystanders configCpus f args cpus hasTimeout evs

/-- the same for `parallel_execute` -/
theorem bystander_exit_invisible_execute (configCpus cpus : Nat) (runner : α → Except ε Int)
    (commands : List α) (hasTimeout : Bool) (evs : List Event) :
    parallelExecute configCpus runner commands cpus hasTimeout (evs.filter fun e => !e.isBystander) =
      parallelExecute configCpus runner commands cpus hasTimeout evs := by
  exact parallelExecute_drop_bystanders configCpus runner commands cpus hasTimeout evs

/-! ### shared state: threaded in the parent vs shipped with the function -/

/-- **the code as written** (`pre_process_sequences`: `fix_record_name_id` with the shared id set
    runs as a loop in the parent, only the stateless `sanitise_sequence` goes to the workers):
    the stage gives the same outcome with any number of workers, any batch size and any
    completion order as with one cpu -/
theorem state_threaded_in_parent_cpus_invariant {σ γ : Type} (configCpus cpus configCpus' cpus' : Nat)
    (g : σ → α → Except ε (σ × β)) (s₀ : σ) (h : β → Except ε γ) (args : List α)
    (hasTimeout hasTimeout' : Bool) (sched rest evs' : List Event)
    (hk : 2 ≤ resolveCpus configCpus cpus) (h1 : resolveCpus configCpus' cpus' = 1)
    (hc : Complete (numChunks args.length (resolveCpus configCpus cpus)) sched)
    (hh : ∀ s bs, threaded g s₀ args = .ok (s, bs) → ∃ l, sequential h bs = .ok l) :
    preProcessStage configCpus g s₀ h args cpus hasTimeout (sched ++ rest) =
      preProcessStage configCpus' g s₀ h args cpus' hasTimeout' evs' := by
  unfold preProcessStage
  cases hthr : threaded g s₀ args with
  | error e => rfl
  | ok p =>
    obtain ⟨s, bs⟩ := p
    simp only
    split
    · rfl
    · obtain ⟨l, hl⟩ := hh s bs hthr
      have hlen := threaded_length g args s₀ s bs hthr
      rw [← hlen] at hc
      rw [parallel_eq_sequential configCpus cpus h bs hasTimeout sched rest hk hc l hl,
        cpus_one_ignores_pool configCpus' cpus' h bs hasTimeout' evs' h1]
      simp [sequentialOutcome, hl]

/-- **shipping the state with the function** (`parallel_function(partial(g, state), …)`): for every
    worker count `≥ 2`, batch size and completion order, the result equals the in-process result
    `bs` **iff** every task batch, run on the stale copy of the initial state, happens to produce
    what it produces on the live state (`StaleAgrees`) — e.g. when all calls fall into one batch or
    the outputs do not depend on the state; it differs as soon as one batch depends on an update
    made by an earlier batch (negation witness with real identifiers below) -/
theorem shipped_state_eq_sequential_iff {σ : Type} (configCpus cpus : Nat)
    (g : σ → α → Except ε (σ × β)) (s₀ sf : σ) (args : List α) (bs : List β)
    (hasTimeout : Bool) (sched rest : List Event)
    (hk : 2 ≤ resolveCpus configCpus cpus)
    (hc : Complete (numChunks args.length (resolveCpus configCpus cpus)) sched)
    (hseq : threaded g s₀ args = .ok (sf, bs)) :
    parallelFunctionShipped configCpus g s₀ args cpus hasTimeout (sched ++ rest) = .returned (bs.map some) ↔
      StaleAgrees g s₀ s₀ (getTasks (chunkSize args.length (resolveCpus configCpus cpus)) args) := by
  rw [parallelFunctionShipped_pool hk]
  exact poolRunWith_shipped_iff (pos_of_two_le hk) rest (hc.storesAll _) hseq

/-- in-process the shipped state IS the caller's state: one cpu gives the threaded result -/
theorem shipped_state_one_cpu {σ : Type} (configCpus cpus : Nat) (g : σ → α → Except ε (σ × β))
    (s₀ sf : σ) (args : List α) (bs : List β) (hasTimeout : Bool) (evs : List Event)
    (h1 : resolveCpus configCpus cpus = 1) (hseq : threaded g s₀ args = .ok (sf, bs)) :
    parallelFunctionShipped configCpus g s₀ args cpus hasTimeout evs = .returned (bs.map some) := by
  simp [parallelFunctionShipped, h1, hseq]

/-! ### how a `Record` is pickled (tables regenerated from `secmet/record.py` on every run) -/

/-- the class defines no pickling hook of its own (`__getstate__`, `__setstate__`, `__reduce__`,
    `__reduce_ex__`, `__getnewargs__`, …): copyreg's slot-by-slot state is what travels.  A change
    that adds one (seeded change C18_3 of round 4) breaks this obligation at build time. -/
theorem record_uses_default_pickling : defaultPickling = true := by decide +kernel

/-- no slot of `Record` bears a name that `Record.__setattr__` diverts to the wrapped `SeqRecord`
    (or to `add_annotation`) … -/
theorem record_slots_not_diverted :
    ∀ s ∈ ASV.Generated.RecordPickle.recordSlots, storedInSlot s = true := by decide +kernel

/-- … hence rebuilding an instance from its slot state (`setattr` per slot, through
    `Record.__setattr__`) restores exactly the slot state that was pickled: every slot — the wrapped
    `SeqRecord` with its dbxrefs, letter annotations and features included — comes back, none is
    diverted or dropped -/
theorem record_slot_state_roundtrip {V : Type} (st : SlotState V)
    (h : ∀ kv ∈ st, kv.1 ∈ ASV.Generated.RecordPickle.recordSlots) : rebuildSlots st = st :=
  rebuildSlots_id st fun kv hkv => record_slots_not_diverted kv.1 (h kv hkv)

/-- a `__getstate__` that ships a wrapped record rebuilt from seq/id/name/description/annotations
    is faithful **iff** the record carries no database cross references, no per-letter annotations
    and no Biopython features -/
theorem rebuilt_wrapped_faithful_iff {V : Type} (empty : V) (w : Wrapped V) :
    rebuiltWrapped empty w = w ↔ w.dbxrefs = empty ∧ w.letterAnnotations = empty ∧ w.features = empty := by
  cases w
  simp only [rebuiltWrapped, Wrapped.mk.injEq, true_and]
  constructor
  · rintro ⟨h1, h2, h3⟩; exact ⟨h1.symm, h2.symm, h3.symm⟩
  · rintro ⟨h1, h2, h3⟩; exact ⟨h1.symm, h2.symm, h3.symm⟩

/-- with such a `__getstate__` on the argument and result path (`pa = pb = rebuiltWrapped`), the
    identity worker returns a record that differs from the in-process one as soon as it has a DBLINK -/
example : parallelFunctionWire (rebuiltWrapped ([] : List String)) (rebuiltWrapped []) id 1
    (fun (w : Wrapped (List String)) => (Except.ok w : Except String (Wrapped (List String))))
    [⟨["ACGT"], ["r1"], ["r1"], ["d"], ["topology=linear"], ["BioProject:PRJNA1"], [], ["CDS 1..9"]⟩,
     ⟨["AC"], ["r2"], ["r2"], ["d"], [], [], [], []⟩] 2 false [.done 1, .done 0] =
    .returned [some ⟨["ACGT"], ["r1"], ["r1"], ["d"], ["topology=linear"], [], [], []⟩,
               some ⟨["AC"], ["r2"], ["r2"], ["d"], [], [], [], []⟩] := by decide +kernel
example : storedInSlot "_record" = true ∧ storedInSlot "annotations" = false ∧ storedInSlot "id" = false := by
  decide +kernel

/-! ### the parent-side filters of `pre_process_sequences` (by name, minimum length, count) -/

/-- the three filters only ever write skip flags: the records, their order, ids and lengths that go
    on to the second trip through `parallel_function` are those that came back from the first -/
theorem parent_filters_keep_ids_and_order (target : String) (minlength : Nat) (maximum : Int)
    (rs out : List FRec) (hit : Bool) (h : parentFilters target minlength maximum rs = .ok (out, hit)) :
    out.map (fun r => (r.id, r.len)) = rs.map (fun r => (r.id, r.len)) := by
  unfold parentFilters at h
  cases hn : filterByName target rs with
  | error e => rw [hn] at h; cases h
  | ok rs₁ =>
    rw [hn] at h
    simp only [Except.ok.injEq] at h
    have h1 := filterByName_ids target rs rs₁ hn
    have h2 := filterByMinLength_ids minlength rs₁
    have h3 := filterByCount_ids maximum (filterByMinLength minlength rs₁)
    rw [h] at h3
    rw [h3, h2, h1]

/-- `--limit-to-record`: afterwards every record that is not skipped bears the requested id -/
theorem filter_by_name_only_target (target : String) (rs out : List FRec) (hne : target.isEmpty = false)
    (h : filterByName target rs = .ok out) : ∀ r ∈ out, r.id = target ∨ truthy r.skip = true :=
  filterByName_only_target target rs out hne h

/-- `--limit -1`, or a limit above the number of records, changes nothing and is not "hit" -/
theorem filter_by_count_unlimited (maximum : Int) (rs : List FRec)
    (h : maximum = -1 ∨ maximum > rs.length) : filterByCount maximum rs = (rs, false) := by
  unfold filterByCount
  have : (maximum = -1 || decide (maximum > (rs.length : Int))) = true := by
    rcases h with h | h <;> simp [h]
  simp [this]

/-- limit 2 of four records (one already skipped): the two longest meaningful ones stay, ties by
    position; the limit is reported as hit -/
example : filterByCount 2 [⟨"a", 50, none⟩, ⟨"b", 90, some "x"⟩, ⟨"c", 70, none⟩, ⟨"d", 50, none⟩, ⟨"e", 70, none⟩] =
    ([⟨"a", 50, some "skipping all but largest 2 meaningful records (--limit) "⟩, ⟨"b", 90, some "x"⟩,
      ⟨"c", 70, none⟩, ⟨"d", 50, some "skipping all but largest 2 meaningful records (--limit) "⟩,
      ⟨"e", 70, none⟩], true) := by decide +kernel
example : filterByName "zz" [⟨"a", 5, none⟩] = .error "AntismashInputError" := rfl
example : filterByMinLength 10 [⟨"a", 9, none⟩, ⟨"b", 10, none⟩] =
    [⟨"a", 9, some "smaller than minimum length (10)"⟩, ⟨"b", 10, none⟩] := by decide +kernel

/-! ### the worker functions of `pre_process_sequences` (pure functions of the record) -/

/-- `sanitise_sequence` leaves only `A C G T N`, never lengthens the sequence … -/
theorem sanitise_output_alphabet (r : SeqRec) (c : Char) (h : c ∈ (sanitiseSequence r).seq) :
    c ∈ ['A', 'C', 'G', 'T', 'N'] ∧ (sanitiseSequence r).seq.length ≤ r.seq.length :=
  ⟨sanitiseChars_alphabet r.seq c h, sanitiseChars_length_le r.seq⟩

/-- … and is idempotent: a record that went through it (in a worker or not) is unchanged by a
    second pass, sequence and skip flag alike -/
theorem sanitise_idempotent (r : SeqRec) : sanitiseSequence (sanitiseSequence r) = sanitiseSequence r :=
  sanitiseSequence_idempotent r

/-- `ensure_cds_info`: a record that comes back without error is skipped or has genes; skipped
    records come back untouched -/
theorem ensure_cds_info_marks_geneless (gff3 toolNone : Bool) (gf : GeneFinder) (r r' : CdsRec)
    (h : ensureCdsInfo gff3 toolNone gf r = .ok r') :
    (truthy r'.skip = true ∨ 0 < r'.cds) ∧ (truthy r.skip = true → r' = r) := by
  refine ⟨ensureCdsInfo_post gff3 toolNone gf r r' h, fun hs => ?_⟩
  rw [ensureCdsInfo_skipped gff3 toolNone gf r hs] at h
  cases h; rfl

/-! ### non-vacuity: concrete batches, schedules and outcomes -/

example : sanitiseSequence ⟨"ac-gtRyN-".toList, none⟩ = ⟨"ACGTNNN".toList, none⟩ := by decide +kernel
example : sanitiseSequence ⟨"nn--RY".toList, none⟩ = ⟨"NNNN".toList, some "contains no sequence"⟩ := by decide +kernel
example : ensureCdsInfo false false (.finds 0) ⟨none, 0⟩ = .ok ⟨some "No genes found", 0⟩ := rfl
example : ensureCdsInfo false false .fails ⟨none, 0⟩ = .error "AntismashInputError" := rfl
example : ensureCdsInfo false true .fails ⟨none, 0⟩ = .ok ⟨some "No genes found", 0⟩ := rfl
example : ensureCdsInfo false false (.finds 3) ⟨none, 0⟩ = .ok ⟨none, 3⟩ := rfl

/-- if nothing is excluded from the worker list
    (`before = []`), the exit of the caller's earlier child 100 is read as a worker death … -/
example : parallelFunctionObserved 1 [] [100, 0, 1] (fun (n : Nat) => (Except.ok n : Except String Nat))
    [1, 2, 3] 2 false [.done 0, .exit 100, .done 1, .done 2] = .raised .workerDied := by decide +kernel
/-- … with the snapshot taken properly the same observations give the sequential result -/
example : parallelFunctionObserved 1 [100] [100, 0, 1] (fun (n : Nat) => (Except.ok n : Except String Nat))
    [1, 2, 3] 2 false [.done 0, .exit 100, .done 1, .done 2] = .returned [some 1, some 2, some 3] := by
  decide +kernel
/-- with the C16 model of `fix_record_name_id`: `scaffold(1)` and
    `scaffold[1]` both become `scaffold1`; threaded in one process the second one is renamed … -/
example : (match threaded (fixCall false) ["scaffold(1)".toList, "scaffold[1]".toList]
      [{ id := "scaffold(1)".toList, name := "n".toList, orig := none, index := 1 }, { id := "scaffold[1]".toList, name := "n".toList, orig := none, index := 2 }] with
    | .ok p => p.2.map (·.id) == ["scaffold1".toList, "scaffold1_0".toList]
    | .error _ => false) = true := by decide +kernel
/-- … shipped to two workers (two batches of one record) both keep `scaffold1`: duplicate ids -/
example : parallelFunctionShipped 1 (fun t r => (fixCall false t r).map fun p => (p.1, p.2.id))
      ["scaffold(1)".toList, "scaffold[1]".toList]
      [{ id := "scaffold(1)".toList, name := "n".toList, orig := none, index := 1 }, { id := "scaffold[1]".toList, name := "n".toList, orig := none, index := 2 }]
      2 false [.done 1, .done 0] = .returned [some "scaffold1".toList, some "scaffold1".toList] := by decide +kernel
/-- what the faithfulness hypothesis protects: a result type whose pickle loses information
    (here: `pb` forgets the second component) makes the pool path differ from the sequential one -/
example : parallelFunctionWire id (fun (p : Nat × Nat) => (p.1, 0)) id 1
    (fun (n : Nat) => (Except.ok (n, n) : Except String (Nat × Nat))) [1, 2, 3] 2 false
    [.done 2, .done 1, .done 0] = .returned [some (1, 0), some (2, 0), some (3, 0)] := by decide +kernel
example : sequentialOutcome (fun (n : Nat) => (Except.ok (n, n) : Except String (Nat × Nat))) [1, 2, 3] =
    .returned [some (1, 1), some (2, 2), some (3, 3)] := by decide +kernel
/-- the boundary is *visible* for an unfaithful pickle: `ProcessBoundaryInvisible` fails -/
example : ¬ ProcessBoundaryInvisible (α := Nat) (ε := String) id (fun (p : Nat × Nat) => (p.1, 0)) id := by
  intro h
  have := h 1 2 (fun (n : Nat) => (Except.ok (n, n) : Except String (Nat × Nat))) [1] false [.done 0]
  revert this
  decide
/-- negation witness for KF-C18-unreconstructible-exception: CPython's result-handler thread dies
    while unpickling the exception of chunk 1, so no later completion ever reaches the parent —
    the event list ends after chunk 0 — and the call blocks instead of raising -/
example : parallelFunction 1 (fun (n : Nat) => if n = 2 then Except.error "Unreconstructible" else Except.ok n)
    [1, 2, 3] 2 false [.done 0] = (.blocked : Outcome String Nat) := by decide +kernel
/-- a valid but incomplete and interrupted event list -/
example : Valid 5 [.done 4, .timeout, .done 0, .died 1] := by
  refine ⟨by decide, by decide⟩


/-- nine calls on two workers: chunks of two, five chunks -/
example : numChunks 9 2 = 5 := by decide +kernel
/-- chunks completing in the order 4,0,3,1,2 form a complete schedule -/
example : Complete 5 [.done 4, .done 0, .done 3, .done 1, .done 2] :=
  ⟨by decide, List.isPerm_iff.mp (by decide)⟩
/-- … and the results still come back in argument order -/
example : parallelFunction 1 (fun (n : Nat) => (Except.ok (n * 10) : Except String Nat))
    [1, 2, 3, 4, 5, 6, 7, 8, 9] 2 false [.done 4, .done 0, .done 3, .done 1, .done 2] =
    .returned [some 10, some 20, some 30, some 40, some 50, some 60, some 70, some 80, some 90] := by
  decide +kernel
/-- two failing calls (3 and 8): the chunk that completes first decides which error is raised;
    sequentially it would be call 3's -/
example : parallelFunction 1 (fun (n : Nat) => if n = 3 ∨ n = 8 then Except.error n else Except.ok n)
    [1, 2, 3, 4, 5, 6, 7, 8, 9] 2 false [.done 3, .done 0, .done 4, .done 1, .done 2] =
    (.raised (.task 8) : Outcome Nat Nat) := by decide +kernel
example : sequentialOutcome (fun (n : Nat) => if n = 3 ∨ n = 8 then Except.error n else Except.ok n)
    [1, 2, 3, 4, 5, 6, 7, 8, 9] = (.raised (.task 3) : Outcome Nat Nat) := by decide +kernel
/-- a deadline after three of five chunks; a dead worker after one; an incomplete schedule blocks -/
example : parallelFunction 1 (fun (n : Nat) => (Except.ok n : Except String Nat))
    [1, 2, 3, 4, 5, 6, 7, 8, 9] 2 true [.done 1, .done 0, .done 2, .timeout, .done 3, .done 4] =
    .raised .timeout := by decide +kernel
example : parallelFunction 1 (fun (n : Nat) => (Except.ok n : Except String Nat))
    [1, 2, 3, 4, 5, 6, 7, 8, 9] 2 false [.done 1, .died 0, .done 0, .done 2, .done 3] =
    .raised .workerDied := by decide +kernel
example : parallelFunction 1 (fun (n : Nat) => (Except.ok n : Except String Nat))
    [1, 2, 3, 4, 5, 6, 7, 8, 9] 2 false [.done 1, .done 0, .done 2, .done 3] = .blocked := by decide +kernel
/-- the config default is used when no cpu count is given -/
example : resolveCpus 4 0 = 4 ∧ resolveCpus 4 2 = 2 := by decide +kernel

end ASV.C18
