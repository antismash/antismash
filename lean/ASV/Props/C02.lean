/-
  C02 — Rule text is parsed by the documented grammar, precedence and aliases.
  Property theorems only; helper lemmas live in ASV/Proofs/Parser/*.lean.
  Model: ASV/Model/Parser.lean (tokeniser, parser, printer, create_rules — of the repaired code,
  see fixes/D17, D42, D43).  Spec: ASV/Spec/Grammar.lean.
-/
import ASV.Proofs.Parser.Main
import ASV.Proofs.Parser.Grammar
import ASV.Proofs.Parser.Tokeniser
import ASV.Proofs.Parser.RulePP
import ASV.Proofs.Parser.Alias
import ASV.Proofs.Parser.SubstRule
import ASV.Proofs.Parser.FuelTop
import ASV.Proofs.Parser.ReprintRule
import ASV.Proofs.Rulesets
import ASV.Proofs.Parser.Prefix
import ASV.Proofs.Parser.FilePP
import ASV.Proofs.Continuations
namespace ASV.C02
open ASV ASV.Rules ASV.Parser ASV.Grammar ASV.Layout ASV.Reprint

/-! ### the regenerated tables still say what the model assumes -/

/-- every member named by the regenerated `Tokeniser.mapping` is a token type the model knows -/
theorem mapping_names_known :
    Generated.RuleTokens.mapping.all (fun p => (TT.ofName p.2).isSome) = true := by decide +kernel

/-- `is_a_rule_keyword` (`RULE <= value and value != TEXT`) evaluated on the regenerated numeric
    values of `TokenTypes` is the model's `TT.isRuleKeyword`, and every member is modelled -/
theorem keyword_table_agrees :
    Generated.RuleTokens.tokenValues.all (fun p =>
      (TT.ofName p.1).map TT.isRuleKeyword ==
        some (decide ((Generated.RuleTokens.tokenValues.lookup "RULE").getD 0 ≤ p.2) &&
              p.2 != (Generated.RuleTokens.tokenValues.lookup "TEXT").getD 0)) = true := by decide +kernel

/-! ### ill-formed input is rejected (thm 6) — stated as: whatever is accepted is well-formed.
    For every list of rule files (any texts whatsoever), every signature set, category set and
    multipliers. -/

/-- `create_rules` only ever returns a well-formed rule set: rule names distinct, categories
    valid, every profile named in a CONDITIONS section a known signature, no condition object
    with a repeated operand (nor `minimum` with a repeated option or a count of 0), a positive
    requirement in the conditions and in the extenders, superiors defined earlier and closed. -/
theorem accepted_rules_wellformed (cfg : Cfg) (files : List String) (rules : List Rule)
    (h : createRules cfg files [] [] = .ok rules) : rulesOk cfg rules = true :=
  createRules_ok cfg files [] [] rules h (by simp [rulesOk, namesDistinct, hasDupStr, supClosed, supClosedFrom])

/-- duplicate rule name ⇒ rejected -/
theorem accepted_names_distinct (cfg : Cfg) (files : List String) (rules : List Rule)
    (h : createRules cfg files [] [] = .ok rules) : (rules.map (·.name)).Nodup := by
  have := (rulesOk_iff.mp (accepted_rules_wellformed cfg files rules h)).1
  simpa [namesDistinct, hasDupStr_false_iff] using this

/-- unknown category, unknown profile, repeated operand, no positive requirement ⇒ rejected -/
theorem accepted_rule_ok (cfg : Cfg) (files : List String) (rules : List Rule)
    (h : createRules cfg files [] [] = .ok rules) (r : Rule) (hr : r ∈ rules) :
    r.category ∈ cfg.cats ∧ (∀ p ∈ r.conditions.profiles, p ∈ cfg.sigs) ∧
      noRepeat r.conditions = true ∧ positive r.conditions = true := by
  have := (rulesOk_iff.mp (accepted_rules_wellformed cfg files rules h)).2.2 r hr
  obtain ⟨⟨h1, h2, h3, _⟩, hp⟩ := ruleOkW_of this
  exact ⟨by simpa using h1, fun p hpm => by simpa using hp p hpm, h2, h3⟩

/-- thm 5: SUPERIORS are rules defined *earlier* (superior not yet defined ⇒ rejected) and are
    closed transitively: the superiors of a superior are superiors -/
theorem superiors_transitive (cfg : Cfg) (files : List String) (rules pre post : List Rule) (r : Rule)
    (h : createRules cfg files [] [] = .ok rules) (hpos : rules = pre ++ r :: post) :
    ∀ m ∈ r.superiors, ∃ q, pre.find? (·.name == m) = some q ∧ ∀ x ∈ q.superiors, x ∈ r.superiors := by
  have hc := (rulesOk_iff.mp (accepted_rules_wellformed cfg files rules h)).2.1
  have := supOk_of_closedFrom [] rules pre r post hc hpos
  simpa using supOk_iff.mp this

/-- missing section / unbalanced group / trailing `not` / `cds` of a single identifier / operator
    without operand ⇒ rejected: the *only* token strings `_parse_conditions` accepts are the
    flattenings (`flatJoin`) of condition objects of the documented shape (`shapeOks`: groups and
    cds non-empty, `and`-chains of ≥ 2 atoms, no `minimum`/`cds` inside `cds`, no lone identifier in
    `cds`), without repeated operands; and it stops where the section may end (`endCheck`). -/
theorem conditions_accepts_only_grammar (fuel : Nat) (allowCds isGroup : Bool) (s s' : PS) (cs : List Cond)
    (h : parseConditions fuel allowCds isGroup s = .ok (cs, s')) :
    ∃ new, s'.consumed = new ++ s.consumed ∧ new.reverse.map Tok.key = flatJoin .orOp cs ∧
      shapeOks allowCds cs = true ∧ noRepeats cs = true ∧ cs ≠ [] ∧ endCheck isGroup s' = .ok () := by
  obtain ⟨new, a, k, g, ne, e⟩ := (blockPost fuel).conds _ _ _ _ _ h
  exact ⟨new, a.consumed, k, g.shape, g.norep, ne, e⟩

/-! ### whitespace and comments are irrelevant (thm 1) -/

/-- thm 1 (`tokenise_layout`): for every sequence of written tokens (single-character symbols and
    multi-character words), every choice of filler before each of them — any whitespace characters,
    any `# … newline` comments, none at all next to a symbol — and every tail (filler, possibly an
    unterminated comment), the tokeniser returns exactly the written tokens, classified by their
    text alone. -/
theorem tokenise_layout (items : List (List Filler × Word)) (tail : Tail)
    (hok : okSeq false items = true) (ht : tail.ok = true) :
    tokenise (String.ofList (render items ++ tail.chars)) = .ok (items.map fun x => mkTok x.2.text) :=
  tokenise_render items tail hok ht

/-- two layouts of the same tokens tokenise alike -/
theorem layout_irrelevant (items items' : List (List Filler × Word)) (tail tail' : Tail)
    (hw : items.map (·.2.text) = items'.map (·.2.text))
    (hok : okSeq false items = true) (ht : tail.ok = true) (hok' : okSeq false items' = true) (ht' : tail'.ok = true) :
    tokenise (String.ofList (render items ++ tail.chars)) = tokenise (String.ofList (render items' ++ tail'.chars)) := by
  rw [tokenise_render items tail hok ht, tokenise_render items' tail' hok' ht']
  have h1 : (items.map fun x => mkTok x.2.text) = (items.map (·.2.text)).map mkTok := by simp
  have h2 : (items'.map fun x => mkTok x.2.text) = (items'.map (·.2.text)).map mkTok := by simp
  rw [h1, h2, hw]

/-- `cds(a# c\n and\tb)` with a trailing open comment -/
example : okSeq false [([], .word 'c' ['d', 's']), ([], .sym '('), ([], .word 'a' []),
      ([.comment [' ', 'c'], .ws ' '], .word 'a' ['n', 'd']), ([.ws '\t'], .word 'b' []), ([], .sym ')')] = true := by
  decide +kernel

/-- the smallest case a change to the `#` branch can break: a comment that directly abuts a word,
    followed by a word in column 0 — the comment alone separates them (the tokeniser finalises the
    pending symbol when it meets `#`) -/
theorem comment_separates (f g : Char) (more more' body : List Char)
    (h1 : (Word.word f more).ok = true) (h2 : (Word.word g more').ok = true) (hb : body.all (· != '\n') = true) :
    tokenise (String.ofList (f :: more ++ '#' :: body ++ '\n' :: g :: more')) =
      .ok [mkTok (String.ofList (f :: more)), mkTok (String.ofList (g :: more'))] := by
  have h := tokenise_render [([], .word f more), ([.comment body], .word g more')] ⟨[], none⟩
    (by simp [okSeq, Filler.ok, h1, h2, hb, Word.isWord]) (by simp [Tail.ok])
  simpa [render, gapChars, Filler.chars, Word.chars, Tail.chars, Word.text] using h

/-- `not#x⏎b` is the two tokens `not`, `b` (not the identifier `notb`) -/
example : (tokenise "not#x\nb").toOption = some [mkTok "not", mkTok "b"] := by decide +kernel

/-- layout-independence of the whole parse: `create_rules` looks at its texts only through the
    tokeniser, so files that tokenise alike — by `layout_irrelevant`: the same written tokens under
    any two layouts — give the same rules or the same error, whatever the earlier rules, aliases,
    signatures, categories and multipliers -/
theorem layout_irrelevant_rules (cfg : Cfg) : ∀ (texts texts' : List String) (rules : List Rule) (aliases : Aliases),
    texts.map tokenise = texts'.map tokenise →
    createRules cfg texts rules aliases = createRules cfg texts' rules aliases
  | [], [], _, _, _ => rfl
  | [], _ :: _, _, _, h => by simp at h
  | _ :: _, [], _, _, h => by simp at h
  | t :: ts, t' :: ts', rules, aliases, h => by
    simp only [List.map_cons, List.cons.injEq] at h
    have ih := layout_irrelevant_rules cfg ts ts'
    simp only [createRules, parseText, h.1]
    cases aliases.forM fun a => verifyAliasName cfg rules a.1 with
    | error e => rfl
    | ok _ =>
      cases tokenise t' with
      | error e => rfl
      | ok toks =>
        simp only [bind, Except.bind]
        cases parseTokens cfg rules aliases toks with
        | error e => rfl
        | ok v => exact ih v.1 v.2 h.2

/-! ### precedence and grouping (thm 2, 3): for every syntax tree of the documented grammar — any
    nesting depth, any mix of operators — its token rendering is parsed into the condition
    objects that tree denotes, and their C01 meaning is the grammar's denotation. -/

/-- thm 2 (`parse_pp`), key level: *any* token string (whatever the spelling of its numbers or the
    provenance of its tokens) whose keys are the flattening of a well-shaped, repeat-free operand
    list `L` is parsed into exactly `L`, consuming exactly that string; `k` is what follows
    (not starting with `and`/`or`, and a legal place for the section to end). -/
theorem parse_keys (allowCds isGroup : Bool) (L : List Cond) (fuel : Nat) (w k consumed : List Tok)
    (rules : List Rule) (ne : L ≠ []) (hs : shapeOks allowCds L = true) (hr : noRepeats L = true)
    (hw : w.map Tok.key = flatJoin .orOp L) (hk : NotBinop k)
    (hend : ∀ c r, endCheck isGroup (ofStream k c r) = .ok ()) (hf : 3 * w.length + 2 ≤ fuel) :
    parseConditions fuel allowCds isGroup (ofStream (w ++ k) consumed rules) =
      .ok (L, ofStream k (w.reverse ++ consumed) rules) :=
  parseConditions_complete allowCds isGroup L fuel w k consumed rules ne hs hr hw hk hend hf

/-- thm 2 (`parse_pp`) for the stratified grammar of the spec: `not` > `and` > `or`,
    parentheses and `cds(...)` group, at every depth -/
theorem parse_pp (t : OrE) (ht : okTop t = true) (fuel : Nat) (k consumed : List Tok) (rules : List Rule)
    (hk : NotBinop k) (hend : ∀ c r, endCheck false (ofStream k c r) = .ok ())
    (hf : 3 * (ppOr t).length + 2 ≤ fuel) :
    parseConditions fuel true false (ofStream (ppOr t ++ k) consumed rules) =
      .ok (shapeOr t, ofStream k ((ppOr t).reverse ++ consumed) rules) :=
  parse_pp_aux t ht fuel k consumed rules hk hend hf

/-- thm 3 (`sem_shape`): the documented (C01) meaning of the parsed objects is the denotation of
    the syntax tree: OR of ANDs of possibly negated atoms -/
theorem sem_shape (e : Env) (g : Gene) (t : OrE) : sem e g (shapeTop t) = denOr e g t := by
  simp [shapeTop, sem, semAny_shapeOr]

/-- the property's first sentence for a rule written with its mandatory sections: in any parser
    state without aliases, followed by the next `RULE`/`DEFINE` or the end of the text, the rule is
    parsed into the rule the grammar denotes — its name and category, the condition objects of the
    syntax tree (`shapeTop t`, whose meaning is `denOr t` by `sem_shape`), and the two distances
    read in kilobases. -/
theorem rule_parsed_as_denoted (cfg : Cfg) (name cat : String) (cutoffKb nbhKb : Nat) (t : OrE)
    (k consumed : List Tok) (rules : List Rule) (hcat : cfg.cats.contains cat = true) (ht : okTop t = true)
    (hpos : positive (shapeTop t) = true)
    (hk : headType k = none ∨ headType k = some .rule ∨ headType k = some .define) :
    parseRule cfg (ofStream (ruleToks name cat cutoffKb nbhKb t ++ k) consumed rules) =
      .ok ({ name := name, category := cat, cutoff := cutoffKb * 1000, neighbourhood := nbhKb * 1000,
             conditions := shapeTop t },
           ofStream k ((ruleToks name cat cutoffKb nbhKb t).reverse ++ consumed) rules) :=
  parseRule_ruleToks cfg name cat cutoffKb nbhKb t k consumed rules hcat ht hpos hk

/-- … and the main loop then scales them by the multipliers: `int(kb * 1000 * p/q)` -/
theorem distances_scaled (kb : Nat) (mul : Nat × Nat) : scale (kb * 1000) mul = distance kb mul := rfl

/-- the same for a whole alias-free file of one or more written rules, each with an optional
    `SUPERIORS` section, under any multipliers: `Parser.__init__` on the file's tokens (after the rules `earlier` of other
    files) stores exactly the rules the grammar denotes, in order — distances `int(kb * 1000 * multiplier)`, superiors the
    declared ones closed over the superiors of each of them (`closeSup`), conditions the objects of
    the syntax tree.  `srcsOk` is what the text must satisfy to be legal: known category and
    profiles, a name not used before, operands not repeated, something positive, superiors distinct
    and defined earlier.  (No fuel hypothesis: the model's own budget suffices.) -/
theorem file_parsed_as_denoted (cfg : Cfg) (earlier : List Rule) (rs : List RuleSrc) (hne : rs ≠ [])
    (hok : srcsOk cfg earlier rs = true) :
    parseTokens cfg earlier [] (rs.flatMap ruleSrcToks) = .ok (denote cfg earlier rs, []) :=
  parseTokens_file cfg earlier rs hne hok

/-- … and so for `create_rules` on any number of files, each a text the tokeniser reads as the
    tokens of its written rules (any layout and comments, by `tokenise_layout`): the rules of all
    files in order, every rule seeing the rules of earlier files (duplicate names and superiors
    across files included in `srcsOk`) -/
theorem files_created_as_denoted (cfg : Cfg) (files : List (String × List RuleSrc))
    (hf : ∀ f ∈ files, f.2 ≠ [] ∧ tokenise f.1 = .ok (f.2.flatMap ruleSrcToks))
    (hok : srcsOk cfg [] (files.flatMap (·.2)) = true) :
    createRules cfg (files.map (·.1)) [] [] = .ok (denote cfg [] (files.flatMap (·.2))) :=
  createRules_files cfg files [] hf hok

/-- non-vacuity: three rules, the third below the second which is below the first; fungal
    multipliers 1/2 and 3/2 -/
def exSrcs : List RuleSrc :=
  [⟨"r1", "cat", 20, 5, [], .one (.one (.id false "a"))⟩,
   ⟨"r2", "cat", 15, 10, ["r1"], .or (.one (.id false "a")) (.one (.and (.id false "b") (.one (.id true "c"))))⟩,
   ⟨"r3", "cat", 1, 3, ["r2"], .one (.one (.id false "c"))⟩]
def exMulCfg : Cfg := { sigs := ["a", "b", "c"], cats := ["cat"], cutoffMul := (1, 2), nbhMul := (3, 2) }
example : srcsOk exMulCfg [] exSrcs = true := by decide +kernel
example : (tokenise ("RULE r1 CATEGORY cat CUTOFF 20 NEIGHBOURHOOD 5 CONDITIONS a # first\n" ++
    "RULE r2 CATEGORY cat SUPERIORS r1 CUTOFF 15 NEIGHBOURHOOD 10 CONDITIONS a or b and not c")).toOption
    = some ((exSrcs.take 2).flatMap ruleSrcToks) := by
  rw [tokenise_eq_tokeniseChars, tokeniseChars_append]
  decide +kernel
example : (denote exMulCfg [] exSrcs).map (fun r => (r.name, r.cutoff, r.neighbourhood, r.superiors)) =
    [("r1", 10000, 7500, []), ("r2", 7500, 15000, ["r1"]), ("r3", 500, 4500, ["r1", "r2"])] := by decide +kernel

/-- both directions together: a token string is accepted as CONDITIONS with result `L` only if
    it is the flattening of `L` (`conditions_accepts_only_grammar`), and the flattening of every
    legal `L` is accepted with result `L` (`parse_keys`) — so the parser is a bijection between
    accepted key strings and legal operand lists; in particular the flattening is injective:
    no second reading of a text exists. -/
theorem reading_unique (allowCds : Bool) (L L' : List Cond) (fuel : Nat) (w : List Tok)
    (ne : L ≠ []) (hs : shapeOks allowCds L = true) (hr : noRepeats L = true)
    (hw : w.map Tok.key = flatJoin .orOp L) (hf : 3 * w.length + 2 ≤ fuel)
    (s' : PS) (h : parseConditions fuel allowCds false (ofStream w [] []) = .ok (L', s')) : L' = L := by
  have := parse_keys allowCds false L fuel w [] [] [] ne hs hr hw (by simp [NotBinop])
    (by intro c r; simp [endCheck, ofStream]) hf
  simp only [List.append_nil] at this
  rw [this] at h
  cases h; rfl

/-- `a or b and not c` is `a or (b and (not c))`; `(a or b) and c` keeps its group -/
example : shapeOr (.or (.one (.id false "a")) (.one (.and (.id false "b") (.one (.id true "c"))))) =
    [.single false "a", .conj [.single false "b", .single true "c"]] := by
  simp [shapeOr, shapeAnd, shapeAtoms, shapeAtom]
example : okTop (.or (.one (.id false "a")) (.one (.and (.id false "b") (.one (.id true "c"))))) = true := by
  decide +kernel

/-! ### rules split over files: a parse continues from the *value* of the rules handed to it -/

/-- `Parser(text, …, existing_rules=R)` works on its own copy: in any sequence of parses within one
    process, each continuing from any earlier list, a list object never changes once it exists
    (so the caller's `R` still holds what it held) -/
theorem existing_rules_untouched (cfg : Cfg) (steps : List (Option Nat × String)) (st : Continuations.Store)
    (i : Nat) (h : i < st.length) : (Continuations.run cfg steps st).2[i]? = st[i]? :=
  Continuations.run_keeps cfg steps st i h

/-- two continuations of one shared base, one after the other: each is judged against the files
    actually given — the second yields exactly what its text yields after the base rules (same
    rules, or rejected alike, e.g. for a superior only the first continuation defined), whatever
    the first continuation defined or whether it failed; the base still holds the base rules -/
theorem continuations_independent (cfg : Cfg) (st : Continuations.Store) (b : Nat) (base : List Rule)
    (hb : st[b]? = some base) (x y : String) :
    ∃ ox oy fin, Continuations.run cfg [(some b, x), (some b, y)] st = ([ox, oy], fin) ∧ fin[b]? = some base ∧
      (Continuations.outcome fin oy).toOption = (parseText cfg base [] y).toOption.map (·.1) ∧
      (Continuations.outcome fin ox).toOption = (parseText cfg base [] x).toOption.map (·.1) :=
  Continuations.two_branches cfg st b base hb x y

/-! ### DEFINE aliases behave as textual substitution (thm 4) -/

/-- thm 4 core: with a flat alias table (no definition mentions an alias, none is empty), `_consume`
    hands out the head of the *substituted* stream (`view`: current token, then the rest with every
    alias identifier replaced by its definition) and leaves its tail; the token now current is never
    an alias name, the table is untouched. -/
theorem alias_is_substitution_partial (s s' : PS) (expected : TT) (c : Tok) (hf : Flat s.aliases)
    (h : consume expected s = .ok (c, s')) :
    view s = c :: view s' ∧ s'.aliases = s.aliases ∧ ∀ c', s'.cur = some c' → aliasName s.aliases c' = false :=
  consume_view hf h

/-- … and every `Parser` run keeps the table flat (an alias whose name is already used as an
    identifier inside a definition is refused: fixes/D42), starting from the empty table of
    `create_rules`; so the hypothesis of the step lemma always holds. -/
theorem aliases_stay_flat (cfg : Cfg) (rules rules' : List Rule) (aliases aliases' : Aliases) (toks : List Tok)
    (h : parseTokens cfg rules aliases toks = .ok (rules', aliases')) (hf : Flat aliases) : Flat aliases' :=
  parseTokens_flat h hf

/-- thm 4, lifted to the condition parser: with a flat alias table, for every fuel, nesting flags and
    state, `_parse_conditions` returns on the aliased state exactly what it returns on the
    alias-free state whose unread input is the substituted stream (`strip s`: current token, then
    `subst A rest`) — same conditions or same error, and the resulting states correspond again. -/
theorem alias_is_substitution_conditions (fuel : Nat) (allowCds isGroup : Bool) (s : PS) (hf : Flat s.aliases) :
    parseConditions fuel allowCds isGroup (strip s) = mapS (parseConditions fuel allowCds isGroup s) :=
  (blockSim fuel).conds allowCds isGroup s hf

/-- thm 4 (`alias_is_substitution`) for a whole rule: with a flat alias table (guaranteed by
    `aliases_stay_flat`), for every fuel, `_parse_rule` on the aliased state and on the substituted
    alias-free state give the same error, or rules with the same name, category, distances,
    conditions, extenders, superiors, related profiles and examples (`RuleRel`), and corresponding
    states.  Excluded from the comparison is only the free text (DESCRIPTION words, EXAMPLE compound
    names): the code skips it without alias replacement.  An alias right after `RULE` is rejected on
    both sides (the `aliased` flag travels with the substituted tokens). -/
theorem alias_is_substitution (fuel : Nat) (cfg : Cfg) (s : PS) (hf : Flat s.aliases) :
    RelS RuleRel (parseRuleWith fuel cfg (strip s)) (parseRuleWith fuel cfg s) :=
  parseRuleWith_rel hf fuel cfg

/-- … and with the fuel the model computes on each side for itself (`PS.budget`), by
    `fuel_irrelevant` and `fuel_enough_rule` -/
theorem alias_is_substitution_rule (cfg : Cfg) (s : PS) (hf : Flat s.aliases) :
    RelS RuleRel (parseRule cfg (strip s)) (parseRule cfg s) :=
  parseRule_rel hf cfg

/-- ill-formed SUPERIORS lists: `_parse_superiors` succeeds only if the list it read (`parseIds`, after
    the keyword) names no rule twice — whatever the named rules inherit — and names only rules stored
    before; its result is then the sorted set of the listed names and the superiors of each.
    (`SUPERIORS mid, mid` below `mid → top` is rejected: `Props/C02Examples2.lean`.) -/
theorem superiors_list_checked (fuel : Nat) (s s' : PS) (sup : List String)
    (h : parseSuperiors fuel s = .ok (sup, s')) :
    ∃ x s1 decl, consume .superiors s = .ok (x, s1) ∧ parseIds fuel s1 = .ok (decl, s') ∧
      hasDupStr decl = false ∧ (∀ n ∈ decl, (s'.rules.find? (·.name == n)).isSome = true) ∧
      sup = sortDedupStr (decl ++ decl.flatMap (supOf s'.rules)) :=
  parseSuperiors_sound fuel s s' sup h

/-- thm 4 and completeness together: a rule whose CONDITIONS are written *with aliases* — any state
    with a flat table whose substituted input is the mandatory sections followed by tokens `w` that
    read (type and text; the `aliased` flags the substituted tokens carry do not matter) like the
    rendering of a legal syntax tree `t`, then the next `RULE`/`DEFINE` or the end — is parsed into
    the rule the grammar denotes for the substituted text. -/
theorem aliased_rule_parsed_as_denoted (cfg : Cfg) (s : PS) (hf : Flat s.aliases) (name cat : String)
    (cutoffKb nbhKb : Nat) (t : OrE) (w k cons : List Tok) (rules : List Rule)
    (hs : strip s = ofStream (hdrToks name cat cutoffKb nbhKb ++ w ++ k) cons rules)
    (hw : w.map Tok.key = (ppOr t).map Tok.key)
    (hcat : cfg.cats.contains cat = true) (ht : okTop t = true) (hpos : positive (shapeTop t) = true)
    (hk : headType k = none ∨ headType k = some .rule ∨ headType k = some .define) :
    ∃ r' s', parseRule cfg s = .ok (r', s') ∧ r'.name = name ∧ r'.category = cat ∧
      r'.cutoff = cutoffKb * 1000 ∧ r'.neighbourhood = nbhKb * 1000 ∧ r'.conditions = shapeTop t ∧
      strip s' = ofStream k ((hdrToks name cat cutoffKb nbhKb ++ w).reverse ++ cons) rules := by
  have h := parseRule_rel hf cfg
  obtain ⟨g, hd⟩ := okTop_goods ht
  rw [hs, parseRule_keys cfg name cat cutoffKb nbhKb (shapeOr t) w k cons rules hcat (shapeOr_ne_nil t)
    g.shape g.norep hd (by rw [hw, ppOr_keys]) hpos hk] at h
  cases hp : parseRule cfg s with
  | error e => rw [hp] at h; exact h.elim
  | ok v =>
    obtain ⟨r', s'⟩ := v
    rw [hp] at h
    obtain ⟨⟨h1, h2, h3, h4, h5, _⟩, hst⟩ := h
    exact ⟨r', s', rfl, h1.symm, h2.symm, h3.symm, h4.symm, h5.symm, hst.symm⟩

/-- non-vacuity: `DEFINE x AS a or b` in force, the text `… CONDITIONS x and c` reads after
    substitution like `a or b and c` = `a or (b and c)` -/
example :
    let x : List Tok := [⟨"a", .identifier, true⟩, ⟨"or", .orOp, true⟩, ⟨"b", .identifier, true⟩]
    let s : PS := { cur := some (kw "RULE" .rule),
                    rest := (hdrToks "r" "cat" 20 5).tail ++ [tId "x", kw "and" .andOp, tId "c"],
                    aliases := [("x", x)], rules := [] }
    strip s = ofStream (hdrToks "r" "cat" 20 5 ++ (x ++ [kw "and" .andOp, tId "c"]) ++ []) [] [] ∧
    (x ++ [kw "and" .andOp, tId "c"]).map Tok.key =
      (ppOr (.or (.one (.id false "a")) (.one (.and (.id false "b") (.one (.id false "c")))))).map Tok.key := by
  intro x s
  exact ⟨by rfl, by decide +kernel⟩

/-- what `strip` is on the state a `Parser` starts a rule in: no aliases, input `t :: subst A rest` -/
example (t : Tok) (rest : List Tok) (A : Aliases) (rules : List Rule) :
    strip { cur := some t, rest := rest, aliases := A, rules := rules } =
      { cur := some t, rest := subst A rest, aliases := [], rules := rules } := rfl

example : Flat [] := ⟨by simp, by simp, by simp⟩

/-! ### "scaled by the multipliers": rulesets handed to detection runs (`get_ruleset`, its cache,
    `Ruleset.__post_init__` rescaling rule objects in place, `copy_with_replacements` sharing them) -/

/-- Whatever sequence of rulesets one process asks for (any strictness, taxon, multipliers, rule or
    category restriction, repetitions), every ruleset handed out — read *after the last request* —
    holds exactly the rules of its strictness that its restriction wants, each distance being the
    parsed one (kilobases × 1000, `distances_scaled`) scaled once by the multipliers of the request
    it was built for: no later request rescales or compounds it (the rule objects of different cached
    rulesets are never shared).  `parsed` = what `create_rules` returns for a strictness. -/
theorem rulesets_scaled_once (parsed : String → Except Err (List Rule)) (reqs : List Rulesets.Req)
    (out : List Rulesets.RS) (st : Rulesets.State) (h : Rulesets.run parsed reqs {} = .ok (out, st)) :
    out.length = reqs.length ∧
    ∀ rs ∈ out, ∃ k rules, (k, rs) ∈ st.cache ∧ parsed k.strictness = .ok rules ∧
      rs.read st.heap = Rulesets.wanted rules k.names k.cats k.mul ∧ rs.mul = k.mul := by
  obtain ⟨inv, _, hlen, hout⟩ := Rulesets.run_inv parsed reqs {} st out h (fun p hp => by cases hp)
  refine ⟨hlen, fun rs hrs => ?_⟩
  obtain ⟨k, hk⟩ := hout rs hrs
  obtain ⟨_, rules, hp, hr, hm⟩ := inv (k, rs) hk
  exact ⟨k, rules, hk, hp, hr, hm⟩

/-- one `get_ruleset` call in any reachable state: the ruleset returned is stored under the key of
    the request (its strictness, its restriction as sets, the multipliers of the options for fungi,
    `Multipliers()` otherwise), it reads as the spec says, and everything cached before still does -/
theorem ruleset_of_request (parsed : String → Except Err (List Rule)) (q : Rulesets.Req) (st st' : Rulesets.State)
    (rs : Rulesets.RS) (h : Rulesets.getRuleset parsed q st = .ok (rs, st')) (inv : Rulesets.Inv parsed st) :
    Rulesets.Inv parsed st' ∧
    ∃ k rules, (k, rs) ∈ st'.cache ∧ k.strictness = q.strictness ∧ k.names = sortDedupStr q.names ∧
      k.cats = sortDedupStr q.cats ∧ Rulesets.reqMul q = .ok k.mul ∧ parsed q.strictness = .ok rules ∧
      rs.read st'.heap = Rulesets.wanted rules k.names k.cats k.mul := by
  obtain ⟨inv', ⟨k, hk, h1, h2, h3, h4, h5⟩, _⟩ := Rulesets.getRuleset_inv parsed q st st' rs h inv
  obtain ⟨_, rules, hp, hr, _⟩ := inv' (k, rs) hk
  refine ⟨inv', k, rules, hk, h1, h2, h3, ?_, by rw [← h1]; exact hp, hr⟩
  unfold Rulesets.reqMul
  cases hf : q.fungi with
  | false => simp [h4 hf]
  | true => simp [h5 hf]

/-- `Ruleset.from_files(…, multipliers)` (as repaired by fixes/D201): scaled once -/
theorem from_files_scaled_once (rules : List Rule) (m : Rulesets.Mul) (h : Rulesets.Heap) :
    (Rulesets.fromFiles rules m h).1.read (Rulesets.fromFiles rules m h).2 = Rulesets.wanted rules [] [] m :=
  Rulesets.fromFiles_read rules m h

/-- fungi ×2/×1.5, then bacteria, then fungi ×1/×3 limited to one rule: nothing compounds -/
example :
    let parsed : String → Except Err (List Rule) := fun _ =>
      .ok [{ name := "a", category := "c", cutoff := 10000, neighbourhood := 5000, conditions := .single false "x" },
           { name := "b", category := "d", cutoff := 20000, neighbourhood := 3000, conditions := .single false "y" }]
    (match Rulesets.run parsed
        [⟨"relaxed", [], [], true, (2, 1), (3, 2)⟩, ⟨"relaxed", [], [], false, (1, 1), (1, 1)⟩,
         ⟨"relaxed", ["b"], [], true, (1, 1), (3, 1)⟩] {} with
      | .ok (out, st) => out.map fun rs => (rs.read st.heap).map fun r => (r.name, r.cutoff, r.neighbourhood)
      | .error _ => []) =
    [[("a", 20000, 7500), ("b", 40000, 4500)], [("a", 10000, 5000), ("b", 20000, 3000)], [("b", 20000, 9000)]] := by
  decide +kernel

/-- the option handling in front of it (`check_options`, run before any analysis): when it reports no
    issue, the fungal multipliers are positive, every requested rule name is a rule of the requested
    strictness and every requested category is known; the ruleset has been built and cached, it is
    the one `get_ruleset` hands to the analysis afterwards (a cache hit, state unchanged), and it
    reads as the spec says.  (When an issue is reported nothing was cached: `checkOptions_bad`.) -/
theorem options_checked_then_ruleset (parsed : String → Except Err (List Rule)) (allCats : List String)
    (q : Rulesets.Req) (st st' : Rulesets.State) (inv : Rulesets.Inv parsed st)
    (h : Rulesets.checkOptions parsed allCats q st = .ok (true, st')) :
    ∃ rs rules m, Rulesets.getRuleset parsed q st' = .ok (rs, st') ∧ Rulesets.Inv parsed st' ∧
      parsed q.strictness = .ok rules ∧ Rulesets.reqMul q = .ok m ∧ 0 < q.cmul.1 ∧ 0 < q.nmul.1 ∧
      (∀ n ∈ q.names, ∃ r ∈ rules, r.name = n) ∧ (∀ c ∈ q.cats, c ∈ allCats) ∧
      rs.read st'.heap = Rulesets.wanted rules (sortDedupStr q.names) (sortDedupStr q.cats) m := by
  obtain ⟨rs, rules, hg, hg2, hp, hc, hn, hnames, hcats⟩ := Rulesets.checkOptions_ok parsed allCats q st st' h
  obtain ⟨inv', k, rules', _, _, h2, h3, h4, h5, h6⟩ := ruleset_of_request parsed q st st' rs hg inv
  rw [hp] at h5
  cases h5
  exact ⟨rs, rules, k.mul, hg2, inv', hp, h4, hc, hn, hnames, hcats, by rw [h6, h2, h3]⟩

example :
    let parsed : String → Except Err (List Rule) := fun _ =>
      .ok [{ name := "a", category := "c", cutoff := 10000, neighbourhood := 5000, conditions := .single false "x" },
           { name := "b", category := "d", cutoff := 20000, neighbourhood := 3000, conditions := .single false "y" }]
    ((Rulesets.checkOptions parsed ["c", "d"] ⟨"strict", ["b"], ["d"], true, (1, 2), (3, 2)⟩ {}).toOption.map (·.1),
     (Rulesets.checkOptions parsed ["c", "d"] ⟨"strict", ["zz"], [], true, (1, 2), (3, 2)⟩ {}).toOption.map (·.1),
     (Rulesets.checkOptions parsed ["c", "d"] ⟨"strict", [], [], false, (0, 1), (3, 2)⟩ {}).toOption.map (·.1))
    = (some true, some false, some false) := by
  decide +kernel

/-- `ruleset_of_request` with its invariant hypothesis discharged: after **any** history of requests
    in the process (from the empty cache), the next `get_ruleset` call returns a ruleset that reads as
    the spec says for this request -/
theorem ruleset_after_any_history (parsed : String → Except Err (List Rule)) (hist : List Rulesets.Req)
    (out : List Rulesets.RS) (st st' : Rulesets.State) (q : Rulesets.Req) (rs : Rulesets.RS)
    (hh : Rulesets.run parsed hist {} = .ok (out, st)) (h : Rulesets.getRuleset parsed q st = .ok (rs, st')) :
    ∃ rules m, parsed q.strictness = .ok rules ∧ Rulesets.reqMul q = .ok m ∧
      rs.read st'.heap = Rulesets.wanted rules (sortDedupStr q.names) (sortDedupStr q.cats) m := by
  obtain ⟨inv, _⟩ := Rulesets.run_inv parsed hist {} st out hh (fun p hp => by cases hp)
  obtain ⟨_, k, rules, _, _, h2, h3, h4, h5, h6⟩ := ruleset_of_request parsed q st st' rs h inv
  exact ⟨rules, k.mul, h5, h4, by rw [h6, h2, h3]⟩

/-- `options_checked_then_ruleset` with its invariant hypothesis discharged likewise -/
theorem options_checked_after_any_history (parsed : String → Except Err (List Rule)) (allCats : List String)
    (hist : List Rulesets.Req) (out : List Rulesets.RS) (st st' : Rulesets.State) (q : Rulesets.Req)
    (hh : Rulesets.run parsed hist {} = .ok (out, st))
    (h : Rulesets.checkOptions parsed allCats q st = .ok (true, st')) :
    ∃ rs rules m, Rulesets.getRuleset parsed q st' = .ok (rs, st') ∧ parsed q.strictness = .ok rules ∧
      Rulesets.reqMul q = .ok m ∧ 0 < q.cmul.1 ∧ 0 < q.nmul.1 ∧
      (∀ n ∈ q.names, ∃ r ∈ rules, r.name = n) ∧ (∀ c ∈ q.cats, c ∈ allCats) ∧
      rs.read st'.heap = Rulesets.wanted rules (sortDedupStr q.names) (sortDedupStr q.cats) m := by
  obtain ⟨inv, _⟩ := Rulesets.run_inv parsed hist {} st out hh (fun p hp => by cases hp)
  obtain ⟨rs, rules, m, h1, _, h3, h4, h5, h6, h7, h8, h9⟩ :=
    options_checked_then_ruleset parsed allCats q st st' inv h
  exact ⟨rs, rules, m, h1, h3, h4, h5, h6, h7, h8, h9⟩

/-! ### strictness levels: `_get_rule_files_for_strictness` is cumulative, parsing only appends -/

/-- parsing more text never touches the rules already there: whatever `create_rules` returns starts
    with the rules it was given (earlier files), unchanged and in place -/
theorem earlier_rules_kept (cfg : Cfg) (files : List String) (rules out : List Rule) (aliases : Aliases)
    (h : createRules cfg files rules aliases = .ok out) : rules <+: out :=
  createRules_rules_prefix cfg files rules out aliases h

/-- the same for one `Parser(text, …, existing_rules, existing_aliases)`: its `.rules` start with the
    rules it was given -/
theorem continuation_extends_given (cfg : Cfg) (given rules : List Rule) (aliases al : Aliases) (text : String)
    (h : parseText cfg given aliases text = .ok (rules, al)) : given <+: rules :=
  parseText_rules_prefix h

/-- for any table of levels with their files (`_STRICTNESS_LEVELS`), any two levels `a`, `b`: the file
    lists `_get_rule_files_for_strictness` returns are one the front of the other, and if the longer
    one parses, so does the shorter, to a front part of the same rules — every rule of the stricter
    level is a rule of the looser one, unchanged and at the same position; looser levels only add -/
theorem stricter_level_rules_kept (cfg : Cfg) (levels : List (String × String)) (a b : String)
    (fa fb : List String) (ha : Rulesets.ruleFilesFor levels a = some fa)
    (hb : Rulesets.ruleFilesFor levels b = some fb) :
    (fa <+: fb ∨ fb <+: fa) ∧
    ∀ rb, fa <+: fb → createRules cfg fb [] [] = .ok rb → ∃ ra, createRules cfg fa [] [] = .ok ra ∧ ra <+: rb := by
  refine ⟨Rulesets.ruleFilesFor_chain levels a b fa fb ha hb, ?_⟩
  rintro rb ⟨t, rfl⟩ h
  exact createRules_append_prefix cfg fa t [] rb [] h

example : Rulesets.ruleFilesFor [("strict", "s"), ("relaxed", "r"), ("loose", "l")] "relaxed" = some ["s", "r"] ∧
    Rulesets.ruleFilesFor [("strict", "s"), ("relaxed", "r"), ("loose", "l")] "loose" = some ["s", "r", "l"] ∧
    Rulesets.ruleFilesFor [("strict", "s"), ("relaxed", "r"), ("loose", "l")] "lax" = none := by decide

/-! ### the regenerated text parses back (thm 7) -/

/-- thm 7 (`reparse_printed`) for every list `L` of `or`-operands the parser can return (a CONDITIONS
    section, the inside of a group or of `cds(...)`: documented shape `shapeOks`, no repeated operand,
    profile names that are identifiers — exactly what `conditions_accepts_only_grammar` guarantees
    for parser output): the text `__str__` prints for it (after the D17/D43 print repairs)
    is tokenised without error, and the tokens are parsed — in any alias-free state, followed by
    anything a section may be followed by — into `normL L`: the same operands up to the transparent
    single-operand group the printer drops (`normC`), `minimum` options sorted; `normL L` has the
    same meaning at every gene of every environment (C01 `sem`), prints to the same text, and is
    again legal. -/
theorem reparse_printed (L : List Cond) (allowCds : Bool) (hne : L ≠ []) (hn : NamesOkL L)
    (hs : shapeOks allowCds L = true) (hr : noRepeats L = true) :
    ∃ toks, tokenise (String.ofList (printJoin orSep L)) = .ok toks ∧
      (∀ (fuel : Nat) (isGroup : Bool) (k consumed : List Tok) (rules : List Rule), NotBinop k →
        (∀ c r, endCheck isGroup (ofStream k c r) = .ok ()) → 3 * toks.length + 2 ≤ fuel →
        parseConditions fuel allowCds isGroup (ofStream (toks ++ k) consumed rules) =
          .ok (normL L, ofStream k (toks.reverse ++ consumed) rules)) ∧
      (∀ e g, semAny e g (normL L) = semAny e g L) ∧
      printConds (normL L) = printConds L ∧ shapeOks allowCds (normL L) = true ∧ noRepeats (normL L) = true :=
  reparse_operands L allowCds hne hn hs hr

/-- thm 7 for a whole rule with the mandatory sections (no DESCRIPTION/EXAMPLE text), distances in
    whole kilobases (the regenerated text prints `cutoff // 1000`; the fresh parser has multipliers 1):
    `reconstruct_rule_text()` is tokenised without error and `_parse_rule` on the tokens returns a
    rule with the same name, category, cutoff and neighbourhood, whose conditions have the same
    meaning at every gene of every environment.  Hypotheses = what `accepted_rules_wellformed` /
    `conditions_accepts_only_grammar` give for a parsed rule, plus: name, category and profile names
    are identifiers for the tokeniser (they came out of it). -/
theorem reparse_printed_rule (cfg : Cfg) (r : Rule) (L : List Cond) (rules : List Rule)
    (hc : r.conditions = .group false L) (hne : L ≠ []) (hn : NamesOkL L) (hs : shapeOks true L = true)
    (hr : noRepeats L = true) (hd : hasDupStr (printConds L) = false)
    (hname : classify r.name = .identifier) (hcat : classify r.category = .identifier)
    (hcats : cfg.cats.contains r.category = true) (hpos : positive r.conditions = true)
    (hdesc : r.description = []) (hex : r.examples = [])
    (hkc : r.cutoff % 1000 = 0) (hkn : r.neighbourhood % 1000 = 0) :
    ∃ toks r', tokenise r.reconstruct = .ok toks ∧
      parseRule cfg (ofStream toks [] rules) = .ok (r', ofStream [] toks.reverse rules) ∧
      r'.name = r.name ∧ r'.category = r.category ∧ r'.cutoff = r.cutoff ∧ r'.neighbourhood = r.neighbourhood ∧
      ∀ e g, sem e g r'.conditions = sem e g r.conditions :=
  reparse_rule cfg r L rules hc hne hn hs hr hd hname hcat hcats hpos hdesc hex hkc hkn

/-- `reparse_printed_rule` without the whole-kilobase hypotheses (rules scaled by multipliers have odd
    distances): `reconstruct_rule_text` prints `cutoff // 1000`, so for **any** distances the
    regenerated text parses back to the same name, category and condition meaning, and to the
    distances rounded down to the kilobase (in particular they differ from the original by less
    than 1000, and are equal exactly for whole kilobases) -/
theorem reparse_printed_rule_any_distance (cfg : Cfg) (r : Rule) (L : List Cond) (rules : List Rule)
    (hc : r.conditions = .group false L) (hne : L ≠ []) (hn : NamesOkL L) (hs : shapeOks true L = true)
    (hr : noRepeats L = true) (hd : hasDupStr (printConds L) = false)
    (hname : classify r.name = .identifier) (hcat : classify r.category = .identifier)
    (hcats : cfg.cats.contains r.category = true) (hpos : positive r.conditions = true)
    (hdesc : r.description = []) (hex : r.examples = []) :
    ∃ toks r', tokenise r.reconstruct = .ok toks ∧
      parseRule cfg (ofStream toks [] rules) = .ok (r', ofStream [] toks.reverse rules) ∧
      r'.name = r.name ∧ r'.category = r.category ∧
      r'.cutoff = r.cutoff / 1000 * 1000 ∧ r'.neighbourhood = r.neighbourhood / 1000 * 1000 ∧
      r'.cutoff ≤ r.cutoff ∧ r.cutoff < r'.cutoff + 1000 ∧
      r'.neighbourhood ≤ r.neighbourhood ∧ r.neighbourhood < r'.neighbourhood + 1000 ∧
      ∀ e g, sem e g r'.conditions = sem e g r.conditions := by
  obtain ⟨toks, r', h1, h2, h3, h4, h5, h6, h7⟩ :=
    reparse_rule_gen cfg r L rules hc hne hn hs hr hd hname hcat hcats hpos hdesc hex
  exact ⟨toks, r', h1, h2, h3, h4, h5, h6, by omega, by omega, by omega, by omega, h7⟩

/-- 22 500 (15 kb × 1.5) comes back as 22 000 -/
example : (match parseText { sigs := ["a"], cats := ["cat"] } [] []
      ({ name := "r", category := "cat", cutoff := 22500, neighbourhood := 999,
         conditions := .group false [.single false "a"] } : Rule).reconstruct with
    | .ok ([r'], _) => some (r'.cutoff, r'.neighbourhood)
    | _ => none) = some (22000, 0) := by
  rw [parseText, tokenise_eq_tokeniseChars]
  decide +kernel

/-- D17 and D43 on the model: `not (not a)` and `cds((a))` print with their parentheses -/
example : printCond (.group true [.group true [.single false "a"]]) = "not (not a)" := by decide +kernel
example : printCond (.cds false [.group false [.single false "a"]]) = "cds((a))" := by decide +kernel

/-! ### the model's fuel is never exhausted (the `fuel` error value is unreachable) -/

/-- more fuel changes nothing but an "out of fuel": if `parseRuleWith n` returns anything else, so
    does every `m ≥ n` (the same holds for every fuel-taking function: `blockMono`, `…_mono`) -/
theorem fuel_irrelevant (n m : Nat) (h : n ≤ m) (cfg : Cfg) (s : PS)
    (hne : parseRuleWith n cfg s ≠ .error .fuel) : parseRuleWith m cfg s = parseRuleWith n cfg s :=
  (parseRuleWith_mono h cfg s).eq_of_ne hne

/-- every recursive call consumes a token first: on an alias-free state with `p` unread tokens the
    condition parser never runs out of fuel `3p + 3` (`blockNF` has the bound of each of the seven
    mutually recursive functions) … -/
theorem fuel_enough_conditions (n : Nat) (allowCds isGroup : Bool) (s : PS) (ha : s.aliases = [])
    (hn : 3 * s.pending + 3 ≤ n) : parseConditions n allowCds isGroup s ≠ .error .fuel :=
  (blockNF n).conds allowCds isGroup s s.pending ⟨ha, Nat.le_refl _⟩ hn

/-- … nor does a whole rule on any state with a flat alias table with the fuel `_parse_rule`'s
    model computes (`PS.budget` ≥ 3 · tokens after substitution + 3) … -/
theorem fuel_enough_rule (cfg : Cfg) (s : PS) (hf : Flat s.aliases) : parseRule cfg s ≠ .error .fuel :=
  parseRule_nf hf

/-- … and so (3): `create_rules` never returns the model's `fuel` error, for any files, signature
    names, categories and multipliers.  (Main loop: every iteration consumes a `RULE` or `DEFINE`
    token, and alias definitions contain none.) -/
theorem fuel_never_exhausted (cfg : Cfg) (files : List String) :
    createRules cfg files [] [] ≠ .error .fuel :=
  createRules_nf cfg files [] [] ⟨by simp, by simp, by simp⟩

/-! non-vacuity of the rejection theorems, each listed class of ill-formed input on a concrete text:
    `Props/C02Examples.lean` -/

end ASV.C02
