/-
  C08 — genes belong to exactly the areas that contain them, whatever the build order.
  The property theorems; their lemmas are in ASV/Proofs/Lookup*.lean, Proofs/Bisect.lean, Proofs/GeneFunctions.lean.

  Model: `ASV.Lookup` (Model/Lookup.lean) — the repaired `get_cds_features_within_location`
  (fixes/D4_D5_D6_cds_lookup_exact.patch), `add_cds_feature`, the repaired `_link_cds_to_parent`
  (fixes/D41_link_cds_to_every_region.patch), the `add_<area>` methods, `CDSCollection/Protocluster/Region.add_cds`.
  Spec: `ASV.Lookup.spec*` (Spec/Lookup.lean).

  Guards (all decidable, evaluated per case by the driver as the scope flag):
    `Sorted genes`     the gene list is in `Feature.__lt__` order — an invariant of every history (theorem 5)
    `GenesOK genes`    every gene location has ≥ 1 part, parts non-empty and ≥ 0, and a sort key
    `QueryOK q`        the query / area location has ≥ 1 part, parts non-empty and ≥ 0
    `HistoryOK ops`    well-formed genes and areas; one id names one object; children lie inside their
                       parents; regions are never children
  Everything below is for all gene layouts (nested, identical starts, identical keys, both strands,
  multi-exon, origin-spanning), all query locations and all histories — no bound on sizes.
-/
import ASV.Proofs.LookupValid
import ASV.Proofs.LookupDefs
import ASV.Proofs.GeneFunctions
namespace ASV.C08
open ASV ASV.Lookup

/-! ### 1–4  the lookup -/

/-- asking for the genes *within* a location returns exactly the genes contained in it -/
theorem within_contained_exact (genes : List Gene) (hs : Sorted genes) (hok : GenesOK genes)
    (q : Loc) (hq : QueryOK q) (g : Gene) :
    g ∈ within genes q false ↔ g ∈ genes ∧ specContained g.loc q = true := by
  simpa [specKeeps] using mem_within hs hok q false hq g

/-- asking with `with_overlapping` returns exactly the genes sharing a base with the location -/
theorem within_overlapping_exact (genes : List Gene) (hs : Sorted genes) (hok : GenesOK genes)
    (q : Loc) (hq : QueryOK q) (g : Gene) :
    g ∈ within genes q true ↔ g ∈ genes ∧ g.loc.SharesBase q := by
  rw [mem_within hs hok q true hq g]
  simp [specKeeps, specShares, sharesPts_iff]

/-- for a single-part location "contained" is the set-of-bases reading: every base of the gene is a base of
    the location -/
theorem contained_iff_bases_inside (g : Loc) (hg : LocOK g) (p : Part) :
    specContained g (.simple p) = true ↔ ∀ i, g.mem i = true → (Loc.simple p).mem i = true := by
  refine specContained_iff_bases g (.simple p) hg.nonEmpty fun q hq q' hq' _ _ => ?_
  rw [List.mem_singleton.1 hq, List.mem_singleton.1 hq']
  exact Int.le_refl _

/-- for a single-part location the answer *is* the record's gene list filtered, order included … -/
theorem within_simple_is_filter (genes : List Gene) (hs : Sorted genes) (hok : GenesOK genes)
    (p : Part) (h0 : 0 ≤ p.lo) (h1 : p.lo < p.hi) (ov : Bool) :
    within genes (.simple p) ov = genes.filter fun g => specKeeps ov g.loc (.simple p) := by
  have hq : QueryOK (.simple p) := ⟨by simp [Loc.parts], fun x hx => by simp [Loc.parts] at hx; subst hx; exact ⟨h0, h1⟩⟩
  rw [within_eq_spec hs hok _ ov hq]
  simp [specWithin, Loc.parts]

/-- … and in general it is the spec's list: a multi-part location is walked part by part, each gene once -/
theorem within_is_spec_list (genes : List Gene) (hs : Sorted genes) (hok : GenesOK genes)
    (q : Loc) (hq : QueryOK q) (ov : Bool) :
    within genes q ov = specWithin genes q ov :=
  within_eq_spec hs hok q ov hq

/-- the answer to a single-part query is in location order (a sub-list of the sorted gene list) -/
theorem within_sorted (genes : List Gene) (hs : Sorted genes) (hok : GenesOK genes)
    (p : Part) (h0 : 0 ≤ p.lo) (h1 : p.lo < p.hi) (ov : Bool) :
    (within genes (.simple p) ov).Sublist genes ∧ Sorted (within genes (.simple p) ov) := by
  rw [within_simple_is_filter genes hs hok p h0 h1 ov]
  exact ⟨List.filter_sublist, hs.sublist List.filter_sublist⟩

/-- no gene is returned twice -/
theorem within_nodup (genes : List Gene) (hs : Sorted genes) (hok : GenesOK genes) (hn : genes.Nodup)
    (q : Loc) (hq : QueryOK q) (ov : Bool) : (within genes q ov).Nodup := by
  rw [within_eq_spec hs hok q ov hq]
  unfold specWithin
  split
  · exact List.nodup_nil
  · exact hn.filter _
  · exact (nodup_dedup _).filter _

/-- a query starting below 0 is read as starting at 0 (and at least one base long) -/
theorem within_negative_start (genes : List Gene) (p : Part) (h : p.lo < 0) (ov : Bool) :
    within genes (.simple p) ov = within genes (.simple ⟨0, max 1 p.hi, .none⟩) ov := by
  have e : clampQuery ⟨0, max 1 p.hi, .none⟩ = clampQuery p := by simp [clampQuery, h]
  simp only [within, Loc.parts, within1, e]

/-- the order used throughout is `Feature.__lt__` of the shared location model (C04) -/
theorem order_is_feature_lt (a b : Loc) (ha : LocOK a) (hb : LocOK b) : featureLt a b = .ok (locLt a b) := by
  obtain ⟨ka, hka⟩ := ha.2.2
  obtain ⟨kb, hkb⟩ := hb.2.2
  rw [featureLt_eq a b ka kb hka hkb]
  simp [locLt, sortKey, cmpStart, hka, hkb, pairLt, keyLt]

/-- origin-spanning genes sort before all others, whatever their coordinates (why the lookup must scan them) -/
theorem crossing_sorts_first (a b : Loc) (ha : LocOK a) (hb : LocOK b)
    (hca : bridgesOrigin a = true) (hcb : bridgesOrigin b = false) : locLt a b = true := by
  rw [locLt_true_iff]
  have := cmpStart_crossing ha hca
  have := cmpStart_nonneg_linear hb hcb
  omega

/-! ### 1b  completeness under arbitrary nesting; the ring (origin-spanning queries and genes) -/

/-- completeness of the overlap lookup: *every* gene of the record sharing a base with the location is
    returned — whatever lies between it and the location in the gene list (genes nested in it, genes ending
    before the location, identical starts, origin-spanning genes sorting first) -/
theorem within_overlapping_complete (genes : List Gene) (hs : Sorted genes) (hok : GenesOK genes)
    (q : Loc) (hq : QueryOK q) (g : Gene) (hg : g ∈ genes) (hsh : g.loc.SharesBase q) :
    g ∈ within genes q true :=
  (within_overlapping_exact genes hs hok q hq g).2 ⟨hg, hsh⟩

/-- … and of the containment lookup -/
theorem within_contained_complete (genes : List Gene) (hs : Sorted genes) (hok : GenesOK genes)
    (q : Loc) (hq : QueryOK q) (g : Gene) (hg : g ∈ genes) (hc : specContained g.loc q = true) :
    g ∈ within genes q false :=
  (within_contained_exact genes hs hok q hq g).2 ⟨hg, hc⟩

/-- ring: an origin-spanning gene (it sorts first, far from where bisection looks) is found from any location
    it shares a base with — a single-part location near the end of the record, near its start, or an
    origin-spanning one -/
theorem within_finds_crossing_gene (genes : List Gene) (hs : Sorted genes) (hok : GenesOK genes)
    (q : Loc) (hq : QueryOK q) (g : Gene) (hg : g ∈ genes) (_hx : bridgesOrigin g.loc = true)
    (i : Int) (hi : g.loc.mem i = true) (hqi : q.mem i = true) : g ∈ within genes q true :=
  within_overlapping_complete genes hs hok q hq g hg ⟨i, hi, hqi⟩

/-- ring: the answer to an origin-spanning location `[x:L) + [0:y)` walks the location: first the genes met
    in the part before the origin (those not crossing the origin, then the crossing ones), then the genes of
    the part after the origin that were not met yet; finally the keep test -/
theorem within_origin_spanning_order (genes : List Gene) (hs : Sorted genes) (hok : GenesOK genes) (hn : genes.Nodup)
    (p0 p1 : Part) (hq : QueryOK (.compound [p0, p1])) (ov : Bool) :
    within genes (.compound [p0, p1]) ov =
      (specPartHits genes p0 ++ (specPartHits genes p1).filter (fun g => !(specPartHits genes p0).contains g)).filter
        (fun g => specKeeps ov g.loc (.compound [p0, p1])) := by
  rw [within_eq_spec hs hok _ ov hq]
  have hnd : ∀ p, (specPartHits genes p).Nodup := by
    intro p
    simp only [specPartHits]
    rw [List.nodup_append]
    refine ⟨(hn.filter _).filter _, (hn.filter _).filter _, ?_⟩
    intro a ha b hb e
    subst e
    simp only [List.mem_filter] at ha hb
    simp [hb.2] at ha
  simp only [specWithin, Loc.parts, List.flatMap_cons, List.flatMap_nil, List.append_nil]
  rw [dedup_append_nodup _ _ (hnd p0) (hnd p1)]

/-- ring: for an origin-spanning area `[x:L) + [0:y)` with `y < x`, "contained" is again the set-of-bases
    reading — every base of the gene is a base of the area — for genes whose parts lie on the record -/
theorem contained_iff_bases_inside_ring (g : Loc) (hg : LocOK g) (p0 p1 : Part) (hgap : p1.hi < p0.lo)
    :
    specContained g (.compound [p0, p1]) = true ↔ ∀ i, g.mem i = true → (Loc.compound [p0, p1]).mem i = true := by
  refine specContained_iff_bases g (.compound [p0, p1]) hg.nonEmpty fun q hq q' hq' _ _ => ?_
  simp only [Loc.parts, List.mem_cons, List.not_mem_nil, or_false] at hq hq'
  rcases hq with rfl | rfl <;> rcases hq' with rfl | rfl <;> omega

/-! ### 5  the record keeps its genes sorted; the name map -/

/-- after any history of successful calls (adding, clearing, observing) the gene list holds exactly the genes
    added, in location order, with distinct names -/
theorem genes_stay_sorted (len : Int) (ops : List Op) (r : Rec) (hok : ∀ op ∈ ops, OpOK op)
    (hrun : run len ops = .ok r) :
    Sorted r.genes ∧ GenesOK r.genes ∧ (∀ g, g ∈ r.genes ↔ g ∈ (liveAfter ops).genes) ∧
      r.genes.Pairwise (fun a b => a.id ≠ b.id) := by
  have inv := (run_inv hok hrun).core
  exact ⟨inv.sorted, inv.ok, inv.genesLive, inv.ids⟩

/-- `get_cds_by_name` finds exactly the gene that was added under that name (and nothing for other names) -/
theorem name_map_exact (len : Int) (ops : List Op) (r : Rec) (hok : ∀ op ∈ ops, OpOK op) (hrun : run len ops = .ok r)
    (gid : Nat) (g : Gene) :
    r.byName.find? (fun x => x.1 == gid) = some (gid, g) ↔ (g ∈ r.genes ∧ g.id = gid) := by
  have inv := (run_inv hok hrun).core
  constructor
  · intro hf
    have hm := List.mem_of_find?_eq_some hf
    obtain ⟨g', hg', e⟩ := (inv.byName _).1 hm
    injection e with e1 e2
    subst e2; exact ⟨hg', e1.symm⟩
  · rintro ⟨hg, rfl⟩
    have hm : (g.id, g) ∈ r.byName := (inv.byName _).2 ⟨g, hg, rfl⟩
    cases hf : r.byName.find? (fun x => x.1 == g.id) with
    | none =>
      rw [List.find?_eq_none] at hf
      exact absurd (by simp) (hf _ hm)
    | some x =>
      have hx1 : x.1 = g.id := by simpa using List.find?_some hf
      obtain ⟨g', hg', e⟩ := (inv.byName _).1 (List.mem_of_find?_eq_some hf)
      subst e
      have := gene_of_id inv.ids hg hg' hx1
      subst this; rfl

/-- the record's lists of collections are exactly what the spec says is alive after the history -/
theorem lists_are_live (len : Int) (ops : List Op) (r : Rec) (hok : ∀ op ∈ ops, OpOK op) (hrun : run len ops = .ok r) :
    r.regions = (liveAfter ops).regions ∧ r.protos = (liveAfter ops).protos ∧
    r.cands = (liveAfter ops).cands ∧ r.subs = (liveAfter ops).subs := by
  have inv := (run_inv hok hrun).core
  exact ⟨inv.regionsEq, inv.protosEq, inv.candsEq, inv.subsEq⟩

/-! ### 6–8  areas, regions, definition genes, sections after any history (clearing calls included) -/

/-- every protocluster, candidate cluster, subregion and region currently in the record — and every child of
    one — lists exactly the genes its location contains, also after `clear_*` calls, re-adding and
    re-creation of regions -/
theorem area_children_exact (len : Int) (ops : List Op) (r : Rec) (hok : HistoryOK ops) (hrun : run len ops = .ok r)
    (a : AreaT) (ha : a ∈ (liveAfter ops).areas) (d : AreaT) (hd : d ∈ nodes a) (gid : Nat) :
    gid ∈ r.children d.id ↔ gid ∈ specChildren r.genes d :=
  children_exact_of_inv (run_inv hok.opOK hrun).core hok a ha d hd gid

/-- an area never handed to the record (directly or as a child) lists no gene -/
theorem unregistered_area_empty (len : Int) (ops : List Op) (r : Rec) (hok : HistoryOK ops) (hrun : run len ops = .ok r)
    (aid : Nat) (hfresh : ∀ a ∈ opsAreas ops, ∀ d ∈ nodes a, d.id ≠ aid) : r.children aid = [] := by
  have inv := (run_inv hok.opOK hrun).core
  rw [List.eq_nil_iff_forall_not_mem]
  intro gid hmem
  rw [mem_children] at hmem
  obtain ⟨g, _, d, ⟨s, hl⟩, hx⟩ := inv.membersSound _ hmem
  injection hx with h1 _
  obtain ⟨_, a, ha, hd⟩ := hl.contained
  exact hfresh a ha d hd h1.symm

/-- a collection that is no longer in the record (cleared) never lists a gene it does not contain -/
theorem stale_children_sound (len : Int) (ops : List Op) (r : Rec) (hok : HistoryOK ops) (hrun : run len ops = .ok r)
    (a : AreaT) (ha : a ∈ opsAreas ops) (d : AreaT) (hd : d ∈ nodes a) (gid : Nat) (hm : gid ∈ r.children d.id) :
    gid ∈ specChildren r.genes d :=
  children_sound_of_inv (run_inv hok.opOK hrun).core hok a ha d hd gid hm

/-- each gene points to the one region of the record containing it, or to none — also after regions were
    cleared and re-created; and no two regions contain the same gene -/
theorem cds_region_unique (len : Int) (ops : List Op) (r : Rec) (hok : ∀ op ∈ ops, OpOK op) (hrun : run len ops = .ok r)
    (g : Gene) (hg : g ∈ r.genes) :
    (∀ a ∈ r.regions, specContained g.loc a.loc = true → r.regionOfGene g.id = some a.id) ∧
    ((∀ a ∈ r.regions, specContained g.loc a.loc = false) → r.regionOfGene g.id = none) ∧
    (∀ a ∈ r.regions, ∀ b ∈ r.regions, specContained g.loc a.loc = true → specContained g.loc b.loc = true → a = b) :=
  (run_inv hok hrun).core.region_unique hg

/-- right after `clear_regions` no gene points to a region -/
theorem clear_regions_resets_links (len : Int) (ops : List Op) (r : Rec) (hok : ∀ op ∈ ops, OpOK op)
    (hrun : run len (ops ++ [.clearRegions]) = .ok r) (g : Gene) (hg : g ∈ r.genes) : r.regionOfGene g.id = none := by
  obtain ⟨r0, hr, hs⟩ := run_snoc hrun
  obtain rfl := Except.ok.inj hs
  exact ((run_inv hok hr).clearRegions.core.regionPtr g hg).2 (fun a ha => nomatch ha)

/-- `get_cds_features_within_regions` returns exactly the genes inside some region -/
theorem within_regions_exact (len : Int) (ops : List Op) (r : Rec) (hok : HistoryOK ops) (hrun : run len ops = .ok r)
    (gid : Nat) :
    gid ∈ (r.regions.flatMap fun a => r.children a.id) ↔
      ∃ g ∈ r.genes, g.id = gid ∧ ∃ a ∈ r.regions, specContained g.loc a.loc = true := by
  have inv := (run_inv hok.opOK hrun).core
  have key : ∀ a ∈ r.regions, gid ∈ r.children a.id ↔ ∃ g ∈ r.genes, g.id = gid ∧ specContained g.loc a.loc = true := by
    intro a ha
    have hl : a ∈ (liveAfter ops).areas := by rw [← registered_eq_live inv]; exact regions_sub_registered r a ha
    rw [children_exact_of_inv inv hok a hl a (nodes_self a) gid]
    simp only [specChildren, List.mem_map, List.mem_filter]
    exact exists_congr fun g => ⟨fun ⟨⟨h1, h2⟩, h3⟩ => ⟨h1, h3, h2⟩, fun ⟨h1, h3, h2⟩ => ⟨⟨h1, h2⟩, h3⟩⟩
  simp only [List.mem_flatMap]
  constructor
  · rintro ⟨a, ha, hm⟩
    obtain ⟨g, hg, e, hc⟩ := (key a ha).1 hm
    exact ⟨g, hg, e, a, ha, hc⟩
  · rintro ⟨g, hg, e, a, ha, hc⟩
    exact ⟨a, ha, (key a ha).2 ⟨g, hg, e, hc⟩⟩

/-- a protocluster's defining genes are exactly the genes inside it and inside its core that carry a core
    annotation for its product -/
theorem definition_cdses_exact (len : Int) (ops : List Op) (r : Rec) (hok : HistoryOK ops) (hrun : run len ops = .ok r)
    (a : AreaT) (ha : a ∈ (liveAfter ops).areas) (d : AreaT) (hd : d ∈ nodes a) (hk : d.kind = .proto) (gid : Nat) :
    gid ∈ r.definition d.id ↔ gid ∈ specDefinition r.genes d :=
  definition_exact_of_inv trivial (run_inv hok.opOK hrun).core hok a ha d hd hk gid

/-- product names are compared for equality: a gene whose core annotations do not name the protocluster's
    product itself — a shorter name contained in it ("NRPS" vs "NRPS-like"), a longer one, anything else — is
    never one of its defining genes, wherever it lies and in whatever order things were added -/
theorem definition_needs_exact_product (len : Int) (ops : List Op) (r : Rec) (hok : HistoryOK ops) (hrun : run len ops = .ok r)
    (a : AreaT) (ha : a ∈ (liveAfter ops).areas) (d : AreaT) (hd : d ∈ nodes a) (hk : d.kind = .proto)
    (g : Gene) (hg : g ∈ r.genes) (hne : ∀ p ∈ g.cores, p ≠ d.product) : g.id ∉ r.definition d.id := by
  intro hm
  have := (mem_filter_ids (run_inv hok.opOK hrun).core.ids hg _).1
    ((definition_cdses_exact len ops r hok hrun a ha d hd hk g.id).1 hm)
  simp only [Bool.and_eq_true, List.contains_iff_mem] at this
  exact hne _ this.2 rfl

/-! #### the gene-function container a protocluster consults (`GeneFunctionAnnotations`) -/

/-- after any history of `add` / `clear` calls both indexes agree with the annotation list: `get_by_function`
    and `get_by_tool` return exactly the carried annotations with that function / tool, in order -/
theorem gene_function_index_consistent (h : List GeneFn.Op) (fn : Nat) (tool : String) :
    (GeneFn.run h).annotations = GeneFn.carried h ∧
    (GeneFn.run h).getByFunction fn = (GeneFn.carried h).filter (fun a => a.fn == fn) ∧
    (GeneFn.run h).getByTool tool = (GeneFn.carried h).filter (fun a => a.tool == tool) := by
  have c := GeneFn.run_consistent h
  refine ⟨GeneFn.run_annotations h, ?_, ?_⟩
  · rw [c.getByFunction, GeneFn.run_annotations]
  · rw [c.getByTool, GeneFn.run_annotations]

/-- what `Protocluster.add_cds` sees are the products of the core annotations the gene carries (added since
    the last `clear` / `strip_antismash_annotations`) -/
theorem core_products_are_carried (h : List GeneFn.Op) :
    GeneFn.coreProducts (GeneFn.run h) = GeneFn.specCoreProducts h := by
  simp only [GeneFn.coreProducts, GeneFn.specCoreProducts, (gene_function_index_consistent h GeneFn.CORE "").2.1]

/-- a stripped gene carries no core annotation, whatever it carried before -/
theorem cleared_gene_has_no_cores (h : List GeneFn.Op) :
    GeneFn.coreProducts (GeneFn.run (h ++ [.clear])) = [] := by
  rw [core_products_are_carried]
  simp [GeneFn.specCoreProducts, GeneFn.carried, List.foldl_append]

/-- defining genes over annotation histories: a gene whose annotation container went through the calls `h`
    before it met the protocluster defines it only if it still *carries* a core annotation for the product —
    annotations removed by a strip do not count -/
theorem definition_needs_carried_annotation (len : Int) (ops : List Op) (r : Rec) (hok : HistoryOK ops)
    (hrun : run len ops = .ok r) (a : AreaT) (ha : a ∈ (liveAfter ops).areas) (d : AreaT) (hd : d ∈ nodes a)
    (hk : d.kind = .proto) (g : Gene) (hg : g ∈ r.genes) (h : List GeneFn.Op)
    (hcores : g.cores = GeneFn.coreProducts (GeneFn.run h)) (hm : g.id ∈ r.definition d.id) :
    d.product ∈ GeneFn.specCoreProducts h := by
  rw [← core_products_are_carried, ← hcores]
  by_cases hp : d.product ∈ g.cores
  · exact hp
  · exact absurd hm (definition_needs_exact_product len ops r hok hrun a ha d hd hk g hg
      (fun p hpm e => hp (e ▸ hpm)))

/-! #### annotations rewritten while the gene is in the record (`.setCores`: `gene_functions.add`, strip) -/

/-- rewriting the annotations of a gene in the record replaces the gene's core products (in the gene list, the
    name map and the cached tuple alike) and touches nothing else; the model follows it for a gene no collection
    has listed yet -/
theorem reannotation_takes_effect (len : Int) (ops : List Op) (gid : Nat) (cs : List String) (r' : Rec)
    (hrun : run len (ops ++ [.setCores gid cs]) = .ok r') :
    ∃ r, run len ops = .ok r ∧ (∀ x ∈ r.members, x.2 ≠ gid) ∧
      r'.genes = r.genes.map (recore gid cs) ∧ r'.members = r.members ∧ r'.defs = r.defs ∧ r'.sections = r.sections := by
  obtain ⟨r, hr, hs⟩ := run_snoc hrun
  obtain ⟨hno, e⟩ := step_ok_iff_loose.1 hs
  obtain rfl := Except.ok.inj e
  exact ⟨r, hr, hno, rfl, rfl, rfl, rfl⟩

/-- the model's limit, exactly: a rewrite is *not* followed iff some collection already lists the gene -/
theorem reannotation_model_limit (r : Rec) (gid : Nat) (cs : List String) :
    setCores r gid cs = .error "annotation-after-pairing" ↔ ∃ x ∈ r.members, x.2 = gid := by
  have h : (∃ x ∈ r.members, x.2 = gid) ↔ (r.members.any fun x => x.2 == gid) = true := by
    simp only [List.any_eq_true, beq_iff_eq]
  rw [setCores_eq, h]
  cases r.members.any fun x => x.2 == gid <;> simp

/-- definition sets over histories with annotation rewrites (every rewrite of a gene preceding the collections that
    list it — which is what a successful `run` means): a protocluster in the record is defined by exactly the genes
    inside it and inside its core whose **current** annotations carry a core annotation for its product -/
theorem definition_uses_current_annotations (len : Int) (ops : List Op) (r : Rec) (hok : HistoryOK ops)
    (hrun : run len ops = .ok r) (a : AreaT) (ha : a ∈ (liveAfter ops).areas) (d : AreaT) (hd : d ∈ nodes a)
    (hk : d.kind = .proto) (g : Gene) (hg : g ∈ r.genes) :
    g.id ∈ r.definition d.id ↔
      (specContained g.loc d.loc = true ∧ specContained g.loc d.core = true ∧ d.product ∈ g.cores) := by
  rw [definition_cdses_exact len ops r hok hrun a ha d hd hk g.id, specDefinition,
    mem_filter_ids (run_inv hok.opOK hrun).core.ids hg]
  simp only [Bool.and_eq_true, List.contains_iff_mem, and_assoc]

/-- every `add_cds` re-evaluates: whatever the record looks like — in particular if the protocluster already lists
    the gene — after `collection.add_cds(gene)` every protocluster the gene is handed to that contains it in its
    core and whose product the gene *now* carries a core annotation for has it as a defining gene -/
theorem add_cds_reevaluates_definition (r : Rec) (g : Gene) (a : AreaT) (d : AreaT) (s : Section)
    (hd : (d, s) ∈ downNodes g none a) (hdef : defines g d = true) :
    (d.id, g.id) ∈ (pushDown g none a r).defs :=
  ((pushDown_eff g none a r).defs _).2 (Or.inr ⟨(g, d, s), List.mem_map.2 ⟨(d, s), hd, rfl⟩, hdef, rfl⟩)

/-- … so a gene annotated after its protocluster listed it becomes a defining gene as soon as a candidate cluster
    or region hands it to the protocluster again (`runLoose`: annotation rewrites at any time) -/
theorem relisted_gene_is_reevaluated (r : Rec) (g : Gene) (a : AreaT) (d : AreaT) (s : Section)
    (_hlisted : (d.id, g.id) ∈ r.members) (hc : containedBy g.loc a.loc = true)
    (hd : (d, s) ∈ downNodes g none a) (hdef : defines g d = true) :
    ∃ r', areaAddCds r a g = .ok r' ∧ (d.id, g.id) ∈ r'.defs := by
  exact ⟨pushDown g none a r, if_pos hc, add_cds_reevaluates_definition r g a d s hd hdef⟩

/-- a sideloaded protocluster (`SideloadedProtocluster`) never has defining genes -/
theorem sideloaded_defines_nothing (len : Int) (ops : List Op) (r : Rec) (hok : HistoryOK ops) (hrun : run len ops = .ok r)
    (a : AreaT) (ha : a ∈ opsAreas ops) (d : AreaT) (hd : d ∈ nodes a) (hk : d.kind = .sideProto) :
    r.definition d.id = [] := by
  have inv := (run_inv hok.opOK hrun).core
  rw [List.eq_nil_iff_forall_not_mem]
  intro gid hm
  rw [mem_definition] at hm
  obtain ⟨g, _, d', ⟨s, hl⟩, hdef, hx⟩ := inv.defsSound trivial _ hm
  injection hx with h1 _
  obtain ⟨_, a', ha', hd'⟩ := hl.contained
  obtain ⟨_, _, _, e4⟩ := hok.ids a' ha' a ha d' hd' d hd h1.symm
  simp only [defines, Bool.and_eq_true, beq_iff_eq] at hdef
  rw [hdef.1.1] at e4
  rw [hk] at e4
  cases e4

/-- the pre / cross / post-origin sections of a region of the record: its genes, each in exactly the section
    `specSection` names (crossing genes → cross; in an origin-spanning region the genes of the part after the
    origin → post, the others → pre; in an ordinary region → post) -/
theorem region_sections_partition (len : Int) (ops : List Op) (r : Rec) (hok : HistoryOK ops) (hrun : run len ops = .ok r)
    (a : AreaT) (ha : a ∈ r.regions) (s : Section) (gid : Nat) :
    gid ∈ r.section a.id s ↔
      ∃ g ∈ r.genes, g.id = gid ∧ specContained g.loc a.loc = true ∧ specSection a.loc g.loc = s :=
  region_sections_exact_of_inv (run_inv hok.opOK hrun).core hok a ha s gid

/-- what is guaranteed for the sections of **every** collection — also one that is, or once was, somebody's
    child, where the pre/post choice depends on the path the gene arrived by: a gene is filed under `cross`
    exactly when it crosses the origin.  With `sections_cover_children`: a listed gene that crosses the origin
    sits in `cross` and in no other section; one that does not sits in `pre` and/or `post`, never in `cross`. -/
theorem sections_cross_iff_crossing (len : Int) (ops : List Op) (r : Rec) (hok : ∀ op ∈ ops, OpOK op)
    (hrun : run len ops = .ok r) (g : Gene) (hg : g ∈ r.genes) (aid : Nat) (s : Section)
    (hm : g.id ∈ r.section aid s) : s = .cross ↔ bridgesOrigin g.loc = true := by
  have inv := (run_inv hok hrun).core
  rw [mem_section] at hm
  obtain ⟨g0, hg0, d, s', ⟨a, _, _, hd⟩, hx⟩ := inv.sectionsSound _ hm
  injection hx with h1 h2
  injection h1 with _ h3
  have := gene_of_id inv.ids hg hg0 h2.symm
  subst this
  rw [h3]
  exact downNodes_cross (fun s0 e => by cases e) hd

/-- a collection that is never handed to the record as somebody's child decides its sections alone: they are
    its genes split by `specSection`, each gene in exactly one — regions (`region_sections_partition`) are the
    special case; protoclusters, candidate clusters and subregions qualify until a parent takes them in -/
theorem toplevel_sections_partition (len : Int) (ops : List Op) (r : Rec) (hok : HistoryOK ops) (hrun : run len ops = .ok r)
    (a : AreaT) (ha : a ∈ (liveAfter ops).areas)
    (hnochild : ∀ b ∈ opsAreas ops, ∀ n ∈ nodes b, ∀ k ∈ n.kids, k.id ≠ a.id) (s : Section) (gid : Nat) :
    gid ∈ r.section a.id s ↔
      ∃ g ∈ r.genes, g.id = gid ∧ specContained g.loc a.loc = true ∧ specSection a.loc g.loc = s := by
  have inv := (run_inv hok.opOK hrun).core
  have har : a ∈ registered r := by rw [registered_eq_live inv]; exact ha
  -- a node with the id of `a` is not a child anywhere, so `add_cds` reaches it only as the root of its tree
  refine root_sections_exact inv hok a har (fun a' ha' g d s' ⟨b, hb, _, hd⟩ hid => ?_) s gid
  obtain rfl := List.mem_singleton.1 hb
  exact (down_root_or_kid hd).resolve_right fun ⟨m, hm, hk⟩ => hnochild b ha' m hm d hk hid

/-- for every collection: a gene is listed iff it sits in at least one of the three sections -/
theorem sections_cover_children (len : Int) (ops : List Op) (r : Rec) (hok : ∀ op ∈ ops, OpOK op)
    (hrun : run len ops = .ok r) (aid gid : Nat) : gid ∈ r.children aid ↔ ∃ s, gid ∈ r.section aid s := by
  have inv := (run_inv hok hrun).core
  rw [mem_children, inv.cover]
  simp only [mem_section]

/-! ### 8b  caches: observing calls return the live values -/

/-- `get_cds_features()` after any history returns the current gene list (never a stale tuple) -/
theorem get_cds_features_fresh (len : Int) (ops : List Op) (r' : Rec) (hok : ∀ op ∈ ops, OpOK op)
    (hrun : run len (ops ++ [.peekCds]) = .ok r') :
    ∃ r, run len ops = .ok r ∧ r'.log = r.log ++ [[r.genes.map (·.id)]] := by
  obtain ⟨r, hr, hs⟩ := run_snoc hrun
  obtain rfl := Except.ok.inj hs
  exact ⟨r, hr, (peekCds_spec (run_inv hok hr).cache).2.2⟩

/-- `collection.cds_children` after any history returns the collection's current gene list and the current
    contents of its three sections (the dirty flags of the four caches are set whenever they must be) -/
theorem cds_children_fresh (len : Int) (ops : List Op) (aid : Nat) (r' : Rec) (hok : ∀ op ∈ ops, OpOK op)
    (hrun : run len (ops ++ [.peekArea aid]) = .ok r') :
    ∃ r, run len ops = .ok r ∧
      r'.log = r.log ++ [[r.children aid, r.section aid .pre, r.section aid .cross, r.section aid .post]] := by
  obtain ⟨r, hr, hs⟩ := run_snoc hrun
  obtain rfl := Except.ok.inj hs
  exact ⟨r, hr, (peekArea_spec (run_inv hok hr).cache aid).2.2⟩

/-- `cds in collection` is true exactly for the genes the collection's location contains (for every collection
    in the record and every child of one) -/
theorem cds_in_collection_exact (len : Int) (ops : List Op) (r : Rec) (hok : HistoryOK ops) (hrun : run len ops = .ok r)
    (a : AreaT) (ha : a ∈ (liveAfter ops).areas) (d : AreaT) (hd : d ∈ nodes a) (gid : Nat) :
    (r.children d.id).contains gid = true ↔ gid ∈ specChildren r.genes d := by
  rw [List.contains_iff_mem]
  exact area_children_exact len ops r hok hrun a ha d hd gid

/-- … and the call itself reports that (it reads the live list, no cache is involved) -/
theorem cds_in_collection_fresh (len : Int) (ops : List Op) (aid gid : Nat) (r' : Rec)
    (hrun : run len (ops ++ [.hasCds aid gid]) = .ok r') :
    ∃ r, run len ops = .ok r ∧ r'.log = r.log ++ [[[if (r.children aid).contains gid then 1 else 0]]] := by
  obtain ⟨r, hr, hs⟩ := run_snoc hrun
  obtain rfl := Except.ok.inj hs
  exact ⟨r, hr, rfl⟩

/-- `cds_children.index(cds)` after any history: the position of the gene in the collection's current list
    (its first and only entry) … -/
theorem children_index_exact (len : Int) (ops : List Op) (aid gid : Nat) (r' : Rec) (hok : ∀ op ∈ ops, OpOK op)
    (hrun : run len (ops ++ [.indexOf aid gid]) = .ok r') :
    ∃ r i, run len ops = .ok r ∧ r'.log = r.log ++ [[[i]]] ∧ (r.children aid)[i]? = some gid ∧
      ∀ j < i, (r.children aid)[j]? ≠ some gid := by
  obtain ⟨r, hr, hs⟩ := run_snoc hrun
  rw [show step r (.indexOf aid gid) = indexOf r aid gid from rfl, indexOf_eq (run_inv hok hr).cache] at hs
  cases hi : indexIn gid (r.children aid) with
  | none => rw [hi] at hs; cases hs
  | some i =>
    rw [hi] at hs
    obtain rfl := Except.ok.inj hs
    exact ⟨r, i, hr, rfl, indexIn_some hi⟩

/-- … and `IndexError` exactly when the collection does not list the gene -/
theorem children_index_error (len : Int) (ops : List Op) (aid gid : Nat) (r : Rec) (hok : ∀ op ∈ ops, OpOK op)
    (hrun : run len ops = .ok r) :
    run len (ops ++ [.indexOf aid gid]) = .error "IndexError" ↔ gid ∉ r.children aid := by
  rw [run_append_one, hrun, ← indexIn_none (x := gid)]
  show indexOf r aid gid = _ ↔ _
  rw [indexOf_eq (run_inv hok hrun).cache]
  cases indexIn gid (r.children aid) <;> simp

/-! ### 8c  histories in which genes are re-annotated at any time (`runLoose`)

An annotation rewrite of a gene that collections already list (refused by `run`, see `reannotation_model_limit`)
touches no relation other than — later, through re-evaluation — the definition sets.  Everything else the strict
history theorems say holds over `runLoose` histories as well. -/

/-- the rewrite itself changes no relation at all: gene lists, section lists, definition sets, back links, caches and
    the record's collection lists are untouched; only the gene's core products change -/
theorem reannotation_touches_no_relation (r : Rec) (gid : Nat) (cs : List String) :
    (setCoresAny r gid cs).members = r.members ∧ (setCoresAny r gid cs).sections = r.sections ∧
    (setCoresAny r gid cs).defs = r.defs ∧ (setCoresAny r gid cs).regionOf = r.regionOf ∧
    (setCoresAny r gid cs).regions = r.regions ∧ (setCoresAny r gid cs).protos = r.protos ∧
    (setCoresAny r gid cs).cands = r.cands ∧ (setCoresAny r gid cs).subs = r.subs ∧
    (setCoresAny r gid cs).log = r.log ∧ (setCoresAny r gid cs).genes = r.genes.map (recore gid cs) :=
  ⟨rfl, rfl, rfl, rfl, rfl, rfl, rfl, rfl, rfl, rfl⟩

/-- `genes_stay_sorted` / `lists_are_live` over `runLoose` histories -/
theorem loose_genes_and_lists (len : Int) (ops : List Op) (r : Rec) (hok : ∀ op ∈ ops, OpOK op)
    (hrun : runLoose len ops = .ok r) :
    Sorted r.genes ∧ GenesOK r.genes ∧ (∀ g, g ∈ r.genes ↔ g ∈ (liveAfter ops).genes) ∧
    r.genes.Pairwise (fun a b => a.id ≠ b.id) ∧
    r.regions = (liveAfter ops).regions ∧ r.protos = (liveAfter ops).protos ∧
    r.cands = (liveAfter ops).cands ∧ r.subs = (liveAfter ops).subs := by
  have inv := (runLoose_inv hok hrun).core
  exact ⟨inv.sorted, inv.ok, inv.genesLive, inv.ids, inv.regionsEq, inv.protosEq, inv.candsEq, inv.subsEq⟩

/-- `area_children_exact` over `runLoose` histories: every collection in the record and every child of one lists
    exactly the genes its location contains, however often and whenever genes were re-annotated -/
theorem loose_area_children_exact (len : Int) (ops : List Op) (r : Rec) (hok : HistoryOK ops)
    (hrun : runLoose len ops = .ok r) (a : AreaT) (ha : a ∈ (liveAfter ops).areas) (d : AreaT) (hd : d ∈ nodes a)
    (gid : Nat) : gid ∈ r.children d.id ↔ gid ∈ specChildren r.genes d :=
  children_exact_of_inv (runLoose_inv hok.opOK hrun).core hok a ha d hd gid

/-- `cds_region_unique` over `runLoose` histories -/
theorem loose_cds_region_unique (len : Int) (ops : List Op) (r : Rec) (hok : ∀ op ∈ ops, OpOK op)
    (hrun : runLoose len ops = .ok r) (g : Gene) (hg : g ∈ r.genes) :
    (∀ a ∈ r.regions, specContained g.loc a.loc = true → r.regionOfGene g.id = some a.id) ∧
    ((∀ a ∈ r.regions, specContained g.loc a.loc = false) → r.regionOfGene g.id = none) ∧
    (∀ a ∈ r.regions, ∀ b ∈ r.regions, specContained g.loc a.loc = true → specContained g.loc b.loc = true → a = b) :=
  (runLoose_inv hok hrun).core.region_unique hg

/-- `region_sections_partition` and `sections_cover_children` over `runLoose` histories -/
theorem loose_sections (len : Int) (ops : List Op) (r : Rec) (hok : HistoryOK ops) (hrun : runLoose len ops = .ok r) :
    (∀ a ∈ r.regions, ∀ s gid, gid ∈ r.section a.id s ↔
      ∃ g ∈ r.genes, g.id = gid ∧ specContained g.loc a.loc = true ∧ specSection a.loc g.loc = s) ∧
    (∀ aid gid, gid ∈ r.children aid ↔ ∃ s, gid ∈ r.section aid s) := by
  have inv := (runLoose_inv hok.opOK hrun).core
  refine ⟨fun a ha s gid => region_sections_exact_of_inv inv hok a ha s gid, fun aid gid => ?_⟩
  rw [mem_children, inv.cover]
  simp only [mem_section]

/-- the caches stay right over `runLoose` histories: whatever is marked clean holds the live value (so
    `get_cds_features` and `cds_children` return live values after any such history) -/
theorem loose_caches_fresh (len : Int) (ops : List Op) (r : Rec) (hok : ∀ op ∈ ops, OpOK op)
    (hrun : runLoose len ops = .ok r) (aid : Nat) :
    (peekCds r).log = r.log ++ [[r.genes.map (·.id)]] ∧
    (peekArea r aid).log = r.log ++ [[r.children aid, r.section aid .pre, r.section aid .cross, r.section aid .post]] := by
  have c := (runLoose_inv hok hrun).cache
  exact ⟨(peekCds_spec c).2.2, (peekArea_spec c aid).2.2⟩

/-- a definition set never holds a gene the protocluster does not list — also over `runLoose` histories -/
theorem loose_definition_is_listed (len : Int) (ops : List Op) (r : Rec) (hok : ∀ op ∈ ops, OpOK op)
    (hrun : runLoose len ops = .ok r) (aid gid : Nat) (h : gid ∈ r.definition aid) : gid ∈ r.children aid := by
  have inv := (runLoose_inv hok hrun).core
  rw [mem_definition] at h
  rw [mem_children]
  exact inv.defsSub _ h

/-- the `add_cds_feature` step of `definitions_match_replay` (the full statement
    `∀ ops, HistoryOK ops → runLoose len ops = .ok r → ∀ x, x ∈ r.defs ↔ x ∈ specDefsAfter ops`, proved below and
    executed on every generated history): in any `runLoose` (or strict) history, adding a gene makes exactly the
    (protocluster, gene) pairs defining that the spec's replay (`defsStep`, `meetPairs`) adds for that call.  The
    `add_<area>` step and the regions re-created by a clearing call are `addArea_defs_match` and
    `createRegions_defs_match` in `Proofs/LookupDefs`. -/
theorem defs_match_replay_add_cds_step_partial (len : Int) (ops : List Op) (r r' : Rec) (g : Gene) (hok : HistoryOK (ops ++ [.cds g]))
    (hrun : runLoose len ops = .ok r) (hstep : addCds r g = .ok r') (x : Nat × Nat) :
    x ∈ r'.defs ↔ x ∈ r.defs ∨ x ∈ meetPairs [g] (liveAfter ops).areas := by
  have hok' : ∀ op ∈ ops, OpOK op := fun op hop => hok.opOK op (List.mem_append.2 (Or.inl hop))
  have inv := (runLoose_inv hok' hrun).core
  have hin : ∀ a ∈ opsAreas ops, KidsInside a := fun a ha =>
    hok.inside a (by simp only [opsAreas, List.flatMap_append, List.mem_append]; exact Or.inl ha)
  exact addCds_defs_match inv hin g (hok.opOK (.cds g) (by simp)) hstep x

/-- the definition sets after **any** history — adding, clearing with re-created regions, observing, and genes
    re-annotated at any time — are exactly what the spec's replay says: a (protocluster, gene) pair is defining iff
    at some meeting of the gene and a collection tree containing the protocluster (a new gene, a new collection, a
    region re-created by a clearing call) the gene lay inside the tree's root, the protocluster and its core and
    carried a core annotation for the product at that moment.  (`defs_match_replay_add_cds_step_partial` is its
    `add_cds_feature` step.) -/
theorem definitions_match_replay (len : Int) (ops : List Op) (r : Rec) (hok : HistoryOK ops)
    (hrun : runLoose len ops = .ok r) (x : Nat × Nat) : x ∈ r.defs ↔ x ∈ specDefsAfter ops := by
  have := Base.foldlM_invariant (f := stepLoose) (P := fun op => OpOK op ∧ ∀ a ∈ opAreas op, KidsInside a)
    (I := fun seen r => Inv False (liveAfter seen) (opsAreas seen) r ∧ (∀ a ∈ opsAreas seen, KidsInside a) ∧
      ∀ x, x ∈ r.defs ↔ x ∈ specDefsAfter seen)
    (fun seen r op r' ⟨hop, hinK⟩ ⟨h, hinS, hd⟩ hs => by
      refine ⟨?_, ?_, fun x => ?_⟩
      · rw [liveAfter_append, opsAreas_append]; exact h.stepLoose op hop (fun f => f.elim) hs
      · intro a ha
        rw [opsAreas_append] at ha
        exact (List.mem_append.1 ha).elim (hinS a) (hinK a)
      · rw [stepLoose_defs_match h op hop hinS hinK hs x, specDefsAfter_snoc, hd x])
    ops [] { len := len } r
    (fun op hop => ⟨hok.opOK op hop, fun a ha => hok.inside a (List.mem_flatMap.2 ⟨op, hop, ha⟩)⟩)
    ⟨Inv.init False len, fun a ha => (List.not_mem_nil ha).elim, fun x => Iff.rfl⟩ hrun
  rw [List.nil_append] at this
  exact this.2.2 x

/-- … in particular for the strict histories: `run` and `runLoose` agree wherever `run` goes through -/
theorem definitions_match_replay_strict (len : Int) (ops : List Op) (r : Rec) (hok : HistoryOK ops)
    (hrun : run len ops = .ok r) (aid gid : Nat) :
    gid ∈ r.definition aid ↔ (aid, gid) ∈ specDefsAfter ops := by
  rw [mem_definition]
  exact definitions_match_replay len ops r hok (runLoose_of_run hrun) (aid, gid)

/-- `run` is `runLoose` restricted: every strict history is a loose one with the same result -/
theorem strict_histories_are_loose (len : Int) (ops : List Op) (r : Rec) (hrun : run len ops = .ok r) :
    runLoose len ops = .ok r :=
  runLoose_of_run hrun

/-! ### 8d  `bisect` run literally -/

/-- Python's binary search (`bisect_right` / `bisect_left`, the `while lo < hi` loop of Lib/bisect.py transcribed
    literally as `Bisect.bisect`) returns the partition point of any list partitioned by its test -/
theorem bisect_literal_is_partition_point {α : Type} (keep : α → Bool) (a : List α)
    (h : ∀ y ∈ a.dropWhile keep, keep y = false) : Bisect.bisect keep a = (a.takeWhile keep).length :=
  Bisect.bisect_eq keep a _ 0 (Bisect.partitioned_takeWhile keep a h) (Nat.zero_le _)

/-- on the record's (sorted) gene list the literal `bisect_right` of `add_cds_feature` is the insertion point the
    model inserts at, and the literal `bisect_left` of the lookup (on the features from `linear_start` on) is the
    start index the lookup model uses — with `genes_stay_sorted` this holds after every history -/
theorem bisect_on_gene_list (fs : List Gene) (hs : Sorted fs) (g : Gene) (q : Loc) :
    Bisect.bisect (fun f : Gene => !locLt g.loc f.loc) fs = (fs.takeWhile fun f => !locLt g.loc f.loc).length ∧
    Bisect.bisect (fun f : Gene => locLt f.loc q) fs = (fs.takeWhile fun f => locLt f.loc q).length := by
  constructor
  · exact Bisect.bisect_eq _ _ _ 0 (Bisect.partitioned_takeWhile _ _ (dropWhile_not_locLt_fails hs g)) (Nat.zero_le _)
  · apply Bisect.bisect_eq _ _ _ 0 (Bisect.partitioned_takeWhile _ _ ?_) (Nat.zero_le _)
    refine Bisect.dropWhile_fails _ hs fun a _ b _ hab ha => ?_
    rw [locLt_false_iff] at hab ha ⊢
    omega

/-! ### 9  build-order independence (histories of adding calls) -/

/-- any two orderings of the same adding calls (genes before areas, after them, or interleaved in any way)
    end with the same genes, the same regions, the same area ↔ gene relation, the same sections and the same
    defining genes … -/
theorem build_order_independent (len : Int) (ops₁ ops₂ : List Op) (r₁ r₂ : Rec) (hp : ops₁.Perm ops₂)
    (hadd : AddsOnly ops₁) (hok : ∀ op ∈ ops₁, OpOK op) (h1 : run len ops₁ = .ok r₁) (h2 : run len ops₂ = .ok r₂) :
    (∀ g, g ∈ r₁.genes ↔ g ∈ r₂.genes) ∧ (∀ a, a ∈ r₁.regions ↔ a ∈ r₂.regions) ∧
    (∀ aid gid, gid ∈ r₁.children aid ↔ gid ∈ r₂.children aid) ∧
    (∀ aid gid, gid ∈ r₁.definition aid ↔ gid ∈ r₂.definition aid) ∧
    (∀ aid s gid, gid ∈ r₁.section aid s ↔ gid ∈ r₂.section aid s) := by
  have hok2 : ∀ op ∈ ops₂, OpOK op := fun op hop => hok op (hp.mem_iff.2 hop)
  obtain ⟨a1, a2, a3⟩ := adds_state_of_inv hadd (run_inv hok h1).core
  obtain ⟨b1, b2, b3⟩ := adds_state_of_inv (hadd.perm hp) (run_inv hok2 h2).core
  obtain ⟨m1, d1, s1⟩ := adds_relations hadd hok h1
  obtain ⟨m2, d2, s2⟩ := adds_relations (hadd.perm hp) hok2 h2
  -- both states are functions of the set of calls
  have hg : ∀ g, g ∈ r₁.genes ↔ g ∈ r₂.genes := fun g => by rw [a1, b1, hp.mem_iff]
  have hr : ∀ a, a ∈ registered r₁ ↔ a ∈ registered r₂ := fun a => by rw [a3, b3, hp.mem_iff]
  have hl := fun g d s => LinkedS.congr hr g d s
  refine ⟨hg, fun a => by rw [a2, b2, hp.mem_iff], fun aid gid => ?_, fun aid gid => ?_, fun aid s gid => ?_⟩
  · rw [mem_children, mem_children, m1, m2]; simp only [hg, Linked, hl]
  · rw [mem_definition, mem_definition, d1, d2]; simp only [hg, Linked, hl]
  · rw [mem_section, mem_section, s1, s2]; simp only [hg, hl]

/-- a history of well-formed adding calls runs without an exception exactly when its calls are pairwise
    compatible (distinct gene locations and names, non-overlapping regions) and its areas lie inside the record … -/
theorem history_succeeds_iff (len : Int) (ops : List Op) (hadd : AddsOnly ops) (hok : ∀ op ∈ ops, OpOK op) :
    (∃ r, run len ops = .ok r) ↔ Valid len ops := by
  have := foldlM_ok_iff len ops [] { len := len } (by intro o ho; simp at ho) hadd
    (by simpa [liveAfter, opsAreas] using Inv.init True len) rfl hok
  simpa [run, Valid] using this

/-- … so if one ordering of the calls runs through, every ordering does, and with the same outcome -/
theorem build_order_never_matters (len : Int) (ops₁ ops₂ : List Op) (r₁ : Rec) (hp : ops₁.Perm ops₂)
    (hadd : AddsOnly ops₁) (hok : ∀ op ∈ ops₁, OpOK op) (h1 : run len ops₁ = .ok r₁) :
    ∃ r₂, run len ops₂ = .ok r₂ ∧
      (∀ g, g ∈ r₁.genes ↔ g ∈ r₂.genes) ∧ (∀ a, a ∈ r₁.regions ↔ a ∈ r₂.regions) ∧
      (∀ aid gid, gid ∈ r₁.children aid ↔ gid ∈ r₂.children aid) ∧
      (∀ aid gid, gid ∈ r₁.definition aid ↔ gid ∈ r₂.definition aid) ∧
      (∀ aid s gid, gid ∈ r₁.section aid s ↔ gid ∈ r₂.section aid s) := by
  have hok2 : ∀ op ∈ ops₂, OpOK op := fun op hop => hok op (hp.mem_iff.2 hop)
  obtain ⟨r₂, h2⟩ := (history_succeeds_iff len ops₂ (hadd.perm hp) hok2).2 (((history_succeeds_iff len ops₁ hadd hok).1 ⟨r₁, h1⟩).perm hp)
  exact ⟨r₂, h2, build_order_independent len ops₁ ops₂ r₁ r₂ hp hadd hok h1 h2⟩

/-- … and every gene points to the same region -/
theorem build_order_independent_region (len : Int) (ops₁ ops₂ : List Op) (r₁ r₂ : Rec) (hp : ops₁.Perm ops₂)
    (hadd : AddsOnly ops₁) (hok : ∀ op ∈ ops₁, OpOK op) (h1 : run len ops₁ = .ok r₁) (h2 : run len ops₂ = .ok r₂) :
    ∀ g ∈ r₁.genes, r₁.regionOfGene g.id = r₂.regionOfGene g.id := by
  have hok2 : ∀ op ∈ ops₂, OpOK op := fun op hop => hok op (hp.mem_iff.2 hop)
  obtain ⟨hg, hr, _⟩ := build_order_independent len ops₁ ops₂ r₁ r₂ hp hadd hok h1 h2
  intro g hg1
  have hg2 := (hg g).1 hg1
  obtain ⟨a1, n1⟩ := (run_inv hok h1).core.regionPtr g hg1
  obtain ⟨a2, n2⟩ := (run_inv hok2 h2).core.regionPtr g hg2
  by_cases hex : ∃ a ∈ r₁.regions, containedBy g.loc a.loc = true
  · obtain ⟨a, ha, hc⟩ := hex
    rw [a1 a ha hc, a2 a ((hr a).1 ha) hc]
  · have hnone : ∀ a ∈ r₁.regions, containedBy g.loc a.loc = false := by
      intro a ha
      cases hc : containedBy g.loc a.loc
      · rfl
      · exact absurd ⟨a, ha, hc⟩ hex
    rw [n1 hnone, n2 (fun a ha => hnone a ((hr a).2 ha))]

/-! ### non-vacuity and the repaired witnesses -/

private def g (id : Nat) (lo hi : Int) : Gene := { id := id, loc := .simple ⟨lo, hi, .fwd⟩ }
private def ids (l : List Gene) : List Nat := l.map (·.id)

/-- D4: genes [6:10) [6:23) [6:26) [8:19), query [5:20): both contained genes are found -/
example : ids (within [g 0 6 10, g 1 6 23, g 2 6 26, g 3 8 19] (.simple ⟨5, 20, .fwd⟩) false) = [0, 3] := by decide +kernel
/-- D5: genes [0:100) [10:20) [70:80), overlap query [50:60): the long gene is found -/
example : ids (within [g 0 10 20, g 1 0 100, g 2 70 80] (.simple ⟨50, 60, .fwd⟩) true) = [1] := by decide +kernel
/-- D6: an origin-spanning gene sorts first and is found from high coordinates -/
example : ids (within [{ id := 0, loc := .compound [⟨190, 200, .fwd⟩, ⟨0, 10, .fwd⟩] }, g 1 20 30, g 2 100 120]
    (.simple ⟨150, 195, .fwd⟩) true) = [0] := by decide +kernel
/-- the hypotheses are satisfiable on a nested, same-start, origin-spanning layout -/
example : Sorted [{ id := 0, loc := .compound [⟨190, 200, .fwd⟩, ⟨0, 10, .fwd⟩] }, g 1 6 10, g 2 6 23, g 3 8 19] := by
  unfold Sorted; decide +kernel
/-- a history: gene, origin-spanning subregion, gene — both genes end up in the subregion -/
example : (run 1000 [.cds (g 0 910 920), .area (.mk 200 .sub (.compound [⟨900, 1000, .fwd⟩, ⟨0, 50, .fwd⟩])
      (.simple ⟨0, 1, .fwd⟩) "" []), .cds (g 1 10 20), .cds (g 2 60 70)]).toOption.map (·.children 200) = some [0, 1] := by
  decide +kernel
/-- … the first in its pre-origin section, the second in its post-origin section; after the subregions are
    cleared nothing is alive but the genes -/
example : (run 1000 [.cds (g 0 910 920), .area (.mk 200 .sub (.compound [⟨900, 1000, .fwd⟩, ⟨0, 50, .fwd⟩])
      (.simple ⟨0, 1, .fwd⟩) "" []), .cds (g 1 10 20), .peekArea 200, .clearSubs [], .peekCds]).toOption.map (·.log)
    = some [[[0, 1], [0], [], [1]], [[1, 0]]] := by
  decide +kernel

/-- product names: a gene that is core for "NRPS" only, inside the cores of an "NRPS-like" and an "NRPS"
    protocluster, defines the second and not the first -/
example : (run 1000 [.cds { id := 0, loc := .simple ⟨120, 180, .fwd⟩, cores := ["NRPS"] },
      .area (.mk 100 .proto (.simple ⟨50, 500, .fwd⟩) (.simple ⟨100, 400, .fwd⟩) "NRPS-like" []),
      .area (.mk 101 .proto (.simple ⟨60, 450, .fwd⟩) (.simple ⟨110, 350, .fwd⟩) "NRPS" [])]).toOption.map
      (fun r => (r.definition 100, r.definition 101)) = some ([], [0]) := by
  decide +kernel

/-- annotation history of the round-5 seed: core for "a", stripped, then core for "b" — the gene carries "b" only -/
example : GeneFn.coreProducts (GeneFn.run [.add ⟨1, "rules", "domA", "a"⟩, .add ⟨2, "smcogs", "x", ""⟩, .clear,
    .add ⟨1, "rules", "domB", "b"⟩]) = ["b"] := by decide +kernel

/-- rerun on an annotated record: gene core for "a", stripped and re-annotated for "b" while in the record, then
    protoclusters "a" and "b" over it — it defines only "b" -/
example : (run 400 [.cds { id := 0, loc := .simple ⟨100, 160, .fwd⟩, cores := ["a"] }, .setCores 0 [], .setCores 0 ["b"],
      .area (.mk 100 .proto (.simple ⟨50, 350, .fwd⟩) (.simple ⟨90, 300, .fwd⟩) "a" []),
      .area (.mk 101 .proto (.simple ⟨50, 350, .fwd⟩) (.simple ⟨90, 300, .fwd⟩) "b" [])]).toOption.map
      (fun r => (r.definition 100, r.definition 101)) = some ([], [0]) := by
  decide +kernel

/-- the round-7 seed's history: gene, protocluster "a" (gene listed, not annotated), core annotation "a" added, then
    the candidate cluster hands the gene over again — it now defines the protocluster; the spec's replay agrees -/
example : ((runLoose 400 [.cds { id := 0, loc := .simple ⟨100, 160, .fwd⟩ },
      .area (.mk 100 .proto (.simple ⟨50, 350, .fwd⟩) (.simple ⟨90, 300, .fwd⟩) "a" []), .setCores 0 ["a"],
      .area (.mk 300 .cand (.simple ⟨50, 350, .fwd⟩) (.simple ⟨50, 350, .fwd⟩) ""
        [.mk 100 .proto (.simple ⟨50, 350, .fwd⟩) (.simple ⟨90, 300, .fwd⟩) "a" []])]).toOption.map (·.definition 100),
    specDefsAfter [.cds { id := 0, loc := .simple ⟨100, 160, .fwd⟩ },
      .area (.mk 100 .proto (.simple ⟨50, 350, .fwd⟩) (.simple ⟨90, 300, .fwd⟩) "a" []), .setCores 0 ["a"],
      .area (.mk 300 .cand (.simple ⟨50, 350, .fwd⟩) (.simple ⟨50, 350, .fwd⟩) ""
        [.mk 100 .proto (.simple ⟨50, 350, .fwd⟩) (.simple ⟨90, 300, .fwd⟩) "a" []])])
    = (some [0], [(100, 0)]) := by
  decide +kernel

/-- a `runLoose` history the strict `run` refuses: the gene is re-annotated after the subregion listed it; the
    subregion's list and sections are as the loose theorems say -/
example : ((run 1000 [.cds (g 0 910 920), .area (.mk 200 .sub (.simple ⟨900, 1000, .fwd⟩) (.simple ⟨0, 1, .fwd⟩) "" []),
      .setCores 0 ["x"]]).toOption.isNone,
    (runLoose 1000 [.cds (g 0 910 920), .area (.mk 200 .sub (.simple ⟨900, 1000, .fwd⟩) (.simple ⟨0, 1, .fwd⟩) "" []),
      .setCores 0 ["x"]]).toOption.map (fun r => (r.children 200, r.section 200 .post, r.genes.map (·.cores))))
    = (true, some ([0], [0], [["x"]])) := by
  decide +kernel

/-- the literal binary search on a sorted layout with equal keys: insertion after the equal ones -/
example : Bisect.bisect (fun f : Gene => !locLt (g 9 6 10).loc f.loc) [g 0 0 5, g 1 6 10, g 2 6 10, g 3 6 23, g 4 8 19] = 3 := by
  decide +kernel

end ASV.C08
