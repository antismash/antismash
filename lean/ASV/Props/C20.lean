/-
  C20 — a failed or refused write never damages existing results.
  Property theorems only; helper lemmas live in ASV/Proofs (PosixPath, WriteSafety, OutputDir,
  WriteSafetyNames, WriteSafetyRun, WriteSafetyFull).

  Every statement is for all numbers of records and modules, all nestings of values, all fault
  positions and kinds (any subset of positions may be faulty at once), all handles, all directory
  listings, all log-file configurations and both run modes.  `Dir` is the explicit file-system
  state: names *and* contents, so `dir = d` is "byte for byte".
-/
import ASV.Proofs.WriteSafetyFull
namespace ASV.C20
open ASV ASV.WriteSafety

/-! ## part 1 — a failed conversion -/

/-- `json.dumps` with `_base_convertor` fails exactly on values that contain something without a
    JSON form, wherever it sits; otherwise it produces the documented text -/
theorem dumps_fails_iff_faulty (v : PyVal) : encode v = none ↔ v.faulty = true := by
  rw [encode_spec]; cases v.faulty <;> simp

theorem dumps_text (v : PyVal) (h : v.faulty = false) : encode v = some (denote v) := by
  rw [encode_spec, h]; rfl

/-- **the property, first half** (`AntismashResults.write_to_file`): if anything anywhere in the
    results cannot be converted — whichever record, module, nesting depth or kind of failure, and
    however many of them — the caller gets an exception, the directory (every name, every content,
    the target included) is exactly what it was, and neither `open` nor `write` was attempted -/
theorem failed_conversion_preserves_file (r : Results) (h : Handle) (d : Dir) (hf : r.hasFault = true) :
    (∃ e, (writeToFile r h d).err = some e) ∧ (writeToFile r h d).dir = d ∧
      (∀ n, (writeToFile r h d).dir.contentOf n = d.contentOf n) ∧
      (writeToFile r h d).trace.any Ev.touchesFiles = false := by
  obtain ⟨h1, h2, h3⟩ := (writeToFile_behaves r h d).failed hf
  exact ⟨h1, h2, fun n => by rw [h2], h3⟩

/-- the same for `dump_records` (with `handle=None` nothing is serialised, so only raising
    conversions count as faults there) -/
theorem dump_records_same (rs : List RecSpec) (ress : List ModDict) (h : Handle) (d : Dir)
    (hf : dumpFault rs ress h = true) :
    (∃ e, (dumpRecords rs ress h d).err = some e) ∧ (dumpRecords rs ress h d).dir = d ∧
      (dumpRecords rs ress h d).trace.any Ev.touchesFiles = false :=
  (dumpRecords_behaves rs ress h d).failed hf

/-- every position is a fault position: replacing the `j`-th module of the `i`-th record of *any*
    results by a failing conversion (raising, wrong type, or unserialisable value) gives an input
    the two theorems above apply to -/
theorem every_fault_position (r : Results) (i j : Nat) (f : ModSpec) (hf : f.faulty = true)
    (hi : i < r.records.length) (hi' : i < r.results.length) (hj : j < r.results[i].length) :
    ({ r with results := injectAt r.results i j f } : Results).hasFault = true := by
  simp [Results.hasFault, injectAt_fault f hf r.records r.results i j hi hi' hj]

theorem fault_at_any_position_preserves_file (r : Results) (i j : Nat) (f : ModSpec) (hf : f.faulty = true)
    (hi : i < r.records.length) (hi' : i < r.results.length) (hj : j < r.results[i].length)
    (h : Handle) (d : Dir) :
    let out := writeToFile { r with results := injectAt r.results i j f } h d
    out.err.isSome = true ∧ out.dir = d := by
  obtain ⟨⟨e, he⟩, h2, _⟩ :=
    failed_conversion_preserves_file _ h d (every_fault_position r i j f hf hi hi' hj)
  exact ⟨by simp [he], h2⟩

/-- the skip test of `dump_records` is identity with `None`: nothing else is passed over -/
theorem skipped_iff_none (m : ModSpec) : m.isNone = true ↔ m = .none := by
  cases m <;> simp [ModSpec.isNone]

/-- a results entry of the wrong type stops the conversion with `TypeError` **whatever its value** —
    empty dict, empty list, empty string, `0` and `False` exactly like a non-empty dict — at whatever
    position it is met, before anything of it or after it is converted -/
theorem wrong_type_raises_whatever_its_value (i j : Nat) (k : String) (raw : Raw) (rest : ModDict) :
    convertModules i j ((k, .invalid raw) :: rest) = ⟨[], .error typeError⟩ := by
  simp [convertModules, ModSpec.isNone]

/-- … and a `ModuleResults` object is converted whatever its truthiness (results classes with
    `__len__` are falsy when empty) -/
theorem module_results_converted_whatever_their_truthiness (i j : Nat) (k : String) (t : Bool) (v : PyVal)
    (rest : ModDict) :
    (convertModules i j ((k, .mod t v) :: rest)).trace = .modConv i j :: (convertModules i (j + 1) rest).trace ∧
    modsDoc ((k, .mod t v) :: rest) = .key k :: denote v ++ modsDoc rest := by
  simp [convertModules, ModSpec.isNone, modsDoc]

/-- the first half of the property for wrong-type entries, with no condition on their value: at every
    position of every results structure, the write fails, reports, and leaves the directory alone -/
theorem wrong_type_at_any_position_preserves_file (r : Results) (i j : Nat) (raw : Raw)
    (hi : i < r.records.length) (hi' : i < r.results.length) (hj : j < r.results[i].length)
    (h : Handle) (d : Dir) :
    let out := writeToFile { r with results := injectAt r.results i j (.invalid raw) } h d
    out.err.isSome = true ∧ out.dir = d ∧ out.trace.any Ev.touchesFiles = false := by
  have hf := every_fault_position r i j (.invalid raw) rfl hi hi' hj
  obtain ⟨⟨e, he⟩, h2, _, h4⟩ := failed_conversion_preserves_file _ h d hf
  exact ⟨by simp [he], h2, h4⟩

/-- "do the JSON conversions before overwriting the previous file", for every run, failing or not:
    no conversion event follows the first file effect -/
theorem conversions_before_open (r : Results) (h : Handle) (d : Dir) :
    convertThenTouch (writeToFile r h d).trace = true :=
  (writeToFile_behaves r h d).ordered (quiet_conversions 0 r.records r.results)

/-- without a fault the target ends up holding exactly the documented document (an existing file
    is replaced, a missing one created, an open stream appended to) and nothing else changes -/
theorem clean_write_complete (r : Results) (h : Handle) (d : Dir) (hf : r.hasFault = false) :
    (writeToFile r h d).err = none ∧ (writeToFile r h d).dir = expectedAfter h d (expectedFull r) :=
  (writeToFile_behaves r h d).wrote hf

/-- the executable spec (the one the driver evaluates on the real code's behaviour) holds of the
    model on every input -/
theorem write_to_file_meets_spec (r : Results) (h : Handle) (d : Dir) :
    specWriteToFile r h d (writeToFile r h d) = true :=
  (writeToFile_behaves r h d).spec (quiet_conversions 0 r.records r.results)

theorem dump_records_meets_spec (rs : List RecSpec) (ress : List ModDict) (h : Handle) (d : Dir) :
    specDumpRecords rs ress h d (dumpRecords rs ress h d) = true := by
  rw [specDumpRecords_eq]
  exact (dumpRecords_behaves rs ress h d).spec (quiet_conversions 0 rs ress)

/-! ## part 2 — the output directory -/

/-- the decision is exactly the documented one: a path that does not exist; an existing directory
    holding nothing but the `input` directory and/or the configured log file (in particular an empty
    one); or any existing directory when results are being reused.  A plain file is never accepted. -/
theorem accept_cases (p : PrepIn) (wf : p.WF = true) :
    (prepareOutputDir p).err = none ↔ specAccepts p = true :=
  prepare_accepts_iff p wf

/-- **the property, second half**: with a fresh input, a directory containing anything other than
    the input copy and the log file is refused; nothing is attempted and the listing — names and
    contents — is what it was -/
theorem refusal_preserves_dir (p : PrepIn) (wf : p.WF = true) (es : Dir) (ht : p.target = .dir es)
    (fresh : reuseMode p = false) (x : Entry) (hx : x ∈ es) (hother : allowed p x = false) :
    prepareOutputDir p = ⟨[], some inputError, .dir es⟩ := by
  have : specAccepts p = false := by
    simp only [specAccepts, ht, fresh, Bool.false_or]
    rw [List.all_eq_false]
    exact ⟨x, hx, by simp [hother]⟩
  rw [prepare_refused p wf this, ht]

/-- **which entry is "the log file"**: with the log file directly inside the output directory under
    the name `m`, an entry is exempt from the emptiness test exactly when it is the directory `input`
    or its name *is* `m`.  A file or directory whose name is merely the beginning of the log file's
    name (`run` beside `run.log`, `antismash` beside `antismash.log`) is a foreign entry. -/
theorem allowed_iff_input_or_log (p : PrepIn) (wf : p.WF = true) (es : Dir) (ht : p.target = .dir es)
    (x : Entry) (hx : x ∈ es) (m : PosixPath.Path) (hm : PosixPath.Plain m)
    (hl : p.logfile.toList = PosixPath.join p.name.toList m) :
    allowed p x = true ↔ (x.name = "input" ∧ x.isDir = true) ∨ x.name.toList = m := by
  obtain ⟨hcwd, hname, hpl⟩ := (wf_iff p).1 wf
  have := isLogFile_sibling p x m hcwd hname (hpl x (by rw [ht]; exact hx)) hm hl
  simp only [allowed, Bool.or_eq_true, Bool.and_eq_true, beq_iff_eq, this]

/-- … so a fresh run into a directory holding such an entry is refused and the directory untouched -/
theorem similar_name_refused (p : PrepIn) (wf : p.WF = true) (es : Dir) (ht : p.target = .dir es)
    (fresh : reuseMode p = false) (x : Entry) (hx : x ∈ es) (m : PosixPath.Path) (hm : PosixPath.Plain m)
    (hl : p.logfile.toList = PosixPath.join p.name.toList m)
    (hnot_input : ¬ (x.name = "input" ∧ x.isDir = true)) (hnot_log : x.name.toList ≠ m) :
    prepareOutputDir p = ⟨[], some inputError, .dir es⟩ := by
  exact refusal_preserves_dir p wf es ht fresh x hx (Bool.eq_false_iff.2 fun h =>
    ((allowed_iff_input_or_log p wf es ht x hx m hm hl).1 h).elim hnot_input hnot_log)

/-- the directory that holds the log file (the one logging creates for `--logfile out/logs/run.log`)
    is itself a foreign entry of the output directory: only the log *file* is exempt -/
theorem directory_above_log_refused (p : PrepIn) (wf : p.WF = true) (es : Dir) (ht : p.target = .dir es)
    (fresh : reuseMode p = false) (x : Entry) (hx : x ∈ es) (m : PosixPath.Path) (hm : PosixPath.Plain m)
    (hl : p.logfile.toList = PosixPath.join (entryPath p x) m)
    (hnot_input : ¬ (x.name = "input" ∧ x.isDir = true)) :
    prepareOutputDir p = ⟨[], some inputError, .dir es⟩ := by
  obtain ⟨hcwd, hname, hpl⟩ := (wf_iff p).1 wf
  have h2 := isLogFile_above p x m hcwd hname (hpl x (by rw [ht]; exact hx)) hm hl
  refine refusal_preserves_dir p wf es ht fresh x hx (Bool.eq_false_iff.2 fun h => hnot_input ?_)
  simpa [allowed, h2] using h

/-- without `--logfile` nothing is exempt as "the log file" (in particular not the working directory,
    to which an empty path resolves) -/
theorem no_logfile_exempts_nothing (p : PrepIn) (h : p.logfile = "") (e : Entry) :
    allowed p e = (e.name == "input" && e.isDir) := by
  simp [allowed, isLogFile, h]

/-- every refusal, of whatever kind (not a directory / other files), attempts nothing and leaves
    what is at the output path as it was -/
theorem refused_untouched (p : PrepIn) (e : Exn) (h : (prepareOutputDir p).err = some e) :
    e = inputError ∧ (prepareOutputDir p).target = p.target ∧ (prepareOutputDir p).trace = [] := by
  rcases prepare_cases p with h1 | ⟨h1, _⟩
  · rw [h1] at h ⊢
    cases h
    exact ⟨rfl, rfl, rfl⟩
  · rw [h1] at h
    cases h

/-- `*.region???.gbk` on a file name means what it says -/
theorem region_pattern (n : String) : isRegionGbk n = true ↔ RegionGbkName n := isRegionGbk_iff n

/-- an acceptance creates a missing directory; in an existing one it removes the stale region
    GenBank files and nothing else: every other entry is still there with its content, nothing is
    added, and the `remove` effects are exactly those files -/
theorem accepted_cleanup (p : PrepIn) (wf : p.WF = true) (h : specAccepts p = true) :
    (prepareOutputDir p).err = none ∧
    match p.target with
    | .absent => prepareOutputDir p = ⟨[.mkdir], none, .dir []⟩
    | .file => False
    | .dir es => ∃ es', (prepareOutputDir p).target = .dir es' ∧
        (∀ e, e ∈ es' ↔ e ∈ es ∧ ¬ RegionGbkName e.name) ∧
        (∀ n, Ev.remove n ∈ (prepareOutputDir p).trace ↔ ∃ e ∈ es, e.name = n ∧ RegionGbkName n) ∧
        (∀ ev ∈ (prepareOutputDir p).trace, ∃ n, ev = .remove n) := by
  refine ⟨(prepare_accepts_iff p wf).2 h, ?_⟩
  rw [prepare_eq p wf, h]
  cases ht : p.target with
  | absent => simp [preparedDir, ht]
  | file => simp [specAccepts, ht] at h
  | dir es =>
    simp only [if_true, ht, preparedDir]
    refine ⟨_, rfl, ?_, ?_, ?_⟩
    · intro e
      simp only [List.mem_filter, Bool.not_eq_true', ← isRegionGbk_iff]
      cases isRegionGbk e.name <;> simp
    · intro n
      simp only [List.mem_map, List.mem_filter, Ev.remove.injEq, ← isRegionGbk_iff]
      constructor
      · rintro ⟨e, ⟨he, hr⟩, rfl⟩; exact ⟨e, he, rfl, hr⟩
      · rintro ⟨e, he, rfl, hr⟩; exact ⟨e, ⟨he, hr⟩, rfl⟩
    · intro ev hev
      simp only [List.mem_map] at hev
      obtain ⟨e, _, rfl⟩ := hev
      exact ⟨e.name, rfl⟩

theorem prepare_meets_spec (p : PrepIn) (wf : p.WF = true) : specPrepare p (prepareOutputDir p) = true :=
  WriteSafety.prepare_meets_spec p wf

/-! ## the run as a whole (`_run_antismash` from `prepare_output_directory` on) -/

/-- a refused directory: the run ends there, with no effect of any kind -/
theorem pipeline_refusal_touches_nothing (p : PipeIn) (wf : p.prep.WF = true) (h : specAccepts p.prep = false) :
    runPipeline p = ⟨[], some inputError, p.prep.target⟩ :=
  pipeline_refused p wf h

/-- the branch of `runPipeline` for "accepted, but not a directory" is dead code -/
theorem accepted_is_directory (p : PrepIn) (h : (prepareOutputDir p).err = none) :
    (prepareOutputDir p).target = .dir (preparedDir p) :=
  (prepare_accepted p h).1

/-- a conversion fault in an accepted directory: reported; the directory stays as
    `prepare_output_directory` left it — in particular every file that is not a stale region
    GenBank file, such as the previous results JSON, keeps its content — and neither
    `annotate_records` nor `write_outputs` runs -/
theorem pipeline_failed_write_keeps_results (p : PipeIn) (wf : p.prep.WF = true) (es : Dir)
    (ht : p.prep.target = .dir es) (ha : specAccepts p.prep = true) (hf : p.results.hasFault = true) :
    (∃ e, (runPipeline p).err = some e) ∧
    (∃ es', (runPipeline p).target = .dir es' ∧
      ∀ n, isRegionGbk n = false → Dir.contentOf es' n = Dir.contentOf es n) ∧
    Ev.annotated ∉ (runPipeline p).trace ∧ Ev.outputsWritten ∉ (runPipeline p).trace := by
  obtain ⟨e, tr, he, hall⟩ := pipeline_fault p ((prepare_accepts_iff p.prep wf).2 ha) hf
  rw [he]
  refine ⟨⟨e, rfl⟩, ⟨_, rfl, ?_⟩, fun h => Ev.ne_of_not_afterConversion (hall _ h) rfl rfl,
    fun h => Ev.ne_of_not_afterConversion (hall _ h) rfl rfl⟩
  intro n hn
  simp only [preparedDir, ht]
  apply contentOf_filter
  intro x _ hx
  simp [hx, hn]

/-- the results JSON is never mistaken for a stale region file -/
theorem json_is_not_a_region_file (n : String) (pre : List Char) (h : n.toList = pre ++ ".json".toList) :
    isRegionGbk n = false :=
  json_not_region n pre h

/-- `annotate_records` / `write_outputs` only ever run after the results JSON has been written
    completely: whenever either appears in a run's trace, the run is the fault-free accepted one, its
    trace ends `open json, write json, annotate, write_outputs` with neither of the two earlier, and
    the file holds the whole document -/
theorem json_before_annotation (p : PipeIn) (wf : p.prep.WF = true)
    (h : Ev.annotated ∈ (runPipeline p).trace ∨ Ev.outputsWritten ∈ (runPipeline p).trace) :
    (runPipeline p).err = none ∧
    (∃ es', (runPipeline p).target = .dir es' ∧ Dir.contentOf es' p.jsonName = some (expectedFull p.results)) ∧
    ∃ pre, (runPipeline p).trace = pre ++ [.openW p.jsonName, .write p.jsonName, .annotated, .outputsWritten]
      ∧ Ev.annotated ∉ pre ∧ Ev.outputsWritten ∉ pre := by
  have _ := wf  -- not needed: the order of effects does not depend on what is at the output path
  exact annotate_after_json p h

theorem pipeline_meets_spec (p : PipeIn) (wf : p.prep.WF = true) : specPipeline p (runPipeline p) = true :=
  pipeline_meets_spec' p wf

/-! ## results that come back from `--reuse-results` -/

/-- **the realistic source of wrong-type entries.**  A run reuses a results file written from `r` and
    regenerates nothing (skipped records, modules no longer run).  If any module of any record had been
    written as anything but `null` — `{}` and `[]` included — the results now hold its raw JSON, the
    write fails, and the reused file (like everything else in the directory) stays as it is. -/
theorem reloaded_results_fail_safe (r : Results) (i : Nat) (hi : i < r.records.length) (hi' : i < r.results.length)
    (k : String) (t : Bool) (v : PyVal) (hk : (k, ModSpec.mod t v) ∈ r.results[i]) (hv : jsonShape v ≠ .none)
    (h : Handle) (d : Dir) :
    (∃ e, (writeToFile (reload r) h d).err = some e) ∧ (writeToFile (reload r) h d).dir = d ∧
      (writeToFile (reload r) h d).trace.any Ev.touchesFiles = false := by
  obtain ⟨h1, h2, _, h4⟩ :=
    failed_conversion_preserves_file (reload r) h d (reload_hasFault r i hi hi' k t v hk hv)
  exact ⟨h1, h2, h4⟩

/-! ## the names the run derives -/

/-- the results file the run writes is never one of the stale region files it deletes — no
    assumption on input names or options: its name is `<base>.json` by construction -/
theorem results_file_is_never_cleaned_up (r : RunIn) : isRegionGbk r.jsonName = false := by
  obtain ⟨pre, h⟩ := jsonName_shape r
  exact json_not_region _ pre h

/-- an empty `--output-dir` becomes an absolute, hence non-empty, path and is stored in the options:
    the guard `if not name` discharges the "directory name is not empty" invariant by itself -/
theorem empty_output_dir_is_derived (c : CallIn) (h : c.nameArg = "") (hcwd : PosixPath.isabs c.cwd.toList = true) :
    (effective c).1.name.toList ≠ [] ∧ PosixPath.isabs (effective c).1.name.toList = true ∧
      (effective c).2.outputDir = (effective c).1.name :=
  effective_empty_name c h hcwd

/-- … and a given one is used as it is -/
theorem given_output_dir_is_used (c : CallIn) (h : c.nameArg ≠ "") :
    (effective c).1.name = c.nameArg ∧ (effective c).2.outputDir = c.opts.outputDir :=
  effective_given_name c h

/-- an explicit `--output-basename` names the results file whatever the input is called -/
theorem output_basename_option_wins (r : RunIn) (h : r.call.opts.outputBasename ≠ "")
    (hp : PosixPath.Plain r.call.opts.outputBasename.toList) :
    r.jsonName = r.call.opts.outputBasename ++ ".json" := by
  have h1 := option_basename_kept r.call.inputFile "" r.call.opts h
  have ho : (effective r.call).2.outputBasename = r.call.opts.outputBasename := by
    unfold effective
    rw [h1]
    split <;> rfl
  have h2 := option_basename_kept r.resultsInputFile (effective r.call).2.outputDir (effective r.call).2
    (by rw [ho]; exact h)
  unfold RunIn.jsonName
  simp only []
  rw [h2]
  simp only [String.toList_ofList, ho, PosixPath.basename_join_plain _ _ hp, String.ofList_toList]

/-- the whole tail of the run, names derived by the code's own rules, meets the spec -/
theorem run_tail_meets_spec (r : RunIn) (wf : (effective r.call).1.WF = true) :
    specPipeline r.toPipe (runTail r) = true :=
  pipeline_meets_spec r.toPipe wf

/-! ## `run_antismash` as a whole: the log file is created before the directory is looked at -/

/-- the entry that logging itself creates (or appends to) inside the output directory is exactly the
    one the emptiness test exempts as "the log file" -/
theorem own_log_of_the_run_is_exempt (p : PrepIn) (wf : p.WF = true) (m : String) (h : logPlace p = .entry m)
    (e : Entry) (he : e.name = m) : allowed (afterLogging p) e = true := by
  obtain ⟨hcwd, hname, _⟩ := (wf_iff p).1 wf
  have := isLogFile_of_logPlace p m h hcwd hname e he
  simp only [allowed, Bool.or_eq_true]
  exact Or.inr this

/-- so a fresh run into a directory that does not exist yet, logging into that directory, is not
    stopped by its own log file -/
theorem new_directory_with_own_log_accepted (p : PrepIn) (wf : p.WF = true) (m : String)
    (h : logPlace p = .entry m) (ht : p.target = .absent) : specAccepts (afterLogging p) = true := by
  have hallow := own_log_of_the_run_is_exempt p wf m h ⟨m, false, [logText]⟩ rfl
  have hallow' : allowed (afterLogging p) ⟨m, false, [logText]⟩ = true := hallow
  simp only [specAccepts, afterLogging, h, ht, setupLogging, List.all_cons, List.all_nil, Bool.and_true,
    Bool.or_eq_true]
  exact Or.inr (by simpa [afterLogging, h, ht, setupLogging] using hallow')

/-- what "leaving that directory's contents untouched" means when the log file lives inside it:
    logging's set-up keeps every other entry of an existing directory as it is -/
theorem logging_keeps_everything_else (place : LogPlace) (es : Dir) :
    ∃ es', (setupLogging place (.dir es)).1 = .dir es' ∧
      ∀ e ∈ es, (∀ m, place = .entry m → e.name ≠ m) → e ∈ es' :=
  setupLogging_keeps place es

/-- the whole of `run_antismash` meets the executable spec: after logging's own effects — the same
    whether the run is accepted or refused — it is the run of `pipeline_meets_spec` on the directory
    logging left, and a refusal is additionally logged -/
theorem run_antismash_meets_spec (r : RunIn) (wf : (effective r.call).1.WF = true) :
    specRun r (runAntismash r) = true :=
  run_meets_spec r wf

/-- a refused `run_antismash`: besides the log set-up and the logged message nothing is attempted, and
    the directory is exactly what logging left -/
theorem refused_run_touches_only_its_log (r : RunIn) (wf : (effective r.call).1.WF = true)
    (h : specAccepts (afterLogging (effective r.call).1) = false) :
    runAntismash r =
      ⟨(setupLogging (logPlace (effective r.call).1) (effective r.call).1.target).2 ++ [.logErr],
       some inputError, (afterLogging (effective r.call).1).target⟩ := by
  rw [runAntismash_eq]
  have := pipeline_refused ⟨afterLogging (effective r.call).1, r.results, r.jsonName⟩
    (afterLogging_wf _ wf) h
  simp [this]

/-! ## how a failure is reported

The property's "the failure is reported" is the exception reaching the caller (`∃ e, err = some e` in
`failed_conversion_preserves_file`; an uncaught exception ends `antismash` with a traceback and a
non-zero exit).  What `write_to_file` does *in addition* — log an error and re-raise with a message —
it does for `TypeError` only, wherever it arises; the theorems below pin that behaviour down in the model
(the correspondence compares the `logErr` event on every case), without making it part of the property:
the unchanged code itself lets a `ValueError`/`KeyError` from a module's `to_json()` pass unlogged. -/

/-- a `TypeError` raised while the JSON object is built (a module's `to_json()`, a result of the wrong
    type) is logged and re-raised as `TypeError`, exactly like one raised by `json.dumps` -/
theorem type_error_while_building_is_logged (r : Results) (h : Handle) (d : Dir)
    (hc : (convertRecords 0 r.records r.results).out = .error typeError) :
    writeToFile r h d = ⟨(convertRecords 0 r.records r.results).trace ++ [.logErr], some typeError, d⟩ := by
  simp [writeToFile, hc]

/-- any other exception passes through as it is, unlogged -/
theorem other_error_passes_through (r : Results) (h : Handle) (d : Dir) (e : Exn)
    (hc : (convertRecords 0 r.records r.results).out = .error e) (hne : e ≠ typeError) :
    writeToFile r h d = ⟨(convertRecords 0 r.records r.results).trace, some e, d⟩ := by
  have : (e == typeError) = false := by simpa using hne
  simp [writeToFile, hc, this]

/-- the error log is written exactly for the failures that surface as `TypeError` -/
theorem logged_iff_type_error (r : Results) (h : Handle) (d : Dir) :
    Ev.logErr ∈ (writeToFile r h d).trace ↔ (writeToFile r h d).err = some typeError := by
  have hconv : Ev.logErr ∉ (convertRecords 0 r.records r.results).trace := fun hm => by
    have := convertRecords_trace 0 r.records r.results _ hm
    cases this
  cases hf : r.hasFault with
  | false =>
    rw [writeToFile_clean r h d hf]
    have hemit : Ev.logErr ∉ (emit h d (expectedFull r)).1 := by cases h <;> simp [emit]
    simp [hconv, hemit]
  | true =>
    obtain ⟨e, he⟩ := writeToFile_fault r h d hf
    rw [he]
    cases hte : e == typeError with
    | true => simp [eq_of_beq hte]
    | false => simp [hconv, ne_of_beq_false hte]

/-! ## text → bytes: nothing can fail once the target has been opened -/

/-- the codec the code names, UTF-8, encodes every document `json.dumps` can produce -/
theorem named_codec_encodes_everything (env : Env) (text : Bytes) : encodable (fileCodec env) text = true :=
  utf8_encodes_everything text

/-- `write_to_file` / `dump_records` do not depend on the locale: with `encoding="utf-8"` named at the
    `open`, the environment's default codec is never consulted -/
theorem write_is_locale_independent (env env' : Env) (r : Results) (h : Handle) (d : Dir) :
    writeToFileIn env r h d = writeToFileIn env' r h d ∧
    dumpRecordsIn env r.records r.results h d = dumpRecordsIn env' r.records r.results h d := by
  simp only [writeToFileIn_eq, dumpRecordsIn_eq, and_self]

/-- **every failure precedes the `open`**, in every environment and whatever characters the results
    contain: if `write_to_file` raises — for whatever reason — no file was opened or written and the
    directory is byte for byte what it was.  The encoding of the text to bytes, the one step that runs
    after the truncation, cannot be that reason. -/
theorem nothing_fails_after_open (env : Env) (r : Results) (h : Handle) (d : Dir) (e : Exn)
    (he : (writeToFileIn env r h d).err = some e) :
    (writeToFileIn env r h d).dir = d ∧ (writeToFileIn env r h d).trace.any Ev.touchesFiles = false ∧
      r.hasFault = true := by
  rw [writeToFileIn_eq] at he ⊢
  have b := writeToFile_behaves r h d
  have hf := b.fault_of_err e he
  exact ⟨(b.failed hf).2.1, (b.failed hf).2.2, hf⟩

theorem nothing_fails_after_open_dump (env : Env) (rs : List RecSpec) (ress : List ModDict) (h : Handle) (d : Dir)
    (e : Exn) (he : (dumpRecordsIn env rs ress h d).err = some e) :
    (dumpRecordsIn env rs ress h d).dir = d ∧ (dumpRecordsIn env rs ress h d).trace.any Ev.touchesFiles = false := by
  rw [dumpRecordsIn_eq] at he ⊢
  have b := dumpRecords_behaves rs ress h d
  exact (b.failed (b.fault_of_err e he)).2

/-- the executable spec holds of the model in every environment -/
theorem write_to_file_meets_spec_in (env : Env) (r : Results) (h : Handle) (d : Dir) :
    specWriteToFile r h d (writeToFileIn env r h d) = true := by
  rw [writeToFileIn_eq]; exact write_to_file_meets_spec r h d

/-! ## a directory at the target path -/

/-- the target path names a directory: whatever the results and the environment, `write_to_file`
    fails, the directory listing — the directory at the target included — is what it was, and nothing
    is written: a conversion fault is reported before any `open`, otherwise the failed `open` is the
    only file event -/
theorem directory_target_untouched (env : Env) (r : Results) (n : String) (d : Dir)
    (hd : targetIsDir (.path n) d = true) :
    (∃ e, (writeToFileAt env r (.path n) d).err = some e) ∧ (writeToFileAt env r (.path n) d).dir = d ∧
    (r.hasFault = true → (writeToFileAt env r (.path n) d).trace.any Ev.touchesFiles = false) ∧
    (r.hasFault = false → (writeToFileAt env r (.path n) d) =
      ⟨(convertRecords 0 r.records r.results).trace ++ [.openW n], some "IsADirectoryError", d⟩) := by
  rw [writeToFileAt_dir env r n d hd]
  cases hf : r.hasFault with
  | true =>
    obtain ⟨h1, h2, h3⟩ := (writeToFile_behaves r (.path n) d).failed hf
    exact ⟨h1, h2, fun _ => h3, fun h => Bool.noConfusion h⟩
  | false => exact ⟨⟨_, rfl⟩, rfl, fun h => Bool.noConfusion h, fun _ => rfl⟩

/-- when the target is not a directory, `writeToFileAt` is `write_to_file` as analysed above -/
theorem write_at_plain_target (env : Env) (r : Results) (h : Handle) (d : Dir) (hd : targetIsDir h d = false) :
    writeToFileAt env r h d = writeToFile r h d := by
  simp [writeToFileAt, hd, writeToFileIn_eq]

/-- the executable spec for both situations holds of the model -/
theorem write_at_meets_spec (env : Env) (r : Results) (h : Handle) (d : Dir) :
    specWriteAt r h d (writeToFileAt env r h d) = true := by
  unfold specWriteAt
  cases hd : targetIsDir h d with
  | false =>
    rw [write_at_plain_target env r h d hd]
    simpa using write_to_file_meets_spec r h d
  | true =>
    cases h with
    | absent => simp [targetIsDir] at hd
    | io n => simp [targetIsDir] at hd
    | path n =>
      rw [writeToFileAt_dir env r n d hd]
      cases hf : r.hasFault with
      | true =>
        obtain ⟨⟨e, he⟩, h2, hq⟩ := (writeToFile_behaves r (.path n) d).failed hf
        simp [he, h2, hq, convertThenTouch_quiet _ hq, no_write_of_untouched _ hq]
      | false =>
        have hq := quiet_trace _ (quiet_conversions 0 r.records r.results)
        simp [convertThenTouch_append _ _ hq, no_write_of_untouched _ hq, convertThenTouch, Ev.touchesFiles,
          Ev.writesOrRemoves]

/-! ## `run_antismash` under every option it reads -/

/-- **a refused output directory is untouched, whatever the options**: for every combination of
    `--profiling`, `--debug`, `--verbose`, `--list-plugins`, `--check-prereqs`, satisfied or failing
    prerequisites, valid or invalid options, enabled modules or none — if the directory (as logging
    left it) holds a foreign entry and the run is fresh, the directory stays exactly what logging left,
    and after logging's set-up no event touches a file: no profiling results, no results file, nothing -/
theorem refused_run_touches_only_its_log_any_options (o : RunOpts) (r : RunIn) (wf : (effective r.call).1.WF = true)
    (h : specAccepts (afterLogging (effective r.call).1) = false) :
    (runFull o r).out.target = (afterLogging (effective r.call).1).target ∧
    ∃ tail, (runFull o r).out.trace =
        (setupLogging (logPlace (effective r.call).1) (effective r.call).1.target).2 ++ tail ∧
      tail.any Ev.touchesFiles = false := by
  cases he : stopsEarly o with
  | true => rw [runFull_early o r he]; exact ⟨rfl, [], by simp, rfl⟩
  | false => rw [runFull_refused o r wf he h]; exact ⟨rfl, [.logErr], rfl, by simp [Ev.touchesFiles]⟩

/-- the exact shape of a refused run that got as far as the directory test, for every option set -/
theorem refused_run_any_options (o : RunOpts) (r : RunIn) (wf : (effective r.call).1.WF = true)
    (he : stopsEarly o = false) (h : specAccepts (afterLogging (effective r.call).1) = false) :
    runFull o r =
      ⟨⟨(setupLogging (logPlace (effective r.call).1) (effective r.call).1.target).2 ++ [.logErr],
        some inputError, (afterLogging (effective r.call).1).target⟩, none⟩ :=
  runFull_refused o r wf he h

/-- the early exits (`--list-plugins`, `--check-prereqs`, failing prerequisites, invalid options, no
    module enabled) never reach the output directory: logging's set-up is all that happens -/
theorem early_exit_touches_only_its_log (o : RunOpts) (r : RunIn) (he : stopsEarly o = true) :
    (runFull o r).out.trace = (setupLogging (logPlace (effective r.call).1) (effective r.call).1.target).2 ∧
    (runFull o r).out.target = (setupLogging (logPlace (effective r.call).1) (effective r.call).1.target).1 := by
  rw [runFull_early o r he]; exact ⟨rfl, rfl⟩

/-- profiling results are written only by a run that completed: `--profiling` was given, no early
    exit, the directory was accepted, every conversion succeeded, the return code is 0, and the
    profiling events are the very last ones — after the results file, `annotate_records` and
    `write_outputs` -/
theorem profiling_only_after_complete_run (o : RunOpts) (r : RunIn) (wf : (effective r.call).1.WF = true)
    (ev : Ev) (hev : ev ∈ (runFull o r).out.trace) (hp : ev.isProfiling = true) :
    o.profile = true ∧ stopsEarly o = false ∧ specAccepts (afterLogging (effective r.call).1) = true ∧
      r.results.hasFault = false ∧ (runFull o r).out.err = none ∧ (runFull o r).code = some 0 ∧
      ∃ before, (runFull o r).out.trace =
        before ++ [.outputsWritten, .openW profBinName, .write profBinName, .openW profTxtName, .write profTxtName] := by
  by_cases hc : o.profile = true ∧ stopsEarly o = false ∧
      specAccepts (afterLogging (effective r.call).1) = true ∧ r.results.hasFault = false
  · obtain ⟨hprof, he, ha, hf⟩ := hc
    obtain ⟨body, _, hx⟩ := runFull_clean o r wf he ha hf
    rw [hprof, if_pos rfl, if_pos rfl] at hx
    rw [hx]
    exact ⟨hprof, he, ha, hf, rfl, rfl,
      (setupLogging (logPlace (effective r.call).1) (effective r.call).1.target).2 ++
        (body ++ [.openW r.jsonName, .write r.jsonName, .annotated]), by simp [writeProfiling_events]⟩
  · rw [runFull_not_profiling o r wf hc ev hev] at hp
    cases hp

/-- the executable spec of the whole run holds of the model for every option set -/
theorem run_antismash_any_options_meets_spec (o : RunOpts) (r : RunIn) (wf : (effective r.call).1.WF = true) :
    specFull o r (runFull o r) = true :=
  full_meets_spec o r wf

/-! ## `read_data` comes before the output directory -/

/-- the schema test of `AntismashResults.from_file`: exactly versions 1 to 4 are read -/
theorem schema_accepted_iff (n : Nat) : schemaAccepted n = true ↔ 1 ≤ n ∧ n ≤ 4 := by
  simp only [schemaAccepted, schemaVersion, compatibleSchemas, Bool.or_eq_true, beq_iff_eq,
    List.contains_eq_any_beq, List.any_cons, List.any_nil, Bool.or_false]
  omega

/-- which reuse files load: a results document whose schema (1 when the key is missing) is 1–4 -/
theorem reuse_file_loads_iff (f : ReuseFile) :
    readReuse f = none ↔ ∃ s, f = .doc s ∧ 1 ≤ s.getD 1 ∧ s.getD 1 ≤ 4 := by
  cases f with
  | empty => simp [readReuse]
  | notJson => simp [readReuse]
  | doc s =>
    have := schema_accepted_iff (s.getD 1)
    cases h : schemaAccepted (s.getD 1) <;> simp_all [readReuse]

/-- an input that cannot be read (no input at all, an empty or non-JSON reuse file, a results file of
    an unknown schema) ends the run before `prepare_output_directory`: logging's set-up is all that
    happens, whatever the other options and whatever the directory holds -/
theorem unreadable_input_never_reaches_the_directory (o : RunOpts) (r : RunIn) (e : Exn)
    (h : readData o.input = some e) :
    (runFull o r).out.trace = (setupLogging (logPlace (effective r.call).1) (effective r.call).1.target).2 ∧
    (runFull o r).out.target = (setupLogging (logPlace (effective r.call).1) (effective r.call).1.target).1 ∧
    (runFull o r).out.err.isSome = true ∨ (runFull o r).code.isSome = true := by
  have he : stopsEarly o = true := by simp [stopsEarly, h]
  rw [runFull_early o r he]
  rcases earlyResult_reports o he with h1 | h1
  · exact Or.inl ⟨rfl, rfl, h1⟩
  · exact Or.inr h1

/-! ## the directory theorems with the operating system's guarantees as only hypotheses -/

/-- `PrepIn.WF` holds at every call of `prepare_output_directory` that the operating system can
    produce: absolute working directory, plain listing names.  The "directory name is not empty"
    conjunct needs no assumption — an empty argument is replaced by an absolute path, a non-empty one
    is used as it is. -/
theorem call_invariants_hold (c : CallIn) (h : c.envOk = true) : (effective c).1.WF = true :=
  effective_wf c h

/-- `accept_cases` at the call, for any `name` argument including the empty one -/
theorem accept_cases_at_call (c : CallIn) (h : c.envOk = true) :
    (prepareCall c).1.err = none ↔ specAccepts (effective c).1 = true :=
  accept_cases (effective c).1 (effective_wf c h)

/-- the refusal theorem of the whole run over all option sets, hypotheses reduced to `envOk` -/
theorem refused_run_touches_only_its_log_env (o : RunOpts) (r : RunIn) (h : r.call.envOk = true)
    (hr : specAccepts (afterLogging (effective r.call).1) = false) :
    (runFull o r).out.target = (afterLogging (effective r.call).1).target ∧
    ∃ tail, (runFull o r).out.trace =
        (setupLogging (logPlace (effective r.call).1) (effective r.call).1.target).2 ++ tail ∧
      tail.any Ev.touchesFiles = false :=
  refused_run_touches_only_its_log_any_options o r (effective_wf r.call h) hr

/-- … and the executable spec of the whole run -/
theorem run_antismash_meets_spec_env (o : RunOpts) (r : RunIn) (h : r.call.envOk = true) :
    specFull o r (runFull o r) = true :=
  full_meets_spec o r (effective_wf r.call h)

/-! ## non-vacuity: concrete runs on which the interesting branches fire -/

/-- two records, two modules each; the existing target holds old bytes, a bystander file exists -/
def exDir : Dir := [⟨"keep.txt", false, [.raw "bystander"]⟩, ⟨"res.json", false, [.raw "OLD"]⟩]
def exGood : PyVal := .dict [("score", .int 7), ("seq", .seq "ACGT")]
def exResults (m10 : ModSpec) : Results :=
  ⟨[⟨none⟩, ⟨none⟩], [[("a", .mod true exGood), ("b", .none)], [("a", m10), ("b", .mod true (.conv (.list [.opaque])))]],
   .dict []⟩

/-- a `ValueError` at position (1,0): conversions stop there, nothing is opened, old bytes remain -/
example : writeToFile (exResults (.raises true "ValueError")) (.path "res.json") exDir =
    ⟨[.recConv 0, .modConv 0 0, .recConv 1, .modConv 1 0], some "ValueError", exDir⟩ := by decide +kernel
/-- a `TypeError` is intercepted, logged and re-raised -/
example : writeToFile (exResults (.raises true "TypeError")) (.path "res.json") exDir =
    ⟨[.recConv 0, .modConv 0 0, .recConv 1, .modConv 1 0, .logErr], some "TypeError", exDir⟩ := by decide +kernel
/-- all `to_json` calls succeed, but (1,1) returned an object with a nested unserialisable value:
    `dumps` fails after every conversion ran; still nothing is opened -/
example : writeToFile (exResults (.mod true exGood)) (.path "res.json") exDir =
    ⟨[.recConv 0, .modConv 0 0, .recConv 1, .modConv 1 0, .modConv 1 1, .logErr], some "TypeError", exDir⟩ := by
  decide +kernel
example : (exResults (.mod true exGood)).hasFault = true := by decide +kernel
/-- the hypothesis of `clean_write_complete` is satisfiable, and then the old bytes are replaced -/
def exClean : Results := ⟨[⟨none⟩], [[("a", .mod true exGood), ("b", .none)]], .dict []⟩
example : exClean.hasFault = false := by decide +kernel
example : (writeToFile exClean (.path "res.json") exDir).dir =
    [⟨"keep.txt", false, [.raw "bystander"]⟩,
     ⟨"res.json", false, [.lbrace, .key "records", .lbrack, .lbrace, .key "a", .lbrace, .key "score", .int 7,
        .key "seq", .str "ACGT", .rbrace, .rbrace, .rbrack, .key "timings", .lbrace, .rbrace, .rbrace]⟩] := by
  decide +kernel
/-- a wrong-type entry that is falsy (`{}`) at position (1,0): `TypeError`, logged, old bytes remain;
    and an empty (falsy) `ModuleResults` is written like any other -/
example : (Raw.dict 0).truthy = false ∧ (Raw.str "").truthy = false ∧ (Raw.int 0).truthy = false := by decide +kernel
example : writeToFile (exResults (.invalid (.dict 0))) (.path "res.json") exDir =
    ⟨[.recConv 0, .modConv 0 0, .recConv 1, .logErr], some "TypeError", exDir⟩ := by decide +kernel
example : (writeToFile ⟨[⟨none⟩], [[("a", .mod false (.dict []))]], .dict []⟩ (.path "res.json") exDir).dir =
    [⟨"keep.txt", false, [.raw "bystander"]⟩,
     ⟨"res.json", false, [.lbrace, .key "records", .lbrack, .lbrace, .key "a", .lbrace, .rbrace, .rbrace,
        .rbrack, .key "timings", .lbrace, .rbrace, .rbrace]⟩] := by decide +kernel
/-- reloading: a module written as `{}` comes back as a falsy wrong-type value, `null` as `None` -/
example : jsonShape (.conv (.dict [])) = .invalid (.dict 0) ∧ jsonShape (.dunder .none) = .none := ⟨rfl, rfl⟩
example : (reload ⟨[⟨none⟩], [[("a", .mod true (.dict []))]], .dict []⟩).hasFault = true := by decide +kernel
example : (reload ⟨[⟨none⟩], [[("a", .mod true .none), ("b", .none)]], .dict []⟩).hasFault = false := by decide +kernel
/-- derived names: compressed input loses two extensions, the reused file names itself, an empty
    output directory is derived from the input, the option wins -/
def exCall (input name : String) (base : String := "") : CallIn :=
  ⟨.absent, input, "/home/u", name, ⟨base, name, ""⟩⟩
example : (RunIn.jsonName ⟨exCall "/data/genome.fa.GZ" "out", default, "genome.fa.GZ"⟩) = "genome.json" := by decide +kernel
example : (RunIn.jsonName ⟨exCall "/old/run1/base.json" "/old/run1", default, "seq.gbk"⟩) = "base.json" := by decide +kernel
example : (effective (exCall "/data/genome.gbk" "")).1.name = "/home/u/genome" := by decide +kernel
example : (RunIn.jsonName ⟨exCall "/data/genome.gbk" "out" "mine", default, "x.gbk"⟩) = "mine.json" := by decide +kernel
example : (RunIn.jsonName ⟨exCall "/data/.hidden" "out", default, "x"⟩) = ".hidden.json" := by decide +kernel
/-- `run_antismash` with the log inside a new directory: created, logged to, accepted; with the log
    one level further down the directory logging created makes the run refuse its own new directory -/
def exRun (target : Target) (logfile : String) : RunIn :=
  ⟨⟨target, "/data/g.gbk", "/w", "/w/out", ⟨"", "/w/out", logfile⟩⟩, exClean, "g.gbk"⟩
example : logPlace (effective (exRun .absent "/w/out/run.log").call).1 = .entry "run.log" := by decide +kernel
example : logPlace (effective (exRun .absent "/w/out/logs/x/run.log").call).1 = .below "logs" := by decide +kernel
example : (runAntismash (exRun .absent "/w/out/run.log")).err = none := by decide +kernel
example : runAntismash (exRun .absent "/w/out/logs/run.log") =
    ⟨[.mkdir, .mkdirSub "logs", .logErr], some "AntismashInputError", .dir [⟨"logs", true, []⟩]⟩ := by decide +kernel
example : runAntismash (exRun (.dir [⟨"run", false, [.raw "x"]⟩]) "/w/out/run.log") =
    ⟨[.logErr], some "AntismashInputError", .dir [⟨"run", false, [.raw "x"]⟩, ⟨"run.log", false, [logText]⟩]⟩ := by
  decide +kernel
/-- `--profiling` on a refused directory that even holds a file called `profiling_results`: only the
    log grows; on a completed run the two profiling files are the last thing written -/
def exProf : RunOpts := ⟨false, false, true, true, true, true, false, false, .sequence⟩
example : stopsEarly exProf = false := by decide +kernel
example : runFull exProf (exRun (.dir [⟨"profiling_results", false, [.raw "mine"]⟩]) "/w/out/run.log") =
    ⟨⟨[.logErr], some "AntismashInputError",
      .dir [⟨"profiling_results", false, [.raw "mine"]⟩, ⟨"run.log", false, [logText]⟩]⟩, none⟩ := by decide +kernel
example : (runFull exProf (exRun .absent "/w/out/run.log")).out.trace =
    [.mkdir, .prepared, .recConv 0, .modConv 0 0, .openW "g.json", .write "g.json", .annotated, .outputsWritten,
     .openW "profiling_results.bin", .write "profiling_results.bin", .openW "profiling_results",
     .write "profiling_results"] := by decide +kernel
example : runFull { exProf with listPlugins := true } (exRun .absent "/w/elsewhere.log") =
    ⟨⟨[], none, .absent⟩, some 0⟩ := by decide +kernel
/-- the hazard is real: were the file opened with the *locale's* codec, one non-ASCII character under
    `LC_ALL=C` would raise after the truncation and leave the old results empty; with the codec the code
    names the same text is written -/
example : emitWith .ascii (.path "res.json") exDir [.str "β-lactone"] =
    ([.openW "res.json", .write "res.json"],
     [⟨"keep.txt", false, [.raw "bystander"]⟩, ⟨"res.json", false, []⟩], some "UnicodeEncodeError") := by decide +kernel
example : (emitWith (fileCodec ⟨.ascii⟩) (.path "res.json") exDir [.str "β-lactone"]).2.2 = none := by decide +kernel
example : (writeToFileIn ⟨.ascii⟩ ⟨[⟨none⟩], [[("a", .mod true (.str "Müller β"))]], .dict []⟩ (.path "res.json") exDir).err
    = none := by decide +kernel
/-- reporting: a `TypeError` from a module's `to_json()` is logged, a `ValueError` is not; both reach the caller -/
example : Ev.logErr ∈ (writeToFile (exResults (.raises true "TypeError")) (.path "res.json") exDir).trace := by decide +kernel
example : Ev.logErr ∉ (writeToFile (exResults (.raises true "ValueError")) (.path "res.json") exDir).trace := by decide +kernel
/-- a reuse file of schema 5, an empty one, and one without a schema key -/
example : readData (.reuse (.doc (some 5))) = some "ValueError" ∧ readData (.reuse .empty) = some "ValueError"
    ∧ readData (.reuse (.doc none)) = none ∧ readData (.reuse (.doc (some 0))) = some "ValueError" := by decide +kernel
example : runFull { exProf with input := .reuse (.doc (some 9)) }
      (exRun (.dir [⟨"base.json", false, [.raw "j"]⟩]) "/w/elsewhere.log") =
    ⟨⟨[], some "ValueError", .dir [⟨"base.json", false, [.raw "j"]⟩]⟩, none⟩ := by decide +kernel
/-- `envOk` says nothing about the `name` argument: it holds for the empty one -/
example : (exCall "/data/genome.gbk" "").envOk = true ∧ (exCall "/data/genome.gbk" "").nameArg = "" := by decide +kernel
/-- a directory where the results file should go: the conversion runs, `open` fails, nothing changes -/
example : writeToFileAt ⟨.utf8⟩ exClean (.path "res.json") [⟨"res.json", true, []⟩, ⟨"keep.txt", false, [.raw "k"]⟩] =
    ⟨[.recConv 0, .modConv 0 0, .openW "res.json"], some "IsADirectoryError",
     [⟨"res.json", true, []⟩, ⟨"keep.txt", false, [.raw "k"]⟩]⟩ := by decide +kernel
/-- orjson's integer range is a fault boundary -/
example : (PyVal.int 18446744073709551615).faulty = false ∧ (PyVal.int 18446744073709551616).faulty = true := by
  decide +kernel
/-- directory decisions -/
def exOut (es : Dir) (input : String) : PrepIn := ⟨.dir es, input, "/home/u", "out", "/home/u/out/run.log"⟩
example : specAccepts (exOut [⟨"input", true, []⟩, ⟨"run.log", false, [.raw "l"]⟩] "seq.gbk") = true := by decide +kernel
example : specAccepts (exOut [⟨"input", true, []⟩, ⟨".hidden", false, []⟩] "seq.gbk") = false := by decide +kernel
example : specAccepts (exOut [⟨"input", false, [.raw "a file called input"]⟩] "seq.gbk") = false := by decide +kernel
example : prepareOutputDir (exOut [⟨"a.region001.gbk", false, [.raw "g"]⟩, ⟨"base.json", false, [.raw "j"]⟩,
      ⟨"a.region01.gbk", false, []⟩] "base.json") =
    ⟨[.remove "a.region001.gbk"], none, .dir [⟨"base.json", false, [.raw "j"]⟩, ⟨"a.region01.gbk", false, []⟩]⟩ := by
  decide +kernel
/-- `run` beside `run.log`, `antismash` (a directory) beside `antismash.log`, the directory holding the
    log file, an odd spelling of the log path, no log file with the cwd inside the output directory -/
example : (exOut [⟨"run.log", false, []⟩, ⟨"run", false, [.raw "x"]⟩] "seq.gbk").WF = true := by decide +kernel
example : specAccepts (exOut [⟨"run.log", false, []⟩, ⟨"run", false, [.raw "x"]⟩] "seq.gbk") = false := by decide +kernel
example : specAccepts (exOut [⟨"run.log", false, []⟩] "seq.gbk") = true := by decide +kernel
example : specAccepts ⟨.dir [⟨"antismash", true, []⟩], "g.gbk", "/w", "/w/out", "/w/out/antismash.log"⟩ = false := by
  decide +kernel
example : specAccepts ⟨.dir [⟨"logs", true, []⟩], "g.gbk", "/w", "/w/out", "/w/out/logs/run.log"⟩ = false := by
  decide +kernel
example : specAccepts ⟨.dir [⟨"run.log", false, []⟩], "g.gbk", "/w/x", "../out", "/w/out/./sub/..//run.log"⟩ = true := by
  decide +kernel
example : specAccepts ⟨.dir [⟨"work", true, []⟩], "g.gbk", "/w/out/work", "..", ""⟩ = false := by decide +kernel
example : isRegionGbk ".region001.gbk" = false ∧ isRegionGbk "x.regionabc.gbk" = true
    ∧ isRegionGbk "x.region0001.gbk" = false := by decide +kernel

end ASV.C20
