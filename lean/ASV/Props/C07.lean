/-
  C07 — Detection is invariant under origin rotation and rule order.
  Property theorems only; the lemmas they rest on are in the `Rotation*`, `RotateLoc`, `RuleOrder*` and
  `MergeApart` modules of ASV/Proofs.

  Part 1 (rotation) is about the *specifications* of C01/C03/C06 and about the location functions of
  the model: every relation a detection stage is built on is unchanged when all locations are
  re-indexed by the same rotation, hence so are the chains of anchoring genes and the connected
  components of areas, as sets of members.  Theorems with `spec` in their name speak about the
  executable specs (`Chains.components`, `Components.IsComponents`), not about the code model of
  `find_protoclusters` / `create_regions` on a ring; that link is the correspondence (harness).
  Part 2 (rule order and sub-selection) is about C03's model of `cluster_prediction.py` itself.

  `IsRot L k a a'`: `a'` holds exactly the bases of `a` re-indexed by `+k` modulo the record
  length `L` (what `offset_location(…, wrap_point=L)` produces: C04 `offset_rotates_simple`,
  `offset_rotates_origin_spanning`; splitting/merging at the new origin included).
-/
import ASV.Proofs.Rules
import ASV.Proofs.RotationCandidates
import ASV.Proofs.RotationRing
import ASV.Proofs.RotateLoc
import ASV.Proofs.RulesetSelection
import ASV.Proofs.MergeApart
import ASV.Proofs.RotationWitness
import ASV.Props.C02
import ASV.Props.C03
import ASV.Props.C04
import ASV.Props.C05
import ASV.Props.C06
namespace ASV.C07
open ASV ASV.Rules ASV.Proto ASV.Chains

/-- re-indexing two locations by the same rotation does not change their distance: the value
    `get_distance_between_locations` computes on the rotated record equals the one on the original -/
theorem rotation_preserves_distance (L k : Int) (hL : 0 < L) (a b a' b' : Loc)
    (ha : a.OK L) (hb : b.OK L) (ha' : a'.OK L) (hb' : b'.OK L)
    (ra : IsRot L k a a') (rb : IsRot L k b b') :
    getDistance a' b' L = getDistance a b L :=
  (getDistance_isDist a' b' L ha' hb').unique (IsDist_rot hL ha hb ra rb (getDistance_isDist a b L ha hb))

/-- "the same rules fire on the same genes": if every gene location of the rotated record is the
    rotation of its location in the original record, every rule condition evaluates identically at
    every gene — same truth value, same reason profiles, same ancillary genes, same anchoring
    decision (the layout enters rule evaluation only through the pairwise distances) -/
theorem rule_evaluation_rotation_invariant (L k : Int) (hL : 0 < L)
    (genes withHits : List Gene) (hits : Gene → List (Prof × Int)) (loc loc' : Gene → Loc) (cutoff : Int)
    (hok : ∀ g, (loc g).OK L) (hok' : ∀ g, (loc' g).OK L) (hrot : ∀ g, IsRot L k (loc g) (loc' g))
    (g : Gene) (c : Cond) :
    detect (Env.ofLocs genes withHits hits loc' cutoff L) g c = detect (Env.ofLocs genes withHits hits loc cutoff L) g c ∧
    anchors (Env.ofLocs genes withHits hits loc' cutoff L) g c = anchors (Env.ofLocs genes withHits hits loc cutoff L) g c := by
  have henv : Env.ofLocs genes withHits hits loc' cutoff L = Env.ofLocs genes withHits hits loc cutoff L := by
    simp only [Env.ofLocs]
    congr 1
    funext x y
    exact rotation_preserves_distance L k hL (loc x) (loc y) (loc' x) (loc' y) (hok x) (hok y) (hok' x) (hok' y) (hrot x) (hrot y)
  rw [henv]
  exact ⟨rfl, rfl⟩

/-- the hypothesis is what `offset_location` delivers for single-part genes … -/
theorem offset_is_rotation_simple (p : Part) (k L : Int) (hL : 0 < L) (h0 : 0 ≤ p.lo) (h1 : p.lo < p.hi) (h2 : p.hi ≤ L) :
    ∃ r, offsetLocation (.simple p) k L = .ok r ∧ IsRot L k (.simple p) r := by
  obtain ⟨r, hr, hm, _⟩ := C04.offset_rotates_simple p k L hL h0 h1 h2
  refine ⟨r, hr, fun i => ?_⟩
  rw [hm i]
  simp only [Loc.mem, Loc.parts, List.any_cons, List.any_nil, Bool.or_false]

/-- … and for origin-spanning spans -/
theorem offset_is_rotation_origin_spanning (x y L k : Int) (s : Strand) (hL : 0 < L) (hy0 : 0 < y) (hyx : y ≤ x) (hxL : x < L) :
    ∃ r, offsetLocation (areaTwo x y L s) k L = .ok r ∧ IsRot L k (areaTwo x y L s) r :=
  C04.offset_rotates_origin_spanning x y L k s hL hy0 hyx hxL


/-! ## Part 1 — rotation: the stage relations and the partitions built from them -/

/-- "overlap" — the test behind candidate-cluster kinds (core vs core, extent vs extent) and behind
    region formation — gives the same answer on the rotated pair as on the original pair -/
theorem overlap_rotation_invariant (L k : Int) (hL : 0 < L) (a b a' b' : Loc)
    (ha : a.OK L) (hb : b.OK L) (ha' : a'.OK L) (hb' : b'.OK L) (ra : IsRot L k a a') (rb : IsRot L k b b') :
    locationsOverlap a' b' = locationsOverlap a b ∧ (a'.SharesBase b' ↔ a.SharesBase b) :=
  ⟨locationsOverlap_rot hL ha hb ha' hb' ra rb, (SharesBase_rot hL ha hb ra rb).symm⟩

/-- C03's chain relation ("as spans, the two genes share a base or have fewer than `cutoff` bases
    between them, the shorter way round") is unchanged by rotating both genes -/
theorem chain_relation_rotation_invariant_spec (L k c : Int) (hL : 0 < L) (a b a' b' : Loc)
    (ha : (spanLoc L a).OK L) (hb : (spanLoc L b).OK L) (ha' : (spanLoc L a').OK L) (hb' : (spanLoc L b').OK L)
    (ra : IsRot L k (spanLoc L a) (spanLoc L a')) (rb : IsRot L k (spanLoc L b) (spanLoc L b')) :
    nearB L c a' b' = nearB L c a b :=
  nearB_rot hL ha hb ha' hb' ra rb

/-- **The chains of anchoring genes are rotation invariant (spec).**  `xs` are the anchoring genes of a
    rule on the original record, `xs'` those of the re-indexed record: the same genes (`f` maps a gene to
    its re-indexed self) in whatever order the new record lists them, every span rotated by `k`.
    Then the chains the spec computes on the rotated record are exactly the images of the chains it
    computes on the original one — the same member genes, chain by chain, in both directions. -/
theorem spec_chains_rotation_invariant (L k c : Int) (hL : 0 < L) (xs xs' : List GeneInfo) (f : GeneInfo → GeneInfo)
    (hperm : xs'.Perm (xs.map f))
    (hok : ∀ g ∈ xs, (spanLoc L g.loc).OK L ∧ (spanLoc L (f g).loc).OK L)
    (hrot : ∀ g ∈ xs, IsRot L k (spanLoc L g.loc) (spanLoc L (f g).loc)) :
    (∀ ch ∈ components (fun x y => nearB L c x.loc y.loc) xs,
      ∃ ch' ∈ components (fun x y => nearB L c x.loc y.loc) xs', ∀ y, y ∈ ch' ↔ ∃ x ∈ ch, f x = y) ∧
    (∀ ch' ∈ components (fun x y => nearB L c x.loc y.loc) xs',
      ∃ ch ∈ components (fun x y => nearB L c x.loc y.loc) xs, ∀ y, y ∈ ch' ↔ ∃ x ∈ ch, f x = y) :=
  IsChainPartition.images_of_rot (fun g : GeneInfo => g.loc) hL f
    (components_isChainPartition (fun x y : GeneInfo => nearB L c x.loc y.loc) xs)
    (components_isChainPartition (fun x y : GeneInfo => nearB L c x.loc y.loc) xs') hperm hok hrot

/-- … instantiated with the spec's own `chainsOf` (what the driver evaluates on both runs): if the
    rotated record has the same anchoring genes, rotated, its chains are the images of the original chains -/
theorem spec_chains_of_rule_rotation_invariant (r r' : Rec) (rule : RuleM) (k : Int) (f : GeneInfo → GeneInfo)
    (hc : r.circular = true) (hc' : r'.circular = true) (hlen : r'.len = r.len) (hL : 0 < r.len)
    (hperm : (r'.genes.filter fun g => (anchorSet r' rule).contains g.id).Perm
      ((r.genes.filter fun g => (anchorSet r rule).contains g.id).map f))
    (hok : ∀ g ∈ r.genes, (spanLoc r.len g.loc).OK r.len ∧ (spanLoc r.len (f g).loc).OK r.len)
    (hrot : ∀ g ∈ r.genes, IsRot r.len k (spanLoc r.len g.loc) (spanLoc r.len (f g).loc)) :
    (∀ ch ∈ chainsOf r rule, ∃ ch' ∈ chainsOf r' rule, ∀ y, y ∈ ch' ↔ ∃ x ∈ ch, f x = y) ∧
    (∀ ch' ∈ chainsOf r' rule, ∃ ch ∈ chainsOf r rule, ∀ y, y ∈ ch' ↔ ∃ x ∈ ch, f x = y) := by
  have e : ringL r = r.len := by simp [ringL, hc]
  have e' : ringL r' = r.len := by simp [ringL, hc', hlen]
  simp only [chainsOf, e, e']
  exact spec_chains_rotation_invariant r.len k rule.cutoff hL _ _ f hperm
    (fun g hg => hok g (List.mem_filter.1 hg).1) (fun g hg => hrot g (List.mem_filter.1 hg).1)

/-- **Region membership is rotation invariant (spec).**  If `G` are the connected components of the
    areas (candidate clusters and subregions) of the original record under "share a base" and `G'` those
    of the re-indexed record — same areas, rotated, in any order — then every component of the original
    record reappears with exactly the same members (C06's `IsComponents` is what `create_regions` is
    proved / checked against). -/
theorem region_components_rotation_invariant_spec (L k : Int) (hL : 0 < L)
    (areas areas' : List Components.Area) (f : Components.Area → Components.Area)
    (G G' : List (List Components.Area))
    (h : Components.IsComponents areas G) (h' : Components.IsComponents areas' G')
    (hperm : areas'.Perm (areas.map f))
    (hok : ∀ a ∈ areas, a.2.OK L) (hrot : ∀ a ∈ areas, IsRot L k a.2 (f a).2) :
    ∀ g ∈ G, ∃ g' ∈ G', ∀ y, y ∈ g' ↔ ∃ x ∈ g, f x = y :=
  h.images f h' hperm fun a ha b hb => (SharesBase_rot hL (hok a ha) (hok b hb) (hrot a ha) (hrot b hb)).symm

/-- **Neighbouring candidate clusters are rotation invariant (code model of `_find_neighbouring`, any
    ring).**  `g` re-indexes a protocluster (`rot` applied to its extent), `gc` a candidate cluster found
    so far (same members, re-indexed; extent rotated); every extent is well formed and is rotated by `k`.
    Then two protoclusters are put into one neighbouring group on the re-indexed record exactly when they
    are on the original one.  (From C05 `neighbouring_groups_are_overlap_classes`, which holds on every
    record after the C05 repairs.) -/
theorem neighbouring_groups_rotation_invariant (L k : Int) (hL : 0 < L) (singles : List CC.Proto) (cands : List CC.Cand)
    (rot : Loc → Loc) (g : CC.Proto → CC.Proto) (gc : CC.Cand → CC.Cand)
    (hinj : ∀ p q, g p = g q → p = q) (hg : ∀ p, (g p).loc = rot p.loc)
    (hgc : ∀ c, (gc c).members = c.members.map g ∧ (gc c).loc = rot c.loc)
    (hok : ∀ l, (l ∈ cands.map (·.loc) ∨ l ∈ singles.map (·.loc)) → l.OK L ∧ (rot l).OK L ∧ IsRot L k l (rot l))
    (a b : CC.Proto) :
    (∃ r, r ∈ CC.findNeighbouring singles cands ∧ a ∈ r ∧ b ∈ r) ↔
    (∃ r', r' ∈ CC.findNeighbouring (singles.map g) (cands.map gc) ∧ g a ∈ r' ∧ g b ∈ r') := by
  rw [ASV.C05.neighbouring_groups_are_overlap_classes, ASV.C05.neighbouring_groups_are_overlap_classes]
  let f : CC.Spec.U → CC.Spec.U := fun u => ⟨u.members.map g, rot u.span⟩
  have hunits : CC.neighbourUnits (singles.map g) (cands.map gc) = (CC.neighbourUnits singles cands).map f := by
    simp only [CC.neighbourUnits, CC.Spec.candUnits, CC.Spec.protoUnits, List.map_append, List.map_map]
    congr 1
    · apply List.map_congr_left
      intro c _
      simp only [Function.comp, f, (hgc c).1, (hgc c).2]
    · apply List.map_congr_left
      intro p _
      simp only [Function.comp, f, hg p, List.map_cons, List.map_nil]
  have hspan : ∀ u ∈ CC.neighbourUnits singles cands,
      u.span.OK L ∧ (f u).span.OK L ∧ IsRot L k u.span (f u).span := by
    intro u hu
    apply hok
    simp only [CC.neighbourUnits, CC.Spec.candUnits, CC.Spec.protoUnits, List.mem_append, List.mem_map] at hu ⊢
    rcases hu with ⟨c, hc, rfl⟩ | ⟨p, hp, rfl⟩
    · exact Or.inl ⟨c, hc, rfl⟩
    · exact Or.inr ⟨p, hp, rfl⟩
  rw [hunits]
  exact (CC.linked_overlapGroups_rot hL (CC.neighbourUnits singles cands) f g hinj (fun u _ => rfl) hspan a b).symm

/-! ## Part 2 — rule order and sub-selection (C03's model of `apply_cluster_rules` … `build_results`) -/

/-- **The anchoring genes of a rule do not depend on the rest of the ruleset.**  Whenever rule evaluation
    runs through for two rulesets that both contain `rule` (names identify rules), the gene set recorded
    for `rule` is the same — whatever other rules there are, in whatever order, with whatever cutoffs
    (this is where D1's stale cache used to break the property; `cache_is_transparent` of C03 is used). -/
theorem anchoring_genes_independent_of_ruleset (within : Lookup) (r : Rec) (rules rules' : List RuleM)
    (res res' : RuleResults) (h : ruleResults within r rules = .ok res) (h' : ruleResults within r rules' = .ok res')
    (hd : NamesDistinct rules) (hd' : NamesDistinct rules') (rule : RuleM) (hr : rule ∈ rules) (hr' : rule ∈ rules')
    (g : Gene) : g ∈ hitsFor res rule.name ↔ g ∈ hitsFor res' rule.name := by
  rw [mem_hitsFor_iff within r rules res h hd rule hr g, mem_hitsFor_iff within r rules' res' h' hd' rule hr' g]

/-- **Every permutation and every sub-selection.**  If rule evaluation runs through for `rules`, it runs
    through for every list `rules'` made of rules of `rules` (any order, any subset), and gives every
    rule of `rules'` the same anchoring genes. -/
theorem rules_subselection_and_order_invariant (within : Lookup) (r : Rec) (rules rules' : List RuleM)
    (res : RuleResults) (h : ruleResults within r rules = .ok res) (hd : NamesDistinct rules)
    (hs : ∀ x ∈ rules', x ∈ rules) :
    ∃ res', ruleResults within r rules' = .ok res' ∧
      ∀ rule ∈ rules', ∀ g, g ∈ hitsFor res' rule.name ↔ g ∈ hitsFor res rule.name := by
  obtain ⟨res', h'⟩ := ruleResults_ok_of_subset within r rules rules' res h hs
  exact ⟨res', h', fun rule hr g =>
    anchoring_genes_independent_of_ruleset within r rules' rules res' res h' h (hd.sub hs) hd rule hr (hs rule hr) g⟩

theorem rules_perm_invariant (within : Lookup) (r : Rec) (rules rules' : List RuleM) (hp : rules'.Perm rules)
    (res : RuleResults) (h : ruleResults within r rules = .ok res) (hd : NamesDistinct rules) :
    ∃ res', ruleResults within r rules' = .ok res' ∧
      ∀ rule ∈ rules, ∀ g, g ∈ hitsFor res' rule.name ↔ g ∈ hitsFor res rule.name := by
  obtain ⟨res', h', hall⟩ := rules_subselection_and_order_invariant within r rules rules' res h hd
    (fun x hx => hp.mem_iff.1 hx)
  exact ⟨res', h', fun rule hr g => hall rule (hp.mem_iff.2 hr) g⟩

/-- a rule evaluated on its own anchors on the same genes as inside any ruleset -/
theorem rules_independent (within : Lookup) (r : Rec) (rules : List RuleM) (res : RuleResults)
    (h : ruleResults within r rules = .ok res) (hd : NamesDistinct rules) (rule : RuleM) (hr : rule ∈ rules) :
    ∃ res1, ruleResults within r [rule] = .ok res1 ∧ ∀ g, g ∈ hitsFor res1 rule.name ↔ g ∈ hitsFor res rule.name := by
  obtain ⟨res1, h1, hall⟩ := rules_subselection_and_order_invariant within r rules [rule] res h hd
    (fun x hx => by simp only [List.mem_singleton] at hx; subst hx; exact hr)
  exact ⟨res1, h1, hall rule (by simp)⟩

/-- **The protoclusters of a rule (before extenders and superiors) do not depend on the other rules**:
    `find_protoclusters` forms them from the rule and its anchoring genes alone, and two rulesets give
    the rule the same anchoring genes. -/
theorem protoclusters_of_rule_independent (within : Lookup) (r : Rec) (rules rules' : List RuleM)
    (res res' : RuleResults) (h : ruleResults within r rules = .ok res) (h' : ruleResults within r rules' = .ok res')
    (hd : NamesDistinct rules) (hd' : NamesDistinct rules') (rule : RuleM) (hr : rule ∈ rules) (hr' : rule ∈ rules') :
    clustersOfRule r rule (dedupIds (hitsFor res rule.name)) = clustersOfRule r rule (dedupIds (hitsFor res' rule.name)) := by
  apply clustersOfRule_congr
  intro g
  rw [mem_dedupIds, mem_dedupIds]
  exact anchoring_genes_independent_of_ruleset within r rules rules' res res' h h' hd hd' rule hr hr' g

/-- `apply_extenders` consults the protocluster's own rule only -/
theorem extenders_consult_own_rule_only (within : Lookup) (r : Rec) (rules rules' : List RuleM)
    (hd : NamesDistinct rules) (hd' : NamesDistinct rules') (rule : RuleM) (hr : rule ∈ rules) (hr' : rule ∈ rules')
    (pc : PC) (hpc : pc.rule = rule.name) :
    extendCluster within r rules pc = extendCluster within r rules' pc := by
  apply extendCluster_independent within r rules rules' pc rule
  · rw [hpc]; exact findRule_of_distinct rules hd rule hr
  · rw [hpc]; exact findRule_of_distinct rules' hd' rule hr'

/-- **The only sanctioned cross-rule effect, protocluster side**: whether a protocluster is dropped as
    redundant is decided by the protoclusters of its rule's *superiors* and by nothing else of the ruleset
    (C03 `redundant_iff` says exactly when); in particular … -/
theorem superiors_are_the_only_cross_rule_effect (within : Lookup) (rules rules' : List RuleM)
    (hd : NamesDistinct rules) (hd' : NamesDistinct rules') (rule : RuleM) (hr : rule ∈ rules) (hr' : rule ∈ rules')
    (clusters clusters' : List PC) (pc : PC) (hpc : pc.rule = rule.name)
    (hc : ∀ s ∈ rule.superiors, clusters.filter (·.rule == s) = clusters'.filter (·.rule == s)) :
    isRedundant within rules clusters pc = isRedundant within rules' clusters' pc := by
  apply isRedundant_congr within rules rules' clusters clusters' pc rule
  · rw [hpc]; exact findRule_of_distinct rules hd rule hr
  · rw [hpc]; exact findRule_of_distinct rules' hd' rule hr'
  · exact hc

/-- … a protocluster of a rule without superiors is never dropped, whatever else is in the ruleset -/
theorem never_redundant_without_superiors (within : Lookup) (rules : List RuleM) (hd : NamesDistinct rules)
    (rule : RuleM) (hr : rule ∈ rules) (hs : rule.superiors = []) (clusters : List PC) (pc : PC)
    (hpc : pc.rule = rule.name) (fl : Loc × Loc) (hfl : firstLast within pc = .ok fl) :
    isRedundant within rules clusters pc = .ok false :=
  isRedundant_no_superiors within rules clusters pc rule (by rw [hpc]; exact findRule_of_distinct rules hd rule hr) hs fl hfl

/-- … and without SUPERIORS in the ruleset the whole superiors step is the identity: every protocluster
    formed and extended is kept, whatever the rules and their order (one of the stage facts behind the
    remaining hypothesis of `pipeline_rule_order_invariant_partial`) -/
theorem superiors_step_is_identity_without_superiors (within : Lookup) (rules : List RuleM) (clusters : List PC)
    (hr : ∀ pc ∈ clusters, ∃ rule, findRule rules pc.rule = .ok rule ∧ rule.superiors = [])
    (hf : ∀ pc ∈ clusters, ∃ fl, firstLast within pc = .ok fl) :
    removeRedundant within rules clusters = .ok clusters :=
  removeRedundant_no_superiors within rules clusters hr hf

/-! ### towards `hdet` of `pipeline_rule_order_invariant_partial`: the stages of a detection run under a
    re-ordering of the ruleset -/

/-- what a successful detection run on a record with hits consists of: rule evaluation, the first loop of
    `find_protoclusters` (`foundOf`), `merge_over_origin`, `apply_extenders`, `merge_over_origin`,
    `remove_redundant_protoclusters`; the reported protoclusters are the kept ones -/
theorem detection_run_stages (within : Lookup) (r : Rec) (rules : List RuleM) (s : Stages)
    (hne : r.genes.isEmpty = false) (hres : (r.genes.filter (·.hasRes)).isEmpty = false)
    (h : detectStages within r rules = .ok s) :
    ∃ (res : RuleResults) (found0 : List (List PC)) (found ext0 : List PC) (d : Doms) (ext kept : List PC),
      ruleResults within r rules = .ok res ∧ foundOf r rules res = .ok found0 ∧
      Proto.mergeOverOrigin r rules found0.flatten = .ok found ∧
      applyExtenders within r rules found = .ok (ext0, d) ∧
      Proto.mergeOverOrigin r rules ext0 = .ok ext ∧
      removeRedundant within rules ext = .ok kept ∧
      s.final.map (·.pc) = kept :=
  detectStages_stages within r rules s hne hres h

/-- **The first loop of `find_protoclusters` does not depend on the order of the rules** (any record): for a
    ruleset and any rearrangement of it — rule names identify rules, rule evaluation ran through for both —
    the loop succeeds for both or neither, and the protoclusters it forms, all rules together, are the same
    multiset (each rule's cores by the sweep, each with its neighbourhood). -/
theorem first_loop_rule_order_invariant (within : Lookup) (r : Rec) (rules rules' : List RuleM)
    (hp : rules.Perm rules') (hd : NamesDistinct rules) (res res' : RuleResults)
    (h : ruleResults within r rules = .ok res) (h' : ruleResults within r rules' = .ok res')
    (found : List (List PC)) (hf : foundOf r rules res = .ok found) :
    ∃ found', foundOf r rules' res' = .ok found' ∧ found.flatten.Perm found'.flatten :=
  foundOf_perm within r rules rules' hp hd res res' h h' found hf

/-- **`apply_extenders` does not depend on the order of the protoclusters or of the rules**: on a rearranged
    list of protoclusters and with any ruleset that names the same rule for each of them (in particular a
    re-ordered one), it succeeds again and yields a rearrangement of the extended protoclusters and of the
    recorded extender domains. -/
theorem extenders_rule_order_invariant (within : Lookup) (r : Rec) (rules rules' : List RuleM)
    (clusters clusters' : List PC) (hp : clusters.Perm clusters')
    (hrule : ∀ pc ∈ clusters, ∃ rule, findRule rules pc.rule = .ok rule ∧ findRule rules' pc.rule = .ok rule)
    (out : List PC) (doms : Doms) (h : applyExtenders within r rules clusters = .ok (out, doms)) :
    ∃ out' doms', applyExtenders within r rules' clusters' = .ok (out', doms') ∧ out.Perm out' ∧ doms.Perm doms' :=
  applyExtenders_perm within r rules rules' clusters clusters' hp hrule out doms h

/-- a possibly failing step mapped over a rearranged list succeeds again and gives a rearrangement (the
    shape of every per-item loop of the detection code) -/
theorem per_item_loops_commute_with_reordering {α β : Type} (f : α → E β) {l l' : List α} (hp : l.Perm l')
    (out : List β) (h : l.mapM f = .ok out) : ∃ out', l'.mapM f = .ok out' ∧ out.Perm out' :=
  mapM_perm f hp out h

/-- **The merge loop of `merge_over_origin` changes nothing when the protoclusters of the product stay apart**
    (`Apart`: no core shares a base with the cutoff-extended core of another one of the group): the group is
    sorted by the start of the extended core and returned as it is — a rearrangement of the input, whatever
    the ruleset and its order (the loop consults the ruleset only when it merges). -/
theorem merge_loop_is_identity_when_apart (r : Rec) (rules : List RuleM) (cutoff : Int) (fuel : Nat)
    (g : List (PC × Loc)) (h : Apart g) :
    mergeFix r rules cutoff fuel (sortByStart g) = .ok (sortByStart g) ∧ (sortByStart g).Perm g :=
  ⟨mergeFix_id_of_apart r rules cutoff fuel _ (h.of_perm (sortByStart_perm g).symm), sortByStart_perm g⟩

/-- **`merge_over_origin` is the identity up to order when the protoclusters of each product stay apart**
    (any record, any ruleset): if, after pairing every protocluster with its cutoff-extended core
    (`withExtOf`), the protoclusters of each product are `Apart`, a successful `merge_over_origin` returns a
    rearrangement of its input — grouped by product in order of first occurrence, each group sorted by the
    start of the extended core, nothing merged. -/
theorem merge_over_origin_is_identity_up_to_order_when_apart (r : Rec) (rules : List RuleM) (clusters merged : List PC)
    (hap : ∀ withExt, withExtOf r rules clusters = .ok withExt → ∀ prod, Apart (withExt.filter (·.1.rule == prod)))
    (h : Proto.mergeOverOrigin r rules clusters = .ok merged) : merged.Perm clusters :=
  mergeOverOrigin_apart_perm r rules clusters merged hap h

/-- … hence it does not depend on the order of the rules or of its input there: two successful calls on
    rearranged inputs with two rulesets (e.g. a ruleset and a re-ordering of it), both apart, return
    rearrangements of each other -/
theorem merge_over_origin_rule_order_invariant_when_apart (r : Rec) (rules rules' : List RuleM)
    (clusters clusters' merged merged' : List PC) (hp : clusters.Perm clusters')
    (hap : ∀ withExt, withExtOf r rules clusters = .ok withExt → ∀ prod, Apart (withExt.filter (·.1.rule == prod)))
    (hap' : ∀ withExt, withExtOf r rules' clusters' = .ok withExt → ∀ prod, Apart (withExt.filter (·.1.rule == prod)))
    (h : Proto.mergeOverOrigin r rules clusters = .ok merged) (h' : Proto.mergeOverOrigin r rules' clusters' = .ok merged') :
    merged.Perm merged' :=
  ((mergeOverOrigin_apart_perm r rules clusters merged hap h).trans hp).trans
    (mergeOverOrigin_apart_perm r rules' clusters' merged' hap' h').symm

/-- **The only sanctioned cross-rule effect, definition-domain side** (`strip_inferior_domains`): the
    domains recorded for (gene, rule) are removed exactly when the gene also has an entry for one of the
    rule's superiors -/
theorem strip_inferior_only_by_superiors (rules : List RuleM) (hd : NamesDistinct rules) (rule : RuleM) (hr : rule ∈ rules)
    (d : Doms) (g : Gene) (ps : List Prof) :
    (g, rule.name, ps) ∈ stripInferior rules d ↔ (g, rule.name, ps) ∈ d ∧ ∀ s ∈ rule.superiors, s ∉ d.keys g :=
  mem_stripInferior (e := (g, rule.name, ps)) (findRule_of_distinct rules hd rule hr)

/-! ### what does *not* hold: the superiors step on a ring (KF-C07-superior-overlap = KF-C03-superior-overlap)

  The full rotation statement for the code model would be
    `def DetectionRotationInvariant : Prop := ∀ r r' rules, (r' is r re-indexed by some k) →
        membership r' rules = membership r rules   (up to order)`
  and the full sub-selection statement "the protoclusters of a rule are those it has on its own minus the
  ones a superior's core covers".  Both fail for the same reason: `remove_redundant_protoclusters` also
  drops a protocluster whose first/last core genes *interleave* (in record order) with those of a superior's
  protocluster (C03 `redundant_iff`, `not_droppedOnlyWhenCovered`); record order changes with the origin. -/

def kfRules : List RuleM :=
  [⟨"sup", 3, 1, .group false [.single false "s"], [], none⟩,
   ⟨"inf", 3, 1, .group false [.single false "i"], ["sup"], none⟩]
/-- ring of 29: genes 1 [0,2), 2 [4,6), 0 [8,10), all with profile `i`, gene 2 also with `s` -/
def kfBase : Rec := ⟨29, true,
  [⟨1, .simple ⟨0, 2, .fwd⟩, [("i", 0)], true⟩, ⟨2, .simple ⟨4, 6, .fwd⟩, [("i", 0), ("s", 0)], true⟩,
   ⟨0, .simple ⟨8, 10, .fwd⟩, [("i", 0)], true⟩]⟩
/-- the same record with base 2 chosen as the origin (gene 1 now sits at [27,29)) -/
def kfRotated : Rec := ⟨29, true,
  [⟨2, .simple ⟨2, 4, .fwd⟩, [("i", 0), ("s", 0)], true⟩, ⟨0, .simple ⟨6, 8, .fwd⟩, [("i", 0)], true⟩,
   ⟨1, .simple ⟨27, 29, .fwd⟩, [("i", 0)], true⟩]⟩

/-- negation witness (rotation): the inferior chain {1, 2, 0} is dropped on one origin and reported on
    the other, although the superior core (gene 2) covers it on neither -/
theorem superior_removal_depends_on_origin_witness :
    membership kfBase kfRules = some [("sup", [2])] ∧
    membership kfRotated kfRules = some [("sup", [2]), ("inf", [1, 2, 0])] :=
  ⟨by decide +kernel, by decide +kernel⟩

/-- negation witness (sub-selection): on its own the inferior rule reports the chain that disappears
    when the superior rule is listed, although the superior core does not cover it -/
theorem superior_removal_beyond_cover_witness :
    membership kfBase [⟨"inf", 3, 1, .group false [.single false "i"], ["sup"], none⟩] = some [("inf", [1, 2, 0])] ∧
    membership kfBase kfRules = some [("sup", [2])] ∧
    locationContainsOther (.simple ⟨4, 6, .fwd⟩) (.simple ⟨0, 10, .fwd⟩) = false :=
  ⟨by decide +kernel, superior_removal_depends_on_origin_witness.1, by decide +kernel⟩

/-! ## Part 3 — composite statements over the code models on a ring (from C03's and C06's ring theorems) -/

/-- **What "re-indexing" is**: the executable `Rot.rotateLoc` (the transcription of the harness' `rotate_loc`,
    compared with it and with the real `offset_location` on every generated case) holds exactly the bases
    of the location rotated by `-k`, for every location with non-empty parts inside the ring — any number
    of exons, either strand, spanning the old or the new origin — and every cut point. -/
theorem reindexing_is_a_rotation (l : Loc) (k L : Int) (hL : 0 < L) (hk0 : 0 ≤ k) (hkL : k < L) (hok : l.OK L) :
    IsRot L (-k) l (Rot.rotateLoc l k L) :=
  Rot.rotateLoc_isRot l k L hk0 hkL hok

/-- **No chain is reported in two pieces, wherever the origin is** (code model of
    `detect_protoclusters_and_signatures`, end to end through extenders, superiors and both
    `merge_over_origin` calls; C03 `reported_protoclusters_far_apart_ring` unfolded).  On every circular
    record — hence on every re-indexing of it — two reported protoclusters of one rule have no two core bases
    within the rule's cutoff of each other, the shorter way round.  (The seeded change C07_3 — the merged
    entry of `merge_over_origin` keeps the reach of its first partner only — falsifies exactly this: a chain
    A–B–C grown by EXTENDERS ends as A+B and C on some origins.) -/
theorem no_chain_reported_in_two_pieces_any_origin (within : Lookup) (r : Rec) (hcirc : r.circular = true)
    (hL : 0 < r.len) (rules : List RuleM)
    (hrules : ∀ name rule, findRule rules name = .ok rule → 0 ≤ rule.cutoff ∧ rule.cutoff ≤ r.len)
    (hgenes : ∀ g ∈ r.genes, RingIn r.len g.loc) (outs : List Out)
    (h : detectProtoclusters within r rules = .ok outs) :
    (outs.map (·.pc)).Pairwise (fun p q => p.rule = q.rule → ∀ rule, findRule rules p.rule = .ok rule →
      ∀ x y, p.core.mem x = true → q.core.mem y = true → rule.cutoff < ringAbs r.len y x) :=
  (ASV.C03.reported_protoclusters_far_apart_ring within r hcirc hL rules hrules hgenes outs h).2

/-- **Anchoring genes within the cutoff share a protocluster on every origin** (code model of
    `find_protoclusters` + `merge_over_origin`, any circular record): if a base of anchoring gene `g` and a
    base of anchoring gene `h` are within the cutoff of each other (the shorter way round), one merged core
    covers both genes.  The statement quantifies over the record, so it holds for each re-indexing. -/
theorem close_anchors_share_protocluster_every_origin (r : Rec) (hcirc : r.circular = true) (hL : 0 < r.len)
    (rules : List RuleM)
    (hrules : ∀ name rule, findRule rules name = .ok rule → 0 ≤ rule.cutoff ∧ rule.cutoff ≤ r.len)
    (rule : RuleM) (hfind : findRule rules rule.name = .ok rule) (anchors : List Gene)
    (hin : ∀ g ∈ r.genes, anchors.contains g.id = true → RingIn r.len g.loc)
    (found merged : List PC) (hfound : clustersOfRule r rule anchors = .ok found)
    (hmerged : Proto.mergeOverOrigin r rules found = .ok merged)
    (g h : GeneInfo) (hg : g ∈ r.genes) (hh : h ∈ r.genes)
    (ag : anchors.contains g.id = true) (ah : anchors.contains h.id = true)
    (x y : Int) (hx : g.loc.mem x = true) (hy : h.loc.mem y = true) (hxy : ringAbs r.len y x ≤ rule.cutoff) :
    ∃ q ∈ merged, Covers q.core g.loc ∧ Covers q.core h.loc := by
  obtain ⟨_, hcov, hfar⟩ := ASV.C03.ring_chains_not_split_partial r hcirc hL rules hrules rule hfind anchors hin
    found merged hfound hmerged
  obtain ⟨q1, hq1, c1⟩ := hcov g hg ag
  obtain ⟨q2, hq2, c2⟩ := hcov h hh ah
  rcases ASV.pairwise_mem hfar hq1 hq2 with e | hf | hf
  · subst e; exact ⟨q1, hq1, c1, c2⟩
  · exact absurd hf (not_farApart_of_close (c1 x hx) (c2 y hy) hxy)
  · exact absurd hf (not_farApart_of_close (c2 y hy) (c1 x hx) (by rw [ringAbs_comm]; exact hxy))

/-- **The cores of `find_protoclusters` group the same genes on two origins** — `_partial`: both origins
    leave the anchoring genes inside an inner arc for the cutoff (`InnerArc`: the cutoff does not reach the
    origin from any anchor and the arc is at most half the record), i.e. the cut is not within reach of a
    chain.  Then on both records the cores are, one to one, the hulls of the groups of a chain partition, and
    the groups of the re-indexed record are exactly the images of the groups of the original record.
    (Missing for the full statement — cuts through a chain, a core or a gene: that each core of
    `findCores` + `mergeOverOrigin` is *one* chain on an arbitrary ring, `C03.CoresAreChainsRing`.) -/
theorem cores_rotation_invariant_inner_partial (r r' : Rec) (hcirc : r.circular = true) (hcirc' : r'.circular = true)
    (hlen : r'.len = r.len) (c k A B A' B' : Int) (harc : InnerArc r.len c A B) (harc' : InnerArc r.len c A' B')
    (hA : 0 ≤ A) (hA' : 0 ≤ A') (anchors anchors' : List Loc) (f : Loc → Loc) (hne : anchors ≠ [])
    (hperm : anchors'.Perm (anchors.map f))
    (hok : ∀ l ∈ anchors, GeneIn r.len A B l) (hok' : ∀ l ∈ anchors, GeneIn r.len A' B' (f l))
    (hrot : ∀ l ∈ anchors, IsRot r.len k (spanLoc r.len l) (spanLoc r.len (f l))) :
    ∃ (groups groups' : List (List Loc)) (cores cores' : List Loc),
      findCores r c anchors = .ok cores ∧ findCores r' c anchors' = .ok cores' ∧
      Paired (fun core g => ∃ p, core = Loc.simple p ∧
        (∀ m ∈ g, p.lo ≤ m.start ∧ m.end ≤ p.hi) ∧ (∃ m ∈ g, m.start = p.lo) ∧ (∃ m ∈ g, m.end = p.hi)) cores groups ∧
      Paired (fun core g => ∃ p, core = Loc.simple p ∧
        (∀ m ∈ g, p.lo ≤ m.start ∧ m.end ≤ p.hi) ∧ (∃ m ∈ g, m.start = p.lo) ∧ (∃ m ∈ g, m.end = p.hi)) cores' groups' ∧
      (∀ g ∈ groups, ∃ g' ∈ groups', ∀ y, y ∈ g' ↔ ∃ x ∈ g, f x = y) ∧
      (∀ g' ∈ groups', ∃ g ∈ groups, ∀ y, y ∈ g' ↔ ∃ x ∈ g, f x = y) := by
  have hL : 0 < r.len := by
    obtain ⟨a, ha⟩ := List.exists_mem_of_ne_nil anchors hne
    exact harc.Lpos (by have := (hok a ha).lo; have := (hok a ha).hi; have := (hok a ha).ok.start_lt_end; omega)
  have hne' : anchors' ≠ [] := by
    intro e
    rw [e] at hperm
    exact hne (List.map_eq_nil_iff.1 (List.Perm.eq_nil hperm.symm))
  have hok2 : ∀ l ∈ anchors', GeneIn r'.len A' B' l := by
    intro l hl
    obtain ⟨a, ha, rfl⟩ := List.mem_map.1 (hperm.mem_iff.1 hl)
    rw [hlen]; exact hok' a ha
  obtain ⟨groups, cores, hfind, hpart, hpaired⟩ :=
    ASV.C03.cores_are_chains_ring_partial r hcirc c A B harc hA anchors hne hok
  obtain ⟨groups', cores', hfind', hpart', hpaired'⟩ :=
    ASV.C03.cores_are_chains_ring_partial r' hcirc' c A' B' (by rw [hlen]; exact harc') hA' anchors' hne' hok2
  rw [hlen] at hpart'
  exact ⟨groups, groups', cores, cores', hfind, hfind', hpaired, hpaired',
    hpart.images_of_rot id hL f hpart' hperm (fun l hl => ⟨(hok l hl).ok.span_OK, (hok' l hl).ok.span_OK⟩) hrot⟩

/-- **The protoclusters of a rule (cores and neighbourhoods) on two origins** — `_partial` like the
    previous theorem, for `clustersOfRule` (cores by the sweep, then `_extend_area_location` and the
    `Protocluster` constructor): `r'` lists the genes of `r` re-indexed by `fg` (same names, same hits, any
    order), the anchoring genes of the rule are the same names, and on both records they lie in an inner arc
    for the cutoff and for the neighbourhood.  Then both records get their protoclusters, each the hull of a
    group of anchoring genes widened by the neighbourhood on both sides, and the groups of `r'` are exactly
    the images of the groups of `r`. -/
theorem protoclusters_rotation_invariant_inner_partial (r r' : Rec) (hcirc : r.circular = true)
    (hcirc' : r'.circular = true) (hlen : r'.len = r.len) (rule : RuleM) (k A B A' B' : Int)
    (hc : InnerArc r.len rule.cutoff A B) (hn : InnerArc r.len rule.nbhd A B)
    (hc' : InnerArc r.len rule.cutoff A' B') (hn' : InnerArc r.len rule.nbhd A' B') (hA : 0 ≤ A) (hA' : 0 ≤ A')
    (anchors : List Gene) (f : Loc → Loc) (fg : GeneInfo → GeneInfo)
    (hfg : ∀ g, (fg g).id = g.id ∧ (fg g).loc = f g.loc) (hperm : r'.genes.Perm (r.genes.map fg))
    (hne : (r.genes.filter fun g => anchors.contains g.id) ≠ [])
    (hok : ∀ g ∈ r.genes, anchors.contains g.id = true → GeneIn r.len A B g.loc ∧ GeneIn r.len A' B' (f g.loc))
    (hrot : ∀ g ∈ r.genes, anchors.contains g.id = true → IsRot r.len k (spanLoc r.len g.loc) (spanLoc r.len (f g.loc))) :
    ∃ (groups groups' : List (List Loc)) (pcs pcs' : List PC),
      clustersOfRule r rule anchors = .ok pcs ∧ clustersOfRule r' rule anchors = .ok pcs' ∧
      Paired (fun pc g => pc.rule = rule.name ∧ ∃ p, pc.core = Loc.simple p ∧
        (∀ m ∈ g, p.lo ≤ m.start ∧ m.end ≤ p.hi) ∧ (∃ m ∈ g, m.start = p.lo) ∧ (∃ m ∈ g, m.end = p.hi) ∧
        pc.loc = Loc.simple ⟨p.lo - rule.nbhd, p.hi + rule.nbhd, .fwd⟩) pcs groups ∧
      Paired (fun pc g => pc.rule = rule.name ∧ ∃ p, pc.core = Loc.simple p ∧
        (∀ m ∈ g, p.lo ≤ m.start ∧ m.end ≤ p.hi) ∧ (∃ m ∈ g, m.start = p.lo) ∧ (∃ m ∈ g, m.end = p.hi) ∧
        pc.loc = Loc.simple ⟨p.lo - rule.nbhd, p.hi + rule.nbhd, .fwd⟩) pcs' groups' ∧
      (∀ g ∈ groups, ∃ g' ∈ groups', ∀ y, y ∈ g' ↔ ∃ x ∈ g, f x = y) ∧
      (∀ g' ∈ groups', ∃ g ∈ groups, ∀ y, y ∈ g' ↔ ∃ x ∈ g, f x = y) := by
  have hlocs := perm_filter_map_map fg (·.loc) f (fun g => anchors.contains g.id) hperm
    (fun g => by rw [(hfg g).1]) (fun g => (hfg g).2)
  have hne' : (r'.genes.filter fun g => anchors.contains g.id) ≠ [] := by
    intro e
    rw [e] at hlocs
    exact hne (List.map_eq_nil_iff.1 (List.map_eq_nil_iff.1 hlocs.symm.eq_nil))
  have hok2 : ∀ g ∈ r'.genes, anchors.contains g.id = true → GeneIn r'.len A' B' g.loc := by
    intro g hg ha
    obtain ⟨g0, hg0, rfl⟩ := List.mem_map.1 (hperm.mem_iff.1 hg)
    rw [(hfg g0).1] at ha
    rw [(hfg g0).2, hlen]
    exact (hok g0 hg0 ha).2
  obtain ⟨groups, pcs, h1, hpart, hp1⟩ := ASV.C03.protoclusters_of_rule_ring_partial r hcirc rule A B hc hn hA anchors hne
    (fun g hg ha => (hok g hg ha).1)
  obtain ⟨groups', pcs', h2, hpart', hp2⟩ := ASV.C03.protoclusters_of_rule_ring_partial r' hcirc' rule A' B'
    (by rw [hlen]; exact hc') (by rw [hlen]; exact hn') hA' anchors hne' hok2
  rw [hlen] at hpart'
  have hL : 0 < r.len := by
    obtain ⟨a, ha⟩ := List.exists_mem_of_ne_nil _ hne
    obtain ⟨hag, hac⟩ := List.mem_filter.1 ha
    have hh := (hok a hag hac).1
    exact hc.Lpos (by have := hh.lo; have := hh.hi; have := hh.ok.start_lt_end; omega)
  have hmemloc : ∀ l ∈ (r.genes.filter fun g => anchors.contains g.id).map (·.loc),
      GeneIn r.len A B l ∧ GeneIn r.len A' B' (f l) ∧ IsRot r.len k (spanLoc r.len l) (spanLoc r.len (f l)) := by
    intro l hl
    obtain ⟨g, hg, rfl⟩ := List.mem_map.1 hl
    obtain ⟨hgg, hga⟩ := List.mem_filter.1 hg
    exact ⟨(hok g hgg hga).1, (hok g hgg hga).2, hrot g hgg hga⟩
  exact ⟨groups, groups', pcs, pcs', h1, h2, hp1, hp2,
    hpart.images_of_rot id hL f hpart' hlocs
      (fun l hl => ⟨(hmemloc l hl).1.ok.span_OK, (hmemloc l hl).2.1.ok.span_OK⟩) (fun l hl => (hmemloc l hl).2.2)⟩

open ASV.Regions in
/-- **`create_regions` groups the same areas on two origins** — `_partial`: on neither origin does a
    candidate cluster or subregion span the origin (`NoSpanOK`; C06 `regions_are_components_no_origin_span`).
    Then region creation succeeds on both records, each region is the hull of one group of areas, and every
    group of the original record reappears on the re-indexed record with exactly the same area ids.
    (With origin-spanning areas C06 proves "components are never split" and "a region is the shortest cover
    of what it lists", not yet "a region lists one component only"; the harness compares the regions.) -/
theorem regions_rotation_invariant_no_origin_span_partial (s t : State) (hs : NoSpanOK s) (ht : NoSpanOK t)
    (L k : Int) (hL : 0 < L) (hsl : s.len = L) (f : Components.Area → Components.Area)
    (hid : ∀ a, (f a).1 = a.1) (hperm : (areasOf t).Perm ((areasOf s).map f))
    (hrot : ∀ a ∈ areasOf s, IsRot L k a.2 (f a).2) :
    ∃ (s' t' : State) (gs gt : List (List Feat)), createRegions s = .ok s' ∧ createRegions t = .ok t' ∧
      s'.regions.map view = gs.map expectedRegion ∧ t'.regions.map view = gt.map expectedRegion ∧
      ∀ g ∈ gs, ∃ g' ∈ gt, ∀ i, i ∈ g'.map (·.id) ↔ i ∈ g.map (·.id) := by
  obtain ⟨s', gs, h1, _, _, _, hc1, hv1, _⟩ := ASV.C06.regions_are_components_no_origin_span s hs
  obtain ⟨t', gt, h2, _, _, _, hc2, hv2, _⟩ := ASV.C06.regions_are_components_no_origin_span t ht
  have hok : ∀ a ∈ areasOf s, a.2.OK L := by
    intro a ha
    obtain ⟨x, hx, rfl⟩ := List.mem_map.1 ha
    exact hsl ▸ (hs.areas x hx).OK
  have key := region_components_rotation_invariant_spec L k hL (areasOf s) (areasOf t) f _ _ hc1 hc2 hperm hok hrot
  refine ⟨s', t', gs, gt, h1, h2, hv1, hv2, ?_⟩
  intro g hg
  obtain ⟨g'a, hg'a, hiff⟩ := key (g.map toArea) (List.mem_map_of_mem hg)
  obtain ⟨g', hg', rfl⟩ := List.mem_map.1 hg'a
  refine ⟨g', hg', fun i => ?_⟩
  have := Components.mem_map_fst_of_images f hid hiff i
  rw [List.map_map, List.map_map] at this
  exact this

/-! ## Part 4 — the pipeline end to end (`Pipe.run` = C03's detection ∘ C05's formation ∘ C06's regions) -/

theorem late_ok {r : Rec} {ps : List CC.Proto} {cands : List CC.Cand} {regions : List (Loc × List Nat)}
    (h : Pipe.late r ps = .ok (cands, regions)) :
    CC.formation ps r.wrap = .ok cands ∧
    ∃ st', Regions.createRegions (Pipe.stateOf r cands) = .ok st' ∧ regions = st'.regions.map fun f => (f.loc, f.kids) := by
  obtain ⟨cs, h1, h⟩ := bind_ok h
  obtain ⟨st', h2, h⟩ := bind_ok h
  cases h
  exact ⟨h1, st', h2, rfl⟩

theorem pipe_run_ok {r : Rec} {rules : List RuleM} {res : Pipe.Result} (h : Pipe.run r rules = .ok res) :
    detectProtoclusters (withinReal r) r rules = .ok res.outs ∧
    CC.formation (Pipe.toProtos r res.outs) r.wrap = .ok res.cands ∧ res.protos = Pipe.toProtos r res.outs ∧
    Pipe.late r (Pipe.toProtos r res.outs) = .ok (res.cands, res.regions) := by
  obtain ⟨outs, h1, h⟩ := bind_ok h
  obtain ⟨lr, h2, h⟩ := bind_ok h
  cases h
  exact ⟨h1, (late_ok h2).1, rfl, h2⟩

/-- **Whatever the origin, the pipeline's result is sound in the two respects that do not need the ring
    refinement**: whenever the whole pipeline (detection, candidate formation, region creation) returns on a
    circular record, (1) no chain is reported in pieces — two protoclusters of one rule are further apart
    than its cutoff — and (2) every reported protocluster is a member of at least one candidate cluster. -/
theorem pipeline_result_sound_on_every_origin (r : Rec) (hcirc : r.circular = true) (hL : 0 < r.len)
    (rules : List RuleM)
    (hrules : ∀ name rule, findRule rules name = .ok rule → 0 ≤ rule.cutoff ∧ rule.cutoff ≤ r.len)
    (hgenes : ∀ g ∈ r.genes, RingIn r.len g.loc) (res : Pipe.Result) (h : Pipe.run r rules = .ok res) :
    (res.outs.map (·.pc)).Pairwise (fun p q => p.rule = q.rule → ∀ rule, findRule rules p.rule = .ok rule →
      ∀ x y, p.core.mem x = true → q.core.mem y = true → rule.cutoff < ringAbs r.len y x) ∧
    CC.Spec.coversAll res.protos res.cands = true := by
  obtain ⟨h1, h2, h3, _⟩ := pipe_run_ok h
  refine ⟨no_chain_reported_in_two_pieces_any_origin (withinReal r) r hcirc hL rules hrules hgenes res.outs h1, ?_⟩
  rw [h3]
  exact ASV.C05.every_protocluster_in_a_candidate _ _ _ h2

/-! ## Part 5 — sub-selection through `hmm_detection.get_ruleset` (C02's heap model of `Ruleset`) -/

/-- **A rule is the same rule in every sub-selection.**  One process asks `get_ruleset` for a ruleset
    (`q1`: any strictness, taxon, fungal multipliers, restriction) and then for another one that differs in the
    rule-name / category restriction only (`q2`).  Read after both requests — the rule objects are mutable and
    `copy_with_replacements` shares them — every rule that both rulesets hold under one name is identical in
    both: same cutoff, same neighbourhood (each the parsed distance scaled once by the request's
    multipliers), same conditions, superiors and extenders.  So restricting the ruleset cannot change what a
    remaining rule detects.  (`st` is any state reachable by earlier requests, `Rulesets.Inv`; rule names
    identify the parsed rules, which the parser enforces.)  The seeded change C07_1 — multipliers handed to
    `from_files` and inherited by the copy, so a restricted ruleset is scaled twice — falsifies this. -/
theorem subselection_keeps_rule_distances (parsed : String → Except Parser.Err (List Parser.Rule))
    (q1 q2 : Rulesets.Req) (hs : q2.strictness = q1.strictness) (hf : q2.fungi = q1.fungi)
    (hcm : q2.cmul = q1.cmul) (hnm : q2.nmul = q1.nmul)
    (st st1 st2 : Rulesets.State) (rs1 rs2 : Rulesets.RS) (inv : Rulesets.Inv parsed st)
    (h1 : Rulesets.getRuleset parsed q1 st = .ok (rs1, st1))
    (h2 : Rulesets.getRuleset parsed q2 st1 = .ok (rs2, st2))
    (rules : List Parser.Rule) (hp : parsed q1.strictness = .ok rules)
    (hd : ∀ x ∈ rules, ∀ y ∈ rules, x.name = y.name → x = y) :
    ∀ r1 ∈ rs1.read st2.heap, ∀ r2 ∈ rs2.read st2.heap, r1.name = r2.name →
      r1 = r2 ∧ r1.cutoff = r2.cutoff ∧ r1.neighbourhood = r2.neighbourhood := by
  obtain ⟨inv1, ⟨k1, hk1, e1, _, _, f1, t1⟩, _⟩ := Rulesets.getRuleset_inv parsed q1 st st1 rs1 h1 inv
  obtain ⟨inv2, ⟨k2, hk2, e2, _, _, f2, t2⟩, mono⟩ := Rulesets.getRuleset_inv parsed q2 st1 st2 rs2 h2 inv1
  obtain ⟨_, rules1, hp1, hr1, _⟩ := inv2 (k1, rs1) (mono _ hk1)
  obtain ⟨_, rules2, hp2, hr2, _⟩ := inv2 (k2, rs2) hk2
  simp only at hp1 hp2 hr1 hr2
  rw [e1, hp] at hp1
  rw [e2, hs, hp] at hp2
  cases hp1; cases hp2
  have hm : k2.mul = k1.mul := by
    cases hfu : q1.fungi with
    | false => rw [f1 hfu, f2 (by rw [hf]; exact hfu)]
    | true =>
      have a := t1 hfu
      have b := t2 (by rw [hf]; exact hfu)
      rw [hcm, hnm, a] at b
      exact (Except.ok.inj b).symm
  intro r1 hr1' r2 hr2' hn
  rw [hr1] at hr1'
  rw [hr2, hm] at hr2'
  have := Rulesets.wanted_rule_independent rules _ _ _ _ k1.mul hd r1 r2 hr1' hr2' hn
  subst this
  exact ⟨rfl, rfl, rfl⟩

/-- … and for any number of requests in one process, in any order, with repetitions: two rulesets handed
    out for the same strictness and multipliers agree on every rule they both hold (read after the last
    request) -/
theorem rulesets_of_one_process_agree_on_shared_rules (parsed : String → Except Parser.Err (List Parser.Rule))
    (reqs : List Rulesets.Req) (out : List Rulesets.RS) (st : Rulesets.State)
    (h : Rulesets.run parsed reqs {} = .ok (out, st)) :
    ∀ rs1 ∈ out, ∀ rs2 ∈ out, ∃ k1 k2, (k1, rs1) ∈ st.cache ∧ (k2, rs2) ∈ st.cache ∧
      (k1.strictness = k2.strictness → k1.mul = k2.mul → ∀ rules, parsed k1.strictness = .ok rules →
        (∀ x ∈ rules, ∀ y ∈ rules, x.name = y.name → x = y) →
        ∀ r1 ∈ rs1.read st.heap, ∀ r2 ∈ rs2.read st.heap, r1.name = r2.name → r1 = r2) := by
  obtain ⟨_, hall⟩ := ASV.C02.rulesets_scaled_once parsed reqs out st h
  intro rs1 h1 rs2 h2
  obtain ⟨k1, rules1, hk1, hp1, hr1, _⟩ := hall rs1 h1
  obtain ⟨k2, rules2, hk2, hp2, hr2, _⟩ := hall rs2 h2
  refine ⟨k1, k2, hk1, hk2, ?_⟩
  intro hs hm rules hp hd r1 hr1' r2 hr2' hn
  rw [hp] at hp1
  rw [← hs, hp] at hp2
  have e1 : rules1 = rules := (Except.ok.inj hp1).symm
  have e2 : rules2 = rules := (Except.ok.inj hp2).symm
  rw [hr1, e1] at hr1'
  rw [hr2, e2, ← hm] at hr2'
  exact Rulesets.wanted_rule_independent rules _ _ _ _ k1.mul hd r1 r2 hr1' hr2' hn

/-- non-vacuity: fungi, both multipliers 3/2; the whole ruleset, then the restriction to rule `b`: `b` has
    cutoff 30 000 and neighbourhood 7 500 in both (20 kb and 5 kb scaled once), read after both requests -/
example :
    let rule (n : String) (c k : Nat) : Parser.Rule := ⟨n, "cat", c, k, .single false "p", [], [], [], [], none⟩
    let parsed : String → Except Parser.Err (List Parser.Rule) := fun _ => .ok [rule "a" 5000 1000, rule "b" 20000 5000]
    let q : Rulesets.Req := ⟨"relaxed", [], [], true, (3, 2), (3, 2)⟩
    (match Rulesets.run parsed [q, { q with names := ["b"] }] {} with
      | .ok (out, st) => out.map fun rs => (rs.read st.heap).map fun r => (r.name, r.cutoff, r.neighbourhood)
      | .error _ => []) = [[("a", 7500, 1500), ("b", 30000, 7500)], [("b", 30000, 7500)]] := by
  decide +kernel

/-! ## Part 6 — composite statements over the end-to-end model `Pipe.run` -/

/-- everything after detection is a function of the *multiset* of reported protoclusters (C05
    `formation_perm_invariant`: candidate formation returns the same ordered list for every arrangement of
    its input; region creation then starts from that same list) -/
theorem late_stages_ignore_protocluster_order (r : Rec) (ps qs : List CC.Proto) (hp : ps.Perm qs) (hn : ps.Nodup)
    (hk : ∀ a b, a ∈ ps → b ∈ ps → a ≠ b →
      (a.product, a.core.start, a.core.end) ≠ (b.product, b.core.start, b.core.end)) :
    Pipe.late r ps = Pipe.late r qs := by
  simp only [Pipe.late, ASV.C05.formation_perm_invariant ps qs r.wrap hn hk hp]

/-- **Rule order and the whole pipeline** — `_partial`.  Run the pipeline with a ruleset and with any
    re-ordering (or other variant) of it.  *Remaining hypothesis* `hdet`: detection reports the same
    protoclusters, as a multiset (each with its definition domains) — what Part 2 proves stage by stage for the
    anchoring genes, the cores of `find_protoclusters`, the extenders and the superiors step, and for the two
    `merge_over_origin` passes, which group by product, only where the protoclusters of each product stay apart
    (`merge_over_origin_rule_order_invariant_when_apart`).  Then, whenever no two protoclusters share
    product and core (one rule never yields two protoclusters on one core), the candidate clusters are the same
    ordered list and the regions are the same ordered list (locations and member candidates), on linear and
    circular records alike. -/
theorem pipeline_rule_order_invariant_partial (r : Rec) (rules rules' : List RuleM) (res res' : Pipe.Result)
    (h : Pipe.run r rules = .ok res) (h' : Pipe.run r rules' = .ok res')
    (hdet : res.outs.Perm res'.outs)
    (hn : (Pipe.toProtos r res.outs).Nodup)
    (hk : ∀ a b, a ∈ Pipe.toProtos r res.outs → b ∈ Pipe.toProtos r res.outs → a ≠ b →
      (a.product, a.core.start, a.core.end) ≠ (b.product, b.core.start, b.core.end)) :
    res'.cands = res.cands ∧ res'.regions = res.regions ∧ res.protos.Perm res'.protos := by
  obtain ⟨_, _, hp1, hl1⟩ := pipe_run_ok h
  obtain ⟨_, _, hp2, hl2⟩ := pipe_run_ok h'
  have hperm : (Pipe.toProtos r res.outs).Perm (Pipe.toProtos r res'.outs) := hdet.map (Pipe.toProto r)
  rw [late_stages_ignore_protocluster_order r _ _ hperm hn hk, hl2] at hl1
  have e := Except.ok.inj hl1
  refine ⟨(congrArg Prod.fst e), (congrArg Prod.snd e), ?_⟩
  rw [hp1, hp2]
  exact hperm

/-- … and when the two rulesets do report the same protoclusters in the same order (e.g. a ruleset and its
    copy built through the parser), the whole result is the same -/
theorem pipeline_is_function_of_reported_protoclusters (r : Rec) (rules rules' : List RuleM)
    (res res' : Pipe.Result) (h : Pipe.run r rules = .ok res) (h' : Pipe.run r rules' = .ok res')
    (hdet : res'.outs = res.outs) : res'.cands = res.cands ∧ res'.regions = res.regions := by
  obtain ⟨_, _, _, hl1⟩ := pipe_run_ok h
  obtain ⟨_, _, _, hl2⟩ := pipe_run_ok h'
  rw [hdet, hl1] at hl2
  have e := Except.ok.inj hl2
  exact ⟨(congrArg Prod.fst e).symm, (congrArg Prod.snd e).symm⟩

theorem areasOf_stateOf (r : Rec) (cands : List CC.Cand) :
    Regions.areasOf (Pipe.stateOf r cands) = ((cands.map (·.loc)).zipIdx).map fun x => (x.2, x.1) := by
  simp only [Regions.areasOf, Pipe.stateOf, List.append_nil, List.map_map, List.zipIdx_map]
  apply List.map_congr_left
  intro x _
  rfl

open ASV.Regions in
/-- **Origin rotation and the regions of the whole pipeline** — `_partial`.  Run the pipeline on a circular
    record `r` and on a re-indexing `r'` of it.  *Remaining hypothesis* `hform`: detection and candidate
    formation report the same candidate clusters in the same order with rotated extents (for detection this is
    `protoclusters_rotation_invariant_inner_partial` when the anchoring genes stay in an inner arc — a cut away
    from every chain keeps coordinate order — and for formation it is proved pass by pass:
    `neighbouring_groups_rotation_invariant`, C05 `interleaved_groups_are_classes_ring`; the coordinate table of
    `build_candidates` is not composed yet).  If, as in an inner arc, no candidate cluster spans the origin on
    either record, region creation succeeds on both, every region is the hull of one group of candidate
    clusters, and every group of `r` reappears on `r'` with exactly the same candidate clusters. -/
theorem pipeline_regions_rotation_invariant_inner_partial (r r' : Rec) (rules : List RuleM) (res res' : Pipe.Result)
    (h : Pipe.run r rules = .ok res) (h' : Pipe.run r' rules = .ok res')
    (L k : Int) (hL : 0 < L) (hlen : r.len = L) (hlen' : r'.len = L) (rot : Loc → Loc)
    (hform : res'.cands.map (·.loc) = res.cands.map fun c => rot c.loc)
    (hline : ∀ c ∈ res.cands, LineArea L c.loc ∧ LineArea L (rot c.loc))
    (hrot : ∀ c ∈ res.cands, IsRot L k c.loc (rot c.loc)) :
    ∃ (s' t' : State) (gs gt : List (List Feat)),
      createRegions (Pipe.stateOf r res.cands) = .ok s' ∧ createRegions (Pipe.stateOf r' res'.cands) = .ok t' ∧
      res.regions = s'.regions.map (fun f => (f.loc, f.kids)) ∧ res'.regions = t'.regions.map (fun f => (f.loc, f.kids)) ∧
      s'.regions.map view = gs.map expectedRegion ∧ t'.regions.map view = gt.map expectedRegion ∧
      ∀ g ∈ gs, ∃ g' ∈ gt, ∀ i, i ∈ g'.map (·.id) ↔ i ∈ g.map (·.id) := by
  obtain ⟨_, _, _, hl1⟩ := pipe_run_ok h
  obtain ⟨_, _, _, hl2⟩ := pipe_run_ok h'
  obtain ⟨_, s1, hc1, hr1⟩ := late_ok hl1
  obtain ⟨_, t1, hc2, hr2⟩ := late_ok hl2
  have hs : NoSpanOK (Pipe.stateOf r res.cands) := Pipe.noSpanOK_stateOf fun c hc => hlen ▸ (hline c hc).1
  have ht : NoSpanOK (Pipe.stateOf r' res'.cands) := by
    refine Pipe.noSpanOK_stateOf fun c' hc' => ?_
    have hm := List.mem_map_of_mem (f := (·.loc)) hc'
    rw [hform] at hm
    obtain ⟨c, hc, e⟩ := List.mem_map.1 hm
    rw [← e, hlen']
    exact (hline c hc).2
  have hperm : (areasOf (Pipe.stateOf r' res'.cands)).Perm
      ((areasOf (Pipe.stateOf r res.cands)).map fun a => (a.1, rot a.2)) := by
    rw [areasOf_stateOf, areasOf_stateOf, hform]
    have : (res.cands.map fun c => rot c.loc) = (res.cands.map (·.loc)).map rot := by rw [List.map_map]; rfl
    rw [this, List.zipIdx_map, List.map_map, List.map_map]
    exact List.Perm.refl _
  have hrot' : ∀ a ∈ areasOf (Pipe.stateOf r res.cands), IsRot L k a.2 (rot a.2) := by
    intro a ha
    obtain ⟨f, hf, rfl⟩ := List.mem_map.1 ha
    obtain ⟨c, hc, e⟩ := Pipe.stateOf_feat_loc hf
    show IsRot L k f.loc (rot f.loc)
    rw [e]
    exact hrot c hc
  obtain ⟨s', t', gs, gt, e1, e2, v1, v2, hall⟩ := regions_rotation_invariant_no_origin_span_partial
    (Pipe.stateOf r res.cands) (Pipe.stateOf r' res'.cands) hs ht L k hL hlen (fun a => (a.1, rot a.2))
    (fun _ => rfl) hperm hrot'
  rw [hc1] at e1
  rw [hc2] at e2
  have es := Except.ok.inj e1
  have et := Except.ok.inj e2
  subst es; subst et
  exact ⟨_, _, gs, gt, hc1, hc2, hr1, hr2, v1, v2, hall⟩

/-- non-vacuity of `no_chain_reported_in_two_pieces_any_origin` and of the extender path through
    `merge_over_origin`: the three extended cores A+e1, e1+B+e2, e2+C are merged into one protocluster on
    the original origin and with the origin inside the chain (the merged core then spans the origin) -/
theorem extender_chain_is_one_protocluster_on_both_origins :
    membership chainRec chainRules = some [("R", [0, 1, 2, 3, 4]), ("Q", [5])] ∧
    membership chainRecCut chainRules = some [("R", [0, 1, 2, 3, 4]), ("Q", [5])] :=
  ⟨chainRec_runs.1, chainRecCut_runs.1⟩

/-- … and the whole pipeline returns on both origins with one candidate cluster per protocluster and the
    same two regions (by member genes) -/
example : ((Pipe.run chainRec chainRules).toOption.map fun res =>
      (res.cands.map (·.members.map (·.product)), res.regions.map fun x => Pipe.genesIn chainRec x.1)) =
    some ([["R"], ["Q"]], [[0, 1, 2, 3, 4], [5]]) := chainRec_runs.2
example : ((Pipe.run chainRecCut chainRules).toOption.map fun res =>
      (res.cands.map (·.members.map (·.product)), res.regions.map fun x => Pipe.genesIn chainRecCut x.1)) =
    some ([["R"], ["Q"]], [[3, 4, 0, 1, 2], [5]]) := chainRecCut_runs.2

/-! ### non-vacuity -/

/-- the property's own example (D1's layout, repaired code): ring of 100 kb, gene `a` 5 kb before the
    origin … gene `b` 3 kb after it, rules `a and b` with cutoffs 20 kb, 2 kb, 20 kb in that order -/
def d1Rec : Rec := ⟨100000, true,
  [⟨1, .simple ⟨3000, 4000, .fwd⟩, [("b", 0)], true⟩, ⟨0, .simple ⟨95000, 96000, .fwd⟩, [("a", 0)], true⟩]⟩
def d1Rule (name : String) (cutoff : Int) : RuleM :=
  ⟨name, cutoff, 1000, .group false [.conj [.single false "a", .single false "b"]], [], none⟩
def d1Rules : List RuleM := [d1Rule "r1" 20000, d1Rule "r2" 2000, d1Rule "r3" 20000]

/-- both 20 kb rules find the pair across the origin, in this order and with the 2 kb rule removed or moved -/
example : (ruleResults (withinSpec d1Rec) d1Rec d1Rules).toOption.map
    (fun res => (hitsFor res "r1", hitsFor res "r2", hitsFor res "r3")) = some ([1, 0, 0, 1], [], [1, 0, 0, 1]) := by
  decide +kernel
example : (ruleResults (withinSpec d1Rec) d1Rec [d1Rule "r2" 2000, d1Rule "r3" 20000, d1Rule "r1" 20000]).toOption.map
    (fun res => (hitsFor res "r1", hitsFor res "r2", hitsFor res "r3")) = some ([1, 0, 0, 1], [], [1, 0, 0, 1]) := by
  decide +kernel
example : NamesDistinct d1Rules := by
  intro x hx y hy
  simp only [d1Rules, List.mem_cons, List.mem_nil_iff, or_false] at hx hy
  rcases hx with rfl | rfl | rfl <;> rcases hy with rfl | rfl | rfl <;> simp [d1Rule]

/-- the rotation hypotheses are satisfiable with a cut through a gene: [8,12) on a ring of 20 re-indexed
    by +10 becomes join{[18,20),[0,2)}; its span is itself -/
example : IsRot 20 10 (.simple ⟨8, 12, .fwd⟩) (areaTwo 18 2 20 .fwd) := by
  obtain ⟨r, hr, h⟩ := offset_is_rotation_simple ⟨8, 12, .fwd⟩ 10 20 (by decide) (by decide) (by decide) (by decide)
  have e : offsetLocation (.simple ⟨8, 12, .fwd⟩) 10 20 = .ok (areaTwo 18 2 20 .fwd) := rfl
  rw [e] at hr
  cases hr
  exact h
example : nearB 20 3 (areaTwo 18 2 20 .fwd) (.simple ⟨4, 6, .fwd⟩) = true ∧ nearB 20 2 (areaTwo 18 2 20 .fwd) (.simple ⟨4, 6, .fwd⟩) = false := by
  decide +kernel

/-- non-vacuity of `pipeline_rule_order_invariant_partial` on D1's layout: the two orders of the ruleset
    report the two protoclusters in different orders (by rule); the pipeline returns, and the candidate
    clusters (one chemical hybrid of both) and the regions are the same lists -/
example :
    let late := fun (res : Pipe.Result) => (res.cands.map (fun c => (c.members.map (·.product), c.loc)), res.regions)
    let a := Pipe.run d1Rec [d1Rule "r1" 20000, d1Rule "r3" 20000]
    let b := Pipe.run d1Rec [d1Rule "r3" 20000, d1Rule "r1" 20000]
    (a.toOption.map late).isSome = true ∧ a.toOption.map late = b.toOption.map late ∧
    a.toOption.map (fun res => res.outs.map (·.pc.rule)) = some ["r1", "r3"] ∧
    b.toOption.map (fun res => res.outs.map (·.pc.rule)) = some ["r3", "r1"] ∧
    a.toOption.map (fun res => res.cands.map (·.members.map (·.product))) = some [["r1", "r3"]] := by
  decide +kernel

/-- non-vacuity of `first_loop_rule_order_invariant` on D1's layout: the loop forms one protocluster per
    20 kb rule, listed in the order of the rules -/
example :
    let run := fun (rules : List RuleM) =>
      (ruleResults (withinSpec d1Rec) d1Rec rules).toOption.bind fun res =>
        (foundOf d1Rec rules res).toOption.map fun f => f.flatten.map (·.rule)
    run [d1Rule "r1" 20000, d1Rule "r2" 2000, d1Rule "r3" 20000] = some ["r1", "r3"] ∧
    run [d1Rule "r3" 20000, d1Rule "r1" 20000, d1Rule "r2" 2000] = some ["r3", "r1"] := by
  decide +kernel

/-- non-vacuity of `merge_loop_is_identity_when_apart`: two protoclusters of one rule, cores [50,60) and
    [10,20), cutoff-extended by 5: apart; the loop returns them sorted by start -/
example :
    let g : List (PC × Loc) :=
      [(⟨"r", .simple ⟨50, 60, .fwd⟩, .simple ⟨45, 65, .fwd⟩⟩, .simple ⟨45, 65, .fwd⟩),
       (⟨"r", .simple ⟨10, 20, .fwd⟩, .simple ⟨5, 25, .fwd⟩⟩, .simple ⟨5, 25, .fwd⟩)]
    Apart g ∧ (sortByStart g).map (·.1.core) = [.simple ⟨10, 20, .fwd⟩, .simple ⟨50, 60, .fwd⟩] := by
  refine ⟨?_, by decide +kernel⟩
  refine List.Pairwise.cons ?_ (List.Pairwise.cons (fun _ h => by cases h) List.Pairwise.nil)
  intro y hy
  simp only [List.mem_singleton] at hy
  subst hy
  exact ⟨by decide +kernel, by decide +kernel⟩

/-- non-vacuity of `merge_over_origin_is_identity_up_to_order_when_apart`: two protoclusters of rule `r1`
    (cutoff 20 kb) 40 kb apart and one of `r2` on a linear record come back grouped by product, sorted by start -/
example :
    let rec0 : Rec := ⟨200000, false, []⟩
    let rules := [d1Rule "r1" 20000, d1Rule "r2" 2000]
    let pc := fun (n : String) (lo hi : Int) => (⟨n, .simple ⟨lo, hi, .fwd⟩, .simple ⟨lo - 1000, hi + 1000, .fwd⟩⟩ : PC)
    ((Proto.mergeOverOrigin rec0 rules [pc "r1" 90000 91000, pc "r2" 10000 11000, pc "r1" 49000 50000]).toOption.map
      fun l => l.map fun p => (p.rule, p.core.start)) = some [("r1", 49000), ("r1", 90000), ("r2", 10000)] := by
  decide +kernel

end ASV.C07
