/-
  C03 — protoclusters are the maximal cutoff-chains of a rule's anchoring genes.
  Property theorems only; helper lemmas live in the ASV/Proofs modules imported below.

  Guards.  `GeneOK len l`: the gene has at least one exon, its exons are in order (it does not
  bridge the origin), every exon is non-empty and inside the record — what `Record.add_cds_feature`
  / `ensure_valid_locations` give for every CDS of a linear record.
  The chain relation is `nearB L c a b`: the two genes, read as spans, share a base or have fewer
  than `c` bases strictly between them (the shorter way round on a ring).
-/
import ASV.Proofs.ProtoRules
import ASV.Proofs.Components
import ASV.Proofs.ProtoExtend
import ASV.Proofs.ProtoRingSep
import ASV.Proofs.ProtoRingFinal
import ASV.Proofs.ProtoExtendRing
import ASV.Proofs.ProtoRingWide
import ASV.Proofs.ProtoRingTwo
namespace ASV.C03
open ASV ASV.Rules ASV.Proto ASV.Chains ASV.ChainSweep

/-- **Cores are the maximal chains (linear record).**  For every linear record, every cutoff ≥ 0 and
    every non-empty set of anchoring genes, `find_protoclusters`' core computation succeeds and its
    cores correspond one to one, in order, to groups of anchoring genes such that
      * the groups partition the anchoring genes: every anchoring gene lies in exactly one group and
        no group (hence no core) is without one;
      * inside a group any two genes are linked by steps of the chain relation (neighbouring genes
        separated by less than the cutoff);
      * no gene of one group is within the cutoff of a gene of another (the groups are maximal);
      * each core is a single span, the smallest one covering its group: it starts at the least start
        and ends at the greatest end of the group's genes. -/
theorem cores_are_chains_linear (r : Rec) (hlin : r.circular = false) (c : Int) (hc : 0 ≤ c)
    (anchors : List Loc) (hne : anchors ≠ []) (hok : ∀ l ∈ anchors, GeneOK r.len l) :
    ∃ (groups : List (List Loc)) (cores : List Loc),
      findCores r c anchors = .ok cores ∧
      IsChainPartition (fun a b => nearB 0 c a b = true) anchors groups ∧
      Paired (fun core g => ∃ p, core = Loc.simple p ∧
        (∀ m ∈ g, p.lo ≤ m.start ∧ m.end ≤ p.hi) ∧ (∃ m ∈ g, m.start = p.lo) ∧ (∃ m ∈ g, m.end = p.hi))
        cores groups := by
  obtain ⟨groups, cores, hfind, hpart, hpaired, _⟩ := cores_are_chains_of_arc r c 0 r.len hc (arcOps_line r hlin c hc)
    (fun a b => nearB 0 c a b = true) anchors hne (fun l hl => (hok l hl).geneIn)
    (fun a ha b hb => nearB_line_iff r.len c hc a b (hok a ha) (hok b hb))
  exact ⟨groups, cores, hfind, hpart, hpaired⟩

/-- the chain computation the executable spec (and the driver) uses yields a chain partition, for
    every relation and every list -/
theorem spec_components_are_chains {α : Type} (rel : α → α → Bool) (xs : List α) :
    IsChainPartition (fun a b => rel a b = true) xs (components rel xs) :=
  components_isChainPartition rel xs

/-- chain partitions are unique: two of them have the same groups (as sets of members) -/
theorem chains_unique {α : Type} {rel : α → α → Prop} {xs : List α} {G G' : List (List α)}
    (h : IsChainPartition rel xs G) (h' : IsChainPartition rel xs G') :
    ∀ g ∈ G, ∃ g' ∈ G', ∀ x, x ∈ g ↔ x ∈ g' :=
  chain_partition_unique h h'

/-- hence, on a linear record, the groups behind the cores of `find_protoclusters` are exactly the
    chains `Chains.components (nearB 0 cutoff)` computes from the anchoring genes — the very
    definition the driver evaluates on the implementation's output — and vice versa -/
theorem cores_match_spec_chains (r : Rec) (hlin : r.circular = false) (c : Int) (hc : 0 ≤ c)
    (anchors : List Loc) (hne : anchors ≠ []) (hok : ∀ l ∈ anchors, GeneOK r.len l) :
    ∃ (groups : List (List Loc)) (cores : List Loc),
      findCores r c anchors = .ok cores ∧
      Paired (fun core g => ∃ p, core = Loc.simple p ∧
        (∀ m ∈ g, p.lo ≤ m.start ∧ m.end ≤ p.hi) ∧ (∃ m ∈ g, m.start = p.lo) ∧ (∃ m ∈ g, m.end = p.hi))
        cores groups ∧
      (∀ g ∈ groups, ∃ k ∈ components (nearB 0 c) anchors, ∀ x, x ∈ g ↔ x ∈ k) ∧
      (∀ k ∈ components (nearB 0 c) anchors, ∃ g ∈ groups, ∀ x, x ∈ k ↔ x ∈ g) := by
  obtain ⟨groups, cores, hfind, hpart, hpaired⟩ := cores_are_chains_linear r hlin c hc anchors hne hok
  have hspec := components_isChainPartition (nearB 0 c) anchors
  exact ⟨groups, cores, hfind, hpaired, chain_partition_unique hpart hspec, chain_partition_unique hspec hpart⟩

/-- **Neighbourhood (linear record).**  The protocluster of a single-span core is that core widened by
    the neighbourhood on both sides, clipped at both record ends: it covers exactly the bases of the
    record within the neighbourhood distance of a base of the core. -/
theorem neighbourhood_linear_exact (r : Rec) (hlin : r.circular = false) (p : Part) (d : Int) (force : Bool)
    (h0 : 0 ≤ p.lo) (h1 : p.lo < p.hi) (h2 : p.hi ≤ r.len) (hd : 0 ≤ d) :
    ∃ q, extendArea r (.simple p) d force = .ok q ∧
      ∀ i, q.mem i = true ↔ (0 ≤ i ∧ i < r.len ∧ ∃ j, p.mem j = true ∧ iabs (i - j) ≤ d) :=
  ⟨_, extendArea_line r hlin p d force,
    extend_simple_line_mem ⟨p.lo, p.hi, .fwd⟩ d r.len h0 h1 h2 hd⟩

/-- **The protoclusters of a rule (linear record)** — the first three sentences of the property for
    every linear record: the protoclusters formed for a rule from its anchoring genes are, one to one
    and in order, the maximal chains of those genes (`cores_are_chains_linear`); each core is the
    smallest span covering its chain; each protocluster is its core widened by the rule's
    neighbourhood, clipped at the record ends. -/
theorem protoclusters_of_rule_linear (r : Rec) (hlin : r.circular = false) (rule : RuleM)
    (hc : 0 ≤ rule.cutoff) (hn : 0 ≤ rule.nbhd) (anchors : List Gene)
    (hne : (r.genes.filter fun g => anchors.contains g.id) ≠ [])
    (hok : ∀ g ∈ r.genes, anchors.contains g.id = true → GeneOK r.len g.loc) :
    ∃ (groups : List (List Loc)) (pcs : List PC),
      clustersOfRule r rule anchors = .ok pcs ∧
      IsChainPartition (fun a b => nearB 0 rule.cutoff a b = true)
        ((r.genes.filter fun g => anchors.contains g.id).map (·.loc)) groups ∧
      Paired (fun pc g => pc.rule = rule.name ∧ ∃ p, pc.core = Loc.simple p ∧
        (∀ m ∈ g, p.lo ≤ m.start ∧ m.end ≤ p.hi) ∧ (∃ m ∈ g, m.start = p.lo) ∧ (∃ m ∈ g, m.end = p.hi) ∧
        pc.loc = Loc.simple ⟨max 0 (p.lo - rule.nbhd), min (p.hi + rule.nbhd) r.len, .fwd⟩)
        pcs groups := by
  have hok' := forall_anchor_locs r anchors hok
  obtain ⟨groups, cores, hfind, hpart, hpaired⟩ :=
    cores_are_chains_linear r hlin rule.cutoff hc _ (fun h => hne (List.map_eq_nil_iff.1 h)) hok'
  refine Exists.elim (clustersOfRule_paired r rule anchors hfind hpaired ?_) fun pcs h => ⟨groups, pcs, h.1, hpart, h.2⟩
  rintro core g ⟨p, rfl, hull⟩ hg
  obtain ⟨b0, b1, b2⟩ := HullOf.bounds ⟨p, rfl, hull⟩ fun m hm => (hok' m (hpart.mem_of_mem_group hg hm)).geneIn
  obtain ⟨hW, hm⟩ := protocluster_line r hlin rule.name p rule.nbhd b0 b1 b2 hn
  exact ⟨_, hW, hm, rfl, p, rfl, hull.1, hull.2.1, hull.2.2, rfl⟩

/-! ### circular records

  `InnerArc L d A B`: the arc `[A, B)` of the ring of length `L` keeps the distance `d` from the origin
  on both sides (`d ≤ A`, `B + d ≤ L`) and spans at most half of the ring (`2·(B − A) ≤ L`).
  `GeneIn L A B l`: `GeneOK` and the gene lies in `[A, B)`.  Under these hypotheses no window wraps, the
  cap of `_extend_area_location` does not bite and `connect_locations` never goes over the origin.
  The full statements (any position on the ring, origin-spanning anchors, chains closing over the origin
  through `merge_over_origin`) are `def`s below; what is missing for them is said in design/C03.md. -/

/-- the full ring statement (not proved): on every circular record the cores after
    `clustersOfRule` + `mergeOverOrigin` correspond to the maximal chains of the ring relation -/
def CoresAreChainsRing : Prop :=
  ∀ (r : Rec) (rules : List RuleM) (rule : RuleM) (anchors : List Gene), r.circular = true → rule ∈ rules →
    0 ≤ rule.cutoff → 0 ≤ rule.nbhd →
    (∀ g ∈ r.genes, g.loc.parts ≠ [] ∧ g.loc.Inside r.len) →
    ∃ found merged groups, clustersOfRule r rule anchors = .ok found ∧ Proto.mergeOverOrigin r rules found = .ok merged ∧
      IsChainPartition (fun a b => nearB r.len rule.cutoff a b = true)
        ((r.genes.filter fun g => anchors.contains g.id).map (·.loc)) groups ∧
      Paired (fun (pc : PC) g => ∀ m ∈ g, ∀ i, (spanLoc r.len m).mem i = true → pc.core.mem i = true) merged groups

/-- **Cores are the maximal chains (circular record, anchors in an inner arc)** — `_partial`: proved
    for anchoring genes inside an `InnerArc` for the rule's cutoff.  The chain relation is the *ring*
    relation `nearB r.len cutoff` (shorter way round); the conclusion is that of `cores_are_chains_linear`. -/
theorem cores_are_chains_ring_partial (r : Rec) (hcirc : r.circular = true) (c A B : Int)
    (harc : InnerArc r.len c A B) (hA : 0 ≤ A) (anchors : List Loc) (hne : anchors ≠ [])
    (hok : ∀ l ∈ anchors, GeneIn r.len A B l) :
    ∃ (groups : List (List Loc)) (cores : List Loc),
      findCores r c anchors = .ok cores ∧
      IsChainPartition (fun a b => nearB r.len c a b = true) anchors groups ∧
      Paired (fun core g => ∃ p, core = Loc.simple p ∧
        (∀ m ∈ g, p.lo ≤ m.start ∧ m.end ≤ p.hi) ∧ (∃ m ∈ g, m.start = p.lo) ∧ (∃ m ∈ g, m.end = p.hi))
        cores groups := by
  obtain ⟨groups, cores, hfind, hpart, hpaired, _⟩ := cores_are_chains_of_arc r c A B harc.dpos
    (arcOps_ring_wide r hcirc c A B (harc.wide hA)) (fun a b => nearB r.len c a b = true) anchors hne hok
    (fun a ha b hb => nearB_ring_wide_iff r.len c A B (harc.wide hA) a b (hok a ha) (hok b hb))
  exact ⟨groups, cores, hfind, hpart, hpaired⟩

/-- **The protoclusters of a rule (circular record, anchors in an inner arc)** — `_partial`: the arc keeps
    both the cutoff and the neighbourhood away from the origin.  Protoclusters ↔ maximal chains of the
    ring relation, core = smallest span, location = core widened by the neighbourhood on both sides. -/
theorem protoclusters_of_rule_ring_partial (r : Rec) (hcirc : r.circular = true) (rule : RuleM) (A B : Int)
    (harcC : InnerArc r.len rule.cutoff A B) (harcN : InnerArc r.len rule.nbhd A B) (hA : 0 ≤ A)
    (anchors : List Gene) (hne : (r.genes.filter fun g => anchors.contains g.id) ≠ [])
    (hok : ∀ g ∈ r.genes, anchors.contains g.id = true → GeneIn r.len A B g.loc) :
    ∃ (groups : List (List Loc)) (pcs : List PC),
      clustersOfRule r rule anchors = .ok pcs ∧
      IsChainPartition (fun a b => nearB r.len rule.cutoff a b = true)
        ((r.genes.filter fun g => anchors.contains g.id).map (·.loc)) groups ∧
      Paired (fun pc g => pc.rule = rule.name ∧ ∃ p, pc.core = Loc.simple p ∧
        (∀ m ∈ g, p.lo ≤ m.start ∧ m.end ≤ p.hi) ∧ (∃ m ∈ g, m.start = p.lo) ∧ (∃ m ∈ g, m.end = p.hi) ∧
        pc.loc = Loc.simple ⟨p.lo - rule.nbhd, p.hi + rule.nbhd, .fwd⟩)
        pcs groups := by
  have hok' := forall_anchor_locs r anchors hok
  obtain ⟨groups, cores, hfind, hpart, hpaired⟩ :=
    cores_are_chains_ring_partial r hcirc rule.cutoff A B harcC hA _ (fun h => hne (List.map_eq_nil_iff.1 h)) hok'
  refine Exists.elim (clustersOfRule_paired r rule anchors hfind hpaired ?_) fun pcs h => ⟨groups, pcs, h.1, hpart, h.2⟩
  rintro core g ⟨p, rfl, hull⟩ hg
  obtain ⟨b0, b1, b2⟩ := HullOf.bounds ⟨p, rfl, hull⟩ fun m hm => hok' m (hpart.mem_of_mem_group hg hm)
  obtain ⟨hW, hm⟩ := protocluster_ring_inner r hcirc A B rule.nbhd harcN rule.name p b0 b1 b2
  exact ⟨_, hW, hm, rfl, p, rfl, hull.1, hull.2.1, hull.2.2, rfl⟩

/-- **Cores are the maximal chains (circular record, anchors in a wide arc)** — `_partial`, but with a much
    weaker hypothesis than `cores_are_chains_ring_partial`: `WideArc L c A B` only asks that the arc `[A, B)`
    lies in the record, that arc and cutoff together fit into it (`(B − A) + c ≤ L`) and that the arc is at
    most half of it.  The arc may touch the origin on either side, the cutoff window of a core may wrap over
    the origin or be capped to the whole record; only a chain that itself crosses the origin (or an
    origin-spanning anchor) is still excluded.  Chain relation: the ring relation `nearB r.len c`. -/
theorem cores_are_chains_ring_wide_partial (r : Rec) (hcirc : r.circular = true) (c A B : Int)
    (harc : WideArc r.len c A B) (anchors : List Loc) (hne : anchors ≠ [])
    (hok : ∀ l ∈ anchors, GeneIn r.len A B l) :
    ∃ (groups : List (List Loc)) (cores : List Loc),
      findCores r c anchors = .ok cores ∧
      IsChainPartition (fun a b => nearB r.len c a b = true) anchors groups ∧
      Paired (fun core g => ∃ p, core = Loc.simple p ∧
        (∀ m ∈ g, p.lo ≤ m.start ∧ m.end ≤ p.hi) ∧ (∃ m ∈ g, m.start = p.lo) ∧ (∃ m ∈ g, m.end = p.hi))
        cores groups := by
  obtain ⟨groups, cores, hfind, hpart, hpaired, _⟩ := cores_are_chains_of_arc r c A B harc.cpos
    (arcOps_ring_wide r hcirc c A B harc) (fun a b => nearB r.len c a b = true) anchors hne hok
    (fun a ha b hb => nearB_ring_wide_iff r.len c A B harc a b (hok a ha) (hok b hb))
  exact ⟨groups, cores, hfind, hpart, hpaired⟩

/-- … and consecutive cores are at least the cutoff apart as spans: every later core starts at least `c`
    positions after every earlier core ends (linear record, and circular record with the anchors in a wide
    arc) — the separation `merge_over_origin` relies on to leave them alone -/
theorem cores_apart_linear (r : Rec) (hlin : r.circular = false) (c : Int) (hc : 0 ≤ c)
    (anchors : List Loc) (hne : anchors ≠ []) (hok : ∀ l ∈ anchors, GeneOK r.len l) :
    ∃ cores, findCores r c anchors = .ok cores ∧ cores.Pairwise (fun a b => a.end + c ≤ b.start) := by
  obtain ⟨_, cores, hfind, _, _, hapart⟩ := cores_are_chains_of_arc r c 0 r.len hc (arcOps_line r hlin c hc)
    (fun a b => nearB 0 c a b = true) anchors hne (fun l hl => (hok l hl).geneIn)
    (fun a ha b hb => nearB_line_iff r.len c hc a b (hok a ha) (hok b hb))
  exact ⟨cores, hfind, hapart⟩

theorem cores_apart_ring_wide_partial (r : Rec) (hcirc : r.circular = true) (c A B : Int)
    (harc : WideArc r.len c A B) (anchors : List Loc) (hne : anchors ≠ [])
    (hok : ∀ l ∈ anchors, GeneIn r.len A B l) :
    ∃ cores, findCores r c anchors = .ok cores ∧ cores.Pairwise (fun a b => a.end + c ≤ b.start) := by
  obtain ⟨_, cores, hfind, _, _, hapart⟩ := cores_are_chains_of_arc r c A B harc.cpos
    (arcOps_ring_wide r hcirc c A B harc) (fun a b => nearB r.len c a b = true) anchors hne hok
    (fun a ha b hb => nearB_ring_wide_iff r.len c A B harc a b (hok a ha) (hok b hb))
  exact ⟨cores, hfind, hapart⟩

/-- **The protoclusters of a rule (circular record, anchors in a wide arc)** — `_partial` only through
    `WideArc` for the *cutoff*; the neighbourhood is any non-negative distance: the location is
    `_extend_area_location`'s closed form — the core widened by `min(nbhd, (L − len)/2 + 1)` on both sides,
    wrapped over the origin or the whole record when the two ends meet — a well-formed area containing
    exactly the bases within that distance of the core, the shorter way round. -/
theorem protoclusters_of_rule_ring_wide_partial (r : Rec) (hcirc : r.circular = true) (rule : RuleM) (A B : Int)
    (harc : WideArc r.len rule.cutoff A B) (hn : 0 ≤ rule.nbhd)
    (anchors : List Gene) (hne : (r.genes.filter fun g => anchors.contains g.id) ≠ [])
    (hok : ∀ g ∈ r.genes, anchors.contains g.id = true → GeneIn r.len A B g.loc) :
    ∃ (groups : List (List Loc)) (pcs : List PC),
      clustersOfRule r rule anchors = .ok pcs ∧
      IsChainPartition (fun a b => nearB r.len rule.cutoff a b = true)
        ((r.genes.filter fun g => anchors.contains g.id).map (·.loc)) groups ∧
      Paired (fun pc g => pc.rule = rule.name ∧ ∃ p, pc.core = Loc.simple p ∧
        (∀ m ∈ g, p.lo ≤ m.start ∧ m.end ≤ p.hi) ∧ (∃ m ∈ g, m.start = p.lo) ∧ (∃ m ∈ g, m.end = p.hi) ∧
        RingArea r.len pc.loc ∧
        ∀ i, pc.loc.mem i = true ↔ (0 ≤ i ∧ i < r.len ∧ ∃ j, p.mem j = true ∧
          ringAbs r.len i j ≤ min rule.nbhd ((r.len - (p.hi - p.lo)) / 2 + 1)))
        pcs groups := by
  have hok' := forall_anchor_locs r anchors hok
  obtain ⟨groups, cores, hfind, hpart, hpaired⟩ :=
    cores_are_chains_ring_wide_partial r hcirc rule.cutoff A B harc _ (fun h => hne (List.map_eq_nil_iff.1 h)) hok'
  refine Exists.elim (clustersOfRule_paired r rule anchors hfind hpaired ?_) fun pcs h => ⟨groups, pcs, h.1, hpart, h.2⟩
  rintro core g ⟨p, rfl, hull⟩ hg
  obtain ⟨b0, b1, b2⟩ := HullOf.bounds ⟨p, rfl, hull⟩ fun m hm => hok' m (hpart.mem_of_mem_group hg hm)
  have hlo := harc.lo; have hhi := harc.hi
  obtain ⟨W, hW, hm, harea, hmem⟩ := protocluster_ring_simple r hcirc rule.name p rule.nbhd (by omega) b1 (by omega) hn
  exact ⟨W, hW, hm, rfl, p, rfl, hull.1, hull.2.1, hull.2.2, harea, hmem⟩

/-- **`merge_over_origin` leaves the wide-arc protoclusters alone** — so `protoclusters_of_rule_ring_wide_partial`
    speaks about what comes out of the merge stage as well: for anchoring genes in a wide arc of a circular
    record, the protoclusters of the rule are formed as stated there, and `merge_over_origin` applied to them
    returns exactly these protoclusters (a permutation: it sorts them by the start of the cutoff-widened core). -/
theorem merge_is_identity_ring_wide_partial (r : Rec) (hcirc : r.circular = true) (rules : List RuleM) (rule : RuleM)
    (hfind : findRule rules rule.name = .ok rule) (A B : Int)
    (harc : WideArc r.len rule.cutoff A B) (hn : 0 ≤ rule.nbhd)
    (anchors : List Gene) (hne : (r.genes.filter fun g => anchors.contains g.id) ≠ [])
    (hok : ∀ g ∈ r.genes, anchors.contains g.id = true → GeneIn r.len A B g.loc) :
    ∃ (pcs merged : List PC),
      clustersOfRule r rule anchors = .ok pcs ∧
      Proto.mergeOverOrigin r rules pcs = .ok merged ∧ merged.Perm pcs := by
  obtain ⟨groups, pcs, hpcs, hpart, hpaired⟩ :=
    protoclusters_of_rule_ring_wide_partial r hcirc rule A B harc hn anchors hne hok
  have hok' := forall_anchor_locs r anchors hok
  -- every core is a single span inside the arc
  have hin : ∀ pc ∈ pcs, CoreIn A B rule.name pc := by
    intro pc hpc
    obtain ⟨g, hg, hname, p, hp, hcov, hlo, hhi, _⟩ := hpaired.exists_right pc hpc
    exact ⟨hname, p, hp, HullOf.bounds ⟨p, rfl, hcov, hlo, hhi⟩ fun m hm => hok' m (hpart.mem_of_mem_group hg hm)⟩
  -- and the cores are at least the cutoff apart
  obtain ⟨cores, hcores, hapart⟩ := cores_apart_ring_wide_partial r hcirc rule.cutoff A B harc _ (fun h => hne (List.map_eq_nil_iff.1 h)) hok'
  have hc2 := clustersOfRule_cores r rule anchors pcs hpcs
  rw [hcores] at hc2
  simp only [Except.ok.injEq] at hc2
  subst hc2
  rw [List.pairwise_map] at hapart
  obtain ⟨merged, hm, hperm⟩ := mergeOverOrigin_id_wide r hcirc rules rule hfind A B harc pcs hin
    (hapart.imp (fun h => Or.inl h))
  exact ⟨pcs, merged, hpcs, hm, hperm⟩

/-- **The cutoff window of an origin-spanning core** (lemma (i) of the missing list, for two-part cores).  On a
    circular record, for a core `[x, L) + [0, y)` (`0 < y ≤ x < L`, forward strand — the shape
    `connect_locations` returns) and any distance `c ≥ 0`: `_extend_area_location(core, c)` succeeds; the distance
    is capped at `(x − y)/2 + 1` (half of what the core leaves free, plus one); the result is a well-formed area
    containing exactly the bases within that distance of the core the shorter way round (the whole record as
    soon as the two ends pass each other); and a gene shares a base with it — `find_protoclusters`' test for
    joining the gene to the core — iff one of its bases is that close to a base of the core. -/
theorem cutoff_window_origin_spanning_core (r : Rec) (hcirc : r.circular = true) (x y c : Int) (hy0 : 0 < y)
    (hyx : y ≤ x) (hxL : x < r.len) (hc : 0 ≤ c) :
    ∃ W, extendArea r (areaTwo x y r.len .fwd) c false = .ok W ∧ RingArea r.len W ∧
      (∀ i, W.mem i = true ↔ (0 ≤ i ∧ i < r.len ∧
        ∃ j, (areaTwo x y r.len .fwd).mem j = true ∧ ringAbs r.len i j ≤ min c ((x - y) / 2 + 1))) ∧
      ∀ g : Loc, g.PartsNonEmpty → (locationsOverlap g W = true ↔
        ∃ i j, g.mem i = true ∧ 0 ≤ i ∧ i < r.len ∧ (areaTwo x y r.len .fwd).mem j = true ∧
          ringAbs r.len i j ≤ min c ((x - y) / 2 + 1)) :=
  window_two_part r hcirc x y c hy0 hyx hxL hc

/-- **The protocluster of an origin-spanning core** — for a core `[x, L) + [0, y)` on a circular record and any
    neighbourhood `n ≥ 0`: `_extend_area_location(core, n, force_cross_origin=True)` and the `Protocluster`
    constructor both succeed (no `ValueError` "a core location crossing the origin requires the surrounding area
    to also cross the origin", no failed assertion); the location is `nbhdTwo` — both ends moved by
    `min(n, (x − y)/2 + 1)`, or, once they would pass each other, the split `[mid, L) + [0, max(y, mid − 1))` with
    `mid = (x − y)/2 + y` (D35) — it spans the origin, is a well-formed area and covers every base of the core. -/
theorem protocluster_of_origin_spanning_core (r : Rec) (hcirc : r.circular = true) (rule : String) (x y n : Int)
    (hy0 : 0 < y) (hyx : y ≤ x) (hxL : x < r.len) (hn : 0 ≤ n) :
    ∃ W, extendArea r (areaTwo x y r.len .fwd) n true = .ok W ∧
      W = nbhdTwo x y (min n ((x - y) / 2 + 1)) r.len ∧
      mkPC rule (areaTwo x y r.len .fwd) W = .ok ⟨rule, areaTwo x y r.len .fwd, W⟩ ∧
      RingArea r.len W ∧ bridgesOrigin W = true ∧ Covers W (areaTwo x y r.len .fwd) := by
  obtain ⟨W, h1, h2, h3, h4, h5⟩ := protocluster_two_part r hcirc rule x y n hy0 hyx hxL hn
  have : W = nbhdTwo x y (min n ((x - y) / 2 + 1)) r.len := by
    have := extendArea_ring_two_force r hcirc x y n hy0 hyx hxL hn
    rw [h1] at this; cases this; rfl
  exact ⟨W, h1, this, h2, h3, h4, h5⟩

/-- **Chains are never split, on any circular record** (`_partial` with respect to `CoresAreChainsRing`:
    this is its "maximal" half, without any restriction on positions, origin-spanning anchors or chain
    lengths; the "each core is one chain and the smallest span of it" half is proved only under
    `InnerArc`, see above).  For every circular record whose anchoring genes are valid ring locations
    (`RingIn`: exons non-empty and inside the record, origin-bridging genes splittable), whenever the
    protoclusters of a rule have been formed and merged over the origin:
      * every resulting core is a well-formed area of that rule;
      * every anchoring gene of the rule lies inside the core of one of them;
      * any two of them are further apart than the cutoff, measured the shorter way round the ring —
        so genes in different protoclusters are never within the cutoff of each other, also across the
        origin. -/
theorem ring_chains_not_split_partial (r : Rec) (hcirc : r.circular = true) (hL : 0 < r.len) (rules : List RuleM)
    (hrules : ∀ name rule, findRule rules name = .ok rule → 0 ≤ rule.cutoff ∧ rule.cutoff ≤ r.len)
    (rule : RuleM) (hfind : findRule rules rule.name = .ok rule) (anchors : List Gene)
    (hin : ∀ g ∈ r.genes, anchors.contains g.id = true → RingIn r.len g.loc)
    (found merged : List PC) (hfound : clustersOfRule r rule anchors = .ok found)
    (hmerged : Proto.mergeOverOrigin r rules found = .ok merged) :
    (∀ q ∈ merged, q.rule = rule.name ∧ RingArea r.len q.core) ∧
    (∀ g ∈ r.genes, anchors.contains g.id = true → ∃ q ∈ merged, Covers q.core g.loc) ∧
    merged.Pairwise (fun p q => FarApart r.len rule.cutoff p.core q.core) := by
  obtain ⟨cores, hc, hp⟩ := clustersOfRule_ok r rule anchors found hfound
  obtain ⟨c1, c2⟩ := findCores_ring_cover r hcirc hL rule.cutoff _ cores
    (forall_anchor_locs r anchors hin) hc
  have hpc : ∀ pc ∈ found, pc.rule = rule.name ∧ pc.core ∈ cores := by
    intro pc hpc
    obtain ⟨core, hcore, s, _, rfl⟩ := hp.exists_left pc hpc
    exact ⟨rfl, hcore⟩
  have hcore : ∀ core ∈ cores, ∃ pc ∈ found, pc.core = core := by
    intro core hcore
    obtain ⟨pc, hpcm, s, _, rfl⟩ := hp.exists_right core hcore
    exact ⟨_, hpcm, rfl⟩
  obtain ⟨m1, m2, m3⟩ := mergeOverOrigin_ring r hcirc hL rules hrules found merged
    (fun pc hpcm => c1 _ (hpc pc hpcm).2) hmerged
  have hrule : ∀ q ∈ merged, q.rule = rule.name := by
    intro q hq
    obtain ⟨_, pc, hpcm, e⟩ := m1 q hq
    rw [e]; exact (hpc pc hpcm).1
  refine ⟨fun q hq => ⟨hrule q hq, (m1 q hq).1⟩, ?_, ?_⟩
  · intro g hg hanc
    obtain ⟨k, hk, hcov⟩ := c2 g.loc (List.mem_map.2 ⟨g, List.mem_filter.2 ⟨hg, hanc⟩, rfl⟩)
    obtain ⟨pc, hpcm, rfl⟩ := hcore k hk
    obtain ⟨q, hq, _, hcq⟩ := m3 pc hpcm
    exact ⟨q, hq, hcq.trans hcov⟩
  · refine List.Pairwise.imp_of_mem ?_ m2
    intro p q hp hq hpq
    exact hpq ((hrule p hp).trans (hrule q hq).symm) rule (by rw [hrule p hp]; exact hfind)

/-- **The reported protoclusters on any circular record** (end to end, through extenders, superiors and
    both merges): whenever `detect_protoclusters_and_signatures` returns on a circular record whose genes
    are valid ring locations, every reported core is a well-formed area, and two reported protoclusters of
    the same rule are further apart than that rule's cutoff, the shorter way round the ring — no chain
    is ever reported in two pieces, wherever the origin lies.  (`within` is arbitrary here.) -/
theorem reported_protoclusters_far_apart_ring (within : Lookup) (r : Rec) (hcirc : r.circular = true) (hL : 0 < r.len)
    (rules : List RuleM)
    (hrules : ∀ name rule, findRule rules name = .ok rule → 0 ≤ rule.cutoff ∧ rule.cutoff ≤ r.len)
    (hgenes : ∀ g ∈ r.genes, RingIn r.len g.loc) (outs : List Out)
    (h : detectProtoclusters within r rules = .ok outs) :
    (∀ o ∈ outs, RingArea r.len o.pc.core) ∧
    (outs.map (·.pc)).Pairwise (fun p q => p.rule = q.rule → ∀ rule, findRule rules p.rule = .ok rule →
      FarApart r.len rule.cutoff p.core q.core) := by
  simp only [detectProtoclusters, bind, Except.bind] at h
  cases hs : detectStages within r rules with
  | error e => simp [hs] at h
  | ok s =>
    simp only [hs, pure, Except.pure, Except.ok.injEq] at h
    subst h
    exact detectStages_ring within r hcirc hL rules hrules hgenes s hs

/-- **The per-cutoff cache is transparent** (after the repair of D1): walking the rules of one gene
    with `info_by_range` gives exactly what recomputing the nearby genes for every rule gives, for
    every ruleset — any number of rules, any mixture and order of cutoffs. -/
theorem cache_is_transparent (within : Lookup) (r : Rec) (g : GeneInfo) (rules : List RuleM) :
    evalRulesCached within r g [] rules = evalRulesDirect within r g rules :=
  evalRulesCached_eq within r g rules [] (by intro c ni hc; simp [List.lookup] at hc)

/-- **The anchoring genes of a rule.**  A gene is put into `cluster_type_hits[rule]` exactly when it
    is a gene with hits at which the rule fires in the environment of its own cutoff window (formula
    met with a reason profile — C01 `anchors_iff` relates this to the documented formula), or an
    ancillary gene reported by such a gene. -/
theorem anchor_set (within : Lookup) (r : Rec) (rules : List RuleM) (res : RuleResults)
    (h : ruleResults within r rules = .ok res) (name : String) (g : Gene) :
    g ∈ hitsFor res name ↔
      ∃ gene ∈ r.genes, gene.hasRes = true ∧ ∃ rule ∈ rules, rule.name = name ∧
        ∃ ni, nearInfo within r gene rule.cutoff = .ok ni ∧
          anchors (envOf ni rule.cutoff) gene.id rule.cond = true ∧
          (g = gene.id ∨ g ∈ (detect (envOf ni rule.cutoff) gene.id rule.cond).ancillary.map (·.1)) := by
  obtain ⟨hmem, hall⟩ := ruleResults_mem within r rules res h
  rw [mem_hitsFor]
  constructor
  · rintro ⟨x, hx, y, hy, hname, hf, hg⟩
    obtain ⟨hx1, hx2, hx3⟩ := hmem x hx
    obtain ⟨rule, hr, ni, hni, rfl⟩ := (evalRulesDirect_mem within r x.1 rules x.2 hx3).1 y hy
    exact ⟨x.1, hx1, hx2, rule, hr, hname, ni, hni, hf, hg⟩
  · rintro ⟨gene, hgene, hres, rule, hr, hname, ni, hni, hf, hg⟩
    obtain ⟨x, hx, rfl⟩ := hall gene hgene hres
    obtain ⟨_, _, hx3⟩ := hmem x hx
    exact ⟨x, hx, _, (evalRulesDirect_mem within r x.1 rules x.2 hx3).2 rule hr ni hni, hname, hf, hg⟩

/-- … and every ancillary gene is a *different* gene of the window, closer than the cutoff to the
    firing gene, carrying the profile it is listed with (C01 `ancillary_sound` in this environment). -/
theorem ancillary_within_cutoff (ni : NearInfo) (c : Int)
    (hres : ∀ x ∈ ni.nearby, x.hits ≠ [] → x.hasRes = true) (g : Gene) (cond : Cond) (x : Gene × Prof)
    (hx : x ∈ (detect (envOf ni c) g cond).ancillary) :
    x.1 ≠ g ∧ (∃ y ∈ ni.nearby, y.id = x.1) ∧ (envOf ni c).dist g x.1 < c ∧ (envOf ni c).has x.1 x.2 = true := by
  obtain ⟨hnear, hhas, _⟩ := evalC_anc (envOf ni c) (envOf_wf ni c hres) g false cond x hx
  simp only [Env.near, List.mem_filter, Bool.and_eq_true, bne_iff_ne, ne_eq, Env.inRange, decide_eq_true_eq] at hnear
  obtain ⟨hg, hne, hd⟩ := hnear
  refine ⟨hne, ?_, hd, hhas⟩
  simp only [envOf, Env.ofLocs, List.mem_map] at hg
  exact hg

/-- **EXTENDERS: the admitted genes are determined by the walk rules**, and `Chains.specWalk` (what the
    driver evaluates on the implementation's output) computes them: it satisfies `ExtWalk`, and any list
    satisfying `ExtWalk` equals it. -/
theorem extenders_walk_determined (c : Int) (dist : GeneInfo → GeneInfo → Int) (ext inCore : GeneInfo → Bool)
    (ref : GeneInfo) (w : List GeneInfo) :
    ExtWalk c dist ext inCore ref w (specWalk c dist ext inCore ref w) ∧
    ∀ a, ExtWalk c dist ext inCore ref w a → a = specWalk c dist ext inCore ref w :=
  ⟨specWalk_sound c dist ext inCore w ref, fun _ h => ExtWalk.unique h⟩

/-- **EXTENDERS (linear record)** — "plus any genes admitted by the rule's EXTENDERS clause".  For every
    linear record whose genes satisfy `GeneOK`, every protocluster with a single-span core, and every
    rule whose EXTENDERS clause is in the documented grammar: `apply_extenders` succeeds on it; the genes
    it joins to the core are exactly those the walk rules admit — on the low side starting from the
    first gene inside the core over the genes before the core (nearest first), on the high side starting
    from the last gene inside the core over the genes after it, a gene being admitted iff it satisfies
    the clause by its documented meaning (`extOK`, C01 `sem` at the gene alone) and lies within the cutoff
    (`≤`, set-of-bases distance) of the previously admitted gene / the starting gene, the walk ending at
    the first gene further away; the new core is the smallest span covering the old core and the admitted
    genes; and the protocluster is that core widened by the rule's neighbourhood, clipped at the record ends.
    (`hfirst`/`hlast`/`hsub` are what C08 establishes for `get_cds_features_within_location`.) -/
theorem extenders_linear (within : Lookup) (r : Rec) (hlin : r.circular = false) (rules : List RuleM)
    (pc : PC) (rule : RuleM) (hrule : findRule rules pc.rule = .ok rule) (hn : 0 ≤ rule.nbhd)
    (hext : ∀ c, rule.extenders = some c → c.WF = true)
    (p : Part) (hcore : pc.core = .simple p) (h0 : 0 ≤ p.lo) (h1 : p.lo < p.hi) (h2 : p.hi ≤ r.len)
    (hgenes : ∀ g ∈ r.genes, GeneOK r.len g.loc)
    (first last : GeneInfo) (hfirst : (within pc.core false).head? = some first)
    (hlast : (within pc.core false).getLast? = some last) (hsub : ∀ g ∈ within pc.core false, g ∈ r.genes) :
    ∃ back forw q1 q2 doms,
      ExtWalk rule.cutoff (fun a b => specDistFull 0 a.loc b.loc) (extOK rule)
        (fun g => locationContainsOther pc.core g.loc) first (walkBack r pc.core) back ∧
      (q1.lo, q1.hi) = hullIv (pc.core :: back.map (·.loc)) ∧
      ExtWalk rule.cutoff (fun a b => specDistFull 0 a.loc b.loc) (extOK rule)
        (fun g => locationContainsOther (.simple q1) g.loc) last (walkForward r pc.core) forw ∧
      (q2.lo, q2.hi) = hullIv (Loc.simple q1 :: forw.map (·.loc)) ∧
      extendCluster within r rules pc =
        .ok (⟨rule.name, .simple q2, .simple ⟨max 0 (q2.lo - rule.nbhd), min (q2.hi + rule.nbhd) r.len, .fwd⟩⟩, doms) :=
  extendCluster_line within r hlin rules pc rule hrule hn hext p hcore h0 h1 h2 hgenes first last hfirst hlast hsub

/-- **EXTENDERS (circular record)** — `_partial`: conditional on `apply_extenders` returning for the
    protocluster, and "covers" instead of "smallest span" (see design/C03.md).  On any circular record whose
    genes are valid ring locations, for a protocluster with an area core and a rule whose EXTENDERS clause is
    in the documented grammar: the genes joined to the core are exactly those the walk rules admit when the
    walk goes on round the ring — backwards from the first gene inside the core over the genes before it
    nearest first and then on from the end of the record, forwards from the last gene inside it and then
    on from the start — with distances measured the shorter way round (`≤ cutoff`); the new core is the
    `connect_locations` span of the old core and the admitted genes, a well-formed area that covers the
    old core and every admitted gene. -/
theorem extenders_ring_partial (within : Lookup) (r : Rec) (hcirc : r.circular = true) (hL : 0 < r.len)
    (rules : List RuleM) (hgenes : ∀ g ∈ r.genes, RingIn r.len g.loc) (pc pc' : PC) (d : Doms)
    (harea : RingArea r.len pc.core) (hsub : ∀ g ∈ within pc.core false, g ∈ r.genes)
    (rule : RuleM) (hrule : findRule rules pc.rule = .ok rule) (hext : ∀ c, rule.extenders = some c → c.WF = true)
    (h : extendCluster within r rules pc = .ok (pc', d)) :
    ∃ first last back forw core1,
      (within pc.core false).head? = some first ∧ (within pc.core false).getLast? = some last ∧
      ExtWalk rule.cutoff (fun a b => specDistFull r.len a.loc b.loc) (extOK rule)
        (fun g => locationContainsOther pc.core g.loc) first (walkBackRing r pc.core) back ∧
      joinRing r pc.core back = some core1 ∧
      ExtWalk rule.cutoff (fun a b => specDistFull r.len a.loc b.loc) (extOK rule)
        (fun g => locationContainsOther core1 g.loc) last (walkForwardRing r pc.core) forw ∧
      joinRing r core1 forw = some pc'.core ∧
      RingArea r.len pc'.core ∧ Covers pc'.core pc.core ∧ ∀ g ∈ back ++ forw, Covers pc'.core g.loc :=
  extendCluster_ring within r hcirc hL rules hgenes pc pc' d harea hsub rule hrule hext h

/-- **EXTENDERS on a ring: the call returns** (`_partial`: all genes of the circular record lie in a wide arc
    for the rule's cutoff, the core is a single span of that arc, and the lookup finds at least one gene
    inside the core) — `apply_extenders` then returns for the protocluster: no `ValueError`, no failed
    assertion, no `IndexError`; together with `extenders_ring_partial` this gives what it returns.  Still open:
    totality when genes or the core lie across the origin (two-part cores). -/
theorem extenders_ring_total_wide_partial (within : Lookup) (r : Rec) (hcirc : r.circular = true) (rules : List RuleM)
    (pc : PC) (rule : RuleM) (hrule : findRule rules pc.rule = .ok rule) (hn : 0 ≤ rule.nbhd) (A B : Int)
    (harc : WideArc r.len rule.cutoff A B) (hgenes : ∀ g ∈ r.genes, GeneIn r.len A B g.loc)
    (p : Part) (hcore : pc.core = .simple p) (h0 : A ≤ p.lo) (h1 : p.lo < p.hi) (h2 : p.hi ≤ B)
    (hne : within pc.core false ≠ []) :
    ∃ pc' d, extendCluster within r rules pc = .ok (pc', d) :=
  extendCluster_total_wide within r hcirc rules pc rule hrule hn A B harc hgenes p hcore h0 h1 h2 hne

/-- **Superiors: exact characterisation of the implementation.**  Whenever the redundancy test of a
    protocluster `pc` returns, it returns `true` exactly when, for one of the superiors of `pc`'s rule,
    some protocluster `o` of that superior either has a core containing `pc`'s core, or its first/last
    core genes interleave with `pc`'s in gene order (`Removes`). -/
theorem redundant_iff (within : Lookup) (rules : List RuleM) (clusters : List PC) (pc : PC) (b : Bool)
    (h : isRedundant within rules clusters pc = .ok b) :
    ∃ first last rule, firstLast within pc = .ok (first, last) ∧ findRule rules pc.rule = .ok rule ∧
      (b = true ↔ ∃ s ∈ rule.superiors, ∃ o ∈ clusters, o.rule = s ∧ Removes within pc first last o) := by
  simp only [isRedundant, bind, Except.bind] at h
  cases hfl : firstLast within pc with
  | error e => simp [hfl] at h
  | ok fl =>
    obtain ⟨first, last⟩ := fl
    simp only [hfl] at h
    cases hr : findRule rules pc.rule with
    | error e => simp [hr] at h
    | ok rule =>
      simp only [hr] at h
      exact ⟨first, last, rule, rfl, rfl, redundantOuter_spec within clusters pc first last rule.superiors b h⟩

/-- **… is dropped when a superior covers its core** (the property's "when"): if the core of some
    protocluster of a superior rule contains the core of `pc`, the redundancy test says `true`. -/
theorem covered_implies_dropped (within : Lookup) (rules : List RuleM) (clusters : List PC) (pc : PC) (b : Bool)
    (h : isRedundant within rules clusters pc = .ok b) (rule : RuleM) (hr : findRule rules pc.rule = .ok rule)
    (o : PC) (ho : o ∈ clusters) (hs : o.rule ∈ rule.superiors)
    (hcov : locationContainsOther o.core pc.core = true) : b = true := by
  obtain ⟨first, last, rule', _, hr', hiff⟩ := redundant_iff within rules clusters pc b h
  rw [hr] at hr'; cases hr'
  exact hiff.2 ⟨o.rule, hs, o, ho, rfl, Or.inl hcov⟩

/-- **… also on a ring, with cores read as sets of bases** (`_partial`: the covering core must not be the
    whole ring written as two touching parts `[a, L) + [0, a)`, for which `location_contains_other` can miss
    a core lying across `a`): on a circular record, if every base of `pc`'s core lies in the core of a
    protocluster of a superior rule — wherever the origin falls, in particular when the superior's core
    spans it — the redundancy test says `true`. -/
theorem covered_implies_dropped_ring_partial (within : Lookup) (r : Rec) (rules : List RuleM) (clusters : List PC)
    (pc : PC) (b : Bool) (h : isRedundant within rules clusters pc = .ok b) (rule : RuleM)
    (hr : findRule rules pc.rule = .ok rule) (o : PC) (ho : o ∈ clusters) (hs : o.rule ∈ rule.superiors)
    (hao : RingArea r.len o.core) (hap : RingArea r.len pc.core)
    (hnt : ∀ a b', o.core = .compound [⟨a, r.len, .fwd⟩, ⟨0, b', .fwd⟩] → b' < a)
    (hcov : Covers o.core pc.core) : b = true :=
  covered_implies_dropped within rules clusters pc b h rule hr o ho hs
    (contains_of_covers_ring r.len o.core pc.core hao hap hnt hcov)

/-- **No reported protocluster lies under a reported superior (circular record, end to end)** — the
    output-level reading the driver evaluates (`Chains.reportedUnderSuperior`): whenever
    `detect_protoclusters_and_signatures` returns on a circular record with valid ring genes, no reported
    protocluster has every base of its core inside the core of a reported protocluster of one of its
    rule's superiors (`_partial`: unless that superior core is the whole ring as two touching parts). -/
theorem reported_not_under_superior_ring_partial (within : Lookup) (r : Rec) (hcirc : r.circular = true)
    (hL : 0 < r.len) (rules : List RuleM)
    (hrules : ∀ name rule, findRule rules name = .ok rule → 0 ≤ rule.cutoff ∧ rule.cutoff ≤ r.len)
    (hgenes : ∀ g ∈ r.genes, RingIn r.len g.loc) (outs : List Out)
    (h : detectProtoclusters within r rules = .ok outs)
    (low high : Out) (hlow : low ∈ outs) (hhigh : high ∈ outs) (rule : RuleM)
    (hr : findRule rules low.pc.rule = .ok rule) (hs : high.pc.rule ∈ rule.superiors)
    (hnt : ∀ a b, high.pc.core = .compound [⟨a, r.len, .fwd⟩, ⟨0, b, .fwd⟩] → b < a) :
    ¬ Covers high.pc.core low.pc.core := by
  intro hcov
  simp only [detectProtoclusters, bind, Except.bind] at h
  cases hst : detectStages within r rules with
  | error e => simp [hst] at h
  | ok s =>
    simp only [hst, pure, Except.pure, Except.ok.injEq] at h
    subst h
    have hareas := (detectStages_ring within r hcirc hL rules hrules hgenes s hst).1
    cases hne : r.genes.isEmpty with
    | true =>
      unfold detectStages at hst
      simp only [hne, if_true, pure, Except.pure, Except.ok.injEq] at hst
      subst hst
      cases hlow
    | false =>
      obtain ⟨res, found0, found, ext0, d, ext, kept, _, _, _, _, hk, hfin⟩ := detectStages_ok within r rules s hne hst
      obtain ⟨hsub, hnot⟩ := removeRedundant_kept within rules ext kept hk
      have hl : low.pc ∈ kept := by rw [← hfin]; exact List.mem_map.2 ⟨low, hlow, rfl⟩
      have hh : high.pc ∈ kept := by rw [← hfin]; exact List.mem_map.2 ⟨high, hhigh, rfl⟩
      have := covered_implies_dropped_ring_partial within r rules ext low.pc false (hnot _ hl) rule hr high.pc
        (hsub.subset hh) hs (hareas high hhigh) (hareas low hlow) hnt hcov
      cases this

/-! ### "… and not otherwise" does not hold: KF-C03-superior-overlap

  The property's last sentence ends "and not otherwise".  The full statement would be -/
def DroppedOnlyWhenCovered : Prop :=
  ∀ (within : Lookup) (rules : List RuleM) (clusters : List PC) (pc : PC) (rule : RuleM),
    isRedundant within rules clusters pc = .ok true → findRule rules pc.rule = .ok rule →
      ∃ o ∈ clusters, o.rule ∈ rule.superiors ∧ locationContainsOther o.core pc.core = true

/-- the layout of the repository's own `TestRedundancy.test_larger`: three genes, the inferior rule's
    chain spans all of them, the superior rule anchors on the middle one only -/
def kfRec : Rec := ⟨200, false,
  [⟨0, .simple ⟨50, 80, .fwd⟩, [("i", 0)], true⟩, ⟨1, .simple ⟨110, 140, .fwd⟩, [("i", 0), ("s", 0)], true⟩,
   ⟨2, .simple ⟨150, 180, .fwd⟩, [("i", 0)], true⟩]⟩
def kfRules : List RuleM :=
  [⟨"superior", 10, 10, .group false [.single false "s"], [], none⟩,
   ⟨"inferior", 31, 10, .group false [.single false "i"], ["superior"], none⟩]
def kfInferior : PC := ⟨"inferior", .simple ⟨50, 180, .fwd⟩, .simple ⟨40, 190, .fwd⟩⟩
def kfSuperior : PC := ⟨"superior", .simple ⟨110, 140, .fwd⟩, .simple ⟨100, 150, .fwd⟩⟩

/-- negation witness: the inferior protocluster is declared redundant although the superior core
    [110,140) does not contain its core [50,180) -/
theorem dropped_without_cover_witness :
    isRedundant (withinSpec kfRec) kfRules [kfSuperior, kfInferior] kfInferior = .ok true ∧
    locationContainsOther kfSuperior.core kfInferior.core = false := by
  constructor <;> decide

theorem not_droppedOnlyWhenCovered : ¬ DroppedOnlyWhenCovered := by
  intro h
  obtain ⟨o, ho, hs, hc⟩ := h (withinSpec kfRec) kfRules [kfSuperior, kfInferior] kfInferior
    ⟨"inferior", 31, 10, .group false [.single false "i"], ["superior"], none⟩
    dropped_without_cover_witness.1 rfl
  simp only [List.mem_cons, List.mem_nil_iff, or_false] at ho
  rcases ho with rfl | rfl
  · exact absurd hc (by decide)
  · exact absurd hs (by decide)

/-! ### non-vacuity -/

/-- the whole pipeline on that layout: both chains are formed ([110,140) and [50,180)), the inferior
    one is then dropped, the superior one is reported with its neighbourhood -/
example : (match detectProtoclusters (withinSpec kfRec) kfRec kfRules with
    | .ok outs => outs.map (fun o => (o.pc.rule, o.pc.core, o.pc.loc, o.defs)) ==
        [("superior", Loc.simple ⟨110, 140, .fwd⟩, Loc.simple ⟨100, 150, .fwd⟩, [(1, ["s"])])]
    | .error _ => false) = true := by decide +kernel

/-- the ring hypotheses are satisfiable and the chains non-trivial: ring of length 1000, genes at
    [300,320) [340,360) [400,420), cutoff 25 (gaps 20 and 40) -/
def ringRec : Rec := ⟨1000, true,
  [⟨0, .simple ⟨300, 320, .fwd⟩, [("a", 0)], true⟩, ⟨1, .simple ⟨340, 360, .rev⟩, [("a", 0)], true⟩,
   ⟨2, .simple ⟨400, 420, .fwd⟩, [("a", 0)], true⟩]⟩
example : InnerArc ringRec.len 25 300 420 := ⟨by decide, by decide, by decide, by decide⟩
/-- a wide arc touching the origin: ring of length 100, genes at [0,10) and [25,35), cutoff 20 (the window of the
    first core wraps over the origin): `WideArc 100 20 0 40` holds (`InnerArc` does not: 20 ≰ 0) -/
def wideRec : Rec := ⟨100, true,
  [⟨0, .simple ⟨0, 10, .fwd⟩, [("a", 0)], true⟩, ⟨1, .simple ⟨25, 35, .rev⟩, [("a", 0)], true⟩]⟩
example : WideArc wideRec.len 20 0 40 := ⟨by decide, by decide, by decide, by decide, by decide⟩
example : (match findCores wideRec 20 (wideRec.genes.map (·.loc)) with
    | .ok cores => cores.map (fun c => (c.start, c.end)) == [(0, 35)]
    | .error _ => false) = true := by decide +kernel
/-- the window of the core [90,100)+[0,5) on a ring of length 100: with distance 20 both ends move by 20; with
    distance 60 the cap (85/2+1 = 43) applies and the two ends pass each other: the whole record -/
example : extendArea wideRec (areaTwo 90 5 100 .fwd) 20 false = .ok (.compound [⟨70, 100, .fwd⟩, ⟨0, 25, .fwd⟩]) := by
  decide +kernel
example : extendArea wideRec (areaTwo 90 5 100 .fwd) 60 false = .ok (.simple ⟨0, 100, .fwd⟩) := by decide +kernel
/-- the protocluster of the core [90,100)+[0,5) on that ring: neighbourhood 20 moves both ends; neighbourhood 60
    (capped at 43) would cover the whole record and is split at mid = 47 -/
example : extendArea wideRec (areaTwo 90 5 100 .fwd) 20 true = .ok (.compound [⟨70, 100, .fwd⟩, ⟨0, 25, .fwd⟩]) := by
  decide +kernel
example : extendArea wideRec (areaTwo 90 5 100 .fwd) 60 true = .ok (.compound [⟨47, 100, .fwd⟩, ⟨0, 46, .fwd⟩]) := by
  decide +kernel
/-- the hypotheses of `extenders_ring_total_wide_partial` on that ring: both genes lie in the wide arc -/
example : ∀ g ∈ wideRec.genes, GeneIn wideRec.len 0 40 g.loc := by
  intro g hg
  simp only [wideRec, List.mem_cons, List.mem_nil_iff, or_false] at hg
  rcases hg with rfl | rfl <;>
    exact ⟨⟨by simp [Loc.parts], by simp [bridgesOrigin], by intro p hp; simp [Loc.parts] at hp; subst hp; simp [wideRec]⟩,
      by simp [Loc.start], by simp [Loc.end]⟩
/-- on that ring with cutoff 15 (two chains) `merge_over_origin` returns the two protoclusters unchanged -/
example : (match clustersOfRule wideRec ⟨"r", 15, 3, .group false [.single false "a"], [], none⟩ [0, 1] with
    | .ok pcs => (match Proto.mergeOverOrigin wideRec [⟨"r", 15, 3, .group false [.single false "a"], [], none⟩] pcs with
        | .ok merged => merged == pcs && pcs.length == 2
        | .error _ => false)
    | .error _ => false) = true := by decide +kernel
example : (match findCores wideRec 15 (wideRec.genes.map (·.loc)) with
    | .ok cores => cores.map (fun c => (c.start, c.end)) == [(0, 10), (25, 35)]
    | .error _ => false) = true := by decide +kernel
example : ∀ g ∈ ringRec.genes, GeneIn ringRec.len 300 420 g.loc := by
  intro g hg
  simp only [ringRec, List.mem_cons, List.mem_nil_iff, or_false] at hg
  rcases hg with rfl | rfl | rfl <;>
    exact ⟨⟨by simp [Loc.parts], by simp [bridgesOrigin], by intro p hp; simp [Loc.parts] at hp; subst hp; simp [ringRec]⟩,
      by simp [Loc.start], by simp [Loc.end]⟩
example : (match findCores ringRec 25 (ringRec.genes.map (·.loc)) with
    | .ok cores => cores.map (fun c => (c.start, c.end)) == [(300, 360), (400, 420)]
    | .error _ => false) = true := by decide +kernel

/-- a superior core spanning the origin covers an inferior core before it: ring of length 100, superior genes
    [92,97) and [0,5) (chained over the origin, cutoff 10), the first one also anchoring the inferior rule:
    the test says redundant, and only the superior protocluster is reported -/
def supRing : Rec := ⟨100, true,
  [⟨1, .simple ⟨0, 5, .rev⟩, [("s", 0)], true⟩, ⟨2, .simple ⟨92, 97, .fwd⟩, [("s", 0), ("i", 0)], true⟩]⟩
def supRingRules : List RuleM :=
  [⟨"sup", 10, 2, .group false [.single false "s"], [], none⟩,
   ⟨"inf", 10, 2, .group false [.single false "i"], ["sup"], none⟩]
example : isRedundant (withinSpec supRing) supRingRules
    [⟨"sup", .compound [⟨92, 100, .fwd⟩, ⟨0, 5, .fwd⟩], .compound [⟨90, 100, .fwd⟩, ⟨0, 7, .fwd⟩]⟩,
     ⟨"inf", .simple ⟨92, 97, .fwd⟩, .simple ⟨90, 99, .fwd⟩⟩]
    ⟨"inf", .simple ⟨92, 97, .fwd⟩, .simple ⟨90, 99, .fwd⟩⟩ = .ok true := by decide
example : (match detectProtoclusters (withinSpec supRing) supRing supRingRules with
    | .ok outs => outs.map (fun o => (o.pc.rule, o.pc.core)) == [("sup", Loc.compound [⟨92, 100, .fwd⟩, ⟨0, 5, .fwd⟩])]
    | .error _ => false) = true := by decide +kernel
example : RingArea 100 (.compound [⟨92, 100, .fwd⟩, ⟨0, 5, .fwd⟩]) ∧
    Covers (.compound [⟨92, 100, .fwd⟩, ⟨0, 5, .fwd⟩]) (.simple ⟨92, 97, .fwd⟩) := by
  refine ⟨⟨by decide, Or.inr ⟨92, 5, rfl⟩⟩, ?_⟩
  intro i hi
  simp only [Loc.mem, Loc.parts, List.any_cons, List.any_nil, Bool.or_false, Part.mem_iff, Bool.or_eq_true] at hi ⊢
  omega

/-- EXTENDERS over the origin: ring of length 69, anchor `a` at [1,2), extender `x` at [64,65) (5 bases before
    it across the origin, cutoff 5), another gene at [58,59): the backwards walk goes on from the end of the
    record and admits `x`; with cutoff 4 it does not -/
def extRing : Rec := ⟨69, true,
  [⟨0, .simple ⟨1, 2, .fwd⟩, [("a", 0)], true⟩, ⟨4, .simple ⟨58, 59, .fwd⟩, [], true⟩,
   ⟨1, .simple ⟨64, 65, .fwd⟩, [("x", 0)], true⟩]⟩
def extRingRule (c : Int) : RuleM :=
  ⟨"r0", c, 1, .group false [.single false "a"], [], some (.single false "x")⟩
example : (match detectProtoclusters (withinSpec extRing) extRing [extRingRule 5] with
    | .ok outs => outs.map (fun o => o.pc.core) == [Loc.compound [⟨64, 69, .fwd⟩, ⟨0, 2, .fwd⟩]]
    | .error _ => false) = true := by decide +kernel
example : (match detectProtoclusters (withinSpec extRing) extRing [extRingRule 4] with
    | .ok outs => outs.map (fun o => o.pc.core) == [Loc.simple ⟨1, 2, .fwd⟩]
    | .error _ => false) = true := by decide +kernel
example : (extendedCoreRing extRing (extRingRule 5) [⟨0, .simple ⟨1, 2, .fwd⟩, [("a", 0)], true⟩]).map (·.canon)
    = some [(0, 2), (64, 69)] := by decide +kernel

/-- EXTENDERS, non-trivially: anchor `a` at [3006,3008), extender genes `x` at [2005,2007) (999 bases
    before the anchor) and `y` at [1003,1005) (1000 bases before `x`, 2001 before the anchor), cutoff 1000:
    both are admitted because the reference moves to `x`; with cutoff 999 only `x` is (exactly the cutoff
    away: the walk stops at `> cutoff`), with cutoff 998 neither -/
def exRec : Rec := ⟨10014, false,
  [⟨1, .simple ⟨1003, 1005, .fwd⟩, [("y", 0)], true⟩, ⟨2, .simple ⟨2005, 2007, .fwd⟩, [("x", 0)], true⟩,
   ⟨4, .simple ⟨3006, 3008, .fwd⟩, [("a", 0)], true⟩]⟩
def exRule (c : Int) : RuleM :=
  ⟨"r0", c, 3000, .group false [.single false "a"], [], some (.cds false [.single false "x", .single false "y"])⟩
example : (match detectProtoclusters (withinSpec exRec) exRec [exRule 1000] with
    | .ok outs => outs.map (fun o => (o.pc.core, o.pc.loc)) == [(Loc.simple ⟨1003, 3008, .fwd⟩, Loc.simple ⟨0, 6008, .fwd⟩)]
    | .error _ => false) = true := by decide +kernel
example : (match detectProtoclusters (withinSpec exRec) exRec [exRule 999] with
    | .ok outs => outs.map (fun o => (o.pc.core, o.pc.loc)) == [(Loc.simple ⟨2005, 3008, .fwd⟩, Loc.simple ⟨0, 6008, .fwd⟩)]
    | .error _ => false) = true := by decide +kernel
example : (match detectProtoclusters (withinSpec exRec) exRec [exRule 998] with
    | .ok outs => outs.map (fun o => (o.pc.core, o.pc.loc)) == [(Loc.simple ⟨3006, 3008, .fwd⟩, Loc.simple ⟨6, 6008, .fwd⟩)]
    | .error _ => false) = true := by decide +kernel
example : extendedHull exRec (exRule 1000) (3006, 3008) = some (1003, 3008) := by decide +kernel

/-- the hypotheses of `protoclusters_of_rule_linear` hold on it, and the chains are non-trivial:
    with cutoff 31 the three genes (gaps 30 and 10) are one chain, with cutoff 30 they are two -/
example : ∀ g ∈ kfRec.genes, GeneOK kfRec.len g.loc := by
  intro g hg
  simp only [kfRec, List.mem_cons, List.mem_nil_iff, or_false] at hg
  rcases hg with rfl | rfl | rfl <;>
    exact ⟨by simp [Loc.parts], by simp [bridgesOrigin], by intro p hp; simp [Loc.parts] at hp; subst hp; simp [kfRec]⟩
example : findCores kfRec 31 (kfRec.genes.map (·.loc)) = .ok [.simple ⟨50, 180, .fwd⟩] := by decide +kernel
example : findCores kfRec 30 (kfRec.genes.map (·.loc)) = .ok [.simple ⟨50, 80, .fwd⟩, .simple ⟨110, 180, .fwd⟩] := by
  decide +kernel
example : nearB 0 31 (.simple ⟨50, 80, .fwd⟩) (.simple ⟨110, 140, .rev⟩) = true ∧
          nearB 0 30 (.simple ⟨50, 80, .fwd⟩) (.simple ⟨110, 140, .rev⟩) = false := by decide

end ASV.C03
