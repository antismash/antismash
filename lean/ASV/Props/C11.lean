/-
  C11 — reusing saved module results reproduces the original results.

  Objects and functions are those of `ASV/Model/Results.lean` (one Lean function per Python
  `to_json` / `from_json` / `regenerate_previous_results`), the meaning is `ASV/Spec/Results.lean`.
  `reuse x` = the module continues with `x`; `discard` = `None` (the module runs afresh);
  `refuse e` = an exception (the run stops).

  Part 1  `…_json_roundtrip`  : from_json(to_json(x)) = x for every x satisfying the class invariant
                               (the invariant is what the constructors enforce / what the producing
                               code establishes; `…_decoded_valid` shows decoding re-establishes it);
                               for TTA the whole threshold table (`tta_regenerate_sound`) comes first, the
                               round trip is its case of equal thresholds
  Part 2  `…_json_stable`, `…_cycles` : the regenerated object writes the identical JSON tree, for
                               any number of save → regenerate cycles
  Part 3  guards              : a `reuse` decision implies same schema version, same record, same
                               settings; mismatches give `discard`/`refuse`; threshold changes of
                               TTA / HMMer results give exactly the results of a fresh run / the
                               stored hits inside the new thresholds
  Part 4  `…_adds_same_…`     : what the results add to the record is a function of the decoded
                               value, hence the same after regeneration

  The text layer inside the JSON (`str(location)` / `location_from_string`, `str(int)` / `int(text)`)
  is covered: `ASV.locFromString_locToString` (the `String` form of `ASV.C04.string_roundtrip`, proved for
  all locations with ≥ 1 part) is used for the protocluster and TTA locations, `strInt_intStr` for the
  numeric qualifiers.
  `Module.valid` contains `ModRules.accepts` (re-adding the components one by one raises nothing).
  Part 1b instantiates the rules with C14's transcription of `classify`/`add_component`
  (`c14Rules`) and discharges that hypothesis for every module `build_modules_for_cds`,
  `combine_modules` and the whole `generate_domains` loop produce (C14: `build_modules_good`,
  `combine_keeps_good`, `chain_total`): no abstract hypothesis is left for NRPS/PKS results.
-/
import ASV.Proofs.ResultsDetect
import ASV.Proofs.ResultsGuards
import ASV.Proofs.ResultsModules
import ASV.Proofs.ResultsFile
import ASV.Proofs.ResultsOptions
import ASV.Props.C14
namespace ASV.C11
open ASV ASV.Results ASV.Results.Spec

/-! ### Part 1 — round trips -/

/-- HMM hits with arbitrarily nested internal hits -/
theorem hmmResult_json_roundtrip : RoundTrips HMMResult.toJson HMMResult.fromJson (fun h => h.valid = true) :=
  fun h hv => HMMResult.fromJson_toJson h hv

/-- whatever `from_json` accepts satisfies the constructor's invariant again -/
theorem hmmResult_decoded_valid (j : J) (h : HMMResult) (hj : HMMResult.fromJson j = .reuse h) : h.valid = true :=
  HMMResult.fromJson_valid j h hj

/-- so *any* accepted JSON is stable from the second cycle on -/
theorem hmmResult_any_json_stable (j : J) (h : HMMResult) (hj : HMMResult.fromJson j = .reuse h) :
    HMMResult.fromJson h.toJson = .reuse h :=
  HMMResult.fromJson_toJson h (HMMResult.fromJson_valid j h hj)

theorem module_json_roundtrip (r : ModRules) :
    RoundTrips Module.toJson (Module.fromJson r) (fun m => m.valid r = true) :=
  fun m hv => Module.fromJson_toJson r m hv

theorem nrpsPks_json_roundtrip (r : ModRules) (ctx : Ctx) :
    RoundTrips NrpsPks.toJson (NrpsPks.fromJson r ctx) (fun x => x.valid r ctx = true) :=
  fun x hv => NrpsPks.fromJson_toJson r ctx x hv

/-- CDSResults of rule-based detection; definition domains are sets (sorted lists) -/
theorem cdsResults_json_roundtrip (ctx : Ctx) :
    RoundTrips CdsRes.toJson (CdsRes.fromJson ctx) (fun c => c.valid ctx = true) :=
  fun c hv => CdsRes.fromJson_toJson ctx c hv

/-- a protocluster serialised as a feature comes back without its run-specific number / edge flag -/
theorem protocluster_json_roundtrip (p : Proto) (hv : p.valid = true) :
    Proto.fromJson p.toJson = .reuse p.detach :=
  Proto.fromJson_toJson p hv

/-- … and writes the same feature again once the record has numbered it as before -/
theorem protocluster_reattached_same_json (p : Proto) (n : Int) (e : Bool)
    (hn : p.number = some n) (he : p.contigEdge = some e) : (p.detach.attach n e).toJson = p.toJson :=
  Proto.toJson_attach_detach p n e hn he

theorem ruleDetection_json_roundtrip (ctx : Ctx) (x : RuleRes) (hv : x.valid ctx = true) :
    RuleRes.fromJson ctx x.toJson = .reuse x.detach :=
  RuleRes.fromJson_toJson ctx x hv

theorem hmmDetection_json_roundtrip (ctx : Ctx) (x : HmmDet) (hv : x.valid ctx = true) :
    HmmDet.fromJson ctx x.toJson = .reuse { x with rules := x.rules.detach } :=
  HmmDet.fromJson_toJson ctx x hv

/-- same options as when saving (rule names, fungal multipliers): `regenerate_previous_results`
    reuses the results — whatever the strictness option says -/
theorem hmmDetection_regenerate_same_settings (ctx : Ctx) (o : HmmOpts) (x : HmmDet) (hv : x.valid ctx = true)
    (hnames : setEq x.enabledTypes o.ruleNames = true)
    (hmult : o.fungi = true → x.rules.cutoffMult = o.cutoffMult ∧ x.rules.neighMult = o.neighMult) :
    HmmDet.regenerate ctx o x.toJson = .reuse { x with rules := x.rules.detach } := by
  rw [HmmDet.regenerate_eq, regenWith_of_reuse x.toJson_ne_empty (HmmDet.fromJson_toJson ctx x hv)]
  simp only [RuleRes.detach, hnames]
  cases hf : o.fungi with
  | false => simp
  | true => simp [(hmult hf).1, (hmult hf).2]

theorem sideloaded_json_roundtrip (ctx : Ctx) :
    RoundTrips Sideloaded.toJson (Sideloaded.fromJson ctx) (fun x => x.valid ctx = true) :=
  fun x hv => Sideloaded.fromJson_toJson ctx x hv

theorem hmmerResults_json_roundtrip (ctx : Ctx) :
    RoundTrips HmmerRes.toJson (HmmerRes.fromJson ctx) (fun x => x.valid ctx = true) := by
  intro x hv
  simp only [HmmerRes.valid, Bool.and_eq_true, List.all_eq_true, beq_iff_eq] at hv
  exact HmmerRes.fromJson_toJson ctx x hv.1 (fun h hh => (hv.2 h hh).1.1)

/-- unchanged thresholds: full_hmmer / cluster_hmmer reuse the stored results as they are -/
theorem hmmer_regenerate_same_thresholds (ctx : Ctx) (x : HmmerRes) (hv : x.valid ctx = true) :
    HmmerRes.regenerate ctx x.evalue x.score x.toJson = .reuse x := by
  have hr := hmmerResults_json_roundtrip ctx x hv
  simp only [HmmerRes.valid, Bool.and_eq_true, List.all_eq_true, beq_iff_eq] at hv
  rw [HmmerRes.regenerate_eq, regenWith_of_reuse x.toJson_ne_empty hr]
  simp only [Dec.lt_irrefl, Bool.or_self, Bool.false_eq_true, if_false, HmmerRes.refilter]
  rw [List.filter_eq_self.mpr (fun h hh => by simp [(hv.2 h hh).1.2, (hv.2 h hh).2])]

theorem detect_locsOk (rid : String) (gc t : Dec) (all : List Loc) (hl : TTA.locsOk all = true) :
    TTA.locsOk (TTA.detect rid gc t all).codons = true := by
  unfold TTA.detect
  split
  · rfl
  · exact hl

/-- TTA decision table.  Stored: what `detect` wrote under threshold `old`; now: threshold `new`.
    Either the module is told to rerun (exactly when the old run skipped the record for low GC and
    the new threshold no longer does), or the regenerated results are exactly what a fresh run under
    `new` stores. -/
theorem tta_regenerate_sound (rid : String) (gc old new : Dec) (all : List Loc) (hl : TTA.locsOk all = true) :
    TTA.fromJson new (TTA.detect rid gc old all).toJson =
      if Dec.lt gc old && Dec.le new gc then .discard else .reuse (TTA.detect rid gc new all) := by
  rw [TTA.fromJson_toJson_cases _ _ (detect_locsOk rid gc old all hl)]
  unfold TTA.detect
  cases ho : Dec.lt gc old <;> cases hn : Dec.le new gc <;>
    simp [Dec.lt_eq_not_le gc new, hn, ho]

/-- TTA results as stored by `detect` under threshold `t` and re-read under the same threshold -/
theorem tta_json_roundtrip (rid : String) (gc t : Dec) (all : List Loc) (hl : TTA.locsOk all = true) :
    TTA.fromJson t (TTA.detect rid gc t all).toJson = .reuse (TTA.detect rid gc t all) := by
  rw [tta_regenerate_sound rid gc t t all hl, Dec.le_eq_not_lt t gc]
  cases Dec.lt gc t <;> rfl

/-! ### Part 2 — stability over repeated cycles -/

/-- a round-tripping class writes the same JSON after regeneration -/
theorem stable_of_roundtrips {α} (enc : α → J) (dec : J → Outcome α) (inv : α → Prop)
    (h : RoundTrips enc dec inv) : Stable enc dec inv :=
  fun x hx => ⟨x, h x hx, rfl⟩

/-- … and keeps doing so for any number of save → regenerate cycles -/
theorem cycles_of_roundtrips {α} (enc : α → J) (dec : J → Outcome α) (inv : α → Prop)
    (h : RoundTrips enc dec inv) : ∀ (n : Nat) (x : α), inv x → cycles enc dec n x = .reuse x
  | 0, _, _ => rfl
  | n + 1, x, hx => cycles_succ_of_normalises enc dec inv id h (fun _ hy => hy) (fun _ => rfl) n x hx

theorem hmmResult_json_stable : Stable HMMResult.toJson HMMResult.fromJson (fun h => h.valid = true) :=
  stable_of_roundtrips _ _ _ hmmResult_json_roundtrip

theorem nrpsPks_cycles (r : ModRules) (ctx : Ctx) (n : Nat) (x : NrpsPks) (hv : x.valid r ctx = true) :
    cycles NrpsPks.toJson (NrpsPks.fromJson r ctx) n x = .reuse x :=
  cycles_of_roundtrips _ _ _ (nrpsPks_json_roundtrip r ctx) n x hv

theorem sideloaded_cycles (ctx : Ctx) (n : Nat) (x : Sideloaded) (hv : x.valid ctx = true) :
    cycles Sideloaded.toJson (Sideloaded.fromJson ctx) n x = .reuse x :=
  cycles_of_roundtrips _ _ _ (sideloaded_json_roundtrip ctx) n x hv

theorem hmmerResults_cycles (ctx : Ctx) (n : Nat) (x : HmmerRes) (hv : x.valid ctx = true) :
    cycles HmmerRes.toJson (HmmerRes.fromJson ctx) n x = .reuse x :=
  cycles_of_roundtrips _ _ _ (hmmerResults_json_roundtrip ctx) n x hv

/-- rule-detection results before the record has numbered the protoclusters: a fixpoint from the
    first regeneration on (the first one only drops the numbering) -/
theorem hmmDetection_cycles (ctx : Ctx) (n : Nat) (x : HmmDet) (hv : x.valid ctx = true) :
    cycles HmmDet.toJson (HmmDet.fromJson ctx) (n + 1) x = .reuse { x with rules := x.rules.detach } := by
  refine cycles_succ_of_normalises HmmDet.toJson (HmmDet.fromJson ctx) (fun y => y.valid ctx = true)
    (fun y => { y with rules := y.rules.detach }) (HmmDet.fromJson_toJson ctx) (fun y hy => ?_)
    (fun y => by simp only [RuleRes.detach_detach]) n x hv
  simp only [HmmDet.valid, Bool.and_eq_true] at hy ⊢
  exact ⟨⟨hy.1.1, RuleRes.detach_valid ctx y.rules hy.1.2⟩, hy.2⟩

/-- the written JSON is identical once the record has numbered the regenerated protoclusters as
    it had numbered the originals -/
theorem hmmDetection_json_stable (ctx : Ctx) (x : HmmDet) (hv : x.valid ctx = true) :
    ∃ y, HmmDet.fromJson ctx x.toJson = .reuse y ∧ y.rules.detach = x.rules.detach
      ∧ y.recordId = x.recordId ∧ y.enabledTypes = x.enabledTypes ∧ y.strictness = x.strictness :=
  ⟨_, HmmDet.fromJson_toJson ctx x hv, RuleRes.detach_detach x.rules, rfl, rfl, rfl⟩

/-! ### Part 1b — NRPS/PKS modules: the re-adding contract discharged with C14's model

  `ModuleOf mo m`: the stored module `mo` (whole HMM hits) is the saved form of C14's module `m`
  (its components seen through `absC`: hit id, detailed names, coordinates, locus). -/

/-- every module C14 calls `Good` reloads from its JSON under the concrete rules -/
theorem module_json_roundtrip_good (mo : Module) (m : Modules.Module) (hg : Modules.Good m)
    (ho : ModuleOf mo m) (hv : ∀ c ∈ mo.components, c.domain.valid = true) :
    Module.fromJson c14Rules mo.toJson = .reuse mo :=
  Module.fromJson_toJson c14Rules mo (valid_of_good mo m hg ho hv)

/-- … in particular every module of `build_modules_for_cds`, for all domain lists -/
theorem module_json_roundtrip_built (ds : List Modules.Domain) (name : String) (h : C14.InputOK ds name)
    (ms : List Modules.Module) (hb : Modules.build ds name = .ok ms) (m : Modules.Module) (hm : m ∈ ms)
    (mo : Module) (ho : ModuleOf mo m) (hv : ∀ c ∈ mo.components, c.domain.valid = true) :
    Module.fromJson c14Rules mo.toJson = .reuse mo :=
  module_json_roundtrip_good mo m (C14.build_modules_good ds name h ms hb m hm) ho hv

/-- … and every module either gene holds after `combine_modules` (the merged one included) -/
theorem module_json_roundtrip_combined (cs ps : Int) (cur prev : List Modules.Module)
    (hp : ∀ m ∈ prev, Modules.Good m) (hc : ∀ m ∈ cur, Modules.Good m) (r : Modules.Combined)
    (h : Modules.combine cs ps cur prev = .ok r) (m : Modules.Module) (hm : m ∈ r.prev ++ r.cur)
    (mo : Module) (ho : ModuleOf mo m) (hv : ∀ c ∈ mo.components, c.domain.valid = true) :
    Module.fromJson c14Rules mo.toJson = .reuse mo :=
  module_json_roundtrip_good mo m (C14.combine_keeps_good cs ps cur prev hp hc r h m hm) ho hv

/-- the results of a whole `generate_domains` run (any genes, strands, regions; modules merged over
    gene borders): `x` stores, per gene, valid HMM hits and modules that are saved forms of modules
    of `chain genes`.  Then `x` reloads to itself, for any number of cycles — no hypothesis about
    re-adding. -/
theorem nrpsPks_json_roundtrip_generated (genes : List Modules.Gene)
    (h : ∀ g ∈ genes, C14.InputOK g.domains g.name) (out : List Modules.GeneResult)
    (hout : Modules.chain genes = .ok out) (ctx : Ctx) (x : NrpsPks) (hid : x.recordId = ctx.recordId)
    (hx : ∀ p ∈ x.cds, ctx.cdsNames.contains p.1 = true
      ∧ (∀ d ∈ p.2.domainHmms, d.valid = true) ∧ (∀ d ∈ p.2.motifHmms, d.valid = true)
      ∧ ∀ mo ∈ p.2.modules, (∀ c ∈ mo.components, c.domain.valid = true)
          ∧ ∃ r ∈ out, ∃ m ∈ r.modules, ModuleOf mo m) :
    NrpsPks.fromJson c14Rules ctx x.toJson = .reuse x
    ∧ ∀ n, cycles NrpsPks.toJson (NrpsPks.fromJson c14Rules ctx) n x = .reuse x := by
  obtain ⟨out', hout', hgood⟩ := C14.chain_total genes h
  rw [hout] at hout'; injection hout' with hout'; subst hout'
  have hv : x.valid c14Rules ctx = true := by
    simp only [NrpsPks.valid, Bool.and_eq_true, List.all_eq_true, beq_iff_eq, CDSResult.valid]
    refine ⟨hid, fun p hp => ?_⟩
    obtain ⟨h1, h2, h3, h4⟩ := hx p hp
    refine ⟨h1, ⟨h2, h3⟩, fun mo hmo => ?_⟩
    obtain ⟨hvc, r, hr, m, hm, ho⟩ := h4 mo hmo
    exact valid_of_good mo m (hgood r hr m hm) ho hvc
  exact ⟨NrpsPks.fromJson_toJson c14Rules ctx x hv, fun n => nrpsPks_cycles c14Rules ctx n x hv⟩

/-! ### Part 3 — guards: results saved under another schema, record or settings are never reused -/

theorem nrpsPks_reuse_only_same_schema_record (r : ModRules) (ctx : Ctx) (j : J) (x : NrpsPks)
    (h : NrpsPks.fromJson r ctx j = .reuse x) : nrpsPksMayReuse ctx j = true ∧ x.recordId = ctx.recordId := by
  cases j with
  | obj kv =>
    simp only [NrpsPks.fromJson] at h
    obtain ⟨h1, h⟩ := discard_guard_eq_reuse h
    obtain ⟨h2, h⟩ := discard_guard_eq_reuse h
    obtain ⟨_, _, h⟩ := bind_eq_reuse h
    obtain ⟨_, _, h⟩ := bind_eq_reuse h
    cases h
    exact ⟨by simp [nrpsPksMayReuse, intField_of_guard h1, strField_of_guard h2, NrpsPks.schemaVersion], rfl⟩
  | _ => cases h

theorem nrpsPks_schema_guard (r : ModRules) (ctx : Ctx) (kv : List (String × J))
    (h : isIntLit (lookup "schema_version" kv) 4 = false) : NrpsPks.fromJson r ctx (.obj kv) = .discard := by
  simp [NrpsPks.fromJson, NrpsPks.schemaVersion, h]

theorem nrpsPks_record_guard (r : ModRules) (ctx : Ctx) (kv : List (String × J))
    (h : isStrLit (lookup "record_id" kv) ctx.recordId = false) : NrpsPks.fromJson r ctx (.obj kv) = .discard :=
  (NrpsPks.record_guard h).elim id id

theorem ruleDetection_schema_guard (ctx : Ctx) (kv : List (String × J))
    (h : isIntLit (lookup "schema_version" kv) 4 = false) : RuleRes.fromJson ctx (.obj kv) = .discard := by
  simp [RuleRes.fromJson, RuleRes.schemaVersion, h]

/-- hmm_detection: reuse implies outer schema 2, inner schema 4, same record, enabled rule names =
    the current options' rule names, and (fungal) the same multipliers -/
theorem hmmDetection_reuse_only_same_settings (ctx : Ctx) (o : HmmOpts) (j : J) (x : HmmDet)
    (h : HmmDet.regenerate ctx o j = .reuse x) :
    intField j "schema_version" = some 2 ∧ strField j "record_id" = some ctx.recordId
    ∧ x.recordId = ctx.recordId
    ∧ (∃ rj, field j "rule_results" = some rj ∧ intField rj "schema_version" = some 4)
    ∧ setEq x.enabledTypes o.ruleNames = true
    ∧ (o.fungi = true → x.rules.cutoffMult = o.cutoffMult ∧ x.rules.neighMult = o.neighMult) := by
  obtain ⟨hf, hn, hm⟩ := HmmDet.regenerate_inv h
  obtain ⟨h1, h2, h3, h4⟩ := HmmDet.fromJson_inv hf
  exact ⟨h1, h2, h3, h4, hn, hm⟩

/-- … and each single mismatch refuses (the run stops) instead of reinterpreting -/
theorem hmmDetection_rule_names_guard (ctx : Ctx) (o : HmmOpts) (j : J) (x : HmmDet)
    (hj : HmmDet.fromJson ctx j = .reuse x) (hne : j ≠ .obj [])
    (h : setEq x.enabledTypes o.ruleNames = false) : HmmDet.regenerate ctx o j = .refuse .runtime := by
  rw [HmmDet.regenerate_eq, regenWith_of_reuse hne hj]
  simp [h]

theorem hmmDetection_multiplier_guard (ctx : Ctx) (o : HmmOpts) (j : J) (x : HmmDet)
    (hj : HmmDet.fromJson ctx j = .reuse x) (hne : j ≠ .obj []) (hf : o.fungi = true)
    (h : x.rules.cutoffMult ≠ o.cutoffMult ∨ x.rules.neighMult ≠ o.neighMult) :
    HmmDet.regenerate ctx o j = .refuse .runtime := by
  rw [HmmDet.regenerate_eq, regenWith_of_reuse hne hj]
  cases h with
  | inl h => simp [hf, h]
  | inr h => simp [hf, h]

theorem hmmDetection_schema_guard (ctx : Ctx) (kv : List (String × J)) (sv : J)
    (hs : lookup "schema_version" kv = some sv) (h : isIntLit (some sv) 2 = false) :
    HmmDet.fromJson ctx (.obj kv) = .refuse .value := by
  simp [HmmDet.fromJson, HmmDet.schemaVersion, hs, h]

theorem sideloaded_reuse_only_same_schema_record (ctx : Ctx) (j : J) (x : Sideloaded)
    (h : Sideloaded.fromJson ctx j = .reuse x) : sideloadMayReuse ctx j = true ∧ x.recordId = ctx.recordId := by
  cases j with
  | obj kv =>
    simp only [Sideloaded.fromJson] at h
    cases hsv : lookup "schema_version" kv with
    | none => rw [hsv] at h; cases h
    | some sv =>
      rw [hsv] at h
      obtain ⟨h1, h⟩ := refuse_guard_eq_reuse h
      cases hrid : lookup "record_id" kv with
      | none => rw [hrid] at h; cases h
      | some rid =>
        simp only [hrid] at h
        obtain ⟨h2, h⟩ := refuse_guard_eq_reuse h
        obtain ⟨_, _, h⟩ := bind_eq_reuse h
        obtain ⟨_, _, h⟩ := bind_eq_reuse h
        obtain ⟨_, _, h⟩ := bind_eq_reuse h
        obtain ⟨_, _, h⟩ := bind_eq_reuse h
        cases h
        rw [← hsv] at h1
        rw [← hrid] at h2
        exact ⟨by simp [sideloadMayReuse, intField_of_guard h1, strField_of_guard h2, Sideloaded.schemaVersion], rfl⟩
  | _ => cases h

/-- HMMer-based modules: reuse implies schema 2, same record, stored thresholds not stricter than
    the current ones; the reused hits are exactly the stored hits inside the current thresholds,
    and the results now carry the current thresholds -/
theorem hmmer_reuse_only_compatible (ctx : Ctx) (maxE minS : Dec) (j : J) (y : HmmerRes)
    (h : HmmerRes.regenerate ctx maxE minS j = .reuse y) :
    hmmerMayReuse ctx maxE minS j = true ∧ y.recordId = ctx.recordId ∧ y.evalue = maxE ∧ y.score = minS
    ∧ ∃ x, HmmerRes.fromJson ctx j = .reuse x ∧ y.hits = hmmerReference x.hits maxE minS := by
  obtain ⟨x, hx, hr⟩ := HmmerRes.regenerate_inv h
  obtain ⟨h1, h2, h3, h4, h5⟩ := HmmerRes.fromJson_inv hx
  obtain ⟨r1, r2, r3, r4, r5, r6⟩ := HmmerRes.refilter_inv hr
  refine ⟨?_, by rw [r6, h5], r4, r5, x, hx, r3⟩
  simp [hmmerMayReuse, h1, h2, h3, h4, r1, r2]

/-- FULL statement (does not hold, see the witness below): after a change of thresholds the reused
    hits are exactly the hits a fresh run under the new thresholds reports. -/
def hmmer_refilter_matches_fresh_full : Prop :=
  ∀ (x y : HmmerRes) (maxE minS : Dec), x.refilter maxE minS = .reuse y → y.hits = hmmerFresh x.hits maxE minS

/-- proved part: it holds whenever no stored hit lies exactly on a current threshold
    (complement of the known-finding class KF-C11-refilter-boundary, `hmmerOnBoundary`) -/
theorem hmmer_refilter_matches_fresh_partial (x y : HmmerRes) (maxE minS : Dec)
    (h : x.refilter maxE minS = .reuse y) (hb : hmmerOnBoundary x.hits maxE minS = false) :
    y.hits = hmmerFresh x.hits maxE minS := by
  obtain ⟨_, _, h3, _⟩ := HmmerRes.refilter_inv h
  rw [h3, hmmerReference_eq_fresh x.hits maxE minS hb]

/-- the general case, no hypothesis: what `refilter` keeps is the fresh-run hit list plus, possibly,
    hits lying exactly on a current threshold — every fresh hit is kept, in order (the fresh list is
    the kept list filtered by the strict comparison), and every kept hit that a fresh run would not
    report is a boundary hit.  So the known-finding class is *exactly* where the two can differ. -/
theorem hmmer_refilter_vs_fresh (x y : HmmerRes) (maxE minS : Dec) (h : x.refilter maxE minS = .reuse y) :
    hmmerFresh x.hits maxE minS = y.hits.filter (fun h => Dec.lt minS h.score && Dec.lt h.evalue maxE)
    ∧ (∀ h ∈ hmmerFresh x.hits maxE minS, h ∈ y.hits)
    ∧ (∀ h ∈ y.hits, h ∉ hmmerFresh x.hits maxE minS → hmmerOnBoundary [h] maxE minS = true) := by
  obtain ⟨_, _, h3, _⟩ := HmmerRes.refilter_inv h
  rw [h3]
  exact hmmerFresh_vs_reference x.hits maxE minS

/-- negation witness: a hit scoring exactly the new minimum (50.0; stored under 25.0) survives
    `refilter` (inclusive) although `build_hits` (exclusive) would not report it -/
def exBoundary : HmmerRes := ⟨"rec1", ⟨1, -2⟩, ⟨25, 0⟩, "/db/pfam/35.0/Pfam-A.hmm", "fullhmmer",
  [⟨"[100:130](+)", "hit0", "cdsA", "p450", ⟨1, -10⟩, ⟨5, 1⟩, "PF00067.25", "desc", 0, 10, "MAGICMAGIC"⟩]⟩
theorem hmmer_refilter_boundary_witness : ¬ hmmer_refilter_matches_fresh_full := by
  intro h
  have h1 := h exBoundary { exBoundary with score := ⟨5, 1⟩ } ⟨1, -2⟩ ⟨5, 1⟩ (by decide +kernel)
  revert h1
  decide +kernel

/-- `refilter` to a laxer threshold is refused -/
theorem hmmer_refilter_lenient_refused (x : HmmerRes) (maxE minS : Dec)
    (h : Dec.lt x.evalue maxE = true ∨ Dec.lt minS x.score = true) : x.refilter maxE minS = .refuse .value := by
  unfold HmmerRes.refilter
  cases h with
  | inl h => simp [h]
  | inr h =>
    split
    · rfl
    · simp_all

/-- laxer current thresholds: the module constants changed, the stored results are dropped -/
theorem hmmer_regenerate_lenient_discards (ctx : Ctx) (maxE minS : Dec) (j : J) (x : HmmerRes)
    (hj : HmmerRes.fromJson ctx j = .reuse x) (hne : j ≠ .obj [])
    (h : Dec.lt minS x.score = true ∨ Dec.lt x.evalue maxE = true) :
    HmmerRes.regenerate ctx maxE minS j = .discard := by
  rw [HmmerRes.regenerate_eq, regenWith_of_reuse hne hj]
  cases h with
  | inl h => simp [h]
  | inr h => simp [h]

/-- re-saved results carry the thresholds they were last filtered with: after a reuse at stricter
    thresholds (`e1`, `s1`) the saved JSON states exactly these, so a later run with a more lenient
    E-value or score (`e1 < e2` or `s2 < s1`) drops them instead of accepting a hit list that is
    missing the hits between the two thresholds -/
theorem hmmer_resaved_then_lenient_discarded (ctx : Ctx) (x y : HmmerRes) (e1 s1 e2 s2 : Dec)
    (hv : x.valid ctx = true) (h : x.refilter e1 s1 = .reuse y)
    (hl : Dec.lt e1 e2 = true ∨ Dec.lt s2 s1 = true) :
    numField y.toJson "max evalue" = some e1 ∧ numField y.toJson "min score" = some s1
    ∧ HmmerRes.regenerate ctx e2 s2 y.toJson = .discard := by
  obtain ⟨_, _, h3, h4, h5, h6⟩ := HmmerRes.refilter_inv h
  simp only [HmmerRes.valid, Bool.and_eq_true, List.all_eq_true, beq_iff_eq] at hv
  have hy : HmmerRes.fromJson ctx y.toJson = .reuse y := by
    apply HmmerRes.fromJson_toJson ctx y (by rw [h6]; exact hv.1)
    intro k hk
    rw [h3] at hk
    exact (hv.2 k (List.mem_filter.mp hk).1).1.1
  refine ⟨by simp [numField, field, HmmerRes.toJson, lookup, h4], by simp [numField, field, HmmerRes.toJson, lookup, h5], ?_⟩
  apply hmmer_regenerate_lenient_discards ctx e2 s2 y.toJson y hy y.toJson_ne_empty
  rw [h4, h5]
  exact hl.symm

/-- the reference of the spec: after the decision (reuse or rerun) the record carries the codons of
    `ttaReference` -/
theorem tta_history_step (rid : String) (gc old new : Dec) (all : List Loc) (hl : TTA.locsOk all = true) :
    (match TTA.fromJson new (TTA.detect rid gc old all).toJson with
     | .reuse y => y.codons
     | _ => (TTA.detect rid gc new all).codons) = ttaReference gc new all := by
  rw [tta_regenerate_sound rid gc old new all hl]
  cases ho : Dec.lt gc old <;> cases hn : Dec.le new gc <;>
    simp [TTA.detect, ttaReference, Dec.lt_eq_not_le gc new, hn]

theorem tta_schema_guard (opt : Dec) (kv : List (String × J)) (sv : J)
    (hs : lookup "schema_version" kv = some sv) (h : isIntLit (some sv) 3 = false) :
    TTA.fromJson opt (.obj kv) = .discard := by
  simp [TTA.fromJson, TTA.schemaVersion, hs, h]

/-- results of another record are never attached: `run_on_record` reruns, `add_to_record` refuses -/
theorem tta_other_record_refused (x : TTA) (rid : String) (h : x.recordId ≠ rid) :
    x.keptByRun rid = false ∧ x.addToRecord rid = .refuse .value := by
  simp [TTA.keptByRun, TTA.addToRecord, h]

/-- main.run_module: whatever could be regenerated is kept, an enabled module runs on top of it, and
    a refusal of the module propagates -/
theorem run_module_stores {ρ} (previous : Option J) (regen : J → Outcome ρ) (inAll enabled : Bool)
    (run : Option ρ → ρ) :
    (∀ e, (∃ j, previous = some j ∧ regen j = .refuse e) → runModule previous regen inAll enabled run = .refuse e)
    ∧ (∀ t, runModule previous regen inAll enabled run = .reuse t →
        ∃ regenerated : Option ρ,
          (regenerated = match previous with
             | none => none
             | some j => (match regen j with | .reuse r => some r | _ => none))
          ∧ t.stored = runModuleStored regenerated (inAll && enabled) run) := by
  constructor
  · rintro e ⟨j, rfl, hj⟩
    simp [runModule, hj]
  · intro t ht
    unfold runModule at ht
    cases previous with
    | none => exact ⟨none, rfl, by cases inAll <;> cases enabled <;> cases ht <;> rfl⟩
    | some j =>
      cases hj : regen j with
      | reuse r =>
        simp only [hj] at ht ⊢
        exact ⟨some r, rfl, by cases inAll <;> cases enabled <;> cases ht <;> rfl⟩
      | discard =>
        simp only [hj] at ht ⊢
        exact ⟨none, rfl, by cases inAll <;> cases enabled <;> cases ht <;> rfl⟩
      | refuse e =>
        simp only [hj] at ht
        cases ht

/-! ### Part 4 — regenerated results add the same things to the record -/

/-- anything computed from the results object alone is the same after regeneration -/
theorem regenerate_adds_same_features {α β} (enc : α → J) (dec : J → Outcome α) (inv : α → Prop)
    (h : RoundTrips enc dec inv) (adds : α → β) (x : α) (hx : inv x) :
    ∃ y, dec (enc x) = .reuse y ∧ adds y = adds x :=
  ⟨x, h x hx, rfl⟩

theorem sideloaded_adds_same_areas (ctx : Ctx) (x : Sideloaded) (hv : x.valid ctx = true)
    (requested : Option Sideloaded)
    (hr : ∀ r, requested = some r → r.subregions = x.subregions ∧ r.protoclusters = x.protoclusters) :
    ∃ y, Sideloaded.regenerate ctx requested x.toJson = .reuse y
      ∧ y.predictedSubregions = x.predictedSubregions ∧ y.predictedProtoclusters = x.predictedProtoclusters :=
  ⟨x, Sideloaded.regenerate_toJson ctx x hv requested hr, rfl, rfl⟩

/-- D56: annotations requested for the current run that differ from the stored ones stop the run;
    a `reuse` therefore means: nothing requested, or exactly the stored annotations requested -/
theorem sideloaded_changed_request_refused (ctx : Ctx) (j : J) (x r : Sideloaded)
    (hj : Sideloaded.fromJson ctx j = .reuse x) (hne : j ≠ .obj [])
    (h : r.subregions ≠ x.subregions ∨ r.protoclusters ≠ x.protoclusters) :
    Sideloaded.regenerate ctx (some r) j = .refuse .runtime := by
  rw [Sideloaded.regenerate_eq, regenWith_of_reuse hne hj]
  cases h with
  | inl h => simp [h]
  | inr h => simp [h]

theorem sideloaded_reuse_only_same_request (ctx : Ctx) (requested : Option Sideloaded) (j : J) (x : Sideloaded)
    (h : Sideloaded.regenerate ctx requested j = .reuse x) :
    Sideloaded.fromJson ctx j = .reuse x
    ∧ ∀ r, requested = some r → r.subregions = x.subregions ∧ r.protoclusters = x.protoclusters := by
  rw [Sideloaded.regenerate_eq] at h
  obtain ⟨y, hy, h⟩ := regenWith_eq_reuse h
  cases requested with
  | none => cases h; exact ⟨hy, fun r hr => by cases hr⟩
  | some r =>
    obtain ⟨hc, h⟩ := refuse_guard_eq_reuse h
    cases h
    refine ⟨hy, fun r' hr' => ?_⟩
    cases hr'
    simpa using hc

/-- the protoclusters handed to the record keep location, core, product, cutoff, … — only the
    record's own numbering is absent until they are added again -/
theorem hmmDetection_adds_same_protoclusters (ctx : Ctx) (x : HmmDet) (hv : x.valid ctx = true) :
    ∃ y, HmmDet.fromJson ctx x.toJson = .reuse y
      ∧ y.rules.protoclusters = x.rules.protoclusters.map Proto.detach := by
  refine ⟨_, HmmDet.fromJson_toJson ctx x hv, ?_⟩
  simp [RuleRes.protoclusters, RuleRes.detach, List.map_map, Function.comp_def]

/-- gene annotations (`sec_met` domains, CORE / ADDITIONAL gene functions, in order) that
    `annotate_cds_features` adds: the same after regeneration -/
theorem hmmDetection_adds_same_annotations (ctx : Ctx) (x : HmmDet) (hv : x.valid ctx = true) :
    ∃ y, HmmDet.fromJson ctx x.toJson = .reuse y ∧ y.rules.annotateAll = x.rules.annotateAll := by
  refine ⟨_, HmmDet.fromJson_toJson ctx x hv, ?_⟩
  simp [RuleRes.annotateAll, RuleRes.detach, List.flatMap_map]

/-- the aSDomain / PFAM feature identifiers handed to the record are those of the originals -/
theorem nrpsPks_adds_same_domain_ids (r : ModRules) (ctx : Ctx) (x : NrpsPks) (hv : x.valid r ctx = true) :
    ∃ y, NrpsPks.fromJson r ctx x.toJson = .reuse y ∧ y.domainIds = x.domainIds :=
  ⟨x, NrpsPks.fromJson_toJson r ctx x hv, rfl⟩

theorem hmmer_adds_same_domain_ids (ctx : Ctx) (x : HmmerRes) (hv : x.valid ctx = true) :
    ∃ y, HmmerRes.regenerate ctx x.evalue x.score x.toJson = .reuse y ∧ y.domainIds = x.domainIds :=
  ⟨x, hmmer_regenerate_same_thresholds ctx x hv, rfl⟩

theorem tta_adds_same_features (rid : String) (gc t : Dec) (all : List Loc) (hl : TTA.locsOk all = true) :
    ∃ y, TTA.fromJson t (TTA.detect rid gc t all).toJson = .reuse y
      ∧ y.features = (TTA.detect rid gc t all).features ∧ y.addToRecord rid = (TTA.detect rid gc t all).addToRecord rid :=
  ⟨_, tta_json_roundtrip rid gc t all hl, rfl, rfl⟩

/-! ### Part 5 — the producing side of hmm_detection and the results file

  What a run *stores* must be what the same run accepts back: `run_on_record` writes the rule names,
  strictness and the multipliers of `get_ruleset(options)`; `regenerate_previous_results` checks
  exactly these.  The gene-less early exit of `detect_protoclusters_and_signatures` is a separate
  code path that has to store the rule set's multipliers as well. -/

/-- results stored by a run under options `o` (its rule names, its rule set's multipliers) are
    reused by a later run under the same options -/
theorem hmmDetection_fresh_regenerates (ctx : Ctx) (o : HmmOpts) (x : HmmDet) (hv : x.valid ctx = true)
    (hm : (x.rules.cutoffMult, x.rules.neighMult) = rulesetMultipliers o) (he : x.enabledTypes = o.ruleNames) :
    HmmDet.regenerate ctx o x.toJson = .reuse { x with rules := x.rules.detach } := by
  apply hmmDetection_regenerate_same_settings ctx o x hv
  · rw [he]; exact setEq_refl _
  · intro hf
    simp only [rulesetMultipliers, hf, if_true, Prod.mk.injEq] at hm
    exact hm

/-- a record without genes: the early exit stores `ruleset.multipliers`, so for every admissible
    option set (bacterial or fungal, any positive multipliers, any strictness, any rule subset) the
    stored results are valid and regenerate to themselves under the same options -/
theorem hmmDetection_no_genes_regenerates (ctx : Ctx) (o : HmmOpts) (tool : String) (ho : o.ok = true) :
    HmmDet.regenerate ctx o (HmmDet.runNoGenes ctx o tool).toJson = .reuse (HmmDet.runNoGenes ctx o tool) := by
  have hp := rulesetMultipliers_pos o ho
  have hv : (HmmDet.runNoGenes ctx o tool).valid ctx = true := by
    simp only [HmmOpts.ok, Bool.and_eq_true] at ho
    simpa [HmmDet.valid, HmmDet.runNoGenes, HmmDet.runOnRecord, RuleRes.noGenes, RuleRes.valid, hp.1, hp.2]
      using ho.1.1
  have h := hmmDetection_fresh_regenerates ctx o (HmmDet.runNoGenes ctx o tool) hv rfl rfl
  simpa [HmmDet.runNoGenes, HmmDet.runOnRecord, RuleRes.noGenes, RuleRes.detach] using h

/-- … and their JSON states the settings they were produced under (spec `hmmDetSavedUnder`) -/
theorem hmmDetection_no_genes_states_its_settings (ctx : Ctx) (o : HmmOpts) (tool : String) :
    hmmDetSavedUnder o (HmmDet.runNoGenes ctx o tool).toJson = true := by
  simp only [hmmDetSavedUnder, strsField, field, HmmDet.toJson, HmmDet.runNoGenes, HmmDet.runOnRecord,
    RuleRes.noGenes, rulesetMultipliers, jStrs, RuleRes.toJson, List.map_nil,
    lookup, String.reduceBEq, Bool.false_eq_true, ↓reduceIte, BEq.rfl, strsOf_map_str, strField, Bool.and_self, numField]
  -- left: the stored multipliers are those of the rule set, fungal or not
  cases o.fungi <;> simp

/-- the results file: what `to_json` writes is read back by `from_file` (timings are not kept) -/
theorem resultsFile_json_roundtrip (f : ResultsFile) (hv : f.valid = true) :
    ResultsFile.fromJson f.toJson = .reuse { f with timings := .obj [] } :=
  ResultsFile.fromJson_toJson f hv

/-- every module's stored JSON comes back verbatim, per record, in order -/
theorem resultsFile_modules_verbatim (f : ResultsFile) (hv : f.valid = true) :
    ∃ g, ResultsFile.fromJson f.toJson = .reuse g ∧ g.records.map (·.modules) = f.records.map (·.modules)
      ∧ g.taxon = f.taxon ∧ ResultsFile.readDataTaxon "any option" g = f.taxon :=
  ⟨_, ResultsFile.fromJson_toJson f hv, rfl, rfl, rfl⟩

/-- a file is only read when its own schema number is 1–4 (or absent) -/
theorem resultsFile_reuse_only_compatible_schema (j : J) (f : ResultsFile)
    (h : ResultsFile.fromJson j = .reuse f) : fileMayReuse j = true := by
  cases j with
  | obj kv =>
    simp only [ResultsFile.fromJson] at h
    split at h
    · simp at h
    · rename_i ha
      exact ResultsFile.schemaAccepted_spec (by simpa using ha)
  | _ => cases h

/-- any other schema number under the key "schema" is refused, whatever else the file holds
    (in particular whatever a key "schema_version" says) -/
theorem resultsFile_schema_guard (kv : List (String × J)) (n : Int)
    (hs : lookup "schema" kv = some (.int n)) (hn : n < 1 ∨ 4 < n) :
    ResultsFile.fromJson (.obj kv) = .refuse .value := by
  have : ResultsFile.schemaAccepted (lookup "schema" kv) = false := by
    rw [hs, ResultsFile.schemaAccepted_int, decide_eq_false_iff_not]
    omega
  simp [ResultsFile.fromJson, this]

/-! ### Part 6 — reuse as a function of (stored settings, current options), every option a field

  Sideloader: `SideOpts` = files (as parsed), `--sideload-simple`, `--sideload-by-cds`,
  `--sideload-size-by-cds`.  full_hmmer / cluster_hmmer: `PfamOpts` = `--fullhmmer-pfamdb-version`,
  `--clusterhmmer-pfamdb-version`, and the newest installed version. -/

/-- a run's own sideloaded results are reused by a run under the same options — whatever the
    options are (any padding, any markers, circular or linear record) -/
theorem sideload_own_results_reused (r : RecInfo) (o : SideOpts) (x : Sideloaded)
    (hf : ∀ s ∈ o.fileSubs, SubAnn.valid r.origin s = true)
    (hp : ∀ p ∈ o.fileProtos, ProtoAnn.valid r.origin p = true)
    (hl : o.runOnRecord r none = .reuse x) :
    o.regenerate r x.toJson = .reuse x ∧ o.runOnRecord r (some x) = .reuse x := by
  have hl' : SideOpts.load r o = .reuse x := hl
  have hv := SideOpts.load_valid hl' hf hp
  refine ⟨?_, rfl⟩
  cases he : o.enabled with
  | true =>
    rw [SideOpts.regenerate_enabled he hv hl']
    exact Sideloaded.regenerate_toJson r.ctx x hv (some x) (fun _ hr => by cases hr; exact ⟨rfl, rfl⟩)
  | false =>
    rw [SideOpts.regenerate_disabled he]
    exact Sideloaded.regenerate_toJson r.ctx x hv none (fun _ hr => by cases hr)

/-- reused iff the stored annotations equal the ones this run would load; otherwise the run stops -/
theorem sideload_reused_iff_same_request (r : RecInfo) (o : SideOpts) (x y : Sideloaded)
    (hv : x.valid r.ctx = true) (he : o.enabled = true) (hl : SideOpts.load r o = .reuse y) :
    o.regenerate r x.toJson =
      (if sideloadOptsMayReuse o x y then .reuse x else .refuse .runtime) := by
  rw [SideOpts.regenerate_enabled he hv hl, Sideloaded.regenerate_eq,
    regenWith_of_reuse x.toJson_ne_empty (Sideloaded.fromJson_toJson r.ctx x hv)]
  simp only [sideloadOptsMayReuse, he]
  by_cases h1 : y.subregions = x.subregions <;> by_cases h2 : y.protoclusters = x.protoclusters <;> simp [h1, h2]

/-- an annotation-file entry `{"start", "end", "label"}` becomes exactly the sub-region the constructor
    builds from these values with the file's tool (no details) … -/
theorem subregion_from_schema_entry (tool : Tool) (hn : Tool.nameOk tool.name = true) (origin : Option Int)
    (s e : Int) (label : String) :
    SideOpts.subFromSchema tool origin (.obj [("start", .int s), ("end", .int e), ("label", .str label)])
      = SubAnn.make s e label tool [] origin := by
  simp [results_json, SideOpts.subFromSchema, SubAnn.fromJson, Tool.fromJson_toJson tool hn]

/-- … and a protocluster entry without neighbourhoods gets the neighbourhoods 0 / 0 -/
theorem protocluster_from_schema_entry (tool : Tool) (hn : Tool.nameOk tool.name = true) (origin : Option Int)
    (cs ce : Int) (product : String) :
    SideOpts.protoFromSchema tool origin (.obj [("core_start", .int cs), ("core_end", .int ce), ("product", .str product)])
      = ProtoAnn.make cs ce product tool [] 0 0 origin := by
  simp [results_json, SideOpts.protoFromSchema, ProtoAnn.fromJson, Tool.fromJson_toJson tool hn]

/-- record entries for other records contribute nothing -/
theorem loadFile_skips_other_records (r : RecInfo) (tool : Tool) (hn : Tool.nameOk tool.name = true)
    (other : String) (ho : r.hasName other = false) (areas : List (String × J)) :
    SideOpts.loadFile r (.obj [("tool", tool.toJson), ("records", .arr [.obj (("name", .str other) :: areas)])])
      = .reuse ([], []) := by
  simp only [SideOpts.loadFile, reqTool, lookup, BEq.rfl, ↓reduceIte, Tool.fromJson_toJson tool hn, reqArr,
    String.reduceBEq, Bool.false_eq_true, pure_eq_reuse, bind_reuse, mapO, ho,
    List.flatMap_cons, List.flatMap_nil, List.append_nil]

/-- PFAM results are kept iff they were computed with the version this module's own option asks for;
    otherwise the module searches again in that version -/
theorem pfam_results_kept_iff_own_version (m : HmmerModule) (o : PfamOpts) (res : HmmerRes) (v : String)
    (hv : dbVersionOfPath res.database = .reuse v) :
    hmmerRunOnRecord m o (some res) =
      (if pfamKeepAllowed m o v then .reuse (.keep res) else .reuse (.rerun (o.wanted m))) := by
  simp only [hmmerRunOnRecord, hv, pfamKeepAllowed_eq]

/-- "latest" resolves to one of the installed versions (numeric comparison of the components:
    10.0 is newer than 9.0) -/
theorem latestVersion_installed (installed : List String) (v : String) (h : latestVersion installed = .reuse v) :
    v ∈ installed := by
  unfold latestVersion at h
  split at h
  · cases h
  · cases h
  · rename_i k ks hm
    cases h
    exact versionKeys_mem installed _ hm _
      (foldl_pick_mem (fun best c => if versionLt best c then c else best)
        (fun a b => by by_cases hlt : versionLt a b = true <;> simp [hlt]) ks k)

/-- the sibling module's option is never consulted -/
theorem clusterhmmer_ignores_fullhmmer_option (o : PfamOpts) (other : String) (res : Option HmmerRes) :
    hmmerRunOnRecord .cluster { o with fullVersion := other } res = hmmerRunOnRecord .cluster o res := by
  unfold hmmerRunOnRecord
  rw [PfamOpts.wanted_cluster_ignores_full]

theorem fullhmmer_ignores_clusterhmmer_option (o : PfamOpts) (other : String) (res : Option HmmerRes) :
    hmmerRunOnRecord .full { o with clusterVersion := other } res = hmmerRunOnRecord .full o res := by
  unfold hmmerRunOnRecord
  rw [PfamOpts.wanted_full_ignores_cluster]

/-! ### Part 7 — renamed duplicate records, and annotating a record that was stripped first -/

/-- HMMer-based results are reused only for the record whose *current* id they carry: a record that
    pre-processing renamed (`scaffold` → `scaffold_0`, original id `scaffold`) does not inherit the
    results saved for the record that kept the name -/
theorem hmmer_renamed_duplicate_discarded (ctx : Ctx) (kv : List (String × J)) (stored : String)
    (hs : lookup "record id" kv = some (.str stored)) (_horig : ctx.originalId = some stored)
    (hne : stored ≠ ctx.recordId) (maxE minS : Dec) :
    HmmerRes.fromJson ctx (.obj kv) = .discard ∧ HmmerRes.regenerate ctx maxE minS (.obj kv) = .discard := by
  have h1 : HmmerRes.fromJson ctx (.obj kv) = .discard := by
    simp [HmmerRes.fromJson, hs, isStrLit, hne]
  refine ⟨h1, ?_⟩
  unfold HmmerRes.regenerate
  split
  · rfl
  · rw [h1]

/-- no record guard of any results class looks at the original id -/
theorem record_guards_ignore_original_id (r : ModRules) (ctx : Ctx) (orig : Option String) (o : HmmOpts)
    (maxE minS : Dec) (req : Option Sideloaded) (j : J) :
    HmmerRes.regenerate { ctx with originalId := orig } maxE minS j = HmmerRes.regenerate ctx maxE minS j
    ∧ NrpsPks.fromJson r { ctx with originalId := orig } j = NrpsPks.fromJson r ctx j
    ∧ HmmDet.regenerate { ctx with originalId := orig } o j = HmmDet.regenerate ctx o j
    ∧ Sideloaded.regenerate { ctx with originalId := orig } req j = Sideloaded.regenerate ctx req j :=
  ⟨rfl, rfl, rfl, rfl⟩

/-- `GeneFunctionAnnotations`: `add` and `clear` keep the duplicate index equal to the annotations … -/
theorem geneFunctions_index_consistent (g : GeneFns) (f : GeneFn) (h : g.consistent = true) :
    (g.add f).consistent = true ∧ g.clear.consistent = true := by
  simp only [GeneFns.consistent, beq_iff_eq] at h
  constructor
  · unfold GeneFns.add
    split
    · simpa [GeneFns.consistent] using h
    · simp [GeneFns.consistent, h]
  · rfl

/-- … so after `clear` an annotation that was there before is added again -/
theorem geneFunctions_clear_then_add (g : GeneFns) (f : GeneFn) : (g.clear.add f).annotations = [f] := by
  simp [GeneFns.clear, GeneFns.add]

/-- the reuse flow of `main.read_data`: a gene that already carries the annotations, stripped, then
    annotated by the regenerated results, ends up exactly as a never-annotated gene would -/
theorem annotate_after_strip_as_fresh (tool : String) (st : CdsState) (c : CdsRes) :
    c.annotate tool st.strip = c.annotate tool {} := rfl

theorem reannotate_after_strip (tool : String) (st : CdsState) (c : CdsRes) :
    c.annotate tool (c.annotate tool st).strip = c.annotate tool {} := rfl

/-- the per-gene results come back in the saved order (the order of the genes along the regions),
    whatever the gene names are: same key order in the re-saved JSON, domain features added gene by
    gene in the same order -/
theorem nrpsPks_regenerated_keeps_gene_order (r : ModRules) (ctx : Ctx) (x : NrpsPks) (hv : x.valid r ctx = true) :
    ∃ y, NrpsPks.fromJson r ctx x.toJson = .reuse y ∧ y.cds.map (·.1) = x.cds.map (·.1)
      ∧ y.toJson = x.toJson ∧ y.domainIds = x.domainIds :=
  ⟨x, NrpsPks.fromJson_toJson r ctx x hv, rfl, rfl, rfl⟩

/-- `annotate_cds_features` reaches every stored CDSResults — also those kept for genes of already
    existing (sideloaded) subregions when no protocluster was found at all: each of them gets its
    `sec_met` qualifier (and through the round trip the same holds after regeneration) -/
theorem annotations_cover_outside_hits (x : RuleRes) :
    (∀ c ∈ x.outside, c.cdsName ∈ x.annotateAll.map (·.1))
    ∧ (∀ p ∈ x.byCluster, ∀ c ∈ p.2, c.cdsName ∈ x.annotateAll.map (·.1)) := by
  have h := (foldl_updState_keys x.tool (x.byCluster.flatMap (·.2) ++ x.outside) []).2
  constructor
  · intro c hc
    exact h c (List.mem_append_right _ hc)
  · intro p hp c hc
    exact h c (List.mem_append_left _ (List.mem_flatMap.mpr ⟨p, hp, hc⟩))

theorem regenerated_annotates_outside_hits (ctx : Ctx) (x : HmmDet) (hv : x.valid ctx = true) :
    ∃ y, HmmDet.fromJson ctx x.toJson = .reuse y ∧ y.rules.annotateAll = x.rules.annotateAll
      ∧ ∀ c ∈ x.rules.outside, c.cdsName ∈ y.rules.annotateAll.map (·.1) := by
  obtain ⟨y, hy, ha⟩ := hmmDetection_adds_same_annotations ctx x hv
  exact ⟨y, hy, ha, fun c hc => by rw [ha]; exact (annotations_cover_outside_hits x.rules).1 c hc⟩

/-- regenerated TTA results keep the record id they were saved with (never the current record's):
    that id is what `run_on_record` and `add_to_record` test -/
theorem tta_regenerated_keeps_saved_record_id (opt : Dec) (j : J) (x : TTA) (h : TTA.fromJson opt j = .reuse x) :
    strField j "record_id" = some x.recordId := by
  cases j with
  | obj kv => simp only [strField, field, TTA.fromJson_recordId h]
  | _ => cases h

/-- … so TTA results saved for one record are never taken over by another: the module runs afresh,
    and adding them to the other record is refused -/
theorem tta_results_of_another_record_not_reused (opt : Dec) (j : J) (x : TTA) (rid : String)
    (h : TTA.fromJson opt j = .reuse x) (hne : strField j "record_id" ≠ some rid) :
    x.keptByRun rid = false ∧ x.addToRecord rid = .refuse .value := by
  have hs := tta_regenerated_keeps_saved_record_id opt j x h
  apply tta_other_record_refused
  intro heq
  rw [hs, heq] at hne
  exact hne rfl

/-- the rule names of a run grow with the strictness level (strict ⊆ relaxed ⊆ loose) … -/
theorem rulesetNames_mono (rules : List RuleInfo) (s₁ s₂ : String) (ln lc : List String)
    (h : strictnessIndex s₁ ≤ strictnessIndex s₂) :
    ∀ n ∈ rulesetNames rules s₁ ln lc, n ∈ rulesetNames rules s₂ ln lc := by
  intro n hn
  simp only [rulesetNames, List.mem_map, List.mem_filter, decide_eq_true_eq] at hn ⊢
  obtain ⟨r, ⟨⟨hr, hl⟩, hf⟩, rfl⟩ := hn
  exact ⟨r, ⟨⟨hr, by omega⟩, hf⟩, rfl⟩

/-- … and results saved under one strictness are refused under another whenever the two rule sets
    differ (the rule names of the *current* options decide, not those of an earlier call) -/
theorem hmmDetection_other_strictness_refused (ctx : Ctx) (rules : List RuleInfo) (ln lc : List String)
    (o : HmmOpts) (x : HmmDet) (hv : x.valid ctx = true) (saved : String)
    (hx : x.enabledTypes = rulesetNames rules saved ln lc)
    (ho : o.ruleNames = rulesetNames rules o.strictness ln lc)
    (hdiff : setEq (rulesetNames rules saved ln lc) (rulesetNames rules o.strictness ln lc) = false) :
    HmmDet.regenerate ctx o x.toJson = .refuse .runtime := by
  apply hmmDetection_rule_names_guard ctx o x.toJson _ (HmmDet.fromJson_toJson ctx x hv)
  · exact x.toJson_ne_empty
  · show setEq x.enabledTypes o.ruleNames = false
    rw [hx, ho]; exact hdiff

/-- every per-gene entry that was saved is there again after regeneration — also a gene that has
    only motif hits and no domain hit -/
theorem nrpsPks_keeps_every_stored_gene (r : ModRules) (ctx : Ctx) (x : NrpsPks) (hv : x.valid r ctx = true) :
    ∃ y, NrpsPks.fromJson r ctx x.toJson = .reuse y ∧ ∀ p ∈ x.cds, p.1 ∈ y.cds.map (·.1) :=
  ⟨x, NrpsPks.fromJson_toJson r ctx x hv, fun p hp => List.mem_map_of_mem hp⟩

/-! ### non-vacuity: the invariants hold on non-trivial concrete objects -/

def exHit : HMMResult :=
  .mk "PKS_KS" 400 500 ⟨1, -20⟩ ⟨505, -1⟩
    [.mk "Trans-AT-KS" 410 490 ⟨1, -5⟩ ⟨2, 1⟩ [.mk "Clade_1" 420 480 ⟨1, -3⟩ ⟨125, -1⟩ []]]

example : exHit.valid = true := by decide +kernel
example : HMMResult.fromJson exHit.toJson = .reuse exHit := hmmResult_json_roundtrip exHit (by decide +kernel)
-- a displaced internal hit is refused
example : HMMResult.fromJson (HMMResult.mk "PKS_KS" 400 500 ⟨1, -20⟩ ⟨505, -1⟩
    [.mk "Trans-AT-KS" 503 520 ⟨1, -5⟩ ⟨2, 1⟩ []]).toJson = .refuse .value := by rfl

def exCtx : Ctx := ⟨"rec1", ["cdsA", "cdsB"], none, none⟩
def exRules : ModRules := ⟨fun _ => true, fun _ _ => true⟩
def exNrps : NrpsPks := ⟨"rec1", [("cdsA", ⟨[exHit], [], [⟨[⟨exHit, "cdsA"⟩, ⟨.mk "ACP" 510 560 ⟨1, -9⟩ ⟨3, 1⟩ [], "cdsB"⟩], false⟩]⟩)]⟩
example : exNrps.valid exRules exCtx = true := by decide +kernel
example : NrpsPks.fromJson exRules { exCtx with recordId := "other" } exNrps.toJson = .discard :=
  nrpsPks_record_guard exRules _ _ (by decide +kernel)

-- the bridge is not vacuous: the module C14's main loop builds from C A PCP is the one `exMod` stores
def exMod : Module := ⟨[⟨.mk "Condensation_LCL" 10 100 ⟨1, -20⟩ ⟨505, -1⟩ [], "cdsA"⟩,
  ⟨.mk "AMP-binding" 110 300 ⟨1, -20⟩ ⟨505, -1⟩ [], "cdsA"⟩, ⟨.mk "PCP" 320 380 ⟨1, -20⟩ ⟨505, -1⟩ [], "cdsA"⟩], true⟩
example : (match Modules.buildGo (exMod.components.map absC) [] (Modules.Module.new true) with
    | .ok ([], m) => decide (exMod.components.map absC = m.components) && (exMod.firstInCds == m.firstInCds)
    | _ => false) = true := by decide +kernel
example : exMod.valid c14Rules = true := by decide +kernel
-- a module that cannot be re-added (a second starter after other components) is refused
example : (match Module.fromJson c14Rules (Module.toJson ⟨exMod.components ++ [⟨.mk "PKS_KS" 400 500 ⟨1, -20⟩ ⟨505, -1⟩ [], "cdsA"⟩], true⟩) with
    | .refuse .value => true
    | _ => false) = true := by decide +kernel

def exProto : Proto :=
  { loc := .compound [⟨900, 1000, .fwd⟩, ⟨0, 150, .fwd⟩], core := .simple ⟨20, 100, .fwd⟩, tool := "rule-based-clusters",
    product := "T1PKS", cutoff := 20000, neighbourhood := 50, rule := "a and b", category := "PKS",
    number := some 2, contigEdge := some false }
def exCds : CdsRes := ⟨"cdsA", [⟨"PKS_KS", ⟨1, -20⟩, ⟨505, -1⟩, 12, "rule-based-clusters"⟩],
  [("T1PKS", ["PKS_AT", "PKS_KS"]), ("NRPS", [])]⟩
def exDet : HmmDet := ⟨"rec1", ⟨"rule-based-clusters", [(exProto, [exCds])], [], ⟨1, 0⟩, ⟨15, -1⟩⟩, ["T1PKS", "NRPS"], "relaxed"⟩
example : exDet.valid exCtx = true := by decide +kernel
example : HmmDet.regenerate exCtx ⟨"strict", ["NRPS"], false, ⟨1, 0⟩, ⟨1, 0⟩⟩ exDet.toJson = .refuse .runtime :=
  hmmDetection_rule_names_guard exCtx _ _ _ (HmmDet.fromJson_toJson exCtx exDet (by decide +kernel))
    (HmmDet.toJson_ne_empty exDet) (by decide +kernel)

def exTool : Tool := ⟨"my tool", "1.0", "", [("k", ["v"])]⟩
def exSide : Sideloaded := ⟨"rec1", [⟨some 1000, 900, 100, "lbl", [("score", ["6.5"])], exTool⟩],
  [⟨some 1000, 950, 30, "prodA", exTool, [], 100, 20⟩]⟩
example : exSide.valid { exCtx with origin := some 1000 } = true := by decide +kernel
-- the same JSON against a linear record of the same id is refused, not reinterpreted
example : Sideloaded.fromJson exCtx exSide.toJson = .refuse .value := by decide +kernel

def exHmmer : HmmerRes := ⟨"rec1", ⟨1, -2⟩, ⟨0, 0⟩, "/db/pfam/35.0/Pfam-A.hmm", "fullhmmer",
  [⟨"[100:130](+)", "hit0", "cdsA", "p450", ⟨1, -10⟩, ⟨505, -1⟩, "PF00067.25", "desc", 0, 10, "MAGICMAGIC"⟩]⟩
example : exHmmer.valid exCtx = true := by decide +kernel
example : (exHmmer.refilter ⟨1, -1⟩ ⟨0, 0⟩) = .refuse .value := by decide +kernel

-- TTA: low-GC record skipped under 0.65, codons wanted under 0.5 → rerun; kept under 0.65
def exCodons : List Loc := [.simple ⟨12, 15, .fwd⟩, .compound [⟨28, 30, .rev⟩, ⟨40, 41, .rev⟩]]
example : TTA.locsOk exCodons = true := by decide +kernel
example : TTA.fromJson ⟨5, -1⟩ (TTA.detect "r" ⟨6, -1⟩ ⟨65, -2⟩ exCodons).toJson = .discard := by
  rw [tta_regenerate_sound _ _ _ _ _ (by decide +kernel)]; decide +kernel
example : TTA.fromJson ⟨7, -1⟩ (TTA.detect "r" ⟨6, -1⟩ ⟨5, -1⟩ exCodons).toJson
    = .reuse ⟨"r", ⟨6, -1⟩, ⟨7, -1⟩, []⟩ := by
  rw [tta_regenerate_sound _ _ _ _ _ (by decide +kernel)]; decide +kernel

-- gene-less record of a fungal run (neighbourhood multiplier 1.5): stored, then regenerated
def exFungal : HmmOpts := ⟨"relaxed", ["NRPS", "T1PKS"], true, ⟨1, 0⟩, ⟨15, -1⟩⟩
example : exFungal.ok = true := by decide +kernel
example : HmmDet.regenerate exCtx exFungal (HmmDet.runNoGenes exCtx exFungal "rule-based-clusters").toJson
    = .reuse (HmmDet.runNoGenes exCtx exFungal "rule-based-clusters") :=
  hmmDetection_no_genes_regenerates exCtx exFungal _ (by decide +kernel)
-- had the early exit stored the default multipliers instead, the same run would refuse its own results
example : HmmDet.regenerate exCtx exFungal
    (HmmDet.runOnRecord exCtx exFungal (RuleRes.noGenes "rule-based-clusters" (Dec.one, Dec.one))).toJson
    = .refuse .runtime := by decide +kernel

def exFile : ResultsFile := ⟨"8.0.0", "input.gbk",
  [⟨[("id", .str "rec1"), ("gc_content", .num ⟨5, -1⟩)], [("antismash.modules.tta", (TTA.detect "rec1" ⟨6, -1⟩ ⟨5, -1⟩ exCodons).toJson)]⟩],
  .obj [], "fungi"⟩
example : exFile.valid = true := by decide +kernel
example : ResultsFile.fromJson exFile.toJson = .reuse exFile := resultsFile_json_roundtrip exFile (by decide +kernel)
-- a file of a newer schema is refused even if it also carries "schema_version": 4
example : ResultsFile.fromJson (.obj [("version", .str "9"), ("input_file", .str "x"), ("records", .arr []),
    ("taxon", .str "bacteria"), ("schema_version", .int 4), ("schema", .int 5)]) = .refuse .value :=
  resultsFile_schema_guard _ 5 (by rfl) (by decide)

-- sideloading by gene with a non-default padding on a circular record: stored, then reused;
-- under another padding the same request is refused
def exRec : RecInfo := ⟨"rec1", none, 10000, true, [("geneA", 9500, 9800), ("geneB", 3000, 3300)]⟩
def exSideOpts : SideOpts := { markers := ["geneA", "nosuchgene"], padding := 500, simple := some ("rec1", 2000, 4000) }
example : ∃ x, exSideOpts.runOnRecord exRec none = .reuse x ∧ x.subregions.length = 2
    ∧ exSideOpts.regenerate exRec x.toJson = .reuse x :=
  ⟨_, rfl, rfl, (sideload_own_results_reused exRec exSideOpts _ (by simp [exSideOpts]) (by simp [exSideOpts]) rfl).1⟩
example : ∃ x, exSideOpts.runOnRecord exRec none = .reuse x
    ∧ SideOpts.regenerate exRec { exSideOpts with padding := 20000 } x.toJson = .refuse .runtime := ⟨_, rfl, by decide +kernel⟩

-- a small annotation file: one entry for this record (by its original id), one for another record
example : SideOpts.loadFile { exRec with originalId := some "scaffold" }
    (.obj [("tool", .obj [("name", .str "my tool"), ("version", .str "1.0")]),
           ("records", .arr [.obj [("name", .str "scaffold"), ("subregions", .arr [.obj [("start", .int 100), ("end", .int 900), ("label", .str "lbl")]])],
                             .obj [("name", .str "someone_else"), ("subregions", .arr [.obj [("start", .int 1), ("end", .int 9), ("label", .str "x")]])]])])
    = .reuse ([⟨some 10000, 100, 900, "lbl", [], ⟨"my tool", "1.0", "", []⟩⟩], []) := by decide +kernel
example : dbVersionOfPath "/data/antismash/pfam/35.0/Pfam-A.hmm" = .reuse "35.0" := by decide +kernel
example : latestVersion ["9.0", "31.0", "10.0", "10.1"] = .reuse "31.0" ∧ latestVersion ["9.0", "10.0"] = .reuse "10.0"
    ∧ latestVersion [] = .refuse .value ∧ latestVersion ["35.0", "old"] = .refuse .value := by decide +kernel
-- cluster results of version 34.0, `--clusterhmmer-pfamdb-version 34.0 --fullhmmer-pfamdb-version 35.0`: kept
example : hmmerRunOnRecord .cluster ⟨"35.0", "34.0", "35.0"⟩ (some { exHmmer with database := "/db/pfam/34.0/Pfam-A.hmm" })
    = .reuse (.keep { exHmmer with database := "/db/pfam/34.0/Pfam-A.hmm" }) := by decide +kernel
-- … and searched again when the cluster option asks for 35.0 although the sibling option says 34.0
example : hmmerRunOnRecord .cluster ⟨"34.0", "35.0", "35.0"⟩ (some { exHmmer with database := "/db/pfam/34.0/Pfam-A.hmm" })
    = .reuse (.rerun "35.0") := by decide +kernel

-- a gene annotated, stripped and annotated again by the same results carries the CORE functions again
example : ((exCds.annotate "rule-based-clusters" (exCds.annotate "rule-based-clusters" {}).strip).functions.annotations).length = 2 := by
  decide +kernel
-- with an index that `clear` forgot to reset, the second round would add nothing
example : let g := ({} : GeneFns).add ⟨.core, "t", "PKS_KS", some "T1PKS"⟩
    ((⟨[], g.byFunction⟩ : GeneFns).add ⟨.core, "t", "PKS_KS", some "T1PKS"⟩).annotations = [] := by decide +kernel
-- results saved for `scaffold` are not taken over by the renamed `scaffold_0`
example : HmmerRes.fromJson ⟨"scaffold_0", [], none, some "scaffold"⟩ { exHmmer with recordId := "scaffold" }.toJson = .discard := by
  decide +kernel

-- genes whose names do not sort in their order along the record: nrpsB lies before nrpsA
def exOrder : NrpsPks := ⟨"rec1", [("nrpsB", ⟨[exHit], [], []⟩), ("nrpsA", ⟨[.mk "ACP" 5 60 ⟨1, -9⟩ ⟨3, 1⟩ []], [], []⟩)]⟩
def exOrderCtx : Ctx := ⟨"rec1", ["nrpsA", "nrpsB"], none, none⟩
example : exOrder.valid exRules exOrderCtx = true := by decide +kernel
example : exOrder.domainIds = ["nrpspksdomains_nrpsB_PKS_KS.1", "nrpspksdomains_nrpsA_ACP.1"] := by decide +kernel
example : ∃ y, NrpsPks.fromJson exRules exOrderCtx exOrder.toJson = .reuse y ∧ y.cds.map (·.1) = ["nrpsB", "nrpsA"] :=
  ⟨_, NrpsPks.fromJson_toJson exRules exOrderCtx exOrder (by decide +kernel), rfl⟩

-- no protocluster at all, one gene of an existing subregion with a hit: it is annotated
def exOutside : RuleRes := ⟨"rule-based-clusters", [], [⟨"cdsA", [⟨"PP-binding", ⟨1, -5⟩, ⟨2, 1⟩, 164, "rule-based-clusters"⟩], []⟩], ⟨1, 0⟩, ⟨1, 0⟩⟩
example : exOutside.annotateAll = [("cdsA", ⟨some [⟨"PP-binding", ⟨1, -5⟩, ⟨2, 1⟩, 164, "rule-based-clusters"⟩],
    ⟨[⟨.additional, "rule-based-clusters", "PP-binding", none⟩], [⟨.additional, "rule-based-clusters", "PP-binding", none⟩]⟩⟩)] := by
  decide +kernel

def exRuleInfos : List RuleInfo := [⟨"T1PKS", 0, "PKS"⟩, ⟨"NRPS", 0, "NRPS"⟩, ⟨"PKS-like", 1, "PKS"⟩, ⟨"fatty_acid", 2, "other"⟩]
example : rulesetNames exRuleInfos "strict" [] [] = ["T1PKS", "NRPS"]
    ∧ rulesetNames exRuleInfos "relaxed" [] [] = ["T1PKS", "NRPS", "PKS-like"]
    ∧ rulesetNames exRuleInfos "loose" ["T1PKS", "fatty_acid"] [] = ["T1PKS", "fatty_acid"] := by decide +kernel
example : setEq (rulesetNames exRuleInfos "relaxed" [] []) (rulesetNames exRuleInfos "strict" [] []) = false := by decide +kernel

-- saved under 0.1, reused and re-saved under 1e-20, then offered to a run at 1e-5: dropped
example : ∃ y, ({ exHmmer with evalue := ⟨1, -1⟩ } : HmmerRes).refilter ⟨1, -20⟩ ⟨0, 0⟩ = .reuse y
    ∧ HmmerRes.regenerate exCtx ⟨1, -5⟩ ⟨0, 0⟩ y.toJson = .discard := ⟨_, rfl, by decide +kernel⟩
-- a gene with abMotif hits only keeps its entry through a save / regenerate cycle
def exMotifOnly : NrpsPks := ⟨"rec1", [("cdsA", ⟨[exHit], [], []⟩), ("cdsB", ⟨[], [.mk "NRPS-A_a3" 150 170 ⟨1, -2⟩ ⟨81, -1⟩ []], []⟩)]⟩
example : exMotifOnly.valid exRules exCtx = true := by decide +kernel
example : ∃ y, NrpsPks.fromJson exRules exCtx exMotifOnly.toJson = .reuse y ∧ y.cds.map (·.1) = ["cdsA", "cdsB"] :=
  ⟨_, NrpsPks.fromJson_toJson exRules exCtx exMotifOnly (by decide +kernel), rfl⟩

end ASV.C11
