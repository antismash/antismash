/-
  C05 — candidate clusters group protoclusters by the documented kinds.
  Property theorems only; helper lemmas in ASV/Proofs/{MergeSets,Candidates,Coverage,Members,NoDup,Passes,Total,RingFacts,NoDupRing,HybridWindow,SortModel,SortLinear,TableDesc,Refines,SpecClasses,SpecAddGroups}.lean.

  Model: ASV/Model/Candidates.lean (formation.py after the repairs D16, D19, D501–D507).
  `formation ps wrap` is `create_candidates_from_protoclusters(protoclusters, circular_wrap_point)`;
  `wrap = none` is a linear record.  Protoclusters carry their index in the input as identity, so the
  only hypothesis on the input is `ps.Nodup` (no protocluster object supplied twice), and only where
  counting is involved.  Every theorem holds for all inputs, linear and circular, of any size.
-/
import ASV.Proofs.Refines
import ASV.Proofs.NoDupRing
import ASV.Proofs.SortLinear
import ASV.Proofs.SpecClasses
import ASV.Proofs.SpecAddGroups
namespace ASV.C05
open ASV ASV.CC ASV.CC.Spec

/-! ### 1. `_merge_sets` computes the partition into chain classes (generic) -/

/-- The sets returned by `_merge_sets` are pairwise disjoint and non-empty, their union is the union
    of the inputs, and two elements lie in one returned set iff a chain of input sets links them
    (consecutive sets of the chain share an element).  Unconditional after fix D16. -/
theorem mergeSets_is_partition {α : Type} [DecidableEq α] (key : List α → Int) (G : List (List α)) :
    DisjointSets (mergeSetsCore key G) ∧
    (∀ r, r ∈ mergeSetsCore key G → r ≠ [] ∧ r.Nodup) ∧
    (∀ x, (∃ r, r ∈ mergeSetsCore key G ∧ x ∈ r) ↔ ∃ g, g ∈ G ∧ x ∈ g) ∧
    (∀ a b, (∃ r, r ∈ mergeSetsCore key G ∧ a ∈ r ∧ b ∈ r) ↔ Linked G a b) :=
  ⟨(mergeSetsCore_spec key G).1,
   fun r hr => ⟨(mergeSetsCore_spec key G).2.1 r hr, mergeSetsCore_nodup key G r hr⟩,
   mergeSetsCore_union key G,
   (mergeSetsCore_spec key G).2.2⟩

/-- the same for groups of protoclusters as formation uses them (each group additionally sorted) -/
theorem mergeSets_protoclusters (G : List (List Proto)) :
    (∀ x, (∃ r, r ∈ mergeSets G ∧ x ∈ r) ↔ ∃ g, g ∈ G ∧ x ∈ g) ∧
    (∀ a b, (∃ r, r ∈ mergeSets G ∧ a ∈ r ∧ b ∈ r) ↔ Linked G a b) :=
  ⟨mergeSets_union G, mergeSets_linked G⟩

/-- D16 on the code before the fix (`singlePassMerge`: one forward pass) against the repaired loop -/
theorem D16_single_pass_not_transitive :
    singlePassMerge [[1, 5], [2, 3], [3, 5]] = [[1, 5, 3], [2, 3]] ∧
    mergeSetsCore (fun g => minList (g.map Int.ofNat)) [[1, 5], [2, 3], [3, 5]] = [[1, 5, 3, 2]] := by
  decide +kernel

/-! ### 2. every protocluster lies in a candidate; the final sanity check cannot fire -/

/-- every protocluster supplied is a member of at least one returned candidate -/
theorem every_protocluster_in_a_candidate (ps : List Proto) (wrap : Option Int) (cs : List Cand)
    (h : formation ps wrap = .ok cs) : coversAll ps cs = true := by
  obtain ⟨cs0, h0, e⟩ := formation_ok_core h
  subst e
  apply coversAll_iff.2
  intro p hp
  obtain ⟨c, hc, hpc⟩ := formationCore_cover h0 p hp
  exact ⟨c, mem_sortCands.2 hc, hpc⟩

/-- … and this is not owed to the final `assert len(assigned) == len(protoclusters)`: whenever the
    body of the function completes, the assertion holds and the result is the sorted list built
    (errors of the body are passed on unchanged) -/
theorem final_sanity_check_never_fires (ps : List Proto) (wrap : Option Int) (hn : ps.Nodup) :
    (∀ cs0, formationCore ps wrap = .ok cs0 → formation ps wrap = .ok (sortCands cs0)) ∧
    (∀ e, formationCore ps wrap = .error e → formation ps wrap = .error e) :=
  ⟨fun _ h => formation_eq_core h hn, fun _ h => formation_error_core h⟩

/-- on a linear record with well-formed protoclusters (extent and core single parts, extent not
    negative) nothing is raised at all — no constructor guard, no `assert`, no `ValueError` — so the
    coverage above is never vacuous there -/
theorem formation_succeeds_on_line (ps : List Proto) (hn : ps.Nodup)
    (hps : ∀ p, p ∈ ps → (∃ q, p.loc = .simple q ∧ 0 ≤ q.lo ∧ q.lo ≤ q.hi) ∧ ∃ r, p.core = .simple r) :
    ∃ cs, formation ps none = .ok cs ∧ coversAll ps cs = true := by
  obtain ⟨cs, h⟩ := formation_total_linear hn hps
  exact ⟨cs, h, every_protocluster_in_a_candidate ps none cs h⟩

/-! ### 3. a candidate's location is the connected span of its members -/

/-- every returned candidate's location is `connect_locations` of its members' locations and
    contains each member's location; members are protoclusters of the input, none twice; singles have
    one member, all other kinds at least two -/
theorem candidate_location_covers_members (ps : List Proto) (wrap : Option Int) (cs : List Cand)
    (hn : ps.Nodup) (h : formation ps wrap = .ok cs) :
    locationsOK wrap cs = true ∧ membersOK ps cs = true ∧ sizesOK cs = true := by
  obtain ⟨cs0, h0, e⟩ := formation_ok_core h
  subst e
  have hwf := formationCore_wf h0 hn
  refine ⟨locationsOK_iff.2 ?_, membersOK_iff.2 ?_, sizesOK_iff.2 ?_⟩
  · intro c hc
    have := hwf c (mem_sortCands.1 hc)
    exact ⟨this.ok.loc_eq, this.ok.contains⟩
  · intro c hc
    have := hwf c (mem_sortCands.1 hc)
    exact ⟨this.ok.nonempty, this.fromInput, this.nodup⟩
  · intro c hc
    exact (hwf c (mem_sortCands.1 hc)).size

/-- on a linear record the location is exactly the hull: from the smallest start to the largest end
    of the members (C04 `connect_line_is_hull`) -/
theorem candidate_location_exact_on_line (ps : List Proto) (cs : List Cand) (hn : ps.Nodup)
    (hlin : ∀ p, p ∈ ps → p.loc.parts ≠ [] ∧ bridgesOrigin p.loc = false)
    (h : formation ps none = .ok cs) :
    ∀ c, c ∈ cs → c.loc = .simple ⟨minList (c.members.map (·.loc.start)), maxList (c.members.map (·.loc.end)),
                                   commonStrand (c.members.map (·.loc))⟩ := by
  obtain ⟨cs0, h0, e⟩ := formation_ok_core h
  subst e
  intro c hc
  have hwf := formationCore_wf h0 hn c (mem_sortCands.1 hc)
  exact Span.loc_line hlin ⟨hwf.ok.nonempty, hwf.fromInput, hwf.ok.loc_eq⟩

/-! ### 4. no two candidates with the same coordinates and the same members -/

/-- on a linear record: distinct non-single candidates have distinct coordinates (the table key,
    both ends of the hull, determines the hull), singles are for distinct protoclusters, and a
    single never has the members of a larger candidate -/
theorem no_duplicate_candidates_partial (ps : List Proto) (cs : List Cand) (hn : ps.Nodup)
    (hlin : ∀ p, p ∈ ps → p.loc.parts ≠ [] ∧ bridgesOrigin p.loc = false)
    (h : formation ps none = .ok cs) : noDuplicates cs = true :=
  formation_noDuplicates_key hn (keyStable_line hlin) h

/-- Full statement (any record).  On a circular record the table key of a *replacement* candidate
    (promotion) is the key of the group that triggered it; that the merged span has the same two ends
    is proved below when all protoclusters fit into less than half the record
    (`no_duplicate_candidates_ring_partial`); for larger spreads `connect_locations` is not the shortest
    arc and the executable `noDuplicates` is evaluated on every implementation output instead. -/
def NoDuplicateCandidates : Prop :=
  ∀ (ps : List Proto) (wrap : Option Int) (cs : List Cand), ps.Nodup → formation ps wrap = .ok cs → noDuplicates cs = true

/-- Circular record of length `L`, H: every protocluster's extent is a single part or an
    origin-spanning span of the record, and **one span shorter than half the record covers all
    protoclusters** (`HalfRing`).  Then every candidate's span is the unique shortest arc covering its
    members (C04 `connect_ring_shortest`), promotion keeps the table key, and no two candidates have the
    same coordinates and members. -/
theorem no_duplicate_candidates_ring_partial (L : Int) (ps : List Proto) (cs : List Cand) (hn : ps.Nodup)
    (hL : 0 < L) (hv : ∀ p, p ∈ ps → RingInStrict L p.loc)
    (hhalf : ∃ c, areaWF L L c = true ∧ 2 * c.len < L ∧ ∀ p, p ∈ ps → ∀ i, p.loc.mem i = true → c.mem i = true)
    (h : formation ps (some L) = .ok cs) : noDuplicates cs = true :=
  formation_noDuplicates_key hn (keyStable_halfRing ⟨hL, hv, hhalf⟩) h

/-! ### 5. the kinds: what each pass groups -/

/-- The defining genes are those of the `definition_cdses` property as the classes define it:
    `mkProto` models `Record.add_protocluster` → `Protocluster.add_cds` (the CDSs within the extent that
    lie inside the core and carry a CORE gene function of the protocluster's product are stored — for a
    sideloaded protocluster too) and the property (the stored set for `Protocluster`, **always empty
    for `SideloadedProtocluster`**).  So a sideloaded protocluster shares a defining gene with nobody,
    whatever CORE genes its core contains and whatever its product is called … -/
theorem sideloaded_shares_no_defining_gene (id : Nat) (loc core : Loc) (product : String) (genes : List Gene) (q : Proto) :
    (mkProto id loc core product true genes).defs = [] ∧
    shares (mkProto id loc core product true genes) q = false ∧
    shares q (mkProto id loc core product true genes) = false :=
  ⟨rfl, shares_nil_left rfl, shares_nil_right rfl⟩

/-- … a rule-detected one has exactly the CORE genes of its own product inside its core and extent … -/
theorem detected_defining_genes (id : Nat) (loc core : Loc) (product : String) (genes : List Gene) (g : Nat) :
    g ∈ (mkProto id loc core product false genes).defs ↔
      ∃ x, x ∈ genes ∧ x.id = g ∧ locationContainsOther loc x.loc = true ∧ locationContainsOther core x.loc = true ∧
        product ∈ x.coreProducts :=
  mem_mkProto_defs

/-- … where "of its own product" is **equality of product names** (`core.product == self.product`),
    not containment of one name in the other: a CDS none of whose CORE gene functions carries exactly
    the protocluster's product is not one of its defining genes, and two protoclusters whose only
    common CORE gene belongs to the product of one of them do not share a defining gene … -/
theorem defining_gene_needs_the_exact_product (id : Nat) (loc core : Loc) (product : String) (sideloaded : Bool)
    (genes : List Gene) (x : Gene) (hx : ∀ q, q ∈ x.coreProducts → q ≠ product)
    (hid : ∀ y, y ∈ genes → y.id = x.id → y = x) :
    x.id ∉ (mkProto id loc core product sideloaded genes).defs := by
  cases sideloaded
  · intro h
    obtain ⟨y, hy, e, _, _, hp⟩ := mem_mkProto_defs.1 h
    rw [hid y hy e] at hp
    exact hx product hp rfl
  · simp [mkProto, definitionCdses]

/-- the seeded layout: an `NRPS` protocluster and an `NRPS-like` one with overlapping cores; the `NRPS`
    core gene lies inside both cores but defines only the `NRPS` protocluster, the `NRPS-like` gene lies
    only in the second core: no shared defining gene, one INTERLEAVED candidate -/
example :
    let genes : List Gene := [⟨0, .simple ⟨1000, 1300, .fwd⟩, ["NRPS"]⟩, ⟨1, .simple ⟨1500, 1800, .fwd⟩, ["NRPS-like"]⟩]
    let a := mkProto 0 (.simple ⟨500, 1900, .fwd⟩) (.simple ⟨1000, 1400, .fwd⟩) "NRPS" false genes
    let b := mkProto 1 (.simple ⟨400, 2300, .fwd⟩) (.simple ⟨900, 1800, .fwd⟩) "NRPS-like" false genes
    a.defs = [0] ∧ b.defs = [1] ∧ shares a b = false ∧
    summary (formation [a, b] none) = some [(.interleaved, [1, 0])] := by decide +kernel

/-- … and "inside its core" is containment in the core **location** (`cds.is_contained_by(core_location)`:
    inside one of its parts), not a comparison with the core's smallest and largest coordinate: a CDS
    that lies in no part of the core is not a defining gene — for an origin-spanning core
    `[a, L) + [0, b)` in particular none of the genes between `b` and `a` is … -/
theorem defining_gene_lies_inside_the_core (id : Nat) (loc core : Loc) (product : String) (sideloaded : Bool)
    (genes : List Gene) (g : Nat) (h : g ∈ (mkProto id loc core product sideloaded genes).defs) :
    ∃ x, x ∈ genes ∧ x.id = g ∧ locationContainsOther core x.loc = true ∧ locationContainsOther loc x.loc = true := by
  cases sideloaded
  · obtain ⟨x, hx, e, h1, h2, _⟩ := mem_mkProto_defs.1 h
    exact ⟨x, hx, e, h2, h1⟩
  · simp [mkProto, definitionCdses] at h

/-- the seeded layout on a circular record of length 1000: an `NRPS` protocluster whose core
    `[950, 1000) + [0, 50)` spans the origin (two core genes) and an `NRPS` protocluster at `[95, 135)`
    whose core gene `[100, 130)` lies in the first one's neighbourhood but not in its core: no shared
    defining gene; the extents overlap, so one NEIGHBOURING candidate and two singles -/
example :
    let genes : List Gene := [⟨0, .simple ⟨960, 990, .fwd⟩, ["NRPS"]⟩, ⟨1, .simple ⟨10, 40, .fwd⟩, ["NRPS"]⟩,
                              ⟨2, .simple ⟨100, 130, .fwd⟩, ["NRPS"]⟩]
    let a := mkProto 0 (.compound [⟨850, 1000, .fwd⟩, ⟨0, 150, .fwd⟩]) (.compound [⟨950, 1000, .fwd⟩, ⟨0, 50, .fwd⟩]) "NRPS" false genes
    let b := mkProto 1 (.simple ⟨75, 155, .fwd⟩) (.simple ⟨95, 135, .fwd⟩) "NRPS" false genes
    a.defs = [0, 1] ∧ b.defs = [2] ∧ shares a b = false ∧
    summary (formation [a, b] (some 1000)) = some [(.neighbouring, [0, 1]), (.single, [0]), (.single, [1])] := by decide +kernel

/-- … and a protocluster without defining genes (every sideloaded one) is in a chemical hybrid only
    as a protocluster whose core lies inside the connected core of a gene-sharing class it does not
    belong to — never through a "shared gene" (any record).  This is what reading the stored set
    instead of the property falsifies. -/
theorem protocluster_without_defining_genes_joins_hybrids_only_by_containment (clusters : List Proto)
    (wrap : Option Int) (hg : List (List Proto)) (un : List Proto) (hn : clusters.Nodup)
    (h : findHybrids clusters wrap = .ok (hg, un)) (p : Proto) (hp : p.defs = []) :
    ∀ g, g ∈ hg → p ∈ g → ∃ (m : List Proto) (core : Loc), p ∉ m ∧ 2 ≤ m.length ∧ (∀ x, x ∈ m → x ∈ g) ∧
      (∀ a b, a ∈ m → b ∈ m → Linked (shareGroups clusters) a b) ∧
      connect (m.map (·.core)) wrap = .ok core ∧ locationContainsOther core p.core = true :=
  no_defs_only_contained h hn hp

/-- the layout of the seeded change: a rule-detected `NRPS` protocluster with two CORE genes and a
    sideloaded annotation called `NRPS` whose core contains the first of them: the sideloaded one has no
    defining genes, the two form one INTERLEAVED candidate (their cores overlap), no chemical hybrid -/
example :
    let genes : List Gene := [⟨0, .simple ⟨1000, 1600, .fwd⟩, ["NRPS"]⟩, ⟨1, .simple ⟨2000, 2600, .fwd⟩, ["NRPS"]⟩]
    let detected := mkProto 0 (.simple ⟨0, 3600, .fwd⟩) (.simple ⟨1000, 2600, .fwd⟩) "NRPS" false genes
    let sideloaded := mkProto 1 (.simple ⟨400, 2200, .fwd⟩) (.simple ⟨900, 1700, .fwd⟩) "NRPS" true genes
    detected.defs = [0, 1] ∧ sideloaded.defs = [] ∧
    storedDefs (.simple ⟨400, 2200, .fwd⟩) (.simple ⟨900, 1700, .fwd⟩) "NRPS" genes = [0] ∧
    summary (formation [detected, sideloaded] none) = some [(.interleaved, [0, 1])] := by decide +kernel

/-- Chemical hybrids (any record).  (1) protoclusters linked by a chain of shared defining genes end up
    in one hybrid group; (2) every hybrid group is one such chain class `m` (≥ 2 protoclusters) plus
    protoclusters that share no gene with any other protocluster and whose core lies inside the
    connected core of `m`.  (That *every* such contained protocluster is picked up by the bisect
    window: `hybrid_groups_exact_partial` below for linear records, the correspondence for circular ones.) -/
theorem hybrid_groups_are_sharing_classes (clusters : List Proto) (wrap : Option Int) (hg : List (List Proto))
    (un : List Proto) (hn : clusters.Nodup) (h : findHybrids clusters wrap = .ok (hg, un)) :
    (∀ a b, Linked (shareGroups clusters) a b → ∃ g, g ∈ hg ∧ a ∈ g ∧ b ∈ g) ∧
    (∀ g, g ∈ hg → ∃ (m : List Proto) (core : Loc), (∀ x, x ∈ m → x ∈ g) ∧ 2 ≤ m.length ∧
        (∀ a b, a ∈ m → b ∈ m → Linked (shareGroups clusters) a b) ∧
        connect (m.map (·.core)) wrap = .ok core ∧
        ∀ p, p ∈ g → p ∈ m ∨ (p ∈ clusters ∧ (∀ q, q ∈ clusters → q ≠ p → shares p q = false) ∧
          locationContainsOther core p.core = true)) := by
  obtain ⟨h1, h2⟩ := findHybrids_classes h hn
  refine ⟨h1, ?_⟩
  intro g hg'
  obtain ⟨m, core, a, b, c, d, e⟩ := h2 g hg'
  exact ⟨m, core, a, two_le_length b, c, d, e⟩

/-- Full statement (any record): a hybrid group is a sharing class plus exactly the unshared
    protoclusters whose core lies inside the class's connected core.  Proved below for linear records
    (H: `wrap = none`, cores non-empty single parts inside their extents) and for circular records when the
    unshared protoclusters have single-part cores (`hybrid_groups_exact_ring_partial`); with an unshared
    origin-spanning core the window works on `core_start`, which is not the sort key — correspondence. -/
def HybridGroupsExact : Prop :=
  ∀ (clusters : List Proto) (wrap : Option Int) (hg : List (List Proto)) (un : List Proto), clusters.Nodup →
    findHybrids clusters wrap = .ok (hg, un) →
    ∀ g, g ∈ hg → ∃ (m : List Proto) (core : Loc), (∀ x, x ∈ m → x ∈ g) ∧ 2 ≤ m.length ∧
        (∀ a b, a ∈ m → b ∈ m → Linked (shareGroups clusters) a b) ∧
        connect (m.map (·.core)) wrap = .ok core ∧
        ∀ p, p ∈ clusters → (∀ q, q ∈ clusters → q ≠ p → shares p q = false) →
          (p ∈ g ↔ locationContainsOther core p.core = true)

/-- Chemical hybrids on a linear record, exact: every hybrid group is one sharing class `m` plus
    **exactly** the protoclusters that share with nobody and whose core lies inside the connected core
    of `m` — the `bisect − 1` window and the early `break` lose none (cores non-empty single parts
    inside their extents, the list sorted by core start). -/
theorem hybrid_groups_exact_partial (clusters : List Proto) (hg : List (List Proto)) (un : List Proto)
    (hn : clusters.Nodup)
    (hv : ∀ p, p ∈ clusters → ∃ r, p.core = .simple r ∧ r.lo < r.hi ∧ p.loc.start ≤ r.lo)
    (h : findHybrids clusters none = .ok (hg, un)) :
    ∀ g, g ∈ hg → ∃ (m : List Proto) (core : Loc), (∀ x, x ∈ m → x ∈ g) ∧ 2 ≤ m.length ∧
        (∀ a b, a ∈ m → b ∈ m → Linked (shareGroups clusters) a b) ∧
        connect (m.map (·.core)) none = .ok core ∧
        ∀ p, p ∈ clusters → (∀ q, q ∈ clusters → q ≠ p → shares p q = false) →
          (p ∈ g ↔ locationContainsOther core p.core = true) :=
  findHybrids_complete_linear h hn hv

/-- Chemical hybrids on a circular record of length `L`, exact, H: the protoclusters that share a gene
    with nobody have single-part cores inside their extents (`hv2`; the members of the hybrid groups
    may have origin-spanning cores, and a group's combined core may span the origin — then the scan
    starts at the front, never breaks, and is followed by the second scan). -/
theorem hybrid_groups_exact_ring_partial (L : Int) (hL : 0 < L) (clusters : List Proto) (hg : List (List Proto))
    (un : List Proto) (hn : clusters.Nodup) (hv1 : ∀ p, p ∈ clusters → RingIn L p.core)
    (hv2 : ∀ p, p ∈ clusters → (∀ q, q ∈ clusters → q ≠ p → shares p q = false) →
      ∃ r, p.core = .simple r ∧ r.lo < r.hi ∧ p.loc.start ≤ r.lo)
    (h : findHybrids clusters (some L) = .ok (hg, un)) :
    ∀ g, g ∈ hg → ∃ (m : List Proto) (core : Loc), (∀ x, x ∈ m → x ∈ g) ∧ 2 ≤ m.length ∧
        (∀ a b, a ∈ m → b ∈ m → Linked (shareGroups clusters) a b) ∧
        connect (m.map (·.core)) (some L) = .ok core ∧
        ∀ p, p ∈ clusters → (∀ q, q ∈ clusters → q ≠ p → shares p q = false) →
          (p ∈ g ↔ locationContainsOther core p.core = true) :=
  findHybrids_complete_ring hL h hn hv1 hv2

/-- Interleaved, completeness (any record): two protoclusters linked by a chain of units (hybrid
    candidates with their combined cores `cc`, unabsorbed protoclusters) with overlapping cores are in
    one interleaved group — the sorted scan with its early `break` loses no pair. -/
theorem interleaved_pairs_complete (clusters : List Proto) (cands : List Cand) (wrap : Option Int) (cc : List CandC)
    (ig : List (List Proto)) (un : List Proto) (hn : clusters.Nodup)
    (hne : ∀ p, p ∈ clusters → p.core.PartsNonEmpty)
    (hcc : withCores wrap cands = .ok cc) (h : findInterleaved clusters cands wrap = .ok (ig, un)) :
    ∀ a b, Linked (overlapGroups (interleaveUnits clusters cc)) a b → ∃ r, r ∈ ig ∧ a ∈ r ∧ b ∈ r := by
  obtain ⟨G, hG, h1, _⟩ := findInterleaved_groups h hcc hn hne
  intro a b hl
  rw [hG]
  exact (mergeSets_linked G a b).2 (h1.linked hl)

/-- Interleaved on a linear record: exactly the chain classes of "cores overlap" -/
theorem interleaved_groups_are_classes_linear (clusters : List Proto) (cands : List Cand)
    (cc : List CandC) (ig : List (List Proto)) (un : List Proto) (hn : clusters.Nodup)
    (hne : ∀ p, p ∈ clusters → p.core.PartsNonEmpty)
    (hcc : withCores none cands = .ok cc) (h : findInterleaved clusters cands none = .ok (ig, un)) :
    ∀ a b, (∃ r, r ∈ ig ∧ a ∈ r ∧ b ∈ r) ↔ Linked (overlapGroups (interleaveUnits clusters cc)) a b :=
  findInterleaved_classes_linear h hcc hn hne

/-- Interleaved on a circular record of length `L`: also exactly those chain classes.  The group
    the origin-crossing step adds (`core_group`: members of candidates whose combined core spans the
    origin, and protoclusters whose core overlaps the connected span of those cores) is chain-connected:
    by the C04 closed form of `connect_locations` on a ring, the connected span of origin-spanning
    spans is the union of their bases, so a protocluster overlapping it overlaps one of the candidates,
    and any two origin-spanning cores overlap each other.  Hypotheses: the candidates have members
    whose cores are locations of the record (`RingIn`: parts non-empty, inside `[0, L]`). -/
theorem interleaved_groups_are_classes_ring (L : Int) (hL : 0 < L) (clusters : List Proto) (cands : List Cand)
    (cc : List CandC) (ig : List (List Proto)) (un : List Proto) (hn : clusters.Nodup)
    (hne : ∀ p, p ∈ clusters → p.core.PartsNonEmpty)
    (hcv : ∀ c, c ∈ cands → c.members ≠ [] ∧ ∀ m, m ∈ c.members → RingIn L m.core)
    (hcc : withCores (some L) cands = .ok cc) (h : findInterleaved clusters cands (some L) = .ok (ig, un)) :
    ∀ a b, (∃ r, r ∈ ig ∧ a ∈ r ∧ b ∈ r) ↔ Linked (overlapGroups (interleaveUnits clusters cc)) a b :=
  findInterleaved_classes_ring hL h hcc hn hne hcv

/-- Neighbouring (any record, unconditional after fixes D501/D502): two protoclusters are in one
    neighbouring group iff a chain of units (candidates so far, remaining protoclusters) with
    overlapping extents leads from one to the other -/
theorem neighbouring_groups_are_overlap_classes (singles : List Proto) (cands : List Cand) (a b : Proto) :
    (∃ r, r ∈ findNeighbouring singles cands ∧ a ∈ r ∧ b ∈ r) ↔
      Linked (overlapGroups (neighbourUnits singles cands)) a b :=
  findNeighbouring_classes singles cands a b

/-! ### 6. the result does not depend on the order in which the protoclusters are supplied -/

/-- `create_candidates_from_protoclusters` returns the **same ordered list** — same candidates in the
    same order, members in the same order, same locations; or the same error — for every permutation
    of its input, on linear and circular records alike.  After fix D507 the function starts with
    `_sorted_protoclusters(protoclusters)`, whose pre-sort by `(product, core start, core end)` is a
    strict total order when no two protoclusters have the same product and the same core
    (`DistinctKeys`; in the pipeline one rule never yields two protoclusters with the same core), so
    the list everything else is computed from is already independent of the input order. -/
theorem formation_perm_invariant (ps qs : List Proto) (wrap : Option Int) (hn : ps.Nodup)
    (hk : ∀ a b, a ∈ ps → b ∈ ps → a ≠ b → (a.product, a.core.start, a.core.end) ≠ (b.product, b.core.start, b.core.end))
    (hp : ps.Perm qs) : formation ps wrap = formation qs wrap :=
  formation_perm wrap hn hk hp

/-- … in the weaker form of the property text (the outcome as a set of candidates) -/
theorem formation_is_order_independent (ps qs : List Proto) (wrap : Option Int) (cs ds : List Cand) (hn : ps.Nodup)
    (hk : ∀ a b, a ∈ ps → b ∈ ps → a ≠ b → (a.product, a.core.start, a.core.end) ≠ (b.product, b.core.start, b.core.end))
    (hp : ps.Perm qs) (h1 : formation ps wrap = .ok cs) (h2 : formation qs wrap = .ok ds) :
    ∀ c, c ∈ cs → ∃ d, d ∈ ds ∧ d.kind = c.kind ∧ d.loc = c.loc ∧ d.members = c.members := by
  rw [formation_perm_invariant ps qs wrap hn hk hp, h2] at h1
  injection h1 with h1
  subst h1
  intro c hc
  exact ⟨c, hc, rfl, rfl, rfl⟩

/-- the hypothesis cannot be dropped: two protoclusters with identical coordinates, identical core and
    the same product are told apart by nothing, and the order of the members follows the input -/
theorem formation_perm_needs_distinct_keys :
    summary (formation [⟨0, .simple ⟨80, 130, .fwd⟩, .simple ⟨90, 120, .fwd⟩, [1], "a"⟩,
                        ⟨1, .simple ⟨80, 130, .fwd⟩, .simple ⟨90, 120, .fwd⟩, [1], "a"⟩] none) =
      some [(.hybrid, [0, 1])] ∧
    summary (formation [⟨1, .simple ⟨80, 130, .fwd⟩, .simple ⟨90, 120, .fwd⟩, [1], "a"⟩,
                        ⟨0, .simple ⟨80, 130, .fwd⟩, .simple ⟨90, 120, .fwd⟩, [1], "a"⟩] none) =
      some [(.hybrid, [1, 0])] := by decide +kernel

/-! ### 7. the sorting the model performs -/

/-- `pySort` (CPython's `list.sort` for short lists: `count_run`, then binary insertion — what the
    model uses wherever the code sorts with `CDSCollection.__lt__`) returns exactly the stable
    insertion sort whenever `<` is a strict weak order: for consistent comparisons nothing depends on
    the algorithm or on the 64-element limit of the modelled variant. -/
theorem sort_model_is_the_stable_sort {α : Type} [DecidableEq α] (lt : α → α → Bool) (w : WeakOrder lt)
    (l : List α) (hn : l.Nodup) : pySort lt l = sortBy lt l :=
  pySort_eq_sortBy w l

/-- on a linear record (single-part extents) `CDSCollection.__lt__` *is* such an order — start
    ascending, then longer first — so `sorted(candidates)` and `_sorted_protoclusters` are the plain
    stable sorts by that key (the latter of the list pre-sorted by product and core) -/
theorem sorting_on_a_line_is_by_start_then_length :
    (∀ (cs : List Cand), cs.Nodup → (∀ c, c ∈ cs → ∃ p, c.loc = .simple p ∧ p.lo ≤ p.hi) →
      sortCands cs = sortBy (fun a b => locKeyLt a.loc b.loc) cs) ∧
    (∀ (ps : List Proto), ps.Nodup → (∀ p, p ∈ ps → ∃ q, p.loc = .simple q ∧ q.lo ≤ q.hi) →
      sortProtos ps = sortBy (fun a b => locKeyLt a.loc b.loc) (sortBy tieLt ps)) :=
  ⟨fun _ _ hs => sortCands_linear hs, fun _ _ hs => sortProtos_linear hs⟩

/-- … whereas on a circular record it is not: a whole-record extent and an origin-spanning one are
    each "smaller" than the other, which is why the algorithm itself is modelled -/
theorem collection_order_inconsistent_on_a_ring :
    locLt (.simple ⟨0, 100, .fwd⟩) (.compound [⟨90, 100, .fwd⟩, ⟨0, 10, .fwd⟩]) = true ∧
    locLt (.compound [⟨90, 100, .fwd⟩, ⟨0, 10, .fwd⟩]) (.simple ⟨0, 100, .fwd⟩) = true := by decide +kernel

/-! ### 8. the table step without the order of the groups, and the whole run stage by stage -/

/-- `build_candidates(groups, kind)` said without the order of the groups (any record): per
    coordinate key, the members of all groups with that key are added to the candidate stored under it
    (a new candidate of the pass's kind when there was none); a protocluster added to a candidate of
    ANOTHER kind that did not contain it becomes a promoted single, and nothing else does; keys stay
    distinct.  This is the "promotion" rule of the reference (`Spec.addGroups`) as a theorem about the
    sequential, table-mutating loop. -/
theorem build_candidates_is_order_free (wrap : Option Int) (kind : Kind) (t t' : Table) (gs : List (List Proto))
    (hn : (keys t.existing).Nodup) (h : buildCandidates wrap kind t gs = .ok t') : PassDesc wrap kind t t' gs :=
  buildCandidates_desc h hn

/-- The run on a linear record refines the documented description, stage by stage (`RefinesLinear`):
    hybrid groups = one gene-sharing chain class plus exactly the contained unshared protoclusters;
    table step; interleaved groups = chain classes of "cores overlap" over hybrid candidates and
    unabsorbed protoclusters; table step; neighbouring groups = chain classes of "extents overlap" over
    all candidates and remaining protoclusters; table step; singles for the remaining and the promoted
    protoclusters unless the candidate with the same coordinates contains them; the result is a
    permutation of table values ++ singles.  Hypotheses: no protocluster supplied twice, extents and
    cores single parts with the core non-empty inside the extent (what a linear record guarantees).
    What separates this from equality with the executable `Spec.reference` is listed at
    `FormationRefinesReference` below. -/
theorem formation_refines_reference_linear (ps : List Proto) (cs : List Cand) (hn : ps.Nodup) (hne : ps ≠ [])
    (hv : ∀ p, p ∈ ps → ((∃ q, p.loc = .simple q ∧ 0 ≤ q.lo ∧ q.lo ≤ q.hi) ∧ ∃ r, p.core = .simple r) ∧
      ∃ r, p.core = .simple r ∧ r.lo < r.hi ∧ p.loc.start ≤ r.lo)
    (h : formation ps none = .ok cs) : RefinesLinear ps cs :=
  formation_refines_linear hn hne hv h

/-- The class computation of the executable reference (`Spec.classesOf`: grow a class by fixpoint union,
    take it out, repeat) returns the connected components of the relation read in both directions:
    classes are non-empty parts of the input, every element is in a class, and for `x` in a class `c`,
    `y ∈ c` exactly when a chain of related elements of the input leads from `x` to `y`. -/
theorem reference_classes_are_connected_components {α : Type} [DecidableEq α] (rel : α → α → Bool) (l : List α) :
    (∀ c, c ∈ classesOf rel l → c ≠ [] ∧ ∀ x, x ∈ c → x ∈ l) ∧
    (∀ u, u ∈ l → ∃ c, c ∈ classesOf rel l ∧ u ∈ c) ∧
    (∀ c, c ∈ classesOf rel l → ∀ x, x ∈ c → ∀ y, (y ∈ c ↔ Walk rel l x y)) :=
  classesOf_components rel l

example : classesOf (fun (a b : Nat) => a + 1 == b) [5, 1, 7, 2, 4] = [[5, 4], [1, 2], [7]] := by decide +kernel

/-- The hybrid classes the executable reference starts from (`hclasses` in `Spec.reference`: classes of
    "share a defining gene" with at least two protoclusters) are exactly the `Linked` chain classes of
    `shareGroups`, the notion `hybrid_groups_are_sharing_classes` and `RefinesLinear` are stated in. -/
theorem reference_hybrid_classes_are_chain_classes (ps : List Proto) (hn : ps.Nodup) (a b : Proto) :
    (∃ c, c ∈ (classesOf shareGene ps).filter (fun c => c.length ≥ 2) ∧ a ∈ c ∧ b ∈ c) ↔
      Linked (shareGroups ps) a b :=
  reference_hybrid_classes ps hn a b

/-- The model's hybrid pass against the executable reference's `hclasses` (any record): two
    protoclusters of one reference class end up in one hybrid group of the model, and every hybrid group
    of the model contains a set `m` of ≥ 2 protoclusters any two of which lie in one reference class
    (the rest of the group: `hybrid_groups_are_sharing_classes`).  The reference computes its classes on
    the input order, the model on its sorted order; the classes are the same (`reference_hybrid_classes_sorted`). -/
theorem hybrid_groups_match_reference_classes (ps : List Proto) (wrap : Option Int) (hg : List (List Proto))
    (un : List Proto) (hn : ps.Nodup) (h : findHybrids (sortProtos ps) wrap = .ok (hg, un)) :
    (∀ c, c ∈ (classesOf shareGene ps).filter (fun c => c.length ≥ 2) → ∀ a b, a ∈ c → b ∈ c →
      ∃ g, g ∈ hg ∧ a ∈ g ∧ b ∈ g) ∧
    (∀ g, g ∈ hg → ∃ m : List Proto, (∀ x, x ∈ m → x ∈ g) ∧ 2 ≤ m.length ∧
      ∀ a b, a ∈ m → b ∈ m → ∃ c, c ∈ (classesOf shareGene ps).filter (fun c => c.length ≥ 2) ∧ a ∈ c ∧ b ∈ c) := by
  obtain ⟨h1, h2⟩ := hybrid_groups_are_sharing_classes (sortProtos ps) wrap hg un (nodup_sortProtos hn) h
  refine ⟨?_, ?_⟩
  · intro c hc a b ha hb
    exact h1 a b ((reference_hybrid_classes_sorted ps hn a b).1 ⟨c, hc, ha, hb⟩)
  · intro g hg'
    obtain ⟨m, _, hm1, hm2, hm3, _⟩ := h2 g hg'
    exact ⟨m, hm1, hm2, fun a b ha hb => (reference_hybrid_classes_sorted ps hn a b).2 (hm3 a b ha hb)⟩

/-- The interleaved / neighbouring groups of the executable reference (`igroups` / `ngroups` in
    `Spec.reference`: unit classes of "spans overlap" with at least two units, then the union of the
    members) are exactly the `Linked` chain classes of `overlapGroups`, the notion the stage theorems and
    `RefinesLinear` are stated in.  Hypotheses on the units (each is needed): none listed twice, none
    empty, two units with a common protocluster are the same unit or overlap. -/
theorem reference_overlap_groups_are_chain_classes (us : List U) (hn : us.Nodup) (hne : ∀ u, u ∈ us → u.members ≠ [])
    (hshare : ∀ u v p, u ∈ us → v ∈ us → p ∈ u.members → p ∈ v.members →
      u = v ∨ locationsOverlap u.span v.span = true) (a b : Proto) :
    (∃ g, g ∈ (bigClasses us).map (fun c => c.foldl (fun acc u => Spec.union acc u.members) []) ∧ a ∈ g ∧ b ∈ g) ↔
      Linked (overlapGroups us) a b :=
  reference_overlap_classes us hn hne hshare a b

/-- the hypotheses hold for three units in a chain and a fourth apart, and the reference forms the
    group of the first three -/
example :
    let p : Nat → Proto := fun i => ⟨i, .simple ⟨0, 1, .fwd⟩, .simple ⟨0, 1, .fwd⟩, [], ""⟩
    let us : List U := [⟨[p 0, p 1], .simple ⟨10, 30, .fwd⟩⟩, ⟨[p 2], .simple ⟨50, 70, .fwd⟩⟩,
                        ⟨[p 3], .simple ⟨25, 55, .fwd⟩⟩, ⟨[p 4], .simple ⟨80, 90, .fwd⟩⟩]
    us.Nodup ∧ (∀ u, u ∈ us → u.members ≠ []) ∧
    (∀ u, u ∈ us → ∀ v, v ∈ us → ∀ q, q ∈ u.members → q ∈ v.members → u = v ∨ locationsOverlap u.span v.span = true) ∧
    (bigClasses us).map (fun c => (c.foldl (fun acc u => Spec.union acc u.members) []).map (·.id)) = [[0, 1, 3, 2]] := by
  decide +kernel

/-- The table step of the executable reference (`Spec.addGroups`) satisfies the order-free description
    that `build_candidates_is_order_free` proves for the model's sequential, mutating loop — the same five
    clauses (`SpecPassDesc` = `PassDesc` read on the reference's state, with the reference's coordinate
    key `skey`): per key the members of all groups with that key are added to the entry stored under it
    (a new entry of the pass's kind when there was none); a protocluster added to an entry of another
    kind that did not contain it becomes a promoted single, nothing else does; keys stay distinct. -/
theorem reference_table_step_is_order_free (wrap : Option Int) (kind : Kind) (st st' : State)
    (gs : List (List Proto)) (hn : (sKeys st).Nodup) (h : addGroups wrap kind st gs = .ok st') :
    SpecPassDesc wrap kind st st' gs :=
  addGroups_desc h hn

/-- a step that succeeds: an interleaved group with the coordinates of a stored hybrid entry is merged
    into it and its new member is promoted to a single -/
example :
    let p : Nat → Int → Int → Proto := fun i lo hi => ⟨i, .simple ⟨lo, hi, .fwd⟩, .simple ⟨lo, hi, .fwd⟩, [], ""⟩
    (match addGroups none .interleaved ⟨[⟨[(10, 30)], .hybrid, [p 0 10 20, p 1 12 18]⟩], []⟩
        [[p 0 10 20, p 2 15 30], [p 3 40 50, p 4 45 60]] with
      | .ok st => st.entries.map (fun e => (e.key, e.members.map (·.id))) == [([(10, 30)], [0, 1, 2]), ([(40, 60)], [3, 4])]
          && st.singles.map (·.id) == [2]
      | .error _ => false) = true := by decide +kernel

/-- The key of the model (`gkey`: `locKey` of the candidate built from the group in collection order)
    and the key of the reference (`skey`: `coords` of the span of the group sorted by id) agree on a
    linear record — `connect` does not depend on the order of its arguments (C04 `connect_line_perm`):
    the model's key `k` is the reference's key `[k]`, so two groups share a slot of the model's table
    exactly when they share an entry of the reference. -/
theorem reference_and_model_keys_agree_on_line (kind : Kind) (g1 g2 : List Proto) (k1 k2 : Int × Int)
    (h1 : LineGroup g1) (h2 : LineGroup g2) (hk1 : gkey none kind g1 = some k1) (hk2 : gkey none kind g2 = some k2) :
    skey none g1 = some [k1] ∧ skey none g2 = some [k2] ∧
    (gkey none kind g1 = gkey none kind g2 ↔ skey none g1 = skey none g2) :=
  ⟨keys_agree_line h1 hk1, keys_agree_line h2 hk2, same_slot_iff_same_entry_line h1 h2 hk1 hk2⟩

/-- On a circular record (every extent a valid feature location of the record) the two keys are read
    off one and the same location (C04 `connect_ring_perm`). -/
theorem reference_and_model_keys_from_one_location_on_ring (L : Int) (kind : Kind) (g : List Proto) (k : Int × Int)
    (hL : 0 < L) (hne : g ≠ []) (hin : ∀ p, p ∈ g → RingIn L p.loc) (hk : gkey (some L) kind g = some k) :
    ∃ l, skey (some L) g = some (coords l) ∧ k = locKey l :=
  keys_agree_ring hL hne hin hk

/-- This connects `build_candidates_is_order_free` (model) with `reference_table_step_is_order_free`
    (reference): on a linear record one table step of each with the same groups keeps the two tables in
    step — if slot `k` of the model and entry `[k]` of the reference had the same members, the same
    kinds and the same key sets before the step, they have them after it.  (The promoted singles are not
    part of this statement: they need the entry-wise relation, not the three per-key ones.) -/
theorem table_steps_stay_in_step_on_line (kind : Kind) (t t' : Table) (st st' : State) (gs : List (List Proto))
    (hg : ∀ g, g ∈ gs → LineGroup g ∧ ∃ k, gkey none kind g = some k)
    (hM : PassDesc none kind t t' gs) (hS : SpecPassDesc none kind st st' gs)
    (hmem : ∀ k x, memOf t k x ↔ sMem st [k] x) (hkind : ∀ k kd, kindOf t k kd ↔ sKind st [k] kd)
    (hkeys : ∀ k, k ∈ keys t.existing ↔ [k] ∈ sKeys st) :
    (∀ k x, memOf t' k x ↔ sMem st' [k] x) ∧ (∀ k kd, kindOf t' k kd ↔ sKind st' [k] kd) ∧
    (∀ k, k ∈ keys t'.existing ↔ [k] ∈ sKeys st') :=
  table_steps_agree_line hg hM hS hmem hkind hkeys

/-- a group whose id order differs from its collection order: both keys are defined and agree -/
example :
    let g : List Proto := [⟨0, .simple ⟨15, 30, .fwd⟩, .simple ⟨15, 30, .fwd⟩, [], ""⟩,
                           ⟨1, .simple ⟨10, 20, .fwd⟩, .simple ⟨10, 20, .fwd⟩, [], ""⟩]
    gkey none .interleaved g = some (10, 30) ∧ skey none g = some [(10, 30)] ∧
    (sortById g).map (·.id) = [0, 1] ∧ (sortProtos g).map (·.id) = [1, 0] := by decide +kernel

/-- Still not proved: equality with the *executable* `Spec.reference` (the correspondence compares every
    implementation output with it).  `formation_refines_reference_linear` gives the run stage by stage in
    the reference's own notions, and `reference_hybrid_classes_are_chain_classes` /
    `reference_overlap_groups_are_chain_classes` show that the class computations of the executable
    reference produce exactly those notions (item (1) of the earlier list, now proved).  What is still
    missing for the equality is
    (2) (`Spec.addGroups` satisfies the five clauses of `PassDesc`: `reference_table_step_is_order_free`, now
        proved, and the keys agree: `reference_and_model_keys_agree_on_line`, `table_steps_stay_in_step_on_line`;
        open: the same step relation for the promoted singles) the unit
        hypotheses of `reference_overlap_groups_are_chain_classes` for the reference's own units
        (`unitsOf`: entries have distinct keys and disjoint or nested members), and the unfolding of the
        monadic `reference` into its six stages,
    (3) circular records. -/
def FormationRefinesReference : Prop :=
  ∀ (ps : List Proto) (wrap : Option Int) (cs : List Cand) (es : List (Kind × List Proto)), ps.Nodup →
    formation ps wrap = .ok cs → reference ps wrap = .ok es →
    (∀ c, c ∈ cs → ∃ e, e ∈ es ∧ e.1 = c.kind ∧ sameMembers c.members e.2 = true) ∧
    (∀ e, e ∈ es → ∃ c, c ∈ cs ∧ e.1 = c.kind ∧ sameMembers c.members e.2 = true)

/-! ### non-vacuity -/

/-- D19's layout on the repaired code: the origin-spanning protocluster is de-duplicated against
    the neighbouring candidate with the same coordinates, `single{B}` stays -/
example :
    summary (formation [⟨0, .compound [⟨850, 1000, .fwd⟩, ⟨0, 150, .fwd⟩], .compound [⟨950, 1000, .fwd⟩, ⟨0, 50, .fwd⟩], [], "a"⟩,
                ⟨1, .simple ⟨90, 130, .fwd⟩, .simple ⟨100, 120, .fwd⟩, [], "b"⟩] (some 1000)) =
    some [(.neighbouring, [0, 1]), (.single, [1])] := by decide +kernel

/-- a linear record with a hybrid pair, a single chained to it through another single (D501) -/
example :
    summary (formation [⟨0, .simple ⟨280, 310, .fwd⟩, .simple ⟨280, 310, .fwd⟩, [1], "a"⟩,
                ⟨1, .simple ⟨380, 440, .fwd⟩, .simple ⟨400, 420, .fwd⟩, [], "b"⟩,
                ⟨2, .simple ⟨320, 390, .fwd⟩, .simple ⟨340, 370, .fwd⟩, [1], "c"⟩,
                ⟨3, .simple ⟨430, 490, .fwd⟩, .simple ⟨450, 470, .fwd⟩, [], "d"⟩] none) =
    some [(.neighbouring, [0, 2, 1, 3]), (.hybrid, [0, 2]), (.single, [1]), (.single, [3])] := by decide +kernel

/-- D507 on the repaired code: members with identical coordinates come in a fixed order (by product),
    whatever the order of the input -/
example :
    summary (formation [⟨0, .simple ⟨80, 130, .fwd⟩, .simple ⟨90, 120, .fwd⟩, [1], "c"⟩,
                        ⟨1, .simple ⟨80, 130, .fwd⟩, .simple ⟨90, 120, .fwd⟩, [1], "a"⟩,
                        ⟨2, .simple ⟨80, 130, .fwd⟩, .simple ⟨90, 120, .fwd⟩, [1], "b"⟩] none) =
      some [(.hybrid, [1, 2, 0])] ∧
    summary (formation [⟨2, .simple ⟨80, 130, .fwd⟩, .simple ⟨90, 120, .fwd⟩, [1], "b"⟩,
                        ⟨0, .simple ⟨80, 130, .fwd⟩, .simple ⟨90, 120, .fwd⟩, [1], "c"⟩,
                        ⟨1, .simple ⟨80, 130, .fwd⟩, .simple ⟨90, 120, .fwd⟩, [1], "a"⟩] none) =
      some [(.hybrid, [1, 2, 0])] := by decide +kernel

/-- circular record of length 12: the hybrid {0, 2} has a combined core spanning the origin although
    no member's core does (D505's layout); protocluster 1 overlaps it, the origin-crossing step groups
    them — the situation of `interleaved_groups_are_classes_ring` -/
example :
    summary (formation [⟨0, .simple ⟨0, 3, .fwd⟩, .simple ⟨0, 3, .fwd⟩, [1], "a"⟩,
                        ⟨1, .simple ⟨2, 5, .fwd⟩, .simple ⟨2, 5, .fwd⟩, [], "b"⟩,
                        ⟨2, .simple ⟨10, 12, .fwd⟩, .simple ⟨10, 12, .fwd⟩, [1], "c"⟩,
                        ⟨3, .simple ⟨6, 8, .fwd⟩, .simple ⟨6, 8, .fwd⟩, [], "d"⟩] (some 12)) =
    some [(.interleaved, [0, 1, 2]), (.hybrid, [0, 2]), (.single, [3])] := by decide +kernel

/-- … and the hypotheses of `interleaved_groups_are_classes_ring` hold at that point of the run: the
    hybrid candidate {2, 0} with its combined core `[10, 12) + [0, 3)`, the unabsorbed protoclusters 1, 3 -/
example :
    let p0 : Proto := ⟨0, .simple ⟨0, 3, .fwd⟩, .simple ⟨0, 3, .fwd⟩, [1], "a"⟩
    let p1 : Proto := ⟨1, .simple ⟨2, 5, .fwd⟩, .simple ⟨2, 5, .fwd⟩, [], "b"⟩
    let p2 : Proto := ⟨2, .simple ⟨10, 12, .fwd⟩, .simple ⟨10, 12, .fwd⟩, [1], "c"⟩
    let p3 : Proto := ⟨3, .simple ⟨6, 8, .fwd⟩, .simple ⟨6, 8, .fwd⟩, [], "d"⟩
    let hyb : Cand := ⟨.hybrid, [p2, p0], .compound [⟨10, 12, .fwd⟩, ⟨0, 3, .fwd⟩]⟩
    (match withCores (some 12) [hyb] with
      | .ok cc => cc == [(hyb, .compound [⟨10, 12, .fwd⟩, ⟨0, 3, .fwd⟩])]
      | .error _ => false) = true ∧
    (match findInterleaved [p1, p3] [hyb] (some 12) with
      | .ok r => r == ([[p0, p1, p2]], [p3])
      | .error _ => false) = true ∧
    [p1, p3].Nodup ∧ (∀ p, p ∈ [p1, p3] → p.core.PartsNonEmpty) ∧
    (∀ c, c ∈ [hyb] → c.members ≠ [] ∧ ∀ m, m ∈ c.members → RingIn 12 m.core) := by
  intro p0 p1 p2 p3 hyb
  refine ⟨by decide +kernel, by decide +kernel, by decide, ?_, ?_⟩
  · intro p hp q hq
    simp only [List.mem_cons, List.mem_nil_iff, or_false] at hp
    rcases hp with rfl | rfl <;> (simp only [p1, p3, Loc.parts, List.mem_singleton] at hq; subst hq; decide)
  · intro c hc
    simp only [List.mem_singleton] at hc
    subst hc
    refine ⟨by simp [hyb], ?_⟩
    intro m hm
    simp only [hyb, List.mem_cons, List.mem_nil_iff, or_false] at hm
    rcases hm with rfl | rfl <;> exact RingInStrict.ringIn (Or.inl ⟨_, rfl, by decide, by decide, by decide⟩)

/-- circular record of length 100: the hybrid {0, 1} spans the origin, the unshared protoclusters 2 and 3
    lie inside its combined core on either side of the origin and are picked up by the two scans, 4 is
    not; the hypotheses of `hybrid_groups_exact_ring_partial` and of `no_duplicate_candidates_ring_partial`
    (all extents inside the span `[90, 100) + [0, 9)`… here even `[40, 50)` is outside, so only the
    former) hold for this input -/
example :
    let ps : List Proto := [⟨0, .simple ⟨90, 96, .fwd⟩, .simple ⟨90, 96, .fwd⟩, [1], "a"⟩,
                            ⟨1, .simple ⟨4, 9, .fwd⟩, .simple ⟨4, 9, .fwd⟩, [1], "b"⟩,
                            ⟨2, .simple ⟨97, 99, .fwd⟩, .simple ⟨97, 99, .fwd⟩, [], "c"⟩,
                            ⟨3, .simple ⟨1, 3, .fwd⟩, .simple ⟨1, 3, .fwd⟩, [], "d"⟩,
                            ⟨4, .simple ⟨40, 50, .fwd⟩, .simple ⟨40, 50, .fwd⟩, [], "e"⟩]
    summary (formation ps (some 100)) = some [(.hybrid, [3, 1, 0, 2]), (.single, [4])] ∧
    (∀ p, p ∈ ps → RingIn 100 p.core) ∧
    (∀ p, p ∈ ps → ∃ r, p.core = .simple r ∧ r.lo < r.hi ∧ p.loc.start ≤ r.lo) := by
  intro ps
  refine ⟨by decide +kernel, ?_, ?_⟩
  · intro p hp
    simp only [ps, List.mem_cons, List.mem_nil_iff, or_false] at hp
    rcases hp with rfl | rfl | rfl | rfl | rfl <;>
      exact RingInStrict.ringIn (Or.inl ⟨_, rfl, by decide, by decide, by decide⟩)
  · intro p hp
    simp only [ps, List.mem_cons, List.mem_nil_iff, or_false] at hp
    rcases hp with rfl | rfl | rfl | rfl | rfl <;> exact ⟨_, rfl, by decide, by decide⟩

/-- a circular record whose protoclusters fit into less than half of it (`[88, 100) + [0, 12)` of 100):
    the hypotheses of `no_duplicate_candidates_ring_partial` -/
example :
    let ps : List Proto := [⟨0, .compound [⟨95, 100, .fwd⟩, ⟨0, 5, .fwd⟩], .compound [⟨97, 100, .fwd⟩, ⟨0, 2, .fwd⟩], [], "a"⟩,
                            ⟨1, .simple ⟨3, 12, .fwd⟩, .simple ⟨6, 9, .fwd⟩, [], "b"⟩,
                            ⟨2, .simple ⟨88, 96, .fwd⟩, .simple ⟨90, 93, .fwd⟩, [], "c"⟩]
    summary (formation ps (some 100)) = some [(.neighbouring, [0, 1, 2]), (.single, [0]), (.single, [1]), (.single, [2])] ∧
    (∀ p, p ∈ ps → RingInStrict 100 p.loc) ∧
    (∃ c, areaWF 100 100 c = true ∧ 2 * c.len < 100 ∧ ∀ p, p ∈ ps → ∀ i, p.loc.mem i = true → c.mem i = true) := by
  intro ps
  refine ⟨by decide +kernel, ?_, ⟨.compound [⟨88, 100, .fwd⟩, ⟨0, 12, .fwd⟩], by decide, by decide, ?_⟩⟩
  · intro p hp
    simp only [ps, List.mem_cons, List.mem_nil_iff, or_false] at hp
    rcases hp with rfl | rfl | rfl
    · exact Or.inr (Or.inl ⟨95, 5, .fwd, by decide, rfl, by decide, by decide, by decide⟩)
    · exact Or.inl ⟨_, rfl, by decide, by decide, by decide⟩
    · exact Or.inl ⟨_, rfl, by decide, by decide, by decide⟩
  · intro p hp i hi
    simp only [ps, List.mem_cons, List.mem_nil_iff, or_false] at hp
    rw [mem_two]
    rcases hp with rfl | rfl | rfl
    · rw [mem_two] at hi; simp only at hi ⊢; omega
    · rw [mem_simple] at hi; simp only at hi ⊢; omega
    · rw [mem_simple] at hi; simp only at hi ⊢; omega

/-- the hypotheses of the linear theorems (`formation_succeeds_on_line`, `hybrid_groups_exact_partial`,
    `no_duplicate_candidates_partial`) hold for that input -/
example :
    let ps : List Proto := [⟨0, .simple ⟨280, 310, .fwd⟩, .simple ⟨280, 310, .fwd⟩, [1], "a"⟩,
                            ⟨1, .simple ⟨380, 440, .fwd⟩, .simple ⟨400, 420, .fwd⟩, [], "b"⟩,
                            ⟨2, .simple ⟨320, 390, .fwd⟩, .simple ⟨340, 370, .fwd⟩, [1], "c"⟩,
                            ⟨3, .simple ⟨430, 490, .fwd⟩, .simple ⟨450, 470, .fwd⟩, [], "d"⟩]
    ps.Nodup ∧
    (∀ p, p ∈ ps → (∃ q, p.loc = .simple q ∧ 0 ≤ q.lo ∧ q.lo ≤ q.hi) ∧ ∃ r, p.core = .simple r) ∧
    (∀ p, p ∈ ps → ∃ r, p.core = .simple r ∧ r.lo < r.hi ∧ p.loc.start ≤ r.lo) ∧
    (∀ p, p ∈ ps → p.loc.parts ≠ [] ∧ bridgesOrigin p.loc = false) := by
  intro ps
  refine ⟨by decide, ?_, ?_, ?_⟩
  · intro p hp
    simp only [ps, List.mem_cons, List.mem_nil_iff, or_false] at hp
    rcases hp with rfl | rfl | rfl | rfl <;> exact ⟨⟨_, rfl, by decide, by decide⟩, ⟨_, rfl⟩⟩
  · intro p hp
    simp only [ps, List.mem_cons, List.mem_nil_iff, or_false] at hp
    rcases hp with rfl | rfl | rfl | rfl <;> exact ⟨_, rfl, by decide, by decide⟩
  · intro p hp
    simp only [ps, List.mem_cons, List.mem_nil_iff, or_false] at hp
    rcases hp with rfl | rfl | rfl | rfl <;> exact ⟨by decide, by decide⟩

end ASV.C05
