/-
  C10 — annotated records survive GenBank and JSON round trips unchanged.
  Property theorems with their witnesses and non-vacuity examples; helper lemmas in ASV/Proofs/Serial*.lean.

  The model (`ASV/Model/Serial.lean`) is the layer antiSMASH owns between secmet objects and Biopython
  `SeqFeature(location, type, qualifiers)` plus the record bookkeeping; the GenBank text layer and orjson
  are Biopython's / orjson's and are exercised by the real round trips of the correspondence.
  "The same" is the view equality of `ASV/Spec/Serial.lean` (`Feat.view`, `Proto.view`, …), the
  definition the driver evaluates on the implementation's re-read records.

  Proved here for all inputs (no size bounds):
    * location text and the JSON form of a feature read back as the same location / feature
    * a codon_start adjustment undone on writing is redone exactly on reading
    * plain features, and the base-class part of genes / CDS / domains: read back with the same view,
      and written again identically (fixed point)
    * protoclusters and subregions: read back with the same view (location, core, product, tool,
      cut-off, neighbourhood, rule, category, notes, free qualifiers)
    * candidate clusters and regions: rebuilt *identically* from a record with the same children
    * record level (`numbering_roundtrip_partial`): the re-read record has the same subregions,
      protoclusters, candidate clusters and regions, in the same numbered order, with the same cross
      references — under `Rec.Scope` (the comparison used by `sorted(all_features)` is a strict weak
      order on the record's features and the area lists are in non-descending order for it; areas not
      sideloaded).  Outside `Rec.Scope` the property is false on the model and on the code
      (`kf_witness_numbers_swap`, known finding KF-C10-inconsistent-area-order); the same for a run of any taxon
    * the location of a prepeptide written as leader / core / tail and rebuilt
    * the text inside class-specific qualifiers: `_parse_format` against `str.format`, gene functions, sec_met
      domains, the type II PKS annotation, the Pfam identifier / `db_xref` / gene ontology qualifiers
    * features of the classes `aSDomain` / `CDS_motif`, `PFAM_domain`, `aSModule`, `CDS` (partial: see the theorem)
      read back with every attribute; the qualifiers of an `ExternalCDSMotif`; the notes of any feature
  Left to the correspondence (see design/C10.md): sideloaded areas, the byte-identical second write of
  whole records (interleaving of classes in the file), a CDS with a codon start or not made by antiSMASH.
-/
import ASV.Proofs.SerialRecord
import ASV.Proofs.SerialPre
import ASV.Proofs.SerialQual
import ASV.Proofs.SerialDom
import ASV.Proofs.SerialPfam
import ASV.Proofs.SerialModule
import ASV.Proofs.SerialCds
namespace ASV.C10
open ASV ASV.Serial

/-! ### text forms -/

/-- `location_from_string(str(location)) == location` (any number of parts, any strands, origin-spanning included) -/
theorem location_text_roundtrip (l : Loc) (h : l.parts ≠ []) : locFromString (locToString l) = some l :=
  locFromString_locToString l h

/-- `feature_from_json(feature_to_json(f)) == f` -/
theorem json_feature_roundtrip (b : Bio) (h : b.loc.parts ≠ []) : featureFromJson (featureToJson b) = some b := by
  simp [featureFromJson, featureToJson, locFromString_locToString b.loc h]

/-- the JSON path of a whole feature list is the identity, so reading a record from its JSON form is
    reading it from the feature list itself -/
theorem json_features_roundtrip (bs : List Bio) (h : ∀ b ∈ bs, b.loc.parts ≠ []) :
    bs.mapM (fun b => featureFromJson (featureToJson b)) = some bs := by
  induction bs with
  | nil => rfl
  | cons b rest ih =>
    simp [List.mapM_cons, json_feature_roundtrip b (h b (by simp)), ih (fun x hx => h x (List.mem_cons_of_mem _ hx))]

/-! ### codon_start -/

/-- the location written for a codon_start-adjusted gene is read back as the adjusted location
    (both strands, multi-exon and origin-spanning genes included); the error branches (codon start
    outside 1..3, a first exon that is not the outermost one of a location not crossing the origin)
    never produce a written feature.  `hbr`: the shift of at most two bases does not change whether
    the exon order reads as "crosses the origin" — true whenever exon starts are more than two bases
    apart -/
theorem codon_start_roundtrip (l l' : Loc) (c : Int) (hwf : ∀ p ∈ l.parts, p.lo ≤ p.hi)
    (hbr : bridgesOrigin l' = bridgesOrigin l)
    (h : frameshift l (c + 1) true = .ok l') : frameshift l' (c + 1) false = .ok l :=
  (frameshift_undo_redo l l' c hwf hbr h).1

/-! ### one feature through `to_biopython` / `from_biopython` -/

/-- a plain feature (`Feature.from_biopython`): same view, and the second write equals the first -/
theorem bio_roundtrip_feature (t : Bool) (f : Feat) (h : f.WF) (b : Bio) (hb : f.toBio = .ok b) :
    ∃ f', Feat.fromBio b = .ok f' ∧ f'.view t = f.view t ∧ f'.toBio = .ok b :=
  ⟨f.norm, fromBio_toBio f h b hb, view_norm t f h, by rw [toBio_norm f h]; exact hb⟩

/-- the base-class part of a feature whose class builds it itself (gene, CDS, domain, motif, module,
    source: the notes stay in the qualifier dictionary): same view, second write equals the first -/
theorem bio_roundtrip_feature_subclass (t : Bool) (f : Feat) (h : f.WF) (b : Bio) (hb : f.toBio = .ok b) (by0 : Bool) :
    ∃ f', Feat.fromBioSub b by0 = .ok f' ∧ f'.view t = f.view t ∧ f'.toBio = .ok b :=
  ⟨f.normSub, fromBioSub_toBio f h b hb by0, view_normSub t f h, by rw [toBio_normSub f h]; exact hb⟩

/-- a subregion, in or out of a record (`num`), with any contig-edge flag -/
theorem bio_roundtrip_subregion (t : Bool) (s : Sub) (h : s.WF) (hside : s.side = none) (num : Option Nat) (ce : Bool)
    (bs : List Bio) (hb : s.toBio num ce = .ok bs) :
    ∃ b, bs = [b] ∧ ∃ s', Sub.fromBio b = .ok s' ∧ s'.view t = s.view t ∧ s'.WF := by
  obtain ⟨b, e, _, _, s', h1, h2, _, h4, _⟩ := sub_roundtrip t s h hside num ce bs hb
  exact ⟨b, e, s', h1, h2, h4⟩

/-- a protocluster: two features are written, the neighbourhood feature alone rebuilds it -/
theorem bio_roundtrip_protocluster (t : Bool) (p : Proto) (h : p.WF) (hside : p.side = none) (num : Option Nat) (ce : Bool)
    (bs : List Bio) (hb : p.toBio num ce = .ok bs) :
    ∃ nb core, bs = [nb, core] ∧ core.type = "proto_core" ∧ core.loc = p.core ∧
      ∃ p', Proto.fromBio nb = .ok p' ∧ p'.view t = p.view t ∧ p'.WF := by
  obtain ⟨nb, e, _, _, p', h1, h2, _, h4, _⟩ := proto_roundtrip t p h hside num ce bs hb
  exact ⟨nb, _, e, rfl, rfl, p', h1, h2, h4⟩

/-- a candidate cluster is rebuilt identically by number from any record with the same protocluster
    locations at the same positions (in particular the re-read one), and keeps its stored number -/
theorem bio_roundtrip_candidate (r r1 : Rec) (c : Cand) (k : Nat) (bs : List Bio) (hwf : c.WF r)
    (hb : c.toBio r (some k) = .ok bs)
    (hlen : r1.len = r.len) (hcirc : r1.circular = r.circular) (hpl : r1.protos.length = r.protos.length)
    (hlocs : ∀ i (hi : i < r.protos.length) (hi' : i < r1.protos.length), r1.protos[i].feat.loc = r.protos[i].feat.loc) :
    ∃ b, bs = [b] ∧ Cand.fromBio r1 b = .ok c ∧ storedNumber b = k := by
  obtain ⟨b, e, hb', _, _⟩ := Cand.toBio_shape r c _ _ hb
  exact ⟨b, e, cand_fromBio r r1 c k b hwf hb' hlen hcirc hpl hlocs⟩

/-- a region is rebuilt identically by number from any record with the same candidate cluster and
    subregion locations at the same positions -/
theorem bio_roundtrip_region (r r1 : Rec) (g : Reg) (k : Nat) (bs : List Bio) (hwf : g.WF r)
    (hb : g.toBio r (some k) = .ok bs)
    (hcl : r1.cands.length = r.cands.length) (hsl : r1.subs.length = r.subs.length)
    (hclocs : ∀ i (hi : i < r.cands.length) (hi' : i < r1.cands.length), r1.cands[i].feat.loc = r.cands[i].feat.loc)
    (hslocs : ∀ i (hi : i < r.subs.length) (hi' : i < r1.subs.length), r1.subs[i].feat.loc = r.subs[i].feat.loc) :
    ∃ b, bs = [b] ∧ Reg.fromBio r1 b = .ok g := by
  obtain ⟨b, e, hb', _, _⟩ := Reg.toBio_shape r g _ _ hb
  exact ⟨b, e, reg_fromBio r r1 g k b hwf hb' hcl hsl hclocs hslocs⟩

/-! ### the record -/

/-- full statement (false as it stands, see `kf_witness_numbers_swap`): for every record the re-read
    record has the same area lists with the same numbering and cross references -/
def NumberingRoundtrip : Prop :=
  ∀ (t : Bool) (r : Rec) (bios : List Bio) (r' : Rec), writeRecord r = .ok bios →
    readRecord r.len r.circular bios = .ok r' →
    r'.subs.map (Sub.view t) = r.subs.map (Sub.view t) ∧ r'.protos.map (Proto.view t) = r.protos.map (Proto.view t) ∧
    r'.cands.map (Cand.view t r') = r.cands.map (Cand.view t r) ∧ r'.regs.map (Reg.view t) = r.regs.map (Reg.view t)

/-- writing a record and reading it back gives the same subregions, protoclusters, candidate clusters
    and regions, each list in the same order (hence the same numbers), with the same children by
    position (hence every cross reference by number resolves to the same feature) — for every record
    in `Rec.Scope`.  Equal coordinates are allowed (D20): the order of equal areas is kept. -/
theorem numbering_roundtrip_partial (t : Bool) (r : Rec) (H : r.Scope) (bios : List Bio) (r' : Rec)
    (hw : writeRecord r = .ok bios) (hr : readRecord r.len r.circular bios = .ok r') :
    r'.subs.map (Sub.view t) = r.subs.map (Sub.view t) ∧ r'.protos.map (Proto.view t) = r.protos.map (Proto.view t) ∧
    r'.cands.map (Cand.view t r') = r.cands.map (Cand.view t r) ∧ r'.regs.map (Reg.view t) = r.regs.map (Reg.view t) := by
  obtain ⟨h1, h2, _, h4, h5⟩ := numbering_main t r H bios r' hw hr
  exact ⟨h1, h2, h4, by rw [h5]⟩

/-- … and through the results JSON as well: the JSON form of the written features reads back as the
    written features, so the same conclusion holds for `record_to_json → record_from_json` -/
theorem numbering_roundtrip_json_partial (t : Bool) (r : Rec) (H : r.Scope) (bios bios' : List Bio) (r' : Rec)
    (hw : writeRecord r = .ok bios) (hne : ∀ b ∈ bios, b.loc.parts ≠ [])
    (hj : bios.mapM (fun b => featureFromJson (featureToJson b)) = some bios')
    (hr : readRecord r.len r.circular bios' = .ok r') :
    r'.subs.map (Sub.view t) = r.subs.map (Sub.view t) ∧ r'.protos.map (Proto.view t) = r.protos.map (Proto.view t) ∧
    r'.cands.map (Cand.view t r') = r.cands.map (Cand.view t r) ∧ r'.regs.map (Reg.view t) = r.regs.map (Reg.view t) := by
  rw [json_features_roundtrip bios hne] at hj
  cases hj
  exact numbering_roundtrip_partial t r H bios r' hw hr

/-- inserting with `bisect_right` an area that is not smaller than any area present appends it: the
    reason equal-coordinate protoclusters keep their numbers (D20) -/
theorem reinsertion_appends (lt : Proto → Proto → Bool) (x : Proto) (l : List Proto) (h : ∀ e ∈ l, lt x e = false) :
    insertAt l (bisectR lt x l) x = l ++ [x] :=
  bisectR_end lt x l h

/-- `sorted(...)` (CPython, fewer than 64 elements) returns a sorted rearrangement that keeps the order
    of elements comparing equal, whenever the comparison is a strict weak order on them -/
theorem sorted_is_stable {α : Type} (lt : α → α → Bool) (l : List α) (h : SWO lt (· ∈ l)) :
    Sorted lt (pySort lt l) ∧ (pySort lt l).Perm l ∧ ∀ a ∈ l, (pySort lt l).filter (eqv lt a) = l.filter (eqv lt a) :=
  pySort_spec l h


/-! ### non-vacuity and witnesses -/

def mkProto (lo hi clo chi : Int) (product : String) : Proto :=
  ⟨⟨.simple ⟨lo, hi, .none⟩, "protocluster", [], [], true, none⟩, .simple ⟨clo, chi, .none⟩,
   "rule-based-clusters", product, 10, 10, "rule " ++ product, "other", none⟩

/-- D20's layout: two protoclusters with identical coordinates, `prodB` numbered 1 and `prodA` numbered 2 -/
def rD20 : Rec := { len := 1000, circular := false, protos := [mkProto 50 900 100 200 "prodB", mkProto 50 900 100 200 "prodA"] }

theorem mkProto_WF (lo hi clo chi : Int) (product : String) (h : lo ≤ hi) : (mkProto lo hi clo chi product).WF := by
  refine ⟨⟨nodupNil, rfl, by simp [mkProto, Q.get?], by simp [mkProto, Q.get?], ?_, fun c l' hc _ => by cases hc⟩, rfl, rfl, rfl, by simp [mkProto, Loc.parts],
    fun _ _ => rfl, by show isExternal "rule-based-clusters" = false; decide +kernel⟩
  intro p hp
  simp [mkProto, Loc.parts] at hp
  subst hp; exact h

/-- the hypotheses of `numbering_roundtrip_partial` hold for D20's record … -/
theorem rD20_scope : rD20.Scope := by
  have hall : allEntries rD20 = [.proto 0, .proto 1] := by rfl
  refine ⟨⟨?_, ?_⟩, ?_, by simp [rD20], ?_, by simp [rD20], by simp [rD20], by simp [rD20, Sorted], ?_,
    by simp [rD20, Sorted], by simp [rD20, Sorted], by simp [rD20]⟩
  · intro a b ha hb
    rw [hall] at ha hb
    simp only [List.mem_cons, List.not_mem_nil, or_false] at ha hb
    rcases ha with rfl | rfl <;> rcases hb with rfl | rfl <;> decide
  · intro a b c ha hb hc
    rw [hall] at ha hb hc
    simp only [List.mem_cons, List.not_mem_nil, or_false] at ha hb hc
    rcases ha with rfl | rfl <;> rcases hb with rfl | rfl <;> rcases hc with rfl | rfl <;> decide
  · intro f hf; simp [rD20] at hf
  · intro p hp
    simp only [rD20, List.mem_cons, List.not_mem_nil, or_false] at hp
    rcases hp with rfl | rfl
    · exact ⟨mkProto_WF _ _ _ _ _ (by decide), rfl, by simp [inside, mkProto, Loc.start, Loc.end, Loc.parts, rD20], by simp [mkProto, Loc.parts]⟩
    · exact ⟨mkProto_WF _ _ _ _ _ (by decide), rfl, by simp [inside, mkProto, Loc.start, Loc.end, Loc.parts, rD20], by simp [mkProto, Loc.parts]⟩
  · simp only [rD20, Sorted]
    refine List.Pairwise.cons ?_ (List.Pairwise.cons (by simp) List.Pairwise.nil)
    intro b hb
    simp only [List.mem_cons, List.not_mem_nil, or_false] at hb
    subst hb
    decide

/-- … and the model does keep the numbers (`prodB` first) through the round trip -/
example : (do let bios ← writeRecord rD20; let r' ← readRecord 1000 false bios; pure (r'.protos.map (·.product)) : E (List String))
    = .ok ["prodB", "prodA"] := eq_ok_of_toOption (by decide +kernel)



def mkArea (loc core : Loc) (product : String) (nb : Int) : Proto :=
  ⟨⟨loc, "protocluster", [], [], true, none⟩, core, "rule-based-clusters", product, 10, nb, "rule " ++ product, "other", none⟩

def mkCand (loc : Loc) (kind : String) (children : List Nat) (wrap : Option Int) : Cand :=
  ⟨⟨loc, "cand_cluster", [], [], true, none⟩, kind, children, none, none, wrap⟩

/-- the known-finding witness: circular record of 300 bases, a candidate cluster crossing the origin
    (`[120:300]+[0:60]`, number 1) and one covering the whole record (`[0:300]`, number 2) -/
def rKF : Rec :=
  { len := 300, circular := true,
    protos := [mkArea (.compound [⟨240, 300, .fwd⟩, ⟨0, 60, .fwd⟩]) (.compound [⟨270, 300, .fwd⟩, ⟨0, 30, .fwd⟩]) "terpene" 30,
               mkArea (.simple ⟨75, 135, .none⟩) (.simple ⟨75, 135, .none⟩) "lanthipeptide" 0,
               mkArea (.simple ⟨120, 270, .fwd⟩) (.simple ⟨165, 225, .fwd⟩) "terpene" 45],
    cands := [mkCand (.compound [⟨120, 300, .fwd⟩, ⟨0, 60, .fwd⟩]) "chemical_hybrid" [0, 2] (some 300),
              mkCand (.simple ⟨0, 300, .fwd⟩) "interleaved" [0, 1, 2] (some 300)] }


/-- outside `Rec.Scope` the property fails: the two candidate clusters swap their numbers on reload
    (each is "smaller" than the other for `CDSCollection.__lt__`) -/
theorem kf_witness_numbers_swap :
    (do let bios ← writeRecord rKF; let r' ← readRecord 300 true bios; pure (r'.cands.map (·.kind)) : E (List String))
      = .ok ["interleaved", "chemical_hybrid"] ∧ rKF.cands.map (·.kind) = ["chemical_hybrid", "interleaved"] :=
  ⟨eq_ok_of_toOption (by decide +kernel), by decide +kernel⟩

theorem kf_witness_not_in_scope : ¬ rKF.Scope := by
  intro H
  have hs := H.sortedC
  have h1 := (List.pairwise_cons.1 hs).1 (mkCand (.simple ⟨0, 300, .fwd⟩) "interleaved" [0, 1, 2] (some 300)) (by simp)
  revert h1
  decide

/-! ### the location of a precursor peptide (written as leader / core / tail, rebuilt from them) -/

/-- `Prepeptide.to_biopython` cuts the gene's location into leader, core and tail (C09's
    `prepeptideSections`), writes the core's location and the other two as text;
    `Prepeptide.from_biopython` parses them and combines the three (`_combine_sections`, fixes/D107).
    For every gene location (any number of exons, either strand, origin-spanning or not) and every
    leader / tail length that leaves a core: writing succeeds, reading succeeds, and the rebuilt
    location has exactly the gene's translated bases, in transcription order. -/
theorem prepeptide_location_roundtrip (l : Loc) (hwf : ProtDna.geneWF l = true) (ld tl : Nat)
    (h : (ld : Int) + tl < l.len / 3) :
    ∃ w, preWrite l ld tl = .ok w ∧ ∃ r, preRead w = some r ∧
      ProtDna.bases r = (ProtDna.bases l).take (3 * (l.len / 3).toNat) :=
  preRead_preWrite l hwf ld tl h

/-- comparing locations "whatever the cut into parts" loses no base: the normal form used by the
    harness for the known finding KF-C10-prepeptide-location-parts has the same bases in the same order -/
theorem merge_adjoining_same_bases (l : Loc) (hv : ∀ p ∈ l.parts, p.lo ≤ p.hi) :
    ProtDna.bases (mergeAdjoining l) = ProtDna.bases l :=
  mergeAdjoining_bases l hv

/-- an origin-spanning gene on a circular record of 120 bases -/
def spanGene : Loc := .compound [⟨105, 120, .fwd⟩, ⟨0, 15, .fwd⟩]
def spanGeneRev : Loc := .compound [⟨0, 15, .rev⟩, ⟨105, 120, .rev⟩]

example : ProtDna.geneWF spanGene = true ∧ ProtDna.geneWF spanGeneRev = true := by decide
/-- non-vacuity, and more than the theorem says: here the location itself comes back, on both strands -/
example : (match preWrite spanGene 3 3 with | .ok w => preRead w | _ => none) = some spanGene := by decide +kernel
example : (match preWrite spanGeneRev 2 4 with | .ok w => preRead w | _ => none) = some spanGeneRev := by decide +kernel
example : (match preWrite (.simple ⟨30, 60, .rev⟩) 3 3 with | .ok w => preRead w | _ => none)
    = some (.simple ⟨30, 60, .rev⟩) := by decide +kernel

/-- the seeded change "combine the sections in coordinate order" is refuted by the theorem: for the
    origin-spanning gene the section after the origin sorts first and the bases come out in another order -/
theorem sections_in_coordinate_order_break_it :
    ProtDna.bases (combineSections [.simple ⟨6, 15, .fwd⟩, .simple ⟨105, 114, .fwd⟩,
                                    .compound [⟨114, 120, .fwd⟩, ⟨0, 6, .fwd⟩]])
      ≠ ProtDna.bases spanGene ∧
    ProtDna.bases (combineSections [.simple ⟨105, 114, .fwd⟩, .compound [⟨114, 120, .fwd⟩, ⟨0, 6, .fwd⟩],
                                    .simple ⟨6, 15, .fwd⟩])
      = ProtDna.bases spanGene := by
  constructor
  · decide +kernel
  · decide +kernel

/-! ### the text inside the class-specific qualifiers (`ASV/Model/SerialQual.lean`) -/

/-- `_parse_format(fmt, fmt.format(*values)) == values`: the backtracking match of the expression built
    from the format string returns exactly the values that were formatted, for every format made of
    `{}` place holders and literal characters and all values that fit it (`fitsFormat`: non-empty, no
    newline, and free of the character — and of a space, if the format has one there — that follows
    the place holder in the format).  Values that do not fit can come back split elsewhere
    (`gene_function_colon_breaks_it`). -/
theorem parse_format_inverts_format (ts : List Tok) (values : Groups) (h : fitsFormat ts values = true) :
    rx ts (render ts values) = some values :=
  rx_render ts values h

/-- the format strings of the code give the item lists used in the model -/
example : fmtToks "{} ({}) {}: {}".toList = some fmt4 ∧ fmtToks "{} ({}) {}".toList = some fmt3 ∧
    fmtToks "{} (E-value: {}, bitscore: {}, seeds: {}, tool: {})".toList = some smFmt ∧
    fmtToks "{} (Da): {:.3f}".toList = some t2WeightFmt := by decide +kernel

/-- `_GeneFunctionAnnotation.from_string(str(a)) == a` for every annotation object (`Annot.wf`: what the
    constructor checks) whose tool has no `)`, whose texts have no newline and whose product has no `:`
    — or, without product, whose tool and description have no `:` (`Annot.textSafe`).
    Partial: a description with a colon and no product is outside (known finding KF-C10-gene-function-colon). -/
theorem gene_function_text_roundtrip_partial (a : Annot) (hw : a.wf = true) (hs : a.textSafe = true) :
    Annot.fromStr a.toStr = .ok a :=
  annot_text_roundtrip a hw hs

/-- the `gene_functions` qualifier of a CDS: `add_from_qualifier` on the written strings rebuilds the same
    annotations in the same order (annotations are distinct: `add` never stores a duplicate), hence the
    same `gene_kind` and the same second write -/
theorem gene_functions_qualifier_roundtrip_partial (l : List Annot) (hd : l.Nodup)
    (h : ∀ a ∈ l, a.wf = true ∧ a.textSafe = true) :
    annFromQualifier [] ((Q.get? (annQuals l) "gene_functions").getD []) = .ok l := by
  cases l with
  | nil => rfl
  | cons a l =>
    have := annFromQualifier_roundtrip (a :: l) [] h (by simpa using hd)
    simpa [annQuals, Q.get?] using this

def smcogAnnotation : Annot := ⟨.other, "smcogs", "SMCOG1000: thing", none⟩
/-- the theorem's colon hypothesis cannot be dropped, on the model as in the code (KF-C10-gene-function-colon):
    an smCOG style description comes back as a product and a shorter description -/
theorem gene_function_colon_breaks_it :
    smcogAnnotation.wf = true ∧
    (Annot.fromStr smcogAnnotation.toStr).toOption = some ⟨.other, "smcogs", "thing", some "SMCOG1000"⟩ := by
  decide +kernel

/-- non-vacuity: with and without product -/
example : (⟨.core, "rule-based-clusters", "biosynthetic (rule-based-clusters) T1PKS: PKS_KS", some "T1PKS"⟩ : Annot).wf = true ∧
    (⟨.core, "rule-based-clusters", "biosynthetic (rule-based-clusters) T1PKS: PKS_KS", some "T1PKS"⟩ : Annot).textSafe = true ∧
    (⟨.transport, "smcogs", "ABC transporter (Score 12.5)", none⟩ : Annot).wf = true ∧
    (⟨.transport, "smcogs", "ABC transporter (Score 12.5)", none⟩ : Annot).textSafe = true := by decide +kernel

/-- `SecMetQualifier.Domain.from_string(str(d)) == d` (numbers as the text Python writes for them) when the
    name has neither space nor `(`, the numbers' texts no `,`, the tool no `)` -/
theorem secmet_domain_text_roundtrip_partial (d : SMDom) (h : d.textSafe = true) : SMDom.fromStr d.toStr = .ok d :=
  smdom_text_roundtrip d h

/-- the `sec_met_domain` qualifier: domains with distinct names (`add_domains` keeps the first of each name) -/
theorem secmet_qualifier_roundtrip_partial (ds : List SMDom) (hn : (ds.map (·.name)).Nodup)
    (h : ∀ d ∈ ds, d.textSafe = true) : smFromQualifier (ds.map SMDom.toStr) = .ok ds :=
  smFromQualifier_roundtrip ds hn h

example : (⟨"PKS_KS", "1.5e-20", "12.5", "25", "rule-based-clusters"⟩ : SMDom).textSafe = true := by decide +kernel

/-! ### domains and motifs (`AntismashFeature` → `Domain` → `AntismashDomain` / `CDSMotif`) -/

/-- an `aSDomain` (no registered subtype) or `CDS_motif` feature made by antiSMASH: the written feature is
    read back with the same tool, locus tag, protein location, domain name, active-site hits, domain id,
    database, detection, label, e-value and score texts and translation; the base part (location, notes,
    free qualifiers) has the same view; the re-read object satisfies the hypotheses again and writes the
    very same Biopython feature.  `Dom.WF`: what the constructors and setters guarantee, no `codon_start`,
    and free qualifiers that use none of the thirteen keys the classes write. -/
theorem bio_roundtrip_domain (t : Bool) (kind : DomKind) (d : Dom) (h : d.WF kind) (b : Bio) (hb : d.toBio = .ok b) :
    ∃ d', Dom.fromBio kind b = .ok d' ∧ d' = { d with feat := d'.feat } ∧ d'.feat.view t = d.feat.view t ∧
      d'.feat.loc = d.feat.loc ∧ d'.WF kind ∧ d'.toBio = .ok b :=
  dom_roundtrip t kind d h b hb

/-- a domain with every optional attribute set, notes and a free qualifier -/
def sampleDomain : Dom :=
  { feat := ⟨.simple ⟨30, 90, .rev⟩, "aSDomain", ["a note"], [("custom", ["x", "y"])], true, none⟩,
    tool := "nrps_pks_domains", locusTag := "ctg1_5", pStart := 10, pEnd := 30, domain := some "PKS_KS",
    asf := ["hit 1", "hit 2"], domainId := some "nrpspksdomains_ctg1_5_PKS_KS.1", database := some "nrpspksdomains.hmm",
    detection := some "hmmscan", label := some "ctg1_5_KS1", evalue := some "1.50E-20", score := some "12.5",
    translation := "MAGIC" }

/-- non-vacuity: the hypotheses hold for it (`domWFb`, the Boolean form the driver reports as scope, implies
    `Dom.WF`), it is written, and it comes back attribute by attribute -/
theorem sampleDomain_in_scope : sampleDomain.WF .asDomain := Dom.WF_of_b _ _ (by decide +kernel)
example : domWFb .asDomain sampleDomain = true ∧
    (match sampleDomain.toBio with
     | .ok b => (match Dom.fromBio .asDomain b with | .ok d' => d' == { sampleDomain with feat := d'.feat } | _ => false)
     | _ => false) = true := by decide +kernel

/-! ### the type II PKS annotation of a protocluster (`T2PKSQualifier`) -/

/-- `from_biopython_qualifiers(to_biopython_qualifiers(t)) == t`, with nothing left over: starter units always,
    elongations together with their weights or neither, product classes or none — in every combination.
    `T2.wf`: what the constructor checks, distinct weight keys (a dictionary), weight texts that fit
    `"{} (Da): {:.3f}"` (no space or `(` in the starter_elongation key; partial in that respect). -/
theorem t2pks_annotation_roundtrip_partial (t : T2) (h : t.wf = true) : T2.fromQuals t.toQuals = .ok (some t, []) :=
  t2_roundtrip t h

/-- product classes without any elongation prediction: in scope, and they come back -/
def t2ClassesOnly : T2 := ⟨["acetyl-CoA (Score: 0.0; E-value: 0.0)"], [], ["angucycline", "anthracycline"], []⟩
example : t2ClassesOnly.wf = true ∧ (T2.fromQuals t2ClassesOnly.toQuals).toOption = some (some t2ClassesOnly, []) := by
  decide +kernel
example : (⟨["s"], ["7 (Score: 1.0; E-value: 0.5)"], [], [("acetyl-CoA_7", "342.347"), ("acetyl-CoA_8", "384.384")]⟩ : T2).wf = true := by
  decide +kernel

/-! ### Pfam identifier, `db_xref` and gene ontology terms of a `PFAMDomain` -/

/-- the `description`, `db_xref` and `gene_ontologies` qualifiers `PFAMDomain.to_biopython` writes are read back
    as the same description, identifier and version and the same gene ontology terms (in the order of their ids);
    the ids stay behind in `db_xref` in sorted order.  `PfamX.wf`: constructor checks, version not 0, distinct
    ids without `:`, a qualifier object with at least one term. -/
theorem pfam_qualifiers_read_back (p : PfamX) (h : p.wf = true) :
    PfamX.read p.quals = .ok ({ p with go := p.go.map sortGo }, p.leftXref) :=
  pfam_read_quals p h

/-- the first write is a fixed point: the re-read domain writes the same three qualifiers again, in whatever
    order the gene ontology terms were attached to the original (they are written sorted both times) -/
theorem pfam_second_write_identical (p : PfamX) (h : p.wf = true) :
    ({ p with go := p.go.map sortGo } : PfamX).quals = p.quals :=
  pfam_second_write p h

/-- PF00032 with its terms in the order of the pfam2go mapping (not the order of the ids) -/
def pfamMappingOrder : PfamX :=
  ⟨"Cytochrome b(C-terminal)/b6/petD", "PF00032", some 20,
   some [("GO:0009055", "electron transfer activity"), ("GO:0016491", "oxidoreductase activity"), ("GO:0016020", "membrane")]⟩
example : pfamMappingOrder.wf = true ∧
    (Q.get? pfamMappingOrder.quals "db_xref") = some ["PF00032.20", "GO:0009055", "GO:0016020", "GO:0016491"] := by
  decide +kernel

/-! ### a sideloaded area whose tool name itself starts with "externally annotated" (fixes/D68-C10) -/

def sideNamed : Sub :=
  ⟨⟨.simple ⟨150, 210, .none⟩, "subregion", [], [], true, none⟩, "externally annotated regions v2", "x", some [("zz_extra", ["1"])]⟩
/-- the model is the repaired code: the prefix is stripped once and the area is read back (the unrepaired code starts over
    from the original feature for ever) -/
example : (match sideNamed.toBio none false with
    | .ok [b] => (match Sub.fromBio b with | .ok s => s.tool == sideNamed.tool && s.side == sideNamed.side && s.label == "x" | _ => false)
    | _ => false) = true := by decide +kernel

/-! ### the taxon of the run (`Record.from_biopython(seq_record, taxon)`) -/

/-- whether a written record can be read back, and what is read, does not depend on the taxon — bacterial or not —
    as long as no `misc_feature` needs the NCBI clean-up that only bacterial runs apply: in particular the refusal
    of an origin-spanning exon looks at the record's own topology (`linearSpan`), never at the taxon -/
theorem reading_ignores_taxon (bacteria : Bool) (len : Int) (circular : Bool) (bios : List Bio)
    (h : ∀ b ∈ bios, b.type = "misc_feature" → prefilter b = b) :
    readRecordT bacteria len circular bios = readRecord len circular bios :=
  readRecordT_eq bacteria len circular bios fun b hb => by
    by_cases hm : b.type = "misc_feature"
    · exact h b hb hm
    · exact prefilter_id b hm

/-- the numbering theorem for a run of any taxon: a record in `Rec.Scope` — circular ones with origin-spanning
    protoclusters, subregions, candidate clusters and regions included — is read back with the same areas, numbers
    and cross references whether the run is bacterial or fungal.  Partial: `Rec.Scope`, and no written
    `misc_feature` with redundant exons across the origin (those are rewritten by bacterial runs only). -/
theorem numbering_roundtrip_any_taxon_partial (bacteria t : Bool) (r : Rec) (H : r.Scope) (bios : List Bio) (r' : Rec)
    (hw : writeRecord r = .ok bios) (hclean : ∀ b ∈ bios, b.type = "misc_feature" → prefilter b = b)
    (hr : readRecordT bacteria r.len r.circular bios = .ok r') :
    r'.subs.map (Sub.view t) = r.subs.map (Sub.view t) ∧ r'.protos.map (Proto.view t) = r.protos.map (Proto.view t) ∧
    r'.cands.map (Cand.view t r') = r.cands.map (Cand.view t r) ∧ r'.regs.map (Reg.view t) = r.regs.map (Reg.view t) := by
  rw [reading_ignores_taxon bacteria _ _ bios hclean] at hr
  exact numbering_roundtrip_partial t r H bios r' hw hr

/-- a circular record of 300 bases with a protocluster across the origin -/
def rSpan : Rec :=
  { len := 300, circular := true,
    protos := [mkArea (.compound [⟨240, 300, .fwd⟩, ⟨0, 60, .fwd⟩]) (.compound [⟨270, 300, .fwd⟩, ⟨0, 30, .fwd⟩]) "terpene" 30] }
/-- non-vacuity: a non-bacterial run reads it back (the same protocluster, core across the origin), and the same
    features in a record declared linear are refused by both kinds of run -/
example : ((do let bios ← writeRecord rSpan; let r' ← readRecordT false 300 true bios; pure (r'.protos.map (·.core)) : E (List Loc)).toOption
      = some (rSpan.protos.map (·.core))) ∧
    ((do let bios ← writeRecord rSpan; readRecordT false 300 false bios : E Rec).toOption = none) ∧
    ((do let bios ← writeRecord rSpan; readRecordT true 300 false bios : E Rec).toOption = none) := by decide +kernel

/-! ### the clean-up of `misc_feature` locations on reading (`Record.from_biopython`, bacterial runs) -/

/-- whatever the feature, the clean-up only ever drops exons contained in others: the exons that remain are in the
    order they were written in — no feature has its exon order changed by being read -/
theorem misc_feature_cleanup_keeps_exon_order (b : Bio) : (prefilter b).loc.parts.Sublist b.loc.parts :=
  prefilter_sublist b

/-- a reverse-strand `misc_feature` across the origin of a 2000-base record, `complement(join(1941..2000,1..150))` -/
def miscAcrossOrigin : Loc := .compound [⟨0, 150, .rev⟩, ⟨1940, 2000, .rev⟩]
/-- non-vacuity, and the seeded variant refuted: the location does bridge the origin, the clean-up as written leaves it
    alone, while the look with `allow_reversing=True` would answer "linear" and leave the two exons swapped -/
theorem reversing_look_would_swap_exons :
    bridgesOrigin miscAcrossOrigin = true ∧
    (prefilter ⟨miscAcrossOrigin, "misc_feature", []⟩).loc = miscAcrossOrigin ∧
    bridgesOriginReversing miscAcrossOrigin = (false, .compound [⟨1940, 2000, .rev⟩, ⟨0, 150, .rev⟩]) := by decide +kernel

/-! ### `PFAM_domain` features -/

/-- a `PFAMDomain` made by antiSMASH: the written feature is read back with the same Pfam data (description, identifier,
    version, gene ontology terms as a mapping) and the same `Domain` attributes; the gene ontology ids that
    `from_biopython` leaves in `db_xref` become a free qualifier of the re-read feature — exactly `p.x.leftXref`, the
    sorted ids (the empty list without terms) — and apart from that qualifier the base feature has the same view.
    `Pfam.WF`: `Dom.WF` for the `Domain` layers, `PfamX.wf`, and free qualifiers that use none of the three Pfam keys. -/
theorem bio_roundtrip_pfam_domain (t : Bool) (p : Pfam) (h : p.WF) (b : Bio) (hb : p.toBio = .ok b) :
    ∃ p', Pfam.fromBio b = .ok p' ∧ p'.x = { p.x with go := p.x.go.map sortGo } ∧ p'.dom = { p.dom with feat := p'.dom.feat } ∧
      Q.get? p'.dom.feat.quals "db_xref" = some p.x.leftXref ∧
      ({ p'.dom.feat with quals := Q.erase p'.dom.feat.quals "db_xref" } : Feat).view t = p.dom.feat.view t ∧
      p'.dom.feat.loc = p.dom.feat.loc :=
  pfam_roundtrip t p h b hb

/-- PF00032 with its terms in mapping order on a reverse-strand feature with a note -/
def samplePfam : Pfam :=
  ⟨{ feat := ⟨.simple ⟨30, 90, .rev⟩, "PFAM_domain", ["a note"], [], true, none⟩, tool := "cluster_hmmer", locusTag := "ctg1_5",
     pStart := 10, pEnd := 30, domain := some "Cytochrom_B_C", domainId := some "cluster_hmmer_ctg1_5_0001",
     database := some "Pfam-A.hmm", detection := some "hmmscan", evalue := some "1.50E-20", score := some "12.5",
     translation := "MAGIC" }, pfamMappingOrder⟩
/-- non-vacuity: in scope (`domWFb` implies `Dom.WF`), written, and read back with the sorted ids left in `db_xref` -/
theorem samplePfam_in_scope : samplePfam.WF :=
  ⟨Dom.WF_of_b _ _ (by decide +kernel), by decide +kernel, by decide +kernel⟩
example : (match samplePfam.toBio with
    | .ok b => (match Pfam.fromBio b with
      | .ok p' => Q.get? p'.dom.feat.quals "db_xref" == some ["GO:0009055", "GO:0016020", "GO:0016491"] && p'.dom.tool == "cluster_hmmer"
      | _ => false)
    | _ => false) = true := by decide +kernel

/-! ### `aSModule` features (C14's model of the module qualifiers + the generic feature part) -/

/-- a module feature made by antiSMASH, in a record that knows its domains by name: the written feature is read back
    as the same module (domains, type, complete / starter / final / iterative — C14's `feature_roundtrip`) with the same
    base-feature view (location, notes, free qualifiers).  The reading modelled is the repaired one (fixes/D71-C10:
    `Module.from_biopython` hands its leftovers to `Feature.from_biopython`; the unrepaired code drops notes and free
    qualifiers).  `ModF.WF`: made by antiSMASH, no codon start, free qualifiers use none of the module keys, what
    `Module.__init__` checks, every domain known to the record under its name. -/
theorem bio_roundtrip_module (t : Bool) (known : String → Option Modules.FDomain) (f : ModF) (h : f.WF known) (b : Bio)
    (hb : f.toBio = .ok b) :
    ∃ f', ModF.fromBio known b = .ok f' ∧ f'.m = f.m ∧ f'.feat.view t = f.feat.view t ∧ f'.feat.loc = f.feat.loc ∧
      f'.feat.WF ∧ f'.feat.byAS = true :=
  module_roundtrip t known f h b hb

def modDomA : Modules.FDomain := ⟨"nrpspksdomains_ctg1_5_PKS_KS.1", "ctg1_5", 1⟩
def modDomB : Modules.FDomain := ⟨"nrpspksdomains_ctg1_5_PKS_AT.1", "ctg1_5", 1⟩
def modKnown (n : String) : Option Modules.FDomain := [modDomA, modDomB].find? (·.name == n)
/-- a complete starter PKS module with a note -/
def sampleModule : ModF :=
  ⟨⟨.simple ⟨30, 330, .fwd⟩, "aSModule", ["a module note"], [], true, none⟩, ⟨[modDomA, modDomB], .pks, true, true, false, false⟩⟩
theorem sampleModule_in_scope : sampleModule.WF modKnown := by
  refine ⟨⟨nodupNil, rfl, by simp [sampleModule, Q.get?], by simp [sampleModule, Q.get?], ?_, fun c l' hc _ => by cases hc⟩,
    rfl, rfl, rfl, fun k _ => rfl, rfl, ?_⟩
  · intro p hp
    simp only [sampleModule, Loc.parts, List.mem_cons, List.mem_nil_iff, or_false] at hp
    subst hp
    decide
  · intro d hd
    simp only [sampleModule, List.mem_cons, List.mem_nil_iff, or_false] at hd
    rcases hd with e | e <;> subst e <;> decide +kernel
/-- non-vacuity: it is written and read back — module and note -/
example : (match sampleModule.toBio with
    | .ok b => (match ModF.fromBio modKnown b with
      | .ok f' => f'.m == sampleModule.m && Q.get? f'.feat.quals "note" == some ["a module note"] && f'.feat.byAS
      | _ => false)
    | _ => false) = true := by decide +kernel

/-! ### `CDS_motif` features of other tools (`ExternalCDSMotif`) -/

/-- every qualifier an external motif arrived with is in the feature that is written for it, with its value — also
    when its key is one of the placeholder keys (`locus_tag`, `protein_start`, `protein_end`, `aSTool`) the parent
    classes fill in; whatever the parent classes wrote -/
theorem external_motif_keeps_its_qualifiers (written original : Quals) (h : Q.Nodup original) (k : String) (v : List String)
    (hk : Q.get? original k = some v) : Q.get? (extWrite written original) k = some v := by
  unfold extWrite
  rw [Q.get?_update _ _ h, hk]

/-- … and nothing but the originals and what the parent classes wrote under other keys -/
theorem external_motif_writes_no_placeholder (written original : Quals) (h : Q.Nodup original) (k : String)
    (hk : k ∈ extPlaceholders) (ho : Q.get? original k = none) : Q.get? (extWrite written original) k = none := by
  unfold extWrite
  rw [Q.get?_update _ _ h, ho, get?_eraseAll]
  simp [hk]

/-- non-vacuity and the seeded order refuted: a motif that arrived with its own `locus_tag` is written with it; restoring
    the originals *before* dropping the placeholders loses it -/
theorem restoring_first_loses_the_locus_tag :
    Q.get? (extWrite [("aSTool", ["external"]), ("locus_tag", ["CDS_motif"]), ("note", ["n"]), ("protein_end", ["1"]), ("protein_start", ["0"])]
                     [("locus_tag", ["extmotif1"]), ("note", ["n"])]) "locus_tag" = some ["extmotif1"] ∧
    Q.get? (extWriteRestoreFirst [("aSTool", ["external"]), ("locus_tag", ["CDS_motif"]), ("note", ["n"]), ("protein_end", ["1"]), ("protein_start", ["0"])]
                                 [("locus_tag", ["extmotif1"]), ("note", ["n"])]) "locus_tag" = none := by decide +kernel

/-- why the consumed keys of an external motif are harmless for the round trip: the `original_qualifiers` of a motif
    *in a record* never hold a consumed key (they were consumed when the motif was made), and for such a motif reading
    the written feature gives the same `original_qualifiers` back — as a mapping — whatever attribute qualifiers the
    parent classes added; hence the second write repeats the first.  `hw`: outside the consumed and placeholder keys the
    parent classes write the motif's own dictionary (`_qualifiers` is that same dictionary). -/
theorem external_motif_originals_come_back (written original : Quals) (h : Q.Nodup original)
    (ho : ∀ k ∈ extConsumed, Q.get? original k = none)
    (hw : ∀ k, k ∉ extConsumed → k ∉ extPlaceholders → Q.get? written k = Q.get? original k) (k : String) :
    Q.get? (extOriginal (extWrite written original)) k = Q.get? original k := by
  unfold extOriginal extWrite
  rw [get?_eraseAll]
  by_cases hc : k ∈ extConsumed
  · simp [hc, ho k hc]
  · simp only [hc, if_false]
    rw [Q.get?_update _ _ h]
    cases hk : Q.get? original k with
    | some v => rfl
    | none =>
      simp only
      rw [get?_eraseAll]
      by_cases hp : k ∈ extPlaceholders
      · simp [hp]
      · simp only [hp, if_false]
        rw [hw k hc hp, hk]

/-- the reported input: a motif arriving with `protein_start` / `protein_end` / `domain_id` — in the record its originals
    are already without them, and they come back exactly -/
example : extOriginal [("locus_tag", ["m1"]), ("protein_start", ["5"]), ("protein_end", ["9"]), ("domain_id", ["x"]), ("note", ["n"])]
      = [("locus_tag", ["m1"]), ("note", ["n"])] ∧
    extOriginal (extWrite [("aSTool", ["external"]), ("locus_tag", ["CDS_motif"]), ("note", ["n"]), ("protein_end", ["1"]), ("protein_start", ["0"])]
                          [("locus_tag", ["m1"]), ("note", ["n"])]) = [("note", ["n"]), ("locus_tag", ["m1"])] := by decide +kernel

/-! ### `Feature.to_biopython` keeps every note -/

/-- the `note` qualifier of the written feature holds exactly the feature's notes — the stored `note` qualifier, the
    `notes` attribute and the notes a subclass supplies — as a multiset: the same texts, each as often as it occurs
    (sorted, nothing merged, nothing dropped); for every feature, every class qualifiers `extra`, with or without a codon start -/
theorem written_notes_are_all_notes (f : Feat) (extra : Quals) (hq : Q.Nodup f.quals) (hX : Q.Nodup extra) (b : Bio)
    (hb : f.toBio extra = .ok b) :
    ((Q.get? b.quals "note").getD []).Perm ((Q.get? f.quals "note").getD [] ++ f.notes ++ (Q.get? extra "note").getD []) := by
  have hFQ := nodup_finalQuals f extra hq
  rw [(toBio_written f extra b hb).2.1, Q.get?_sortKeys hFQ, get?_finalQuals f extra hX]
  have h1 : ¬ ("note" = "codon_start" ∧ f.codon.isSome = true) := by intro h; exact absurd h.1 (by decide)
  have h2 : ¬ ("note" = "tool" ∧ f.byAS = true) := by intro h; exact absurd h.1 (by decide)
  simp only [h1, h2, if_false, true_and, if_true]
  cases he : (allNotes f extra).isEmpty
  · simp only [if_true, Option.getD_some]
    exact sortStrs_perm _
  · have hnil : allNotes f extra = [] := List.isEmpty_iff.1 he
    simp only [Bool.true_eq_false, if_false]
    unfold allNotes at hnil
    rw [hnil]
    have : (Q.get? f.quals "note").getD [] = [] := by
      have := List.append_eq_nil_iff.1 hnil
      exact (List.append_eq_nil_iff.1 this.1).1
    rw [this]

/-- a stored note and the same text added again, plus a third note: both copies are written (the seeded `sorted(set(notes))`
    would write one) -/
example : (match (⟨.simple ⟨10, 40, .fwd⟩, "misc_feature", ["same text", "other"], [("note", ["same text"])], false, none⟩ : Feat).toBio with
    | .ok b => Q.get? b.quals "note" | _ => none) = some ["other", "same text", "same text"] := by decide +kernel

/-! ### `CDS` features -/

/-- a CDS feature made by antiSMASH (gene finding), without codon start: the written feature is read back with the same
    locus tag, protein id, gene, product, translation, translation table, sec_met domains and gene functions
    (`secmet_qualifier_roundtrip_partial`, `gene_functions_qualifier_roundtrip_partial` composed in); `gene_kind`, which
    `from_biopython` does not consume, stays behind as a free qualifier with exactly the written value; apart from it the
    base feature has the same view.  Partial — named missing parts: a codon start (covered for the base feature by
    `codon_start_roundtrip` / `bio_roundtrip_feature_subclass`, not composed here), CDS features not made by antiSMASH
    (`created_by_antismash = False`), the NRPS_PKS qualifier, names generated for nameless CDS, and the translation check
    against the record, which is the parameter `trOK` (hypothesis: it accepts the feature's own translation).
    `Cds.WF`: constructor invariants (a name, sanitised ids, translation starting with M, table ≠ 0, strand ±1), sec_met
    domains and gene functions within their qualifier-level hypotheses, free qualifiers use none of the CDS keys. -/
theorem bio_roundtrip_cds_partial (t : Bool) (defaultTable : Int) (trOK : String → Loc → Bool) (c : Cds) (h : c.WF trOK)
    (b : Bio) (hb : c.toBio = .ok b) :
    ∃ c', Cds.fromBio defaultTable trOK b = .ok c' ∧ c' = { c with feat := c'.feat } ∧
      Q.get? c'.feat.quals "gene_kind" = kindQ c.geneFns ∧
      ({ c'.feat with quals := Q.erase c'.feat.quals "gene_kind" } : Feat).view t = c.feat.view t ∧
      c'.feat.loc = c.feat.loc :=
  cds_roundtrip t defaultTable trOK c h b hb

/-- a biosynthetic CDS found by antiSMASH with a sec_met domain, two gene functions and a note -/
def sampleCds : Cds :=
  { feat := ⟨.simple ⟨30, 60, .rev⟩, "CDS", ["a note"], [], true, none⟩, locusTag := some "ctg1_5", gene := some "geneA",
    product := "a hypothetical protein", translation := "MACDEFACDE", translTable := 11,
    secMet := [⟨"PKS_KS", "1.5e-20", "12.5", "25", "rule-based-clusters"⟩],
    geneFns := [⟨.core, "rule-based-clusters", "PKS_KS", some "T1PKS"⟩, ⟨.transport, "smcogs", "ABC transporter", none⟩] }
/-- non-vacuity: it is written and read back unchanged, with `gene_kind` left among the free qualifiers -/
example : (match sampleCds.toBio with
    | .ok b => (match Cds.fromBio 1 (fun _ _ => true) b with
      | .ok c' => c' == { sampleCds with feat := c'.feat } && Q.get? c'.feat.quals "gene_kind" == some ["biosynthetic"]
      | _ => false)
    | _ => false) = true := by decide +kernel

end ASV.C10
