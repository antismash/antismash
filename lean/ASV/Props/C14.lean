/-
  C14 — NRPS/PKS modules partition a gene's domains in order and obey the module rules.

  Model: ASV/Model/Modules.lean (module_identification.py, literal transcription; every Python
  `assert` is an explicit error value).  Spec: ASV/Spec/Modules.lean (the documented layout and
  completeness rule, over plain component lists).  Tables: ASV/Generated/Modules.lean (regenerated
  from the source on every run; the table facts these theorems rest on are `decide`d in
  ASV/Proofs/ModulesTables.lean, so an edit of the tables that breaks one breaks this file).

  All theorems quantify over ALL finite domain lists (any labels of the regenerated alphabet, any
  subtypes, any query positions, any input order) — no size bound anywhere.
-/
import ASV.Proofs.ModulesChain
import ASV.Proofs.ModulesLayoutFacts
import ASV.Proofs.ModulesLine
import ASV.Proofs.ModulesBlocks
import ASV.Proofs.ModulesHmm
import ASV.Proofs.ModulesFeature
import ASV.Proofs.ModulesReport
namespace ASV.C14
open ASV ASV.Modules ASV.Modules.T

/-- the guard of the real code: `Component.__init__` classifies the label (ValueError) and
    asserts a non-empty gene name -/
def InputOK (ds : List Domain) (name : String) : Prop :=
  name.isEmpty = false ∧ ∀ d ∈ ds, (classify d.label).isSome = true

/-- 1. `build_modules_for_cds` never fails: no assertion (in `add_component`, `ensure_suitable`,
    or the final non-emptiness check) is reachable, and IncompatibleComponentError never escapes -/
theorem build_total (ds : List Domain) (name : String) (h : InputOK ds name) :
    ∃ ms, build ds name = .ok ms := by
  obtain ⟨ms, hb, _⟩ := build_spec ds name h.1 h.2
  exact ⟨ms, hb⟩

/-- … the error branch: the only failures are the two constructor guards (unclassified label,
    or empty gene name with at least one domain) -/
theorem build_fails_only_on_guard (ds : List Domain) (name : String) (e : Err)
    (h : build ds name = .error e) :
    (name.isEmpty = true ∧ ds ≠ []) ∨ ∃ d ∈ ds, (classify d.label).isSome = false := by
  by_cases hex : ∃ d ∈ ds, (classify d.label).isSome = false
  · exact Or.inr hex
  · left
    have hc : ∀ d ∈ ds, (classify d.label).isSome = true := by
      intro d hd
      cases hs : (classify d.label).isSome with
      | true => rfl
      | false => exact absurd ⟨d, hd, hs⟩ hex
    cases hn : name.isEmpty with
    | false =>
      obtain ⟨ms, hb, _⟩ := build_spec ds name hn hc
      rw [hb] at h; cases h
    | true =>
      refine ⟨rfl, ?_⟩
      intro hd; subst hd
      rw [build_nil] at h; cases h

/-- 2. the modules, read left to right, are exactly the gene's non-docking domains in query
    order (stable), each once, each with the gene as locus; every module is non-empty; only the
    first is flagged first-in-gene.  `Spec.partition` is the definition the driver evaluates on
    the implementation's output; it also contains the sort-independent reading (a permutation of
    the kept input that is non-decreasing in query start). -/
theorem build_partition (ds : List Domain) (name : String) (h : InputOK ds name) (ms : List Module)
    (hb : build ds name = .ok ms) :
    Spec.partition ds name (ms.map fun m => (m.components, m.firstInCds)) = true := by
  obtain ⟨hs, hflat, hfirst⟩ := build_facts h.1 h.2 hb
  exact partition_holds ds name ms hflat (fun m hm => (hs m hm).2) hfirst

/-- … the equation itself -/
theorem build_partition_eq (ds : List Domain) (name : String) (h : InputOK ds name) (ms : List Module)
    (hb : build ds name = .ok ms) :
    (ms.flatMap (·.components)).map Comp.domain
      = (sortDomains ds).filter (fun d => !Spec.ignoredDomain d) := by
  obtain ⟨_, hflat, _⟩ := build_facts h.1 h.2 hb
  rw [hflat]; exact map_domain_filter name _

/-- … "in query order, ties in input order" pinned down independently of the sort used by the
    model: the sorted list is a permutation of the input, non-decreasing in query start, and any
    sub-sequence of the input that is already in order — in particular two domains with the same
    start — keeps its order (stability, as Python's `sorted`) -/
theorem sort_is_stable_sort (ds : List Domain) :
    (sortDomains ds).Perm ds
    ∧ (sortDomains ds).Pairwise (fun a b => a.start ≤ b.start)
    ∧ ∀ ys : List Domain, ys.Pairwise (fun a b => a.start ≤ b.start) → ys.Sublist ds →
        ys.Sublist (sortDomains ds) := by
  refine ⟨List.mergeSort_perm ds _, ?_, ?_⟩
  · exact (sortDomains_sorted ds).imp (by intro a b h; simpa using h)
  · intro ys hp hs
    unfold sortDomains
    apply List.sublist_mergeSort
    · intro a b c h1 h2; simp at h1 h2 ⊢; omega
    · intro a b; simp; omega
    · exact hp.imp (by intro a b h; simpa using h)
    · exact hs

/-- 3. every module respects the documented layout -/
theorem build_layout (ds : List Domain) (name : String) (h : InputOK ds name) (ms : List Module)
    (hb : build ds name = .ok ms) : ∀ m ∈ ms, Spec.layout m.components = true := by
  obtain ⟨hs, _⟩ := build_facts h.1 h.2 hb
  exact fun m hm => (hs m hm).1.facts.2.2

/-- 4. a module is reported complete exactly by the documented rule; likewise trans-AT, starter
    module, termination module, iterative, PKS, NRPS -/
theorem complete_iff (ds : List Domain) (name : String) (h : InputOK ds name) (ms : List Module)
    (hb : build ds name = .ok ms) : ∀ m ∈ ms,
    m.isComplete = Spec.complete m.components m.firstInCds
    ∧ m.isTransAt = Spec.transAt m.components
    ∧ m.isStarterModule = Spec.starterModule m.components m.firstInCds
    ∧ m.isTerminationModule = Spec.terminationModule m.components
    ∧ m.isIterative = Spec.iterative m.components
    ∧ m.isPks = Spec.isPks m.components
    ∧ m.isNrps = Spec.isNrps m.components := by
  obtain ⟨hs, _⟩ := build_facts h.1 h.2 hb
  intro m hm
  have hI := (hs m hm).1.facts.1
  exact ⟨hI.isComplete_eq, hI.isTransAt_eq, hI.isStarterModule_eq, hI.isTerminationModule_eq,
         hI.isIterative_eq, hI.isPks_eq, hI.isNrps_eq⟩

/-- 5. a module rebuilt from its saved form is identical (whole state, not just the components) -/
theorem reload_identity (ds : List Domain) (name : String) (h : InputOK ds name) (ms : List Module)
    (hb : build ds name = .ok ms) : ∀ m ∈ ms, Module.fromJson m.toJson = .ok m := by
  obtain ⟨hs, hflat, _⟩ := build_facts h.1 h.2 hb
  intro m hm
  apply fromJson_toJson (hs m hm).1
  intro c hc
  have hmem : c ∈ ms.flatMap (·.components) := List.mem_flatMap.mpr ⟨m, hm, hc⟩
  rw [hflat] at hmem
  obtain ⟨d, hd, rfl⟩ := List.mem_map.mp (List.mem_filter.mp hmem).1
  exact ⟨h.2 d ((mem_sortDomains ds d).mp hd), h.1⟩


/-! ### merging the border modules of adjacent genes

  `Good m` (ASV/Proofs/ModulesChain.lean) = `m` reloads to itself from a fresh module and all its
  components are constructed Components.  Every module `build` returns is good (`build_good`),
  and `combine` keeps both module lists good, so the statements below cover not only pairs of
  freshly built genes but every later call of the caller loop (on the reverse strand the tail
  handed to `combine_modules` can itself be a merged module). -/

/-- 6a. `combine_modules` never raises: the head re-added outside the `try`, the trailing-KR
    step (with fixes/D33_combine_kr_after_end.patch) and `tail.components[0]` are all safe -/
theorem combine_total (cs ps : Int) (cur prev : List Module)
    (hp : ∀ m ∈ prev, Good m) (hc : ∀ m ∈ cur, Good m) :
    ∃ r, combine cs ps cur prev = .ok r := by
  obtain ⟨r, hr, _⟩ := combine_good cs ps cur prev hp hc
  exact ⟨r, hr⟩

/-- 6b. the outcome satisfies `Spec.combineOK`: all domains of both genes are kept in order; a
    merge happens only on equal strands, with an incomplete head, a tail that is incomplete or
    begins with a fused starter, no NRPS/PKS hybrid; the merged module is the head's components
    followed by the tail's (and possibly the single trailing KR of a trans-AT module), is
    complete, respects the layout, replaces the head in the previous gene's list (it *is* the last
    module there) and removes the tail (and the KR module) from the current gene's list;
    otherwise nothing changes -/
theorem combine_sound (cs ps : Int) (cur prev : List Module)
    (hp : ∀ m ∈ prev, Good m) (hc : ∀ m ∈ cur, Good m) (r : Combined)
    (h : combine cs ps cur prev = .ok r) :
    Spec.combineOK (cs == ps) (prev.map view) (cur.map view) (r.prev.map view) (r.cur.map view)
        (r.merged.map view) = true
    ∧ (∀ m, r.merged = some m → r.prev.getLast? = some m) := by
  obtain ⟨r', hr, _, _, h3, h4⟩ := combine_good cs ps cur prev hp hc
  rw [h] at hr; injection hr with hr; subst hr
  exact ⟨h4, h3⟩

/-- 6c. … and every module of both lists afterwards (the merged one included) is good again: it
    reloads identically, respects the layout, and its flags are the documented ones -/
theorem combine_keeps_good (cs ps : Int) (cur prev : List Module)
    (hp : ∀ m ∈ prev, Good m) (hc : ∀ m ∈ cur, Good m) (r : Combined)
    (h : combine cs ps cur prev = .ok r) : ∀ m ∈ r.prev ++ r.cur, Good m := by
  obtain ⟨r', hr, h1, h2, _, _⟩ := combine_good cs ps cur prev hp hc
  rw [h] at hr; injection hr with hr; subst hr
  intro m hm
  rcases List.mem_append.mp hm with h | h
  · exact h1 m h
  · exact h2 m h

/-- what `Good` gives: identical reload, layout, documented flags, nothing pending -/
theorem good_module (m : Module) (h : Good m) :
    Module.fromJson m.toJson = .ok m
    ∧ Spec.layout m.components = true
    ∧ m.isComplete = Spec.complete m.components m.firstInCds
    ∧ m.isTransAt = Spec.transAt m.components
    ∧ m.isStarterModule = Spec.starterModule m.components m.firstInCds
    ∧ m.isTerminationModule = Spec.terminationModule m.components
    ∧ m.isIterative = Spec.iterative m.components
    ∧ m.isNrps = Spec.isNrps m.components
    ∧ m.unambiguous = 0 := by
  obtain ⟨hI, hu, hl⟩ := h.1.facts
  exact ⟨fromJson_toJson h.1 h.2, hl, hI.isComplete_eq, hI.isTransAt_eq, hI.isStarterModule_eq,
         hI.isTerminationModule_eq, hI.isIterative_eq, hI.isNrps_eq, hu⟩

/-- the modules of a gene are good -/
theorem build_modules_good (ds : List Domain) (name : String) (h : InputOK ds name) (ms : List Module)
    (hb : build ds name = .ok ms) : ∀ m ∈ ms, Good m := by
  obtain ⟨ms', hb', hg⟩ := build_good ds name h.1 h.2
  rw [hb] at hb'; injection hb' with hb'; subst hb'
  exact hg

/-- 6d. gene pairs as the property quantifies them: two genes over the alphabet, either strand -/
theorem combine_pair_total (a b : List Domain) (na nb : String) (ha : InputOK a na) (hb : InputOK b nb)
    (sa sb : Int) : ∃ prev cur r, build a na = .ok prev ∧ build b nb = .ok cur
      ∧ combine sb sa cur prev = .ok r
      ∧ Spec.combineOK (sb == sa) (prev.map view) (cur.map view) (r.prev.map view) (r.cur.map view)
          (r.merged.map view) = true
      ∧ ∀ m ∈ r.prev ++ r.cur, Module.fromJson m.toJson = .ok m := by
  obtain ⟨prev, hp, hpg⟩ := build_good a na ha.1 ha.2
  obtain ⟨cur, hc, hcg⟩ := build_good b nb hb.1 hb.2
  obtain ⟨r, hr, h1, h2, _, h4⟩ := combine_good sb sa cur prev hpg hcg
  refine ⟨prev, cur, r, hp, hc, hr, h4, ?_⟩
  intro m hm
  rcases List.mem_append.mp hm with h | h
  · exact (good_module m (h1 m h)).1
  · exact (good_module m (h2 m h)).1

/-- 7. the caller loop of `generate_domains` (any number of genes, any strands, regions, genes
    without domains) never fails and keeps only good modules -/
theorem chain_total (genes : List Gene) (h : ∀ g ∈ genes, InputOK g.domains g.name) :
    ∃ out, chain genes = .ok out ∧ ∀ r ∈ out, ∀ m ∈ r.modules, Good m := by
  obtain ⟨res, hr, hg⟩ := chainGo_good genes [] false h (fun r hr => by cases hr)
  unfold chain
  rw [hr]
  refine ⟨_, rfl, ?_⟩
  intro r hrm m hm
  obtain ⟨r0, hr0, rfl⟩ := List.mem_map.mp hrm
  exact hg r0 hr0 m (List.mem_filter.mp hm).1

/-! ### the assembly line across genes (both strands)

  `generate_domains` hands the two genes to `combine_modules` in *transcription* order: for a
  reverse-strand gene the genome-right neighbour is the upstream one (`combine_modules(prev, info)`),
  otherwise the genome-left one (`combine_modules(info, prev)`).  `Spec.assemblyLine` reads genes
  given in genome order along the transcription direction (maximal runs of reverse-strand genes
  right to left).  The theorems below say that this reading is invariant under the loop, i.e. a
  merged module always joins the trailing (C-terminal) module of the UPSTREAM gene with the leading
  (N-terminal) module of the downstream gene — dropping or inverting the strand test falsifies
  them (see the negative `example`s at the end of this file). -/

/-- 8a. before the final single-domain filter: reading all modules of all genes in assembly-line
    order gives exactly the genes' non-docking domains in assembly-line order — nothing moved
    across a gene border in the wrong direction, nothing lost, nothing duplicated -/
theorem chain_keeps_assembly_line (genes : List Gene) (h : ∀ g ∈ genes, InputOK g.domains g.name) :
    ∃ R, chainGo genes [] false = .ok R
      ∧ Spec.assemblyLine (R.map entry) = Spec.geneLine genes
      ∧ R.map hdr = (genes.filter Spec.liveGene).map ghdr := by
  obtain ⟨R, hR, _, hh, hl, _⟩ := chain_line_spec genes h
  exact ⟨R, hR, hl, hh⟩

/-- 8b. what `generate_domains` reports (modules of more than one domain, per gene): one entry per
    gene with domains or motifs, in genome order; read in assembly-line order the reported modules
    are a sub-sequence of the assembly line; every reported module — in particular every
    cross-gene module — is a contiguous block of the assembly line.  `Spec.chainLineOK` is the
    definition the driver evaluates on the implementation's output. -/
theorem chain_reports_assembly_line (genes : List Gene) (h : ∀ g ∈ genes, InputOK g.domains g.name) :
    ∃ out, chain genes = .ok out
      ∧ Spec.chainLineOK genes (out.map fun r => (r.name, r.modules.map (·.components))) = true := by
  obtain ⟨R, hR, _, _, _, hok⟩ := chain_line_spec genes h
  unfold chain
  rw [hR]
  refine ⟨_, rfl, ?_⟩
  rw [List.map_map]
  exact hok

/-- 8c. merging only between direct neighbours: with a separator put into the assembly line
    wherever two consecutive genes with domains are *not* direct neighbours in the iteration order
    (a gene in between, even one without domains), or lie in different regions, or on different
    strands, or one of them has hits but no module of its own (only docking/COM domains or only
    motif hits — `generate_domains` then still sets `prev` to it), the loop still keeps the line; every reported module is a contiguous, separator-free
    block of it.  Hence a cross-gene module only ever joins the trailing module of the upstream
    gene with the leading module of the *adjacent, same-region, same-strand* downstream gene.
    `Consec 0 genes`: the `index` fields number the genes 0, 1, 2, … (their iteration order). -/
theorem chain_merges_only_neighbours (genes : List Gene) (hc : Consec 0 genes)
    (h : ∀ g ∈ genes, InputOK g.domains g.name) :
    ∃ out, chain genes = .ok out
      ∧ Spec.chainBlocksOK genes (out.map fun r => (r.name, r.modules.map (·.components))) = true := by
  obtain ⟨R, hR, _, hok⟩ := chain_blocks_spec genes hc h
  unfold chain
  rw [hR]
  refine ⟨_, rfl, ?_⟩
  rw [List.map_map]
  exact hok

/-- … and before the single-domain filter the line with separators is kept exactly -/
theorem chain_keeps_separated_line (genes : List Gene) (hc : Consec 0 genes)
    (h : ∀ g ∈ genes, InputOK g.domains g.name) :
    ∃ R, chainGo genes [] false = .ok R
      ∧ Spec.chainLine (R.map itemR) = Spec.chainLine (Spec.geneItems genes) := by
  obtain ⟨R, hR, hl, _⟩ := chain_blocks_spec genes hc h
  exact ⟨R, hR, hl⟩

/-- 8d. regions that cross the origin of a circular record: `generate_domains` walks the genes in the
    order `region.cds_children` provides — for an origin-crossing region beginning at `s` the genes
    before the origin (start ≥ s) first, then those after it (`regionGenes`), NOT in ascending
    start order.  Read in *that* order the assembly line is kept and merges happen only between
    direct neighbours: the last gene before the origin and the first one after it are neighbours,
    the former upstream of the latter on the forward strand (downstream on the reverse strand). -/
theorem generate_over_origin (cross : Option Nat) (genes : List Gene)
    (h : ∀ g ∈ genes, InputOK g.domains g.name) :
    ∃ out, generateRegion cross genes = .ok out
      ∧ Spec.chainLineOK (reindex (regionGenes cross genes))
          (out.map fun r => (r.name, r.modules.map (·.components))) = true
      ∧ Spec.chainBlocksOK (reindex (regionGenes cross genes))
          (out.map fun r => (r.name, r.modules.map (·.components))) = true := by
  have hin : ∀ g ∈ reindex (regionGenes cross genes), InputOK g.domains g.name := by
    intro g hg
    obtain ⟨g0, hg0, h1, h2⟩ := reindex_mem _ g hg
    rw [h1, h2]
    exact h g0 (mem_regionGenes cross genes g0 hg0)
  obtain ⟨out, ho, h1⟩ := chain_reports_assembly_line _ hin
  obtain ⟨out', ho', h2⟩ := chain_merges_only_neighbours _ (consec_reindex _) hin
  rw [ho] at ho'; injection ho' with ho'; subst ho'
  exact ⟨out, ho, h1, h2⟩

/-! ### the HMMResult under a Component (hmmscan_refinement.py): nested internal hits, the
    `detailed_names` chain the subtypes are read from, `to_json` / `from_json` -/

/-- 9a. an HMMResult that could be constructed (every internal hit overlaps its parent, at every
    depth) is rebuilt identically from its JSON form — so a reloaded Component has the same label,
    the same subtype chain and the same coordinates -/
theorem hmm_reload_identity (h : Hmm) (hw : h.WF = true) :
    Hmm.fromJson h.toJson = .ok h ∧ (∀ locus, (Hmm.fromJson h.toJson).map (fun h' => mkComp locus h'.domain)
                                          = .ok (mkComp locus h.domain)) := by
  have := Hmm.roundtrip h hw
  exact ⟨this, fun locus => by rw [this]; rfl⟩

/-- 9b. the hypothesis of 9a is exactly "was constructed": building a tree through the real
    constructor (children first) succeeds iff it is well formed, returns it unchanged, and the
    only failure is the ValueError of a non-overlapping internal hit; whatever `from_json` returns
    is well formed -/
theorem hmm_constructed_iff_wf (raw : Hmm) :
    (raw.WF = true → Hmm.validate raw = .ok raw)
    ∧ (∀ h, Hmm.validate raw = .ok h → h = raw ∧ h.WF = true)
    ∧ (∀ j h, Hmm.fromJson j = .ok h → h.WF = true) :=
  ⟨Hmm.validate_wf raw, Hmm.validate_ok raw, Hmm.fromJson_wf⟩

/-! ### the saved form of a module in the record: the aSModule feature
    (secmet/features/module.py, created in `NRPSPKSDomains.add_to_record`) -/

/-- 10a. `Module.from_biopython(Module.to_biopython(f))` is `f`, for every feature the constructor
    accepts (at least one domain, all on one strand) whose domains the record knows by name — the
    type, the domains in order and all four flags (complete, starter, final, iterative) survive,
    *independently of each other*: an incomplete module keeps its starter / final role -/
theorem feature_reload_identity (known : String → Option FDomain) (f : ModFeature)
    (hv : ModFeature.construct f.domains f.type f.complete f.starter f.final f.iterative = .ok f)
    (hk : ∀ d ∈ f.domains, known (removeSpaces d.name) = some d) :
    ModFeature.fromBiopython known f.toBiopython = .ok f :=
  feature_roundtrip known f hv hk

/-- 10b. the whole path detection module → `add_to_record` → `to_biopython` → `from_biopython`:
    the rebuilt feature is the one that was added, and its flags are the documented ones of the
    module's component list -/
theorem detected_feature_reload (m : Module) (hg : Good m) (doms : List FDomain) (f : ModFeature)
    (hf : m.toFeature doms = .ok f) (known : String → Option FDomain)
    (hk : ∀ d ∈ doms, known (removeSpaces d.name) = some d) :
    ModFeature.fromBiopython known f.toBiopython = .ok f
    ∧ f.domains = doms
    ∧ f.complete = Spec.complete m.components m.firstInCds
    ∧ f.starter = Spec.starterModule m.components m.firstInCds
    ∧ f.final = Spec.terminationModule m.components
    ∧ f.iterative = Spec.iterative m.components := by
  obtain ⟨hI, _, _⟩ := hg.1.facts
  unfold Module.toFeature at hf
  have he := construct_eq hf
  subst he
  exact ⟨feature_roundtrip known _ (construct_again hf _ _ _ _ _) hk, rfl, hI.isComplete_eq,
         hI.isStarterModule_eq, hI.isTerminationModule_eq, hI.isIterative_eq⟩

/-- 10c. which domain features go into the reported aSModule: `add_to_record` looks a component of
    the gene holding the module up in that gene's dict (keyed by the hit) and every other component
    in the dict of the component's OWN gene.  For every module the caller loop keeps (any holder),
    the look-up succeeds and the domains found are, in order, the domain features of the
    components' own genes — also when the neighbouring gene has an *equal* hit (tandem duplicates).
    Gene names must be distinct (they key `cds_results`). -/
theorem reported_domains_follow_components (genes : List Gene) (hn : (genes.map (·.name)).Nodup)
    (h : ∀ g ∈ genes, InputOK g.domains g.name) (R : List GeneResult)
    (hR : chainGo genes [] false = .ok R) (holder : String) :
    ∀ r ∈ R, ∀ m ∈ r.modules, ∃ ds, lookupDomains (geneTables genes) holder m.components = .ok ds
      ∧ ds.map some = m.components.map (fun c => geneTables genes c.locus c.domain)
      ∧ ds.map (·.locus) = m.components.map (·.locus) :=
  report_domains genes hn h R hR holder

/-- 10d. (widens 10b/10c: the hypotheses "the look-up found the domains" and "the constructor
    accepted them" are discharged)  For genes that all lie on one strand, with distinct names,
    the whole `add_to_record` step succeeds for EVERY module `generate_domains` reports: the
    domain look-up finds every component's domain feature in its own gene and the `Module`
    feature constructor accepts them (at least one domain, one strand); the feature carries the
    module's flags and type. -/
theorem add_to_record_total (genes : List Gene) (hn : (genes.map (·.name)).Nodup)
    (h : ∀ g ∈ genes, InputOK g.domains g.name) (s : Int) (hs : ∀ g ∈ genes, g.strand = s)
    (out : List GeneResult) (ho : chain genes = .ok out) :
    ∀ r ∈ out, ∀ m ∈ r.modules, ∃ f, m.report (geneTables genes) r.name = .ok f
      ∧ f.domains.map (·.locus) = m.components.map (·.locus)
      ∧ f.complete = m.isComplete ∧ f.starter = m.isStarterModule ∧ f.final = m.isTerminationModule
      ∧ f.iterative = m.isIterative ∧ f.type = m.featureType := by
  intro r hr m hm
  obtain ⟨f, h1, h2, _, h3⟩ := report_total_mixed genes hn h out ho r hr m hm
  exact ⟨f, h1, h2, h3⟩

/-- 10e. (widens 10d to ANY mixture of strands — the "one strand" hypothesis is discharged)  Every
    module the loop keeps for a gene only holds components of genes on that gene's strand
    (merging requires equal strands), so all its domain features have one strand and the
    `Module` feature constructor's guard is met: the whole `add_to_record` step succeeds for EVERY
    module `generate_domains` reports, for any genes with distinct names. -/
theorem add_to_record_total_any_strand (genes : List Gene) (hn : (genes.map (·.name)).Nodup)
    (h : ∀ g ∈ genes, InputOK g.domains g.name) (out : List GeneResult) (ho : chain genes = .ok out) :
    ∀ r ∈ out, ∀ m ∈ r.modules, ∃ f, m.report (geneTables genes) r.name = .ok f
      ∧ f.domains.map (·.locus) = m.components.map (·.locus)
      ∧ (∀ d ∈ f.domains, d.strand = r.strand)
      ∧ f.complete = m.isComplete ∧ f.starter = m.isStarterModule ∧ f.final = m.isTerminationModule
      ∧ f.iterative = m.isIterative ∧ f.type = m.featureType :=
  report_total_mixed genes hn h out ho

/-- … the model-level fact behind it: in what the loop keeps (before the single-domain filter), every
    component of a gene's modules comes from a gene on that gene's strand -/
theorem merged_modules_one_strand (genes : List Gene) (hn : (genes.map (·.name)).Nodup)
    (h : ∀ g ∈ genes, InputOK g.domains g.name) (R : List GeneResult) (hR : chainGo genes [] false = .ok R) :
    ∀ r ∈ R, ∀ m ∈ r.modules, ∀ c ∈ m.components, strandOfLocus genes c.locus = r.strand := by
  obtain ⟨R', hR', _, hs⟩ := chainGo_strand genes hn genes [] false (fun g hg => hg) h
    (fun r hr => by cases hr) (fun r hr => by cases hr)
  rw [hR] at hR'; injection hR' with hR'; subst hR'
  exact hs

/-- 11. `Module.start` / `Module.end` of every module of a gene: neither assertion is reachable, the
    module starts where its first domain starts and ends where its last domain ends — or the one
    before it, when the module has more than one domain and its terminating domain is a product
    finalising one (TD / thioesterase, table `endTrimLabels` regenerated from `Module.end`) -/
theorem module_bounds (ds : List Domain) (name : String) (h : InputOK ds name) (ms : List Module)
    (hb : build ds name = .ok ms) : ∀ m ∈ ms,
    (∃ s e, m.startPos = .ok s ∧ m.endPos = .ok e)
    ∧ m.startPos.toOption = Spec.moduleStart m.components
    ∧ m.endPos.toOption = Spec.moduleEnd m.components := by
  obtain ⟨hs, _⟩ := build_facts h.1 h.2 hb
  intro m hm
  obtain ⟨hS, hne⟩ := hs m hm
  obtain ⟨a1, s, a2⟩ := startPos_eq m hne
  obtain ⟨b1, e, b2⟩ := endPos_eq m hS.facts.1 hne
  exact ⟨⟨s, e, a2, b2⟩, a1, b1⟩

/-- … and of every good non-empty module (merged ones included) -/
theorem module_bounds_good (m : Module) (hg : Good m) (hne : m.components ≠ []) :
    m.startPos.toOption = Spec.moduleStart m.components
    ∧ m.endPos.toOption = Spec.moduleEnd m.components :=
  ⟨(startPos_eq m hne).1, (endPos_eq m hg.1.facts.1 hne).1⟩

/-- the layout predicate read with indices: position `i` is checked against the components
    before it and after it -/
theorem layout_by_index (cs : List Comp) : Spec.layout cs = Spec.layoutIdx cs :=
  Spec.layout_eq_layoutIdx cs

/-- what `Spec.layout` says in the words of the property: at most one loader, at most one
    terminating domain, an explicit starter only as the very first component (so at most one),
    and a carrier protein after the first one only directly in front of a double-transporter pair
    (so exactly one carrier protein otherwise) -/
theorem layout_reading (cs : List Comp) (h : Spec.layout cs = true) :
    (cs.filter Comp.isLoader).length ≤ 1
    ∧ (cs.filter Comp.isEnd).length ≤ 1
    ∧ (∀ c ∈ cs.drop 1, Spec.pureStarter c = false)
    ∧ (∀ a c b, cs = a ++ c :: b → c.isCarrierProtein = true → Spec.hasCarrier a = true →
         Spec.dtPair b = true) := by
  refine ⟨?_, ?_, ?_, ?_⟩
  · simpa using layoutFrom_atMostOne Comp.isLoader positionOK_loader cs [] h (by simp)
  · simpa using layoutFrom_atMostOne Comp.isEnd positionOK_end cs [] h (by simp)
  · cases cs with
    | nil => intro c hc; simp at hc
    | cons x rest =>
      intro c hc
      obtain ⟨a, b, he⟩ := List.append_of_mem (show c ∈ rest from hc)
      have hpos := (layoutFrom_iff _ []).mp h (x :: a) c b (by rw [he]; rfl)
      cases hps : Spec.pureStarter c with
      | false => rfl
      | true =>
        have hst : c.isStarter = true := by
          rw [Spec.pureStarter, Bool.and_eq_true] at hps; exact hps.1
        exact absurd ((positionOK_clauses hpos (not_special c (.inl hst))).2.1 hps) (by simp)
  · intro a c b he hc hh
    exact (positionOK_clauses ((layoutFrom_iff _ []).mp h a c b he)
      (not_special c (.inr (.inr (.inl hc))))).2.2.2 hc (by simpa using hh)

/-- TABLE FACTS the proofs rest on, re-checked against the regenerated tables on every build:
    every loader-capable label is starter-capable; a label is in at most one of the classes
    ignored / special / starter-or-loader / modification / carrier protein / end; the
    double-transporter cases are pairs of modification labels; the trans-AT docking label is
    `special`; the post-carrier KR label is a modification and is the label combine_modules uses -/
theorem table_facts :
    (∀ c : Comp, c.isLoader = true → c.isStarter = true)
    ∧ (∀ c : Comp, (kindOf c).bits = ⟨c.isIgnored, c.isSpecial, c.isStarter, c.isLoader, c.isModification,
                                        c.isCarrierProtein, c.isEnd⟩)
    ∧ (∀ case ∈ doubleTransporterCases, case.length = 2 ∧ ∀ l ∈ case, kindOfLabel l = .modification)
    ∧ kindOfLabel transAtDocking = .special
    ∧ kindOfLabel transAtKrLabel = .modification
    ∧ trailingKrLabel = transAtKrLabel := by
  refine ⟨?_, ?_, ?_, docking_kind, kr_kind, kr_same⟩
  · intro c h
    rw [isLoader_eq] at h; rw [isStarter_eq]
    exact Kind.forall_of_allKinds (P := fun k => k.bits.lo = true → k.bits.st = true) (by decide) _ h
  · intro c; exact (bits_kindOf c).symm
  · intro case h; exact ⟨dt_cases_len case h, dt_cases_mod case h⟩

/-! ### non-vacuity: concrete inputs on which the interesting branches fire
    (`buildGo` on already sorted components, so that `decide +kernel` can run it) -/

def c (label : String) (start : Int) (subs : List String := []) : Comp := ⟨label, subs, start, start + 5, "g"⟩

/-- the alphabet is classified, a gene name is non-empty: `InputOK` is satisfiable -/
example : InputOK [⟨"PKS_KS", ["Trans-AT-KS"], 0, 5⟩, ⟨"ACP", [], 10, 15⟩, ⟨"PKS_KR", [], 20, 25⟩] "g" := by
  unfold InputOK
  decide +kernel

def labelsOf (r : Except Err (List Module × Module)) : List (List String) :=
  match r with
  | .ok (done, cur) => (done ++ [cur]).map fun m => m.components.map (·.label)
  | .error _ => []

/-- C A PCP E | C A PCP: two complete NRPS modules, split at the explicit starter -/
example : labelsOf (buildGo [c "Condensation_LCL" 0, c "AMP-binding" 10, c "PCP" 20, c "Epimerization" 30,
                             c "Condensation_DCL" 40, c "AMP-binding" 50, c "PCP" 60] [] (Module.new true))
    = [["Condensation_LCL", "AMP-binding", "PCP", "Epimerization"], ["Condensation_DCL", "AMP-binding", "PCP"]] := by
  decide +kernel

/-- the trans-AT KR after the carrier protein stays in the module; a DH after it does not -/
example : labelsOf (buildGo [c "PKS_KS" 0 ["Trans-AT-KS"], c "ACP" 10, c "PKS_KR" 20, c "PKS_DH" 30] []
                      (Module.new true))
    = [["PKS_KS", "ACP", "PKS_KR"], ["PKS_DH"]] := by decide +kernel

/-- the double-transporter look-ahead: a second carrier protein is accepted only in front of the
    listed pair (docking domains are dropped) -/
example : labelsOf (buildGo [c "PKS_KS" 0, c "PKS_AT" 5, c "ACP" 10, c "NRPS-COM_Nterm" 12, c "ACP" 20,
                             c "LPG_synthase_C" 30, c "Beta_elim_lyase" 40, c "ACP" 50] [] (Module.new true))
    = [["PKS_KS", "PKS_AT", "ACP", "ACP", "LPG_synthase_C", "Beta_elim_lyase"], ["ACP"]] := by decide +kernel

/-- D33 witness on the repaired model: [KS(trans-AT)] + [ACP, TE] merges, the KR module stays -/
def headKS : Module := { Module.new true with components := [c "PKS_KS" 0 ["Trans-AT-KS"]],
                                               starter := some (c "PKS_KS" 0 ["Trans-AT-KS"]) }
example : (match mergeModules headKS
            { Module.new true with components := [c "ACP" 0, c "Thioesterase" 10],
                                   carrier := some (c "ACP" 0), end_ := some (c "Thioesterase" 10) } with
           | .ok (some m) => m.isComplete && m.isTransAt && m.isTerminated
           | _ => false) = true := by decide +kernel


/-! ### non-vacuity for the assembly-line theorems: two adjacent reverse-strand genes,
    genome-left `left = [ER, PP]`, genome-right (= upstream) `right = [KS, AT]` -/

def cl (label : String) (start : Int) (locus : String) : Comp := ⟨label, [], start, start + 4, locus⟩
def leftComps : List Comp := [cl "PKS_ER" 0 "left", cl "PP-binding" 5 "left"]
def rightComps : List Comp := [cl "PKS_KS" 0 "right", cl "PKS_AT" 5 "right"]
def modsOf (cs : List Comp) : List Module :=
  match buildGo cs [] (Module.new true) with
  | .ok (done, cur) => done ++ [cur]
  | .error _ => []
def combinedLabels (r : Except Err Combined) : List (List String) × List (List String) :=
  match r with
  | .ok c => (c.prev.map fun m => m.components.map (·.label), c.cur.map fun m => m.components.map (·.label))
  | .error _ => ([], [])

/-- the loop's call for a reverse-strand gene, `combine_modules(prev = left, info = right)`:
    current = left, previous = right — the split module is merged into the upstream gene -/
example : combinedLabels (combine (-1) (-1) (modsOf leftComps) (modsOf rightComps))
    = ([["PKS_KS", "PKS_AT", "PKS_ER", "PP-binding"]], []) := by decide +kernel

/-- the assembly line of the two genes reads right before left … -/
example : Spec.assemblyLine [(true, leftComps), (true, rightComps)] = rightComps ++ leftComps := rfl

/-- … the correct merge keeps it, and the merged module is a contiguous block of it -/
example : (Spec.assemblyLine [(true, []), (true, rightComps ++ leftComps)]).isSublist
            (Spec.assemblyLine [(true, leftComps), (true, rightComps)]) = true
          ∧ Spec.isInfixB (rightComps ++ leftComps) (Spec.assemblyLine [(true, leftComps), (true, rightComps)]) = true := by
  decide +kernel

/-- negative: with the arguments the other way round (strand test dropped) and
    `left = [KS, AT]`, `right = [PP]` the module `left ++ right` is "complete" but is not a block of
    the assembly line `right ++ left`, and the reading is no longer a sub-sequence of it -/
example : Spec.isInfixB ([cl "PKS_KS" 0 "left", cl "PKS_AT" 5 "left"] ++ [cl "PP-binding" 0 "right"])
            (Spec.assemblyLine [(true, [cl "PKS_KS" 0 "left", cl "PKS_AT" 5 "left"]), (true, [cl "PP-binding" 0 "right"])]) = false
          ∧ (Spec.assemblyLine [(true, [cl "PKS_KS" 0 "left", cl "PKS_AT" 5 "left"] ++ [cl "PP-binding" 0 "right"]), (true, [])]).isSublist
            (Spec.assemblyLine [(true, [cl "PKS_KS" 0 "left", cl "PKS_AT" 5 "left"]), (true, [cl "PP-binding" 0 "right"])]) = false := by
  decide +kernel


/-! ### non-vacuity for the HMMResult theorems -/

/-- a KS with the subtype chain Trans-AT-KS → KS_clade_7; a second internal hit at the deeper level
    stops the chain -/
def ksHit : Hmm := .mk "PKS_KS" 0 100 0 50 [.mk "Trans-AT-KS" 0 100 0 10 [.mk "KS_clade_7" 5 90 0 10 []]]
example : ksHit.WF = true ∧ ksHit.detailedNames = ["PKS_KS", "Trans-AT-KS", "KS_clade_7"]
    ∧ ksHit.subtypes = ["Trans-AT-KS", "KS_clade_7"] := by decide +kernel
example : (Hmm.mk "PKS_KS" 0 100 0 50 [.mk "Trans-AT-KS" 0 100 0 10 [.mk "a" 5 90 0 10 [], .mk "b" 5 90 0 10 []]]).detailedNames
    = ["PKS_KS", "Trans-AT-KS"] := by rfl
/-- an internal hit that only touches its parent is refused -/
example : (match Hmm.validate (.mk "PKS_KS" 0 100 0 50 [.mk "x" 100 120 0 10 []]) with
           | .error .valueError => true | _ => false) = true := by decide +kernel


/-! ### non-vacuity for 8c: a gene without domains between two genes puts a separator into the line -/
example : Spec.chainLine [⟨0, 1, 0, leftComps, false⟩, ⟨2, 1, 0, rightComps, false⟩] = leftComps ++ [Spec.sepComp] ++ rightComps := by
  rfl
example : Spec.chainLine [⟨0, 1, 0, leftComps, false⟩, ⟨1, 1, 0, rightComps, false⟩] = leftComps ++ rightComps := by rfl
example : Spec.chainLine [⟨0, -1, 0, leftComps, false⟩, ⟨1, -1, 0, rightComps, false⟩] = rightComps ++ leftComps := by rfl
example : Spec.chainLine [⟨0, -1, 0, leftComps, false⟩, ⟨1, -1, 1, rightComps, false⟩] = leftComps ++ [Spec.sepComp] ++ rightComps := by
  rfl
/-- a gene with hits but no module of its own (only docking domains) between two genes is a barrier -/
example : Spec.chainLine [⟨0, 1, 0, leftComps, false⟩, ⟨1, 1, 0, [], true⟩, ⟨2, 1, 0, rightComps, false⟩]
    = leftComps ++ [Spec.sepComp] ++ [Spec.sepComp] ++ rightComps := by rfl
example : Consec 0 [⟨"a", 1, 0, [], false, 0, 0⟩, ⟨"b", 1, 0, [], false, 1, 0⟩] := ⟨rfl, rfl, trivial⟩


/-! ### non-vacuity for 10: an incomplete terminating module [PCP, Thioesterase] and an incomplete
    starter module keep their roles through the saved form -/
def fd (n : String) : FDomain := ⟨n, "gene", 1⟩
def knownEx (n : String) : Option FDomain := if n == "d1" || n == "d2" then some (fd n) else none
example : (match ModFeature.fromBiopython knownEx (ModFeature.toBiopython ⟨[fd "d1", fd "d2"], .nrps, false, false, true, false⟩) with
           | .ok g => g.final && !g.complete && !g.starter
           | .error _ => false) = true := by decide +kernel
example : (match ModFeature.fromBiopython knownEx (ModFeature.toBiopython ⟨[fd "d1", fd "d2"], .nrps, false, true, false, false⟩) with
           | .ok g => g.starter && !g.complete
           | .error _ => false) = true := by decide +kernel
/-- a domain on another strand is refused by the constructor -/
example : (match ModFeature.construct [fd "d1", ⟨"d2", "gene", -1⟩] .pks true false false false with
           | .error .valueError => true | _ => false) = true := by decide +kernel


/-! ### non-vacuity for 10c: tandem duplicates `a = b = [PCP, C, A]` with identical coordinates; the
    merged module held by `a` is [C@a, A@a, PCP@b]: the PCP must be b's, not a's equal hit -/
def dupDomains : List Domain := [⟨"PCP", [], 10, 90⟩, ⟨"Condensation_LCL", [], 110, 190⟩, ⟨"AMP-binding", [], 210, 290⟩]
def dupGenes : List Gene := [⟨"a", 1, 0, dupDomains, false, 0, 0⟩, ⟨"b", 1, 0, dupDomains, false, 1, 0⟩]
def mergedComps : List Comp :=
  [⟨"Condensation_LCL", [], 110, 190, "a"⟩, ⟨"AMP-binding", [], 210, 290, "a"⟩, ⟨"PCP", [], 10, 90, "b"⟩]
example : (match lookupDomains (geneTables dupGenes) "a" mergedComps with
           | .ok ds => ds.map (·.locus) == ["a", "a", "b"]
           | .error _ => false) = true := by decide +kernel
/-- the equal hit is indeed in the holder's dict: looking there first would return a's PCP -/
example : ((geneTables dupGenes "a" ⟨"PCP", [], 10, 90⟩).map (·.locus)) = some "a" := by decide +kernel


/-! ### non-vacuity for 8d: circular record of 3000, region from 2400 over the origin to 600;
    in record order `after` (start 100) comes first, the region lists `before` (start 2500) first -/
def gAfter : Gene := ⟨"after", 1, 0, [], false, 0, 100⟩
def gBefore : Gene := ⟨"before", 1, 0, [], false, 0, 2500⟩
example : (regionGenes (some 2400) [gAfter, gBefore]).map (·.name) = ["before", "after"] := by rfl
example : (regionGenes none [gAfter, gBefore]).map (·.name) = ["after", "before"] := by rfl
example : (reindex (regionGenes (some 2400) [gAfter, gBefore])).map (·.index) = [0, 1] := by decide +kernel


/-! ### non-vacuity for 11: [KS, AT, ACP, Thioesterase] ends with its ACP, [ACP, Epimerization] with the E -/
example : Spec.moduleEnd [c "PKS_KS" 0, c "PKS_AT" 10, c "ACP" 20, c "Thioesterase" 30] = some 25
    ∧ Spec.moduleEnd [c "ACP" 20, c "Epimerization" 30] = some 35
    ∧ Spec.moduleEnd [c "Thioesterase" 30] = some 35
    ∧ Spec.moduleStart [c "PKS_KS" 7, c "ACP" 20] = some 7 := by decide +kernel


/-! ### non-vacuity for 10e: a forward and a reverse gene; loci name genes of different strands -/
def mixedGenes : List Gene := [⟨"a", 1, 0, dupDomains, false, 0, 0⟩, ⟨"b", -1, 0, dupDomains, false, 1, 0⟩]
example : strandOfLocus mixedGenes "a" = 1 ∧ strandOfLocus mixedGenes "b" = -1
    ∧ (mixedGenes.map (·.name)).Nodup := by decide +kernel
/-- a feature over domains of both would be refused by the constructor — which is why 10e matters -/
example : (match ModFeature.construct [⟨"x", "a", 1⟩, ⟨"y", "b", -1⟩] .nrps true false false false with
           | .error .valueError => true | _ => false) = true := by decide +kernel

end ASV.C14
