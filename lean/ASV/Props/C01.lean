/-
  C01 — Rule conditions evaluate to their documented boolean meaning.
  Property theorems only; helper lemmas live in ASV/Proofs/Rules.lean.
  All statements are for every condition tree (any depth/width), every gene set, every hit
  assignment and every layout (the layout enters only through `Env.inRange`).
-/
import ASV.Proofs.Rules
import ASV.Proofs.Loc
namespace ASV.C01
open ASV ASV.Rules

/-- the truth value computed by `DetectionRule.detect` is the documented formula's value -/
theorem detect_met_eq_sem (e : Env) (wf : e.WF) (g : Gene) (c : Cond) (h : c.WF = true) :
    (detect e g c).met = sem e g c :=
  evalC_sem e wf g c h

/-- the reason profiles (`matches`) are exactly the documented ones -/
theorem detect_reasons_eq (e : Env) (g : Gene) (c : Cond) (h : c.WF = true) :
    (detect e g c).reasons = specReasons e g c :=
  evalC_reasons e g c h

/-- the property's first sentence: a gene anchors the rule exactly when the formula is true at
    it and it contributes at least one reason profile -/
theorem anchors_iff (e : Env) (wf : e.WF) (g : Gene) (c : Cond) (h : c.WF = true) :
    anchors e g c = specAnchors e g c := by
  simp only [anchors, specAnchors, detect_met_eq_sem e wf g c h, detect_reasons_eq e g c h]

/-- every ancillary hit reported is a different gene closer than the cutoff that carries the
    listed profile, which the rule names (needed by C03) -/
theorem ancillary_sound (e : Env) (wf : e.WF) (g : Gene) (c : Cond) (x : Gene × Prof)
    (hx : x ∈ (detect e g c).ancillary) :
    x.1 ∈ e.near g ∧ e.has x.1 x.2 = true ∧ x.2 ∈ c.profiles :=
  evalC_anc e wf g false c x hx

/-- "closer than the cutoff": the distance `Details.in_range` compares with the cutoff is the
    distance of the two genes read as sets of bases — 0 if they share a base, otherwise the least
    number of bases strictly between them, the shorter way round when a circular origin is given —
    for every well-formed pair of gene locations, multi-exon and origin-spanning ones included
    (C04 `distance_is_bases_between`) -/
theorem in_range_distance_is_bases_between (lg lh : Loc) (circ : Int) (hg : lg.OK circ) (hh : lh.OK circ) :
    IsDist circ lg lh (getDistance lg lh circ) ∧ getDistance lg lh circ = specDistFull circ lg lh :=
  ⟨getDistance_isDist lg lh circ hg hh, getDistance_eq_specFull lg lh circ hg hh⟩

/-- hence the environment the code evaluates in and the documented one coincide … -/
theorem env_eq_spec_env (genes withHits : List Gene) (hits : Gene → List (Prof × Int)) (loc : Gene → Loc)
    (cutoff circ : Int) (hloc : ∀ g, (loc g).OK circ) :
    Env.ofLocs genes withHits hits loc cutoff circ = Env.ofLocsSpec genes withHits hits loc cutoff circ := by
  simp only [Env.ofLocs, Env.ofLocsSpec]
  congr 1
  funext g h
  exact getDistance_eq_specFull (loc g) (loc h) circ (hloc g) (hloc h)

/-- … and the full statement of the property, from gene locations to the anchoring decision:
    evaluated on the code's `Details`, a gene anchors the rule iff the documented formula — with
    "in range" meaning fewer than `cutoff` bases in between — is true at it and it contributes a
    reason profile; and the reported reasons are the documented ones -/
theorem detect_on_locations (genes withHits : List Gene) (hits : Gene → List (Prof × Int)) (loc : Gene → Loc)
    (cutoff circ : Int) (hloc : ∀ g, (loc g).OK circ)
    (wf : (Env.ofLocs genes withHits hits loc cutoff circ).WF) (g : Gene) (c : Cond) (h : c.WF = true) :
    anchors (Env.ofLocs genes withHits hits loc cutoff circ) g c
        = specAnchors (Env.ofLocsSpec genes withHits hits loc cutoff circ) g c ∧
    (detect (Env.ofLocs genes withHits hits loc cutoff circ) g c).reasons
        = specReasons (Env.ofLocsSpec genes withHits hits loc cutoff circ) g c := by
  rw [← env_eq_spec_env genes withHits hits loc cutoff circ hloc]
  exact ⟨anchors_iff _ wf g c h, detect_reasons_eq _ g c h⟩

/-- how a run asks the question: `apply_cluster_rules` hands `rule.detect` not the whole record but the genes (and
    their hits) found in the gene's window (`nearby_features` / `nearby_results`).  For a condition of the documented
    grammar the outcome — truth value, reasons, ancillary hits, anchoring — is the one over the whole record, for ANY
    window that keeps every gene in range of the gene under evaluation (what the window keeps beyond that, and
    whether it keeps the gene itself, is immaterial).  That the real window keeps those genes is C04's extension and
    C08's lookup theorems; the harness runs the real `apply_cluster_rules` on a third of its cases. -/
theorem detect_in_window_eq_detect_on_record (e : Env) (keep : Gene → Bool) (g : Gene)
    (hk : ∀ h, e.inRange g h = true → keep h = true) (c : Cond) (h : c.WF = true) :
    detect (e.restrict keep) g c = detect e g c ∧ anchors (e.restrict keep) g c = anchors e g c := by
  have hd : detect (e.restrict keep) g c = detect e g c := evalC_restrict e keep g hk false c h
  exact ⟨hd, by simp only [anchors, hd]⟩

/-- the hypothesis on the grammar cannot be dropped: a `minscore` inside `cds(...)` is evaluated at the neighbour
    with the neighbour's own neighbourhood, so a window around the gene can change the outcome -/
example : ∃ (e : Env) (keep : Gene → Bool) (g : Gene) (c : Cond),
    (∀ h, e.inRange g h = true → keep h = true) ∧ detect (e.restrict keep) g c ≠ detect e g c :=
  ⟨⟨[0, 1, 2], [0, 1, 2], fun g => if g = 2 then [("p", 20)] else if g = 0 then [("q", 20)] else [],
      fun a b => if a = b then 0 else if (a = 0 ∧ b = 2) ∨ (a = 2 ∧ b = 0) then 16 else 8, 10⟩,
    fun h => h != 2, 0, .group false [.conj [.single false "q", .cds false [.score false "p" 5]]],
    by
      intro h hr
      by_cases h2 : h = 2
      · subst h2; revert hr; decide +kernel
      · simp [h2],
    by decide +kernel⟩

/-! ### non-vacuity: concrete layouts meeting the hypotheses on which the interesting branches fire -/

/-- three genes on a line, cutoff 10: gene 1 is 9 bases from gene 0, gene 2 exactly 10 away -/
def exLoc (gap2 : Int) (g : Gene) : Loc :=
  if g = 0 then .simple ⟨100, 200, .fwd⟩ else if g = 1 then .simple ⟨209, 300, .rev⟩
  else .simple ⟨300 + gap2, 400 + gap2, .fwd⟩
def exEnv (gap2 : Int) : Env :=
  Env.ofLocs [0, 1, 2] [0, 1, 2]
    (fun g => if g = 0 then [("a", 20)] else if g = 1 then [("b", 20), ("c", 8)] else [("d", 20), ("e", 20)])
    (exLoc gap2) 10 0

/-- the location hypothesis of `detect_on_locations` is satisfiable -/
example : ∀ g, (exLoc 10 g).OK 0 := by
  intro g
  unfold exLoc
  split
  · exact ⟨by simp [Loc.parts], by intro p hp; simp [Loc.parts] at hp; subst hp; simp [Part.OK]⟩
  · split
    · exact ⟨by simp [Loc.parts], by intro p hp; simp [Loc.parts] at hp; subst hp; simp [Part.OK]⟩
    · exact ⟨by simp [Loc.parts], by intro p hp; simp [Loc.parts] at hp; subst hp; simp [Part.OK]⟩

example : (exEnv 10).wfb = true := by decide +kernel
/-- negated cds whose only satisfying gene sits exactly `cutoff` away: true; one base closer: false -/
example : (detect (exEnv 10) 1 (.group false [.conj [.single false "b", .cds true [.conj [.single false "d", .single false "e"]]]])).met = true := by decide +kernel
example : (detect (exEnv 9) 1 (.group false [.conj [.single false "b", .cds true [.conj [.single false "d", .single false "e"]]]])).met = false := by decide +kernel
/-- minimum(3, [a,b,c]) met by 1 own + 2 neighbour hits; reasons only the own hit -/
example : detect (exEnv 10) 0 (.group false [.minimum false 3 ["a", "b", "c"]]) =
    ⟨true, ["a"], [(1, "b"), (1, "c")]⟩ := by decide +kernel
/-- minscore(c, 5) fails on bitscore 4 (carried doubled as 8), passes at 4 -/
example : (detect (exEnv 10) 1 (.group false [.score false "c" 5])).met = false := by decide +kernel
example : (detect (exEnv 10) 1 (.group false [.score false "c" 4])).met = true := by decide +kernel

/-- the window theorem on the layout above: gene 2 is exactly the cutoff away from gene 1 and further from gene 0,
    so a window around gene 0 may drop it -/
example : (∀ h, (exEnv 10).inRange 0 h = true → (fun h => h != 2) h = true) ∧
    detect ((exEnv 10).restrict fun h => h != 2) 0 (.group false [.minimum false 3 ["a", "b", "c"]])
      = ⟨true, ["a"], [(1, "b"), (1, "c")]⟩ := by
  have hk : ∀ h, (exEnv 10).inRange 0 h = true → (fun h => h != 2) h = true := by
    intro h hr
    by_cases h2 : h = 2
    · subst h2; revert hr; decide +kernel
    · simp [h2]
  refine ⟨hk, ?_⟩
  rw [(detect_in_window_eq_detect_on_record (exEnv 10) (fun h => h != 2) 0 hk _ (by decide +kernel)).1]
  decide +kernel

end ASV.C01
