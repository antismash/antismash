/-
C02 — non-vacuity examples for "ill-formed input is rejected" (`accepted_rules_wellformed` and its
corollaries in `Props/C02.lean`): every class the property lists, on a concrete text through the
whole model (`createRules`: tokeniser, parser, constructors).  No theorems here.
-/
import ASV.Props.C02

namespace ASV.C02
open ASV ASV.Rules ASV.Parser ASV.Grammar

/-! ### non-vacuity: each listed class of ill-formed input on a concrete text -/

def exCfg : Cfg := { sigs := ["a", "b", "c"], cats := ["cat"] }
def exHead (name : String) : String := "RULE " ++ name ++ " CATEGORY cat CUTOFF 20 NEIGHBOURHOOD 5 CONDITIONS "
def exErr (files : List String) : Option Err :=
  match createRules exCfg files [] [] with
  | .error e => some e
  | .ok _ => none

/- The texts share the rule head `exHead n`, tokenised once (`tokeniseChars_ruleHead`): what is evaluated
   below is the tokeniser on the name and on what follows the head, then the parser. -/
example : exErr [exHead "r" ++ "a and (b or not c)"] = none := by
  simp only [exHead, String.append_assoc]
  rw [exErr, createRules, parseText, tokenise_eq_tokeniseChars, tokeniseChars_ruleHead _ _ (by decide +kernel)]
  decide +kernel
example : exErr [exHead "r" ++ "a and zz"] = some .value := by                                     -- unknown profile
  simp only [exHead, String.append_assoc]
  rw [exErr, createRules, parseText, tokenise_eq_tokeniseChars, tokeniseChars_ruleHead _ _ (by decide +kernel)]
  decide +kernel
example : exErr ["RULE r CATEGORY nope CUTOFF 1 NEIGHBOURHOOD 1 CONDITIONS a"] = some .syntax := by
  rw [exErr, createRules, parseText, tokenise_eq_tokeniseChars]
  decide +kernel
example : exErr [exHead "r" ++ "a", exHead "r" ++ "b"] = some .value := by                         -- duplicate rule, second file
  simp only [exHead, String.append_assoc]
  rw [exErr, createRules, parseText, tokenise_eq_tokeniseChars, tokeniseChars_ruleHead _ _ (by decide +kernel)]
  decide +kernel
example : exErr ["DEFINE x AS a DEFINE x AS b " ++ exHead "r" ++ "a"] = some .syntax := by         -- duplicate alias
  simp only [exHead, String.append_assoc]
  rw [exErr, createRules, parseText, tokenise_eq_tokeniseChars, tokeniseChars_append,
    tokeniseChars_ruleHead _ _ (by decide +kernel)]
  decide +kernel
example : exErr ["DEFINE x AS a or x " ++ exHead "r" ++ "x"] = some .value := by                   -- D42
  simp only [exHead, String.append_assoc]
  rw [exErr, createRules, parseText, tokenise_eq_tokeniseChars, tokeniseChars_append,
    tokeniseChars_ruleHead _ _ (by decide +kernel)]
  decide +kernel
example : exErr [exHead "r" ++ "a or (a)"] = some .value := by                                     -- repeated operand
  simp only [exHead, String.append_assoc]
  rw [exErr, createRules, parseText, tokenise_eq_tokeniseChars, tokeniseChars_ruleHead _ _ (by decide +kernel)]
  decide +kernel
example : exErr [exHead "r" ++ "(a or b"] = some .syntax := by                                     -- unbalanced
  simp only [exHead, String.append_assoc]
  rw [exErr, createRules, parseText, tokenise_eq_tokeniseChars, tokeniseChars_ruleHead _ _ (by decide +kernel)]
  decide +kernel
example : exErr [exHead "r" ++ "cds(a)"] = some .syntax := by
  simp only [exHead, String.append_assoc]
  rw [exErr, createRules, parseText, tokenise_eq_tokeniseChars, tokeniseChars_ruleHead _ _ (by decide +kernel)]
  decide +kernel
example : exErr [exHead "r" ++ "not a and not (b or c)"] = some .value := by                       -- nothing positive
  simp only [exHead, String.append_assoc]
  rw [exErr, createRules, parseText, tokenise_eq_tokeniseChars, tokeniseChars_ruleHead _ _ (by decide +kernel)]
  decide +kernel
example : exErr ["RULE r CATEGORY cat SUPERIORS s CUTOFF 1 NEIGHBOURHOOD 1 CONDITIONS a " ++ exHead "s" ++ "b"]
    = some .value := by                                                                             -- superior defined later
  simp only [exHead, String.append_assoc]
  rw [exErr, createRules, parseText, tokenise_eq_tokeniseChars, tokeniseChars_append,
    tokeniseChars_ruleHead _ _ (by decide +kernel)]
  decide +kernel
end ASV.C02
