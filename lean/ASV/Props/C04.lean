/-
  C04 — Location algebra agrees with the set-of-bases model on line and ring.
  Property theorems only; helper lemmas in ASV/Proofs/Loc*.lean.

  Guards.  `Loc.OK L l`: at least one part, every part non-empty, non-negative and (on a ring,
  L ≠ 0) inside `[0, L]` — what `ensure_valid_locations`/`Feature.__init__` enforce for every
  location of a record.  `LineInput`: a non-empty list of non-bridging locations.

  What is proved here for *all* coordinates and record lengths:
    overlap / containment / distance (line and ring, single- and multi-part, incl. origin-spanning)
    connect on a linear record (exact hull, argument order, idempotence, strand rule)
    connect on a ring for ANY non-empty list of `RingIn` locations — parts inside the record; either not
      bridging the origin (single parts, genes with introns) or splittable at it (origin-spanning spans,
      origin-bridging genes): never fails, covers every input, well-formed span, independent of the
      argument order, idempotent; never longer than the line hull (`RingInSpan`: no origin-bridging genes);
      inside every covering span shorter than half the record, hence the shortest covering arc whenever one
      shorter than half exists, with length `shortestArc L (canon …)` — the executable formula the driver
      evaluates (`RingInStrict`: single parts and origin-spanning spans; for all `RingIn` with the inputs
      read as spans).  Via the closed form `connR` (Proofs/LocConnectRingN.lean; its steps in LocRing.lean, its properties in
      LocConnectRing{In,Spec,Perm,Arc}.lean, CanonIvs.lean); `connect_ring_two` is the two-input instance with
      an explicit gap formula
    offset of a single-part location and of an origin-spanning span on a ring (rotation of the same bases)
    extension of a single-part location on a linear and on a circular record (exactly the bases within the distance)
    extension of an origin-spanning span on a circular record: exactly the bases within the distance and a
      well-formed span for every d ≥ 0 (the code with the repair D59)
    the feature ordering is a strict weak order
  Carried by the exhaustive small-scope correspondence + executable set-of-bases spec only
  (see DESIGN.md): the error paths of connect (inputs that bridge the origin but cannot be split);
  extension of multi-exon locations wrapping over a record edge (proved: multi-exon on a line / without wrap, both strands,
  `extend_multi_exact`, `extend_multi_rev_exact`; reverse-strand origin-spanning span, `extend_ring_area_rev_exact`);
  offset of multi-exon gene locations on more than one strand or as long as the record (proved: disjoint parts on one
  strand, `offset_ring_rotates_general`).
-/
import ASV.Proofs.LocOrder
import ASV.Proofs.LocString
import ASV.Proofs.LocExtend
import ASV.Proofs.LocOffsetGeneral
import ASV.Proofs.LocConnectRingArc
import ASV.Proofs.LocExtendArea
namespace ASV.C04
open ASV

/-! ### overlap, containment -/

/-- two locations overlap iff they share a base -/
theorem overlap_iff_shared_base (a b : Loc) (ha : a.PartsNonEmpty) (hb : b.PartsNonEmpty) :
    locationsOverlap a b = true ↔ a.SharesBase b :=
  locationsOverlap_iff a b ha hb

theorem overlap_comm (a b : Loc) : locationsOverlap a b = locationsOverlap b a :=
  locationsOverlap_comm a b

/-- one contains another iff each part of the inner lies inside one part of the outer -/
theorem contains_iff_each_part_inside (outer inner : Loc) (hw : ∀ q ∈ inner.parts, q.lo ≤ q.hi) :
    locationContainsOther outer inner = true ↔
      ∀ q ∈ inner.parts, ∃ p ∈ outer.parts, p.lo ≤ q.lo ∧ q.hi ≤ p.hi :=
  contains_iff_parts outer inner hw

/-- … and then every base of the inner is a base of the outer -/
theorem contains_imp_subset (outer inner : Loc) (h : locationContainsOther outer inner = true) :
    ∀ i, inner.mem i = true → outer.mem i = true :=
  contains_subset outer inner h

/-! ### distance -/

/-- the distance is 0 when the locations share a base and otherwise the least number of bases
    strictly between a base of one and a base of the other, the shorter way round on a ring
    (`L = 0`: linear record).  Single- and multi-part locations, origin-spanning ones included. -/
theorem distance_is_bases_between (a b : Loc) (L : Int) (ha : a.OK L) (hb : b.OK L) :
    IsDist L a b (getDistance a b L) :=
  getDistance_isDist a b L ha hb

/-- closed form used by the executable spec -/
theorem distance_closed_form (a b : Loc) (L : Int) (ha : a.OK L) (hb : b.OK L) :
    getDistance a b L = if locationsOverlap a b then 0 else specDist L a b :=
  getDistance_eq_spec a b L ha hb

theorem distance_comm (a b : Loc) (L : Int) (ha : a.OK L) (hb : b.OK L) :
    getDistance a b L = getDistance b a L :=
  getDistance_comm a b L ha hb

/-- distance of two non-empty single-part locations on a line = bases strictly between -/
theorem distance_simple_line (a b : Part) (ha : a.lo < a.hi) (hb : b.lo < b.hi) :
    getDistance (.simple a) (.simple b) 0 = lineGap a b :=
  getDistance_simple_line a b ha hb

/-! ### connecting on a linear record -/


def LineInput (ls : List Loc) : Prop := ls ≠ [] ∧ ∀ l ∈ ls, l.parts ≠ [] ∧ bridgesOrigin l = false

theorem connect_line_is_hull (ls : List Loc) (h : LineInput ls) :
    connect ls none = .ok (.simple ⟨minList (ls.map (·.start)), maxList (ls.map (·.end)), commonStrand ls⟩) :=
  connect_line ls h.1 h.2

/-- the hull covers every base of every input … -/
theorem connect_line_covers (ls : List Loc) (h : LineInput ls) (r : Loc) (hr : connect ls none = .ok r) :
    ∀ l ∈ ls, ∀ i, l.mem i = true → r.mem i = true := by
  rw [connect_line_is_hull ls h] at hr
  injection hr with hr; subst hr
  intro l hl i hi
  exact hullOf_mem ls l hl i hi

/-- … and is exact: its two ends are ends of inputs -/
theorem connect_line_exact (ls : List Loc) (h : LineInput ls) (r : Loc) (hr : connect ls none = .ok r) :
    (∃ l ∈ ls, r.start = l.start) ∧ (∃ l ∈ ls, r.end = l.end) := by
  rw [connect_line_is_hull ls h] at hr
  injection hr with hr; subst hr
  have hne : ls.map (·.start) ≠ [] := by simpa using h.1
  have hne2 : ls.map (·.end) ≠ [] := by simpa using h.1
  obtain ⟨l, hl, e⟩ := List.mem_map.1 (minList_mem hne)
  obtain ⟨l2, hl2, e2⟩ := List.mem_map.1 (maxList_mem hne2)
  exact ⟨⟨l, hl, e.symm⟩, ⟨l2, hl2, e2.symm⟩⟩

/-- the result does not depend on the order of the arguments -/
theorem connect_line_perm (ls₁ ls₂ : List Loc) (hp : ls₁.Perm ls₂) (h : LineInput ls₁) :
    connect ls₁ none = connect ls₂ none := by
  have h2 : LineInput ls₂ := ⟨fun e => h.1 (by subst e; exact List.perm_nil.1 hp), fun l hl => h.2 l (hp.mem_iff.2 hl)⟩
  rw [connect_line_is_hull ls₁ h, connect_line_is_hull ls₂ h2,
    minList_perm (hp.map _), maxList_perm (hp.map _), commonStrand_perm hp]

/-- applying the operation to its own result changes nothing -/
theorem connect_line_idem (ls : List Loc) (h : LineInput ls) (r : Loc) (hr : connect ls none = .ok r) :
    connect [r] none = .ok r := by
  rw [connect_line_is_hull ls h] at hr
  injection hr with hr; subst hr
  rw [connect_line_is_hull _ ⟨by simp, by intro l hl; simp at hl; subst hl; simp [Loc.parts, bridgesOrigin]⟩]
  simp [minList, maxList, Loc.start, Loc.end, commonStrand, Loc.strand]

/-! ### connecting on a circular record -/

/-- connecting two single-part locations on a ring of length `L`: the result covers both, is a
    well-formed span (one part, or two parts meeting at the origin), is never longer than the
    line hull, and is the shortest covering arc whenever one shorter than half the record exists.
    (More than two inputs / origin-spanning inputs: exhaustive small-scope correspondence with the
    same four conditions evaluated on the implementation's output.) -/
theorem connect_ring_two (a b : Part) (L : Int) (ha : a.OK L) (hb : b.OK L) (hL : 0 < L) :
    ∃ r, connect [.simple a, .simple b] (some L) = .ok r ∧
      (∀ i, (a.mem i = true ∨ b.mem i = true) → r.mem i = true) ∧
      areaWF L L r = true ∧
      r.len ≤ max a.hi b.hi - min a.lo b.lo ∧
      (2 * (L - max (lineGapSigned a b) (originGap a b L)) < L →
        r.len = L - max (lineGapSigned a b) (originGap a b L)) :=
  connect_two_ring a b L ha hb hL

/-- `RingIn L l`: `l` has at least one part, all parts are non-empty and inside `[0, L]`, and if `l`
    bridges the origin (`location_bridges_origin`) it can be split there
    (`split_origin_bridging_location` does not raise).  This includes every single part of any strand
    (simple location or one-part compound), genes with introns, the origin-spanning span
    `areaTwo x y L s` = `[x, L) + [0, y)` with `0 < y ≤ x < L` for any single strand `s`, the
    reverse-strand part order `areaTwoRev`, and origin-bridging genes with introns
    (`RingInSpan.ringIn`, `RingInStrict.ringIn`).

    Connecting ANY non-empty list of such locations on a ring of length `L > 0` succeeds (no
    ValueError, no failed assertion, no unbounded recursion), the result covers every base of every
    input, and it is a well-formed span: one part inside the record, or two parts meeting at the
    origin. -/
theorem connect_ring_covers_wf (ls : List Loc) (L : Int) (hne : ls ≠ []) (hL : 0 < L) (hin : ∀ l ∈ ls, RingIn L l) :
    ∃ r, connect ls (some L) = .ok r ∧
      (∀ l ∈ ls, ∀ i, l.mem i = true → r.mem i = true) ∧
      areaWF L L r = true := by
  refine ⟨_, connect_ring_closed ls L hne hL hin, ?_, ?_⟩
  · intro l hl i hi
    exact connR_covers _ L hL (toR_ok L hL ls hin) (toR l) (List.mem_map.2 ⟨l, hl, rfl⟩) i
      ((toR_spec L hL l (hin l hl)).2.2.2 i hi)
  · exact connR_wf _ L hL (by simpa using hne) (toR_ok L hL ls hin)

/-- … it is never longer than the line hull `max end − min start` of the inputs (`RingInSpan`:
    locations that do not bridge the origin and the origin-spanning spans `areaTwo` / `areaTwoRev`,
    which reach both record ends; for an origin-bridging gene that does not, see
    `connect_ring_hull_not_for_bridging_genes`) … -/
theorem connect_ring_le_hull (ls : List Loc) (L : Int) (hne : ls ≠ []) (hL : 0 < L) (hin : ∀ l ∈ ls, RingInSpan L l) :
    ∃ r, connect ls (some L) = .ok r ∧ r.len ≤ maxList (ls.map (·.end)) - minList (ls.map (·.start)) := by
  have hin' : ∀ l ∈ ls, RingIn L l := fun l hl => (hin l hl).ringIn
  refine ⟨_, connect_ring_closed ls L hne hL hin', ?_⟩
  have h := connR_le_hull _ L hL (by simpa using hne) (toR_ok L hL ls hin')
  have e1 : ((ls.map toR).map (RLoc.toLoc L)).map (·.start) = ls.map (·.start) := by
    rw [List.map_map, List.map_map]
    exact List.map_congr_left fun l hl => (toR_start_end L l (hin l hl)).1
  have e2 : ((ls.map toR).map (RLoc.toLoc L)).map (·.end) = ls.map (·.end) := by
    rw [List.map_map, List.map_map]
    exact List.map_congr_left fun l hl => (toR_start_end L l (hin l hl)).2
  rw [e1, e2] at h
  exact h

/-- the origin-bridging gene `[50, 100) + [5, 10)` is read as the span `[50, 100) + [0, 10)`; with `[8, 60)` the
    result is the whole record, five bases more than the line hull `100 − 5` -/
theorem connect_ring_hull_not_for_bridging_genes :
    connect [.compound [⟨50, 100, .fwd⟩, ⟨5, 10, .fwd⟩], .simple ⟨8, 60, .fwd⟩] (some 100) = .ok (.simple ⟨0, 100, .fwd⟩) :=
  Base.eq_ok_of_toOption (by decide +kernel)

/-- … and it is the shortest covering arc whenever one shorter than half the record exists: the
    result has no base outside ANY well-formed span `c` (one part, or two parts meeting at the
    origin) that covers all inputs and is shorter than half the record, and is not longer than `c`.
    (`RingInStrict`: single parts and origin-spanning spans.  A location with several parts that does
    not bridge the origin is first reduced to its line hull, which can contain more than the arc:
    e.g. `[x, L)(−) + [0, y)(−)`, in Biopython's part order an ordinary two-exon reverse-strand gene,
    becomes `[0, L)` — see `connect_ring_two_exon_reverse` below.) -/
theorem connect_ring_shortest (ls : List Loc) (L : Int) (hne : ls ≠ []) (hL : 0 < L)
    (hin : ∀ l ∈ ls, RingInStrict L l) (c : Loc) (hwf : areaWF L L c = true) (hlen : 2 * c.len < L)
    (hcov : ∀ l ∈ ls, ∀ i, l.mem i = true → c.mem i = true) :
    ∃ r, connect ls (some L) = .ok r ∧ r.len ≤ c.len ∧ ∀ i, r.mem i = true → c.mem i = true := by
  have hin' : ∀ l ∈ ls, RingIn L l := fun l hl => (hin l hl).ringIn
  refine ⟨_, connect_ring_closed ls L hne hL hin', ?_⟩
  apply connR_shortest _ L hL (by simpa using hne) (toR_ok L hL ls hin') c hwf hlen
  intro r hr i hi
  obtain ⟨l, hl, rfl⟩ := List.mem_map.1 hr
  exact hcov l hl i ((toR_mem_iff L hL l (hin l hl) i).1 hi)

/-- the same with the executable formula of the spec (`shortestArc`: the record length minus the largest
    gap between consecutive canonical intervals of the union of all input bases, going round the ring):
    whenever that is less than half the record, it is exactly the length of the result -/
theorem connect_ring_shortest_arc (ls : List Loc) (L : Int) (hne : ls ≠ []) (hL : 0 < L)
    (hin : ∀ l ∈ ls, RingInStrict L l) :
    ∃ r, connect ls (some L) = .ok r ∧
      (2 * shortestArc L (canon (ls.flatMap (·.parts))) < L →
        r.len = shortestArc L (canon (ls.flatMap (·.parts)))) :=
  ⟨_, connect_ring_closed ls L hne hL (fun l hl => (hin l hl).ringIn),
    connect_ring_len_shortestArc ls L hne hL hin⟩

/-- the two clauses for ALL `RingIn` inputs when the inputs are read as *spans* (`spanOf L l`, what
    `_reduce_parts_to_location` makes of `l`: `[start, end)` for a location that does not bridge the
    origin — a gene covers its introns —, `[x, L) + [0, y)` for an origin-spanning one; the same
    `(lo, hi)` pairs as the driver's `spanParts`, over which the check evaluates `shortestArc`) -/
theorem connect_ring_shortest_spans (ls : List Loc) (L : Int) (hne : ls ≠ []) (hL : 0 < L)
    (hin : ∀ l ∈ ls, RingIn L l) (c : Loc) (hwf : areaWF L L c = true) (hlen : 2 * c.len < L)
    (hcov : ∀ l ∈ ls, ∀ i, (spanOf L l).mem i = true → c.mem i = true) :
    ∃ r, connect ls (some L) = .ok r ∧ r.len ≤ c.len ∧ ∀ i, r.mem i = true → c.mem i = true := by
  refine ⟨_, connect_ring_closed ls L hne hL hin, ?_⟩
  apply connR_shortest _ L hL (by simpa using hne) (toR_ok L hL ls hin) c hwf hlen
  intro r hr i hi
  obtain ⟨l, hl, rfl⟩ := List.mem_map.1 hr
  exact hcov l hl i hi

theorem connect_ring_shortest_arc_spans (ls : List Loc) (L : Int) (hne : ls ≠ []) (hL : 0 < L)
    (hin : ∀ l ∈ ls, RingIn L l) :
    ∃ r, connect ls (some L) = .ok r ∧
      (2 * shortestArc L (canon (ls.flatMap fun l => (spanOf L l).parts)) < L →
        r.len = shortestArc L (canon (ls.flatMap fun l => (spanOf L l).parts))) :=
  ⟨_, connect_ring_closed ls L hne hL hin, connect_ring_len_shortestArc_spans ls L hne hL hin⟩

/-- the two-exon reverse-strand location `[90, 100)(−), [0, 10)(−)` (exons in descending order, so
    not origin-spanning for `location_bridges_origin`) is connected to its line hull, the whole
    record, although the 20-base span over the origin covers its bases -/
theorem connect_ring_two_exon_reverse :
    connect [areaTwo 90 10 100 .rev] (some 100) = .ok (.simple ⟨0, 100, .rev⟩) := Base.eq_ok_of_toOption (by decide +kernel)

/-- the result does not depend on the order of the arguments -/
theorem connect_ring_perm (ls₁ ls₂ : List Loc) (hp : ls₁.Perm ls₂) (L : Int) (hne : ls₁ ≠ []) (hL : 0 < L)
    (hin : ∀ l ∈ ls₁, RingIn L l) : connect ls₁ (some L) = connect ls₂ (some L) := by
  have hne2 : ls₂ ≠ [] := fun e => hne (by subst e; exact List.perm_nil.1 hp)
  have hin2 : ∀ l ∈ ls₂, RingIn L l := fun l hl => hin l (hp.mem_iff.2 hl)
  rw [connect_ring_closed ls₁ L hne hL hin, connect_ring_closed ls₂ L hne2 hL hin2,
    connR_perm (hp.map toR) L hL (toR_ok L hL ls₁ hin)]

/-- connecting the result again returns it -/
theorem connect_ring_idem (ls : List Loc) (L : Int) (hne : ls ≠ []) (hL : 0 < L) (hin : ∀ l ∈ ls, RingIn L l)
    (r : Loc) (hr : connect ls (some L) = .ok r) : connect [r] (some L) = .ok r := by
  rw [connect_ring_closed ls L hne hL hin] at hr
  injection hr with hr; subst hr
  have hrs : ls.map toR ≠ [] := by simpa using hne
  exact connect_self _ L hL (connR_wf _ L hL hrs (toR_ok L hL ls hin)) (connR_shape _ L hL hrs (toR_ok L hL ls hin))

/-! ### shifting by an offset (ring) -/

/-- shifting a single-part location by any offset on a ring of length `L` succeeds and yields
    exactly the rotated bases (base `i` of the result is base `j` of the input moved by `k`
    modulo `L`), inside the record, with the same length and strand -/
theorem offset_rotates_simple (p : Part) (k L : Int) (hL : 0 < L) (h0 : 0 ≤ p.lo) (h1 : p.lo < p.hi) (h2 : p.hi ≤ L) :
    ∃ r, offsetLocation (.simple p) k L = .ok r ∧
      (∀ i, r.mem i = true ↔ (0 ≤ i ∧ i < L ∧ ∃ j, p.mem j = true ∧ RotOf L k i j)) ∧
      r.len = p.len ∧ r.strand = p.strand := by
  obtain ⟨r, hr, hm, hl, hst, _⟩ := offset_ring_any (.simple p) k L p.strand (List.cons_ne_nil _ _)
    (by intro q hq; rw [List.mem_singleton.1 hq]; exact ⟨h0, h1, h2⟩)
    (by intro q hq; rw [List.mem_singleton.1 hq])
    (by intro hlen j hj0 hj1; rw [len_simple] at hlen; rw [mem_simple]; omega)
  refine ⟨r, hr, fun i => ?_, hl.trans (len_simple p), hst⟩
  rw [hm i]
  simp only [Loc.mem, Loc.parts, List.any_cons, List.any_nil, Bool.or_false]

/-- the same for an origin-spanning span `[x, L) + [0, y)` (the shape of every origin-spanning
    area): shifting rotates exactly its bases, which therefore form one arc of the ring again -/
theorem offset_rotates_origin_spanning (x y L k : Int) (s : Strand) (hL : 0 < L) (hy0 : 0 < y) (hyx : y ≤ x) (hxL : x < L) :
    ∃ r, offsetLocation (areaTwo x y L s) k L = .ok r ∧
      ∀ i, r.mem i = true ↔ (0 ≤ i ∧ i < L ∧ ∃ j, (areaTwo x y L s).mem j = true ∧ RotOf L k i j) := by
  obtain ⟨r, hr, hm, _⟩ := offset_ring_any (areaTwo x y L s) k L s (List.cons_ne_nil _ _)
    (inside_areaTwo x y L s hy0 hyx hxL)
    (by
      intro q hq
      simp only [areaTwo, Loc.parts, List.mem_cons, List.mem_nil_iff, or_false] at hq
      rcases hq with rfl | rfl <;> rfl)
    (by
      -- as long as the record means `y = x`: the two parts meet
      intro hlen j hj0 hj1
      rw [areaTwo, len_two] at hlen
      rw [areaTwo, mem_two]
      dsimp only at hlen ⊢
      omega)
  exact ⟨r, hr, hm⟩

/-- the general case: a location with any number of parts, all on one strand, non-empty, inside `[0, L]` and
    mutually disjoint, not as long as the whole record, shifted by any offset `0 < |k| < L`: the shift succeeds
    and the result has exactly the bases of the location rotated by `k` (mod `L`), the same total length and
    strand, parts inside the record and mutually disjoint — runs of abutting exons of any length included
    (after the repair D58 of the merge step).  (A location as long as the record is returned unchanged by the
    code; abutting pieces of different strands make it raise.) -/
theorem offset_ring_rotates_general (l : Loc) (k L : Int) (s : Strand) (hne : l.parts ≠ [])
    (hparts : ∀ p ∈ l.parts, 0 ≤ p.lo ∧ p.lo < p.hi ∧ p.hi ≤ L) (hs : ∀ p ∈ l.parts, p.strand = s)
    (hdis : partsDisjoint l.parts = true) (hlen : l.len ≠ L) (hk : k ≠ 0) (hk0 : -L < k) (hk1 : k < L) :
    ∃ r, offsetLocation l k L = .ok r ∧
      (∀ i, r.mem i = true ↔ (0 ≤ i ∧ i < L ∧ ∃ j, l.mem j = true ∧ RotOf L k i j)) ∧
      r.len = l.len ∧ r.strand = s ∧
      (∀ p ∈ r.parts, 0 ≤ p.lo ∧ p.lo < p.hi ∧ p.hi ≤ L) ∧ partsDisjoint r.parts = true := by
  obtain ⟨r, hr, hm, hl, hst, hin, hd⟩ := offset_ring_any l k L s hne hparts hs (fun h => absurd h hlen)
  exact ⟨r, hr, hm, hl, hst, hin, hd hdis⟩

/-- three abutting exons before and over the origin, moved back by 80 on a ring of 100 (the D58 layout) -/
example : offsetLocation (.compound [⟨90, 100, .fwd⟩, ⟨0, 5, .fwd⟩, ⟨5, 10, .fwd⟩, ⟨10, 15, .fwd⟩]) (-80) 100 =
    .ok (.simple ⟨10, 35, .fwd⟩) := Base.eq_ok_of_toOption (by decide +kernel)

/-! ### extending (linear record) -/

/-- extending a single-part location on a linear record covers exactly the bases within the
    distance, clipped at both record ends -/
theorem extend_line_exact (p : Part) (d mx : Int) (h0 : 0 ≤ p.lo) (h1 : p.lo < p.hi) (h2 : p.hi ≤ mx) (hd : 0 ≤ d) :
    ∃ r, extendLocation (.simple p) d mx false = .ok r ∧
      ∀ i, r.mem i = true ↔ (0 ≤ i ∧ i < mx ∧ ∃ j, p.mem j = true ∧ iabs (i - j) ≤ d) :=
  ⟨_, extend_simple_line p d mx, extend_simple_line_mem p d mx h0 h1 h2 hd⟩

/-- extending a single-part location on a circular record (distance at most the record length)
    covers exactly the bases within that distance, measured the shorter way round the ring, and
    nothing outside the record -/
theorem extend_ring_exact (p : Part) (d L : Int) (h0 : 0 ≤ p.lo) (h1 : p.lo < p.hi) (h2 : p.hi ≤ L)
    (hd : 0 ≤ d) (hdL : d ≤ L) :
    ∃ r, extendLocation (.simple p) d L true = .ok r ∧
      ∀ i, r.mem i = true ↔ (0 ≤ i ∧ i < L ∧ ∃ j, p.mem j = true ∧ ringAbs L i j ≤ d) :=
  ⟨_, extend_simple_ring_eq p d L h0 h1 h2 hd hdL, extSimpleRing_mem p d L h0 h1 h2 hd⟩

/-- extending the forward origin-spanning span `[x, L) + [0, y)` (the shape of every origin-spanning
    core) by any `d ≥ 0` on a circular record succeeds, covers exactly the bases within ring
    distance `d` of the span (the whole-record branch included) and is a well-formed span (one part,
    or two parts meeting at the origin) — unconditionally after the repair D59 -/
theorem extend_ring_area_exact (x y d L : Int) (hL : 0 < L) (hy0 : 0 < y) (hyx : y ≤ x) (hxL : x < L) (hd : 0 ≤ d) :
    ∃ r, extendLocation (areaTwo x y L .fwd) d L true = .ok r ∧
      (∀ i, r.mem i = true ↔ (0 ≤ i ∧ i < L ∧ ∃ j, (areaTwo x y L .fwd).mem j = true ∧ ringAbs L i j ≤ d)) ∧
      areaWF L L r = true :=
  ⟨_, extend_area_ring_eq x y d L hL hy0 hyx hxL hd, extAreaRing_mem x y d L hL hy0 hyx hxL hd,
    extAreaRing_wf x y d L hL hy0 hyx hxL hd⟩

/-- the same for the reverse-strand origin-spanning span `[0, y)(−), [x, L)(−)` (Biopython's part order
    for a reverse-strand feature over the origin): exactly the bases within the distance, as the whole
    record or as two disjoint parts in the same (reverse-strand) order -/
theorem extend_ring_area_rev_exact (x y d L : Int) (hL : 0 < L) (hy0 : 0 < y) (hyx : y ≤ x) (hxL : x < L) (hd : 0 ≤ d) :
    ∃ r, extendLocation (areaTwoRev x y L) d L true = .ok r ∧
      (∀ i, r.mem i = true ↔ (0 ≤ i ∧ i < L ∧ ∃ j, (areaTwoRev x y L).mem j = true ∧ ringAbs L i j ≤ d)) ∧
      (r = .simple ⟨0, L, .rev⟩ ∨ (r = .compound [⟨0, y + d, .rev⟩, ⟨x - d, L, .rev⟩] ∧ y + d ≤ x - d)) := by
  refine ⟨_, extend_area_ring_rev_eq x y d L hy0 hyx hxL, extAreaRingRev_mem x y d L hL hy0 hyx hxL hd, ?_⟩
  unfold extAreaRingRev
  by_cases hG : x - y < 2 * d
  · rw [if_pos hG]; exact Or.inl rfl
  · rw [if_neg hG]; exact Or.inr ⟨rfl, by omega⟩

example : extendLocation (areaTwoRev 90 10 100) 5 100 true = .ok (.compound [⟨0, 15, .rev⟩, ⟨85, 100, .rev⟩]) ∧
    extendLocation (areaTwoRev 90 10 100) 45 100 true = .ok (.simple ⟨0, 100, .rev⟩) := ⟨Base.eq_ok_of_toOption (by decide +kernel), Base.eq_ok_of_toOption (by decide +kernel)⟩

/-- extending a location with two or more parts (a gene with introns; forward or unstranded, parts in
    ascending order) on a linear record, or on a circular record when neither end reaches the record
    edge: the outer ends move by the distance (clipped at the record ends), inner parts and introns
    are untouched — the result has the input's bases plus exactly the two flanks -/
theorem extend_multi_exact (p0 pn : Part) (mid : List Part) (d mx : Int) (circ : Bool)
    (hs : (Loc.compound (p0 :: (mid ++ [pn]))).strand ≠ .rev)
    (hsep : p0.hi ≤ pn.lo) (h0 : p0.lo < p0.hi) (hn : pn.lo < pn.hi) (hd : 0 ≤ d) (hmx : pn.hi ≤ mx) (hlo : 0 ≤ p0.lo)
    (hc : circ = true → bridgesOrigin (Loc.compound (p0 :: (mid ++ [pn]))) = false ∧ pn.hi + d ≤ mx ∧ d ≤ p0.lo) :
    ∃ r, extendLocation (.compound (p0 :: (mid ++ [pn]))) d mx circ = .ok r ∧
      ∀ i, r.mem i = true ↔ ((Loc.compound (p0 :: (mid ++ [pn]))).mem i = true ∨
        (max 0 (p0.lo - d) ≤ i ∧ i < p0.lo) ∨ (pn.hi ≤ i ∧ i < min (pn.hi + d) mx)) := by
  exact ⟨_, extend_multi_eq p0 pn mid d mx circ hs hsep h0 hn hd hmx hlo hc, extend_line_multi_mem p0 pn mid d mx h0 hn hd hmx hlo⟩

/-- the same for a reverse-strand location (parts in Biopython's descending order) -/
theorem extend_multi_rev_exact (p0 pn : Part) (mid : List Part) (d mx : Int) (circ : Bool)
    (hs : (Loc.compound (p0 :: (mid ++ [pn])).reverse).strand = .rev)
    (hsep : p0.hi ≤ pn.lo) (h0 : p0.lo < p0.hi) (hn : pn.lo < pn.hi) (hd : 0 ≤ d) (hmx : pn.hi ≤ mx) (hlo : 0 ≤ p0.lo)
    (hc : circ = true → bridgesOrigin (Loc.compound (p0 :: (mid ++ [pn])).reverse) = false ∧ pn.hi + d ≤ mx ∧ d ≤ p0.lo) :
    ∃ r, extendLocation (.compound (p0 :: (mid ++ [pn])).reverse) d mx circ = .ok r ∧
      ∀ i, r.mem i = true ↔ ((Loc.compound (p0 :: (mid ++ [pn])).reverse).mem i = true ∨
        (max 0 (p0.lo - d) ≤ i ∧ i < p0.lo) ∨ (pn.hi ≤ i ∧ i < min (pn.hi + d) mx)) := by
  refine ⟨_, extend_multi_rev_eq p0 pn mid d mx circ hs hsep h0 hn hd hmx hlo hc, fun i => ?_⟩
  rw [mem_reverse_compound, mem_reverse_compound]
  exact extend_line_multi_mem p0 pn mid d mx h0 hn hd hmx hlo i

example : extendLocation (.compound [⟨50, 60, .rev⟩, ⟨30, 40, .rev⟩, ⟨10, 20, .rev⟩]) 15 100 false
    = .ok (.compound [⟨50, 75, .rev⟩, ⟨30, 40, .rev⟩, ⟨0, 20, .rev⟩]) := Base.eq_ok_of_toOption (by decide +kernel)

example : extendLocation (.compound [⟨10, 20, .fwd⟩, ⟨30, 40, .fwd⟩, ⟨50, 60, .fwd⟩]) 15 100 false
    = .ok (.compound [⟨0, 20, .fwd⟩, ⟨30, 40, .fwd⟩, ⟨50, 75, .fwd⟩]) := Base.eq_ok_of_toOption (by decide +kernel)

/-- the two layouts on which the code returned three overlapping parts before D59
    (`[90:100], [0:100], [0:25]` and `[60:100], [0:100], [0:10]`): now the whole record -/
example : extendLocation (areaTwo 10 5 100 .fwd) 20 100 true = .ok (.simple ⟨0, 100, .fwd⟩) ∧
    extendLocation (areaTwo 90 80 100 .fwd) 30 100 true = .ok (.simple ⟨0, 100, .fwd⟩) := ⟨Base.eq_ok_of_toOption (by decide +kernel), Base.eq_ok_of_toOption (by decide +kernel)⟩

/-! ### ordering -/

/-- `Feature.__lt__` compares (start key, length) lexicographically … -/
theorem featureLt_is_key_order (a b : Loc) (ka kb : Int)
    (ha : comparatorStart a = .ok ka) (hb : comparatorStart b = .ok kb) :
    featureLt a b = .ok (keyLt (ka, a.len) (kb, b.len)) :=
  featureLt_eq a b ka kb ha hb

/-- … which is a strict weak order -/
theorem key_order_strict_weak :
    (∀ a, keyLt a a = false) ∧
    (∀ a b c, keyLt a b = true → keyLt b c = true → keyLt a c = true) ∧
    (∀ a b c, (keyLt a b = false ∧ keyLt b a = false) → (keyLt b c = false ∧ keyLt c b = false) →
      (keyLt a c = false ∧ keyLt c a = false)) :=
  ⟨keyLt_irrefl, keyLt_trans, keyLt_incomp_trans⟩

/-! ### the merge step of `offset_location` (any number of parts) -/

/-- after the repair D58 the merging of shifted parts that abut (each ending where the next starts) loses
    nothing, for runs of any length: the merged parts have the same total length and name exactly the same
    bases as the shifted parts -/
theorem offset_merge_keeps_bases (first : Part) (rest out : List Part)
    (hwf : ∀ p ∈ first :: rest, p.lo ≤ p.hi) (h : mergeAdjacent [first] first rest = .ok out) :
    partsLen out = partsLen (first :: rest) ∧ ∀ x, coversB out x ↔ coversB (first :: rest) x := by
  refine ⟨?_, fun x => ?_⟩
  · have := mergeAdjacent_len rest [first] first out ⟨_, _, rfl, rfl⟩ h
    rw [this]; simp [partsLen]
  · have := mergeAdjacent_bases rest [first] first out ⟨_, _, rfl, rfl, hwf first (by simp)⟩
      (fun p hp => hwf p (List.mem_cons_of_mem _ hp)) h x
    rw [this]; simp [coversB]

/-- the run of the defect report: `[80:90), [90:100), [0:10)` shifted by 20 on a record of 100 -/
example : mergeAdjacent [⟨0, 10, .fwd⟩] ⟨0, 10, .fwd⟩ [⟨10, 20, .fwd⟩, ⟨20, 30, .fwd⟩] = .ok [⟨0, 30, .fwd⟩] := Base.eq_ok_of_toOption (by decide +kernel)
/-- … and what the loop made of it before D58: 20 bases -/
example : mergeAdjacentBeforeD58 [⟨0, 10, .fwd⟩] ⟨0, 10, .fwd⟩ [⟨10, 20, .fwd⟩, ⟨20, 30, .fwd⟩] = .ok [⟨10, 30, .fwd⟩] := Base.eq_ok_of_toOption (by decide +kernel)

/-! ### textual form -/

/-- the textual form of a location (`str(location)`, as stored in qualifiers such as
    `core_location`) reads back through `location_from_string` to the same location: simple and
    compound, all four strand spellings, any integer coordinates (exact positions) -/
theorem string_roundtrip (l : Loc) (hne : l.parts ≠ []) : locFromChars (locChars l) = some l :=
  locFromChars_locChars l hne

/-- the same with the operator of a multi-part location (`join{…}` / `order{…}`): whatever text
    precedes the brace (any text free of `{`) is read back as the operator, together with the same
    parts; a simple location has none -/
theorem string_roundtrip_with_operator (op : List Char) (hop : ∀ c ∈ op, c ≠ '{') (l : Loc) (hne : l.parts ≠ []) :
    locFromCharsOp (opLocChars op l) = some (l.opOf op, l) :=
  locFromCharsOp_opLocChars op hop l hne

/-- `locChars`/`locFromChars` (used by the serialisation models) are the `join` instance / the
    operator-forgetting projection of the two functions above -/
theorem string_model_is_join_instance (l : Loc) (s : List Char) :
    locChars l = opLocChars ['j', 'o', 'i', 'n'] l ∧ locFromChars s = (locFromCharsOp s).map Prod.snd :=
  ⟨locChars_eq_op l, locFromChars_eq_op s⟩

example : locFromCharsOp (opLocChars "order".toList (.compound [⟨0, 12, .rev⟩, ⟨90, 100, .rev⟩]))
    = some (some "order".toList, .compound [⟨0, 12, .rev⟩, ⟨90, 100, .rev⟩]) := by
  apply string_roundtrip_with_operator <;> simp [Loc.parts]

/-- the textual round trip with Biopython's fuzzy positions: a start or an end written as `<n` (`BeforePosition`) or
    `>n` (`AfterPosition`) — at either place, in a simple location or in any part of a multi-part one — is read back
    with the same value AND the same class, next to the same strand and operator.  (The class is decided by the
    marker alone; `UnknownPosition()` is outside the model.) -/
theorem string_roundtrip_fuzzy (op : List Char) (hop : ∀ c ∈ op, c ≠ '{') (l : FLoc) (hne : l.parts ≠ []) :
    flocFromChars (flocChars op l) = some (l.opOf op, l) :=
  flocFromChars_flocChars op hop l hne

/-- on exact positions the fuzzy textual form is the plain one of `string_roundtrip_with_operator` -/
theorem string_fuzzy_extends_exact (op : List Char) (l : Loc) : flocChars op (.ofLoc l) = opLocChars op l :=
  flocChars_ofLoc op l

/-- an `AfterPosition` start and a `BeforePosition` end (the unusual way round) keep their classes -/
example : flocFromChars "[>12:<20](+)".toList
    = some (none, .simple ⟨⟨.after, 12⟩, ⟨.before, 20⟩, .fwd⟩) := by
  have := string_roundtrip_fuzzy [] (by simp) (.simple ⟨⟨.after, 12⟩, ⟨.before, 20⟩, .fwd⟩) (by simp [FLoc.parts])
  exact this

/-! ### non-vacuity -/
example : (Loc.compound [⟨90, 100, .fwd⟩, ⟨0, 10, .fwd⟩]).OK 100 ∧ (Loc.simple ⟨20, 30, .rev⟩).OK 100 := by
  constructor <;> (refine ⟨by simp [Loc.parts], ?_⟩; intro p hp; simp [Loc.parts] at hp; rcases hp with rfl | rfl <;> simp [Part.OK]) <;> simp [Part.OK]
/-- D3's layout: 10 bases lie between the origin-spanning gene and the gene at [20,30) -/
example : getDistance (.compound [⟨90, 100, .fwd⟩, ⟨0, 10, .fwd⟩]) (.simple ⟨20, 30, .fwd⟩) 100 = 10 := by decide +kernel
/-- D2's layout: the end lands exactly on the wrap point -/
example : offsetLocation (.simple ⟨5, 10, .fwd⟩) 10 20 = .ok (.simple ⟨15, 20, .fwd⟩) := Base.eq_ok_of_toOption (by decide +kernel)
/-- the wrap case of `connect_ring_two` is reachable: 60 bases between along the line, 25 over the origin -/
example : connect [.simple ⟨5, 20, .fwd⟩, .simple ⟨80, 90, .rev⟩] (some 100) = .ok (.compound [⟨80, 100, .fwd⟩, ⟨0, 20, .fwd⟩]) := Base.eq_ok_of_toOption (by decide +kernel)
example : offsetLocation (.simple ⟨5, 10, .fwd⟩) 12 20 = .ok (.compound [⟨17, 20, .fwd⟩, ⟨0, 2, .fwd⟩]) := Base.eq_ok_of_toOption (by decide +kernel)

/-- the hypotheses of the n-input ring theorems are satisfiable: three single parts (mixed strands) … -/
example : ∀ l ∈ [Loc.simple ⟨5, 20, .fwd⟩, .simple ⟨80, 90, .rev⟩, .simple ⟨30, 40, .fwd⟩], RingInStrict 100 l := by
  intro l hl
  simp only [List.mem_cons, List.mem_nil_iff, or_false] at hl
  rcases hl with rfl | rfl | rfl <;> exact Or.inl ⟨_, rfl, by decide, by decide, by decide⟩
/-- … connected over the origin (60 bases of line gap vs. 25 over the origin) -/
example : connect [.simple ⟨5, 20, .fwd⟩, .simple ⟨80, 90, .rev⟩, .simple ⟨30, 40, .fwd⟩] (some 100)
    = .ok (.compound [⟨80, 100, .fwd⟩, ⟨0, 40, .fwd⟩]) := Base.eq_ok_of_toOption (by decide +kernel)
/-- the same three in another order -/
example : connect [.simple ⟨30, 40, .fwd⟩, .simple ⟨5, 20, .fwd⟩, .simple ⟨80, 90, .rev⟩] (some 100)
    = .ok (.compound [⟨80, 100, .fwd⟩, ⟨0, 40, .fwd⟩]) := Base.eq_ok_of_toOption (by decide +kernel)
/-- three single parts that stay on the line: the hull with the common strand -/
example : connect [.simple ⟨5, 20, .rev⟩, .simple ⟨40, 45, .rev⟩, .simple ⟨30, 40, .rev⟩] (some 100)
    = .ok (.simple ⟨5, 45, .rev⟩) := Base.eq_ok_of_toOption (by decide +kernel)
/-- four inputs, one of them origin-spanning -/
example : ∀ l ∈ [areaTwo 90 10 100 .fwd, .simple ⟨20, 30, .fwd⟩, .simple ⟨70, 80, .rev⟩, .simple ⟨85, 88, .fwd⟩],
    RingInStrict 100 l := by
  intro l hl
  simp only [List.mem_cons, List.mem_nil_iff, or_false] at hl
  rcases hl with rfl | rfl | rfl | rfl
  · exact Or.inr (Or.inl ⟨90, 10, .fwd, by decide, rfl, by decide, by decide, by decide⟩)
  all_goals exact Or.inl ⟨_, rfl, by decide, by decide, by decide⟩
example : connect [areaTwo 90 10 100 .fwd, .simple ⟨20, 30, .fwd⟩, .simple ⟨70, 80, .rev⟩, .simple ⟨85, 88, .fwd⟩] (some 100)
    = .ok (.compound [⟨70, 100, .fwd⟩, ⟨0, 30, .fwd⟩]) := Base.eq_ok_of_toOption (by decide +kernel)
/-- a reverse-strand origin-spanning gene in Biopython's part order with two more inputs -/
example : connect [areaTwoRev 90 10 100, .simple ⟨20, 30, .fwd⟩, .simple ⟨70, 80, .rev⟩] (some 100)
    = .ok (.compound [⟨70, 100, .fwd⟩, ⟨0, 30, .fwd⟩]) := Base.eq_ok_of_toOption (by decide +kernel)
/-- an origin-spanning input together with one covering the rest: the whole record -/
example : connect [areaTwo 90 10 100 .fwd, .simple ⟨5, 95, .fwd⟩, .simple ⟨70, 80, .rev⟩] (some 100)
    = .ok (.simple ⟨0, 100, .fwd⟩) := Base.eq_ok_of_toOption (by decide +kernel)
/-- a covering span shorter than half the record exists for the four inputs above (60 < 100 / 2 fails, so take
    a tighter list): `[95, 100) + [0, 30)` covers `[95,100)+[0,10)`, `[20,30)`; 35·2 < 100 -/
example : areaWF 100 100 (.compound [⟨95, 100, .fwd⟩, ⟨0, 30, .fwd⟩]) = true ∧
    2 * (Loc.compound [⟨95, 100, .fwd⟩, ⟨0, 30, .fwd⟩]).len < 100 ∧
    connect [areaTwo 95 10 100 .fwd, .simple ⟨20, 30, .fwd⟩] (some 100) = .ok (.compound [⟨95, 100, .fwd⟩, ⟨0, 30, .fwd⟩]) :=
  ⟨by decide +kernel, by decide, Base.eq_ok_of_toOption (by decide +kernel)⟩
/-- a gene with an intron (does not bridge the origin) among the inputs -/
example : RingInSpan 100 (.compound [⟨2, 8, .fwd⟩, ⟨12, 18, .fwd⟩]) :=
  Or.inl ⟨by simp [Loc.parts], by decide, by
    intro p hp; simp only [Loc.parts, List.mem_cons, List.mem_nil_iff, or_false] at hp
    rcases hp with rfl | rfl <;> decide⟩
example : connect [.compound [⟨2, 8, .fwd⟩, ⟨12, 18, .fwd⟩], .simple ⟨80, 90, .rev⟩, areaTwo 95 1 100 .fwd] (some 100)
    = .ok (.compound [⟨80, 100, .fwd⟩, ⟨0, 18, .fwd⟩]) := Base.eq_ok_of_toOption (by decide +kernel)
/-- an origin-bridging gene with an intron among the inputs -/
example : RingIn 100 (.compound [⟨90, 100, .fwd⟩, ⟨2, 8, .fwd⟩, ⟨12, 18, .fwd⟩]) :=
  ⟨by simp [Loc.parts], by
    intro p hp; simp only [Loc.parts, List.mem_cons, List.mem_nil_iff, or_false] at hp
    rcases hp with rfl | rfl | rfl <;> decide, fun _ => ⟨_, _, by rfl⟩⟩
example : connect [.compound [⟨90, 100, .fwd⟩, ⟨2, 8, .fwd⟩, ⟨12, 18, .fwd⟩], .simple ⟨80, 85, .rev⟩] (some 100)
    = .ok (.compound [⟨80, 100, .fwd⟩, ⟨0, 18, .fwd⟩]) := Base.eq_ok_of_toOption (by decide +kernel)
/-- the span reading of a gene with an intron and of an origin-spanning input -/
example : spanOf 100 (.compound [⟨2, 8, .fwd⟩, ⟨12, 18, .fwd⟩]) = .simple ⟨2, 18, .fwd⟩ ∧
    spanOf 100 (areaTwoRev 95 1 100) = .compound [⟨95, 100, .fwd⟩, ⟨0, 1, .fwd⟩] := ⟨by decide +kernel, by decide +kernel⟩
/-- extension of an origin-spanning span: both ends move, the result stays a two-part span -/
example : extendLocation (areaTwo 90 10 100 .fwd) 15 100 true = .ok (.compound [⟨75, 100, .fwd⟩, ⟨0, 25, .fwd⟩]) := Base.eq_ok_of_toOption (by decide +kernel)
/-- … and the whole-record branch -/
example : extendLocation (areaTwo 60 40 100 .fwd) 11 100 true = .ok (.simple ⟨0, 100, .fwd⟩) := Base.eq_ok_of_toOption (by decide +kernel)

end ASV.C04
