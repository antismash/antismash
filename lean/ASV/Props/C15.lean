/-
  C15 — ORF scanning finds exactly the open reading frames of the searched sequence.
  Property theorems only; helper lemmas live in ASV/Proofs/Orf*.lean.

  All statements are for every sequence (any length, any characters), every frame, offset,
  record length and minimum length; the model is `ASV/Model/Orf.lean` (of the tree with the
  fixes its header lists), the spec `ASV/Spec/Orf.lean`.

  D23 (`end - start < minimum_length`, pinned by the repo's own `test_no_hits`) is a known
  finding: the exactness theorem with the documented bound `≥ minLen` is `_partial`
  (hypothesis: no ORF of exactly `minLen` nucleotides), the bound the code really implements
  (`> minLen`) is proved for all inputs, and the excluded region has a negation witness.
-/
import ASV.Proofs.OrfScan
import ASV.Proofs.OrfExtract
import ASV.Proofs.OrfGaps
import ASV.Proofs.OrfTrim
import ASV.Proofs.OrfRecord
import ASV.Proofs.OrfTranslate
namespace ASV.C15
open ASV ASV.Orf

/-! ### 1. the scan reports exactly the open reading frames -/

/-- the property's first sentence for one frame, with the documented bound "at least the
    minimum length" -/
def ScanFrameExact (w : Seq) (minLen : Int) (f : Nat) : Prop :=
  ∀ s e, (s, e) ∈ scanFrame w minLen f ↔ s % 3 = f ∧ IsOrf w s e ∧ minLen ≤ orfLen s e

/-- the known-finding class of D23 is the complement of this: some ORF of the window is exactly
    `minLen` long (evaluated by the driver as `exact_len`) -/
def NoExactLen (w : Seq) (minLen : Int) : Prop := ∀ s e, IsOrf w s e → orfLen s e ≠ minLen

/-- what the loop does for *all* inputs: frame `f` yields exactly the ORFs of that frame that are
    strictly longer than `minLen` -/
theorem scan_frame_exact_strict (w : Seq) (minLen : Int) (f : Nat) (hf : f < 3) (s e : Nat) :
    (s, e) ∈ scanFrame w minLen f ↔ s % 3 = f ∧ IsOrf w s e ∧ minLen < orfLen s e :=
  scanFrame_mem w minLen f hf s e

/-- H: no ORF of the window is exactly `minLen` long (D23) -/
theorem scan_frame_exact_partial (w : Seq) (minLen : Int) (f : Nat) (hf : f < 3)
    (h : NoExactLen w minLen) : ScanFrameExact w minLen f := by
  intro s e
  rw [scanFrame_mem w minLen f hf s e]
  exact and_congr_right fun _ => and_congr_right fun h2 => lt_iff_le_of_ne (h s e h2)

/-- ORF lengths are multiples of three, so the documented bound holds unconditionally whenever
    `minLen` is not a multiple of three -/
theorem scan_frame_exact_off_multiples (w : Seq) (minLen : Int) (f : Nat) (hf : f < 3)
    (h3 : minLen % 3 ≠ 0) : ScanFrameExact w minLen f :=
  scan_frame_exact_partial w minLen f hf fun _ _ ho => ho.orfLen_ne (Or.inl h3)

/-- negation witness for D23: the 12-nt ORF with `minimum_length = 12` -/
theorem scan_frame_exact_fails_D23 : ¬ ScanFrameExact "ATGAAAAAATAA".toList 12 0 := by
  intro h
  have h1 : ((0, 9) : Nat × Nat) ∈ scanFrame "ATGAAAAAATAA".toList 12 0 :=
    (h 0 9).2 ⟨rfl, by decide +kernel, by decide +kernel⟩
  revert h1
  decide +kernel

/-- the three frames together (all inputs) -/
theorem scan_matches_exact_strict (w : Seq) (minLen : Int) (s e : Nat) :
    (s, e) ∈ scanMatches w minLen ↔ IsOrf w s e ∧ minLen < orfLen s e :=
  mem_scanMatches

/-- `scan_orfs` as a whole: the reported locations are exactly the locations of the window's
    ORFs longer than `minLen` -/
theorem scan_orfs_exact_strict (seq : Seq) (fwd : Bool) (offset minLen : Int) (recLen : Option Int)
    (l : Loc) :
    l ∈ scanOrfs seq fwd offset minLen recLen ↔
      ∃ s e, IsOrf (upper seq) s e ∧ minLen < orfLen s e ∧
        l = orfLoc fwd (upper seq).length offset recLen s e :=
  mem_scanOrfs

/-- …and with the documented bound under H -/
theorem scan_orfs_exact_partial (seq : Seq) (fwd : Bool) (offset minLen : Int) (recLen : Option Int)
    (h : NoExactLen (upper seq) minLen) (l : Loc) :
    l ∈ scanOrfs seq fwd offset minLen recLen ↔
      ∃ s e, IsOrf (upper seq) s e ∧ minLen ≤ orfLen s e ∧
        l = orfLoc fwd (upper seq).length offset recLen s e := by
  rw [mem_scanOrfs]
  exact exists_congr fun s => exists_congr fun e => and_congr_right fun h1 =>
    and_congr_left' (lt_iff_le_of_ne (h s e h1))

/-- ORF lengths are multiples of three, so `NoExactLen` holds for free when `minLen` is not -/
theorem no_exact_len_off_multiples (w : Seq) (minLen : Int) (h3 : minLen % 3 ≠ 0) : NoExactLen w minLen :=
  fun _ _ ho => ho.orfLen_ne (Or.inl h3)

/-- …nor when `minLen` exceeds the window, or is below the shortest possible ORF (6 nt) -/
theorem no_exact_len_out_of_range (w : Seq) (minLen : Int) (h : minLen < 6 ∨ (w.length : Int) < minLen) :
    NoExactLen w minLen :=
  fun _ _ ho => ho.orfLen_ne (Or.inr h)

/-- `scan_orfs` as a whole with the documented bound "at least `minLen`", unconditionally, for every
    `minLen` that is not a multiple of three, is below 6 or exceeds the sequence — D23 only bites
    when an ORF of exactly `minLen` can exist -/
theorem scan_orfs_exact_off_multiples (seq : Seq) (fwd : Bool) (offset minLen : Int) (recLen : Option Int)
    (h : minLen % 3 ≠ 0 ∨ minLen < 6 ∨ ((upper seq).length : Int) < minLen) (l : Loc) :
    l ∈ scanOrfs seq fwd offset minLen recLen ↔
      ∃ s e, IsOrf (upper seq) s e ∧ minLen ≤ orfLen s e ∧
        l = orfLoc fwd (upper seq).length offset recLen s e :=
  scan_orfs_exact_partial seq fwd offset minLen recLen (fun _ _ ho => ho.orfLen_ne h) l

/-- the codon tables of the tree under test (regenerated every run) hold exactly the codons the
    property names; the spec itself never reads them -/
theorem codon_tables_as_documented :
    (∀ c ∈ Gen.startCodons, c ∈ docStartCodons) ∧ (∀ c ∈ docStartCodons, c ∈ Gen.startCodons) ∧
    (∀ c ∈ Gen.stopCodons, c ∈ docStopCodons) ∧ (∀ c ∈ docStopCodons, c ∈ Gen.stopCodons) :=
  ⟨startCodons_doc.1, startCodons_doc.2, stopCodons_doc.1, stopCodons_doc.2⟩

/-- the executable spec the driver runs on implementation output is the propositional one -/
theorem spec_orfs_enumerates (w : Seq) (s e : Nat) : (s, e) ∈ specOrfs w ↔ IsOrf w s e :=
  mem_specOrfs w s e

/-! ### 2. the reported coordinates extract to precisely that ORF -/

/-- forward strand on a ring: the window is `record[offset .. offset+n) mod L` -/
theorem orf_coords_extract_fwd (comp : Char → Char) (rec w : Seq) (offset : Int) (s e : Nat)
    (hL : 0 < rec.length) (hwin : WindowFwd rec w offset rec.length)
    (hs : s < e) (he : e + 3 ≤ w.length) (hlen : orfLen s e ≤ rec.length) :
    extract comp rec (orfLoc true w.length offset (some (rec.length : Int)) s e) = orfSeq w s e :=
  extract_ring true comp rfl hL (windowFwd_iff.mp hwin) hs he hlen

/-- reverse strand on a ring: the window is the reverse complement of that chunk; covers the
    wrapped case (D13: parts in transcription order) and the whole-ring case (D28) -/
theorem orf_coords_extract_rev (comp : Char → Char) (rec w : Seq) (offset : Int) (s e : Nat)
    (hL : 0 < rec.length) (hwin : WindowRev comp rec w offset rec.length)
    (hs : s < e) (he : e + 3 ≤ w.length) (hlen : orfLen s e ≤ rec.length) :
    extract comp rec (orfLoc false w.length offset (some (rec.length : Int)) s e) = orfSeq w s e :=
  extract_ring false comp rfl hL hwin hs he hlen

/-- `record_length=None`, forward -/
theorem orf_coords_extract_fwd_line (comp : Char → Char) (rec w : Seq) (offset : Int) (s e : Nat)
    (hwin : WindowFwdLin rec w offset) (hs : s < e) (he : e + 3 ≤ w.length) :
    extract comp rec (orfLoc true w.length offset none s e) = orfSeq w s e :=
  extract_line true comp hwin.1 (windowFwdLin_iff.mp hwin).2 hs he

/-- `record_length=None`, reverse -/
theorem orf_coords_extract_rev_line (comp : Char → Char) (rec w : Seq) (offset : Int) (s e : Nat)
    (hwin : WindowRevLin comp rec w offset) (hfit : offset + w.length ≤ rec.length)
    (hs : s < e) (he : e + 3 ≤ w.length) :
    extract comp rec (orfLoc false w.length offset none s e) = orfSeq w s e :=
  extract_line false comp hwin.1 hwin.2 hs he

/-- parts lie in `[0, L]`, are non-empty and on the scan's strand; their lengths add up to the
    ORF's; two parts exactly when the ORF runs over the origin, and then the location bridges
    the origin in the sense of `secmet.locations.location_bridges_origin` -/
theorem orf_coords_shape (fwd : Bool) (n : Nat) (offset L : Int) (s e : Nat) (hL : 0 < L) (hs : s < e)
    (hlen : orfLen s e ≤ L) :
    (∀ p ∈ (orfLoc fwd n offset (some L) s e).parts,
        0 ≤ p.lo ∧ p.lo < p.hi ∧ p.hi ≤ L ∧ p.strand = dirStrand fwd)
    ∧ (orfLoc fwd n offset (some L) s e).len = orfLen s e
    ∧ ((orfLoc fwd n offset (some L) s e).isCompound = true ↔
        L < orfBase fwd n offset s e % L + orfLen s e)
    ∧ ((orfLoc fwd n offset (some L) s e).isCompound = true →
        (orfLoc fwd n offset (some L) s e).parts.length = 2)
    ∧ bridgesOrigin (orfLoc fwd n offset (some L) s e) = (orfLoc fwd n offset (some L) s e).isCompound := by
  rw [orfLoc_ring hL hs hlen]
  exact ringLoc_shape fwd L _ _ (Int.emod_nonneg _ (by omega)) (Int.emod_lt_of_pos _ hL)
    (by simp only [orfLen]; omega) hlen

/-- without a record length the location is one part `[base, base + len)`; the branch that
    would build a compound location from `record_length=None` is unreachable -/
theorem orf_coords_line_simple (fwd : Bool) (n : Nat) (offset : Int) (s e : Nat) (hs : s < e) :
    orfLoc fwd n offset none s e =
      .simple ⟨orfBase fwd n offset s e, orfBase fwd n offset s e + orfLen s e, dirStrand fwd⟩ :=
  orfLoc_line hs

/-! ### 3. order and duplicates -/

/-- "ordered by ascending position" -/
theorem scan_sorted (seq : Seq) (fwd : Bool) (offset minLen : Int) (recLen : Option Int) :
    (scanOrfs seq fwd offset minLen recLen).Pairwise fun a b => sortKey a ≤ sortKey b :=
  sortByKey_sorted _

/-- the result is a rearrangement of the matches found, and no match is found twice -/
theorem scan_no_duplicates (seq : Seq) (fwd : Bool) (offset minLen : Int) (recLen : Option Int) :
    (scanOrfs seq fwd offset minLen recLen).Perm
        ((scanMatches (upper seq) minLen).map fun m => orfLoc fwd (upper seq).length offset recLen m.1 m.2)
    ∧ (scanMatches (upper seq) minLen).Nodup :=
  ⟨sortByKey_perm _, scanMatches_nodup _ _⟩

/-! ### 4. gaps between genes -/

/-- every area returned lies in `[start, end)`, is at least `minLen` long and touches no gene's
    core `[g.start + pad, g.end − pad)` — for genes given in ANY order (the function orders them by
    start itself since fixes/D66-C15; the record lists origin-spanning genes first) -/
theorem intergenic_sound (start «end» minLen pad : Int) (genes : List Gene) (hpad : 0 ≤ pad)
    (a : Int × Int)
    (ha : a ∈ findIntergenic start «end» genes minLen pad) :
    start ≤ a.1 ∧ a.2 ≤ «end» ∧ minLen ≤ a.2 - a.1 ∧
      ∀ g ∈ genes, ∀ i, a.1 ≤ i → i < a.2 → ¬ g.core pad i :=
  ⟨(findIntergenic_bounds ha).1, (findIntergenic_bounds ha).2.1, (findIntergenic_bounds ha).2.2,
    findIntergenic_clear hpad ha⟩

/-- the check the driver evaluates on the implementation's areas is that statement -/
theorem intergenic_check_meaning (genes : List Gene) (pad : Int) (a : Int × Int) :
    areaAvoids genes pad a = true ↔ ∀ g ∈ genes, ∀ i, a.1 ≤ i → i < a.2 → ¬ g.core pad i :=
  areaAvoids_iff genes pad a

/-- completeness (no ordering assumption needed): every non-empty stretch `[a, b)` of `[start, end)`
    of at least `minLen` bases that lies entirely on one side of every padded gene (`Beside`: it
    ends at or before `g.start + pad` or begins at or after `g.end − pad`) is contained in one
    returned area -/
theorem intergenic_complete (start «end» minLen pad : Int) (genes : List Gene) (a b : Int)
    (h1 : start ≤ a) (h2 : a < b) (h3 : b ≤ «end») (hlen : minLen ≤ b - a)
    (hb : ∀ g ∈ genes, Beside g pad a b) :
    ∃ area ∈ findIntergenic start «end» genes minLen pad, area.1 ≤ a ∧ b ≤ area.2 :=
  findIntergenic_complete h1 h2 h3 hlen hb

/-- for genes longer than twice the padding "beside" is just "clear of the core": every stretch
    clear of all cores is contained in one returned area -/
theorem intergenic_complete_clear (start «end» minLen pad : Int) (genes : List Gene) (a b : Int)
    (h1 : start ≤ a) (h2 : a < b) (h3 : b ≤ «end») (hlen : minLen ≤ b - a)
    (hlong : ∀ g ∈ genes, g.start + pad < g.end - pad)
    (hclear : ∀ g ∈ genes, ∀ i, a ≤ i → i < b → ¬ g.core pad i) :
    ∃ area ∈ findIntergenic start «end» genes minLen pad, area.1 ≤ a ∧ b ≤ area.2 :=
  findIntergenic_complete h1 h2 h3 hlen fun g hg => beside_of_clear h2 (hlong g hg) (hclear g hg)

/-- every maximal gap (`IsGap`) beside all genes and long enough is returned as it is -/
theorem intergenic_gap_returned (start «end» minLen pad : Int) (genes : List Gene) (hpad : 0 ≤ pad)
    (a b : Int) (hgap : IsGap start «end» genes pad a b)
    (hb : ∀ g ∈ genes, Beside g pad a b) (hlen : minLen ≤ b - a) :
    (a, b) ∈ findIntergenic start «end» genes minLen pad :=
  findIntergenic_gap_mem hpad hgap hb hlen

/-- "the gap search returns exactly the gaps": genes (in any order) longer than twice the
    padding, `minLen > 0` — the returned areas are precisely the maximal gaps of `[start, end)`
    between padded genes that are at least `minLen` long -/
theorem intergenic_returns_exactly_gaps (start «end» minLen pad : Int) (genes : List Gene)
    (hpad : 0 ≤ pad) (hmin : 0 < minLen)
    (hlong : ∀ g ∈ genes, g.start + pad < g.end - pad) (a b : Int) :
    (a, b) ∈ findIntergenic start «end» genes minLen pad ↔
      IsGap start «end» genes pad a b ∧ minLen ≤ b - a :=
  findIntergenic_iff_gap hpad hmin hlong

/-! ### 5. `find_all_orfs`: ORFs lie in the gaps and extract to ORFs -/

/-- every location found by the scanning loop of `find_all_orfs` lies, base for base, inside one
    of the intergenic areas it was given (also for the area that reaches back over the origin) -/
theorem all_orfs_in_areas (rec : Seq) (minLen : Int) (hL : 0 < rec.length)
    (areas : List (Int × Int)) (locs : List Loc) (hok : ∀ a ∈ areas, AreaOk rec.length a)
    (h : scanAreas rec minLen areas = some locs) :
    ∀ l ∈ locs, ∃ a ∈ areas, locInArea rec.length a l = true :=
  scanAreas_in_areas hL hok h

/-- search of `[start, end)` on a record (whole record: `start = 0`, `end = len`): every ORF
    found lies inside an area that is inside `[start, end)` and clear of every gene's core -/
theorem all_orfs_in_gaps (rec : Seq) (genes : List Gene) (start «end» minLen pad : Int)
    (hL : 0 < rec.length) (hpad : 0 ≤ pad) (hmin : 0 ≤ minLen) (hstart : 0 ≤ start)
    (hend : «end» ≤ rec.length) (locs : List Loc)
    (h : scanAreas rec minLen (findIntergenic start «end» genes minLen pad) = some locs) :
    ∀ l ∈ locs, ∃ a : Int × Int, locInArea rec.length a l = true ∧ start ≤ a.1 ∧ a.2 ≤ «end» ∧
      ∀ g ∈ genes, ∀ i, a.1 ≤ i → i < a.2 → ¬ g.core pad i := by
  intro l hl
  obtain ⟨a, ha, hin⟩ := scanAreas_in_areas hL (fun a ha => (findIntergenic_areaOk hstart hend hmin ha).1) h l hl
  exact ⟨a, hin, (findIntergenic_bounds ha).1, (findIntergenic_bounds ha).2.1, findIntergenic_clear hpad ha⟩

/-- origin-crossing search: the areas handed to the scanning loop are intergenic areas of the
    area's parts (each sound by `intergenic_sound`), except that the one ending at the record's
    end and the one starting at 0 are joined into one area reaching back over the origin, whose
    bases are exactly those of the two -/
theorem cross_origin_areas_sound (parts : List (Int × Int × List Gene)) (L minLen pad : Int)
    (areas : List (Int × Int)) (h : crossOriginIntergenic parts L minLen pad = some areas) :
    ∀ a ∈ areas,
      (∃ p ∈ parts, a ∈ findIntergenic p.1 p.2.1 p.2.2 minLen pad) ∨
      (∃ p ∈ parts, ∃ q ∈ parts, ∃ pre ∈ findIntergenic p.1 p.2.1 p.2.2 minLen pad,
        ∃ post ∈ findIntergenic q.1 q.2.1 q.2.2 minLen pad,
        pre.2 = L ∧ post.1 = 0 ∧ a = (pre.1 - L, post.2)) :=
  crossOrigin_sound h

/-- the chunk cut for an area is a window of the record, so (forward scan) every location
    reported for it extracts from the upper-cased record to an ORF of the chunk -/
theorem all_orfs_extract_fwd (comp : Char → Char) (rec : Seq) (st en minLen : Int)
    (hL : 0 < rec.length) (hok : AreaOk rec.length (st, en)) (hen : en ≤ rec.length) (l : Loc)
    (hl : l ∈ scanOrfs (chunkOf rec st en) true st minLen (some (rec.length : Int))) :
    ∃ s e, IsOrf (upper (chunkOf rec st en)) s e ∧
      extract comp (upper rec) l = orfSeq (upper (chunkOf rec st en)) s e :=
  scanOrfs_extract true (comp := comp) (fun _ => rfl) hL hok hen (windowFwd_iff.mp (chunkOf_window hok hen)) hl

/-- same for the reverse scan of the chunk's reverse complement (`complement` = Biopython's
    table, which commutes with upper-casing: `complement_upper`), any case -/
theorem all_orfs_extract_rev (rec : Seq) (st en minLen : Int)
    (hL : 0 < rec.length) (hok : AreaOk rec.length (st, en)) (hen : en ≤ rec.length) (l : Loc)
    (hl : l ∈ scanOrfs (revComp (chunkOf rec st en)) false st minLen (some (rec.length : Int))) :
    ∃ s e, IsOrf (upper (revComp (chunkOf rec st en))) s e ∧
      extract complement (upper rec) l = orfSeq (upper (revComp (chunkOf rec st en))) s e :=
  scanOrfs_extract false complement_upper hL hok hen (chunkOf_strandWindow false hok hen) hl

/-- the chunk cut for an area is the window `record[start .. end)` (around the origin when
    `start < 0`), and its reverse complement is the reverse window -/
theorem chunk_is_window (rec : Seq) (st en : Int) (hok : AreaOk rec.length (st, en)) (hen : en ≤ rec.length) :
    WindowFwd rec (chunkOf rec st en) st rec.length ∧
    WindowRev complement rec (revComp (chunkOf rec st en)) st rec.length :=
  ⟨chunkOf_window hok hen, windowRev_of_fwd (chunkOf_window hok hen)⟩

/-- `find_all_orfs` returns exactly (D23: strictly longer than `minLen`) the ORFs of the gaps: a
    location is returned iff it is the location of an ORF (`IsOrf`) of the chunk of one of the
    intergenic areas, read on either strand -/
theorem all_orfs_exact_strict (rec : Seq) (cross : Bool) (parts : List (Int × Int × List Gene))
    (minLen pad : Int) (locs : List Loc) (h : findAllOrfs rec cross parts minLen pad = some locs) (l : Loc) :
    l ∈ locs ↔ ∃ areas, orfAreas rec.length cross parts minLen pad = some areas ∧
      ∃ a ∈ areas, ∃ fwd s e,
        IsOrf (upper (strandWindow fwd (chunkOf rec a.1 a.2))) s e ∧ minLen < orfLen s e ∧
        l = orfLoc fwd (chunkOf rec a.1 a.2).length a.1 (some (rec.length : Int)) s e := by
  unfold findAllOrfs at h
  cases hareas : orfAreas rec.length cross parts minLen pad with
  | none => rw [hareas] at h; simp only [Option.bind_none, reduceCtorEq] at h
  | some areas =>
    rw [hareas] at h
    simp only [Option.bind_some] at h
    rw [(scanAreas_mem h).2 l]
    constructor
    · rintro ⟨a, ha, fwd, hl⟩
      obtain ⟨s, e, h1, h2, h3⟩ := mem_scanOrfs.1 hl
      exact ⟨areas, rfl, a, ha, fwd, s, e, h1, h2, by rw [h3, upper_length, strandWindow_length]⟩
    · rintro ⟨areas', he, a, ha, fwd, s, e, h1, h2, h3⟩
      obtain rfl := Option.some.inj he
      exact ⟨a, ha, fwd, mem_scanOrfs.2 ⟨s, e, h1, h2, by rw [h3, upper_length, strandWindow_length]⟩⟩

/-- the same with the documented bound `≥ minLen` when `minLen` is not a multiple of three or is
    below 6 (no ORF can be exactly that long; otherwise D23, known finding) -/
theorem all_orfs_exact_off_multiples (rec : Seq) (cross : Bool) (parts : List (Int × Int × List Gene))
    (minLen pad : Int) (hm : minLen % 3 ≠ 0 ∨ minLen < 6) (locs : List Loc)
    (h : findAllOrfs rec cross parts minLen pad = some locs) (l : Loc) :
    l ∈ locs ↔ ∃ areas, orfAreas rec.length cross parts minLen pad = some areas ∧
      ∃ a ∈ areas, ∃ fwd s e,
        IsOrf (upper (strandWindow fwd (chunkOf rec a.1 a.2))) s e ∧ minLen ≤ orfLen s e ∧
        l = orfLoc fwd (chunkOf rec a.1 a.2).length a.1 (some (rec.length : Int)) s e := by
  rw [all_orfs_exact_strict rec cross parts minLen pad locs h l]
  -- the two statements differ only in the bound, and that under `IsOrf`
  exact exists_congr fun areas => and_congr_right fun _ => exists_congr fun a => and_congr_right fun _ =>
    exists_congr fun fwd => exists_congr fun s => exists_congr fun e => and_congr_right fun h1 =>
      and_congr_left' (lt_iff_le_of_ne (h1.orfLen_ne (hm.imp_right Or.inl)))

/-- completeness, spelled out: when the gap search yields `areas` inside the record, the call
    succeeds and every ORF longer than `minLen` of every gap, on either strand, is among the
    locations returned (at the coordinates `orf_coords_extract_*` show to be the right ones) -/
theorem all_orfs_complete_in_gaps (rec : Seq) (cross : Bool) (parts : List (Int × Int × List Gene))
    (minLen pad : Int) (areas : List (Int × Int))
    (hareas : orfAreas rec.length cross parts minLen pad = some areas)
    (hin : ∀ a ∈ areas, a.2 ≤ (rec.length : Int)) :
    ∃ locs, findAllOrfs rec cross parts minLen pad = some locs ∧
      ∀ a ∈ areas, ∀ (fwd : Bool) (s e : Nat),
        IsOrf (upper (strandWindow fwd (chunkOf rec a.1 a.2))) s e → minLen < orfLen s e →
        orfLoc fwd (chunkOf rec a.1 a.2).length a.1 (some (rec.length : Int)) s e ∈ locs := by
  obtain ⟨locs, hlocs⟩ := scanAreas_isSome rec minLen areas hin
  have hfind : findAllOrfs rec cross parts minLen pad = some locs := by
    unfold findAllOrfs; rw [hareas]; exact hlocs
  refine ⟨locs, hfind, ?_⟩
  intro a ha fwd s e h1 h2
  exact (all_orfs_exact_strict rec cross parts minLen pad locs hfind _).2
    ⟨areas, hareas, a, ha, fwd, s, e, h1, h2, rfl⟩

/-- for a search of `[start, end)` inside the record the areas are inside it, so the previous
    theorem applies without further assumptions -/
theorem all_orfs_complete_linear (rec : Seq) (start «end» minLen pad : Int) (genes : List Gene)
    (hend : «end» ≤ rec.length) :
    ∃ locs, findAllOrfs rec false [(start, «end», genes)] minLen pad = some locs ∧
      ∀ a ∈ findIntergenic start «end» genes minLen pad, ∀ (fwd : Bool) (s e : Nat),
        IsOrf (upper (strandWindow fwd (chunkOf rec a.1 a.2))) s e → minLen < orfLen s e →
        orfLoc fwd (chunkOf rec a.1 a.2).length a.1 (some (rec.length : Int)) s e ∈ locs := by
  apply all_orfs_complete_in_gaps rec false [(start, «end», genes)] minLen pad _ rfl
  intro a ha
  have := (findIntergenic_bounds («end» := «end») ha).2.1
  omega

/-! ### 5b. `find_all_orfs` on a record: the genes come from the record's own lookup -/

/-- the gap search in the words of the property ("up to the allowed overlap"): any stretch inside
    a returned area shares at most `pad` bases with every gene handed to the search — also with
    genes shorter than twice the padding -/
theorem intergenic_sound_overlap (start «end» minLen pad : Int) (genes : List Gene) (hpad : 0 ≤ pad)
    (a : Int × Int)
    (ha : a ∈ findIntergenic start «end» genes minLen pad) (g : Gene) (hg : g ∈ genes)
    (x y : Int) (hx : a.1 ≤ x) (hy : y ≤ a.2) : overlapSize g x y ≤ pad :=
  findIntergenic_overlap hpad ha hg hx hy

/-- the gap search reads `cds.location.start` / `cds.location.end` — the coordinate hull of the gene
    (`geneOf`), for a gene over the origin `0` and `len(record)` — so every area shares at most `pad` bases
    with every *exon* of every gene handed to it, wherever the exons lie inside the hull (the transcription-
    order ends `Feature.start/.end` of an origin-spanning gene would not give this) -/
theorem intergenic_sound_exons (start «end» minLen pad : Int) (genes : List Lookup.Gene) (hpad : 0 ≤ pad)
    (a : Int × Int)
    (ha : a ∈ findIntergenic start «end» (genes.map geneOf) minLen pad) (g : Lookup.Gene) (hg : g ∈ genes)
    (gp : Part) (hgp : gp ∈ g.loc.parts) (x y : Int) (hx : a.1 ≤ x) (hy : y ≤ a.2) :
    exonOverlap gp x y ≤ pad :=
  findIntergenic_exons hpad ha x y hx hy g hg gp hgp

/-- `find_all_orfs(record, area)` with the gene lists obtained the way the code obtains them —
    `record.get_cds_features()` for the whole record, `get_cds_features_within_location(area.location,
    with_overlapping=True)` (C08's model, `Lookup.within`) for an area — returns no ORF sharing more than
    `max_overlap` bases with ANY gene of the record: nested genes, genes starting before the area and
    reaching into it, whatever lies between them in the record's order.  `genes` is the record's gene
    list (in `Feature.__lt__` order, well-formed: invariants of every record, C08 `genes_stay_sorted`),
    genes of any shape — several exons, introns, running over the origin on either strand (the record lists
    those first whatever their coordinates; the gap search orders what it is given by `location.start`
    itself, fixes/D66-C15) — the bound holds exon by exon;
    the area is absent or a single stretch inside the record. -/
theorem all_orfs_avoid_every_gene (rec : Seq) (genes : List Lookup.Gene) (hs : Lookup.Sorted genes)
    (hok : Lookup.GenesOK genes) (area : Option Part) (minLen pad : Int)
    (hL : 0 < rec.length) (hpad : 0 ≤ pad) (hmin : 0 ≤ minLen)
    (harea : ∀ p, area = some p → 0 ≤ p.lo ∧ p.lo < p.hi ∧ p.hi ≤ rec.length)
    (locs : List Loc) (h : findAllOrfsRec rec genes (area.map Loc.simple) minLen pad = some locs) :
    ∀ l ∈ locs, locOverlapOk (genes.map (·.loc)) pad l = true :=
  findAllOrfsRec_overlap_linear hs hok hL hpad hmin harea h

/-- the same for an origin-crossing area `join{[a, L), [0, b)}` with `0 < b ≤ a < L`: each part's genes
    come from the lookup for that part, and every part of every ORF found (also of an ORF running over
    the origin) shares at most `max_overlap` bases with any gene of the record -/
theorem all_orfs_avoid_every_gene_crossing (rec : Seq) (genes : List Lookup.Gene) (hs : Lookup.Sorted genes)
    (hok : Lookup.GenesOK genes) (a b : Int) (s1 s2 : Strand) (minLen pad : Int)
    (hpad : 0 ≤ pad) (hmin : 0 ≤ minLen) (hb : 0 < b) (hba : b ≤ a) (haL : a < rec.length)
    (hcross : Lookup.crosses (.compound [⟨a, rec.length, s1⟩, ⟨0, b, s2⟩]) = true)
    (locs : List Loc)
    (h : findAllOrfsRec rec genes (some (.compound [⟨a, rec.length, s1⟩, ⟨0, b, s2⟩])) minLen pad = some locs) :
    ∀ l ∈ locs, locOverlapOk (genes.map (·.loc)) pad l = true :=
  findAllOrfsRec_overlap_crossing hs hok hpad hmin hb hba haL hcross h

/-- `return sorted(new_features)`: the features come back as a rearrangement of what the scans found,
    in `Feature.__lt__` order (C08's `locLt`: by start — origin-crossing locations by their negative head
    start, i.e. first — then by length); nothing is lost or invented by the sort, so every statement above
    about the locations found holds for the list returned -/
theorem all_orfs_sorted (rec : Seq) (genes : List Lookup.Gene) (area : Option Loc) (minLen pad : Int)
    (out : List Loc) (h : findAllOrfsSorted rec genes area minLen pad = some out) :
    ∃ locs, findAllOrfsRec rec genes area minLen pad = some locs ∧ out.Perm locs ∧
      out.Pairwise (fun a b => Lookup.locLt b a = false) ∧ ∀ l, l ∈ out ↔ l ∈ locs := by
  unfold findAllOrfsSorted at h
  cases hl : findAllOrfsRec rec genes area minLen pad with
  | none => rw [hl] at h; simp only [Option.map_none, reduceCtorEq] at h
  | some locs =>
    rw [hl] at h
    simp only [Option.map_some, Option.some.injEq] at h
    subst h
    exact ⟨locs, rfl, sortLocs_perm locs, sortLocs_sorted locs, fun l => (sortLocs_perm locs).mem_iff⟩

/-- `Record.get_aa_translation_from_location` refuses locations with `location.end > len(record)`; the
    locations `scan_orfs` reports on a ring never trip that guard (and have `location.start ≥ 0`) -/
theorem orf_location_inside_record (fwd : Bool) (n : Nat) (offset L : Int) (s e : Nat) (hL : 0 < L) (hs : s < e)
    (hlen : orfLen s e ≤ L) :
    0 ≤ (orfLoc fwd n offset (some L) s e).start ∧ (orfLoc fwd n offset (some L) s e).end ≤ L := by
  rw [orfLoc_ring hL hs hlen]
  exact ringLoc_start_end fwd L _ _ (Int.emod_nonneg _ (by omega)) (Int.emod_lt_of_pos _ hL) hlen

/-- the default label of `create_feature_from_location` names the ORF by its coordinates, whatever the
    strand and whatever the order of the parts: for the location `scan_orfs` reports on a ring it is
    `allorf_<first base, 1-based>_<end>` with `first = base mod L` (the lowest coordinate of the part
    that reaches the record's end, or of the single part) and `end` the end of the single part or of the
    part after the origin — the same string for a forward and a reverse ORF at the same coordinates
    (fixes/D13 kept the labels while putting reverse parts in transcription order) -/
theorem orf_label_coordinates (recLen : Nat) (fwd : Bool) (n : Nat) (offset L : Int) (s e : Nat) (hL : 0 < L)
    (hs : s < e) (hlen : orfLen s e ≤ L) :
    orfLabel recLen (orfLoc fwd n offset (some L) s e) =
      "allorf_" ++ fmtInt (toString recLen).length (orfBase fwd n offset s e % L + 1) ++ "_" ++
        fmtInt (toString recLen).length
          (if orfBase fwd n offset s e % L + orfLen s e ≤ L then orfBase fwd n offset s e % L + orfLen s e
           else orfBase fwd n offset s e % L + orfLen s e - L) := by
  rw [orfLoc_ring hL hs hlen]
  exact orfLabel_ringLoc recLen fwd L _ _

/-- in particular the label does not depend on the strand -/
theorem orf_label_strand_independent (recLen : Nat) (a c L : Int) :
    orfLabel recLen (.compound [⟨0, c, .rev⟩, ⟨a, L, .rev⟩]) =
      orfLabel recLen (.compound [⟨a, L, .fwd⟩, ⟨0, c, .fwd⟩]) := by
  simp [orfLabel, Loc.strand]

/-! ### 5c. "each with a translation matching its location" -/

/-- the regenerated Biopython codon tables 1 and 11 (the ones antiSMASH records use) translate every
    ACGT codon that is not a stop, have exactly the documented stop codons, none of them in the
    forward table, and produce none of the residues `*BJOUZ` that would be rewritten to `X` -/
theorem codon_tables_ok :
    TableOk Gen.forwardTable11 Gen.stopCodons11 ∧ TableOk Gen.forwardTable1 Gen.stopCodons1 :=
  ⟨table11_ok, table1_ok⟩

/-- for every ORF (`IsOrf`) over unambiguous upper-case DNA, the translation given to the new
    feature (`Record.get_aa_translation_from_location` to the first stop, `*BJOUZ → X`, then
    "always start with methionine") computed from the ORF's own nucleotides — which is what the
    reported location extracts to (`orf_coords_extract_*`) — is the protein it encodes: `M`, then one
    residue per codon up to the stop, the stop excluded; the fallback "go past stop codons" and the
    `X` replacement never fire -/
theorem orf_translation_matches (tbl : List (Seq × Char)) (stops : List Seq) (hok : TableOk tbl stops)
    (w : Seq) (s e : Nat) (horf : IsOrf w s e) (hacgt : ∀ c ∈ orfSeq w s e, c ∈ acgt) :
    featureTranslation tbl stops (orfSeq w s e) = some (specProtein tbl w s e) ∧
    ((specProtein tbl w s e).length : Int) * 3 + 3 = orfLen s e := by
  refine ⟨featureTranslation_orf hok horf hacgt, ?_⟩
  obtain ⟨k, rfl⟩ := horf.codons
  rw [specProtein_codons, List.length_cons, List.length_map, List.length_range, orfLen]
  omega

/-! ### 6. `get_trimmed_orf` (tree with fixes/D57: new location by C09's exon walk) -/

/-- the start chosen is a start codon of the (not upper-cased) ORF, lies in the search range
    `[max(0, n − 3⌊max/3⌋), min(n − min, include))`, is in that range's frame, and is the last such;
    hence: the trimmed length `n − k` is `> min_length` and `≤ max_length`, `k < include`, and `k`
    is in the ORF's own frame when the ORF is a whole number of codons -/
theorem trimmed_orf_start_latest (seq : Seq) (incl : Option Int) (minLen : Int) (maxLen : Option Int) (k : Nat)
    (h : trimSearch seq incl minLen maxLen = .start k) :
    isStartDoc (codonAt seq k) = true ∧ k + 3 ≤ seq.length ∧
    minLen < (seq.length : Int) - k ∧ (seq.length : Int) - k ≤ maxLen.getD seq.length ∧
    (k : Int) < incl.getD seq.length ∧
    (seq.length % 3 = 0 → k % 3 = 0) ∧
    ∀ k' : Nat, k < k' → (k' : Int) < trimHi seq.length minLen (incl.getD seq.length) →
      ((k' : Int) - trimLo seq.length (maxLen.getD seq.length)) % 3 = 0 →
      isStartDoc (codonAt seq k') = false := by
  obtain ⟨h1, h2, h3, h4, h5⟩ := trimSearch_spec h
  obtain ⟨l1, l2⟩ := trimLo_facts seq.length (maxLen.getD seq.length)
  obtain ⟨u1, u2⟩ := trimHi_le seq.length minLen (incl.getD seq.length)
  refine ⟨by rw [← isStart_eq]; exact h1, isStart_inside h1, by omega, by omega, by omega, ?_, ?_⟩
  · intro hn
    have := l2 (by omega)
    omega
  · intro k' a b c
    rw [← isStart_eq]
    exact h5 k' a b c

/-- for every gene location (any number of parts in any order, origin-crossing, either strand —
    `geneWF`): once a start is found, `get_trimmed_orf` succeeds and the new location extracts to
    the suffix of the ORF beginning at that start codon; each of its parts is a non-empty piece of
    one part of the ORF on the same strand, so the trimmed ORF stays inside the ORF's location
    (and with it inside the gap and the allowed overlap) -/
theorem trimmed_orf_suffix (recf : Int → Char) (compl : Char → Char) (l : Loc)
    (hwf : ProtDna.geneWF l = true) (incl : Option Int) (minLen : Int) (maxLen : Option Int) (k : Nat)
    (h : trimSearch (ProtDna.extract recf compl l) incl minLen maxLen = .start k) :
    ∃ r, trimmedOrf (ProtDna.extract recf compl l) l incl minLen maxLen = .found r ∧
      ProtDna.extract recf compl r = (ProtDna.extract recf compl l).drop k ∧
      (∀ q ∈ r.parts, ∃ p ∈ l.parts, p.lo ≤ q.lo ∧ q.lo < q.hi ∧ q.hi ≤ p.hi ∧ q.strand = p.strand) :=
  trimmedOrf_suffix recf compl hwf h

/-- trimming keeps an ORF clear of the genes: whatever bound on shared bases holds for the ORF
    (e.g. by `all_orfs_avoid_every_gene`) holds for its trimmed version, for every gene location -/
theorem trimmed_orf_avoids_every_gene (recf : Int → Char) (compl : Char → Char) (l : Loc)
    (hwf : ProtDna.geneWF l = true) (incl : Option Int) (minLen : Int) (maxLen : Option Int) (r : Loc)
    (h : trimmedOrf (ProtDna.extract recf compl l) l incl minLen maxLen = .found r)
    (genes : List Loc) (pad : Int) (hl : locOverlapOk genes pad l = true) :
    locOverlapOk genes pad r = true := by
  obtain ⟨k, hk, _⟩ := trimmedOrf_eq_found_iff.1 h
  obtain ⟨r', hr', _, hin⟩ := trimmedOrf_suffix recf compl hwf hk
  rw [h] at hr'
  have : r = r' := by simpa using hr'
  subst this
  exact locOverlapOk_mono hin hl

/-- …and nothing else is ever returned: a found location always comes from a found start -/
theorem trimmed_orf_found_iff (seq : Seq) (l : Loc) (incl : Option Int) (minLen : Int) (maxLen : Option Int)
    (r : Loc) (h : trimmedOrf seq l incl minLen maxLen = .found r) :
    ∃ k, trimSearch seq incl minLen maxLen = .start k ∧
      ProtDna.subLocationFromOffsets l k seq.length = .ok r :=
  trimmedOrf_eq_found_iff.1 h

/-! ### non-vacuity: concrete inputs meeting the hypotheses on which the interesting branches fire -/

/-- a window with an ORF in frame 1 preceded by an earlier start codon in the same frame after a
    stop: the first start after the previous stop is taken -/
example : scanMatches "CTAAATGGTGAAATAGC".toList 0 = [(4, 13)] := by decide +kernel
example : IsOrf "CTAAATGGTGAAATAGC".toList 4 13 := by decide +kernel
example : ¬ IsOrf "CTAAATGGTGAAATAGC".toList 7 13 := by decide +kernel
/-- `NoExactLen` is satisfiable on a window that has an ORF, and fails on the D23 witness -/
example : NoExactLen "ATGAAAAAATAA".toList 11 := by
  intro s e h; have := h.frame; have := h.lt; simp only [orfLen]; omega
example : ¬ NoExactLen "ATGAAAAAATAA".toList 12 := fun h => h 0 9 (by decide +kernel) (by decide +kernel)
/-- reverse strand across the origin (D13): ring of 60, window = revcomp(record[50:60] + record[0:8]) -/
example : scanOrfs "ATGAAACCCGGGTTTTAA".toList false (-10) 6 (some 60)
    = [.compound [⟨0, 8, .rev⟩, ⟨50, 60, .rev⟩]] := by decide +kernel
/-- an ORF covering a whole ring of 12 from offset 3 (D28) -/
example : scanOrfs "ATGAAACCCTAA".toList true 3 6 (some 12)
    = [.compound [⟨3, 12, .fwd⟩, ⟨0, 3, .fwd⟩]] := by decide +kernel
example : extract complement "TAAATGAAACCC".toList (.compound [⟨3, 12, .fwd⟩, ⟨0, 3, .fwd⟩])
    = "ATGAAACCCTAA".toList := by decide +kernel
/-- the cursor of the gap search does not move backwards (D29): genes [0,110) and [50,105), pad 10 -/
example : findIntergenic 0 300 [⟨0, 110⟩, ⟨50, 105⟩] 0 10 = [(0, 10), (100, 300)] := by decide +kernel
/-- origin-crossing area of a ring of 60 with parts [40,60) and [0,20), no genes: one joined area -/
example : crossOriginIntergenic [(40, 60, []), (0, 20, [])] 60 6 0 = some [(-20, 20)] := by decide +kernel
/-- why completeness speaks of `Beside`: a gene shorter than twice the padding has an empty core, the
    loop still cuts its areas there, and the (entirely clear) stretch [0, 200) is in no single area -/
example : findIntergenic 0 200 [⟨95, 114⟩] 0 10 = [(0, 105), (104, 200)] := by decide +kernel
/-- trimming an origin-crossing ORF (D57): ring of 30, ORF = [20,30) + [0,8), latest start at 6 -/
example : trimmedOrf "ATGAAAGTGCCCGGGTAA".toList (.compound [⟨20, 30, .fwd⟩, ⟨0, 8, .fwd⟩]) none 0 none
    = .found (.compound [⟨26, 30, .fwd⟩, ⟨0, 8, .fwd⟩]) := by decide +kernel
/-- a long gene [0,20) reaching into the area [8,30) with a short gene [2,5) nested in it that ends before
    the area (the layout on which a look-back that stops at the first earlier gene ending before the
    area loses the long gene): the lookup finds the long gene, the ORF at [10,19) inside it is not
    reported, the one at [21,30) in the gap is -/
example : (Lookup.within [⟨0, .simple ⟨0, 20, .fwd⟩, []⟩, ⟨1, .simple ⟨2, 5, .rev⟩, []⟩]
    (.simple ⟨8, 30, .fwd⟩) true).map geneOf = [⟨0, 20⟩] := by decide +kernel
example : findAllOrfsRec "CCCCCCCCCCATGAAATAACCATGCCCTAA".toList
    [⟨0, .simple ⟨0, 20, .fwd⟩, []⟩, ⟨1, .simple ⟨2, 5, .rev⟩, []⟩] (some (.simple ⟨8, 30, .fwd⟩)) 6 0
    = some [.simple ⟨21, 30, .fwd⟩] := by decide +kernel
/-- GTG start, four codons, stop: the feature's translation is M K P G -/
example : featureTranslation Gen.forwardTable11 Gen.stopCodons11 "GTGAAACCCGGGTAA".toList = some "MKPG".toList := by decide +kernel
example : specProtein Gen.forwardTable11 "CCGTGAAACCCGGGTAAC".toList 2 14 = "MKPG".toList := by decide +kernel
/-- a ring of 30 with a gene over the origin, join{[24,30),[0,12)}: its hull is the whole record, it is found
    by the lookup for the area [1,20), and the ORF at [2,11) inside it is reported neither by the whole-record
    search nor by the area search -/
example : (Lookup.within [⟨0, .compound [⟨24, 30, .fwd⟩, ⟨0, 12, .fwd⟩], []⟩] (.simple ⟨1, 20, .fwd⟩) true).map geneOf
    = [⟨0, 30⟩] := by decide +kernel
example : findAllOrfsRec "CCATGAAATAACCCCCCCCCCCCCCCCCCC".toList
    [⟨0, .compound [⟨24, 30, .fwd⟩, ⟨0, 12, .fwd⟩], []⟩] none 6 0 = some [] := by decide +kernel
example : findAllOrfsRec "CCATGAAATAACCCCCCCCCCCCCCCCCCC".toList
    [⟨0, .compound [⟨24, 30, .fwd⟩, ⟨0, 12, .fwd⟩], []⟩] (some (.simple ⟨1, 20, .fwd⟩)) 6 0 = some [] := by decide +kernel
example : findAllOrfsRec "CCATGAAATAACCCCCCCCCCCCCCCCCCC".toList [] none 6 0 = some [.simple ⟨2, 11, .fwd⟩] := by decide +kernel
/-- D66-C15: an origin-spanning gene whose hull does not begin at 0 — join{[90,100),[20,40)} — is listed first by
    the record; ordered by start, the gene [0,15) still blocks its stretch -/
example : findIntergenic 0 100 [⟨20, 100⟩, ⟨0, 15⟩] 6 0 = [] := by decide +kernel
/-- the returned order: the reverse-strand ORF over the origin sorts first, whatever its coordinates -/
example : sortLocs [.simple ⟨5, 20, .fwd⟩, .compound [⟨0, 8, .rev⟩, ⟨50, 60, .rev⟩], .simple ⟨2, 11, .fwd⟩]
    = [.compound [⟨0, 8, .rev⟩, ⟨50, 60, .rev⟩], .simple ⟨2, 11, .fwd⟩, .simple ⟨5, 20, .fwd⟩] := by decide +kernel
/-- labels: zero-padded to the digits of the record length, 1-based start; reverse wrapped = forward wrapped -/
example : orfLabel 60 (.simple ⟨3, 18, .fwd⟩) = "allorf_04_18" := by decide +kernel
example : orfLabel 60 (.compound [⟨0, 8, .rev⟩, ⟨50, 60, .rev⟩]) = "allorf_51_08" := by decide +kernel
example : sortedByStart [⟨0, 110⟩, ⟨50, 105⟩] := (sortedByStartB_iff _).1 (by decide +kernel)

end ASV.C15
