/-
  C05: the `bisect - 1` window and the early `break` of `_find_hybrids` lose no protocluster whose
  core lies inside a hybrid group's connected core — on a linear record, and on a circular one when
  the protoclusters that share with nobody have single-part cores.
-/
import ASV.Proofs.Total
import ASV.Proofs.RingFacts
import ASV.Proofs.Bisect
namespace ASV.CC
open ASV.CC.Spec

theorem getD_lt (a : List Int) (j : Nat) (h : j < a.length) : a.getD j 0 = a[j] := by
  simp [List.getD, h]

theorem bisectLeft_go_eq_loop (a : List Int) (x : Int) : ∀ (fuel lo hi : Nat), hi ≤ a.length →
    bisectLeft.go a x fuel lo hi = Bisect.loop (fun y => decide (y < x)) a fuel lo hi
  | 0, _, _, _ => rfl
  | fuel + 1, lo, hi, h => by
    rw [bisectLeft.go, Bisect.loop]
    by_cases hlt : lo < hi
    · have hm : (lo + hi) / 2 < a.length := by omega
      simp only [if_pos hlt, List.getElem?_eq_getElem hm, getD_lt a _ hm, decide_eq_true_eq]
      split
      · exact bisectLeft_go_eq_loop a x fuel _ hi h
      · exact bisectLeft_go_eq_loop a x fuel lo _ (by omega)
    · simp only [if_neg hlt]

theorem bisectLeft_partitioned (a : List Int) (x : Int) (hs : a.Pairwise (· ≤ ·)) :
    Bisect.PartitionedAt (fun y => decide (y < x)) a (bisectLeft a x) := by
  have hp := Bisect.partitioned_takeWhile (fun y => decide (y < x)) a
    (Bisect.dropWhile_fails _ hs fun a _ b _ hab ha => by simp only [decide_eq_false_iff_not] at ha ⊢; omega)
  have : bisectLeft a x = (a.takeWhile fun y => decide (y < x)).length := by
    rw [bisectLeft, bisectLeft_go_eq_loop a x _ _ _ (Nat.le_refl _)]
    exact Bisect.loop_eq _ a _ hp _ 0 _ (Nat.zero_le _) hp.1 (Nat.le_refl _) (by omega)
  rw [this]; exact hp

theorem bisectLeft_spec (a : List Int) (x : Int) (hs : a.Pairwise (· ≤ ·)) :
    ∀ j, j < bisectLeft a x → j < a.length → a.getD j 0 < x := by
  intro j hj hja
  rw [getD_lt a j hja]
  simpa using (bisectLeft_partitioned a x hs).2.1 j a[j] (List.getElem?_eq_getElem hja) hj

/-- the core is one non-empty part that does not start before the extent -/
def ValidCore (p : Proto) : Prop := ∃ r, p.core = .simple r ∧ r.lo < r.hi ∧ p.loc.start ≤ r.lo

theorem featStart_simple (r : Part) : featStart (.simple r) = r.lo := by
  simp only [featStart, Loc.parts, Loc.strand]
  by_cases h : (r.strand != Strand.rev) = true
  · simp [h]
  · simp [h]

theorem contains_simple (k r : Part) : locationContainsOther (.simple k) (.simple r) = true ↔ k.lo ≤ r.lo ∧ r.lo ≤ r.hi ∧ r.hi ≤ k.hi := by
  simp only [locationContainsOther, Loc.parts, List.all_cons, List.all_nil, List.any_cons, List.any_nil,
    Bool.or_false, Bool.and_true, partContains, Bool.and_eq_true, decide_eq_true_eq, and_assoc]

/-- a scan that never breaks tests every protocluster of the list -/
theorem scanContained_nobreak (core : Loc) (limit : Int) (g l : List Proto) (hnb : ∀ c, c ∈ l → ¬ c.loc.start > limit) :
    ∀ p, p ∈ l → locationContainsOther core p.core = true → p ∈ scanContained core limit g l := by
  intro p hp hcont
  exact mem_scanContained.2 (Or.inr ⟨mem_takeWhile_of_sorted (key := fun _ => 0)
    (List.pairwise_of_forall fun _ _ => Int.le_refl _) hp fun c hc _ => by simpa using hnb c hc, hcont⟩)

/-- the scan with its early `break` is complete on a list ascending by core start: whatever stands
    before a protocluster inside `k` starts before `k` ends -/
theorem scanContained_complete (k : Part) (g l : List Proto)
    (hs : SortedBy (fun p : Proto => p.core.start) l) (hv : ∀ p, p ∈ l → ValidCore p) :
    ∀ p, p ∈ l → locationContainsOther (.simple k) p.core = true → p ∈ scanContained (.simple k) k.hi g l := by
  intro p hp hcont
  obtain ⟨r, hr, hne, hlr⟩ := hv p hp
  have hk := (contains_simple k r).1 (by rw [← hr]; exact hcont)
  refine mem_scanContained.2 (Or.inr ⟨mem_takeWhile_of_sorted hs hp fun c hc h1 => ?_, hcont⟩)
  obtain ⟨rc, hrc, _, hlc⟩ := hv c hc
  rw [hr, hrc] at h1
  simp only [Loc.start] at h1
  have : ¬ c.loc.start > k.hi := by omega
  simpa using this

/-- a list ascending by `core.start` has ascending `core_start`s (they agree on single-part cores) -/
theorem coreStarts_ascending {l : List Proto} (hs : SortedBy (fun p : Proto => p.core.start) l)
    (hv : ∀ p, p ∈ l → ValidCore p) : (l.map coreStart).Pairwise (· ≤ ·) := by
  rw [List.pairwise_map]
  refine hs.imp_of_mem ?_
  intro a b ha hb hab
  obtain ⟨ra, hra, _, _⟩ := hv a ha
  obtain ⟨rb, hrb, _, _⟩ := hv b hb
  simp only [coreStart, hra, hrb, featStart_simple]
  simp only [hra, hrb, Loc.start] at hab
  exact hab

/-- with a single-part group core `k`, the `bisect − 1` window and the scan up to `k`'s end lose no
    protocluster whose core lies inside `k` -/
theorem window_complete (k : Part) (m : List Proto) {byCore : List Proto}
    (hs : SortedBy (fun p : Proto => p.core.start) byCore) (hv : ∀ p, p ∈ byCore → ValidCore p) :
    ∀ p, p ∈ byCore → locationContainsOther (.simple k) p.core = true →
      p ∈ scanContained (.simple k) k.hi m
        (byCore.drop (max 0 (Int.ofNat (bisectLeft (byCore.map coreStart) k.lo) - 1)).toNat) := by
  intro p hp hcont
  have hstarts := coreStarts_ascending hs hv
  obtain ⟨r, hr, hne, _⟩ := hv p hp
  have hk' := (contains_simple k r).1 (by rw [← hr]; exact hcont)
  -- `p` is not in the skipped prefix
  have hp' := hp
  rw [← List.take_append_drop ((max 0 (Int.ofNat (bisectLeft (byCore.map coreStart) k.lo) - 1)).toNat) byCore] at hp'
  rcases List.mem_append.1 hp' with h1 | h1
  · exfalso
    obtain ⟨j, hj, e⟩ := List.mem_take_iff_getElem.1 h1
    have hjlen : j < byCore.length := by omega
    have hjb : j < bisectLeft (byCore.map coreStart) k.lo := by
      simp only [Int.ofNat_eq_natCast] at hj
      omega
    have := bisectLeft_spec (byCore.map coreStart) k.lo hstarts j hjb (by simpa using hjlen)
    rw [getD_lt _ j (by simpa using hjlen), List.getElem_map, e] at this
    simp only [coreStart, hr, featStart_simple] at this
    omega
  · exact scanContained_complete k m _ (hs.sublist (List.drop_sublist _ _))
      (fun q hq => hv q (List.mem_of_mem_drop hq)) p h1 hcont

/-- a group whose connected core is a single part `k`, on any record: what `extendGroup` adds is complete -/
theorem extendGroup_complete_simple {wrap : Option Int} {byCore m e : List Proto} {k : Part}
    (hc : connect (m.map (·.core)) wrap = .ok (.simple k)) (h : extendGroup wrap byCore m = .ok e)
    (hs : SortedBy (fun p : Proto => p.core.start) byCore) (hv : ∀ p, p ∈ byCore → ValidCore p) :
    ∀ p, p ∈ byCore → locationContainsOther (.simple k) p.core = true → p ∈ e := by
  unfold extendGroup at h
  rw [hc] at h
  dsimp only at h
  injection h with h
  simp only [Loc.parts, List.length_singleton, Nat.lt_irrefl, if_false, Loc.end, Loc.start] at h
  subst h
  exact window_complete k m hs hv

theorem extendGroup_complete {byCore m e : List Proto} (h : extendGroup none byCore m = .ok e)
    (hm : m ≠ []) (hmc : ∀ x, x ∈ m → ∃ r, x.core = .simple r)
    (hs : SortedBy (fun p : Proto => p.core.start) byCore) (hv : ∀ p, p ∈ byCore → ValidCore p) :
    ∃ core, connect (m.map (·.core)) none = .ok core ∧
      ∀ p, p ∈ byCore → locationContainsOther core p.core = true → p ∈ e := by
  have hls : ∀ l, l ∈ m.map (·.core) → ∃ q, l = .simple q := by
    intro l hl
    obtain ⟨x, hx, e⟩ := List.mem_map.1 hl
    obtain ⟨r, hr⟩ := hmc x hx
    exact ⟨r, by rw [← e, hr]⟩
  have hc := connect_simple_ok (by simpa using hm) hls
  exact ⟨_, hc, extendGroup_complete_simple hc h hs hv⟩

/-- every hybrid group is a sharing class plus **exactly** the protoclusters that share with nobody
    and whose core lies inside the class's connected core — for any record on which the containment
    scan of one group (`extendGroup`) is complete (`hX`; shown below for linear and for circular records) -/
theorem findHybrids_complete_gen {clusters : List Proto} {wrap : Option Int} {hg : List (List Proto)} {un : List Proto}
    (h : findHybrids clusters wrap = .ok (hg, un)) (hn : clusters.Nodup)
    (hX : ∀ (byCore m e : List Proto), extendGroup wrap byCore m = .ok e → m ≠ [] → (∀ x, x ∈ m → x ∈ clusters) →
      SortedBy (fun p : Proto => p.core.start) byCore →
      (∀ q, q ∈ byCore → q ∈ clusters ∧ ∀ z, z ∈ clusters → z ≠ q → shares q z = false) →
      ∃ core, connect (m.map (·.core)) wrap = .ok core ∧
        ∀ p, p ∈ byCore → locationContainsOther core p.core = true → p ∈ e) :
    ∀ g, g ∈ hg → ∃ (m : List Proto) (core : Loc), (∀ x, x ∈ m → x ∈ g) ∧ 2 ≤ m.length ∧
        (∀ a b, a ∈ m → b ∈ m → Linked (shareGroups clusters) a b) ∧
        connect (m.map (·.core)) wrap = .ok core ∧
        ∀ p, p ∈ clusters → (∀ q, q ∈ clusters → q ≠ p → shares p q = false) →
          (p ∈ g ↔ locationContainsOther core p.core = true) := by
  obtain ⟨extended, hext, rfl, rfl⟩ := findHybrids_stages h
  intro g hg
  obtain ⟨e, he, rfl⟩ := List.mem_map.1 hg
  obtain ⟨m, hm, hme⟩ := extendGroups_rel hext e he
  obtain ⟨_, hm2, hmfrom⟩ := hybridClasses_wf hn m hm
  have hmne : m ≠ [] := fun e0 => by rw [e0] at hm2; exact absurd hm2 (by decide)
  -- what is left for the scan shares with nobody
  have hbyCoreUn : ∀ q, q ∈ sortBy coreStartLt (clusters.filter fun c => !(hybridPairs clusters).flatten.contains c) →
      q ∈ clusters ∧ ∀ z, z ∈ clusters → z ≠ q → shares q z = false := by
    intro q hq
    obtain ⟨hqc, hqn⟩ := List.mem_filter.1 ((mem_sortBy _ _ _).1 hq)
    exact ⟨hqc, (unpaired_iff hn hqc).1 (by simpa using hqn)⟩
  obtain ⟨core, hcore, hcomp⟩ := hX _ m e hme hmne hmfrom
    (sortBy_sorted (fun p : Proto => p.core.start) _) hbyCoreUn
  obtain ⟨core', hcore', hfrom⟩ := extendGroup_from hme
  have hcc : core' = core := by rw [hcore] at hcore'; injection hcore' with e0; exact e0.symm
  subst hcc
  refine ⟨m, core', fun x hx => mem_sortProtos.2 (extendGroup_sub hme x hx), hm2,
    fun a b ha hb => (mergeSets_hybridPairs hn a b).1 ⟨m, hm, ha, hb⟩,
    hcore, ?_⟩
  intro p hp hnos
  -- `p` shares with nobody, so it is in no pair and stays in the list that is scanned
  have hnotpaired : p ∉ (hybridPairs clusters).flatten := (unpaired_iff hn hp).2 hnos
  have hpby : p ∈ sortBy coreStartLt (clusters.filter fun c => !(hybridPairs clusters).flatten.contains c) :=
    (mem_sortBy _ _ _).2 (List.mem_filter.2 ⟨hp, by simpa using hnotpaired⟩)
  constructor
  · intro hpg
    rcases hfrom p (mem_sortProtos.1 hpg) with h1 | ⟨_, h2⟩
    · obtain ⟨g0, hg0, hp0⟩ := mergeSets_from hm p h1
      exact absurd (List.mem_flatten.2 ⟨g0, hg0, hp0⟩) hnotpaired
    · exact h2
  · intro hcont
    exact mem_sortProtos.2 (hcomp p hpby hcont)

theorem findHybrids_complete_linear {clusters : List Proto} {hg : List (List Proto)} {un : List Proto}
    (h : findHybrids clusters none = .ok (hg, un)) (hn : clusters.Nodup) (hv : ∀ p, p ∈ clusters → ValidCore p) :
    ∀ g, g ∈ hg → ∃ (m : List Proto) (core : Loc), (∀ x, x ∈ m → x ∈ g) ∧ 2 ≤ m.length ∧
        (∀ a b, a ∈ m → b ∈ m → Linked (shareGroups clusters) a b) ∧
        connect (m.map (·.core)) none = .ok core ∧
        ∀ p, p ∈ clusters → (∀ q, q ∈ clusters → q ≠ p → shares p q = false) →
          (p ∈ g ↔ locationContainsOther core p.core = true) := by
  apply findHybrids_complete_gen h hn
  intro byCore m e hme hmne hmfrom hs hby
  exact extendGroup_complete hme hmne
    (fun x hx => by obtain ⟨r, hr, _⟩ := hv x (hmfrom x hx); exact ⟨r, hr⟩) hs
    (fun q hq => hv q (hby q hq).1)

/-! ### the containment scan on a circular record

When the protoclusters that share with nobody have single-part cores (no origin-spanning core among
them), the `bisect − 1` window, the early `break` and the second scan for an origin-spanning group
core lose none of them. -/

/-- nothing sorts before the value: the insertion point is the front -/
theorem bisectLeft_zero (a : List Int) (x : Int) (hs : a.Pairwise (· ≤ ·)) (h : ∀ y, y ∈ a → x ≤ y) :
    bisectLeft a x = 0 := by
  have hp := bisectLeft_partitioned a x hs
  refine Nat.eq_zero_of_not_pos fun hpos => ?_
  have h0 : 0 < a.length := Nat.lt_of_lt_of_le hpos hp.1
  have h1 := hp.2.1 0 a[0] (List.getElem?_eq_getElem h0) hpos
  have := h a[0] (List.getElem_mem h0)
  simp only [decide_eq_true_eq] at h1
  omega

/-- on a circular record of length `L` the scan of one group loses no protocluster whose core lies inside
    the group's connected core -/
theorem extendGroup_complete_ring {L : Int} (hL : 0 < L) {byCore m e : List Proto}
    (h : extendGroup (some L) byCore m = .ok e) (hm : m ≠ []) (hmc : ∀ x, x ∈ m → RingIn L x.core)
    (hs : SortedBy (fun p : Proto => p.core.start) byCore)
    (hv : ∀ p, p ∈ byCore → ValidCore p ∧ RingIn L p.core) :
    ∃ core, connect (m.map (·.core)) (some L) = .ok core ∧
      ∀ p, p ∈ byCore → locationContainsOther core p.core = true → p ∈ e := by
  obtain ⟨core, hc, hwf, hsh, _⟩ := connect_ring_ok (m.map (·.core)) L (by simpa using hm) hL
    (fun l hl => by obtain ⟨x, hx, e⟩ := List.mem_map.1 hl; rw [← e]; exact hmc x hx)
  refine ⟨core, hc, ?_⟩
  have hstarts := coreStarts_ascending hs (fun p hp => (hv p hp).1)
  have hinside : ∀ p, p ∈ byCore → ∃ r, p.core = .simple r ∧ 0 ≤ r.lo ∧ r.lo < r.hi ∧ r.hi ≤ L ∧ p.loc.start ≤ r.lo := by
    intro p hp
    obtain ⟨⟨r, hr, h1, h2⟩, ⟨_, hin, _⟩⟩ := hv p hp
    have := hin r (by rw [hr]; simp [Loc.parts])
    exact ⟨r, hr, this.1, h1, this.2.2, h2⟩
  rcases hsh with ⟨k, rfl⟩ | ⟨a, b, rfl⟩
  · exact extendGroup_complete_simple hc h hs (fun p hp => (hv p hp).1)
  · -- an origin-spanning group core `[a, L) + [0, b)`: its start is 0, nothing is skipped, and the
    -- first scan (limit `L`) never breaks
    unfold extendGroup at h
    rw [hc] at h
    dsimp only at h
    injection h with h
    simp only [areaWF, Loc.parts, Bool.and_eq_true, decide_eq_true_eq] at hwf
    have hstart : (Loc.compound [⟨a, L, .fwd⟩, ⟨0, b, .fwd⟩]).start = 0 := by
      simp only [Loc.start, List.map, minList, List.foldl]
      omega
    have hend : (Loc.compound [⟨a, L, .fwd⟩, ⟨0, b, .fwd⟩]).end = L := by
      simp only [Loc.end, List.map, maxList, List.foldl]
      omega
    have hb0 : bisectLeft (byCore.map coreStart) 0 = 0 := by
      apply bisectLeft_zero _ _ hstarts
      intro y hy
      obtain ⟨p, hp, e⟩ := List.mem_map.1 hy
      obtain ⟨r, hr, h0, _⟩ := hinside p hp
      rw [← e]
      simp only [coreStart, hr, featStart_simple]
      exact h0
    rw [hstart, hend, hb0] at h
    simp only [Loc.parts, List.length_cons, List.length_nil] at h
    subst h
    intro p hp hcont
    have hnb : ∀ c, c ∈ byCore → ¬ c.loc.start > L := by
      intro c hc
      obtain ⟨r, _, _, _, _, _⟩ := hinside c hc
      omega
    have hfirst : p ∈ scanContained (Loc.compound [⟨a, L, .fwd⟩, ⟨0, b, .fwd⟩]) L m byCore :=
      scanContained_nobreak _ L m byCore hnb p hp hcont
    have hidx : (max 0 (Int.ofNat 0 - 1)).toNat = 0 := by decide
    rw [hidx, List.drop_zero]
    -- the core has two parts: the second scan keeps what the first found
    exact mem_scanContained.2 (Or.inl hfirst)

/-- circular records: every hybrid group is a sharing class plus **exactly** the protoclusters that
    share with nobody and whose core lies inside the class's connected core, provided the
    protoclusters that share with nobody have single-part cores -/
theorem findHybrids_complete_ring {L : Int} (hL : 0 < L) {clusters : List Proto} {hg : List (List Proto)} {un : List Proto}
    (h : findHybrids clusters (some L) = .ok (hg, un)) (hn : clusters.Nodup)
    (hv1 : ∀ p, p ∈ clusters → RingIn L p.core)
    (hv2 : ∀ p, p ∈ clusters → (∀ q, q ∈ clusters → q ≠ p → shares p q = false) → ValidCore p) :
    ∀ g, g ∈ hg → ∃ (m : List Proto) (core : Loc), (∀ x, x ∈ m → x ∈ g) ∧ 2 ≤ m.length ∧
        (∀ a b, a ∈ m → b ∈ m → Linked (shareGroups clusters) a b) ∧
        connect (m.map (·.core)) (some L) = .ok core ∧
        ∀ p, p ∈ clusters → (∀ q, q ∈ clusters → q ≠ p → shares p q = false) →
          (p ∈ g ↔ locationContainsOther core p.core = true) := by
  apply findHybrids_complete_gen h hn
  intro byCore m e hme hmne hmfrom hs hby
  exact extendGroup_complete_ring hL hme hmne (fun x hx => hv1 x (hmfrom x hx)) hs
    (fun q hq => ⟨hv2 q (hby q hq).1 (hby q hq).2, hv1 q (hby q hq).1⟩)

end ASV.CC
