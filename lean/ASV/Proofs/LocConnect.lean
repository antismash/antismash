/-
  `connect_locations` on a linear record returns the hull (C04); maxima of lists, the common strand, and the
  span a location that does not bridge the origin is reduced to.
-/
import ASV.Proofs.Loc
import ASV.Proofs.Base.Except
import ASV.Model.LocOps
namespace ASV


/-- concrete runs of the model are checked through this, so that the kernel evaluates them once and the elaborator
    not at all -/
theorem eq_ok_of_toOption {α : Type} {e : E α} {x : α} (h : e.toOption = some x) : e = .ok x :=
  Base.eq_ok_of_toOption h

theorem foldl_max_ge_init (l : List Int) (x : Int) : x ≤ l.foldl max x := by
  induction l generalizing x with
  | nil => simp
  | cons y ys ih => simp only [List.foldl_cons]; exact Int.le_trans (Int.le_max_left _ _) (ih _)

theorem foldl_max_ge_mem (l : List Int) (x y : Int) (hy : y ∈ l) : y ≤ l.foldl max x := by
  induction l generalizing x with
  | nil => cases hy
  | cons z zs ih =>
    simp only [List.foldl_cons]
    rcases List.mem_cons.1 hy with rfl | h
    · exact Int.le_trans (Int.le_max_right _ _) (foldl_max_ge_init _ _)
    · exact ih _ h

theorem foldl_max_mem (l : List Int) (x : Int) : l.foldl max x = x ∨ l.foldl max x ∈ l := by
  induction l generalizing x with
  | nil => simp
  | cons z zs ih =>
    simp only [List.foldl_cons]
    rcases ih (max x z) with h | h
    · rw [h]
      rcases Int.le_total x z with hxz | hxz
      · right; rw [Int.max_eq_right hxz]; simp
      · left; exact Int.max_eq_left hxz
    · right; exact List.mem_cons_of_mem _ h

theorem le_maxList_of_mem {l : List Int} {y : Int} (hy : y ∈ l) : y ≤ maxList l := by
  cases l with
  | nil => cases hy
  | cons x xs =>
    simp only [maxList]
    rcases List.mem_cons.1 hy with rfl | h
    · exact foldl_max_ge_init _ _
    · exact foldl_max_ge_mem _ _ _ h

theorem maxList_mem {l : List Int} (h : l ≠ []) : maxList l ∈ l := by
  cases l with
  | nil => exact absurd rfl h
  | cons x xs =>
    simp only [maxList]
    rcases foldl_max_mem xs x with h | h
    · rw [h]; simp
    · exact List.mem_cons_of_mem _ h

theorem minList_perm {l₁ l₂ : List Int} (h : l₁.Perm l₂) : minList l₁ = minList l₂ := by
  by_cases hn : l₁ = []
  · subst hn; rw [List.nil_perm.1 h]
  · have hn2 : l₂ ≠ [] := fun e => hn (by subst e; exact List.perm_nil.1 h)
    have a := minList_le_of_mem (h.mem_iff.2 (minList_mem hn2))
    have b := minList_le_of_mem (h.mem_iff.1 (minList_mem hn))
    omega

theorem maxList_perm {l₁ l₂ : List Int} (h : l₁.Perm l₂) : maxList l₁ = maxList l₂ := by
  by_cases hn : l₁ = []
  · subst hn; rw [List.nil_perm.1 h]
  · have hn2 : l₂ ≠ [] := fun e => hn (by subst e; exact List.perm_nil.1 h)
    have a := le_maxList_of_mem (h.mem_iff.2 (maxList_mem hn2))
    have b := le_maxList_of_mem (h.mem_iff.1 (maxList_mem hn))
    omega

/-- `commonStrand` does not depend on which element is taken as the reference -/
theorem commonStrand_eq_of_mem (ls : List Loc) (x : Loc) (hx : x ∈ ls) :
    commonStrand ls = if ls.all (·.strand == x.strand) then x.strand else .none := by
  cases ls with
  | nil => cases hx
  | cons l rest =>
    simp only [commonStrand, List.all_cons]
    by_cases hall : rest.all (·.strand == l.strand) = true
    · -- everything equals l.strand, in particular x
      have hxl : x.strand = l.strand := by
        rcases List.mem_cons.1 hx with rfl | h
        · rfl
        · rw [List.all_eq_true] at hall; simpa using hall x h
      simp only [hall, if_true, hxl, beq_self_eq_true, Bool.true_and]
    · simp only [hall, Bool.false_eq_true, if_false]
      by_cases h2 : (l.strand == x.strand && rest.all fun y => y.strand == x.strand) = true
      · -- all equal x.strand including l → all equal l.strand: contradiction
        exfalso; apply hall
        simp only [Bool.and_eq_true, beq_iff_eq, List.all_eq_true] at h2 ⊢
        intro y hy; rw [h2.2 y hy, h2.1]
      · simp only [h2, Bool.false_eq_true, if_false]

theorem commonStrand_perm {l₁ l₂ : List Loc} (h : l₁.Perm l₂) : commonStrand l₁ = commonStrand l₂ := by
  cases l₁ with
  | nil => rw [List.nil_perm.1 h]
  | cons x xs =>
    rw [commonStrand_eq_of_mem (x :: xs) x (by simp), commonStrand_eq_of_mem l₂ x (h.mem_iff.1 (by simp))]
    have : (x :: xs).all (·.strand == x.strand) = l₂.all (·.strand == x.strand) := by
      rw [Bool.eq_iff_iff, List.all_eq_true, List.all_eq_true]
      exact ⟨fun hh y hy => hh y (h.mem_iff.2 hy), fun hh y hy => hh y (h.mem_iff.1 hy)⟩
    rw [this]


/-- the span a non-bridging location is reduced to -/
def Loc.span (l : Loc) : Loc := .simple ⟨l.start, l.end, l.strand⟩

theorem reduceParts_nonbridging (l : Loc) (hne : l.parts ≠ []) (hb : bridgesOrigin l = false) (w : Option Int) :
    reduceParts l.parts w = .ok l.span := by
  cases l with
  | simple p => cases p; simp [Loc.parts, reduceParts, Loc.span, Loc.start, Loc.end, Loc.strand, pure, Except.pure]
  | compound ps =>
    match ps, hne with
    | [p], _ => cases p; simp [Loc.parts, reduceParts, Loc.span, Loc.start, Loc.end, Loc.strand, minList, maxList, pure, Except.pure]
    | p :: q :: rest, _ =>
      simp only [Loc.parts, reduceParts, hb, Bool.false_eq_true, if_false, Loc.span]
      rfl

theorem mapM_reduce (ls : List Loc) (w : Option Int)
    (h : ∀ l ∈ ls, l.parts ≠ [] ∧ bridgesOrigin l = false) :
    ls.mapM (fun l => reduceParts l.parts w) = .ok (ls.map Loc.span) := by
  induction ls with
  | nil => rfl
  | cons l ls ih =>
    rw [List.mapM_cons, reduceParts_nonbridging l (h l (by simp)).1 (h l (by simp)).2 w,
      ih (fun x hx => h x (List.mem_cons_of_mem _ hx))]
    rfl

theorem commonStrand_span (ls : List Loc) : commonStrand (ls.map Loc.span) = commonStrand ls := by
  cases ls with
  | nil => rfl
  | cons l ls => simp [commonStrand, Loc.span, Loc.strand, List.all_map]

theorem isEmpty_false_of_ne {α : Type} {l : List α} (h : l ≠ []) : l.isEmpty = false := by
  cases l with
  | nil => exact absurd rfl h
  | cons _ _ => rfl

/-- `connect_locations(locations)` without a wrap point: the hull (any positive recursion budget) -/
theorem connectLocations_line (f : Nat) (ls : List Loc) (hne : ls ≠ [])
    (h : ∀ l ∈ ls, l.parts ≠ [] ∧ bridgesOrigin l = false) :
    connectLocations (f + 1) ls none = .ok (hullOf ls) := by
  have hany : ls.any bridgesOrigin = false := by
    rw [List.any_eq_false]; intro l hl; simp [(h l hl).2]
  have hemp : ls.isEmpty = false := isEmpty_false_of_ne hne
  simp only [connectLocations, hemp, hany, Bool.false_eq_true, if_false, Bool.false_and]
  rw [mapM_reduce ls none h]
  have e1 : (ls.map Loc.span).map (·.start) = ls.map (·.start) := by
    rw [List.map_map]; rfl
  have e2 : (ls.map Loc.span).map (·.end) = ls.map (·.end) := by
    rw [List.map_map]; rfl
  show Except.ok (hullOf (ls.map Loc.span)) = _
  simp only [hullOf, commonStrand_span, e1, e2]

/-- on a linear record `connect_locations` returns exactly the hull -/
theorem connect_line (ls : List Loc) (hne : ls ≠ [])
    (h : ∀ l ∈ ls, l.parts ≠ [] ∧ bridgesOrigin l = false) :
    connect ls none = .ok (.simple ⟨minList (ls.map (·.start)), maxList (ls.map (·.end)), commonStrand ls⟩) :=
  connectLocations_line 3 ls hne h

theorem start_le_part (l : Loc) (p : Part) (hp : p ∈ l.parts) : l.start ≤ p.lo ∧ p.hi ≤ l.end := by
  cases l with
  | simple q => simp [Loc.parts] at hp; subst hp; simp [Loc.start, Loc.end]
  | compound ps =>
    simp only [Loc.parts] at hp
    exact ⟨minList_le_of_mem (List.mem_map.2 ⟨p, hp, rfl⟩), le_maxList_of_mem (List.mem_map.2 ⟨p, hp, rfl⟩)⟩

end ASV
