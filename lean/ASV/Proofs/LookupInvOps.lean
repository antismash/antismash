/-
  The clearing calls, the observing calls and annotation rewrites preserve the
  invariant; the observing calls return the live values, never a stale cache.
-/
import ASV.Proofs.LookupInvAdd
namespace ASV.Lookup
open ASV

/-- two states with the same bookkeeping (everything but caches and log) -/
structure CoreEq (r r' : Rec) : Prop where
  len : r'.len = r.len
  genes : r'.genes = r.genes
  byName : r'.byName = r.byName
  byLoc : r'.byLoc = r.byLoc
  regions : r'.regions = r.regions
  protos : r'.protos = r.protos
  cands : r'.cands = r.cands
  subs : r'.subs = r.subs
  members : r'.members = r.members
  sections : r'.sections = r.sections
  defs : r'.defs = r.defs
  regionOf : r'.regionOf = r.regionOf

/-- a state that differs from `r` in caches and log only -/
theorem CoreEq.caches (r : Rec) (cc : List Gene) (cd : Bool) (cl : List Nat) (sc : List (Nat × Section))
    (sv : List ((Nat × Section) × List Nat)) (tv : List (Nat × List (List Nat))) (lg : List (List (List Nat))) :
    CoreEq r { r with cdsCache := cc, cdsCacheDirty := cd, clean := cl, slotClean := sc, slotVal := sv, tupleVal := tv,
                      log := lg } :=
  ⟨rfl, rfl, rfl, rfl, rfl, rfl, rfl, rfl, rfl, rfl, rfl, rfl⟩

/-- … and every such pair of states is of that form -/
theorem CoreEq.exists_caches {r r' : Rec} (e : CoreEq r r') : ∃ cc cd cl sc sv tv lg,
    r' = { r with cdsCache := cc, cdsCacheDirty := cd, clean := cl, slotClean := sc, slotVal := sv, tupleVal := tv,
                  log := lg } := by
  refine ⟨r'.cdsCache, r'.cdsCacheDirty, r'.clean, r'.slotClean, r'.slotVal, r'.tupleVal, r'.log, ?_⟩
  cases r
  cases r'
  cases e
  simp_all

/-- the bookkeeping part of the invariant does not read caches or log -/
theorem InvCore.congr {S : Prop} {L : Live} {ever : List AreaT} {r r' : Rec} (h : InvCore S L ever r) (e : CoreEq r r') :
    InvCore S L ever r' := by
  obtain ⟨cc, cd, cl, sc, sv, tv, lg, rfl⟩ := e.exists_caches
  exact ⟨h.genesLive, h.regionsEq, h.protosEq, h.candsEq, h.subsEq, h.liveEver, h.sorted, h.ok, h.ids, h.byName, h.byLoc,
    h.areasOK, h.kindsR, h.kindsO, h.disjoint, h.membersSound, h.membersComplete, h.sectionsSound, h.sectionsComplete,
    h.cover, h.defsSub, h.defsSound, h.defsComplete, h.regionKeys, h.regionPtr⟩

/-- more collections may have been seen than are needed -/
theorem InvCore.ever_mono {S : Prop} {L : Live} {ever ever' : List AreaT} {r : Rec} (h : InvCore S L ever r)
    (hsub : ∀ a ∈ ever, a ∈ ever') (hok : ∀ a ∈ ever', AreaOK a) : InvCore S L ever' r :=
  { h with
    liveEver := fun a ha => hsub a (h.liveEver a ha)
    areasOK := hok
    membersSound := fun x hx => by
      obtain ⟨g, hg, d, hl, e⟩ := h.membersSound x hx; exact ⟨g, hg, d, hl.mono hsub, e⟩
    sectionsSound := fun x hx => by
      obtain ⟨g, hg, d, s, hl, e⟩ := h.sectionsSound x hx; exact ⟨g, hg, d, s, hl.mono hsub, e⟩
    defsSound := fun hS x hx => by
      obtain ⟨g, hg, d, hl, hd, e⟩ := h.defsSound hS x hx; exact ⟨g, hg, d, hl.mono hsub, hd, e⟩ }

/-- the values filed under a key in a flattened dictionary -/
theorem mem_lookup {κ α} [BEq κ] [LawfulBEq κ] (l : List (κ × α)) (k : κ) (x : α) :
    x ∈ (l.filter fun y => y.1 == k).map (·.2) ↔ (k, x) ∈ l := by
  simp only [List.mem_map, List.mem_filter, beq_iff_eq]
  constructor
  · rintro ⟨⟨k', x'⟩, ⟨hx, rfl⟩, rfl⟩; exact hx
  · intro h; exact ⟨(k, x), ⟨h, rfl⟩, rfl⟩

theorem mem_children (r : Rec) (aid gid : Nat) : gid ∈ r.children aid ↔ (aid, gid) ∈ r.members :=
  mem_lookup r.members aid gid

theorem mem_definition (r : Rec) (aid gid : Nat) : gid ∈ r.definition aid ↔ (aid, gid) ∈ r.defs :=
  mem_lookup r.defs aid gid

theorem mem_section (r : Rec) (aid gid : Nat) (s : Section) : gid ∈ r.section aid s ↔ ((aid, s), gid) ∈ r.sections :=
  mem_lookup r.sections (aid, s) gid

/-! ### `clear_regions` -/

/-- `clear_regions` preserves the bookkeeping invariant.  Every gene inside a region is listed by it
    (`membersComplete`), so the resets put `(gid, none)` in front of the back-link list for exactly those genes; the
    other genes pointed to no region before. -/
theorem InvCore.clearRegions {S : Prop} {L : Live} {ever : List AreaT} {r : Rec} (h : InvCore S L ever r) :
    InvCore S { L with regions := [] } ever (Lookup.clearRegions r) := by
  have hsub : ∀ a ∈ registered (Lookup.clearRegions r), a ∈ registered r := by
    intro a ha
    have : registered (Lookup.clearRegions r) = r.protos ++ r.cands ++ r.subs := by
      simp [registered, Lookup.clearRegions]
    rw [this] at ha
    simp only [registered, List.mem_append] at ha ⊢
    rcases ha with (ha | ha) | ha <;> simp [ha]
  have hresets : ∀ x ∈ ((r.regions.flatMap fun a => (r.children a.id).map fun gid => (gid, (none : Option Nat))).reverse),
      x.2 = none ∧ ∃ a ∈ r.regions, x.1 ∈ r.children a.id := by
    intro x hx
    rw [List.mem_reverse, List.mem_flatMap] at hx
    obtain ⟨a, ha, hx⟩ := hx
    obtain ⟨gid, hgid, rfl⟩ := List.mem_map.1 hx
    exact ⟨rfl, a, ha, hgid⟩
  refine { h with
           regionsEq := rfl, liveEver := fun a ha => h.liveEver a (hsub a ha),
           kindsR := fun a ha => (nomatch ha), disjoint := List.Pairwise.nil,
           membersComplete := fun g hg d hl => h.membersComplete g hg d (hl.mono hsub),
           sectionsComplete := fun g hg d s hl => h.sectionsComplete g hg d s (hl.mono hsub),
           defsComplete := fun hS g hg d hl hd => h.defsComplete hS g hg d (hl.mono hsub) hd,
           regionKeys := ?_, regionPtr := ?_ }
  · intro x hx
    simp only [Lookup.clearRegions, List.mem_append] at hx
    rcases hx with hx | hx
    · obtain ⟨_, a, _, hgid⟩ := hresets x hx
      obtain ⟨g, hg, d, _, e⟩ := h.membersSound _ ((mem_children r a.id x.1).1 hgid)
      injection e with _ e2
      exact ⟨g, hg, e2.symm⟩
    · exact h.regionKeys x hx
  · intro g hg
    have hnone : (Lookup.clearRegions r).regionOfGene g.id = none := by
      simp only [regionOfGene_eq, Lookup.clearRegions]
      by_cases hex : ∃ x ∈ ((r.regions.flatMap fun a => (r.children a.id).map fun gid => (gid, (none : Option Nat))).reverse), x.1 = g.id
      · exact ptr_hit hex (fun x hx _ => (hresets x hx).1)
      · rw [ptr_skip (fun x hx e => hex ⟨x, hx, e⟩)]
        have hold := h.regionPtr g hg
        simp only [regionOfGene_eq] at hold
        apply hold.2
        intro a ha
        cases hc : containedBy g.loc a.loc
        · rfl
        · exfalso
          apply hex
          have hm := h.membersComplete g hg a ⟨_, a, regions_sub_registered r a ha, hc, downNodes_self g none a⟩
          refine ⟨(g.id, none), ?_, rfl⟩
          rw [List.mem_reverse, List.mem_flatMap]
          exact ⟨a, ha, List.mem_map.2 ⟨g.id, (mem_children r a.id g.id).2 hm, rfl⟩⟩
    exact ⟨fun a ha => (nomatch ha), fun _ => hnone⟩

theorem InvCache.clearRegions {r : Rec} (c : InvCache r) : InvCache (Lookup.clearRegions r) :=
  ⟨c.cds, c.slot, c.tuple⟩

theorem Inv.clearRegions {S : Prop} {L : Live} {ever : List AreaT} {r : Rec} (h : Inv S L ever r) :
    Inv S { L with regions := [] } ever (Lookup.clearRegions r) := ⟨h.core.clearRegions, h.cache.clearRegions⟩

/-! ### dropping collections from the record's lists -/

/-- the record with its protocluster (`p`), candidate-cluster (`c`), subregion (`s`) lists emptied where the flag is set:
    what `clear_protoclusters` (`p`, `c`), `clear_candidate_clusters` (`c`) and `clear_subregions` (`s`) do before regions
    are re-created -/
def dropLists (r : Rec) (p c s : Bool) : Rec :=
  { r with protos := if p then [] else r.protos, cands := if c then [] else r.cands, subs := if s then [] else r.subs }
def Live.drop (L : Live) (p c s : Bool) : Live :=
  { L with protos := if p then [] else L.protos, cands := if c then [] else L.cands, subs := if s then [] else L.subs }

theorem mem_ite_nil {α} {b : Bool} {l : List α} {x : α} (h : x ∈ (if b then [] else l)) : x ∈ l := by
  cases b
  · exact h
  · cases h

theorem Inv.drop {S : Prop} {L : Live} {ever : List AreaT} {r : Rec} (h : Inv S L ever r) (p c s : Bool) :
    Inv S (L.drop p c s) ever (dropLists r p c s) := by
  have hc := h.core
  have hsub : ∀ a ∈ registered (dropLists r p c s), a ∈ registered r := by
    intro a ha
    simp only [registered, dropLists, List.mem_append] at ha ⊢
    rcases ha with ((ha | ha) | ha) | ha
    · exact Or.inl (Or.inl (Or.inl ha))
    · exact Or.inl (Or.inl (Or.inr (mem_ite_nil ha)))
    · exact Or.inl (Or.inr (mem_ite_nil ha))
    · exact Or.inr (mem_ite_nil ha)
  refine ⟨?_, ⟨h.cache.cds, h.cache.slot, h.cache.tuple⟩⟩
  exact { hc with
    protosEq := congrArg (fun l => if p then [] else l) hc.protosEq
    candsEq := congrArg (fun l => if c then [] else l) hc.candsEq
    subsEq := congrArg (fun l => if s then [] else l) hc.subsEq
    liveEver := fun a ha => hc.liveEver a (hsub a ha)
    kindsO := fun a ha => by
      apply hc.kindsO a
      simp only [dropLists, List.mem_append] at ha ⊢
      rcases ha with (ha | ha) | ha
      · exact Or.inl (Or.inl (mem_ite_nil ha))
      · exact Or.inl (Or.inr (mem_ite_nil ha))
      · exact Or.inr (mem_ite_nil ha)
    membersComplete := fun g hg d hl => hc.membersComplete g hg d (hl.mono hsub)
    sectionsComplete := fun g hg d s hl => hc.sectionsComplete g hg d s (hl.mono hsub)
    defsComplete := fun hS g hg d hl hd => hc.defsComplete hS g hg d (hl.mono hsub) hd }

/-! ### re-creating regions -/

theorem Inv.addRegion {S : Prop} {L : Live} {ever : List AreaT} {r r' : Rec} (h : Inv S L ever r) (a : AreaT)
    (ha : AreaOK a ∧ a.kind = .region) (hs : Lookup.addArea r a = .ok r') :
    Inv S { L with regions := L.regions ++ [a] } (ever ++ [a]) r' := by
  have h1 := h.addArea a ha.1 hs
  rw [Live.step_area] at h1
  simpa only [ha.2, reduceCtorEq, or_self, if_true, if_false] using h1

theorem Inv.createRegions : ∀ (new : List AreaT) {S : Prop} {L : Live} {ever : List AreaT} {r r' : Rec}, Inv S L ever r →
    (∀ a ∈ new, AreaOK a ∧ a.kind = .region) → Lookup.createRegions r new = .ok r' →
    Inv S { L with regions := L.regions ++ new } (ever ++ new) r' := by
  intro new S L ever r r' h hnew hrun
  have := Base.foldlM_invariant (f := Lookup.addArea) (P := fun a => AreaOK a ∧ a.kind = .region)
    (I := fun seen r' => Inv S { L with regions := L.regions ++ seen } (ever ++ seen) r')
    (fun seen b a b' hP hI hs => by simpa only [List.append_assoc] using hI.addRegion a hP hs)
    new [] r r' hnew (by simpa only [List.append_nil] using h) hrun
  simpa only [List.nil_append] using this

theorem Inv.reset {S : Prop} {L : Live} {ever : List AreaT} {r r' : Rec} (h : Inv S L ever r) (new : List AreaT)
    (hnew : ∀ a ∈ new, AreaOK a ∧ a.kind = .region) (hrun : resetRegions r new = .ok r') :
    Inv S (L.reset new) (ever ++ new) r' := by
  have hok : ∀ a ∈ ever ++ new, AreaOK a := by
    intro a ha
    rcases List.mem_append.1 ha with ha | ha
    · exact h.core.areasOK a ha
    · exact (hnew a ha).1
  unfold resetRegions at hrun
  unfold Live.reset
  rw [← h.core.regionsEq]
  cases he : r.regions.isEmpty with
  | true =>
    simp only [he, if_true, pure, Except.pure] at hrun ⊢
    injection hrun with hrun; subst hrun
    exact ⟨h.core.ever_mono (fun a ha => List.mem_append.2 (Or.inl ha)) hok, h.cache⟩
  | false =>
    simp only [he, Bool.false_eq_true, if_false] at hrun ⊢
    have := Inv.createRegions new h.clearRegions hnew hrun
    simpa using this

/-! ### the observing calls -/

theorem peekCds_spec {r : Rec} (c : InvCache r) :
    CoreEq r (peekCds r) ∧ InvCache (peekCds r) ∧ (peekCds r).log = r.log ++ [[r.genes.map (·.id)]] := by
  unfold Lookup.peekCds
  by_cases hd : (r.cdsCacheDirty || r.genes.isEmpty) = true
  · rw [if_pos hd]
    exact ⟨CoreEq.caches r _ _ _ _ _ _ _, ⟨fun _ => rfl, c.slot, c.tuple⟩, rfl⟩
  · rw [if_neg hd]
    have hdirty : r.cdsCacheDirty = false := by
      cases h : r.cdsCacheDirty
      · rfl
      · simp [h] at hd
    refine ⟨CoreEq.caches r _ _ _ _ _ _ _, ⟨c.cds, c.slot, c.tuple⟩, ?_⟩
    show r.log ++ [[r.cdsCache.map (·.id)]] = _
    rw [c.cds hdirty]

/-- reading one section cache returns the current list; only that cache may change, and it stays right -/
theorem slotFeatures_spec {r : Rec} (c : InvCache r) (aid : Nat) (s : Section) :
    ∃ sv sc, slotFeatures r aid s = ({ r with slotVal := sv, slotClean := sc }, r.section aid s) ∧
      InvCache { r with slotVal := sv, slotClean := sc } := by
  unfold slotFeatures
  by_cases hc : r.slotClean.contains (aid, s) = true
  · rw [if_pos hc]
    have hm : (aid, s) ∈ r.slotClean := by simpa using hc
    refine ⟨r.slotVal, r.slotClean, ?_, c⟩
    rw [c.slot (aid, s) hm]
    rfl
  · rw [if_neg hc]
    refine ⟨_, _, rfl, c.cds, ?_, c.tuple⟩
    intro x hx
    simp only [List.find?_cons]
    by_cases hxe : x = (aid, s)
    · subst hxe; simp [Rec.section]
    · have : ((aid, s) == x) = false := by simpa using fun e => hxe e.symm
      simp only [this]
      exact c.slot x ((List.mem_cons.1 hx).resolve_left hxe)

/-- regenerating a collection's cache touches the four cache fields only, leaves the caches right, and the snapshot
    now stored for the collection is the current contents of its three sections -/
theorem peekRegen_spec {r : Rec} (c : InvCache r) (aid : Nat) : ∃ cl sc sv tv,
    peekRegen r aid = { r with clean := cl, slotClean := sc, slotVal := sv, tupleVal := tv } ∧
    InvCache { r with clean := cl, slotClean := sc, slotVal := sv, tupleVal := tv } ∧
    (tv.find? fun x => x.1 == aid).map (·.2) = some [r.section aid .pre, r.section aid .cross, r.section aid .post] := by
  unfold Lookup.peekRegen
  by_cases hc : r.clean.contains aid = true
  · rw [if_pos hc]
    exact ⟨r.clean, r.slotClean, r.slotVal, r.tupleVal, rfl, c, c.tuple aid (by simpa using hc)⟩
  · rw [if_neg hc]
    -- the three section caches are read one after the other; each read may refresh its own cache only
    obtain ⟨sv1, sc1, e1, c1⟩ := slotFeatures_spec c aid .pre
    obtain ⟨sv2, sc2, e2, c2⟩ := slotFeatures_spec c1 aid .cross
    obtain ⟨sv3, sc3, e3, c3⟩ := slotFeatures_spec c2 aid .post
    simp only [e1, e2, e3]
    refine ⟨_, _, _, _, rfl, ⟨c.cds, c3.slot, ?_⟩, ?_⟩
    · intro x hx
      simp only [List.find?_cons]
      by_cases hxe : x = aid
      · subst hxe; simp [Rec.section]
      · have : (aid == x) = false := by simpa using fun e => hxe e.symm
        simp only [this]
        exact c.tuple x ((List.mem_cons.1 hx).resolve_left hxe)
    · simp [Rec.section]

theorem peekArea_spec {r : Rec} (c : InvCache r) (aid : Nat) :
    CoreEq r (peekArea r aid) ∧ InvCache (peekArea r aid) ∧
    (peekArea r aid).log = r.log ++ [[r.children aid, r.section aid .pre, r.section aid .cross, r.section aid .post]] := by
  obtain ⟨cl, sc, sv, tv, e, c1, t⟩ := peekRegen_spec c aid
  obtain ⟨v, hf, hv⟩ := Option.map_eq_some_iff.1 t
  unfold Lookup.peekArea
  simp only [e, hf, Option.map_some, Option.getD_some, hv]
  exact ⟨CoreEq.caches r _ _ _ _ _ _ _, ⟨c1.cds, c1.slot, c1.tuple⟩, rfl⟩

/-- `indexIn` is the library's first-index search -/
theorem indexIn_eq (x : Nat) : ∀ l : List Nat, indexIn x l = l.findIdx? (· == x)
  | [] => rfl
  | y :: ys => by rw [indexIn, List.findIdx?_cons, indexIn_eq x ys]

theorem indexIn_some {x : Nat} {l : List Nat} {i : Nat} (h : indexIn x l = some i) :
    l[i]? = some x ∧ ∀ j < i, l[j]? ≠ some x := by
  rw [indexIn_eq, List.findIdx?_eq_some_iff_getElem] at h
  obtain ⟨hi, h1, h2⟩ := h
  refine ⟨by rw [List.getElem?_eq_getElem hi, beq_iff_eq.1 h1], fun j hj e => ?_⟩
  have hjl : j < l.length := Nat.lt_trans hj hi
  rw [List.getElem?_eq_getElem hjl] at e
  exact h2 j hj (beq_iff_eq.2 (Option.some.inj e))

theorem indexIn_none {x : Nat} {l : List Nat} : indexIn x l = none ↔ x ∉ l := by
  rw [indexIn_eq, List.findIdx?_eq_none_iff]
  exact ⟨fun h hx => by simpa using h x hx, fun h y hy => beq_eq_false_iff_ne.2 fun e => h (e ▸ hy)⟩

/-- `cds_children.index(cds)`: the caches are regenerated, then the position in the live list is reported -/
theorem indexOf_eq {r : Rec} (c : InvCache r) (aid gid : Nat) :
    indexOf r aid gid = match indexIn gid (r.children aid) with
      | some i => .ok { peekRegen r aid with log := r.log ++ [[[i]]] }
      | none => .error "IndexError" := by
  obtain ⟨cl, sc, sv, tv, e, _⟩ := peekRegen_spec c aid
  unfold Lookup.indexOf
  simp only [e, Rec.children]
  generalize indexIn gid _ = o
  cases o <;> rfl

/-! ### rewriting the annotations of a gene that is in the record -/

mutual
theorem downNodes_congr {g g' : Gene} (h : g.loc = g'.loc) : ∀ (given : Option Section) (a : AreaT),
    downNodes g given a = downNodes g' given a
  | given, .mk id kind loc core product kids => by
    have hc : chooseSection loc g given = chooseSection loc g' given := by simp only [chooseSection, h]
    simp only [downNodes, hc, downKids_congr h]
theorem downKids_congr {g g' : Gene} (h : g.loc = g'.loc) : ∀ (sec : Option Section) (ks : List AreaT),
    downKids g sec ks = downKids g' sec ks
  | _, [] => rfl
  | sec, k :: ks => by simp only [downKids, h, downNodes_congr h, downKids_congr h]
end

theorem LinkedS.congr_gene {areas : List AreaT} {g g' : Gene} (h : g.loc = g'.loc) (d : AreaT) (s : Section) :
    LinkedS areas g d s ↔ LinkedS areas g' d s := by
  simp only [LinkedS, h, downNodes_congr h]

theorem Linked.congr_gene {areas : List AreaT} {g g' : Gene} (h : g.loc = g'.loc) (d : AreaT) :
    Linked areas g d ↔ Linked areas g' d := by
  simp only [Linked, LinkedS.congr_gene h]

/-- the gene after its annotations were rewritten -/
def recore (gid : Nat) (cs : List String) (g : Gene) : Gene := if g.id == gid then { g with cores := cs } else g

theorem recore_loc (gid : Nat) (cs : List String) (g : Gene) : (recore gid cs g).loc = g.loc := by
  unfold recore; split <;> rfl
theorem recore_id (gid : Nat) (cs : List String) (g : Gene) : (recore gid cs g).id = g.id := by
  unfold recore; split <;> rfl
theorem recore_other {gid : Nat} (cs : List String) {g : Gene} (h : g.id ≠ gid) : recore gid cs g = g := by
  unfold recore; simp [h]

/-- the strict rewrite is the literal one, refused when some collection already lists the gene -/
theorem setCores_eq (r : Rec) (gid : Nat) (cs : List String) :
    setCores r gid cs = if (r.members.any fun x => x.2 == gid) then .error "annotation-after-pairing"
      else .ok (setCoresAny r gid cs) := rfl

/-- what `step` asks beyond `stepLoose`: annotations are rewritten only of a gene that no collection lists yet -/
def Guard (r : Rec) : Op → Prop
  | .setCores gid _ => ∀ x ∈ r.members, x.2 ≠ gid
  | _ => True

/-- the strict machine is the loose one under the guard -/
theorem step_ok_iff_loose {r r' : Rec} {op : Op} : step r op = .ok r' ↔ Guard r op ∧ stepLoose r op = .ok r' := by
  cases op with
  | setCores gid cs =>
    show setCores r gid cs = .ok r' ↔ (∀ x ∈ r.members, x.2 ≠ gid) ∧ Except.ok (setCoresAny r gid cs) = .ok r'
    rw [setCores_eq, Base.ite_error_eq_ok]
    refine and_congr_left fun _ => ?_
    simp only [List.any_eq_true, beq_iff_eq, not_exists, not_and, ne_eq]
  | _ => exact ⟨fun h => ⟨trivial, h⟩, fun h => h.2⟩

/-- rewriting a gene's annotations preserves the invariant; its definition-set part only if no collection lists
    the gene yet (`hS`), the rest always -/
theorem Inv.rewriteCores {S : Prop} {L : Live} {ever : List AreaT} {r : Rec} (h : Inv S L ever r) (gid : Nat) (cs : List String)
    (hS : S → ∀ x ∈ r.members, x.2 ≠ gid) :
    Inv S (L.step (.setCores gid cs)) ever (setCoresAny r gid cs) := by
  show Inv S (L.step (.setCores gid cs)) ever
    { r with genes := r.genes.map (Lookup.recore gid cs), byName := r.byName.map (fun x => (x.1, Lookup.recore gid cs x.2)),
             cdsCache := r.cdsCache.map (Lookup.recore gid cs) }
  have c := h.core
  let f := recore gid cs
  have floc : ∀ g, (f g).loc = g.loc := recore_loc gid cs
  have fid : ∀ g, (f g).id = g.id := recore_id gid cs
  have hmem : ∀ g', g' ∈ r.genes.map f ↔ ∃ g ∈ r.genes, f g = g' := fun g' => List.mem_map
  have hLstep : (L.step (.setCores gid cs)).genes = L.genes.map f := rfl
  refine ⟨?_, ?_⟩
  · refine { c with
             genesLive := ?_, sorted := ?_, ok := ?_, ids := ?_, byName := ?_, byLoc := ?_,
             membersSound := ?_, membersComplete := ?_, sectionsSound := ?_, sectionsComplete := ?_,
             defsSound := ?_, defsComplete := ?_, regionKeys := ?_, regionPtr := ?_ }
    · intro g'
      rw [hLstep]
      simp only [List.mem_map]
      constructor
      · rintro ⟨g, hg, e⟩; exact ⟨g, (c.genesLive g).1 hg, e⟩
      · rintro ⟨g, hg, e⟩; exact ⟨g, (c.genesLive g).2 hg, e⟩
    · show Sorted (r.genes.map f)
      unfold Sorted
      rw [List.pairwise_map]
      simp only [floc]
      exact c.sorted
    · intro g' hg'
      obtain ⟨g, hg, rfl⟩ := (hmem g').1 hg'
      rw [floc]; exact c.ok g hg
    · show (r.genes.map f).Pairwise _
      rw [List.pairwise_map]
      simp only [fid]
      exact c.ids
    · intro x
      simp only [List.mem_map]
      constructor
      · rintro ⟨y, hy, rfl⟩
        obtain ⟨g, hg, rfl⟩ := (c.byName y).1 hy
        exact ⟨f g, ⟨g, hg, rfl⟩, by rw [fid]⟩
      · rintro ⟨g', ⟨g, hg, rfl⟩, rfl⟩
        exact ⟨(g.id, g), (c.byName _).2 ⟨g, hg, rfl⟩, by rw [fid]⟩
    · intro l
      rw [c.byLoc]
      simp only [List.mem_map]
      constructor
      · rintro ⟨g, hg, rfl⟩; exact ⟨f g, ⟨g, hg, rfl⟩, floc g⟩
      · rintro ⟨g', ⟨g, hg, rfl⟩, rfl⟩; exact ⟨g, hg, (floc g).symm⟩
    · intro x hx
      obtain ⟨g, hg, d, hl, e⟩ := c.membersSound x hx
      exact ⟨f g, (hmem _).2 ⟨g, hg, rfl⟩, d, (Linked.congr_gene (floc g) d).2 hl, by rw [fid]; exact e⟩
    · intro g' hg' d hl
      obtain ⟨g, hg, rfl⟩ := (hmem g').1 hg'
      rw [fid]
      exact c.membersComplete g hg d ((Linked.congr_gene (floc g) d).1 hl)
    · intro x hx
      obtain ⟨g, hg, d, s, hl, e⟩ := c.sectionsSound x hx
      exact ⟨f g, (hmem _).2 ⟨g, hg, rfl⟩, d, s, (LinkedS.congr_gene (floc g) d s).2 hl, by rw [fid]; exact e⟩
    · intro g' hg' d s hl
      obtain ⟨g, hg, rfl⟩ := (hmem g').1 hg'
      rw [fid]
      exact c.sectionsComplete g hg d s ((LinkedS.congr_gene (floc g) d s).1 hl)
    · intro hS' x hx
      obtain ⟨g, hg, d, hl, hd, e⟩ := c.defsSound hS' x hx
      have hne : g.id ≠ gid := by
        intro e'
        have := hS hS' x (c.defsSub x hx)
        rw [e] at this; exact this e'
      exact ⟨g, (hmem _).2 ⟨g, hg, recore_other cs hne⟩, d, hl, hd, e⟩
    · intro hS' g' hg' d hl hd
      obtain ⟨g, hg, rfl⟩ := (hmem g').1 hg'
      have hl' := (Linked.congr_gene (floc g) d).1 hl
      by_cases hne : g.id = gid
      · exact absurd hne (hS hS' _ (c.membersComplete g hg d hl'))
      · have e : f g = g := recore_other cs hne
        rw [e] at hd ⊢
        exact c.defsComplete hS' g hg d hl' hd
    · intro x hx
      obtain ⟨g, hg, e⟩ := c.regionKeys x hx
      exact ⟨f g, (hmem _).2 ⟨g, hg, rfl⟩, by rw [fid]; exact e⟩
    · intro g' hg'
      obtain ⟨g, hg, rfl⟩ := (hmem g').1 hg'
      simp only [floc, fid]
      exact c.regionPtr g hg
  · refine ⟨?_, h.cache.slot, h.cache.tuple⟩
    intro hd
    show r.cdsCache.map f = r.genes.map f
    rw [h.cache.cds hd]

theorem Inv.setCores {S : Prop} {L : Live} {ever : List AreaT} {r r' : Rec} (h : Inv S L ever r) (gid : Nat) (cs : List String)
    (hstep : Lookup.setCores r gid cs = .ok r') : Inv S (L.step (.setCores gid cs)) ever r' := by
  obtain ⟨hno, e⟩ := step_ok_iff_loose (op := .setCores gid cs) |>.1 hstep
  obtain rfl := Except.ok.inj e
  exact h.rewriteCores gid cs (fun _ => hno)

end ASV.Lookup
