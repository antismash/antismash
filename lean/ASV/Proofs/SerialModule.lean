/-
  C10: the `aSModule` feature read back from its Biopython form: C14's round trip of the module-specific qualifiers
  (`Modules.feature_roundtrip`) is the reader law of the class (`modClass`), the rest is `ClassDesc.roundtrip`.
-/
import ASV.Model.SerialModule
import ASV.Proofs.ModulesFeature
import ASV.Proofs.SerialDom
namespace ASV.Serial
open ASV

theorem qget_toMod : ∀ (q : Quals) (k : String), Modules.qget (toModQuals q) k = (Q.get? q k).map some
  | [], _ => rfl
  | (k', v) :: rest, k => by
    have ih := qget_toMod rest k
    unfold Modules.qget at ih ⊢
    simp only [toModQuals, List.map_cons, List.find?_cons, Q.get?] at ih ⊢
    by_cases h : k' = k
    · simp [h]
    · have : (k' == k) = false := by simp [h]
      simp only [this, h, if_false]
      exact ih

theorem get?_ofMod : ∀ (q : Modules.Quals) (k : String), Q.get? (ofModQuals q) k = (Modules.qget q k).map (·.getD [])
  | [], _ => rfl
  | (k', v) :: rest, k => by
    have ih := get?_ofMod rest k
    unfold Modules.qget at ih ⊢
    simp only [ofModQuals, List.map_cons, List.find?_cons, Q.get?] at ih ⊢
    by_cases h : k' = k
    · simp [h]
    · have : (k' == k) = false := by simp [h]
      simp only [this, h, if_false]
      exact ih

/-- the module's own qualifiers in this model's dictionary -/
def modX (f : ModF) : Quals := ofModQuals f.m.toBiopython

theorem keys_ofModQuals (q : Modules.Quals) : Q.keys (ofModQuals q) = q.map (·.1) := by
  unfold Q.keys ofModQuals
  rw [List.map_map]
  rfl

theorem keys_flag (b : Bool) (k : String) : ((Modules.flag b k).map (·.1)).Sublist [k] := by
  cases b
  · exact List.nil_sublist _
  · exact List.Sublist.refl _

/-- the keys a module writes, in the order it writes them: a selection from a fixed list -/
theorem keys_modX (f : ModF) : (Q.keys (modX f)).Sublist
    ["domains", "locus_tags", "type", "complete", "incomplete", "starter_module", "final_module", "iterative"] := by
  unfold modX Modules.ModFeature.toBiopython
  rw [keys_ofModQuals, List.map_append, List.map_append, List.map_append, List.map_append]
  show List.Sublist _ (["domains", "locus_tags", "type"] ++ ["complete", "incomplete"] ++ ["starter_module"] ++ ["final_module"]
    ++ ["iterative"])
  refine ((((List.Sublist.refl _).append ?_).append (keys_flag _ _)).append (keys_flag _ _)).append (keys_flag _ _)
  cases f.m.complete
  · exact List.Sublist.cons _ (List.Sublist.refl _)
  · exact List.Sublist.cons_cons _ (List.nil_sublist _)

theorem nodup_modX (f : ModF) : Q.Nodup (modX f) :=
  List.Nodup.sublist (keys_modX f) (by decide +kernel)

theorem modX_other (f : ModF) (k : String) (h : k ∉ moduleKeys) : Q.get? (modX f) k = none :=
  (Q.get?_none_iff _ _).2 fun hm => h (List.mem_append_left ["monomer_pairings"] ((keys_modX f).subset hm))

/-- a module feature made by antiSMASH, without codon start, whose free qualifiers use none of the module keys, that
    passes `Module.__init__`'s checks and whose domains the record knows by name -/
structure ModF.WF (known : String → Option Modules.FDomain) (f : ModF) : Prop where
  feat : f.feat.WF
  byAS : f.feat.byAS = true
  codon : f.feat.codon = none
  type : f.feat.type = "aSModule"
  reserved : ∀ k ∈ moduleKeys, Q.get? f.feat.quals k = none
  /-- what `Module.__init__` checks: at least one domain, all on one strand -/
  valid : Modules.ModFeature.construct f.m.domains f.m.type f.m.complete f.m.starter f.m.final f.m.iterative = .ok f.m
  /-- the record knows the module's domains by name -/
  domains : ∀ d ∈ f.m.domains, known (Modules.removeSpaces d.name) = some d

theorem modClass (known : String → Option Modules.FDomain) : ClassDesc (ok := ModF.WF known) (type := "aSModule") (keys := moduleKeys)
    (stay := []) (by0 := true) (feat := (·.feat)) (own := modX) (left := fun _ W => moduleKeys.foldl Q.erase W)
    (rebuild := fun f feat => ⟨feat, f.m⟩) (read := ModF.fromBio known) where
  base := fun _ h => ⟨h.feat, h.byAS, h.codon, h.type, h.reserved⟩
  base_keys := by simp [moduleKeys]
  stay_sub := fun _ h => nomatch h
  own_nodup := nodup_modX
  own_keys := fun f _ => modX_other f
  left_nodup := fun _ _ => nodup_eraseAll _
  left_get := fun _ W _ k _ => get?_eraseAll _ W k
  read_written := fun f h W _ hW _ => by
    -- the module-specific qualifiers: C14's theorem, through the two dictionary forms
    have hq : ∀ k ∈ moduleKeys, Modules.qget (toModQuals W) k = (Modules.qget f.m.toBiopython k).map fun v => some (v.getD []) := by
      intro k hk
      rw [qget_toMod, hW k hk]
      unfold modX
      rw [get?_ofMod]
      cases Modules.qget f.m.toBiopython k <;> rfl
    have hdom : Modules.qget f.m.toBiopython "domains" = some (some (f.m.domains.map (·.name))) := by
      simp [Modules.qget, Modules.ModFeature.toBiopython]
    have htyp : Modules.qget f.m.toBiopython "type" = some (some [f.m.type.str]) := by
      simp [Modules.qget, Modules.ModFeature.toBiopython]
    have hmod : Modules.ModFeature.fromBiopython known (toModQuals W) = .ok f.m := by
      rw [Modules.ModFeature.fromBiopython_congr known _ f.m.toBiopython]
      · exact Modules.feature_roundtrip known f.m h.valid h.domains
      · rw [hq _ (by simp [moduleKeys]), hdom]; rfl
      · rw [hq _ (by simp [moduleKeys]), htyp]; rfl
      · intro k hk
        have hk' : k ∈ moduleKeys := by
          simp only [List.mem_cons, List.mem_nil_iff, or_false] at hk
          rcases hk with e | e | e | e | e <;> subst e <;> simp [moduleKeys]
        rw [Modules.qhas_eq_qget, Modules.qhas_eq_qget, hq k hk']
        cases Modules.qget f.m.toBiopython k <;> rfl
    unfold ModF.fromBio
    simp only [hmod]
    cases applyLeftovers _ _ <;> rfl

theorem module_roundtrip (t : Bool) (known : String → Option Modules.FDomain) (f : ModF) (h : f.WF known) (b : Bio)
    (hb : f.toBio = .ok b) :
    ∃ f', ModF.fromBio known b = .ok f' ∧ f'.m = f.m ∧ f'.feat.view t = f.feat.view t ∧ f'.feat.loc = f.feat.loc ∧
      f'.feat.WF ∧ f'.feat.byAS = true := by
  -- the writer is unfolded in the hypothesis: left to the unifier, `exact` would evaluate it
  unfold ModF.toBio at hb
  obtain ⟨-, hr, R⟩ := (modClass known).roundtrip t f h b hb
  generalize List.foldl Q.erase _ moduleKeys = L at hr R
  exact ⟨_, hr, rfl, R.view, rfl, R.wf, rfl⟩

end ASV.Serial
