/-
  C10 helper lemmas: the base `Feature` conversion.
    * `frameshift_undo_redo`: the codon_start adjustment undone on writing is redone exactly on reading
    * `get?_finalQuals`: every qualifier of the written feature, as a function of the feature's state
    * `applyLeftovers_plain` / `applyLeftovers_codon`: what the shared tail of `from_biopython` leaves in the feature
    * `Feat.norm`, `Feat.normSub`: the state of a feature after one round trip, and its view
-/
import ASV.Proofs.SerialQ
import ASV.Proofs.LocConnect
import ASV.Proofs.LocString
import ASV.Spec.Serial
namespace ASV.Serial
open ASV

/-! ### codon_start -/

theorem strand_adjust (p q : Part) (rest : List Part) (h : q.strand = p.strand) :
    (Loc.compound (q :: rest)).strand = (Loc.compound (p :: rest)).strand := by
  simp [Loc.strand, h]

theorem maxList_head_raise (a o : Int) (t : List Int) (h : a = maxList (a :: t)) (ho : 0 ≤ o) :
    a + o = maxList ((a + o) :: t) := by
  have hge : ∀ y ∈ t, y ≤ a := fun y hy => by
    rw [h]; exact le_maxList_of_mem (List.mem_cons_of_mem _ hy)
  have hm := maxList_mem (l := (a + o) :: t) (by simp)
  rcases List.mem_cons.1 hm with e | hm
  · exact e.symm
  · have h1 := hge _ hm
    have h2 : a + o ≤ maxList ((a + o) :: t) := le_maxList_of_mem (by simp)
    omega

theorem minList_head_lower (a o : Int) (t : List Int) (h : a = minList (a :: t)) (ho : o ≤ 0) :
    a + o = minList ((a + o) :: t) := by
  have hle : ∀ y ∈ t, a ≤ y := fun y hy => by
    rw [h]; exact minList_le_of_mem (List.mem_cons_of_mem _ hy)
  have hm := minList_mem (l := (a + o) :: t) (by simp)
  rcases List.mem_cons.1 hm with e | hm
  · exact e.symm
  · have h1 := hle _ hm
    have h2 : minList ((a + o) :: t) ≤ a + o := minList_le_of_mem (by simp)
    omega

theorem beq_rev_false {s : Strand} (h : s ≠ .rev) : (s == Strand.rev) = false := by
  cases s
  · rfl
  · exact absurd rfl h
  · rfl
  · rfl

/-- the first part with its translation-start side moved by `o` -/
def movePart (p : Part) (o : Int) : Part :=
  if p.strand == .rev then { p with hi := p.hi + o } else { p with lo := p.lo + o }

theorem movePart_strand (p : Part) (o : Int) : (movePart p o).strand = p.strand := by
  unfold movePart; split <;> rfl

theorem movePart_back (p : Part) (o : Int) : movePart (movePart p o) (-o) = p := by
  obtain ⟨a, b, c⟩ := p
  unfold movePart
  by_cases h : c = Strand.rev
  · subst h; simp; omega
  · have : (c == Strand.rev) = false := beq_rev_false h
    simp [this]; omega

theorem adjust_simple (p : Part) (o : Int) (ho : o ≠ 0) (hr : -2 ≤ o ∧ o ≤ 2) :
    adjustByOffset (.simple p) o =
      if (movePart p o).hi < (movePart p o).lo then .error "value-error" else .ok (.simple (movePart p o)) := by
  have hr' : (decide (-2 ≤ o) && decide (o ≤ 2)) = true := by simp [hr.1, hr.2]
  unfold adjustByOffset
  simp only [ho, if_false, hr', Bool.not_true, Bool.false_eq_true]
  show ((do let q ← (if (movePart p o).hi < (movePart p o).lo then throw "value-error" else pure (movePart p o)); pure (Loc.simple q)) : E Loc) = _
  by_cases hq : (movePart p o).hi < (movePart p o).lo
  · simp only [hq, if_true]; rfl
  · simp only [hq, if_false]; rfl

theorem adjust_compound (p : Part) (rest : List Part) (o : Int) (ho : o ≠ 0) (hr : -2 ≤ o ∧ o ≤ 2) :
    adjustByOffset (.compound (p :: rest)) o =
      if (!bridgesOrigin (.compound (p :: rest)) &&
          (if (Loc.compound (p :: rest)).strand == .rev then decide (p.hi ≠ (Loc.compound (p :: rest)).end)
           else decide (p.lo ≠ (Loc.compound (p :: rest)).start))) = true then .error "assertion"
      else if (movePart p o).hi < (movePart p o).lo then .error "value-error"
      else .ok (.compound (movePart p o :: rest)) := by
  have hr' : (decide (-2 ≤ o) && decide (o ≤ 2)) = true := by simp [hr.1, hr.2]
  unfold adjustByOffset
  simp only [ho, if_false, hr', Bool.not_true, Bool.false_eq_true]
  have hm : (if (p.strand == Strand.rev) = true then ({ lo := p.lo, hi := p.hi + o, strand := p.strand } : Part)
      else { lo := p.lo + o, hi := p.hi, strand := p.strand }) = movePart p o := by unfold movePart; rfl
  simp only [hm]
  by_cases hA : (!bridgesOrigin (.compound (p :: rest)) &&
      (if (Loc.compound (p :: rest)).strand == .rev then decide (p.hi ≠ (Loc.compound (p :: rest)).end)
       else decide (p.lo ≠ (Loc.compound (p :: rest)).start))) = true
  · rw [if_pos hA, if_pos hA]; rfl
  · rw [if_neg hA, if_neg hA]
    by_cases hq : (movePart p o).hi < (movePart p o).lo
    · rw [if_pos hq, if_pos hq]; rfl
    · rw [if_neg hq, if_neg hq]; rfl

/-- moving the translation start by `o` and then by `-o`, in the direction in which the code undoes a
    codon_start shift (start lowered on the forward strand, end raised on the reverse strand); `hbr`:
    the small shift does not change whether the exon order says "crosses the origin" -/
theorem adjust_back (l l' : Loc) (o : Int) (hwf : ∀ p ∈ l.parts, p.lo ≤ p.hi)
    (hdir : if l.strand == .rev then 0 ≤ o else o ≤ 0) (hbr : bridgesOrigin l' = bridgesOrigin l)
    (h : adjustByOffset l o = .ok l') : adjustByOffset l' (-o) = .ok l ∧ l'.strand = l.strand := by
  by_cases ho : o = 0
  · subst ho
    have : adjustByOffset l 0 = .ok l := by simp [adjustByOffset, pure, Except.pure]
    rw [this] at h; cases h
    exact ⟨by simpa using this, rfl⟩
  · by_cases hr : -2 ≤ o ∧ o ≤ 2
    · have hno : -o ≠ 0 := by omega
      have hr' : -2 ≤ -o ∧ -o ≤ 2 := by omega
      cases l with
      | simple p =>
        have hp := hwf p (by simp [Loc.parts])
        rw [adjust_simple p o ho hr] at h
        by_cases hq : (movePart p o).hi < (movePart p o).lo
        · simp [hq] at h
        · simp only [hq, if_false] at h
          cases h
          refine ⟨?_, by simp [Loc.strand, movePart_strand]⟩
          rw [adjust_simple _ _ hno hr', movePart_back]
          have : ¬ p.hi < p.lo := by omega
          simp [this]
      | compound ps =>
        cases ps with
        | nil =>
          have hr2 : (decide (-2 ≤ o) && decide (o ≤ 2)) = true := by simp [hr.1, hr.2]
          unfold adjustByOffset at h
          simp only [ho, if_false, hr2, Bool.not_true, Bool.false_eq_true] at h
          cases h
        | cons p rest =>
          have hp := hwf p (by simp [Loc.parts])
          rw [adjust_compound p rest o ho hr] at h
          have hst : (Loc.compound (movePart p o :: rest)).strand = (Loc.compound (p :: rest)).strand :=
            strand_adjust p _ rest (movePart_strand p o)
          by_cases hassert : (!bridgesOrigin (.compound (p :: rest)) &&
              (if (Loc.compound (p :: rest)).strand == .rev then decide (p.hi ≠ (Loc.compound (p :: rest)).end)
               else decide (p.lo ≠ (Loc.compound (p :: rest)).start))) = true
          · rw [if_pos hassert] at h; cases h
          · rw [if_neg hassert] at h
            by_cases hq : (movePart p o).hi < (movePart p o).lo
            · simp [hq] at h
            · simp only [hq, if_false] at h
              cases h
              refine ⟨?_, hst⟩
              rw [adjust_compound _ _ _ hno hr', hst, movePart_back, hbr]
              have hnp : ¬ p.hi < p.lo := by omega
              by_cases hb : bridgesOrigin (.compound (p :: rest)) = true
              · simp [hb, hnp]
              · have hb' : bridgesOrigin (.compound (p :: rest)) = false := by simpa using hb
                simp only [hb', Bool.not_false, Bool.true_and] at hassert ⊢
                by_cases hs : ((Loc.compound (p :: rest)).strand == .rev) = true
                · simp only [hs, if_true, decide_eq_true_eq, Classical.not_not] at hassert hdir ⊢
                  have hps : p.strand = .rev := by
                    have hs' : (Loc.compound (p :: rest)).strand = .rev := by simpa using hs
                    simp only [Loc.strand] at hs'
                    by_cases hall : rest.all (fun x => x.strand == p.strand) = true
                    · simpa [hall] using hs'
                    · simp [hall] at hs'
                  have hmv : (movePart p o).hi = p.hi + o := by simp [movePart, hps]
                  have hend : (movePart p o).hi = (Loc.compound (movePart p o :: rest)).end := by
                    have ha' : p.hi = maxList (p.hi :: rest.map (·.hi)) := by simpa [Loc.end] using hassert
                    have := maxList_head_raise p.hi o (rest.map (·.hi)) ha' hdir
                    simp only [Loc.end, List.map_cons, hmv]; exact this
                  simp [hend, hnp]
                · simp only [hs, Bool.false_eq_true, if_false, decide_eq_true_eq, Classical.not_not] at hassert hdir ⊢
                  have hstart : (movePart p o).lo = (Loc.compound (movePart p o :: rest)).start := by
                    have ha' : p.lo = minList (p.lo :: rest.map (·.lo)) := by simpa [Loc.start] using hassert
                    by_cases hps : p.strand = .rev
                    · have hmv : (movePart p o).lo = p.lo := by simp [movePart, hps]
                      simp only [Loc.start, List.map_cons, hmv]; exact ha'
                    · have hps' : (p.strand == Strand.rev) = false := beq_rev_false hps
                      have hmv : (movePart p o).lo = p.lo + o := by simp [movePart, hps']
                      have := minList_head_lower p.lo o (rest.map (·.lo)) ha' hdir
                      simp only [Loc.start, List.map_cons, hmv]; exact this
                  simp [hstart, hnp]
    · have hr2 : (decide (-2 ≤ o) && decide (o ≤ 2)) = false := by
        simp only [Bool.and_eq_false_iff, decide_eq_false_iff_not]
        by_cases h1 : -2 ≤ o
        · right; intro h2; exact hr ⟨h1, h2⟩
        · left; exact h1
      unfold adjustByOffset at h
      simp only [ho, if_false, hr2, Bool.not_false, if_true] at h
      cases h

theorem frameshift_eq (l : Loc) (c : Int) (undo : Bool) (hc : 0 ≤ c ∧ c ≤ 2) :
    frameshift l (c + 1) undo =
      adjustByOffset l (if undo then -(if l.strand == .rev then -c else c) else (if l.strand == .rev then -c else c)) := by
  have e : c + 1 - 1 = c := by omega
  have hr : (decide (0 ≤ c) && decide (c ≤ 2)) = true := by simp [hc.1, hc.2]
  unfold frameshift
  simp only [e, hr, Bool.not_true, Bool.false_eq_true, if_false]

theorem frameshift_err (l : Loc) (c : Int) (undo : Bool) (hc : ¬ (0 ≤ c ∧ c ≤ 2)) :
    frameshift l (c + 1) undo = .error "value-error" := by
  have e : c + 1 - 1 = c := by omega
  have hr : (decide (0 ≤ c) && decide (c ≤ 2)) = false := by
    simp only [Bool.and_eq_false_iff, decide_eq_false_iff_not]
    by_cases h1 : 0 ≤ c
    · right; intro h2; exact hc ⟨h1, h2⟩
    · left; exact h1
  unfold frameshift
  simp only [e, hr, Bool.not_false, if_true]
  rfl

/-- a codon_start adjustment undone when writing is redone exactly when reading -/
theorem frameshift_undo_redo (l l' : Loc) (c : Int) (hwf : ∀ p ∈ l.parts, p.lo ≤ p.hi)
    (hbr : bridgesOrigin l' = bridgesOrigin l)
    (h : frameshift l (c + 1) true = .ok l') : frameshift l' (c + 1) false = .ok l ∧ 0 ≤ c ∧ c ≤ 2 := by
  by_cases hc : 0 ≤ c ∧ c ≤ 2
  · rw [frameshift_eq l c true hc] at h
    simp only [if_true] at h
    have hb := adjust_back l l' _ hwf (by
      by_cases hs : (l.strand == Strand.rev) = true
      · simp only [hs, if_true]; omega
      · simp only [hs, Bool.false_eq_true, if_false]; omega) hbr h
    refine ⟨?_, hc⟩
    rw [frameshift_eq l' c false hc, hb.2]
    simp only [Bool.false_eq_true, if_false]
    simpa using hb.1
  · rw [frameshift_err l c true hc] at h; cases h


/-! ### the written qualifiers as a function of the feature -/

theorem Q.get?_update (o : Quals) : ∀ (q : Quals), Q.Nodup o → ∀ k,
    Q.get? (Q.update q o) k = match Q.get? o k with | some v => some v | none => Q.get? q k := by
  induction o with
  | nil => intro q _ k; simp [Q.update, Q.get?]
  | cons e rest ih =>
    intro q hn k
    obtain ⟨k1, v1⟩ := e
    have hn' := List.nodup_cons.1 hn
    have : Q.update q ((k1, v1) :: rest) = Q.update (Q.set q k1 v1) rest := rfl
    rw [this, ih _ hn'.2 k, Q.get?_set]
    by_cases hk : k1 = k
    · subst hk
      have : Q.get? rest k1 = none := (Q.get?_none_iff rest k1).2 hn'.1
      simp [Q.get?, this]
    · have hk' : ¬ k = k1 := fun e => hk e.symm
      simp [Q.get?, hk, hk']

/-- all notes of a feature: the stored `note` qualifier, the `notes` attribute, the caller's notes -/
def allNotes (f : Feat) (extra : Quals) : List String :=
  (Q.get? f.quals "note").getD [] ++ f.notes ++ (Q.get? extra "note").getD []

/-- the dictionary `Feature.to_biopython` builds before sorting it -/
def finalQuals (f : Feat) (extra : Quals) : Quals :=
  let q0 := Q.update f.quals (Q.erase extra "note")
  let q1 := if (allNotes f extra).isEmpty then q0 else Q.set q0 "note" (sortStrs (allNotes f extra))
  let q2 := if f.byAS then Q.set q1 "tool" ["antismash"] else q1
  match f.codon with
  | none => q2
  | some c => Q.set q2 "codon_start" [strOfInt (c + 1)]

theorem toBio_eq (f : Feat) (extra : Quals) :
    f.toBio extra = match f.codon with
      | none => .ok ⟨f.loc, f.type, Q.sortKeys (finalQuals f extra)⟩
      | some c => (frameshift f.loc (c + 1) true).map fun loc => ⟨loc, f.type, Q.sortKeys (finalQuals f extra)⟩ := by
  unfold Feat.toBio finalQuals allNotes
  cases extra with
  | nil =>
    simp only [List.isEmpty_nil, if_true, Q.get?, Option.getD_none, List.append_nil, Q.erase, List.filter_nil, Q.update,
      List.foldl_nil]
    cases hc : f.codon with
    | none => rfl
    | some c =>
      simp only [bind, Except.bind, pure, Except.pure, Except.map]
  | cons e rest =>
    simp only [List.isEmpty_cons, Bool.false_eq_true, if_false]
    cases hc : f.codon with
    | none => rfl
    | some c =>
      simp only [bind, Except.bind, pure, Except.pure, Except.map]

/-- the three conditional assignments `Feature.to_biopython` makes on top of the merged dictionary -/
theorem finalQuals_assign (f : Feat) (extra : Quals) :
    finalQuals f extra = Q.assign (Q.update f.quals (Q.erase extra "note"))
      [("note", if (allNotes f extra).isEmpty then none else some (sortStrs (allNotes f extra))),
       ("tool", if f.byAS then some ["antismash"] else none), ("codon_start", f.codon.map fun c => [strOfInt (c + 1)])] := by
  unfold finalQuals
  cases f.codon <;> cases f.byAS <;> cases (allNotes f extra).isEmpty <;> rfl

theorem nodup_finalQuals (f : Feat) (extra : Quals) (h : Q.Nodup f.quals) : Q.Nodup (finalQuals f extra) := by
  rw [finalQuals_assign]
  exact Q.nodup_assign _ (Q.nodup_update h _)

/-- every qualifier of the written feature -/
theorem get?_finalQuals (f : Feat) (extra : Quals) (he : Q.Nodup extra) (k : String) :
    Q.get? (finalQuals f extra) k =
      if k = "codon_start" ∧ f.codon.isSome then f.codon.map fun c => [strOfInt (c + 1)]
      else if k = "tool" ∧ f.byAS = true then some ["antismash"]
      else if k = "note" ∧ (allNotes f extra).isEmpty = false then some (sortStrs (allNotes f extra))
      else match (if k = "note" then none else Q.get? extra k) with
        | some v => some v
        | none => Q.get? f.quals k := by
  rw [finalQuals_assign, Q.get?_assign _ (by simp), Q.get?_update _ _ (Q.nodup_erase he _), Q.get?_erase]
  by_cases h3 : k = "note"
  · subst h3
    cases hn : (allNotes f extra).isEmpty <;> simp [Q.getO]
  by_cases h2 : k = "tool"
  · subst h2
    cases hb : f.byAS <;> simp [Q.getO]
  by_cases h1 : k = "codon_start"
  · subst h1
    cases hc : f.codon <;> simp [Q.getO]
  simp [Q.getO, h1, h2, h3]


/-! ### reading the written feature back -/

theorem intOfStr_strOfInt (i : Int) : intOfStr (strOfInt i) = some i := by
  simp [intOfStr, strOfInt, parseInt_intChars]

theorem firstDigit_codon (c : Int) (h : 0 ≤ c ∧ c ≤ 2) : firstDigit (strOfInt (c + 1)) = .ok (c + 1) := by
  have : c = 0 ∨ c = 1 ∨ c = 2 := by omega
  rcases this with rfl | rfl | rfl <;> rfl

theorem applyLeftovers_plain (f0 : Feat) (L : Quals) (hq : f0.quals = []) (hL : Q.Nodup L)
    (hc : Q.get? L "codon_start" = none) :
    applyLeftovers f0 L =
      .ok { f0 with byAS := !L.isEmpty && (Q.get? L "tool" == some ["antismash"]), quals := L } := by
  unfold applyLeftovers
  cases hL0 : L.isEmpty
  · simp only [Bool.false_eq_true, if_false, hc, hq, Q.update_nil L hL, Bool.not_false, Bool.true_and]
    rfl
  · have : L = [] := List.isEmpty_iff.1 hL0
    subst this
    simp only [if_true, Bool.not_true, Bool.false_and, pure, Except.pure]
    rw [← hq]

theorem applyLeftovers_codon (f0 : Feat) (L : Quals) (hq : f0.quals = []) (hL : Q.Nodup L) (c : Int)
    (hc : Q.get? L "codon_start" = some [strOfInt (c + 1)]) (hr : 0 ≤ c ∧ c ≤ 2) :
    applyLeftovers f0 L = (frameshift f0.loc (c + 1) false).map fun loc =>
      { f0 with byAS := (Q.get? L "tool" == some ["antismash"]), loc := loc, codon := some c,
                quals := Q.erase L "codon_start" } := by
  unfold applyLeftovers
  have hne := Q.isEmpty_of_get? hc
  simp only [hne, Bool.false_eq_true, if_false, hc, firstDigit_codon c hr, intOfStr_strOfInt, hq,
    Q.update_nil _ (Q.nodup_erase hL "codon_start"), bind, Except.bind, pure, Except.pure, Except.map]
  cases frameshift f0.loc (c + 1) false with
  | error e => rfl
  | ok loc =>
    simp only [Int.add_sub_cancel]

/-- well-formed base feature: a proper dictionary, `codon_start` only through the dedicated field, no
    stored empty note list, an `antismash` tool qualifier only on features made by antiSMASH, parts
    that are not inverted -/
structure Feat.WF (f : Feat) : Prop where
  quals : Q.Nodup f.quals
  noCodonKey : Q.get? f.quals "codon_start" = none
  noEmptyNote : Q.get? f.quals "note" ≠ some []
  tool : Q.get? f.quals "tool" = some ["antismash"] → f.byAS = true
  parts : ∀ p ∈ f.loc.parts, p.lo ≤ p.hi
  /-- undoing the codon_start shift (at most two bases) does not change whether the exon order
      says "crosses the origin" (true whenever exon starts are more than two bases apart) -/
  bridge : ∀ c l', f.codon = some c → frameshift f.loc (c + 1) true = .ok l' → bridgesOrigin l' = bridgesOrigin f.loc

/-- the state of a plain `Feature` after it was written and read back -/
def Feat.norm (f : Feat) : Feat :=
  { f with notes := sortStrs (allNotes f []),
           quals := Q.erase (Q.erase (Q.sortKeys (finalQuals f [])) "note") "codon_start" }

/-- … and of a feature whose class hands its leftovers over (the notes stay in the dictionary) -/
def Feat.normSub (f : Feat) : Feat :=
  { f with notes := [], quals := Q.erase (Q.sortKeys (finalQuals f [])) "codon_start" }

theorem allNotes_nil (f : Feat) : allNotes f [] = (Q.get? f.quals "note").getD [] ++ f.notes := by
  simp [allNotes, Q.get?]

theorem get?_FQ_note (f : Feat) :
    (Q.get? (finalQuals f []) "note").getD [] = sortStrs (allNotes f []) := by
  rw [get?_finalQuals f [] (by simp [Q.Nodup, Q.keys])]
  cases hn : (allNotes f []).isEmpty
  · simp
  · have he : allNotes f [] = [] := List.isEmpty_iff.1 hn
    have hs : (Q.get? f.quals "note").getD [] = [] := by
      rw [allNotes_nil] at he; exact (List.append_eq_nil_iff.1 he).1
    simp [he, sortStrs, hs]

theorem get?_FQ_codon_none (f : Feat) (h : f.WF) (hc : f.codon = none) : Q.get? (finalQuals f []) "codon_start" = none := by
  rw [get?_finalQuals f [] (by simp [Q.Nodup, Q.keys])]
  simp [hc, Q.get?, h.noCodonKey]

theorem get?_FQ_codon_some (f : Feat) (c : Int) (hc : f.codon = some c) :
    Q.get? (finalQuals f []) "codon_start" = some [strOfInt (c + 1)] := by
  rw [get?_finalQuals f [] (by simp [Q.Nodup, Q.keys])]
  simp [hc]

theorem get?_FQ_tool (f : Feat) (h : f.WF) :
    (Q.get? (finalQuals f []) "tool" == some ["antismash"]) = f.byAS := by
  rw [get?_finalQuals f [] (by simp [Q.Nodup, Q.keys])]
  cases hb : f.byAS
  · simp only [Bool.false_eq_true, and_false, if_false, Q.get?]
    have : Q.get? f.quals "tool" ≠ some ["antismash"] := fun e => by have := h.tool e; rw [hb] at this; cases this
    simp [this]
  · simp

/-- type and qualifiers of the written feature; its location too when no codon start is undone -/
theorem toBio_written (f : Feat) (X : Quals) (b : Bio) (h : f.toBio X = .ok b) :
    b.type = f.type ∧ b.quals = Q.sortKeys (finalQuals f X) ∧ (f.codon = none → b.loc = f.loc) := by
  rw [toBio_eq] at h
  cases hc : f.codon with
  | none => rw [hc] at h; cases h; exact ⟨rfl, rfl, fun _ => rfl⟩
  | some c =>
    rw [hc] at h
    dsimp only at h
    cases hf : frameshift f.loc (c + 1) true with
    | error e => rw [hf] at h; cases h
    | ok l => rw [hf] at h; cases h; exact ⟨rfl, rfl, fun e => by cases e⟩

/-- the shared tail of `from_biopython` on what `Feature.to_biopython` wrote (with or without its `note`): location
    and codon start come back, `created_by_antismash` is read off the `tool` marker -/
theorem applyLeftovers_written (f : Feat) (h : f.WF) (b : Bio) (hb : f.toBio = .ok b) (f0 : Feat) (L : Quals)
    (hq : f0.quals = []) (hloc : f0.loc = b.loc) (hc0 : f0.codon = none) (hL : Q.Nodup L)
    (hcodon : Q.get? L "codon_start" = Q.get? (finalQuals f []) "codon_start")
    (htool : Q.get? L "tool" = Q.get? (finalQuals f []) "tool") :
    applyLeftovers f0 L = .ok { f0 with loc := f.loc, byAS := f.byAS, codon := f.codon, quals := Q.erase L "codon_start" } := by
  rw [toBio_eq] at hb
  cases hc : f.codon with
  | none =>
    rw [hc] at hb
    cases hb
    have hcod : Q.get? L "codon_start" = none := by rw [hcodon, get?_FQ_codon_none f h hc]
    have hby : (!L.isEmpty && (Q.get? L "tool" == some ["antismash"])) = f.byAS := by
      rw [htool, get?_FQ_tool f h]
      cases hby : f.byAS
      · simp
      · have : Q.get? L "tool" = some ["antismash"] := by
          rw [htool]; have := get?_FQ_tool f h; rw [hby] at this; simpa using this
        simp [Q.isEmpty_of_get? this]
    rw [applyLeftovers_plain _ _ hq hL hcod, Q.erase_absent _ _ hcod, hby, hloc, hc0]
  | some c =>
    rw [hc] at hb
    dsimp only at hb
    cases hfs : frameshift f.loc (c + 1) true with
    | error e => rw [hfs] at hb; cases hb
    | ok l' =>
      rw [hfs] at hb
      cases hb
      obtain ⟨hredo, hr⟩ := frameshift_undo_redo f.loc l' c h.parts (h.bridge c l' hc hfs) hfs
      have hcod : Q.get? L "codon_start" = some [strOfInt (c + 1)] := by rw [hcodon, get?_FQ_codon_some f c hc]
      rw [applyLeftovers_codon _ _ hq hL c hcod hr, hloc]
      simp only [hredo, Except.map, htool, get?_FQ_tool f h]

theorem fromBio_toBio (f : Feat) (h : f.WF) (b : Bio) (hb : f.toBio = .ok b) : Feat.fromBio b = .ok f.norm := by
  obtain ⟨hty, hqs, _⟩ := toBio_written f [] b hb
  have hFQ := nodup_finalQuals f [] h.quals
  unfold Feat.fromBio
  rw [applyLeftovers_written f h b hb _ _ rfl rfl rfl (hqs ▸ Q.nodup_erase (Q.nodup_sortKeys hFQ) _)
    (by rw [hqs, Q.get?_erase_other _ _ _ (by simp), Q.get?_sortKeys hFQ])
    (by rw [hqs, Q.get?_erase_other _ _ _ (by simp), Q.get?_sortKeys hFQ])]
  unfold Feat.norm
  rw [hty, hqs, Q.get?_sortKeys hFQ, get?_FQ_note f]

/-- lookups in the written dictionary for the keys the base class does not manage -/
theorem get?_FQ_other (f : Feat) (k : String) (h1 : k ≠ "codon_start") (h2 : k ≠ "tool") (h3 : k ≠ "note") :
    Q.get? (finalQuals f []) k = Q.get? f.quals k := by
  rw [get?_finalQuals f [] nodupNil]
  simp [h1, h2, h3, Q.get?]

/-- no notes at all: in particular no stored `note` qualifier (an empty one is excluded by `Feat.WF`) -/
theorem note_none_of_allNotes_nil (f : Feat) (h : f.WF) (he : (allNotes f []).isEmpty = true) : Q.get? f.quals "note" = none := by
  have hs : (Q.get? f.quals "note").getD [] = [] := by
    have := List.isEmpty_iff.1 he
    rw [allNotes_nil] at this; exact (List.append_eq_nil_iff.1 this).1
  cases hg : Q.get? f.quals "note" with
  | none => rfl
  | some v =>
    rw [hg] at hs; simp at hs; subst hs
    exact absurd hg h.noEmptyNote

theorem get?_FQ_note_none (f : Feat) (h : f.WF) (he : (allNotes f []).isEmpty = true) :
    Q.get? (finalQuals f []) "note" = none := by
  rw [get?_finalQuals f [] nodupNil]
  simp [he, note_none_of_allNotes_nil f h he]

theorem get?_FQ_note_some (f : Feat) (he : (allNotes f []).isEmpty = false) :
    Q.get? (finalQuals f []) "note" = some (sortStrs (allNotes f [])) := by
  rw [get?_finalQuals f [] nodupNil]
  simp [he]

theorem get?_FQ_tool_false (f : Feat) (hb : f.byAS = false) : Q.get? (finalQuals f []) "tool" = Q.get? f.quals "tool" := by
  rw [get?_finalQuals f [] nodupNil]
  simp [hb, Q.get?]

theorem get?_FQ_tool_true (f : Feat) (hb : f.byAS = true) : Q.get? (finalQuals f []) "tool" = some ["antismash"] := by
  rw [get?_finalQuals f [] nodupNil]
  simp [hb]

/-- two features that agree on origin, codon start, on all notes together and on every other stored qualifier are
    written with the same dictionary, whatever qualifiers `X` (without `note`) the class adds.  A stored `tool` only
    matters for a feature not made by antiSMASH: otherwise the marker overwrites it. -/
theorem finalQuals_congr (f g : Feat) (X : Quals) (hX : Q.Nodup X) (hXn : Q.get? X "note" = none) (hf : f.WF) (hg : g.WF)
    (hby : g.byAS = f.byAS) (hcod : g.codon = f.codon)
    (hnotes : sortStrs (allNotes g []) = sortStrs (allNotes f []))
    (hq : ∀ k, k ≠ "codon_start" → k ≠ "note" → (k = "tool" → f.byAS = false) → Q.get? g.quals k = Q.get? f.quals k) :
    Q.sortKeys (finalQuals g X) = Q.sortKeys (finalQuals f X) := by
  apply Q.sortKeys_congr (nodup_finalQuals g X hg.quals) (nodup_finalQuals f X hf.quals)
  intro k
  have hax : ∀ h : Feat, allNotes h X = allNotes h [] := fun h => by simp [allNotes, hXn, Q.get?]
  have hemp : (allNotes g []).isEmpty = (allNotes f []).isEmpty := by
    rw [← sortStrs_isEmpty, ← sortStrs_isEmpty (allNotes f []), hnotes]
  rw [get?_finalQuals g X hX, get?_finalQuals f X hX, hax, hax, hnotes, hemp, hby, hcod]
  by_cases h1 : k = "codon_start"
  · subst h1
    simp [hg.noCodonKey, hf.noCodonKey]
  by_cases h2 : k = "tool"
  · subst h2
    cases hb : f.byAS
    · simp [hq "tool" (by simp) (by simp) (fun _ => hb)]
    · simp
  by_cases h3 : k = "note"
  · subst h3
    cases he : (allNotes f []).isEmpty
    · simp
    · simp [hXn, note_none_of_allNotes_nil f hf he, note_none_of_allNotes_nil g hg (hemp.trans he)]
  simp only [h1, h2, h3, false_and, if_false]
  rw [hq k h1 h3 (fun e => absurd e h2)]

theorem toBio_congr (f g : Feat) (hf : f.WF) (hg : g.WF) (hloc : g.loc = f.loc) (hty : g.type = f.type)
    (hby : g.byAS = f.byAS) (hcod : g.codon = f.codon)
    (hnotes : sortStrs (allNotes g []) = sortStrs (allNotes f []))
    (hq : ∀ k, k ≠ "codon_start" → k ≠ "note" → (k = "tool" → f.byAS = false) → Q.get? g.quals k = Q.get? f.quals k) :
    g.toBio = f.toBio := by
  rw [toBio_eq, toBio_eq, finalQuals_congr f g [] nodupNil rfl hf hg hby hcod hnotes hq, hloc, hty, hcod]

/-! #### the plain path (`Feature.from_biopython`: the notes leave the dictionary) -/

theorem get?_normQ (f : Feat) (h : f.WF) (k : String) :
    Q.get? f.norm.quals k = if k = "codon_start" ∨ k = "note" then none else Q.get? (finalQuals f []) k := by
  unfold Feat.norm
  simp only
  rw [Q.get?_erase, Q.get?_erase, Q.get?_sortKeys (nodup_finalQuals f [] h.quals)]
  by_cases h1 : k = "codon_start" <;> by_cases h3 : k = "note" <;> simp [h1, h3]

theorem allNotes_norm (f : Feat) (h : f.WF) : allNotes f.norm [] = sortStrs (allNotes f []) := by
  rw [allNotes_nil, get?_normQ f h]
  simp [Feat.norm]

theorem norm_WF (f : Feat) (h : f.WF) : f.norm.WF := by
  refine ⟨?_, ?_, ?_, ?_, h.parts, h.bridge⟩
  · exact Q.nodup_erase (Q.nodup_erase (Q.nodup_sortKeys (nodup_finalQuals f [] h.quals)) _) _
  · rw [get?_normQ f h]; simp
  · rw [get?_normQ f h]; simp
  · intro ht
    rw [get?_normQ f h] at ht
    simp only [show ¬ ("tool" = "codon_start" ∨ "tool" = "note") by decide, if_false] at ht
    have := get?_FQ_tool f h
    rw [ht] at this
    simpa [Feat.norm] using this.symm

theorem toBio_norm (f : Feat) (h : f.WF) : f.norm.toBio = f.toBio := by
  apply toBio_congr f f.norm h (norm_WF f h) rfl rfl rfl rfl
  · rw [allNotes_norm f h, sortStrs_idem]
  · intro k h1 h3 h2
    rw [get?_normQ f h]
    simp only [h1, h3, or_self, if_false]
    by_cases ht : k = "tool"
    · subst ht; exact get?_FQ_tool_false f (h2 rfl)
    · exact get?_FQ_other f k h1 ht h3

theorem view_congr (t : Bool) (f g : Feat) (hf : f.WF) (hg : g.WF) (hloc : g.loc = f.loc) (hty : g.type = f.type)
    (hby : g.byAS = f.byAS) (hcod : g.codon = f.codon)
    (hnotes : sortStrs (allNotes g []) = sortStrs (allNotes f []))
    (hq : ∀ k, k ≠ "codon_start" → k ≠ "note" → k ≠ "tool" → Q.get? g.quals k = Q.get? f.quals k) :
    g.view t = f.view t := by
  unfold Feat.view
  rw [hloc, hty, hby, hcod, ← allNotes_nil, ← allNotes_nil, hnotes]
  congr 1
  apply Q.sortKeys_congr (Q.nodup_erase (Q.nodup_erase hg.quals _) _) (Q.nodup_erase (Q.nodup_erase hf.quals _) _)
  intro k
  rw [Q.get?_erase, Q.get?_erase, Q.get?_erase, Q.get?_erase]
  by_cases h2 : k = "tool"
  · simp [h2]
  · by_cases h3 : k = "note"
    · simp [h3]
    · simp only [h2, h3, if_false]
      by_cases h1 : k = "codon_start"
      · subst h1; rw [hf.noCodonKey, hg.noCodonKey]
      · exact hq k h1 h3 h2

theorem view_norm (t : Bool) (f : Feat) (h : f.WF) : f.norm.view t = f.view t := by
  apply view_congr t f f.norm h (norm_WF f h) rfl rfl rfl rfl
  · rw [allNotes_norm f h, sortStrs_idem]
  · intro k h1 h3 h2
    rw [get?_normQ f h]
    simp only [h1, h3, or_self, if_false]
    exact get?_FQ_other f k h1 h2 h3

/-! #### the subclass path (`from_biopython` of genes, CDS, domains, …: notes stay in the dictionary) -/

theorem get?_normSubQ (f : Feat) (h : f.WF) (k : String) :
    Q.get? f.normSub.quals k = if k = "codon_start" then none else Q.get? (finalQuals f []) k := by
  unfold Feat.normSub
  simp only
  rw [Q.get?_erase, Q.get?_sortKeys (nodup_finalQuals f [] h.quals)]

theorem allNotes_normSub (f : Feat) (h : f.WF) : allNotes f.normSub [] = sortStrs (allNotes f []) := by
  rw [allNotes_nil, get?_normSubQ f h]
  simp only [show ¬ ("note" = "codon_start") by decide, if_false, get?_FQ_note f]
  simp [Feat.normSub]

theorem normSub_WF (f : Feat) (h : f.WF) : f.normSub.WF := by
  refine ⟨?_, ?_, ?_, ?_, h.parts, h.bridge⟩
  · exact Q.nodup_erase (Q.nodup_sortKeys (nodup_finalQuals f [] h.quals)) _
  · rw [get?_normSubQ f h]; simp
  · rw [get?_normSubQ f h]
    simp only [show ¬ ("note" = "codon_start") by decide, if_false]
    cases he : (allNotes f []).isEmpty
    · rw [get?_FQ_note_some f he]
      intro e
      have : (sortStrs (allNotes f [])).isEmpty = true := by
        injection e with e; rw [e]; rfl
      rw [sortStrs_isEmpty, he] at this; cases this
    · rw [get?_FQ_note_none f h he]; simp
  · intro ht
    rw [get?_normSubQ f h] at ht
    simp only [show ¬ ("tool" = "codon_start") by decide, if_false] at ht
    have := get?_FQ_tool f h
    rw [ht] at this
    simpa [Feat.normSub] using this.symm

theorem fromBioSub_toBio (f : Feat) (h : f.WF) (b : Bio) (hb : f.toBio = .ok b) (by0 : Bool) :
    Feat.fromBioSub b by0 = .ok f.normSub := by
  obtain ⟨hty, hqs, _⟩ := toBio_written f [] b hb
  have hFQ := nodup_finalQuals f [] h.quals
  unfold Feat.fromBioSub
  rw [applyLeftovers_written f h b hb _ _ rfl rfl rfl (hqs ▸ Q.nodup_sortKeys hFQ) (by rw [hqs, Q.get?_sortKeys hFQ])
    (by rw [hqs, Q.get?_sortKeys hFQ])]
  unfold Feat.normSub
  rw [hty, hqs]

theorem toBio_normSub (f : Feat) (h : f.WF) : f.normSub.toBio = f.toBio := by
  apply toBio_congr f f.normSub h (normSub_WF f h) rfl rfl rfl rfl
  · rw [allNotes_normSub f h, sortStrs_idem]
  · intro k h1 h3 h2
    rw [get?_normSubQ f h]
    simp only [h1, if_false]
    by_cases ht : k = "tool"
    · subst ht; exact get?_FQ_tool_false f (h2 rfl)
    · exact get?_FQ_other f k h1 ht h3

theorem view_normSub (t : Bool) (f : Feat) (h : f.WF) : f.normSub.view t = f.view t := by
  apply view_congr t f f.normSub h (normSub_WF f h) rfl rfl rfl rfl
  · rw [allNotes_normSub f h, sortStrs_idem]
  · intro k h1 h3 h2
    rw [get?_normSubQ f h]
    simp only [h1, if_false]
    exact get?_FQ_other f k h1 h2 h3

end ASV.Serial
