/-
  The simp set `results_json`: the readers of `ASV.Model.Results` (`lookup`, `reqStr`, `reqArr`, `isIntLit`, …),
  to be unfolded when a decoder runs on an object its encoder has written out key by key.
  (Declared here because an attribute cannot be used in the module that registers it.)
-/
import Lean.Meta.Tactic.Simp.RegisterCommand

/-- `simp [results_json, X.toJson, X.fromJson, …]` evaluates the decoder of class `X` on what its encoder wrote:
    every read is a `lookup` of a literal key in a literal key list. -/
register_simp_attr results_json
