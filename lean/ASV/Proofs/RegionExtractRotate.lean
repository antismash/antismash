/-
  C12 (and C04, `offset_ring_rotates_general`): `offset_location` rotates any location whose parts lie in the
  record and are on one strand, for every offset `k ≠ 0`: every part is shifted and brought back into the
  record (`wrapPart`), abutting pieces are merged (`mergeAdjacent`, which after the repair D58 keeps all bases for
  runs of any length), and the result covers exactly the bases `i` with `(i - k) mod L` in the location, each base
  as often as the location does (`cnt`), with the same total length and strand (`offset_rotates`); the form region
  extraction uses, `offset_back_rotates`, also covers the offset 0 and locations as long as the record.
-/
import ASV.Proofs.RegionExtractBases
namespace ASV.RegionExtract
open ASV

/-- total length of a list of parts -/
def lenSum (ps : List Part) : Int := (ps.map Part.len).sum

theorem lenSum_cons (p : Part) (ps : List Part) : lenSum (p :: ps) = p.len + lenSum ps := by simp [lenSum]

/-- how many of the parts contain base `i` -/
def cnt (ps : List Part) (i : Int) : Nat := ps.countP (·.mem i)

theorem cnt_cons (p : Part) (ps : List Part) (i : Int) : cnt (p :: ps) i = (if p.mem i then 1 else 0) + cnt ps i := by
  simp only [cnt, List.countP_cons]; omega

theorem len_pos_of_parts' (L : Int) (l : Loc) (hne : l.parts ≠ []) (hp : ∀ p ∈ l.parts, PartIn L p) : 0 < l.len := by
  unfold Loc.len
  have : ∀ ps : List Part, ps ≠ [] → (∀ p ∈ ps, PartIn L p) → 0 < (ps.map Part.len).sum := by
    intro ps
    induction ps with
    | nil => intro h; exact absurd rfl h
    | cons p ps ih =>
      intro _ h
      have hp := h p (by simp)
      unfold PartIn at hp
      by_cases hps : ps = []
      · subst hps; simp [Part.len]; omega
      · have := ih hps (fun q hq => h q (by simp [hq]))
        simp only [List.map_cons, List.sum_cons, Part.len] at this ⊢
        omega
  exact this l.parts hne hp

theorem Part.mem_merge (a b : Part) (s : Strand) (ha : a.lo ≤ a.hi) (hb : b.lo ≤ b.hi) (hadj : a.hi = b.lo) (i : Int) :
    (⟨a.lo, b.hi, s⟩ : Part).mem i = (a.mem i || b.mem i) := by
  rw [Bool.eq_iff_iff]
  simp only [Bool.or_eq_true, Part.mem_iff]
  omega

theorem cnt_append (a b : List Part) (i : Int) : cnt (a ++ b) i = cnt a i + cnt b i := by
  simp [cnt, List.countP_append]

theorem mem_iff_cnt_pos (l : Loc) (i : Int) : l.mem i = true ↔ 0 < cnt l.parts i := by
  simp only [Loc.mem, cnt, List.any_eq_true, List.countP_pos_iff]

/-- two parts without a common base count like one part made of both -/
theorem cnt_pair (a b : Part) (i : Int) (P : Prop) [Decidable P] (hdis : ¬ (a.mem i = true ∧ b.mem i = true))
    (h : (a.mem i = true ∨ b.mem i = true) ↔ P) : cnt [a, b] i = if P then 1 else 0 := by
  simp only [cnt]
  by_cases hP : P
  · rw [if_pos hP]
    rcases h.2 hP with h1 | h1
    · have h2 : ¬ b.mem i = true := fun h2 => hdis ⟨h1, h2⟩
      simp [h1, h2]
    · have h2 : ¬ a.mem i = true := fun h2 => hdis ⟨h2, h1⟩
      simp [h1, h2]
  · rw [if_neg hP]
    have h1 : ¬ a.mem i = true := fun h1 => hP (h.1 (.inl h1))
    have h2 : ¬ b.mem i = true := fun h2 => hP (h.1 (.inr h2))
    simp [h1, h2]

theorem cnt_single (a : Part) (i : Int) (P : Prop) [Decidable P] (h : a.mem i = true ↔ P) :
    cnt [a] i = if P then 1 else 0 := by
  rw [cnt_cons]
  simp only [cnt, List.countP_nil, Nat.add_zero]
  by_cases hP : P
  · rw [if_pos hP, if_pos (h.2 hP)]
  · rw [if_neg hP, if_neg (fun h1 => hP (h.1 h1))]

/-- `mergeAdjacent` (after the repair D58) keeps how often each base is covered, the total length and the validity
    of the parts, for runs of abutting pieces of any length, provided abutting pieces share their strand (otherwise
    it raises) -/
theorem mergeAdjacent_cnt (L : Int) (s : Strand) : ∀ (rest more : List Part) (previous m : Part),
    m.hi = previous.hi → PartIn L previous → PartIn L m → (∀ p ∈ more, PartIn L p) → (∀ p ∈ rest, PartIn L p) →
    previous.strand = s → (∀ p ∈ rest, p.strand = s) →
    ∃ r, mergeAdjacent (m :: more) previous rest = .ok r ∧ (∀ p ∈ r, PartIn L p) ∧
      lenSum r = lenSum (m :: more) + lenSum rest ∧
      (∀ i, cnt r i = cnt (m :: more) i + cnt rest i) ∧
      (m.strand = s → (∀ p ∈ more, p.strand = s) → ∀ p ∈ r, p.strand = s)
  | [], more, previous, m, _, _, hm, hmore, _, _, _ => by
    have hall : ∀ (Q : Part → Prop), Q m → (∀ p ∈ more, Q p) → ∀ p ∈ (m :: more).reverse, Q p := by
      intro Q h1 h2 p hp
      rcases List.mem_cons.1 (List.mem_reverse.1 hp) with rfl | hp
      · exact h1
      · exact h2 p hp
    refine ⟨(m :: more).reverse, rfl, hall (PartIn L) hm hmore, ?_, fun i => ?_, hall (fun p => p.strand = s)⟩
    · simp only [lenSum, List.map_reverse, List.sum_reverse, List.map_nil, List.sum_nil, Int.add_zero]
    · simp only [cnt, List.countP_reverse, List.countP_nil, Nat.add_zero]
  | part :: rest, more, previous, m, hmh, hprev, hm, hmore, hrest, hs, hsr => by
    have hpart : PartIn L part := hrest part (by simp)
    have hps : part.strand = s := hsr part (by simp)
    have hrest' : ∀ p ∈ rest, PartIn L p := fun p hp => hrest p (by simp [hp])
    have hsr' : ∀ p ∈ rest, p.strand = s := fun p hp => hsr p (by simp [hp])
    unfold PartIn at hpart hm
    by_cases hadj : previous.hi = part.lo
    · obtain ⟨r, hr, hin, hsum, hcnt, hstr⟩ := mergeAdjacent_cnt L s rest more part ⟨m.lo, part.hi, part.strand⟩ rfl hpart
        ⟨hm.1, by show m.lo < part.hi; omega, hpart.2.2⟩ hmore hrest' hps hsr'
      have hse : ¬ (previous.strand != part.strand) = true := by simp [hs, hps]
      refine ⟨r, ?_, hin, ?_, fun i => ?_, fun _ h2 => hstr hps h2⟩
      · simp only [mergeAdjacent, hadj, if_true, hse, if_false, Bool.false_eq_true]
        exact hr
      · rw [hsum]
        simp only [lenSum_cons, Part.len]
        omega
      · -- the merged piece covers what the two abutting pieces covered, and they share no base
        rw [hcnt i]
        simp only [cnt_cons, Part.mem_merge m part part.strand (by omega) (by omega) (by omega) i]
        have hdis : ¬ (m.mem i = true ∧ part.mem i = true) := by
          simp only [Part.mem_iff]; omega
        have e : (if (m.mem i || part.mem i) = true then 1 else 0 : Nat) =
            (if m.mem i = true then 1 else 0) + (if part.mem i = true then 1 else 0) := by
          cases h1 : m.mem i
          · simp
          · have h2 : part.mem i = false := by
              cases h2 : part.mem i
              · rfl
              · exact absurd ⟨h1, h2⟩ hdis
            simp [h2]
        rw [e]
        omega
    · obtain ⟨r, hr, hin, hsum, hcnt, hstr⟩ := mergeAdjacent_cnt L s rest (m :: more) part part rfl hpart hpart
        (by intro p hp; rcases List.mem_cons.1 hp with rfl | hp; exact hm; exact hmore p hp) hrest' hps hsr'
      refine ⟨r, ?_, hin, ?_, fun i => ?_, fun h1 h2 => hstr hps ?_⟩
      · simp only [mergeAdjacent, hadj, if_false]
        exact hr
      · rw [hsum]
        simp only [lenSum_cons]
        omega
      · rw [hcnt i]
        simp only [cnt_cons]
        omega
      · intro p hp
        rcases List.mem_cons.1 hp with rfl | hp
        · exact h1
        · exact h2 p hp

/-- the bases `i` of the record with `(i - k) mod L` in `[lo, hi)`: from `(lo + k) mod L` on for the length of the
    interval, round the origin -/
theorem rot_mem (L lo hi k i : Int) (h0 : 0 ≤ lo) (h1 : lo < hi) (h2 : hi ≤ L) (hi0 : 0 ≤ i) (hiL : i < L) :
    (lo ≤ (i - k) % L ∧ (i - k) % L < hi) ↔
      (((lo + k) % L ≤ i ∧ i < (lo + k) % L + (hi - lo)) ∨ i < (lo + k) % L + (hi - lo) - L) := by
  have hL : 0 < L := by omega
  obtain ⟨c, hc, hs0, hs1⟩ := emod_shift (lo + k) L hL
  generalize (lo + k) % L = a at hc hs0 hs1 ⊢
  -- `i - k` and `i - a + lo` differ by a multiple of `L`
  have e : (i - k) % L = (i - a + lo) % L := by
    have : i - k = (i - a + lo) + (-c) * L := by rw [Int.neg_mul]; omega
    rw [this, Int.add_mul_emod_self_right]
  rw [e]
  by_cases c1 : i - a + lo < 0
  · rw [emod_neg' _ L (by omega) c1]; omega
  · by_cases c2 : i - a + lo < L
    · rw [Int.emod_eq_of_lt (by omega) c2]; omega
    · rw [emod_big' _ L (by omega) (by omega)]; omega

/-- one part, shifted by `k` and brought back into the record: valid pieces of the same strand and total length;
    a base of the record lies in exactly one of them if it is a rotated base of the part, in none otherwise -/
theorem wrapPart_shift (L k : Int) (p : Part) (hp : PartIn L p) :
    (∀ q ∈ wrapPart L (shiftPart k p), PartIn L q ∧ q.strand = p.strand) ∧
    (∀ i, cnt (wrapPart L (shiftPart k p)) i = if 0 ≤ i ∧ i < L ∧ p.mem ((i - k) % L) = true then 1 else 0) ∧
    lenSum (wrapPart L (shiftPart k p)) = p.len := by
  obtain ⟨lo, hi, s⟩ := p
  obtain ⟨h0, h1, h2⟩ := hp
  simp only at h0 h1 h2
  have hL : 0 < L := by omega
  have ha0 := Int.emod_nonneg (lo + k) (by omega : L ≠ 0)
  have haL := Int.emod_lt_of_pos (lo + k) hL
  have hmem := fun i => rot_mem L lo hi k i h0 h1 h2
  simp only [shiftPart, Part.mem_iff, Part.len]
  rw [wrapPart_eq L (lo + k) (hi + k) s hL (by omega) (by omega), (by omega : hi + k - (lo + k) = hi - lo)]
  generalize (lo + k) % L = a at ha0 haL hmem ⊢
  by_cases hfit : a + (hi - lo) ≤ L
  · rw [if_pos hfit]
    refine ⟨fun q hq => ?_, fun i => cnt_single _ i _ ?_, ?_⟩
    · rw [List.mem_singleton] at hq
      subst hq
      exact ⟨⟨ha0, by show a < a + (hi - lo); omega, hfit⟩, rfl⟩
    · simp only [Part.mem_iff]
      constructor
      · intro h
        have hi0 : 0 ≤ i := by omega
        have hiL : i < L := by omega
        exact ⟨hi0, hiL, (hmem i hi0 hiL).2 (.inl h)⟩
      · rintro ⟨hi0, hiL, h⟩
        have := (hmem i hi0 hiL).1 h
        omega
    · simp only [lenSum, List.map_cons, List.map_nil, List.sum_cons, List.sum_nil, Part.len]
      omega
  · rw [if_neg hfit]
    refine ⟨fun q hq => ?_, fun i => cnt_pair _ _ i _ (by simp only [Part.mem_iff]; omega) ?_, ?_⟩
    · simp only [List.mem_cons, List.mem_nil_iff, or_false] at hq
      rcases hq with rfl | rfl
      · exact ⟨⟨ha0, haL, Int.le_refl L⟩, rfl⟩
      · exact ⟨⟨Int.le_refl 0, by show 0 < a + (hi - lo) - L; omega, by show a + (hi - lo) - L ≤ L; omega⟩, rfl⟩
    · simp only [Part.mem_iff]
      constructor
      · intro h
        have hi0 : 0 ≤ i := by omega
        have hiL : i < L := by omega
        exact ⟨hi0, hiL, (hmem i hi0 hiL).2 (by omega)⟩
      · rintro ⟨hi0, hiL, h⟩
        have := (hmem i hi0 hiL).1 h
        omega
    · simp only [lenSum, List.map_cons, List.map_nil, List.sum_cons, List.sum_nil, Part.len]
      omega

theorem emod_emod_shift (a L : Int) (hL : 0 < L) : (a + L) % L = a % L := by
  have : a + L = a + 1 * L := by omega
  rw [this, Int.add_mul_emod_self_right]

theorem cnt_rotPieces (L k : Int) (i : Int) : ∀ ps : List Part, (∀ p ∈ ps, PartIn L p) →
    cnt (ps.flatMap fun p => wrapPart L (shiftPart k p)) i = if 0 ≤ i ∧ i < L then cnt ps ((i - k) % L) else 0
  | [], _ => by simp [cnt]
  | p :: ps, h => by
    have h1 := (wrapPart_shift L k p (h p (by simp))).2.1 i
    have h2 := cnt_rotPieces L k i ps (fun q hq => h q (by simp [hq]))
    simp only [List.flatMap_cons, cnt_append, h1, h2, cnt_cons]
    by_cases hr : 0 ≤ i ∧ i < L
    · by_cases hm : p.mem ((i - k) % L) = true
      · simp [hr, hm]
      · simp [hr, hm]
    · have : ¬ (0 ≤ i ∧ i < L ∧ p.mem ((i - k) % L) = true) := fun hh => hr ⟨hh.1, hh.2.1⟩
      simp [hr, this]

theorem lenSum_rotPieces (L k : Int) : ∀ ps : List Part, (∀ p ∈ ps, PartIn L p) →
    lenSum (ps.flatMap fun p => wrapPart L (shiftPart k p)) = lenSum ps
  | [], _ => rfl
  | p :: ps, h => by
    have h1 := (wrapPart_shift L k p (h p (by simp))).2.2
    have h2 := lenSum_rotPieces L k ps (fun q hq => h q (by simp [hq]))
    simp only [List.flatMap_cons, lenSum, List.map_append, List.sum_append, List.map_cons, List.sum_cons] at h1 h2 ⊢
    rw [h1, h2]

theorem rotPieces_inside (L k : Int) : ∀ ps : List Part, (∀ p ∈ ps, 0 ≤ p.lo + k ∧ p.lo < p.hi ∧ p.hi + k ≤ L) →
    (ps.flatMap fun p => wrapPart L (shiftPart k p)) = ps.map (shiftPart k)
  | [], _ => rfl
  | p :: ps, h => by
    have hp := h p (by simp)
    simp only [List.flatMap_cons, List.map_cons]
    rw [rotPieces_inside L k ps (fun q hq => h q (by simp [hq]))]
    exact congrArg (· ++ _) (wrapPart_inside L (p.lo + k) (p.hi + k) p.strand hp.1 (by omega) hp.2.2)

/-- `offset_location` rotates: for parts inside the record of one strand, any offset `k ≠ 0` and a location not as
    long as the record, the result is made of valid parts of the same total length and covers exactly the bases
    `i` with `(i - k) mod L` in the location, each as often as the location does -/
theorem offset_rotates (l : Loc) (k L : Int) (s : Strand) (hne : l.parts ≠ [])
    (hparts : ∀ p ∈ l.parts, PartIn L p) (hs : ∀ p ∈ l.parts, p.strand = s)
    (hk : k ≠ 0) (hlen : l.len ≠ L) :
    ∃ r, offsetLocation l k L = .ok r ∧ (∀ p ∈ r.parts, PartIn L p) ∧ r.len = l.len ∧
      (∀ i, r.mem i = true ↔ (0 ≤ i ∧ i < L ∧ l.mem ((i - k) % L) = true)) ∧
      (∀ i, cnt r.parts i = if 0 ≤ i ∧ i < L then cnt l.parts ((i - k) % L) else 0) ∧
      (∀ p ∈ r.parts, p.strand = s) := by
  obtain ⟨p0, hp0⟩ := List.exists_mem_of_ne_nil _ hne
  have hL : 0 < L := by have := hparts p0 hp0; unfold PartIn at this; omega
  have hnonempty : ∀ p ∈ l.parts, p.lo < p.hi := fun p hp => (hparts p hp).2.1
  -- it is enough to know the parts of the result: they are the merged pieces
  suffices h : ∃ r, offsetLocation l k L = .ok r ∧ (∀ p ∈ r.parts, PartIn L p) ∧ lenSum r.parts = lenSum l.parts ∧
      (∀ i, cnt r.parts i = cnt (rotPieces L k l) i) ∧ (∀ p ∈ r.parts, p.strand = s) by
    obtain ⟨r, hr, hin, hlenr, hcnt, hstr⟩ := h
    have hcnt' : ∀ i, cnt r.parts i = if 0 ≤ i ∧ i < L then cnt l.parts ((i - k) % L) else 0 :=
      fun i => (hcnt i).trans (cnt_rotPieces L k i l.parts hparts)
    refine ⟨r, hr, hin, hlenr, fun i => ?_, hcnt', hstr⟩
    rw [mem_iff_cnt_pos, hcnt' i, mem_iff_cnt_pos]
    by_cases hi : 0 ≤ i ∧ i < L
    · rw [if_pos hi]
      exact ⟨fun h => ⟨hi.1, hi.2, h⟩, fun h => h.2.2⟩
    · rw [if_neg hi]
      exact ⟨fun h => absurd h (Nat.lt_irrefl 0), fun h => absurd ⟨h.1, h.2.1⟩ hi⟩
  by_cases htriv : 0 < l.start + k ∧ l.start + k < l.end + k ∧ l.end + k < L
  · -- no wrapping: every part moved
    have hshparts : (shiftLoc l k).parts = l.parts.map (shiftPart k) := by
      cases l <;> simp [shiftLoc, Loc.parts, shiftPart]
    have hinside : ∀ p ∈ l.parts, 0 ≤ p.lo + k ∧ p.lo < p.hi ∧ p.hi + k ≤ L := by
      intro p hp
      have hb := start_le_part l p hp
      have := hparts p hp
      unfold PartIn at this
      omega
    have hpieces : l.parts.map (shiftPart k) = rotPieces L k l := (rotPieces_inside L k l.parts hinside).symm
    refine ⟨shiftLoc l k, offset_no_wrap l k L hne hnonempty hk hL hlen htriv.1 htriv.2.2, ?_, ?_, ?_, ?_⟩
    · intro p hp
      rw [hshparts] at hp
      obtain ⟨q, hq, rfl⟩ := List.mem_map.1 hp
      have := hinside q hq
      exact ⟨this.1, by show q.lo + k < q.hi + k; omega, this.2.2⟩
    · rw [hshparts, hpieces]
      exact lenSum_rotPieces L k l.parts hparts
    · intro i
      rw [hshparts, hpieces]
    · intro p hp
      rw [hshparts] at hp
      obtain ⟨q, hq, rfl⟩ := List.mem_map.1 hp
      exact hs q hq
  · -- general branch: the pieces, merged where they abut
    have hsp := shiftedParts_ok l k hnonempty
    rw [offsetLocation_general l k L _ hL hk hlen htriv hsp, List.flatMap_map]
    have hpieces : (l.parts.flatMap fun p => wrapPart L ⟨p.lo + k, p.hi + k, p.strand⟩) = rotPieces L k l := rfl
    rw [hpieces]
    have hall : ∀ q ∈ rotPieces L k l, PartIn L q ∧ q.strand = s := by
      intro q hq
      obtain ⟨p, hp, hqp⟩ := List.mem_flatMap.1 hq
      have := (wrapPart_shift L k p (hparts p hp)).1 q hqp
      exact ⟨this.1, by rw [this.2, hs p hp]⟩
    have hls : lenSum (rotPieces L k l) = lenSum l.parts := lenSum_rotPieces L k l.parts hparts
    cases hpc : rotPieces L k l with
    | nil =>
      exfalso
      rw [hpc] at hls
      have := len_pos_of_parts' L l hne hparts
      unfold Loc.len at this
      unfold lenSum at hls
      simp only [List.map_nil, List.sum_nil] at hls
      omega
    | cons first rest =>
      rw [hpc] at hall hls
      obtain ⟨r, hr, hin, hsum, hcnt, hstr⟩ := mergeAdjacent_cnt L s rest [] first first rfl (hall first (by simp)).1
        (hall first (by simp)).1 (by simp) (fun p hp => (hall p (by simp [hp])).1) (hall first (by simp)).2
        (fun p hp => (hall p (by simp [hp])).2)
      have hallB := allIn_of L (first :: rest) (fun p hp => (hall p hp).1)
      have hparts_r : (Loc.ofParts r).parts = r := ofParts_parts r
      refine ⟨Loc.ofParts r, ?_, ?_, ?_, ?_, ?_⟩
      · unfold finishOffset
        simp only [hallB, Bool.not_true, Bool.false_eq_true, if_false, bind, Except.bind, pure, Except.pure, hr]
      · rw [hparts_r]; exact hin
      · rw [hparts_r, hsum, ← hls]
        simp only [lenSum, List.map_cons, List.sum_cons, List.map_nil, List.sum_nil]
        omega
      · intro i
        rw [hparts_r, hcnt i, cnt_cons first rest i, cnt_cons first [] i]
        simp [cnt]
      · rw [hparts_r]
        exact hstr (hall first (by simp)).2 (by simp)

/-- `offset_rotates` with the bounds on `k` that `Proofs/LocOffsetGeneral.lean` passes (they are not needed) -/
theorem offset_rotates_full (l : Loc) (k L : Int) (s : Strand) (hne : l.parts ≠ [])
    (hparts : ∀ p ∈ l.parts, PartIn L p) (hs : ∀ p ∈ l.parts, p.strand = s)
    (hk : k ≠ 0) (hk0 : -L < k) (hk1 : k < L) (hlen : l.len ≠ L) :
    ∃ r, offsetLocation l k L = .ok r ∧ (∀ p ∈ r.parts, PartIn L p) ∧ r.len = l.len ∧
      (∀ i, r.mem i = true ↔ (0 ≤ i ∧ i < L ∧ l.mem ((i - k) % L) = true)) ∧
      (∀ i, cnt r.parts i = if 0 ≤ i ∧ i < L then cnt l.parts ((i - k) % L) else 0) ∧
      (∀ p ∈ r.parts, p.strand = s) :=
  offset_rotates l k L s hne hparts hs hk hlen

/-- the part of `offset_rotates_full` used for the bases -/
theorem offset_rotates_general (l : Loc) (k L : Int) (s : Strand) (hne : l.parts ≠ [])
    (hparts : ∀ p ∈ l.parts, PartIn L p) (hs : ∀ p ∈ l.parts, p.strand = s)
    (hk : k ≠ 0) (hk0 : -L < k) (hk1 : k < L) (hlen : l.len ≠ L) :
    ∃ r, offsetLocation l k L = .ok r ∧ (∀ p ∈ r.parts, PartIn L p) ∧ r.len = l.len ∧
      ∀ i, r.mem i = true ↔ (0 ≤ i ∧ i < L ∧ l.mem ((i - k) % L) = true) := by
  obtain ⟨r, h1, h2, h3, h4, _⟩ := offset_rotates l k L s hne hparts hs hk hlen
  exact ⟨r, h1, h2, h3, h4⟩

theorem mem_inside (L : Int) (l : Loc) (hparts : ∀ p ∈ l.parts, PartIn L p) (i : Int) (h : l.mem i = true) :
    0 ≤ i ∧ i < L := by
  simp only [Loc.mem, List.any_eq_true, Part.mem_iff] at h
  obtain ⟨p, hp, h1, h2⟩ := h
  have := hparts p hp
  unfold PartIn at this
  omega

/-- a location as long as the record is returned as it is -/
theorem offsetLocation_whole (l : Loc) (k L : Int) (hk : k ≠ 0) (hL : 0 < L) (hlen : l.len = L) :
    offsetLocation l k L = .ok l := by
  have hL0 : L ≠ 0 := by omega
  have hlt : ¬ L < 1 := by omega
  simp [offsetLocation, hL0, hk, hlt, hlen, pure, Except.pure]

/-- `offset_location` by `-st` for every `0 ≤ st < L`, in the form region extraction uses it: the result covers
    the bases `i` with `(st + i) mod L` in the location.  A location as long as the record comes back unchanged,
    which is a rotation only if it covers every base (`hwhole`; parts may overlap). -/
theorem offset_back_rotates (l : Loc) (st L : Int) (s : Strand) (hne : l.parts ≠ [])
    (hparts : ∀ p ∈ l.parts, PartIn L p) (hs : ∀ p ∈ l.parts, p.strand = s) (hst0 : 0 ≤ st) (hstL : st < L)
    (hwhole : l.len = L → ∀ j, 0 ≤ j → j < L → l.mem j = true) :
    ∃ r, offsetLocation l (-st) L = .ok r ∧ r.parts ≠ [] ∧ r.len = l.len ∧
      ∀ i, r.mem i = true ↔ (0 ≤ i ∧ i < L ∧ l.mem ((st + i) % L) = true) := by
  have hL : 0 < L := by omega
  by_cases hz : st = 0
  · subst hz
    refine ⟨l, by simp [offsetLocation, pure, Except.pure], hne, rfl, fun i => ?_⟩
    rw [Int.zero_add]
    constructor
    · intro h
      have hb := mem_inside L l hparts i h
      rw [Int.emod_eq_of_lt hb.1 hb.2]
      exact ⟨hb.1, hb.2, h⟩
    · rintro ⟨h0, h1, h⟩
      rw [Int.emod_eq_of_lt h0 h1] at h
      exact h
  by_cases hlen : l.len = L
  · refine ⟨l, offsetLocation_whole l (-st) L (by omega) hL hlen, hne, rfl, fun i => ?_⟩
    constructor
    · intro h
      have hb := mem_inside L l hparts i h
      exact ⟨hb.1, hb.2, hwhole hlen _ (Int.emod_nonneg _ (by omega)) (Int.emod_lt_of_pos _ hL)⟩
    · rintro ⟨h0, h1, _⟩
      exact hwhole hlen i h0 h1
  · obtain ⟨r, hr, _, hrl, hmem⟩ := offset_rotates_general l (-st) L s hne hparts hs (by omega) (by omega) (by omega) hlen
    refine ⟨r, hr, ?_, hrl, fun i => ?_⟩
    · intro he
      have h0 := len_pos_of_parts' L l hne hparts
      rw [← hrl] at h0
      simp [Loc.len, he] at h0
    · rw [hmem i]
      have : i - -st = st + i := by omega
      rw [this]

end ASV.RegionExtract
