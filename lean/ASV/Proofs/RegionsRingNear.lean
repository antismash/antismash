/-
  C06: `ArcUnions` holds for every layout whose areas lie within W bases of the origin of a
  ring longer than 4 W (before it, after it, spanning it): unions of joined families are unrolled intervals.
-/
import ASV.Proofs.RegionsRingOne
namespace ASV.Regions
open ASV ASV.Components

/-- an area within `W` bases of the origin of a ring of length `L`: before it, after it, or spanning it -/
def NearOrigin (W L : Int) (l : Loc) : Prop :=
  (∃ p, l = .simple p ∧ 0 ≤ p.lo ∧ p.lo < p.hi ∧ p.hi ≤ W) ∨
  (∃ p, l = .simple p ∧ L - W ≤ p.lo ∧ p.lo < p.hi ∧ p.hi ≤ L) ∨
  (∃ x y, l = areaTwo x y L .fwd ∧ L - W ≤ x ∧ x < L ∧ 0 < y ∧ y ≤ W)

/-- base `i` of the ring lies in the unrolled interval `[lo, hi)` around the origin -/
def InU (lo hi L i : Int) : Prop := (0 ≤ i ∧ i < L) ∧ ((lo ≤ i ∧ i < hi) ∨ (lo ≤ i - L ∧ i - L < hi))

/-- the three positions of an unrolled interval relative to the origin, in ring coordinates -/
theorem InU_after {lo hi L i : Int} (h0 : 0 ≤ lo) (h1 : hi ≤ L) : InU lo hi L i ↔ lo ≤ i ∧ i < hi := by
  unfold InU; omega

theorem InU_before {lo hi L i : Int} (h0 : -L ≤ lo) (h1 : hi ≤ 0) : InU lo hi L i ↔ lo + L ≤ i ∧ i < hi + L := by
  unfold InU; omega

theorem InU_across {lo hi L i : Int} (h0 : -L ≤ lo) (h1 : lo < 0) (h2 : 0 < hi) (h3 : hi ≤ lo + L) :
    InU lo hi L i ↔ (lo + L ≤ i ∧ i < L) ∨ (0 ≤ i ∧ i < hi) := by
  unfold InU; omega

/-- two overlapping intervals of the line cover exactly their hull -/
theorem interval_union {lo1 hi1 lo2 hi2 : Int} (h12 : lo1 < hi2) (h21 : lo2 < hi1) (k : Int) :
    (lo1 ≤ k ∧ k < hi1) ∨ (lo2 ≤ k ∧ k < hi2) ↔ min lo1 lo2 ≤ k ∧ k < max hi1 hi2 := by
  omega

/-- … and so do their unrolled images: the union is taken on the line, once for `i` and once for `i - L` -/
theorem InU_union {L lo1 hi1 lo2 hi2 : Int} (h12 : lo1 < hi2) (h21 : lo2 < hi1) (i : Int) :
    InU lo1 hi1 L i ∨ InU lo2 hi2 L i ↔ InU (min lo1 lo2) (max hi1 hi2) L i := by
  simp only [InU, ← interval_union h12 h21, ← and_or_left, or_or_or_comm]

theorem nearOrigin_interval {W L : Int} (hW : 0 < W) (hL : 4 * W < L) {l : Loc} (h : NearOrigin W L l) :
    ∃ lo hi, -W ≤ lo ∧ lo < hi ∧ hi ≤ W ∧ ∀ i, l.mem i = true ↔ InU lo hi L i := by
  rcases h with ⟨p, rfl, h0, h1, h2⟩ | ⟨p, rfl, h0, h1, h2⟩ | ⟨x, y, rfl, h0, h1, h2, h3⟩
  · refine ⟨p.lo, p.hi, by omega, h1, h2, ?_⟩
    intro i; rw [mem_simple, InU_after h0 (by omega)]
  · refine ⟨p.lo - L, p.hi - L, by omega, by omega, by omega, ?_⟩
    intro i; rw [mem_simple, InU_before (by omega) (by omega), Int.sub_add_cancel, Int.sub_add_cancel]
  · refine ⟨x - L, y, by omega, by omega, h3, ?_⟩
    intro i; rw [mem_areaTwo, InU_across (by omega) (by omega) h2 (by omega), Int.sub_add_cancel]

/-- the union of a joined family of areas near the origin is an unrolled interval -/
theorem joined_interval {W L : Int} (hW : 0 < W) (hL : 4 * W < L) {all : List Feat}
    (hnear : ∀ f ∈ all, NearOrigin W L f.loc) {ms : List Feat} (hj : Joined all ms) :
    ∃ lo hi, -W ≤ lo ∧ lo < hi ∧ hi ≤ W ∧ ∀ i, (∃ m ∈ ms, m.loc.mem i = true) ↔ InU lo hi L i := by
  induction hj with
  | single a ha =>
    obtain ⟨lo, hi, h1, h2, h3, h4⟩ := nearOrigin_interval hW hL (hnear a ha)
    exact ⟨lo, hi, h1, h2, h3, by intro i; simp [h4 i]⟩
  | join m1 m2 ms _ _ hshare hms ih1 ih2 =>
    obtain ⟨lo1, hi1, a1, a2, a3, a4⟩ := ih1
    obtain ⟨lo2, hi2, b1, b2, b3, b4⟩ := ih2
    obtain ⟨a, ha, b, hb, j, hja, hjb⟩ := hshare
    have hj1 : InU lo1 hi1 L j := (a4 j).1 ⟨a, ha, hja⟩
    have hj2 : InU lo2 hi2 L j := (b4 j).1 ⟨b, hb, hjb⟩
    -- both windows lie within `W` of the origin and `4 W < L`, so `j` is seen at the same unrolled position in both
    have hov : lo1 < hi2 ∧ lo2 < hi1 := by
      unfold InU at hj1 hj2; omega
    refine ⟨min lo1 lo2, max hi1 hi2, by omega, by omega, by omega, ?_⟩
    intro i
    rw [exists_mem_join hms, a4 i, b4 i, InU_union hov.1 hov.2]

/-- `ArcUnions` holds whenever every area lies within `W` bases of the origin and `4 W < L`: the unrolled
    interval of a joined family is read back as a span after, before or across the origin -/
theorem arcUnions_near_origin {W L : Int} (hW : 0 < W) (hL : 4 * W < L) {all : List Feat}
    (hnear : ∀ f ∈ all, NearOrigin W L f.loc) : ArcUnions L all := by
  intro ms hj
  obtain ⟨lo, hi, h1, h2, h3, h4⟩ := joined_interval hW hL hnear hj
  by_cases c1 : 0 ≤ lo
  · refine ⟨.simple ⟨lo, hi, .fwd⟩, RingArea.wf (Or.inl ⟨_, rfl, c1, h2, ?_⟩), ?_, fun i => ?_⟩
    · show hi ≤ L
      omega
    · rw [len_simple]
      show 2 * (hi - lo) < L
      omega
    · rw [mem_simple, h4 i, InU_after c1 (by omega)]
  · by_cases c2 : hi ≤ 0
    · refine ⟨.simple ⟨lo + L, hi + L, .fwd⟩, RingArea.wf (Or.inl ⟨_, rfl, ?_, ?_, ?_⟩), ?_, fun i => ?_⟩
      · show 0 ≤ lo + L
        omega
      · show lo + L < hi + L
        omega
      · show hi + L ≤ L
        omega
      · rw [len_simple]
        show 2 * (hi + L - (lo + L)) < L
        omega
      · rw [mem_simple, h4 i, InU_before (by omega) c2]
    · refine ⟨areaTwo (lo + L) hi L .fwd, RingArea.wf (Or.inr ⟨_, _, rfl, by omega, by omega, by omega⟩), ?_, fun i => ?_⟩
      · rw [len_areaTwo]; omega
      · rw [mem_areaTwo, h4 i, InU_across (by omega) (by omega) (by omega) (by omega)]

theorem NearOrigin.ringArea {W L : Int} (hW : 0 < W) (hL : 4 * W < L) {l : Loc} (h : NearOrigin W L l) : RingArea L l := by
  rcases h with ⟨p, rfl, h0, h1, h2⟩ | ⟨p, rfl, h0, h1, h2⟩ | ⟨x, y, rfl, h0, h1, h2, h3⟩
  · exact Or.inl ⟨p, rfl, h0, h1, by omega⟩
  · exact Or.inl ⟨p, rfl, by omega, h1, h2⟩
  · exact Or.inr ⟨x, y, rfl, h2, by omega, h1⟩

end ASV.Regions
