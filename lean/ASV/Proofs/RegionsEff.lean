/-
  C06: what each elementary write keeps.  `Inv` through every one of them (`Prim.inv`), hence through every sequence,
  together with whatever else each write keeps (`Steps.preserves`).
-/
import ASV.Proofs.RegionsLinks
namespace ASV.Regions
open ASV

/-- A childless collection `x` with the next id enters the protoclusters (`xp = [x]`) or the subregions (`xs = [x]`),
    which are renumbered; nothing else changes but the next id (`hprim` is that write).  Nothing points at `x` yet and
    `x` points at nothing, so every field of `Inv` either does not see `x` or sees an object with a fresh id. -/
theorem leaf_inv {A : Loc → Prop} {s : State} (hi : Inv s) {x : Feat} (hx : x.id = s.nextId) {xp xs P S : List Feat}
    {dP dS : Dict Nat} (hprim : Prim A s { s with nextId := s.nextId + 1, protos := P, subs := S, numP := dP, numS := dS })
    (hnew : xp ++ xs = [x]) (hkind : ∀ f ∈ xs, f.kind = .sub) (hP : P.Perm (xp ++ s.protos)) (hS : S.Perm (xs ++ s.subs))
    (hnP : Numbered dP P) (hnS : Numbered dS S) :
    Inv { s with nextId := s.nextId + 1, protos := P, subs := S, numP := dP, numS := dS } := by
  have hone : ∀ f ∈ xp ++ xs, f = x := by rw [hnew]; exact fun f hf => List.mem_singleton.1 hf
  have hmP : ∀ f ∈ P, f = x ∨ f ∈ s.protos := fun f hf =>
    (List.mem_append.1 (hP.mem_iff.1 hf)).imp_left fun h => hone f (List.mem_append.2 (Or.inl h))
  have hmS : ∀ f ∈ S, f = x ∨ f ∈ s.subs := fun f hf =>
    (List.mem_append.1 (hS.mem_iff.1 hf)).imp_left fun h => hone f (List.mem_append.2 (Or.inr h))
  have hperm : (ids (P ++ s.cands ++ S ++ s.pool)).Perm (s.nextId :: ids (s.protos ++ s.cands ++ s.subs ++ s.pool)) := by
    have h1 : (P ++ s.cands ++ S ++ s.pool).Perm ((xp ++ s.protos) ++ s.cands ++ (xs ++ s.subs) ++ s.pool) :=
      ((hP.append_right _).append hS).append_right _
    have h2 : ((xp ++ s.protos) ++ s.cands ++ (xs ++ s.subs) ++ s.pool).Perm
        ((xp ++ xs) ++ (s.protos ++ s.cands ++ s.subs ++ s.pool)) := by
      simp only [List.append_assoc]
      refine List.Perm.append_left xp ?_
      have := (List.perm_append_comm (l₁ := s.protos ++ s.cands) (l₂ := xs)).append_right (s.subs ++ s.pool)
      simpa only [List.append_assoc] using this
    have := (h1.trans h2).map (fun f : Feat => f.id)
    rw [hnew] at this
    simpa only [ids, List.map_append, List.map_cons, List.map_nil, List.singleton_append, hx] using this
  -- an id below the next id is not the id of a member of a list that gained only `x`
  have hnotin : ∀ {L L0 : List Feat} {k : Nat}, (∀ f ∈ L, f = x ∨ f ∈ L0) → k < s.nextId → k ∉ ids L0 → k ∉ ids L := by
    intro L L0 k hL hk hn hm
    obtain ⟨f, hf, e⟩ := mem_ids.1 hm
    rcases hL f hf with rfl | hf
    · omega
    · exact hn (mem_ids.2 ⟨f, hf, e⟩)
  have kc : ∀ c ∈ s.cands ++ s.pool, ∀ k ∈ c.kids, k < s.nextId + 1 ∧ k ∉ ids (s.cands ++ S ++ s.pool) := by
    intro c hc k hk
    obtain ⟨hlt, hn⟩ := hi.kidsCand c hc k hk
    refine ⟨Nat.lt_succ_of_lt hlt, ?_⟩
    simp only [ids_append, List.mem_append, not_or] at hn ⊢
    exact ⟨⟨hn.1.1, hnotin hmS hlt hn.1.2⟩, hn.2⟩
  have kr : ∀ r ∈ s.regions, ∀ k ∈ r.kids ++ r.subs, k < s.nextId + 1 ∧ k ∉ ids P := by
    intro r hr k hk
    obtain ⟨hlt, hn⟩ := hi.kidsReg r hr k hk
    exact ⟨Nat.lt_succ_of_lt hlt, hnotin hmP hlt hn⟩
  obtain ⟨h1, h2, h3, h4⟩ := hprim.parents hi kc kr
  refine
    { hi with
      nodup := (hi.ids_with_next hperm).1
      fresh := (hi.ids_with_next hperm).2
      numP := hnP
      numS := hnS
      kidsCand := kc
      kidsReg := kr
      parentA := h1
      parentP := h2
      parentFresh := h4
      parentPool := h3
      kindS := ?_ }
  intro f hf
  rcases List.mem_append.1 (hS.mem_iff.1 hf) with h | h
  · exact hkind f h
  · exact hi.kindS f h

/-- `protocluster.parent = c` for protoclusters that a candidate cluster `c` (of the record, or constructed) lists -/
theorem reparent_inv {s : State} (hi : Inv s) {c : Feat} {ps : List Feat} (hcm : c ∈ s.cands ++ s.pool)
    (hpm : ∀ p ∈ ps, p ∈ s.protos) (hkids : ∀ k ∈ ids ps, k ∈ c.kids) :
    Inv { s with parent := ps.foldl (fun d p => d.set p.id (some c.id)) s.parent } := by
  obtain ⟨h1, h2, h3, h4⟩ := (Prim.link (A := fun _ => True) hcm hpm hkids).parents hi hi.kidsCand hi.kidsReg
  exact { hi with parentA := h1, parentP := h2, parentPool := h3, parentFresh := h4 }

/-- a constructed candidate cluster with a fresh id that lists protoclusters of the record enters the pool -/
theorem poolAdd_inv {s : State} (hi : Inv s) {c : Feat} {ps : List Feat} (hcid : c.id = s.nextId) (hckind : c.kind = .cand)
    (hps : ∀ p ∈ ps, p ∈ s.protos) (hkids : c.kids = ids ps) (hne : ps ≠ [])
    (hloc : connect (ps.map (·.loc)) s.wrap = .ok c.loc) : Inv { s with nextId := s.nextId + 1, pool := s.pool ++ [c] } := by
  have hnp := nodup_parts hi
  have hkp : ∀ k ∈ c.kids, k ∈ ids s.protos := by
    intro k hk
    obtain ⟨p, hp, e⟩ := mem_ids.1 (hkids ▸ hk)
    exact mem_ids.2 ⟨p, hps p hp, e⟩
  have hlt : ∀ k ∈ ids s.protos, k < s.nextId := by
    intro k hk
    obtain ⟨p, hp, e⟩ := mem_ids.1 hk
    have := hi.fresh p (by simp [hp])
    omega
  have hperm : (ids (s.protos ++ s.cands ++ s.subs ++ (s.pool ++ [c]))).Perm
      (s.nextId :: ids (s.protos ++ s.cands ++ s.subs ++ s.pool)) := by
    rw [← List.append_assoc, ids_append, ← hcid]
    exact List.perm_append_singleton _ _
  have kc : ∀ c' ∈ s.cands ++ (s.pool ++ [c]), ∀ k ∈ c'.kids,
      k < s.nextId + 1 ∧ k ∉ ids (s.cands ++ s.subs ++ (s.pool ++ [c])) := by
    intro c' hc' k hk
    have key : k < s.nextId ∧ k ∉ ids (s.cands ++ s.subs ++ s.pool) := by
      rw [← List.append_assoc] at hc'
      rcases List.mem_append.1 hc' with hc' | hc'
      · exact hi.kidsCand c' hc' k hk
      · rw [List.mem_singleton.1 hc'] at hk
        exact ⟨hlt k (hkp k hk), hnp.2.2.2.2 k (hkp k hk)⟩
    refine ⟨Nat.lt_succ_of_lt key.1, ?_⟩
    rw [← List.append_assoc, ids_append, List.mem_append]
    rintro (hm | hm)
    · exact key.2 hm
    · simp only [ids, List.map_cons, List.map_nil, List.mem_singleton] at hm
      omega
  have kr : ∀ r ∈ s.regions, ∀ k ∈ r.kids ++ r.subs, k < s.nextId + 1 ∧ k ∉ ids s.protos := fun r hr k hk =>
    ⟨Nat.lt_succ_of_lt (hi.kidsReg r hr k hk).1, (hi.kidsReg r hr k hk).2⟩
  obtain ⟨h1, h2, h3, h4⟩ := (Prim.poolAdd (A := fun _ => True) hcid hckind hps hkids hne hloc).parents hi kc kr
  refine
    { hi with
      nodup := (hi.ids_with_next hperm).1
      fresh := (hi.ids_with_next hperm).2
      kidsCand := kc
      kidsReg := kr
      parentA := h1
      parentP := h2
      parentFresh := h4
      parentPool := h3
      kindPool := ?_ }
  intro f hf
  rcases List.mem_append.1 hf with hf | hf
  · exact hi.kindPool f hf
  · rw [List.mem_singleton.1 hf]; exact hckind

theorem addCandidate_inv {s s' : State} {id : Nat} (hi : Inv s) (h : addCandidate s id = .ok s') : Inv s' := by
  have hprim := Prim.addCand (A := fun _ => True) h
  obtain ⟨x, l, d, hx, hins, rfl⟩ := addCandidate_ok h
  have hnp := nodup_parts hi
  have hxp := findId_some hx
  have hpool := pool_split hnp.2.2.2.1 hx
  have hnd : (ids (x :: s.cands)).Nodup := by
    have := hi.nodup
    simp only [ids_append] at this
    have h1 := List.nodup_append.1 this
    have h2 := List.nodup_append.1 h1.1
    have h3 := List.nodup_append.1 h2.1
    simp only [ids, List.map_cons, List.nodup_cons]
    refine ⟨?_, h3.2.1⟩
    intro hm
    exact h1.2.2 x.id (List.mem_append.2 (Or.inl (List.mem_append.2 (Or.inr hm)))) x.id (mem_ids.2 ⟨x, hxp.1, rfl⟩) rfl
  obtain ⟨hnum, hp⟩ := insertSortedWith_numbered hi.numC hnd hins
  -- `x` moves from the pool to the candidate clusters: together, and with the subregions in between, the lists are
  -- rearrangements of what they were
  have hcp : (l ++ s.pool.filter (·.id != id)).Perm (s.cands ++ s.pool) :=
    ((hp.append_right _).trans List.perm_middle.symm).trans (List.Perm.append_left _ hpool.symm)
  have hcsp : (l ++ s.subs ++ s.pool.filter (·.id != id)).Perm (s.cands ++ s.subs ++ s.pool) := by
    have h1 : (l ++ s.subs ++ s.pool.filter (·.id != id)).Perm (s.subs ++ (l ++ s.pool.filter (·.id != id))) := by
      rw [List.append_assoc]
      exact List.perm_append_comm_assoc _ _ _
    have h2 : (s.subs ++ (s.cands ++ s.pool)).Perm (s.cands ++ s.subs ++ s.pool) := by
      rw [List.append_assoc]
      exact List.perm_append_comm_assoc _ _ _
    exact (h1.trans (List.Perm.append_left _ hcp)).trans h2
  have hset : ∀ f, f ∈ l ++ s.pool.filter (·.id != id) ↔ f ∈ s.cands ++ s.pool := fun f => hcp.mem_iff
  have hperm : (ids (s.protos ++ l ++ s.subs ++ s.pool.filter (·.id != id))).Perm (ids (s.protos ++ s.cands ++ s.subs ++ s.pool)) := by
    have := (List.Perm.append_left s.protos hcsp).map (fun f : Feat => f.id)
    simpa only [ids, List.append_assoc] using this
  have hidset : ∀ k, k ∈ ids (l ++ s.subs ++ s.pool.filter (·.id != id)) ↔ k ∈ ids (s.cands ++ s.subs ++ s.pool) :=
    fun k => (hcsp.map (fun f : Feat => f.id)).mem_iff
  have kc : ∀ c ∈ l ++ s.pool.filter (·.id != id), ∀ k ∈ c.kids,
      k < s.nextId ∧ k ∉ ids (l ++ s.subs ++ s.pool.filter (·.id != id)) := by
    intro c hc k hk
    have := hi.kidsCand c ((hset c).1 hc) k hk
    exact ⟨this.1, fun hm => this.2 ((hidset k).1 hm)⟩
  obtain ⟨h1, h2, h3, h4⟩ := hprim.parents hi kc hi.kidsReg
  refine
    { hi with
      nodup := hperm.nodup_iff.2 hi.nodup
      fresh := ?_
      numC := hnum
      kidsCand := kc
      parentA := h1
      parentP := h2
      parentFresh := h4
      parentPool := h3
      kindC := ?_
      kindPool := fun f hf => hi.kindPool f (List.mem_filter.1 hf).1 }
  · intro f hf
    have : f.id ∈ ids (s.protos ++ s.cands ++ s.subs ++ s.pool) := hperm.mem_iff.1 (mem_ids.2 ⟨f, hf, rfl⟩)
    obtain ⟨g, hg, e⟩ := mem_ids.1 this
    have := hi.fresh g hg
    show f.id < s.nextId
    omega
  · intro f hf
    rcases List.mem_cons.1 (hp.mem_iff.1 hf) with rfl | hf
    · exact hi.kindPool f hxp.1
    · exact hi.kindC f hf

/-- `Region(cands, subs)` followed by `add_region` keeps the invariant.  The new region has the next region id, lists
    its children and is inserted where `add_region`'s scan found no overlap. -/
theorem mkAddRegion_inv {s s1 s2 : State} {cands subs : List Feat} {r : Feat} (hi : Inv s)
    (hc : ∀ f ∈ cands, f ∈ s.cands ++ s.pool) (hs : ∀ f ∈ subs, f ∈ s.subs)
    (hmk : mkRegion s cands subs = .ok (s1, r)) (hadd : addRegion s1 r = .ok s2) :
    Inv s2 ∧ SameAreas s s2 := by
  have hprim := Prim.region (A := fun _ => True) hc hs hmk hadd
  obtain ⟨_, _, hrid, hrk, hrs, _, rfl⟩ := mkRegion_ok hmk
  obtain ⟨index, _, hle, hno, rfl⟩ := addRegion_ok hadd
  refine ⟨?_, ⟨rfl, rfl, rfl, rfl, rfl, rfl, rfl, rfl⟩⟩
  have hnp := nodup_parts hi
  have hchild : ∀ k ∈ ids (subs ++ cands), k ∈ ids (s.cands ++ s.subs ++ s.pool) := by
    intro k hk
    simp only [ids_append, List.mem_append, mem_ids] at hk ⊢
    rcases hk with ⟨f, hf, e⟩ | ⟨f, hf, e⟩
    · exact Or.inl (Or.inr ⟨f, hs f hf, e⟩)
    · rcases List.mem_append.1 (hc f hf) with h | h
      · exact Or.inl (Or.inl ⟨f, h, e⟩)
      · exact Or.inr ⟨f, h, e⟩
  have hchildlt : ∀ k ∈ ids (subs ++ cands), k < s.nextId := by
    intro k hk
    obtain ⟨f, hf, e⟩ := mem_ids.1 (hchild k hk)
    have := hi.fresh f (by
      simp only [List.mem_append] at hf ⊢
      rcases hf with (hf | hf) | hf
      · exact Or.inl (Or.inl (Or.inr hf))
      · exact Or.inl (Or.inr hf)
      · exact Or.inr hf)
    omega
  have hcds : ∀ k, (((cdsWithin s.cds r.loc).foldl (fun (acc : Dict (Option Nat)) i => acc.set i (some r.id)) s.cdsRegion).get k).join
      = if k ∈ cdsWithin s.cds r.loc then some r.id else s.regionOfCds k :=
    fun k => regionOfCds_foldl s _ r.id k
  have hmem : ∀ x, x ∈ insertAt s.regions index ({ r with cdses := cdsWithin s.cds r.loc } : Feat) ↔
      x = { r with cdses := cdsWithin s.cds r.loc } ∨ x ∈ s.regions := fun _ => mem_insertAt
  have hndR : (ids (insertAt s.regions index ({ r with cdses := cdsWithin s.cds r.loc } : Feat))).Nodup := by
    have hp' : (ids (insertAt s.regions index ({ r with cdses := cdsWithin s.cds r.loc } : Feat))).Perm
        (r.id :: ids s.regions) := (insertAt_perm s.regions index _).map (fun f : Feat => f.id)
    rw [hp'.nodup_iff, List.nodup_cons]
    refine ⟨?_, hi.nodupR⟩
    intro hm
    obtain ⟨f, hf, e⟩ := mem_ids.1 hm
    have := hi.freshR f hf
    omega
  have kr : ∀ x ∈ insertAt s.regions index ({ r with cdses := cdsWithin s.cds r.loc } : Feat), ∀ k ∈ x.kids ++ x.subs,
      k < s.nextId ∧ k ∉ ids s.protos := by
    intro x hx k hk
    rcases (hmem x).1 hx with rfl | hx
    · simp only [hrk, hrs] at hk
      have hk' : k ∈ ids (subs ++ cands) := by
        simp only [ids_append, List.mem_append] at hk ⊢
        exact hk.symm
      exact ⟨hchildlt k hk', fun hp => hnp.2.2.2.2 k hp (hchild k hk')⟩
    · exact hi.kidsReg x hx k hk
  obtain ⟨h1, h2, h3, h4⟩ := hprim.parents hi hi.kidsCand kr
  refine
    { hi with
      nodupR := hndR
      freshR := ?_
      numR := insertAt_numbered hi.numR hndR hle
      disjointR := ?_
      kidsReg := kr
      parentA := h1
      parentP := h2
      cdsLink := ?_
      parentFresh := h4
      parentPool := h3 }
  · intro x hx
    show x.id < s.nextRid + 1
    rcases (hmem x).1 hx with rfl | hx
    · simp only [hrid]; omega
    · have := hi.freshR x hx; omega
  · exact insertAt_pairwise (fun x hx => by rw [locationsOverlap_comm]; exact hno x (List.mem_of_mem_take hx))
      (fun x hx => hno x (List.mem_of_mem_drop hx)) hi.disjointR
  · intro i p hp
    simp only [State.regionOfCds] at hp
    rw [hcds] at hp
    by_cases hm : i ∈ cdsWithin s.cds r.loc
    · rw [if_pos hm] at hp
      simp only [Option.some.injEq] at hp
      exact ⟨{ r with cdses := cdsWithin s.cds r.loc }, (hmem _).2 (Or.inl rfl), hp, hm⟩
    · rw [if_neg hm] at hp
      obtain ⟨x, hx, e1, e2⟩ := hi.cdsLink i p hp
      exact ⟨x, (hmem x).2 (Or.inr hx), e1, e2⟩

theorem clearRegions_inv {s : State} (hi : Inv s) : Inv (clearRegions s) := by
  obtain ⟨h1, h2, h3, h4⟩ := (Prim.clearRegions (A := fun _ => True) (s := s)).parents hi hi.kidsCand (by simp [clearRegions])
  refine
    { hi with
      nodupR := by simp [clearRegions, ids]
      freshR := by simp [clearRegions]
      numR := by intro j f hf; simp [clearRegions] at hf
      disjointR := by simp [clearRegions]
      kidsReg := by simp [clearRegions]
      parentA := h1
      parentP := h2
      cdsLink := ?_
      parentFresh := h4
      parentPool := h3 }
  intro i p hp
  rw [clearRegions_regionOfCds] at hp
  split at hp
  · cases hp
  · next hn =>
    obtain ⟨r, hr, _, e2⟩ := hi.cdsLink i p hp
    exact absurd ⟨r, hr, e2⟩ hn

theorem dropProtos_inv {s : State} (hi : Inv s) : Inv { s with protos := [] } := by
  refine
    { hi with
      nodup := by simpa using sublist_nodup hi false true true
      fresh := ?_
      numP := by intro j f hf; simp at hf
      kidsReg := ?_
      parentP := by intro f hf; simp at hf }
  · intro f hf
    exact hi.fresh f (by simp only [List.nil_append, List.mem_append] at hf ⊢; rcases hf with (hf | hf) | hf <;> simp [hf])
  · intro r hr k hk
    exact ⟨(hi.kidsReg r hr k hk).1, by simp [ids]⟩

theorem dropSubs_inv {s : State} (hi : Inv s) : Inv { s with subs := [] } := by
  refine
    { hi with
      nodup := by simpa using sublist_nodup hi true true false
      fresh := ?_
      numS := by intro j f hf; simp at hf
      kidsCand := ?_
      parentA := ?_
      kindS := by intro f hf; simp at hf }
  · intro f hf
    exact hi.fresh f (by simp only [List.append_nil, List.mem_append] at hf ⊢; rcases hf with (hf | hf) | hf <;> simp [hf])
  · intro c hc k hk
    have := hi.kidsCand c hc k hk
    refine ⟨this.1, fun hm => this.2 ?_⟩
    simp only [List.append_nil, ids_append, List.mem_append] at hm ⊢
    rcases hm with hm | hm
    · exact Or.inl (Or.inl hm)
    · exact Or.inr hm
  · intro f hf p hp
    exact hi.parentA f (by simp only [List.append_nil] at hf; simp [hf]) p hp

/-- dropping all candidate clusters and resetting the parent of their protoclusters -/
theorem dropCands_inv {s : State} (hi : Inv s) :
    Inv { s with cands := [], parent := s.cands.foldl (fun acc c => setNone acc c.kids) s.parent } := by
  have kc : ∀ c ∈ ([] : List Feat) ++ s.pool, ∀ k ∈ c.kids, k < s.nextId ∧ k ∉ ids ([] ++ s.subs ++ s.pool) := by
    intro c hc k hk
    have := hi.kidsCand c (by simp only [List.nil_append] at hc; simp [hc]) k hk
    refine ⟨this.1, fun hm => this.2 ?_⟩
    simp only [List.nil_append, ids_append, List.mem_append] at hm ⊢
    rcases hm with hm | hm
    · exact Or.inl (Or.inr hm)
    · exact Or.inr hm
  obtain ⟨h1, h2, h3, h4⟩ := (Prim.dropCands (A := fun _ => True) (s := s)).parents hi kc hi.kidsReg
  refine
    { hi with
      nodup := by simpa using sublist_nodup hi true false true
      fresh := ?_
      numC := by intro j f hf; simp at hf
      kidsCand := kc
      parentA := h1
      parentP := h2
      parentFresh := h4
      parentPool := h3
      kindC := by intro f hf; simp at hf }
  intro f hf
  exact hi.fresh f (by simp only [List.append_nil, List.mem_append] at hf ⊢; rcases hf with (hf | hf) | hf <;> simp [hf])

theorem Prim.inv {A : Loc → Prop} {s t : State} (hi : Inv s) (h : Prim A s t) : Inv t := by
  cases h with
  | @addProto loc l d hA hins =>
    obtain ⟨hnum, hp⟩ := insertSortedWith_numbered hi.numP
      (hi.nodup_next_cons rfl (fun f hf => by simp [hf]) (nodup_parts hi).1) hins
    exact leaf_inv hi (x := ⟨s.nextId, .proto, loc, [], [], []⟩) rfl (.addProto hA hins) (xp := [_]) (xs := []) rfl
      (fun f hf => nomatch hf) hp (List.Perm.refl _) hnum hi.numS
  | @addSub loc l d hA hins =>
    obtain ⟨hnum, hp⟩ := insertSortedWith_numbered hi.numS
      (hi.nodup_next_cons rfl (fun f hf => by simp [hf]) (nodup_parts hi).2.2.1) hins
    exact leaf_inv hi (x := ⟨s.nextId, .sub, loc, [], [], []⟩) rfl (.addSub hA hins) (xp := []) (xs := [_]) rfl
      (fun f hf => by rw [List.mem_singleton.1 hf]) (List.Perm.refl _) hp hi.numP hnum
  | poolAdd hid hkind hps hkids hne hloc => exact poolAdd_inv hi hid hkind hps hkids hne hloc
  | link hc hps hkids => exact reparent_inv hi hc hps hkids
  | addCand h => exact addCandidate_inv hi h
  | region hc hs hmk hadd => exact (mkAddRegion_inv hi hc hs hmk hadd).1
  | clearRegions => exact clearRegions_inv hi
  | dropProtos => exact dropProtos_inv hi
  | dropCands => exact dropCands_inv hi
  | dropSubs => exact dropSubs_inv hi

/-- what every elementary write keeps (given `Inv`), a sequence of them keeps -/
theorem Steps.preserves {A : Loc → Prop} {P : State → Prop} (hP : ∀ {s t : State}, Inv s → P s → Prim A s t → P t)
    {s u : State} (hi : Inv s) (hp : P s) (h : Steps A s u) : Inv u ∧ P u := by
  induction h with
  | refl => exact ⟨hi, hp⟩
  | tail _ hprim ih => exact ⟨hprim.inv ih.1, hP ih.1 ih.2 hprim⟩

theorem Steps.inv {A : Loc → Prop} {s u : State} (hi : Inv s) (h : Steps A s u) : Inv u :=
  (h.preserves (P := fun _ => True) (fun _ _ _ => trivial) hi trivial).1

end ASV.Regions
