/-
  C06: the comparison of well-formed areas of a linear record is the lexicographic order of their sort key
  (`keyLt`, with its order facts); the stable insertion sort of the model, run with a pure comparison, is the
  textbook one (permutation, sortedness).
-/
import ASV.Proofs.LocOrder
import ASV.Proofs.SortTheory
import ASV.Model.Regions
namespace ASV.Regions
open ASV

theorem keyLt_iff (a b : Int × Int) : keyLt a b = true ↔ a.1 < b.1 ∨ (a.1 = b.1 ∧ a.2 < b.2) := by
  simp [keyLt]

theorem keyLt_false_iff (a b : Int × Int) : keyLt a b = false ↔ b.1 < a.1 ∨ (a.1 = b.1 ∧ b.2 ≤ a.2) := by
  rw [← Bool.not_eq_true, keyLt_iff]; omega

/-! ### `keyLt` is a strict total order: `keyLt b a = false` reads `a ≤ b` -/

theorem keyLt_asymm {a b : Int × Int} (h : keyLt a b = true) : keyLt b a = false := by
  rw [keyLt_iff] at h; rw [keyLt_false_iff]; omega

theorem keyLe_trans {a b c : Int × Int} (hab : keyLt b a = false) (hbc : keyLt c b = false) : keyLt c a = false := by
  rw [keyLt_false_iff] at *; omega

theorem keyLt_of_le_of_lt {a b c : Int × Int} (hab : keyLt b a = false) (hbc : keyLt b c = true) : keyLt a c = true := by
  rw [keyLt_false_iff] at hab; rw [keyLt_iff] at *; omega

theorem keyLt_of_lt_of_le {a b c : Int × Int} (hab : keyLt a b = true) (hbc : keyLt c b = false) : keyLt a c = true := by
  rw [keyLt_false_iff] at hbc; rw [keyLt_iff] at *; omega

/-! ### areas on a linear record -/

/-- a single non-empty part inside the record -/
def LineArea (len : Int) (l : Loc) : Prop := ∃ p, l = .simple p ∧ 0 ≤ p.lo ∧ p.lo < p.hi ∧ p.hi ≤ len

/-- the sort key of `CDSCollection.__lt__` for a location that does not span the origin -/
def lineKey (l : Loc) : Int × Int := (l.start, -l.len)

theorem collectionLt_line {len : Int} {a b : Loc} (ha : LineArea len a) (hb : LineArea len b) :
    collectionLt a b = .ok (keyLt (lineKey a) (lineKey b)) := by
  obtain ⟨p, rfl, _, hp1, _⟩ := ha
  obtain ⟨q, rfl, _⟩ := hb
  exact collectionLt_simple p q (Int.le_of_lt hp1)

/-! ### pure insertion sort -/

def insertP (lt : Feat → Feat → Bool) (x : Feat) : List Feat → List Feat
  | [] => [x]
  | y :: ys => if lt y x then y :: insertP lt x ys else x :: y :: ys

def sortP (lt : Feat → Feat → Bool) : List Feat → List Feat
  | [] => []
  | x :: xs => insertP lt x (sortP lt xs)

theorem insertP_eq (lt : Feat → Feat → Bool) (x : Feat) (l : List Feat) :
    insertP lt x l = Refine.insertBy (fun a b => !lt b a) x l :=
  Refine.insertBy_unique_flip (lt := lt) (ins := insertP lt) (fun _ => rfl) (fun _ _ _ => rfl) x l

theorem sortP_eq (lt : Feat → Feat → Bool) : ∀ l : List Feat, sortP lt l = Refine.sortBy (fun a b => !lt b a) l
  | [] => rfl
  | x :: l => by rw [sortP, insertP_eq, sortP_eq lt l, Refine.sortBy]

theorem sortP_perm (lt : Feat → Feat → Bool) (l : List Feat) : (sortP lt l).Perm l :=
  sortP_eq lt l ▸ Refine.sortBy_perm _ l

theorem insertArea_eq (lt : Feat → Feat → Bool) (x : Feat) (l : List Feat)
    (h : ∀ y ∈ l, collectionLt y.loc x.loc = .ok (lt y x)) : insertArea x l = .ok (insertP lt x l) := by
  induction l with
  | nil => rfl
  | cons y ys ih =>
    simp only [insertArea, insertP, h y (by simp), bind, Except.bind]
    split
    · rw [ih (fun z hz => h z (by simp [hz]))]; rfl
    · rfl

theorem sortAreas_eq (lt : Feat → Feat → Bool) (l : List Feat)
    (h : ∀ x ∈ l, ∀ y ∈ l, collectionLt y.loc x.loc = .ok (lt y x)) : sortAreas l = .ok (sortP lt l) := by
  induction l with
  | nil => rfl
  | cons x xs ih =>
    simp only [sortAreas, sortP, bind, Except.bind]
    rw [ih (fun a ha b hb => h a (by simp [ha]) b (by simp [hb]))]
    simp only
    exact insertArea_eq lt x _ (fun y hy => h x (by simp) y (by simp [(sortP_perm lt xs).mem_iff.1 hy]))

/-- a comparison that is the strict order of a key -/
def KeyOrder (key : Feat → Int × Int) (lt : Feat → Feat → Bool) : Prop := ∀ a b, lt a b = keyLt (key a) (key b)

/-- sorted by key (non-strictly) -/
def SortedBy (key : Feat → Int × Int) (l : List Feat) : Prop := l.Pairwise (fun a b => keyLt (key b) (key a) = false)

theorem sortP_sorted {key : Feat → Int × Int} {lt : Feat → Feat → Bool} (hk : KeyOrder key lt) (l : List Feat) :
    SortedBy key (sortP lt l) := by
  have hle : ∀ a b, (!lt b a) = true ↔ keyLt (key b) (key a) = false := fun a b => by rw [hk, Bool.not_eq_true']
  rw [sortP_eq]
  refine (Refine.sortBy_pairwise (fun a b => ?_) (fun a b c => ?_) l).imp (fun h => (hle _ _).1 h)
  · rw [hle, hle]
    cases h : keyLt (key b) (key a)
    · exact Or.inl rfl
    · exact Or.inr (keyLt_asymm h)
  · rw [hle, hle, hle]
    exact fun h1 h2 => keyLe_trans h1 h2

end ASV.Regions
