/-
  C11: the shared vocabulary — the Outcome monad and its guards, literal lookups, exact decimals,
  `mapO`, the common shape of `regenerate_previous_results`, save → regenerate cycles — and the round
  trips of the NRPS/PKS chain (HMMResult, Component, Module, CDSResult, NRPSPKSDomains).
-/
import ASV.Spec.Results
import ASV.Proofs.ResultsSimp
namespace ASV.Results

@[simp] theorem bind_reuse {α β} (a : α) (f : α → Outcome β) : (Outcome.reuse a >>= f) = f a := rfl
@[simp] theorem bind_discard {α β} (f : α → Outcome β) : ((Outcome.discard : Outcome α) >>= f) = .discard := rfl
@[simp] theorem bind_refuse {α β} (e : Err) (f : α → Outcome β) : ((Outcome.refuse e : Outcome α) >>= f) = .refuse e := rfl
@[simp] theorem pure_eq_reuse {α} (a : α) : (pure a : Outcome α) = .reuse a := rfl

attribute [results_json] lookup reqStr reqInt reqNum reqArr reqObj isIntLit isStrLit

theorem bind_eq_reuse {α β} {o : Outcome α} {f : α → Outcome β} {b : β} (h : (o >>= f) = .reuse b) :
    ∃ a, o = .reuse a ∧ f a = .reuse b := by
  cases o with
  | reuse a => exact ⟨a, rfl, h⟩
  | discard => simp at h
  | refuse e => simp at h

theorem refuse_guard_eq_reuse {α} {c : Prop} [Decidable c] {e : Err} {o : Outcome α} {y : α}
    (h : (if c then .refuse e else o) = .reuse y) : ¬ c ∧ o = .reuse y := by
  split at h
  · cases h
  · exact ⟨‹_›, h⟩

theorem discard_guard_eq_reuse {α} {c : Prop} [Decidable c] {o : Outcome α} {y : α}
    (h : (if c then .discard else o) = .reuse y) : ¬ c ∧ o = .reuse y := by
  split at h
  · cases h
  · exact ⟨‹_›, h⟩

theorem isReuse_elim {α} {o : Outcome α} (h : o.isReuse = true) : ∃ a, o = .reuse a := by
  cases o with
  | reuse a => exact ⟨a, rfl⟩
  | discard => simp [Outcome.isReuse] at h
  | refuse e => simp [Outcome.isReuse] at h

theorem map'_eq_reuse {α β} {o : Outcome α} {f : α → β} {b : β} (h : o.map' f = .reuse b) :
    ∃ a, o = .reuse a ∧ f a = b := by
  cases o with
  | reuse a => simp [Outcome.map'] at h; exact ⟨a, rfl, h⟩
  | discard => simp [Outcome.map'] at h
  | refuse e => simp [Outcome.map'] at h

/-- the guards of `from_json` leave `if !isIntLit (lookup k kv) n then … else`; passing one is the specification's
    reading of the field -/
theorem intField_of_guard {kv : List (String × J)} {k : String} {n : Int}
    (h : ¬ (!isIntLit (lookup k kv) n) = true) : Spec.intField (.obj kv) k = some n := by
  unfold isIntLit at h
  simp only [Spec.intField, Spec.field]
  split at h
  · rename_i i hi
    simp at h
    rw [hi, h]
  · simp at h

theorem strField_of_guard {kv : List (String × J)} {k s : String}
    (h : ¬ (!isStrLit (lookup k kv) s) = true) : Spec.strField (.obj kv) k = some s := by
  unfold isStrLit at h
  simp only [Spec.strField, Spec.field]
  split at h
  · rename_i t ht
    simp at h
    rw [ht, h]
  · simp at h

theorem reqStr_eq_reuse {kv : List (String × J)} {k s : String} (h : reqStr kv k = .reuse s) :
    lookup k kv = some (.str s) := by
  unfold reqStr at h
  split at h
  · rename_i hl; cases h; exact hl
  · cases h
  · cases h

theorem Dec.scaled_swap (a b : Dec) : Dec.scaled b a = ((Dec.scaled a b).2, (Dec.scaled a b).1) := by
  simp [Dec.scaled, Int.min_comm]

/-- the four comparisons between `a` and `b` are comparisons of one pair of integers -/
theorem Dec.cmp_view (a b : Dec) : ∃ x y : Int, Dec.le a b = decide (x ≤ y) ∧ Dec.lt a b = decide (x < y)
    ∧ Dec.le b a = decide (y ≤ x) ∧ Dec.lt b a = decide (y < x) :=
  ⟨(Dec.scaled a b).1, (Dec.scaled a b).2, rfl, rfl, by rw [Dec.le, Dec.scaled_swap], by rw [Dec.lt, Dec.scaled_swap]⟩

theorem Dec.le_eq_not_lt (a b : Dec) : Dec.le a b = !Dec.lt b a := by
  obtain ⟨x, y, h1, _, _, h4⟩ := Dec.cmp_view a b
  rw [h1, h4, ← decide_not, decide_eq_decide]
  omega

theorem Dec.lt_eq_not_le (a b : Dec) : Dec.lt a b = !Dec.le b a := by
  rw [Dec.le_eq_not_lt]; simp

theorem Dec.scaled_self (a : Dec) : (Dec.scaled a a).1 = (Dec.scaled a a).2 := by
  simp [Dec.scaled]

theorem Dec.le_refl (a : Dec) : Dec.le a a = true := by
  simp only [Dec.le, Dec.scaled_self a]; simp

theorem Dec.lt_irrefl (a : Dec) : Dec.lt a a = false := by
  simp only [Dec.lt, Dec.scaled_self a]; simp

theorem Dec.le_of_lt {a b : Dec} (h : Dec.lt a b = true) : Dec.le a b = true := by
  obtain ⟨x, y, h1, h2, _, _⟩ := Dec.cmp_view a b
  simp only [h1, h2, decide_eq_true_eq] at h ⊢
  omega

theorem Dec.strict_off_boundary {a b : Dec} (h : (Dec.le b a && Dec.le a b) = false) : Dec.le a b = Dec.lt a b := by
  obtain ⟨x, y, h1, h2, h3, _⟩ := Dec.cmp_view a b
  simp only [h1, h2, h3, Bool.and_eq_false_iff, decide_eq_false_iff_not] at h ⊢
  rw [decide_eq_decide]
  omega

theorem mapO_map' {α β γ} (enc : α → β) (dec : β → Outcome γ) (g : α → γ) :
    ∀ l : List α, (∀ x ∈ l, dec (enc x) = .reuse (g x)) → mapO dec (l.map enc) = .reuse (l.map g)
  | [], _ => rfl
  | x :: xs, h => by
    have hx := h x (by simp)
    have hxs := mapO_map' enc dec g xs (fun y hy => h y (by simp [hy]))
    simp [mapO, hx, hxs]

theorem mapO_map {α β} (enc : α → β) (dec : β → Outcome α) (l : List α)
    (h : ∀ x ∈ l, dec (enc x) = .reuse x) : mapO dec (l.map enc) = .reuse l := by
  have := mapO_map' enc dec id l h
  rwa [List.map_id] at this

theorem mapO_reuse_length {α β} (f : α → Outcome β) :
    ∀ (l : List α) (r : List β), mapO f l = .reuse r → r.length = l.length
  | [], r, h => by simp [mapO] at h; subst h; rfl
  | x :: xs, r, h => by
    simp only [mapO] at h
    obtain ⟨y, _, h⟩ := bind_eq_reuse h
    obtain ⟨ys, hys, h⟩ := bind_eq_reuse h
    simp at h; subst h
    simp [mapO_reuse_length f xs ys hys]

theorem mapO_mem {α β} (f : α → Outcome β) : ∀ (l : List α) (ys : List β), mapO f l = .reuse ys →
    ∀ y ∈ ys, ∃ x ∈ l, f x = .reuse y
  | [], ys, h, y, hy => by simp [mapO] at h; subst h; cases hy
  | x :: xs, ys, h, y, hy => by
    simp only [mapO] at h
    obtain ⟨a, ha, h⟩ := bind_eq_reuse h
    obtain ⟨as, has, h⟩ := bind_eq_reuse h
    simp at h; subst h
    rcases List.mem_cons.mp hy with rfl | hy'
    · exact ⟨x, by simp, ha⟩
    · obtain ⟨x', hx', hf⟩ := mapO_mem f xs as has y hy'
      exact ⟨x', by simp [hx'], hf⟩

theorem mapO_roundtrips {α} {enc : α → J} {dec : J → Outcome α} {inv : α → Prop}
    (h : Spec.RoundTrips enc dec inv) (l : List α) (hl : ∀ x ∈ l, inv x) : mapO dec (l.map enc) = .reuse l :=
  mapO_map enc dec l (fun x hx => h x (hl x hx))

@[simp] theorem asStrs_jStrs (l : List String) : asStrs (jStrs l) = .reuse l := by
  simp only [asStrs, jStrs]
  exact mapO_map J.str asStr l (fun _ _ => rfl)

theorem strsOf_map_str (l : List String) : Spec.strsOf (l.map J.str) = some l := by
  induction l with
  | nil => rfl
  | cons x xs ih => simp [Spec.strsOf, ih]

theorem setEq_refl (l : List String) : setEq l l = true := by
  simp [setEq, List.all_eq_true]

/-! ### the common shape of `regenerate_previous_results` -/

/-- an empty object stands for "no results"; anything else is decoded, and what was decoded is checked
    against the current settings (`check` may reuse, discard or refuse) -/
def regenWith {α} (dec : J → Outcome α) (check : α → Outcome α) : J → Outcome α
  | .obj [] => .discard
  | j => dec j >>= check

theorem regenWith_of_reuse {α} {dec : J → Outcome α} {check : α → Outcome α} {j : J} {x : α}
    (hne : j ≠ .obj []) (hj : dec j = .reuse x) : regenWith dec check j = check x := by
  unfold regenWith
  split
  · exact absurd rfl hne
  · rw [hj, bind_reuse]

theorem regenWith_eq_reuse {α} {dec : J → Outcome α} {check : α → Outcome α} {j : J} {y : α}
    (h : regenWith dec check j = .reuse y) : ∃ x, dec j = .reuse x ∧ check x = .reuse y := by
  unfold regenWith at h
  split at h
  · cases h
  · exact bind_eq_reuse h

/-! ### save → regenerate cycles -/

/-- a class whose decoder returns a normal form of what was encoded (`norm` idempotent and keeping the
    invariant) is at that normal form after the first cycle and stays there; a plain round trip is
    the case `norm = id` -/
theorem cycles_succ_of_normalises {α} (enc : α → J) (dec : J → Outcome α) (inv : α → Prop) (norm : α → α)
    (h : ∀ x, inv x → dec (enc x) = .reuse (norm x)) (hinv : ∀ x, inv x → inv (norm x))
    (hidem : ∀ x, norm (norm x) = norm x) :
    ∀ (n : Nat) (x : α), inv x → Spec.cycles enc dec (n + 1) x = .reuse (norm x)
  | 0, x, hx => by simp only [Spec.cycles, h x hx]
  | n + 1, x, hx => by
    rw [Spec.cycles, h x hx]
    show Spec.cycles enc dec (n + 1) (norm x) = .reuse (norm x)
    rw [cycles_succ_of_normalises enc dec inv norm h hinv hidem n (norm x) (hinv x hx), hidem]

theorem all_of_forall {α} (p : α → Bool) (l : List α) (h : ∀ x ∈ l, p x = true) : l.all p = true := by
  simp [List.all_eq_true]; exact h

namespace HMMResult

theorem validAll_iff : ∀ l : List HMMResult, validAll l = true ↔ ∀ h ∈ l, h.valid = true
  | [] => by simp [validAll]
  | x :: xs => by simp [validAll, validAll_iff xs]

/-- the `internal_hits` entry that `to_json` appends: none for a hit without internal hits -/
def kidsJson : List HMMResult → List (String × J)
  | [] => []
  | k :: ks => [("internal_hits", .arr (toJsons (k :: ks)))]

theorem toJson_mk (hitId : String) (qs qe : Int) (ev bs : Dec) (kids : List HMMResult) :
    toJson (.mk hitId qs qe ev bs kids) =
      .obj (("hit_id", .str hitId) :: ("query_start", .int qs) :: ("query_end", .int qe) ::
        ("evalue", .num ev) :: ("bitscore", .num bs) :: kidsJson kids) := by
  cases kids <;> simp [toJson, kidsJson]

theorem kidsOf_kidsJson (kids : List HMMResult) (h : fromList (toJsons kids) = .reuse kids) :
    kidsOf (kidsJson kids) = .reuse kids := by
  cases kids with
  | nil => rfl
  | cons k ks => simp only [kidsJson, kidsOf, BEq.rfl, ↓reduceIte, fromArr, h]

mutual
theorem fromJson_toJson : ∀ h : HMMResult, h.valid = true → fromJson (toJson h) = .reuse h
  | .mk hitId qs qe ev bs kids, hv => by
    simp only [valid, Bool.and_eq_true] at hv
    have hk := kidsOf_kidsJson kids (fromList_toJsons kids hv.2)
    rw [toJson_mk]
    simpa [fromJson, kidsOf, reqStr, reqInt, reqNum, lookup, make, hk] using List.all_eq_true.mp hv.1
theorem fromList_toJsons : ∀ l : List HMMResult, validAll l = true → fromList (toJsons l) = .reuse l
  | [], _ => by simp [toJsons, fromList]
  | h :: t, hv => by
    simp only [validAll, Bool.and_eq_true] at hv
    simp [toJsons, fromList, fromJson_toJson h hv.1, fromList_toJsons t hv.2]
end

theorem toJsons_eq_map : ∀ l : List HMMResult, toJsons l = l.map toJson
  | [] => rfl
  | h :: t => by simp [toJsons, toJsons_eq_map t]

/-- `from_json` only ever produces objects that satisfy the class invariant -/
theorem make_valid {hitId qs qe ev bs kids h} (hk : validAll kids = true)
    (hm : make hitId qs qe ev bs kids = .reuse h) : h.valid = true := by
  unfold make at hm
  split at hm
  · rename_i hall
    simp at hm; subst hm
    simp [valid, hall, hk]
  · simp at hm

mutual
theorem fromJson_valid : ∀ (j : J) (h : HMMResult), fromJson j = .reuse h → h.valid = true
  | .obj kv, h, hj => by
    simp only [fromJson] at hj
    obtain ⟨kids, hkids, hj⟩ := bind_eq_reuse hj
    obtain ⟨_, _, hj⟩ := bind_eq_reuse hj
    obtain ⟨_, _, hj⟩ := bind_eq_reuse hj
    obtain ⟨_, _, hj⟩ := bind_eq_reuse hj
    obtain ⟨_, _, hj⟩ := bind_eq_reuse hj
    obtain ⟨_, _, hj⟩ := bind_eq_reuse hj
    exact make_valid (kidsOf_valid kv kids hkids) hj
  | .null, _, hj | .bool _, _, hj | .int _, _, hj | .num _, _, hj | .str _, _, hj | .arr _, _, hj => by
    simp [fromJson] at hj
theorem kidsOf_valid : ∀ (kv : List (String × J)) (l : List HMMResult), kidsOf kv = .reuse l → validAll l = true
  | [], l, h => by simp [kidsOf] at h; subst h; rfl
  | (k, v) :: rest, l, h => by
    simp only [kidsOf] at h
    split at h
    · exact fromArr_valid v l h
    · exact kidsOf_valid rest l h
theorem fromArr_valid : ∀ (j : J) (l : List HMMResult), fromArr j = .reuse l → validAll l = true
  | .arr xs, l, h => by simp only [fromArr] at h; exact fromList_valid xs l h
  | .null, _, h | .bool _, _, h | .int _, _, h | .num _, _, h | .str _, _, h | .obj _, _, h => by
    simp [fromArr] at h
theorem fromList_valid : ∀ (xs : List J) (l : List HMMResult), fromList xs = .reuse l → validAll l = true
  | [], l, h => by simp [fromList] at h; subst h; rfl
  | x :: xs, l, h => by
    simp only [fromList] at h
    obtain ⟨a, ha, h⟩ := bind_eq_reuse h
    obtain ⟨t, ht, h⟩ := bind_eq_reuse h
    simp at h; subst h
    simp [validAll, fromJson_valid x a ha, fromList_valid xs t ht]
end

end HMMResult

theorem Component.fromJson_toJson (r : ModRules) (c : Component) (hv : c.valid r = true) :
    Component.fromJson r c.toJson = .reuse c := by
  simp only [Component.valid, Bool.and_eq_true, Bool.not_eq_true'] at hv
  obtain ⟨⟨h1, h2⟩, h3⟩ := hv
  have hd := HMMResult.fromJson_toJson c.domain h1
  have h3' : ¬ c.locus = "" := by
    intro h; rw [h] at h3; simp at h3
  simp [results_json, Component.toJson, Component.fromJson, hd, h2, h3']

theorem Module.fromJson_toJson (r : ModRules) (m : Module) (hv : m.valid r = true) :
    Module.fromJson r m.toJson = .reuse m := by
  simp only [Module.valid, Bool.and_eq_true, List.all_eq_true] at hv
  have hc := mapO_roundtrips (Component.fromJson_toJson r) m.components hv.1
  simp [results_json, Module.toJson, Module.fromJson, hc, hv.2]

theorem CDSResult.fromJson_toJson (r : ModRules) (c : CDSResult) (hv : c.valid r = true) :
    CDSResult.fromJson r c.toJson = .reuse c := by
  simp only [CDSResult.valid, Bool.and_eq_true, List.all_eq_true] at hv
  have h1 := mapO_roundtrips HMMResult.fromJson_toJson c.domainHmms hv.1.1
  have h2 := mapO_roundtrips HMMResult.fromJson_toJson c.motifHmms hv.1.2
  have h3 := mapO_roundtrips (Module.fromJson_toJson r) c.modules hv.2
  simp [results_json, CDSResult.toJson, CDSResult.fromJson, h1, h2, h3]

theorem NrpsPks.fromJson_toJson (r : ModRules) (ctx : Ctx) (x : NrpsPks) (hv : x.valid r ctx = true) :
    NrpsPks.fromJson r ctx x.toJson = .reuse x := by
  simp only [NrpsPks.valid, Bool.and_eq_true, List.all_eq_true, beq_iff_eq] at hv
  obtain ⟨hid, hall⟩ := hv
  have hitems := mapO_map (fun p : String × CDSResult => (p.1, p.2.toJson)) (NrpsPks.itemFromJson r ctx) x.cds
    (fun p hp => by
      have := hall p hp
      have h1 : p.1 ∈ ctx.cdsNames := by simpa using this.1
      simp [NrpsPks.itemFromJson, h1, CDSResult.fromJson_toJson r p.2 this.2])
  simp [results_json, NrpsPks.toJson, NrpsPks.fromJson, hitems, ← hid]

end ASV.Results
