/-
  C06: association-list dictionaries, `insertAt`, `bisectLeft` bounds,
  renumbering (`number x = index x + 1`).
-/
import ASV.Model.Regions
import ASV.Proofs.SortTheory
import ASV.Proofs.Base.Except
namespace ASV.Regions
open ASV ASV.Base

/-! ### dictionaries -/

theorem Dict.get_set {β} (d : Dict β) (k k' : Nat) (v : β) :
    (d.set k v).get k' = if k = k' then some v else d.get k' := by
  simp [Dict.set, Dict.get]

theorem setNone_get (d : Dict (Option Nat)) (ids : List Nat) (k : Nat) :
    (setNone d ids).get k = if k ∈ ids then some none else d.get k := by
  induction ids generalizing d with
  | nil => simp [setNone]
  | cons i is ih =>
    simp only [setNone, List.foldl_cons] at ih ⊢
    rw [ih, Dict.get_set]
    by_cases h1 : k ∈ is
    · simp [h1]
    · by_cases h2 : i = k
      · subst h2; simp [h1]
      · have : ¬ k = i := fun e => h2 e.symm
        simp [h1, h2, this]

theorem foldl_set_get {α} (d : Dict (Option Nat)) (xs : List α) (key : α → Nat) (v : Option Nat) (k : Nat) :
    (xs.foldl (fun acc x => acc.set (key x) v) d).get k = if k ∈ xs.map key then some v else d.get k := by
  induction xs generalizing d with
  | nil => simp
  | cons x xs ih =>
    simp only [List.foldl_cons, List.map_cons, List.mem_cons]
    rw [ih, Dict.get_set]
    by_cases h1 : k ∈ xs.map key
    · simp [h1]
    · by_cases h2 : key x = k
      · simp [h1, h2]
      · have : ¬ k = key x := fun e => h2 e.symm
        simp [h1, h2, this]

theorem setNone_append (d : Dict (Option Nat)) (a b : List Nat) : setNone (setNone d a) b = setNone d (a ++ b) := by
  simp [setNone, List.foldl_append]

/-- resetting the entries of several lists of keys, one list per element of `xs` -/
theorem foldl_setNone_get {α} (xs : List α) (key : α → List Nat) (d : Dict (Option Nat)) (k : Nat) :
    (xs.foldl (fun acc x => setNone acc (key x)) d).get k = if ∃ x ∈ xs, k ∈ key x then some none else d.get k := by
  induction xs generalizing d with
  | nil => simp
  | cons x xs ih =>
    rw [List.foldl_cons, ih, setNone_get]
    by_cases h1 : ∃ y ∈ xs, k ∈ key y
    · rw [if_pos h1, if_pos (h1.imp fun y hy => ⟨List.mem_cons_of_mem _ hy.1, hy.2⟩)]
    · rw [if_neg h1]
      by_cases h2 : k ∈ key x
      · rw [if_pos h2, if_pos ⟨x, List.mem_cons_self, h2⟩]
      · rw [if_neg h2, if_neg]
        rintro ⟨y, hy, hk⟩
        rcases List.mem_cons.1 hy with rfl | hy
        · exact h2 hk
        · exact h1 ⟨y, hy, hk⟩

/-- a fold over a pair whose components do not look at each other is the pair of the two folds -/
theorem foldl_pair {α β γ} (f : β → α → β) (g : γ → α → γ) (xs : List α) (b : β) (c : γ) :
    xs.foldl (fun acc x => (f acc.1 x, g acc.2 x)) (b, c) = (xs.foldl f b, xs.foldl g c) := by
  induction xs generalizing b c with
  | nil => rfl
  | cons x xs ih => exact ih _ _

/-! ### insertion -/

theorem insertAt_perm {α} (l : List α) (i : Nat) (x : α) : (insertAt l i x).Perm (x :: l) := by
  simp only [insertAt]
  have h : (l.take i ++ x :: l.drop i).Perm (x :: (l.take i ++ l.drop i)) := List.perm_middle
  rw [List.take_append_drop] at h
  exact h

theorem mem_insertAt {α} {l : List α} {i : Nat} {x y : α} : y ∈ insertAt l i x ↔ y = x ∨ y ∈ l :=
  (insertAt_perm l i x).mem_iff.trans List.mem_cons

theorem insertAt_end {α} (l : List α) (x : α) : insertAt l l.length x = l ++ [x] := by
  simp [insertAt]

theorem insertAt_length_eq {α} (l : List α) (i : Nat) (x : α) : (insertAt l i x).length = l.length + 1 := by
  simpa using (insertAt_perm l i x).length_eq

theorem insertAt_get_lt {α} (l : List α) (i j : Nat) (x : α) (h : j < i) (hi : i ≤ l.length) :
    (insertAt l i x)[j]? = l[j]? := by
  simp only [insertAt]
  rw [List.getElem?_append_left (by simp; omega), List.getElem?_take_of_lt h]

theorem insertAt_drop {α} (l : List α) (i : Nat) (x : α) (hi : i ≤ l.length) :
    (insertAt l i x).drop i = x :: l.drop i := by
  simp only [insertAt]
  rw [List.drop_append_of_le_length (by simp; omega)]
  simp [List.drop_take, Nat.min_eq_left hi]

theorem insertAt_pairwise {α : Type} {R : α → α → Prop} {l : List α} {i : Nat} {y : α} (h1 : ∀ a ∈ l.take i, R a y)
    (h2 : ∀ b ∈ l.drop i, R y b) (h : l.Pairwise R) : (insertAt l i y).Pairwise R :=
  pairwise_insert_mid h1 h2 ((List.take_append_drop i l).symm ▸ h)

/-! ### `bisect_left` stays inside [lo, hi] -/

theorem bisectLeft_bounds (lt : Feat → E Bool) (a : List Feat) (fuel lo hi r : Nat) (h : lo ≤ hi)
    (hr : bisectLeft lt a fuel lo hi = .ok r) : lo ≤ r ∧ r ≤ hi := by
  induction fuel generalizing lo hi with
  | zero =>
    simp only [bisectLeft, ok_inv] at hr
    omega
  | succ n ih =>
    simp only [bisectLeft] at hr
    split at hr
    · -- all that is needed of the midpoint
      have hm : lo ≤ (lo + hi) / 2 ∧ (lo + hi) / 2 < hi := by omega
      generalize (lo + hi) / 2 = m at hm hr
      split at hr
      · cases hr
      · simp only [ok_inv] at hr
        obtain ⟨b, -, hr⟩ := hr
        cases b with
        | true =>
          simp only [if_true] at hr
          have := ih _ _ (by omega) hr
          omega
        | false =>
          simp only [Bool.false_eq_true, if_false] at hr
          have := ih _ _ (by omega) hr
          omega
    · simp only [ok_inv] at hr
      omega

/-- while the comparisons succeed, the monadic loop is the pure one -/
theorem bisectLeft_eq_loop (P : Feat → Bool) (l : List Feat) (lt : Feat → E Bool) (hlt : ∀ y ∈ l, lt y = .ok (P y)) :
    ∀ fuel lo hi, hi ≤ l.length → bisectLeft lt l fuel lo hi = .ok (Bisect.loop P l fuel lo hi)
  | 0, _, _, _ => rfl
  | fuel + 1, lo, hi, hhi => by
    rw [bisectLeft, Bisect.loop]
    split
    · have hmid : (lo + hi) / 2 < l.length := by omega
      simp only [List.getElem?_eq_getElem hmid, hlt _ (List.getElem_mem hmid), bind, Except.bind]
      cases P l[(lo + hi) / 2]
      · exact bisectLeft_eq_loop P l lt hlt fuel _ _ (by omega)
      · exact bisectLeft_eq_loop P l lt hlt fuel _ _ hhi
    · rfl

theorem checkNoOverlap_ok (region : Feat) (rs : List Feat) (h : checkNoOverlap region rs = .ok ()) :
    ∀ x ∈ rs, locationsOverlap region.loc x.loc = false := by
  induction rs with
  | nil => simp
  | cons x xs ih =>
    simp only [checkNoOverlap, ok_inv] at h
    intro y hy
    rcases List.mem_cons.1 hy with rfl | hy
    · simpa using h.1
    · exact ih h.2 y hy

/-- `regionIndex` succeeds only with an index inside the list and if the new region overlaps no existing one -/
theorem regionIndex_ok (region : Feat) (i r : Nat) (rs : List Feat)
    (hr : regionIndex region i rs = .ok r) :
    (i ≤ r ∧ r ≤ i + rs.length) ∧ ∀ x ∈ rs, locationsOverlap region.loc x.loc = false := by
  induction rs generalizing i with
  | nil =>
    simp only [regionIndex, ok_inv] at hr
    simp; omega
  | cons x xs ih =>
    simp only [regionIndex, ok_inv] at hr
    obtain ⟨hov, b, -, hr⟩ := hr
    -- the head does not overlap; the rest is checked by `checkNoOverlap` (index found) or by the scan as it goes on
    have hall : (∀ y ∈ xs, locationsOverlap region.loc y.loc = false) →
        ∀ y ∈ x :: xs, locationsOverlap region.loc y.loc = false := fun h y hy =>
      (List.mem_cons.1 hy).elim (fun e => by simpa [e] using hov) (h y)
    cases b with
    | true =>
      simp only [if_true, ok_inv] at hr
      exact ⟨by simp only [List.length_cons]; omega, hall (checkNoOverlap_ok region xs hr.1)⟩
    | false =>
      simp only [Bool.false_eq_true, if_false] at hr
      have := ih _ hr
      exact ⟨by simp only [List.length_cons]; omega, hall this.2⟩

/-! ### numbering -/

/-- `number x = index x + 1` for every member -/
def Numbered (d : Dict Nat) (l : List Feat) : Prop := ∀ j f, l[j]? = some f → d.get f.id = some (j + 1)

theorem numbered_lookup {d : Dict Nat} {l : List Feat} (hn : Numbered d l) {f : Feat} (hf : f ∈ l)
    {n : Nat} (hnum : numberOf d f = some n) : 1 ≤ n ∧ l[n - 1]? = some f := by
  obtain ⟨j, hj⟩ := List.getElem?_of_mem hf
  have := hn j f hj
  simp only [numberOf] at hnum
  rw [this] at hnum
  simp only [Option.some.injEq] at hnum
  subst hnum
  exact ⟨by omega, by simpa using hj⟩

theorem renumberFrom_get_other (d : Dict Nat) (i : Nat) (r : List Feat) (k : Nat) (h : k ∉ r.map (·.id)) :
    (renumberFrom d i r).get k = d.get k := by
  induction r generalizing d i with
  | nil => rfl
  | cons f r ih =>
    simp only [List.map_cons, List.mem_cons, not_or] at h
    simp only [renumberFrom]
    rw [ih _ _ h.2, Dict.get_set]
    have : ¬ f.id = k := fun e => h.1 e.symm
    simp [this]

theorem renumberFrom_get (d : Dict Nat) (i : Nat) (r : List Feat) (hnd : (r.map (·.id)).Nodup) (j : Nat) (f : Feat)
    (hf : r[j]? = some f) : (renumberFrom d i r).get f.id = some (i + j + 1) := by
  induction r generalizing d i j with
  | nil => simp at hf
  | cons g r ih =>
    simp only [List.map_cons, List.nodup_cons] at hnd
    simp only [renumberFrom]
    cases j with
    | zero =>
      simp only [List.getElem?_cons_zero, Option.some.injEq] at hf
      subst hf
      rw [renumberFrom_get_other _ _ _ _ hnd.1, Dict.get_set]
      simp
    | succ j =>
      simp only [List.getElem?_cons_succ] at hf
      rw [ih _ _ hnd.2 j hf]
      congr 1; omega

theorem renumber_numbered (d : Dict Nat) (l : List Feat) (index : Nat) (hnd : (l.map (·.id)).Nodup)
    (hlow : ∀ j f, j < index → l[j]? = some f → d.get f.id = some (j + 1)) :
    Numbered (renumber d l index) l := by
  intro j f hf
  simp only [renumber]
  have hsplit : l = l.take index ++ l.drop index := (List.take_append_drop index l).symm
  have hnd' : ((l.take index).map (·.id) ++ (l.drop index).map (·.id)).Nodup := by
    rw [← List.map_append, ← hsplit]; exact hnd
  have hnd2 := List.nodup_append.1 hnd'
  by_cases hj : j < index
  · have hmem : f ∈ l.take index := by
      have : (l.take index)[j]? = some f := by rw [List.getElem?_take_of_lt hj]; exact hf
      exact List.mem_of_getElem? this
    rw [renumberFrom_get_other _ _ _ _ (by
      intro hin
      exact hnd2.2.2 f.id (List.mem_map.2 ⟨f, hmem, rfl⟩) f.id hin rfl)]
    exact hlow j f hj hf
  · have : (l.drop index)[j - index]? = some f := by
      rw [List.getElem?_drop]; rw [show index + (j - index) = j by omega]; exact hf
    rw [renumberFrom_get _ _ _ hnd2.2.1 (j - index) f this]
    congr 1; omega

/-- inserting into a numbered list and renumbering from the insertion point keeps `number x = index x + 1` -/
theorem insertAt_numbered {d : Dict Nat} {l : List Feat} {x : Feat} {i : Nat} (hn : Numbered d l)
    (hnd : ((insertAt l i x).map (·.id)).Nodup) (hi : i ≤ l.length) :
    Numbered (renumber d (insertAt l i x) i) (insertAt l i x) := by
  apply renumber_numbered _ _ _ hnd
  intro j f hj hf
  rw [insertAt_get_lt l i j x hj hi] at hf
  exact hn j f hf

/-! ### the children of the region built for a section -/

def candsOf (areas : List Feat) : List Feat := areas.filter (·.kind == .cand)
def subsOf (areas : List Feat) : List Feat := areas.filter (·.kind != .cand)
/-- `children` of `Region.__init__`: subregions first -/
def childrenOf (areas : List Feat) : List Feat := subsOf areas ++ candsOf areas

theorem childrenOf_perm (areas : List Feat) : (childrenOf areas).Perm areas :=
  List.perm_append_comm.trans (by
    have := List.filter_append_perm (fun x : Feat => x.kind == Kind.cand) areas
    simpa only [candsOf, subsOf, bne] using this)

theorem mem_childrenOf (areas : List Feat) (f : Feat) : f ∈ childrenOf areas ↔ f ∈ areas :=
  (childrenOf_perm areas).mem_iff

theorem addSections_cons (s : State) (l : Loc) (areas : List Feat) (rest : List Sec) :
    addSections s ((l, areas) :: rest) =
      (mkRegion s (candsOf areas) (subsOf areas) >>= fun x => addRegion x.1 x.2 >>= fun s2 => addSections s2 rest) := rfl

end ASV.Regions
