/-
  C11: the sideloader's options: what `load` returns is valid; `regenerate` with sideloading enabled
  and disabled.
-/
import ASV.Proofs.ResultsOther
namespace ASV.Results
open ASV.Results.Spec

/-- a sub-region the constructor accepted satisfies the class invariant for that origin -/
theorem SubAnn.valid_of_make {start stop label tool details origin s}
    (h : SubAnn.make start stop label tool details origin = .reuse s) (hn : Tool.nameOk tool.name = true) :
    SubAnn.valid origin s = true := by
  have hs := SubAnn.make_eq h
  subst hs
  simp [SubAnn.valid, h, Outcome.isReuse, hn]

namespace SideOpts

theorem manualArea_valid {r : RecInfo} {o : SideOpts} {l} (h : manualArea r o = .reuse l) :
    ∀ s ∈ l, SubAnn.valid r.origin s = true := by
  unfold manualArea at h
  split at h
  · split at h
    · obtain ⟨a, ha, hl⟩ := map'_eq_reuse h
      subst hl
      intro s hs
      simp at hs; subst hs
      exact SubAnn.valid_of_make ha (by decide)
    · simp at h; subst h; intro s hs; cases hs
  · simp at h; subst h; intro s hs; cases hs

theorem markerArea_valid {r : RecInfo} {p : Int} {name : String} {s : SubAnn}
    (h : markerArea r p name = .reuse (some s)) : SubAnn.valid r.origin s = true := by
  unfold markerArea at h
  split at h
  · cases h
  · unfold RecInfo.origin
    split at h
    · obtain ⟨a, ha, hl⟩ := map'_eq_reuse h
      cases hl
      rw [if_pos ‹_›]
      exact SubAnn.valid_of_make ha (by decide)
    · obtain ⟨a, ha, hl⟩ := map'_eq_reuse h
      cases hl
      rw [if_neg ‹_›]
      exact SubAnn.valid_of_make ha (by decide)

/-- whatever `load` returns satisfies the class invariant of SideloadedResults for this record
    (given that the parsed file annotations do) -/
theorem load_valid {r : RecInfo} {o : SideOpts} {x : Sideloaded} (h : load r o = .reuse x)
    (hf : ∀ s ∈ o.fileSubs, SubAnn.valid r.origin s = true)
    (hp : ∀ p ∈ o.fileProtos, ProtoAnn.valid r.origin p = true) : x.valid r.ctx = true := by
  unfold load at h
  obtain ⟨manual, hm, h⟩ := bind_eq_reuse h
  obtain ⟨marked, hk, h⟩ := bind_eq_reuse h
  simp at h; subst h
  simp only [Sideloaded.valid, RecInfo.ctx, Bool.and_eq_true, beq_self_eq_true, true_and, List.all_eq_true]
  refine ⟨?_, hp⟩
  intro s hs
  simp only [List.mem_append, List.mem_filterMap, id] at hs
  rcases hs with hs | hs | ⟨a, ha, hs⟩
  · exact hf s hs
  · exact manualArea_valid hm s hs
  · subst hs
    obtain ⟨name, _, hn⟩ := mapO_mem _ _ _ hk (some s) ha
    exact markerArea_valid hn

theorem regenerate_enabled {r : RecInfo} {o : SideOpts} {x y : Sideloaded} (he : o.enabled = true)
    (hv : x.valid r.ctx = true) (hl : load r o = .reuse y) :
    regenerate r o x.toJson = Sideloaded.regenerate r.ctx (some y) x.toJson := by
  unfold regenerate
  simp only [he, if_true]
  split
  · rename_i heq; simp [Sideloaded.toJson] at heq
  · rw [Sideloaded.fromJson_toJson r.ctx x hv, hl]

theorem regenerate_disabled {r : RecInfo} {o : SideOpts} (he : o.enabled = false) (j : J) :
    regenerate r o j = Sideloaded.regenerate r.ctx none j := by
  unfold regenerate
  rw [he]
  rfl

end SideOpts

end ASV.Results
