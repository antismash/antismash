/-
  C06: what a successful call returned — for each function of the area bookkeeping model (`insertSortedWith`,
  `add_protocluster`, `add_subregion`, `mkCand`, `add_candidate_cluster`, `mkRegion`, `add_region`, `add_sections`,
  `create_regions`, `clear_regions`) and for the `step`s that are not a single model function, so that no later
  proof unfolds them again.
-/
import ASV.Proofs.RegionsDict
import ASV.Proofs.Loc
import ASV.Proofs.Base.Except
namespace ASV.Regions
open ASV ASV.Base

def ids (l : List Feat) : List Nat := l.map (·.id)

theorem ids_append (a b : List Feat) : ids (a ++ b) = ids a ++ ids b := by simp [ids]

theorem mem_ids {l : List Feat} {k : Nat} : k ∈ ids l ↔ ∃ f ∈ l, f.id = k := by simp [ids]

theorem insertSortedWith_ok {lt : Feat → E Bool} {l : List Feat} {d : Dict Nat} {x : Feat} {l' : List Feat} {d' : Dict Nat}
    (h : insertSortedWith lt l d x = .ok (l', d')) :
    ∃ index, index ≤ l.length ∧ l' = insertAt l index x ∧ d' = renumber d l' index := by
  simp only [insertSortedWith, ok_inv, Prod.mk.injEq] at h
  obtain ⟨index, hidx, rfl, rfl⟩ := h
  exact ⟨index, (bisectLeft_bounds _ _ _ _ _ _ (Nat.zero_le _) hidx).2, rfl, rfl⟩

theorem insertSortedWith_perm {lt : Feat → E Bool} {l : List Feat} {d : Dict Nat} {x : Feat} {l' : List Feat} {d' : Dict Nat}
    (h : insertSortedWith lt l d x = .ok (l', d')) : l'.Perm (x :: l) := by
  obtain ⟨index, _, rfl, _⟩ := insertSortedWith_ok h
  exact insertAt_perm l index x

/-- `add_protocluster` / `add_subregion`: `L`, `D` read the list and its numbering, `put` writes them back -/
theorem leafAdd_ok {s s' : State} {k : Kind} {loc : Loc} {L : State → List Feat} {D : State → Dict Nat}
    {put : State → List Feat → Dict Nat → State}
    (h : (do let (s1, x) ← mkLeaf s k loc
             checkInside s1 x.loc
             let (l, d) ← insertSortedRight (L s1) (D s1) x
             pure (put s1 l d) : E State) = .ok s') :
    ∃ l d, insertSortedRight (L { s with nextId := s.nextId + 1 }) (D { s with nextId := s.nextId + 1 })
        ⟨s.nextId, k, loc, [], [], []⟩ = .ok (l, d) ∧ s' = put { s with nextId := s.nextId + 1 } l d := by
  simp only [mkLeaf, ok_inv, Prod.exists, Prod.mk.injEq] at h
  obtain ⟨_, _, ⟨-, rfl, rfl⟩, -, l, d, hv, rfl⟩ := h
  exact ⟨l, d, hv, rfl⟩

theorem addSubregion_ok {s s' : State} {loc : Loc} (h : addSubregion s loc = .ok s') :
    ∃ l d, insertSortedRight s.subs s.numS ⟨s.nextId, .sub, loc, [], [], []⟩ = .ok (l, d) ∧
      s' = { s with nextId := s.nextId + 1, subs := l, numS := d } :=
  leafAdd_ok (L := (·.subs)) (D := (·.numS)) (put := fun s l d => { s with subs := l, numS := d }) h

theorem addProtocluster_ok {s s' : State} {loc : Loc} (h : addProtocluster s loc = .ok s') :
    ∃ l d, insertSortedRight s.protos s.numP ⟨s.nextId, .proto, loc, [], [], []⟩ = .ok (l, d) ∧
      s' = { s with nextId := s.nextId + 1, protos := l, numP := d } :=
  leafAdd_ok (L := (·.protos)) (D := (·.numP)) (put := fun s l d => { s with protos := l, numP := d }) h

theorem setParents_eq {d d' : Dict (Option Nat)} {parent : Feat} {cs : List Feat}
    (h : setParents d parent cs = .ok d') : d' = cs.foldl (fun d c => d.set c.id (some parent.id)) d := by
  induction cs generalizing d with
  | nil => simp only [setParents, pure, Except.pure, Except.ok.injEq] at h; simp [h]
  | cons c cs ih =>
    simp only [setParents] at h
    split at h
    · cases h
    · simpa using ih h

theorem findId_some {l : List Feat} {i : Nat} {f : Feat} (h : findId l i = some f) : f ∈ l ∧ f.id = i := by
  simp only [findId] at h
  exact ⟨List.mem_of_find?_eq_some h, by simpa using List.find?_some h⟩

theorem findAll_ok {l : List Feat} {is : List Nat} {ps : List Feat} (h : findAll l is = .ok ps) :
    ids ps = is ∧ ∀ p ∈ ps, p ∈ l := by
  induction is generalizing ps with
  | nil =>
    simp only [findAll, List.mapM_nil, pure, Except.pure, Except.ok.injEq] at h
    subst h; simp [ids]
  | cons i is ih =>
    simp only [findAll, mapM_cons_eq_ok] at h
    obtain ⟨f, fs, hf, hfs, rfl⟩ := h
    have hfi : findId l i = some f := by
      split at hf
      · next g hg => simp only [pure, Except.pure, Except.ok.injEq] at hf; rw [← hf]; exact hg
      · cases hf
    have := ih (ps := fs) hfs
    obtain ⟨hm, he⟩ := findId_some hfi
    refine ⟨by simp only [ids, List.map_cons, he]; congr 1; exact this.1, ?_⟩
    intro p hp
    simp only [List.mem_cons] at hp
    rcases hp with rfl | hp
    · exact hm
    · exact this.2 p hp

theorem parentOf_foldl (s : State) (xs : List Feat) (v : Nat) (k : Nat) :
    ((xs.foldl (fun d c => d.set c.id (some v)) s.parent).get k).join =
      if k ∈ ids xs then some v else s.parentOf k := by
  rw [foldl_set_get s.parent xs (·.id) (some v) k]
  by_cases h : k ∈ ids xs
  · have h' : k ∈ xs.map (·.id) := h
    rw [if_pos h, if_pos h']; rfl
  · have h' : ¬ k ∈ xs.map (·.id) := h
    rw [if_neg h, if_neg h']; rfl

theorem parentOf_clearKids (s : State) (cs : List Feat) (k : Nat) :
    ((cs.foldl (fun acc c => setNone acc c.kids) s.parent).get k).join =
      if ∃ c ∈ cs, k ∈ c.kids then none else s.parentOf k := by
  rw [foldl_setNone_get cs (·.kids)]
  split <;> rfl

theorem mkCand_ok {s s1 : State} {pids : List Nat} {c : Feat} (h : mkCand s pids = .ok (s1, c)) :
    ∃ ps, ids ps = pids ∧ (∀ p ∈ ps, p ∈ s.protos) ∧ c.id = s.nextId ∧ c.kids = pids ∧ c.kind = .cand ∧
      ps ≠ [] ∧ connect (ps.map (·.loc)) s.wrap = .ok c.loc ∧
      s1 = { s with nextId := s.nextId + 1, parent := ps.foldl (fun d p => d.set p.id (some s.nextId)) s.parent } := by
  simp only [mkCand, ok_inv, Prod.mk.injEq] at h
  obtain ⟨hemp, ps, hps, loc, hloc, -, par, hpar, rfl, rfl⟩ := h
  have hfa := findAll_ok hps
  refine ⟨ps, hfa.1, hfa.2, rfl, rfl, rfl, ?_, hloc, by rw [setParents_eq hpar]⟩
  intro he
  rw [he] at hfa
  rw [← hfa.1] at hemp
  simp [ids] at hemp

theorem step_mkCand_ok {s s' : State} {pids : List Nat} (h : step s (.mkCand pids) = .ok s') :
    ∃ s1 c, mkCand s pids = .ok (s1, c) ∧ s' = { s1 with pool := s1.pool ++ [c] } := by
  simp only [step, ok_inv, Prod.exists] at h
  obtain ⟨s1, c, hv, rfl⟩ := h
  exact ⟨s1, c, hv, rfl⟩

theorem step_reparent_ok {s s' : State} {pids : List Nat} {cid : Nat} (h : step s (.reparent pids cid) = .ok s') :
    ∃ c ps, c ∈ s.cands ++ s.pool ∧ (∀ p ∈ ps, p ∈ s.protos) ∧ (∀ k ∈ ids ps, k ∈ c.kids) ∧
      s' = { s with parent := ps.foldl (fun d p => d.set p.id (some c.id)) s.parent } := by
  simp only [step] at h
  split at h
  · cases h
  · next c hc =>
    simp only [ok_inv] at h
    obtain ⟨ps, hps, hall, par, hpar, rfl⟩ := h
    have hfa := findAll_ok hps
    refine ⟨c, ps, (findId_some hc).1, hfa.2, ?_, by rw [setParents_eq hpar]⟩
    intro k hk
    rw [hfa.1] at hk
    have : (pids.all fun k => c.kids.contains k) = true := by simpa using hall
    simpa using List.all_eq_true.1 this k hk

theorem step_addRegion_ok {s s' : State} {cs ss : List Nat} (h : step s (.addRegion cs ss) = .ok s') :
    ∃ cands subs s1 r, (∀ f ∈ cands, f ∈ s.cands) ∧ (∀ f ∈ subs, f ∈ s.subs) ∧
      mkRegion s cands subs = .ok (s1, r) ∧ addRegion s1 r = .ok s' := by
  simp only [step, ok_inv, Prod.exists] at h
  obtain ⟨cands, hc, subs, hs, s1, r, hmk, h⟩ := h
  exact ⟨cands, subs, s1, r, (findAll_ok hc).2, (findAll_ok hs).2, hmk, h⟩

theorem step_createRegionsWith_ok {s s' : State} {cs ss : List Nat} (h : step s (.createRegionsWith cs ss) = .ok s') :
    ∃ cands subs, ids (cands ++ subs) = cs ++ ss ∧ (cs ++ ss).Nodup ∧ (∀ f ∈ cands, f ∈ s.cands ++ s.pool) ∧
      (∀ f ∈ subs, f ∈ s.subs) ∧ createRegionsOf s cands subs = .ok s' := by
  simp only [step, ok_inv] at h
  obtain ⟨cands, hc, subs, hs, hnd, h⟩ := h
  exact ⟨cands, subs, by rw [ids_append, (findAll_ok hc).1, (findAll_ok hs).1], by simpa using hnd,
    (findAll_ok hc).2, (findAll_ok hs).2, h⟩

/-- `clear_candidate_clusters` / `clear_subregions`, given the record `t` with the list dropped: with regions the
    regions are cleared and created again, without nothing else happens -/
theorem clearThen_ok {t s' : State} (h : (if !t.regions.isEmpty then createRegions (clearRegions t) else pure t) = .ok s') :
    createRegions (clearRegions t) = .ok s' ∨ s' = t := by
  split at h
  · exact Or.inl h
  · cases h
    exact Or.inr rfl

theorem run_cons_ok {s s' : State} {op : Op} {ops : List Op} (h : run s (op :: ops) = .ok s') :
    ∃ s1, step s op = .ok s1 ∧ run s1 ops = .ok s' := by
  simp only [run, ok_inv] at h
  exact h

theorem pool_split {pool : List Feat} {i : Nat} {x : Feat} (hnd : (ids pool).Nodup) (hf : findId pool i = some x) :
    pool.Perm (x :: pool.filter (·.id != i)) := by
  induction pool with
  | nil => simp [findId] at hf
  | cons y ys ih =>
    simp only [ids, List.map_cons, List.nodup_cons] at hnd
    simp only [findId, List.find?_cons] at hf
    by_cases hy : y.id == i
    · simp only [hy] at hf
      have hyx : y = x := by simpa using hf
      subst hyx
      have hid : y.id = i := by simpa using hy
      have : ys.filter (·.id != i) = ys := by
        rw [List.filter_eq_self]
        intro z hz
        have : z.id ≠ y.id := fun e => hnd.1 (List.mem_map.2 ⟨z, hz, e⟩)
        simp only [bne_iff_ne, ne_eq]
        rw [← hid]; exact this
      simp only [List.filter_cons, hy, bne, Bool.not_true, Bool.false_eq_true, if_false]
      simp only [bne] at this
      rw [this]
    · simp only [hy] at hf
      have := ih hnd.2 hf
      simp only [List.filter_cons, bne, hy, Bool.not_false, if_true]
      exact (List.Perm.cons y this).trans (List.Perm.swap x y _)

theorem addCandidate_ok {s s' : State} {id : Nat} (h : addCandidate s id = .ok s') :
    ∃ x l d, findId s.pool id = some x ∧ insertSorted s.cands s.numC x = .ok (l, d) ∧
      s' = { s with cands := l, numC := d, pool := s.pool.filter (·.id != id) } := by
  simp only [addCandidate] at h
  split at h
  · cases h
  · next x hx =>
    simp only [ok_inv, Prod.exists] at h
    obtain ⟨-, l, d, hv, rfl⟩ := h
    exact ⟨x, l, d, hx, hv, rfl⟩

theorem mkRegion_ok {s s1 : State} {cands subs : List Feat} {r : Feat} (h : mkRegion s cands subs = .ok (s1, r)) :
    (∃ w, regionWrap ((subs ++ cands).map (·.loc)) = .ok w ∧ connect ((subs ++ cands).map (·.loc)) w = .ok r.loc) ∧
    subs ++ cands ≠ [] ∧ r.id = s.nextRid ∧ r.kids = ids cands ∧ r.subs = ids subs ∧ r.cdses = [] ∧
      s1 = { s with nextRid := s.nextRid + 1,
                    parent := (subs ++ cands).foldl (fun d c => d.set c.id (some s.nextRid)) s.parent } := by
  simp only [mkRegion, ok_inv, Prod.mk.injEq] at h
  obtain ⟨hemp, w, hw, loc, hloc, -, par, hpar, rfl, rfl⟩ := h
  refine ⟨⟨w, hw, hloc⟩, ?_, rfl, rfl, rfl, rfl, by rw [setParents_eq hpar]⟩
  intro he
  rw [(List.append_eq_nil_iff.1 he).1, (List.append_eq_nil_iff.1 he).2] at hemp
  simp at hemp

theorem addRegion_ok {s s' : State} {region : Feat} (h : addRegion s region = .ok s') :
    ∃ index, regionIndex region 0 s.regions = .ok index ∧ index ≤ s.regions.length ∧
      (∀ x ∈ s.regions, locationsOverlap region.loc x.loc = false) ∧
      s' = { s with
        regions := insertAt s.regions index { region with cdses := cdsWithin s.cds region.loc },
        numR := renumber s.numR (insertAt s.regions index { region with cdses := cdsWithin s.cds region.loc }) index,
        cdsRegion := (cdsWithin s.cds region.loc).foldl
          (fun (acc : Dict (Option Nat)) i => acc.set i (some region.id)) s.cdsRegion } := by
  simp only [addRegion, ok_inv] at h
  obtain ⟨-, index, hidx, rfl⟩ := h
  have := regionIndex_ok region 0 index s.regions hidx
  exact ⟨index, hidx, by omega, this.2, rfl⟩

theorem regionOfCds_foldl (s : State) (xs : List Nat) (v : Nat) (k : Nat) :
    ((xs.foldl (fun (acc : Dict (Option Nat)) i => acc.set i (some v)) s.cdsRegion).get k).join =
      if k ∈ xs then some v else s.regionOfCds k := by
  rw [foldl_set_get s.cdsRegion xs (fun i => i) (some v) k]
  simp only [List.map_id', State.regionOfCds]
  by_cases h : k ∈ xs
  · rw [if_pos h, if_pos h]; rfl
  · rw [if_neg h, if_neg h]

theorem addSections_nil_ok {s s' : State} (h : addSections s [] = .ok s') : s' = s := by
  simp only [addSections, pure, Except.pure, Except.ok.injEq] at h
  exact h.symm

theorem addSections_cons_ok {s s' : State} {l : Loc} {areas : List Feat} {rest : List Sec}
    (h : addSections s ((l, areas) :: rest) = .ok s') :
    ∃ s1 r s2, mkRegion s (areas.filter (·.kind == .cand)) (areas.filter (·.kind != .cand)) = .ok (s1, r) ∧
      addRegion s1 r = .ok s2 ∧ addSections s2 rest = .ok s' := by
  rw [addSections_cons] at h
  simp only [ok_inv, Prod.exists] at h
  obtain ⟨s1, r, hmk, s2, hadd, h⟩ := h
  exact ⟨s1, r, s2, hmk, hadd, h⟩

theorem createRegionsOf_ok {s s' : State} {cands subs : List Feat} (h : createRegionsOf s cands subs = .ok s') :
    (cands = [] ∧ subs = [] ∧ s' = s) ∨
    ∃ secs, sectionsOf s.wrap cands subs = .ok secs ∧ addSections s secs = .ok s' := by
  simp only [createRegionsOf] at h
  split at h
  · next hemp =>
    simp only [pure, Except.pure, Except.ok.injEq] at h
    simp only [Bool.and_eq_true, List.isEmpty_iff] at hemp
    exact Or.inl ⟨hemp.1, hemp.2, h.symm⟩
  · exact Or.inr (bind_eq_ok.1 h)

theorem clearRegions_parentOf (s : State) (k : Nat) :
    (clearRegions s).parentOf k = if ∃ r ∈ s.regions, k ∈ r.kids ++ r.subs then none else s.parentOf k := by
  simp only [State.parentOf, clearRegions,
    foldl_pair (fun acc (r : Feat) => setNone (setNone acc r.kids) r.subs) (fun acc (r : Feat) => setNone acc r.cdses)]
  simp only [setNone_append, foldl_setNone_get s.regions (fun r => r.kids ++ r.subs)]
  split <;> rfl

theorem clearRegions_regionOfCds (s : State) (k : Nat) :
    (clearRegions s).regionOfCds k = if ∃ r ∈ s.regions, k ∈ r.cdses then none else s.regionOfCds k := by
  simp only [State.regionOfCds, clearRegions,
    foldl_pair (fun acc (r : Feat) => setNone (setNone acc r.kids) r.subs) (fun acc (r : Feat) => setNone acc r.cdses),
    foldl_setNone_get s.regions (fun r => r.cdses)]
  split <;> rfl

theorem clearRegions_fields (s : State) :
    (clearRegions s).regions = [] ∧ (clearRegions s).protos = s.protos ∧ (clearRegions s).cands = s.cands ∧
    (clearRegions s).subs = s.subs ∧ (clearRegions s).pool = s.pool ∧ (clearRegions s).len = s.len ∧
    (clearRegions s).circular = s.circular ∧ (clearRegions s).cds = s.cds := ⟨rfl, rfl, rfl, rfl, rfl, rfl, rfl, rfl⟩

end ASV.Regions
