/-
  What one `add_cds` call does to the record's relations and caches (`Eff2`), the tree of collections it walks
  (`downNodes`), and the links between a list of genes and a list of collections (`LinkedS`, `links`).
-/
import ASV.Proofs.LookupSpec
namespace ASV.Lookup
open ASV

/-! ### the collections an `add_cds` call reaches, with the section each files the gene under -/

mutual
/-- the collection itself and, recursively, every child that contains the gene; a child is handed the
    section its parent chose -/
def downNodes (g : Gene) (given : Option Section) : AreaT → List (AreaT × Section)
  | .mk id kind loc core product kids =>
    (.mk id kind loc core product kids, (chooseSection loc g given).getD .post)
      :: downKids g (chooseSection loc g given) kids
def downKids (g : Gene) (sec : Option Section) : List AreaT → List (AreaT × Section)
  | [] => []
  | k :: ks => (if containedBy g.loc k.loc then downNodes g sec k else []) ++ downKids g sec ks
end

/-- does `Protocluster.add_cds` record the gene as defining? -/
def defines (g : Gene) (d : AreaT) : Bool :=
  d.kind == .proto && containedBy g.loc d.core && g.cores.contains d.product

/-- `r'` is `r` after the triples `(gene, collection, section)` in `P` have been entered into the gene lists
    and those in `Q` into the definition sets / region back links: the relations grow by exactly those
    entries, back links are put in front, the caches of the touched collections (and only those) are marked
    dirty, everything else is untouched -/
structure Eff2 (P Q : List (Gene × AreaT × Section)) (r r' : Rec) : Prop where
  len : r'.len = r.len
  genes : r'.genes = r.genes
  byName : r'.byName = r.byName
  byLoc : r'.byLoc = r.byLoc
  cdsCache : r'.cdsCache = r.cdsCache
  cdsCacheDirty : r'.cdsCacheDirty = r.cdsCacheDirty
  regions : r'.regions = r.regions
  protos : r'.protos = r.protos
  cands : r'.cands = r.cands
  subs : r'.subs = r.subs
  slotVal : r'.slotVal = r.slotVal
  tupleVal : r'.tupleVal = r.tupleVal
  log : r'.log = r.log
  members : ∀ x, x ∈ r'.members ↔ x ∈ r.members ∨ ∃ t ∈ P, x = (t.2.1.id, t.1.id)
  sections : ∀ x, x ∈ r'.sections ↔ x ∈ r.sections ∨ ∃ t ∈ P, x = ((t.2.1.id, t.2.2), t.1.id)
  defs : ∀ x, x ∈ r'.defs ↔ x ∈ r.defs ∨ ∃ t ∈ Q, defines t.1 t.2.1 = true ∧ x = (t.2.1.id, t.1.id)
  regionOf : ∃ pre, r'.regionOf = pre ++ r.regionOf ∧
    ∀ x, x ∈ pre ↔ ∃ t ∈ Q, t.2.1.kind = .region ∧ x = (t.1.id, some t.2.1.id)
  clean : ∀ aid, aid ∈ r'.clean ↔ aid ∈ r.clean ∧ ∀ t ∈ P, t.2.1.id ≠ aid
  slotClean : ∀ x, x ∈ r'.slotClean ↔ x ∈ r.slotClean ∧ ∀ t ∈ P, (t.2.1.id, t.2.2) ≠ x
  /-- lists of untouched collections keep their order too -/
  childrenSame : ∀ aid, (∀ t ∈ P, t.2.1.id ≠ aid) → r'.children aid = r.children aid
  sectionSame : ∀ aid s, (∀ t ∈ P, (t.2.1.id, t.2.2) ≠ (aid, s)) → r'.section aid s = r.section aid s

abbrev Eff (P : List (Gene × AreaT × Section)) (r r' : Rec) : Prop := Eff2 P P r r'

/-- a state that differs from `r` in the definition sets and back links only -/
theorem Eff2.of_tail {Q : List (Gene × AreaT × Section)} {r : Rec} {d : List (Nat × Nat)} {ro : List (Nat × Option Nat)}
    (hd : ∀ x, x ∈ d ↔ x ∈ r.defs ∨ ∃ t ∈ Q, defines t.1 t.2.1 = true ∧ x = (t.2.1.id, t.1.id))
    (hro : ∃ pre, ro = pre ++ r.regionOf ∧ ∀ x, x ∈ pre ↔ ∃ t ∈ Q, t.2.1.kind = .region ∧ x = (t.1.id, some t.2.1.id)) :
    Eff2 [] Q r { r with defs := d, regionOf := ro } :=
  { len := rfl, genes := rfl, byName := rfl, byLoc := rfl, cdsCache := rfl, cdsCacheDirty := rfl, regions := rfl,
    protos := rfl, cands := rfl, subs := rfl, slotVal := rfl, tupleVal := rfl, log := rfl,
    members := fun x => by simp, sections := fun x => by simp, defs := hd, regionOf := hro,
    clean := fun aid => by simp, slotClean := fun x => by simp,
    childrenSame := fun _ _ => rfl, sectionSame := fun _ _ _ => rfl }

theorem Eff.refl (r : Rec) : Eff [] r r :=
  Eff2.of_tail (d := r.defs) (ro := r.regionOf) (fun x => by simp) ⟨[], rfl, fun x => by simp⟩

theorem Eff2.trans {P Q P' Q' : List (Gene × AreaT × Section)} {r₁ r₂ r₃ : Rec}
    (h₁ : Eff2 P Q r₁ r₂) (h₂ : Eff2 P' Q' r₂ r₃) : Eff2 (P ++ P') (Q ++ Q') r₁ r₃ := by
  refine { len := h₂.len.trans h₁.len, genes := h₂.genes.trans h₁.genes, byName := h₂.byName.trans h₁.byName,
           byLoc := h₂.byLoc.trans h₁.byLoc, cdsCache := h₂.cdsCache.trans h₁.cdsCache,
           cdsCacheDirty := h₂.cdsCacheDirty.trans h₁.cdsCacheDirty, regions := h₂.regions.trans h₁.regions,
           protos := h₂.protos.trans h₁.protos, cands := h₂.cands.trans h₁.cands, subs := h₂.subs.trans h₁.subs,
           slotVal := h₂.slotVal.trans h₁.slotVal, tupleVal := h₂.tupleVal.trans h₁.tupleVal, log := h₂.log.trans h₁.log,
           members := ?_, sections := ?_, defs := ?_, regionOf := ?_, clean := ?_, slotClean := ?_,
           childrenSame := ?_, sectionSame := ?_ }
  · intro x; rw [h₂.members, h₁.members]; simp only [List.mem_append, or_and_right, exists_or, or_assoc]
  · intro x; rw [h₂.sections, h₁.sections]; simp only [List.mem_append, or_and_right, exists_or, or_assoc]
  · intro x; rw [h₂.defs, h₁.defs]; simp only [List.mem_append, or_and_right, exists_or, or_assoc]
  · obtain ⟨p1, e1, c1⟩ := h₁.regionOf
    obtain ⟨p2, e2, c2⟩ := h₂.regionOf
    refine ⟨p2 ++ p1, by rw [e2, e1, List.append_assoc], ?_⟩
    intro x; simp only [List.mem_append, c1, c2, or_and_right, exists_or]; exact Or.comm
  · intro aid; rw [h₂.clean, h₁.clean]; simp only [List.forall_mem_append, and_assoc]
  · intro x; rw [h₂.slotClean, h₁.slotClean]; simp only [List.forall_mem_append, and_assoc]
  · intro aid h
    rw [List.forall_mem_append] at h
    rw [h₂.childrenSame aid h.2, h₁.childrenSame aid h.1]
  · intro aid s h
    rw [List.forall_mem_append] at h
    rw [h₂.sectionSame aid s h.2, h₁.sectionSame aid s h.1]

theorem Eff.trans {P Q : List (Gene × AreaT × Section)} {r₁ r₂ r₃ : Rec} (h₁ : Eff P r₁ r₂) (h₂ : Eff Q r₂ r₃) :
    Eff (P ++ Q) r₁ r₃ := Eff2.trans h₁ h₂

/-- only membership in the two lists matters -/
theorem Eff2.congr {P Q P' Q' : List (Gene × AreaT × Section)} {r r' : Rec} (h : Eff2 P Q r r')
    (hP : ∀ t, t ∈ P ↔ t ∈ P') (hQ : ∀ t, t ∈ Q ↔ t ∈ Q') : Eff2 P' Q' r r' :=
  { h with
    members := fun x => by rw [h.members]; simp only [hP]
    sections := fun x => by rw [h.sections]; simp only [hP]
    defs := fun x => by rw [h.defs]; simp only [hQ]
    regionOf := by
      obtain ⟨pre, e, c⟩ := h.regionOf
      exact ⟨pre, e, fun x => by rw [c]; simp only [hQ]⟩
    clean := fun aid => by rw [h.clean]; simp only [hP]
    slotClean := fun x => by rw [h.slotClean]; simp only [hP]
    childrenSame := fun aid ha => h.childrenSame aid fun t ht => ha t ((hP t).1 ht)
    sectionSame := fun aid s ha => h.sectionSame aid s fun t ht => ha t ((hP t).1 ht) }

theorem mem_insertNew {α} [BEq α] [LawfulBEq α] (l : List α) (y x : α) : x ∈ insertNew l y ↔ x ∈ l ∨ x = y := by
  unfold insertNew
  split
  · rename_i h
    have : y ∈ l := by simpa using h
    constructor
    · exact Or.inl
    · rintro (h | rfl) <;> assumption
  · simp

theorem filter_insertNew_ne {α} [BEq α] [LawfulBEq α] (l : List α) (y : α) (p : α → Bool) (h : p y = false) :
    (insertNew l y).filter p = l.filter p := by
  unfold insertNew
  split
  · rfl
  · simp [List.filter_append, h]

/-- the subclass tail of `add_cds` (Protocluster: definition set; Region: back link) applied to the state after the
    children -/
def subclassTail (g : Gene) (a : AreaT) (r2 : Rec) : Rec :=
  { r2 with defs := if defines g a then insertNew r2.defs (a.id, g.id) else r2.defs,
            regionOf := if a.kind = .region then (g.id, some a.id) :: r2.regionOf else r2.regionOf }

theorem subclassTail_eff (g : Gene) (s : Section) (a : AreaT) (r2 : Rec) : Eff2 [] [(g, a, s)] r2 (subclassTail g a r2) := by
  refine Eff2.of_tail (fun x => ?_) ?_
  · simp only [List.mem_singleton, exists_eq_left]
    by_cases h : defines g a = true
    · simp only [h, if_true, mem_insertNew, true_and]
    · have h' : defines g a = false := by simpa using h
      simp only [h', Bool.false_eq_true, if_false, false_and, or_false]
  · by_cases hk : a.kind = .region
    · exact ⟨[(g.id, some a.id)], by simp only [hk, if_true]; rfl, fun x => by simp [hk]⟩
    · exact ⟨[], by simp only [hk, if_false]; rfl, fun x => by simp [hk]⟩

theorem pushDown_unfold (g : Gene) (given : Option Section) (id : Nat) (kind : Kind) (loc core : Loc) (product : String)
    (kids : List AreaT) (r : Rec) :
    pushDown g given (.mk id kind loc core product kids) r
      = subclassTail g (.mk id kind loc core product kids) (pushKids g (chooseSection loc g given) kids
          { r with members := insertNew r.members (id, g.id),
                   sections := insertNew r.sections ((id, (chooseSection loc g given).getD .post), g.id),
                   clean := r.clean.filter (· != id),
                   slotClean := r.slotClean.filter (· != (id, (chooseSection loc g given).getD .post)) }) := by
  cases kind with
  | proto =>
    simp only [pushDown, subclassTail, defines, AreaT.kind, AreaT.id, AreaT.core, AreaT.product, beq_self_eq_true,
      Bool.true_and, reduceCtorEq, if_false]
    split <;> rfl
  | _ => rfl

/-- the collection's own entry: gene list, section list, both caches marked dirty -/
theorem own_eff (g : Gene) (s : Section) (a : AreaT) (r : Rec) :
    Eff2 [(g, a, s)] [] r
      { r with members := insertNew r.members (a.id, g.id),
               sections := insertNew r.sections ((a.id, s), g.id),
               clean := r.clean.filter (· != a.id),
               slotClean := r.slotClean.filter (· != (a.id, s)) } := by
  refine { len := rfl, genes := rfl, byName := rfl, byLoc := rfl, cdsCache := rfl, cdsCacheDirty := rfl,
           regions := rfl, protos := rfl, cands := rfl, subs := rfl, slotVal := rfl, tupleVal := rfl, log := rfl,
           members := ?_, sections := ?_, defs := ?_, regionOf := ?_, clean := ?_, slotClean := ?_,
           childrenSame := ?_, sectionSame := ?_ }
  · intro x; simp only [mem_insertNew, List.mem_singleton, exists_eq_left]
  · intro x; simp only [mem_insertNew, List.mem_singleton, exists_eq_left]
  · intro x; simp
  · exact ⟨[], by simp⟩
  · intro aid; simp only [List.mem_filter, bne_iff_ne, ne_eq, List.mem_singleton, forall_eq]
    exact and_congr Iff.rfl (not_congr eq_comm)
  · intro x; simp only [List.mem_filter, bne_iff_ne, ne_eq, List.mem_singleton, forall_eq]
    exact and_congr Iff.rfl (not_congr eq_comm)
  · intro aid h
    exact congrArg (List.map _) (filter_insertNew_ne _ _ _ (beq_false_of_ne (h _ (List.mem_singleton.2 rfl))))
  · intro aid s' h
    exact congrArg (List.map _) (filter_insertNew_ne _ _ _ (beq_false_of_ne (h _ (List.mem_singleton.2 rfl))))

mutual
theorem pushDown_eff (g : Gene) : ∀ (given : Option Section) (a : AreaT) (r : Rec),
    Eff ((downNodes g given a).map fun d => (g, d.1, d.2)) r (pushDown g given a r)
  | given, .mk id kind loc core product kids, r => by
    rw [pushDown_unfold]
    have h1 := own_eff g ((chooseSection loc g given).getD .post) (.mk id kind loc core product kids) r
    have := (Eff2.trans (Eff2.trans h1 (pushKids_eff g (chooseSection loc g given) kids _))
      (subclassTail_eff g ((chooseSection loc g given).getD .post) (.mk id kind loc core product kids) _))
    simp only [AreaT.id, List.append_nil, List.nil_append, List.singleton_append] at this
    simp only [downNodes, List.map_cons]
    exact this.congr (fun _ => Iff.rfl) (fun x => by simp only [List.mem_append, List.mem_cons, List.mem_singleton, List.not_mem_nil, or_false]; exact Or.comm)
theorem pushKids_eff (g : Gene) : ∀ (sec : Option Section) (ks : List AreaT) (r : Rec),
    Eff ((downKids g sec ks).map fun d => (g, d.1, d.2)) r (pushKids g sec ks r)
  | sec, [], r => by simp [downKids, pushKids]; exact Eff.refl r
  | sec, k :: ks, r => by
    simp only [downKids, pushKids, List.map_append]
    by_cases hc : containedBy g.loc k.loc = true
    · simp only [hc, if_true]
      exact (pushDown_eff g sec k r).trans (pushKids_eff g sec ks _)
    · simp only [hc, if_false, Bool.false_eq_true, List.map_nil]
      exact (Eff.refl r).trans (pushKids_eff g sec ks _)
end

/-! ### linking one gene to a list of collections -/

/-- every collection in `areas` that contains the gene, with the children the gene is passed down to -/
def downAll (g : Gene) (areas : List AreaT) : List (AreaT × Section) :=
  areas.flatMap fun a => if containedBy g.loc a.loc then downNodes g none a else []

/-- gene `g` reaches collection `d`, which files it under section `s`: some collection among `areas` contains
    `g` and passes it down to `d` (`d` is that collection itself or a descendant all of whose ancestors below
    it contain `g`) -/
def LinkedS (areas : List AreaT) (g : Gene) (d : AreaT) (s : Section) : Prop :=
  ∃ a ∈ areas, containedBy g.loc a.loc = true ∧ (d, s) ∈ downNodes g none a

def Linked (areas : List AreaT) (g : Gene) (d : AreaT) : Prop := ∃ s, LinkedS areas g d s

theorem LinkedS.mono {l₁ l₂ : List AreaT} (h : ∀ a ∈ l₁, a ∈ l₂) {g : Gene} {d : AreaT} {s : Section}
    (hl : LinkedS l₁ g d s) : LinkedS l₂ g d s := by
  obtain ⟨a, ha, hc, hd⟩ := hl; exact ⟨a, h a ha, hc, hd⟩

theorem Linked.mono {l₁ l₂ : List AreaT} (h : ∀ a ∈ l₁, a ∈ l₂) {g : Gene} {d : AreaT}
    (hl : Linked l₁ g d) : Linked l₂ g d := by
  obtain ⟨s, hs⟩ := hl; exact ⟨s, hs.mono h⟩

theorem LinkedS.congr {l₁ l₂ : List AreaT} (h : ∀ a, a ∈ l₁ ↔ a ∈ l₂) (g : Gene) (d : AreaT) (s : Section) :
    LinkedS l₁ g d s ↔ LinkedS l₂ g d s :=
  ⟨LinkedS.mono fun a => (h a).1, LinkedS.mono fun a => (h a).2⟩

theorem LinkedS.append {l₁ l₂ : List AreaT} {g : Gene} {d : AreaT} {s : Section} :
    LinkedS (l₁ ++ l₂) g d s ↔ LinkedS l₁ g d s ∨ LinkedS l₂ g d s := by
  simp only [LinkedS, List.mem_append, or_and_right, exists_or]

theorem mem_downAll (g : Gene) (areas : List AreaT) (d : AreaT × Section) :
    d ∈ downAll g areas ↔ LinkedS areas g d.1 d.2 := by
  show _ ↔ ∃ a ∈ areas, containedBy g.loc a.loc = true ∧ d ∈ downNodes g none a
  simp only [downAll, List.mem_flatMap]
  constructor
  · rintro ⟨a, ha, hd⟩
    by_cases hc : containedBy g.loc a.loc = true
    · simp only [hc, if_true] at hd; exact ⟨a, ha, hc, hd⟩
    · simp [hc] at hd
  · rintro ⟨a, ha, hc, hd⟩
    exact ⟨a, ha, by simp [hc, hd]⟩

theorem downAll_append (g : Gene) (l₁ l₂ : List AreaT) : downAll g (l₁ ++ l₂) = downAll g l₁ ++ downAll g l₂ := by
  simp [downAll]

/-- the links between the genes `Gs` and the collection trees `As`: what
    `for g in Gs: for a in As: if g.is_contained_by(a): a.add_cds(g)` enters -/
def links (Gs : List Gene) (As : List AreaT) : List (Gene × AreaT × Section) :=
  Gs.flatMap fun g => (downAll g As).map fun d => (g, d.1, d.2)

theorem mem_links {Gs : List Gene} {As : List AreaT} {t : Gene × AreaT × Section} :
    t ∈ links Gs As ↔ t.1 ∈ Gs ∧ LinkedS As t.1 t.2.1 t.2.2 := by
  simp only [links, List.mem_flatMap, List.mem_map, ← mem_downAll]
  constructor
  · rintro ⟨g, hg, d, hd, rfl⟩; exact ⟨hg, hd⟩
  · rintro ⟨hg, hd⟩; exact ⟨t.1, hg, (t.2.1, t.2.2), hd, rfl⟩

theorem links_singleton (g : Gene) (As : List AreaT) : links [g] As = (downAll g As).map fun d => (g, d.1, d.2) :=
  List.flatMap_singleton ..

theorem links_cons (g : Gene) (Gs : List Gene) (As : List AreaT) : links (g :: Gs) As = links [g] As ++ links Gs As := by
  rw [links_singleton]; exact List.flatMap_cons

/-- a fold of steps with known effects has the concatenated effect -/
theorem foldl_eff {α} {f : Rec → α → Rec} {P : α → List (Gene × AreaT × Section)} (h : ∀ r a, Eff (P a) r (f r a)) :
    ∀ (l : List α) (r : Rec), Eff (l.flatMap P) r (l.foldl f r)
  | [], r => Eff.refl r
  | a :: l, r => (h r a).trans (foldl_eff h l (f r a))

theorem linkAll_eff (g : Gene) (areas : List AreaT) (r : Rec) :
    Eff (links [g] areas) r (linkAll g areas r) := by
  rw [links_singleton, downAll, List.map_flatMap]
  refine foldl_eff (fun r a => ?_) areas r
  split
  · exact pushDown_eff g none a r
  · exact Eff.refl r

/-- the collections added to the record, in the order `_link_cds_to_parent` visits them -/
def registered (r : Rec) : List AreaT := r.regions ++ r.protos ++ r.cands ++ r.subs

theorem Eff2.registered {P Q : List (Gene × AreaT × Section)} {r r' : Rec} (h : Eff2 P Q r r') : registered r' = registered r := by
  simp only [Lookup.registered, h.regions, h.protos, h.cands, h.subs]

theorem linkCdsToParent_eff (r : Rec) (g : Gene) :
    Eff (links [g] (registered r)) r (linkCdsToParent r g) := by
  simp only [linkCdsToParent]
  have h1 := linkAll_eff g r.regions r
  generalize linkAll g r.regions r = r1 at h1 ⊢
  have h2 := linkAll_eff g r1.protos r1
  generalize linkAll g r1.protos r1 = r2 at h2 ⊢
  have h3 := linkAll_eff g r2.cands r2
  generalize linkAll g r2.cands r2 = r3 at h3 ⊢
  have h4 := linkAll_eff g r3.subs r3
  have e2 : r1.protos = r.protos := h1.protos
  have e3 : r2.cands = r.cands := by rw [h2.cands, h1.cands]
  have e4 : r3.subs = r.subs := by rw [h3.subs, h2.subs, h1.subs]
  have := ((h1.trans h2).trans h3).trans h4
  rw [e2, e3] at this
  rw [e4] at this ⊢
  simpa [registered, links_singleton, downAll_append] using this

/-- `for cds in found: area.add_cds(cds)` when everything found is contained: never raises -/
theorem addAll_eff (a : AreaT) : ∀ (L : List Gene) (r : Rec), (∀ g ∈ L, containedBy g.loc a.loc = true) →
    ∃ r', L.foldlM (fun r g => areaAddCds r a g) r = .ok r' ∧ Eff (links L [a]) r r'
  | [], r, _ => ⟨r, rfl, Eff.refl r⟩
  | g :: L, r, h => by
    have hc := h g List.mem_cons_self
    obtain ⟨r', h1, h2⟩ := addAll_eff a L (pushDown g none a r) (fun x hx => h x (List.mem_cons_of_mem _ hx))
    refine ⟨r', Base.foldlM_cons_eq_ok.2 ⟨pushDown g none a r, if_pos hc, h1⟩, ?_⟩
    rw [links_cons, links_singleton, downAll, List.flatMap_singleton, if_pos hc]
    exact (pushDown_eff g none a r).trans h2

/-! ### the tree of collections an `add_cds` call walks -/

theorem nodes_self (a : AreaT) : a ∈ nodes a := by
  cases a; simp [nodes]

theorem mem_nodesL {ks : List AreaT} {d : AreaT} : d ∈ nodes.nodesL ks ↔ ∃ k ∈ ks, d ∈ nodes k := by
  induction ks with
  | nil => simp [nodes.nodesL]
  | cons k ks ih => simp [nodes.nodesL, ih]

theorem mem_nodes {a d : AreaT} : d ∈ nodes a ↔ d = a ∨ ∃ k ∈ a.kids, d ∈ nodes k := by
  cases a with
  | mk id kind loc core product kids => simp [nodes, mem_nodesL, AreaT.kids]

theorem nodes_kid {a k : AreaT} (hk : k ∈ a.kids) : ∀ d ∈ nodes k, d ∈ nodes a :=
  fun d hd => mem_nodes.2 (Or.inr ⟨k, hk, hd⟩)

/-- the section the collection itself files the gene under -/
def ownSection (a : AreaT) (g : Gene) (given : Option Section) : Section := (chooseSection a.loc g given).getD .post

theorem mem_downKids {g : Gene} {sec : Option Section} {ks : List AreaT} {d : AreaT × Section} :
    d ∈ downKids g sec ks ↔ ∃ k ∈ ks, containedBy g.loc k.loc = true ∧ d ∈ downNodes g sec k := by
  induction ks with
  | nil => simp [downKids]
  | cons k ks ih =>
    simp only [downKids, List.mem_append, ih, List.mem_cons, exists_eq_or_imp]
    by_cases hc : containedBy g.loc k.loc = true
    · simp [hc]
    · simp [hc]

theorem mem_downNodes {g : Gene} {given : Option Section} {a : AreaT} {d : AreaT × Section} :
    d ∈ downNodes g given a ↔ d = (a, ownSection a g given) ∨
      ∃ k ∈ a.kids, containedBy g.loc k.loc = true ∧ d ∈ downNodes g (chooseSection a.loc g given) k := by
  cases a with
  | mk id kind loc core product kids => simp [downNodes, mem_downKids, AreaT.kids, ownSection, AreaT.loc]

theorem downNodes_self (g : Gene) (given : Option Section) (a : AreaT) : (a, ownSection a g given) ∈ downNodes g given a :=
  mem_downNodes.2 (Or.inl rfl)

def AreaT.size : AreaT → Nat
  | .mk _ _ _ _ _ kids => 1 + sizeL kids
where sizeL : List AreaT → Nat
  | [] => 0
  | k :: ks => k.size + sizeL ks

theorem size_kid {a k : AreaT} (hk : k ∈ a.kids) : k.size < a.size := by
  cases a with
  | mk id kind loc core product kids =>
    simp only [AreaT.kids] at hk
    simp only [AreaT.size]
    induction kids with
    | nil => simp at hk
    | cons k' ks ih =>
      simp only [AreaT.size.sizeL]
      rcases List.mem_cons.1 hk with rfl | hk'
      · omega
      · have := ih hk'; omega

/-- induction over a collection tree: a node follows from its children -/
theorem AreaT.induction {motive : AreaT → Prop} (step : ∀ a, (∀ k ∈ a.kids, motive k) → motive a) (a : AreaT) :
    motive a := by
  have : ∀ n (a : AreaT), a.size ≤ n → motive a := by
    intro n
    induction n with
    | zero => intro a hn; cases a; simp [AreaT.size] at hn
    | succ n ih => intro a hn; exact step a fun k hk => ih k (by have := size_kid hk; omega)
  exact this a.size a (Nat.le_refl _)

theorem size_node {a d : AreaT} (hd : d ∈ nodes a) : d.size ≤ a.size := by
  induction a using AreaT.induction with
  | step a ih =>
    rcases mem_nodes.1 hd with rfl | ⟨k, hk, hdk⟩
    · exact Nat.le_refl _
    · have := size_kid hk
      have := ih k hk hdk
      omega

/-- everything `add_cds` reaches contains the gene, and is a node of the collection's tree -/
theorem downNodes_sound {g : Gene} {given : Option Section} {a : AreaT} {d : AreaT × Section}
    (hc : containedBy g.loc a.loc = true) (hd : d ∈ downNodes g given a) :
    containedBy g.loc d.1.loc = true ∧ d.1 ∈ nodes a := by
  induction a using AreaT.induction generalizing given with
  | step a ih =>
    rcases mem_downNodes.1 hd with rfl | ⟨k, hk, hck, hdk⟩
    · exact ⟨hc, nodes_self _⟩
    · obtain ⟨h1, h2⟩ := ih k hk hck hdk
      exact ⟨h1, nodes_kid hk d.1 h2⟩

theorem containedBy_trans {g k a : Loc} (h1 : containedBy g k = true) (h2 : containedBy k a = true) :
    containedBy g a = true := by
  simp only [containedBy, locationContainsOther, List.all_eq_true, List.any_eq_true, partContains,
    Bool.and_eq_true, decide_eq_true_eq] at *
  intro gp hgp
  obtain ⟨kp, hkp, hk⟩ := h1 gp hgp
  obtain ⟨ap, hap, ha⟩ := h2 kp hkp
  exact ⟨ap, hap, by omega⟩

/-- every child collection lies inside its parent (what the `parent` setter asserts) -/
def KidsInside (a : AreaT) : Prop := ∀ n ∈ nodes a, ∀ k ∈ n.kids, containedBy k.loc n.loc = true

theorem KidsInside.kid {a k : AreaT} (h : KidsInside a) (hk : k ∈ a.kids) : KidsInside k :=
  fun n hn k' hk' => h n (nodes_kid hk n hn) k' hk'

/-- … then a gene inside a node is inside all its ancestors and is passed down to it -/
theorem downNodes_complete {g : Gene} {given : Option Section} {a d : AreaT} (hin : KidsInside a)
    (hd : d ∈ nodes a) (hc : containedBy g.loc d.loc = true) :
    containedBy g.loc a.loc = true ∧ ∃ s, (d, s) ∈ downNodes g given a := by
  induction a using AreaT.induction generalizing given with
  | step a ih =>
    rcases mem_nodes.1 hd with rfl | ⟨k, hk, hdk⟩
    · exact ⟨hc, _, downNodes_self g given _⟩
    · obtain ⟨h1, s, h2⟩ := ih k hk (given := chooseSection a.loc g given) (hin.kid hk) hdk
      have hka : containedBy k.loc a.loc = true := hin a (nodes_self a) k hk
      exact ⟨containedBy_trans h1 hka, s, mem_downNodes.2 (Or.inr ⟨k, hk, h1, h2⟩)⟩

/-- whatever `add_cds` reaches is the collection itself or a child of one of its nodes -/
theorem down_root_or_kid {g : Gene} {given : Option Section} {b : AreaT} {d : AreaT × Section}
    (hd : d ∈ downNodes g given b) : d.1 = b ∨ ∃ m ∈ nodes b, d.1 ∈ m.kids := by
  induction b using AreaT.induction generalizing given with
  | step b ih =>
    rcases mem_downNodes.1 hd with rfl | ⟨k, hk, _, hdk⟩
    · exact Or.inl rfl
    · right
      rcases ih k hk hdk with e | ⟨m, hm, hkm⟩
      · exact ⟨b, nodes_self b, by rw [e]; exact hk⟩
      · exact ⟨m, nodes_kid hk m hm, hkm⟩

/-- the root of a tree is reached only as the root -/
theorem down_root_section {g : Gene} {a : AreaT} {s : Section} (h : (a, s) ∈ downNodes g none a) : s = ownSection a g none := by
  rcases mem_downNodes.1 h with e | ⟨k, hk, hc, hd⟩
  · injection e
  · exfalso
    have h1 : a.size ≤ k.size := size_node (downNodes_sound hc hd).2
    have h2 := size_kid hk
    omega

/-! ### the section a gene is filed under -/

/-- a section handed down (or none yet) that is `cross` exactly for genes crossing the origin -/
def GivenOK (g : Gene) (given : Option Section) : Prop :=
  ∀ s0, given = some s0 → (s0 = .cross ↔ crosses g.loc = true)

theorem chooseSection_none_cases (loc : Loc) (g : Gene) :
    (crosses g.loc = true → chooseSection loc g none = some .cross) ∧
    (crosses g.loc = false → chooseSection loc g none = none ∨ chooseSection loc g none = some .post
      ∨ chooseSection loc g none = some .pre) := by
  constructor
  · intro hx; simp [chooseSection, hx]
  · intro hx
    simp only [chooseSection, hx, Bool.or_false, Bool.false_eq_true, if_false]
    by_cases h1 : decide (loc.parts.length > 1) = true
    · simp only [h1, if_true, Bool.true_and]
      generalize (match loc.parts with | _ :: p1 :: _ => containedBy g.loc (.simple p1) | _ => false) = b
      cases b <;> simp
    · simp [h1]

theorem chooseSection_ok (loc : Loc) (g : Gene) (given : Option Section) (h : GivenOK g given) :
    GivenOK g (chooseSection loc g given) ∧ ((chooseSection loc g given).getD .post = .cross ↔ crosses g.loc = true) := by
  cases given with
  | some s0 => simp only [chooseSection, Option.getD_some]; exact ⟨h, h s0 rfl⟩
  | none =>
    obtain ⟨c1, c2⟩ := chooseSection_none_cases loc g
    cases hx : crosses g.loc
    · rcases c2 hx with e | e | e <;> rw [e] <;> refine ⟨fun s0 e' => ?_, by simp⟩
      · cases e'
      · injection e' with e'; subst e'; simp [hx]
      · injection e' with e'; subst e'; simp [hx]
    · rw [c1 hx]
      exact ⟨fun s0 e' => by injection e' with e'; subst e'; simp [hx], by simp⟩

/-- wherever `add_cds` takes a gene, it is filed under `cross` exactly when it crosses the origin -/
theorem downNodes_cross {g : Gene} {given : Option Section} {a : AreaT} {d : AreaT × Section}
    (hg : GivenOK g given) (hd : d ∈ downNodes g given a) : d.2 = .cross ↔ crosses g.loc = true := by
  induction a using AreaT.induction generalizing given with
  | step a ih =>
    obtain ⟨h1, h2⟩ := chooseSection_ok a.loc g given hg
    rcases mem_downNodes.1 hd with rfl | ⟨k, hk, _, hdk⟩
    · exact h2
    · exact ih k hk h1 hdk

theorem ownSection_eq_spec (a : AreaT) (g : Gene) (hg : LocOK g.loc) : ownSection a g none = specSection a.loc g.loc := by
  have hle := LocOK.parts_le hg
  simp only [ownSection, chooseSection, specSection]
  by_cases hx : crosses g.loc = true
  · simp [hx]
  · have hx' : crosses g.loc = false := by simpa using hx
    simp only [hx', Bool.or_false, Bool.false_eq_true, if_false]
    rcases hp : a.loc.parts with _ | ⟨p0, _ | ⟨p1, rest⟩⟩
    · simp
    · simp
    · simp only [List.length_cons]
      have : decide (rest.length + 1 + 1 > 1) = true := by simp
      simp only [this, if_true, Bool.true_and, containedBy_eq_spec hle]
      cases specContained g.loc (.simple p1) <;> simp

end ASV.Lookup
