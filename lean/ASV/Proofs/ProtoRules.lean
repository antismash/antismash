/-
  C03 helper lemmas: the per-cutoff cache, successful `mapM` runs, the anchoring-gene sets, the `Protocluster`
  constructor and the protoclusters of a rule from its cores, the redundancy test.
-/
import ASV.Proofs.ChainLinked
import ASV.Proofs.Rules
namespace ASV.Proto
open ASV ASV.Rules ASV.Chains ASV.ChainSweep

/-- equality of `Except` values is decidable: what `decide` needs for the `… = .ok …` examples of Props/C03 -/
instance instDecEqExcept {ε α : Type} [DecidableEq ε] [DecidableEq α] : DecidableEq (Except ε α) := fun a b =>
  match a, b with
  | .ok x, .ok y => if h : x = y then isTrue (by rw [h]) else isFalse (by intro e; cases e; exact h rfl)
  | .error x, .error y => if h : x = y then isTrue (by rw [h]) else isFalse (by intro e; cases e; exact h rfl)
  | .ok _, .error _ => isFalse (by intro e; cases e)
  | .error _, .ok _ => isFalse (by intro e; cases e)

/-- every cached entry is what a recomputation would give -/
def CacheOK (within : Lookup) (r : Rec) (g : GeneInfo) (cache : List (Int × NearInfo)) : Prop :=
  ∀ c ni, cache.lookup c = some ni → nearInfo within r g c = .ok ni

theorem evalRulesCached_eq (within : Lookup) (r : Rec) (g : GeneInfo) :
    ∀ (rules : List RuleM) (cache : List (Int × NearInfo)), CacheOK within r g cache →
      evalRulesCached within r g cache rules = evalRulesDirect within r g rules := by
  intro rules
  induction rules with
  | nil => intro cache _; rfl
  | cons rule rest ih =>
    intro cache hok
    simp only [evalRulesCached, evalRulesDirect, List.mapM_cons, bind, Except.bind, pure, Except.pure]
    cases hl : cache.lookup rule.cutoff with
    | some ni =>
      simp only [hok _ _ hl]
      have := ih cache hok
      simp only [evalRulesDirect] at this
      rw [this]
      rfl
    | none =>
      cases hn : nearInfo within r g rule.cutoff with
      | error e => rfl
      | ok ni =>
        simp only
        have hok' : CacheOK within r g ((rule.cutoff, ni) :: cache) := by
          intro c ni' hc
          simp only [List.lookup_cons] at hc
          split at hc
          · next heq =>
            have : c = rule.cutoff := by simpa using heq
            subst this
            cases hc; exact hn
          · exact hok c ni' hc
        have := ih _ hok'
        simp only [evalRulesDirect] at this
        rw [this]
        rfl

/-! ### successful runs in `Except`: a `mapM` that succeeds relates input and output element by element -/

theorem bind_ok {α β : Type} {x : E α} {f : α → E β} {b : β} (h : (x >>= f) = .ok b) :
    ∃ a, x = .ok a ∧ f a = .ok b := by
  cases x with
  | error e => simp [bind, Except.bind] at h
  | ok a => exact ⟨a, rfl, h⟩

/-- what a successful `filterE` returned: a sublist of the input on which the test said `true` -/
theorem filterE_ok {α : Type} (p : α → E Bool) : ∀ (l out : List α), filterE p l = .ok out →
    out.Sublist l ∧ ∀ x ∈ out, p x = .ok true := by
  intro l
  induction l with
  | nil =>
    intro out h
    cases h
    exact ⟨List.Sublist.slnil, fun x hx => nomatch hx⟩
  | cons a l ih =>
    intro out h
    rw [filterE] at h
    obtain ⟨b, hp, h⟩ := bind_ok h
    obtain ⟨rest, hrest, h⟩ := bind_ok h
    cases h
    obtain ⟨hsub, htrue⟩ := ih rest hrest
    cases b with
    | false => exact ⟨hsub.cons a, htrue⟩
    | true =>
      refine ⟨hsub.cons_cons a, fun x hx => ?_⟩
      rcases List.mem_cons.1 hx with rfl | hx
      · exact hp
      · exact htrue x hx

theorem filterE_ok_sub {α : Type} (p : α → E Bool) : ∀ (l out : List α), filterE p l = .ok out → ∀ x ∈ out, x ∈ l := by
  intro l out h x hx
  exact (filterE_ok p l out h).1.subset hx

theorem mapM_ok_paired {α β : Type} (f : α → E β) : ∀ (l : List α) (out : List β), l.mapM f = .ok out →
    Paired (fun a b => f a = .ok b) l out := by
  intro l
  induction l with
  | nil =>
    intro out h
    cases h
    exact .nil
  | cons a l ih =>
    intro out h
    rw [List.mapM_cons] at h
    obtain ⟨b, hb, h⟩ := bind_ok h
    obtain ⟨bs, hbs, h⟩ := bind_ok h
    cases h
    exact .cons hb (ih bs hbs)

theorem mapM_ok_map_of_forall {α β : Type} (f : α → E β) (g : α → β) : ∀ (l : List α), (∀ a ∈ l, f a = .ok (g a)) →
    l.mapM f = .ok (l.map g) := by
  intro l
  induction l with
  | nil => intro _; rfl
  | cons a l ih =>
    intro h
    simp only [List.mapM_cons, h a (by simp), ih (fun x hx => h x (by simp [hx])), bind, Except.bind, pure,
      Except.pure, List.map_cons]

theorem mapM_ok_mem {α β : Type} (f : α → E β) : ∀ (l : List α) (out : List β), l.mapM f = .ok out →
    ∀ y ∈ out, ∃ a ∈ l, f a = .ok y :=
  fun l out h => (mapM_ok_paired f l out h).exists_left

theorem mapM_ok_mem' {α β : Type} (f : α → E β) : ∀ (l : List α) (out : List β), l.mapM f = .ok out →
    ∀ a ∈ l, ∃ y ∈ out, f a = .ok y :=
  fun l out h => (mapM_ok_paired f l out h).exists_right

theorem mem_hitsFor (res : RuleResults) (name : String) (g : Gene) :
    g ∈ hitsFor res name ↔
      ∃ x ∈ res, ∃ y ∈ x.2, y.1.name = name ∧ Met.fires y.2 = true ∧
        (g = x.1.id ∨ g ∈ y.2.ancillary.map (·.1)) := by
  simp only [hitsFor, List.mem_flatMap]
  constructor
  · rintro ⟨x, hx, y, hy, hg⟩
    refine ⟨x, hx, y, hy, ?_⟩
    split at hg
    · next hc =>
      simp only [Bool.and_eq_true, beq_iff_eq] at hc
      simp only [List.mem_cons] at hg
      exact ⟨hc.1, hc.2, hg⟩
    · cases hg
  · rintro ⟨x, hx, y, hy, hn, hf, hg⟩
    refine ⟨x, hx, y, hy, ?_⟩
    have hc : (y.1.name == name && Met.fires y.2) = true := by simp [hn, hf]
    simp only [hc, if_true, List.mem_cons]
    exact hg

theorem evalRulesDirect_mem (within : Lookup) (r : Rec) (g : GeneInfo) (rules : List RuleM)
    (out : List (RuleM × Met)) (h : evalRulesDirect within r g rules = .ok out) :
    (∀ y ∈ out, ∃ rule ∈ rules, ∃ ni, nearInfo within r g rule.cutoff = .ok ni ∧
        y = (rule, detect (envOf ni rule.cutoff) g.id rule.cond)) ∧
    (∀ rule ∈ rules, ∀ ni, nearInfo within r g rule.cutoff = .ok ni →
        (rule, detect (envOf ni rule.cutoff) g.id rule.cond) ∈ out) := by
  constructor
  · intro y hy
    obtain ⟨rule, hr, hf⟩ := mapM_ok_mem _ rules out h y hy
    refine ⟨rule, hr, ?_⟩
    simp only [bind, Except.bind, pure, Except.pure] at hf
    cases hn : nearInfo within r g rule.cutoff with
    | error e => simp [hn] at hf
    | ok ni =>
      simp only [hn, Except.ok.injEq] at hf
      exact ⟨ni, rfl, hf.symm⟩
  · intro rule hr ni hn
    obtain ⟨y, hy, hf⟩ := mapM_ok_mem' _ rules out h rule hr
    simp only [bind, Except.bind, pure, Except.pure, hn, Except.ok.injEq] at hf
    rw [hf]; exact hy

theorem ruleResults_mem (within : Lookup) (r : Rec) (rules : List RuleM) (res : RuleResults)
    (h : ruleResults within r rules = .ok res) :
    (∀ x ∈ res, x.1 ∈ r.genes ∧ x.1.hasRes = true ∧ evalRulesDirect within r x.1 rules = .ok x.2) ∧
    (∀ g ∈ r.genes, g.hasRes = true → ∃ x ∈ res, x.1 = g) := by
  have hcache : ∀ g, CacheOK within r g [] := by intro g c ni hc; simp [List.lookup] at hc
  constructor
  · intro x hx
    obtain ⟨g, hg, hf⟩ := mapM_ok_mem _ _ res h x hx
    simp only [List.mem_filter] at hg
    simp only [bind, Except.bind, pure, Except.pure, evalRulesCached_eq within r g rules [] (hcache g)] at hf
    cases he : evalRulesDirect within r g rules with
    | error e => simp [he] at hf
    | ok out =>
      simp only [he, Except.ok.injEq] at hf
      subst hf
      exact ⟨hg.1, hg.2, he⟩
  · intro g hg hres
    obtain ⟨y, hy, hf⟩ := mapM_ok_mem' _ _ res h g (by simp [List.mem_filter, hg, hres])
    simp only [bind, Except.bind, pure, Except.pure] at hf
    cases he : evalRulesCached within r g [] rules with
    | error e => simp [he] at hf
    | ok out =>
      simp only [he, Except.ok.injEq] at hf
      exact ⟨y, hy, by rw [← hf]⟩

/-- the environment handed to `detect` satisfies what C01 assumes of it -/
theorem envOf_wf (ni : NearInfo) (c : Int) (hres : ∀ x ∈ ni.nearby, x.hits ≠ [] → x.hasRes = true) :
    (envOf ni c).WF := by
  constructor
  · intro h hh
    simp only [envOf, Env.ofLocs, List.mem_map, List.mem_filter] at hh ⊢
    obtain ⟨x, ⟨hx, _⟩, e⟩ := hh
    exact ⟨x, hx, e⟩
  · intro h _ hne
    simp only [envOf, Env.ofLocs] at hne ⊢
    cases hf : ni.nearby.find? (·.id == h) with
    | none => simp [hf] at hne
    | some x =>
      simp only [hf] at hne
      have hx : x ∈ ni.nearby := List.mem_of_find?_eq_some hf
      have hid : (x.id == h) = true := by
        have := List.find?_some hf
        simpa using this
      simp only [List.mem_map, List.mem_filter]
      exact ⟨x, ⟨hx, hres x hx hne⟩, by simpa using hid⟩

/-! ### the `Protocluster` constructor; the protoclusters of one rule from its cores -/

theorem mkPC_simple (rule : String) (p q : Part) (h1 : 0 ≤ q.lo) (h2 : q.lo ≤ q.hi) :
    mkPC rule (.simple p) (.simple q) = .ok ⟨rule, .simple p, .simple q⟩ := by
  have h3 : ¬ q.lo > q.hi := by omega
  have h4 : ¬ q.lo < 0 := by omega
  simp [mkPC, bridgesOrigin, Loc.parts, Loc.start, Loc.end, h3, h4, pure, Except.pure]

/-- on a linear record the neighbourhood of a single-part core is computed and accepted -/
theorem protocluster_line (r : Rec) (hlin : r.circular = false) (rule : String) (p : Part) (n : Int)
    (h0 : 0 ≤ p.lo) (h1 : p.lo < p.hi) (h2 : p.hi ≤ r.len) (hn : 0 ≤ n) :
    extendArea r (.simple p) n true = .ok (.simple ⟨max 0 (p.lo - n), min (p.hi + n) r.len, .fwd⟩) ∧
    mkPC rule (.simple p) (.simple ⟨max 0 (p.lo - n), min (p.hi + n) r.len, .fwd⟩) =
      .ok ⟨rule, .simple p, .simple ⟨max 0 (p.lo - n), min (p.hi + n) r.len, .fwd⟩⟩ :=
  ⟨extendArea_line r hlin p n true, mkPC_simple _ _ _ (by simp only; omega) (by simp only; omega)⟩

/-! ### the constructor checks only ever refuse

  `mkPC` is a run of `if … then throw …` statements in front of `pure ⟨rule, core, surrounds⟩`; `do` turns
  each statement into `if c then throw e >>= k else k ()` with the rest of the block as the continuation
  `k`.  Unfolding all continuations at once doubles the term at every statement, so the statements are
  peeled off one at a time. -/

theorem only_throw {β : Type} {v : β} (e : String) (k : PUnit → E β) :
    ∀ x, ((throw e : E PUnit) >>= k) = .ok x → x = v :=
  fun _ h => nomatch h

theorem only_guard {β : Type} {v : β} (c : Prop) {_ : Decidable c} (e : String) (k : PUnit → E β)
    (hk : ∀ x, k () = .ok x → x = v) :
    ∀ x, (if c then (throw e : E PUnit) >>= k else k ()) = .ok x → x = v := by
  intro x h
  split at h
  · cases h
  · exact hk x h

/-- a conditional block `a` that ends in the same continuation as the `else` branch -/
theorem only_block {β : Type} {v : β} (c : Prop) {_ : Decidable c} (a b : E β)
    (hb : ∀ x, b = .ok x → x = v) (ha : (∀ x, b = .ok x → x = v) → ∀ x, a = .ok x → x = v) :
    ∀ x, (if c then a else b) = .ok x → x = v := by
  intro x h
  split at h
  · exact ha hb x h
  · exact hb x h

theorem mkPC_ok {rule : String} {core s : Loc} {pc : PC} (h : mkPC rule core s = .ok pc) : pc = ⟨rule, core, s⟩ := by
  suffices ∀ x, mkPC rule core s = .ok x → x = ⟨rule, core, s⟩ from this pc h
  unfold mkPC
  refine only_guard _ _ _ ?_
  refine only_guard _ _ _ ?_
  refine only_block _ _ _ ?_ ?_
  · cases s.parts with
    | nil => exact only_throw _ _
    | cons p ps =>
      refine only_guard _ _ _ ?_
      refine only_guard _ _ _ ?_
      refine only_guard _ _ _ ?_
      refine only_guard _ _ _ ?_
      refine only_guard _ _ _ ?_
      intro x h
      cases h
      rfl
  · intro hk
    refine only_guard _ _ _ ?_
    split
    · exact only_guard _ _ _ hk
    · exact hk

theorem _root_.ASV.Chains.Paired.with_mem_right {α β : Type} {R : α → β → Prop} :
    ∀ {l1 : List α} {l2 : List β}, Paired R l1 l2 → Paired (fun a b => R a b ∧ b ∈ l2) l1 l2
  | _, _, .nil => .nil
  | _, _, .cons hab t =>
    .cons ⟨hab, by simp⟩ ((ASV.Chains.Paired.with_mem_right t).imp (fun _ _ h => ⟨h.1, by simp [h.2]⟩))

theorem mapM_paired {α β γ : Type} (f : α → E β) {R : α → γ → Prop} {S : β → γ → Prop}
    (h : ∀ a c, R a c → ∃ b, f a = .ok b ∧ S b c) :
    ∀ {l1 : List α} {l2 : List γ}, Paired R l1 l2 → ∃ out, l1.mapM f = .ok out ∧ Paired S out l2
  | _, _, .nil => ⟨[], rfl, .nil⟩
  | _, _, .cons hab t => by
    obtain ⟨b, hb, hs⟩ := h _ _ hab
    obtain ⟨out, ho, hp⟩ := mapM_paired f h t
    exact ⟨b :: out, by simp only [List.mapM_cons, hb, ho, pure, Except.pure, bind, Except.bind], .cons hs hp⟩

theorem forall_anchor_locs {P : Loc → Prop} (r : Rec) (anchors : List Gene)
    (h : ∀ g ∈ r.genes, anchors.contains g.id = true → P g.loc) :
    ∀ l ∈ (r.genes.filter fun g => anchors.contains g.id).map (·.loc), P l := by
  intro l hl
  obtain ⟨g, hg, rfl⟩ := List.mem_map.1 hl
  exact h g (List.mem_filter.1 hg).1 (List.mem_filter.1 hg).2

/-- the protoclusters of a rule from its cores: whatever pairs the cores with `groups` carries over, once
    each core's neighbourhood is computed and accepted by the `Protocluster` constructor -/
theorem clustersOfRule_paired (r : Rec) (rule : RuleM) (anchors : List Gene) {γ : Type} {groups : List γ}
    {cores : List Loc}
    (hfind : findCores r rule.cutoff ((r.genes.filter fun g => anchors.contains g.id).map (·.loc)) = .ok cores)
    {R : Loc → γ → Prop} {S : PC → γ → Prop} (hpaired : Paired R cores groups)
    (h : ∀ core g, R core g → g ∈ groups → ∃ W, extendArea r core rule.nbhd true = .ok W ∧
      mkPC rule.name core W = .ok ⟨rule.name, core, W⟩ ∧ S ⟨rule.name, core, W⟩ g) :
    ∃ pcs, clustersOfRule r rule anchors = .ok pcs ∧ Paired S pcs groups := by
  obtain ⟨pcs, hpcs, hp2⟩ := mapM_paired
    (fun core => do
      let surrounds ← extendArea r core rule.nbhd true
      mkPC rule.name core surrounds) (S := S)
    (by
      rintro core g ⟨hR, hg⟩
      obtain ⟨W, hW, hm, hs⟩ := h core g hR hg
      exact ⟨_, by simp only [hW, bind, Except.bind]; exact hm, hs⟩)
    hpaired.with_mem_right
  refine ⟨pcs, ?_, hp2⟩
  simp only [clustersOfRule, hfind, bind, Except.bind]
  exact hpcs

/-- what a successful `clustersOfRule` returned: one protocluster per core, in order -/
theorem clustersOfRule_ok (r : Rec) (rule : RuleM) (anchors : List Gene) (pcs : List PC)
    (h : clustersOfRule r rule anchors = .ok pcs) :
    ∃ cores, findCores r rule.cutoff ((r.genes.filter fun g => anchors.contains g.id).map (·.loc)) = .ok cores ∧
      Paired (fun core pc => ∃ s, extendArea r core rule.nbhd true = .ok s ∧ pc = ⟨rule.name, core, s⟩) cores pcs := by
  obtain ⟨cores, hc, h⟩ := bind_ok h
  refine ⟨cores, hc, (mapM_ok_paired _ cores pcs h).imp ?_⟩
  intro core pc hf
  obtain ⟨s, hs, hm⟩ := bind_ok hf
  exact ⟨s, hs, mkPC_ok hm⟩

theorem findRule_name {rules : List RuleM} {name : String} {rule : RuleM} (h : findRule rules name = .ok rule) :
    rule.name = name := by
  simp only [findRule] at h
  cases hf : rules.find? (·.name == name) with
  | none => simp [hf] at h
  | some x =>
    simp only [hf, pure, Except.pure, Except.ok.injEq] at h
    subst h
    simpa using List.find?_some hf

/-- the cores of the protoclusters `clustersOfRule` returns are the cores `findCores` returns, in order -/
theorem clustersOfRule_cores (r : Rec) (rule : RuleM) (anchors : List Gene) (pcs : List PC)
    (h : clustersOfRule r rule anchors = .ok pcs) :
    findCores r rule.cutoff ((r.genes.filter fun g => anchors.contains g.id).map (·.loc)) = .ok (pcs.map (·.core)) := by
  obtain ⟨cores, hc, hp⟩ := clustersOfRule_ok r rule anchors pcs h
  rw [hc, ← List.map_id cores, hp.map_eq (f := id) (g := (·.core)) (by rintro core pc ⟨s, _, rfl⟩; rfl)]

/-- the stages of a successful run of `detect_protoclusters_and_signatures` on a record with genes -/
theorem detectStages_ok (within : Lookup) (r : Rec) (rules : List RuleM) (s : Stages)
    (hne : r.genes.isEmpty = false) (h : detectStages within r rules = .ok s) :
    ∃ (res : RuleResults) (found0 : List (List PC)) (found ext0 : List PC) (d : Doms) (ext kept : List PC),
      ((rules.map fun rule => (rule.name, dedupIds (hitsFor res rule.name))).filter fun x => !x.2.isEmpty).mapM
        (fun x => do
          let rule ← findRule rules x.1
          clustersOfRule r rule x.2) = .ok found0 ∧
      mergeOverOrigin r rules found0.flatten = .ok found ∧
      applyExtenders within r rules found = .ok (ext0, d) ∧
      mergeOverOrigin r rules ext0 = .ok ext ∧
      removeRedundant within rules ext = .ok kept ∧
      s.final.map (·.pc) = kept := by
  unfold detectStages at h
  simp only [hne, Bool.false_eq_true, if_false] at h
  split at h
  all_goals
    obtain ⟨res, _, h⟩ := bind_ok h
    obtain ⟨found0, hf0, h⟩ := bind_ok h
    obtain ⟨found, hf, h⟩ := bind_ok h
    obtain ⟨⟨ext0, d⟩, hext, h⟩ := bind_ok h
    obtain ⟨ext, hm, h⟩ := bind_ok h
    obtain ⟨kept, hk, h⟩ := bind_ok h
    simp only [pure, Except.pure, Except.ok.injEq] at h
    subst h
    exact ⟨res, found0, found, ext0, d, ext, kept, hf0, hf, hext, hm, hk, by simp [List.map_map, Function.comp_def]⟩

/-- what makes `other` (a cluster of a superior rule) remove `pc`: its core contains `pc`'s core, or
    neither does its last core gene sort before `pc`'s first one nor `pc`'s last before its first -/
def Removes (within : Lookup) (pc : PC) (first last : Loc) (other : PC) : Prop :=
  locationContainsOther other.core pc.core = true ∨
    ∃ otherFirst otherLast, firstLast within other = .ok (otherFirst, otherLast) ∧
      featureLt otherLast first = .ok false ∧ featureLt last otherFirst = .ok false

theorem redundantInner_spec (within : Lookup) (pc : PC) (first last : Loc) :
    ∀ (others : List PC) (red b : Bool), redundantInner within pc first last red others = .ok b →
      (b = true ↔ red = true ∨ ∃ o ∈ others, Removes within pc first last o) := by
  intro others
  induction others with
  | nil =>
    intro red b h
    simp only [redundantInner, pure, Except.pure, Except.ok.injEq] at h
    subst h; simp
  | cons other rest ih =>
    intro red b h
    simp only [redundantInner] at h
    by_cases hc : locationContainsOther other.core pc.core = true
    · simp only [hc, if_true] at h
      have := ih true b h
      simp only [true_or, iff_true] at this
      subst this
      simp only [true_iff]
      exact Or.inr ⟨other, by simp, Or.inl hc⟩
    · simp only [hc, Bool.false_eq_true, if_false] at h
      obtain ⟨⟨otherFirst, otherLast⟩, hfl, h⟩ := bind_ok h
      obtain ⟨x1, h1, h⟩ := bind_ok h
      -- a cluster that does not remove `pc` changes nothing
      have skip : ¬ Removes within pc first last other → redundantInner within pc first last red rest = .ok b →
          (b = true ↔ red = true ∨ ∃ o ∈ other :: rest, Removes within pc first last o) := by
        intro hnot hrest
        rw [ih red b hrest]
        constructor
        · rintro (hr | ⟨o, ho, hrem⟩)
          · exact Or.inl hr
          · exact Or.inr ⟨o, List.mem_cons_of_mem _ ho, hrem⟩
        · rintro (hr | ⟨o, ho, hrem⟩)
          · exact Or.inl hr
          · rcases List.mem_cons.1 ho with rfl | ho
            · exact absurd hrem hnot
            · exact Or.inr ⟨o, ho, hrem⟩
      cases x1 with
      | true =>
        refine skip ?_ h
        rintro (hcon | ⟨f, l, hfl', ha, _⟩)
        · exact hc hcon
        · rw [hfl] at hfl'; cases hfl'; rw [h1] at ha; cases ha
      | false =>
        simp only [Bool.false_eq_true, if_false] at h
        obtain ⟨x2, h2, h⟩ := bind_ok h
        cases x2 with
        | true =>
          refine skip ?_ h
          rintro (hcon | ⟨f, l, hfl', _, hb⟩)
          · exact hc hcon
          · rw [hfl] at hfl'; cases hfl'; rw [h2] at hb; cases hb
        | false =>
          cases h
          simp only [true_iff]
          exact Or.inr ⟨other, List.mem_cons_self, Or.inr ⟨otherFirst, otherLast, hfl, h1, h2⟩⟩

theorem redundantOuter_spec (within : Lookup) (clusters : List PC) (pc : PC) (first last : Loc) :
    ∀ (sups : List String) (b : Bool), redundantOuter within clusters pc first last sups = .ok b →
      (b = true ↔ ∃ s ∈ sups, ∃ o ∈ clusters, o.rule = s ∧ Removes within pc first last o) := by
  intro sups
  induction sups with
  | nil =>
    intro b h
    simp only [redundantOuter, pure, Except.pure, Except.ok.injEq] at h
    subst h; simp
  | cons s more ih =>
    intro b h
    simp only [redundantOuter, bind, Except.bind] at h
    cases hi : redundantInner within pc first last false (clusters.filter (·.rule == s)) with
    | error e => simp [hi] at h
    | ok x =>
      have hx := redundantInner_spec within pc first last _ false x hi
      simp only [Bool.false_eq_true, false_or, List.mem_filter, beq_iff_eq] at hx
      simp only [hi] at h
      cases x with
      | true =>
        simp only [if_true, pure, Except.pure, Except.ok.injEq] at h
        subst h
        obtain ⟨o, ⟨ho, hs⟩, hrem⟩ := hx.1 rfl
        simp only [true_iff]
        exact ⟨s, by simp, o, ho, hs, hrem⟩
      | false =>
        simp only [Bool.false_eq_true, if_false] at h
        rw [ih b h]
        constructor
        · rintro ⟨s', hs', o, ho, hos, hrem⟩
          exact ⟨s', by simp [hs'], o, ho, hos, hrem⟩
        · rintro ⟨s', hs', o, ho, hos, hrem⟩
          simp only [List.mem_cons] at hs'
          rcases hs' with rfl | hs'
          · have : false = true := hx.2 ⟨o, ⟨ho, hos⟩, hrem⟩
            cases this
          · exact ⟨s', hs', o, ho, hos, hrem⟩

end ASV.Proto
