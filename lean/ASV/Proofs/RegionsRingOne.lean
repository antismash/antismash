/-
  C06: circular records with origin-spanning areas — every section of the sweep (and of the
  first/last merge) is a family of linked areas whose location is exactly their union, so a region lists areas of one
  connected component only.  Uses C04 `connect_ring_closed`, `connR_covers`, `connR_shortest` and `connR_ringArea`.
-/
import ASV.Proofs.RegionsRingShort
import ASV.Proofs.LocConnectRingPerm
namespace ASV.Regions
open ASV ASV.Components

/-- connecting well-formed spans of a ring whose union is a well-formed span shorter than half the record gives
    exactly that union (as a set of bases), again as a well-formed span -/
theorem connect_ring_exact {L : Int} (hL : 0 < L) (ls : List Loc) (hne : ls ≠ []) (h : ∀ l ∈ ls, RingArea L l)
    (c : Loc) (hwf : areaWF L L c = true) (hlen : 2 * c.len < L)
    (hc : ∀ i, c.mem i = true ↔ ∃ l ∈ ls, l.mem i = true) :
    ∃ r, connect ls (some L) = .ok r ∧ RingArea L r ∧ ∀ i, r.mem i = true ↔ ∃ l ∈ ls, l.mem i = true := by
  have hin : ∀ l ∈ ls, RingIn L l := fun l hl => (h l hl).ringIn
  have hok := toR_ok L hL ls hin
  have hne' : ls.map toR ≠ [] := by simpa using hne
  refine ⟨_, connect_ring_closed ls L hne hL hin, ?_, ?_⟩
  · exact connR_ringArea hL hne' hok
  · intro i
    constructor
    · intro hi
      have := (connR_shortest _ L hL hne' hok c hwf hlen (by
        intro q hq j hj
        obtain ⟨l, hl, rfl⟩ := List.mem_map.1 hq
        exact (hc j).2 ⟨l, hl, (toR_mem_iff L hL l (h l hl).strict j).1 hj⟩)).2 i hi
      exact (hc i).1 this
    · rintro ⟨l, hl, hi⟩
      exact connR_covers _ L hL hok (toR l) (List.mem_map.2 ⟨l, hl, rfl⟩) i ((toR_spec L hL l (hin l hl)).2.2.2 i hi)

/-- a family of areas whose members are pairwise linked -/
def Connected (areas : List Area) (ms : List Feat) : Prop :=
  ∀ a ∈ ms, ∀ b ∈ ms, Linked areas (toArea a) (toArea b)

/-- families of areas grown by joining families that share a base (what the sweep and the first/last merge build) -/
inductive Joined (all : List Feat) : List Feat → Prop where
  | single (a : Feat) : a ∈ all → Joined all [a]
  | join (m1 m2 ms : List Feat) : Joined all m1 → Joined all m2 →
      (∃ a ∈ m1, ∃ b ∈ m2, a.loc.SharesBase b.loc) → (∀ f, f ∈ ms ↔ f ∈ m1 ∨ f ∈ m2) → Joined all ms

theorem Joined.sub {all ms : List Feat} (hj : Joined all ms) : ∀ f ∈ ms, f ∈ all := by
  induction hj with
  | single a ha => intro f hf; simp at hf; subst hf; exact ha
  | join m1 m2 ms _ _ _ hms ih1 ih2 =>
    intro f hf
    rcases (hms f).1 hf with h | h
    · exact ih1 f h
    · exact ih2 f h

theorem Joined.ne {all ms : List Feat} (hj : Joined all ms) : ms ≠ [] := by
  cases hj with
  | single a _ => simp
  | join m1 m2 ms _ _ hsh hms =>
    obtain ⟨a, ha, _⟩ := hsh
    exact List.ne_nil_of_mem ((hms a).2 (Or.inl ha))

/-- joining two linked families at a shared base gives a linked family -/
theorem Joined.connected {all ms : List Feat} (hj : Joined all ms) : Connected (all.map toArea) ms := by
  induction hj with
  | single a ha =>
    intro x hx y hy
    simp only [List.mem_singleton] at hx hy
    rw [hx, hy]
    exact Linked.refl _ (List.mem_map.2 ⟨a, ha, rfl⟩)
  | join m1 m2 ms hj1 hj2 hshare hms ih1 ih2 =>
    obtain ⟨a, ha, b, hb, hsh⟩ := hshare
    have hab : Linked (all.map toArea) (toArea a) (toArea b) :=
      Linked.step (Linked.refl _ (List.mem_map.2 ⟨a, hj1.sub a ha, rfl⟩)) (List.mem_map.2 ⟨b, hj2.sub b hb, rfl⟩) hsh
    intro x hx y hy
    rcases (hms x).1 hx with hx | hx <;> rcases (hms y).1 hy with hy | hy
    · exact ih1 x hx y hy
    · exact ((ih1 x hx a ha).trans hab).trans (ih2 b hb y hy)
    · exact ((ih2 x hx b hb).trans hab.symm).trans (ih1 a ha y hy)
    · exact ih2 x hx y hy

theorem exists_mem_join {ms m1 m2 : List Feat} (hms : ∀ f, f ∈ ms ↔ f ∈ m1 ∨ f ∈ m2) (P : Feat → Prop) :
    (∃ m ∈ ms, P m) ↔ (∃ m ∈ m1, P m) ∨ (∃ m ∈ m2, P m) := by
  simp only [hms, or_and_right, exists_or]

theorem exists_mem_listing {fs fam : List Feat} (hmem : ∀ f, f ∈ fs ↔ f ∈ fam) (P : Loc → Prop) :
    (∃ l ∈ fs.map (·.loc), P l) ↔ ∃ m ∈ fam, P m.loc := by
  simp only [List.mem_map, hmem]
  exact ⟨fun ⟨_, ⟨a, ha, e⟩, h⟩ => ⟨a, ha, e ▸ h⟩, fun ⟨a, ha, h⟩ => ⟨_, ⟨a, ha, rfl⟩, h⟩⟩

/-- the hypothesis of the ring theorem: the union of every family of areas grown by joining overlapping families
    is a well-formed span of the ring shorter than half the record (what "every component is shorter than half
    the record" means for sets of bases; not derived here from the executable `halfRecordComponent = false`) -/
def ArcUnions (L : Int) (all : List Feat) : Prop :=
  ∀ ms : List Feat, Joined all ms →
    ∃ c, areaWF L L c = true ∧ 2 * c.len < L ∧ ∀ i, c.mem i = true ↔ ∃ m ∈ ms, m.loc.mem i = true

/-- invariant of a section: its location is a well-formed span with exactly the bases of its members, which are
    areas of the record linked to each other -/
structure SecOK (L : Int) (all : List Feat) (sec : Sec) : Prop where
  ne : sec.2 ≠ []
  sub : ∀ m ∈ sec.2, m ∈ all
  conn : Connected (all.map toArea) sec.2
  joined : Joined all sec.2
  area : RingArea L sec.1
  exact : ∀ i, sec.1.mem i = true ↔ ∃ m ∈ sec.2, m.loc.mem i = true

/-- of the six fields only three are independent: a joined family is non-empty, drawn from `all` and linked -/
theorem SecOK.of_joined {L : Int} {all ms : List Feat} {loc : Loc} (hj : Joined all ms) (ha : RingArea L loc)
    (hex : ∀ i, loc.mem i = true ↔ ∃ m ∈ ms, m.loc.mem i = true) : SecOK L all (loc, ms) :=
  ⟨hj.ne, hj.sub, hj.connected, hj, ha, hex⟩

/-- Two `SecOK` sections whose locations overlap merge into one: their members form a joined family, `ArcUnions` gives
    the arc that is exactly its union, and `connect_ring_exact` says `connect_locations` of the two locations (in
    either order, `ls`: the sweep passes `[area, location]`, the first/last merge `[first, last]`) returns that arc. -/
theorem merge_secOK {L : Int} (hL : 0 < L) {all : List Feat} (harc : ArcUnions L all)
    {loc1 loc2 : Loc} {m1 m2 ms : List Feat} (h1 : SecOK L all (loc1, m1)) (h2 : SecOK L all (loc2, m2))
    (hov : locationsOverlap loc1 loc2 = true) (hms : ∀ f, f ∈ ms ↔ f ∈ m1 ∨ f ∈ m2) {ls : List Loc} (hls : ∀ l, l ∈ ls ↔ l = loc1 ∨ l = loc2) :
    ∃ r, connect ls (some L) = .ok r ∧ SecOK L all (r, ms) := by
  obtain ⟨i, hi1, hi2⟩ := (locationsOverlap_iff _ _ h1.area.nonEmpty h2.area.nonEmpty).1 hov
  obtain ⟨a, ha, hai⟩ := (h1.exact i).1 hi1
  obtain ⟨b, hb, hbi⟩ := (h2.exact i).1 hi2
  have hjoin : Joined all ms := Joined.join m1 m2 ms h1.joined h2.joined ⟨a, ha, b, hb, i, hai, hbi⟩ hms
  obtain ⟨c, hwf, hlen, hc⟩ := harc ms hjoin
  have hunion : ∀ j, c.mem j = true ↔ ∃ l ∈ ls, l.mem j = true := fun j => by
    rw [hc j, exists_mem_join hms, ← h1.exact, ← h2.exact]
    simp only [hls, or_and_right, exists_or, exists_eq_left]
  obtain ⟨r, hr, hra, hrm⟩ := connect_ring_exact hL ls (List.ne_nil_of_mem ((hls loc1).2 (Or.inl rfl))) (by
    intro l hl
    have hl' : l = loc1 ∨ l = loc2 := (hls l).1 hl
    rcases hl' with rfl | rfl
    · exact h1.area
    · exact h2.area) c hwf hlen hunion
  exact ⟨r, hr, .of_joined hjoin hra fun j => by rw [hrm j, ← hunion j, hc j]⟩


theorem single_secOK {L : Int} {all : List Feat} (hring : ∀ f ∈ all, RingArea L f.loc) (a : Feat) (ha : a ∈ all) :
    SecOK L all (a.loc, [a]) :=
  .of_joined (Joined.single a ha) (hring a ha) (by intro i; simp)

/-- the sweep never raises on a ring (under `ArcUnions`), and every section it closes is `SecOK` -/
theorem sweepAreas_total {L : Int} (hL : 0 < L) {all : List Feat} (hring : ∀ f ∈ all, RingArea L f.loc)
    (harc : ArcUnions L all) (loc : Loc) (inc rest : List Feat) (hcur : SecOK L all (loc, inc))
    (hrest : ∀ a ∈ rest, a ∈ all) :
    ∃ secs, sweepAreas (some L) loc inc rest = .ok secs ∧ ∀ sec ∈ secs, SecOK L all sec := by
  induction rest generalizing loc inc with
  | nil => exact ⟨[(loc, inc)], rfl, by intro sec hsec; simp at hsec; subst hsec; exact hcur⟩
  | cons a rest ih =>
    have ha := hrest a (by simp)
    simp only [sweepAreas]
    cases hov : locationsOverlap a.loc loc with
    | false =>
      obtain ⟨tail, ht, hok⟩ := ih a.loc [a] (single_secOK hring a ha) (fun x hx => hrest x (by simp [hx]))
      refine ⟨(loc, inc) :: tail, by simp [ht, bind, Except.bind, pure, Except.pure], ?_⟩
      intro sec hsec
      simp only [List.mem_cons] at hsec
      rcases hsec with rfl | hsec
      · exact hcur
      · exact hok sec hsec
    | true =>
      have hov' : locationsOverlap loc a.loc = true := by rw [locationsOverlap_comm]; exact hov
      obtain ⟨r, hr, hsec⟩ := merge_secOK hL harc hcur (single_secOK hring a ha) hov' (ms := inc ++ [a])
        (by intro f; simp) (ls := [a.loc, loc]) (by intro l; simp [or_comm])
      obtain ⟨secs, hs, hok⟩ := ih r (inc ++ [a]) hsec (fun x hx => hrest x (by simp [hx]))
      exact ⟨secs, by simp [hr, hs, bind, Except.bind], hok⟩

/-- the first/last merge loop never raises on a ring (under `ArcUnions`) and keeps every section `SecOK` -/
theorem mergeFirstLast_total {L : Int} (hL : 0 < L) {all : List Feat}
    (harc : ArcUnions L all) (n : Nat) {secs : List Sec}
    (hnd : (ids (secs.map (·.2)).flatten).Nodup) (hok : ∀ sec ∈ secs, SecOK L all sec) :
    ∃ secs', mergeFirstLast (some L) n secs = .ok secs' ∧ ∀ sec ∈ secs', SecOK L all sec := by
  induction n generalizing secs with
  | zero => exact ⟨secs, rfl, hok⟩
  | succ n ih =>
    match secs, hnd, hok with
    | [], _, hok => exact ⟨[], rfl, hok⟩
    | [x], _, hok => exact ⟨[x], rfl, hok⟩
    | first :: second :: more, hnd, hok =>
      have hne : second :: more ≠ [] := by simp
      have hlast : (second :: more).getLast? = some ((second :: more).getLast hne) := List.getLast?_eq_some_getLast hne
      generalize hlv : (second :: more).getLast hne = last at hlast
      simp only [mergeFirstLast, hlast]
      cases hov : locationsOverlap first.1 last.1 with
      | false => exact ⟨first :: second :: more, by simp [pure, Except.pure], hok⟩
      | true =>
        obtain ⟨hlastmem, happ, _⟩ := mergeRound hlast hnd first.1
        obtain ⟨r, hr, hsec⟩ := merge_secOK hL harc (loc1 := first.1) (m1 := first.2) (loc2 := last.1) (m2 := last.2)
          (hok first (by simp)) (hok last (List.mem_cons_of_mem _ hlastmem)) hov (ms := first.2 ++ last.2) (by intro f; simp)
          (ls := [first.1, last.1]) (by intro l; simp)
        have hperm1 := (mergeRound hlast hnd r).2.2
        obtain ⟨secs', hs, hok'⟩ := ih (secs := (r, first.2 ++ last.2) :: (second :: more).dropLast)
          ((hperm1.map (fun f : Feat => f.id)).nodup_iff.2 hnd) (by
            intro sec hsec'
            simp only [List.mem_cons] at hsec'
            rcases hsec' with rfl | hsec'
            · exact hsec
            · exact hok sec (List.mem_cons_of_mem _ (List.dropLast_subset _ hsec')))
        refine ⟨secs', ?_, hok'⟩
        simp only [Bool.not_true, Bool.false_eq_true, if_false, hr, bind, Except.bind, happ]
        exact hs

/-- On a ring (under `ArcUnions`) only `areas.sort()` can raise while the sections are formed: once it has returned,
    the sweep with its `connect_locations` calls and the first/last merge loop return, and every section is a joined
    family of linked areas located exactly at their union. -/
theorem sectionsOf_sorted {L : Int} (hL : 0 < L) {cands subs : List Feat} (hring : ∀ f ∈ cands ++ subs, RingArea L f.loc)
    (harc : ArcUnions L (cands ++ subs)) (hnd : (ids (cands ++ subs)).Nodup) {areas : List Feat}
    (hsort : sortAreas (cands ++ subs) = .ok areas) :
    ∃ secs, sectionsOf (some L) cands subs = .ok secs ∧ ∀ sec ∈ secs, SecOK L (cands ++ subs) sec := by
  have hp := sortAreas_perm hsort
  cases areas with
  | nil => exact ⟨[], by simp [sectionsOf, hsort, bind, Except.bind, pure, Except.pure], by simp⟩
  | cons first rest =>
    have hfirst : first ∈ cands ++ subs := hp.mem_iff.1 (by simp)
    have hrest : ∀ a ∈ rest, a ∈ cands ++ subs := fun a ha => hp.mem_iff.1 (by simp [ha])
    obtain ⟨secs0, hsw, h0⟩ := sweepAreas_total hL hring harc first.loc [first] rest (single_secOK hring first hfirst) hrest
    have hnd0 : (ids (secs0.map (·.2)).flatten).Nodup := by
      rw [sweepAreas_flat hsw]
      exact ((hp.map (fun f : Feat => f.id)).nodup_iff).2 hnd
    obtain ⟨secs, hm, hok⟩ := mergeFirstLast_total hL harc secs0.length hnd0 h0
    exact ⟨secs, by simp [sectionsOf, hsort, hsw, hm, bind, Except.bind], hok⟩

theorem sectionsOf_secOK {L : Int} (hL : 0 < L) {cands subs : List Feat} (hring : ∀ f ∈ cands ++ subs, RingArea L f.loc)
    (harc : ArcUnions L (cands ++ subs)) (hnd : (ids (cands ++ subs)).Nodup) {secs : List Sec}
    (h : sectionsOf (some L) cands subs = .ok secs) : ∀ sec ∈ secs, SecOK L (cands ++ subs) sec := by
  have h' := h
  simp only [sectionsOf, ok_inv] at h'
  obtain ⟨areas, hsort, -⟩ := h'
  obtain ⟨secs', hs, hok⟩ := sectionsOf_sorted hL hring harc hnd hsort
  rw [h] at hs
  cases hs
  exact hok

/-- on a ring, under `ArcUnions`, the section a region of `create_regions` was made from is `SecOK` -/
theorem createRegions_made_ring {s s' : State} (hcirc : s.circular = true) (hL : 0 < s.len) (hi : Inv s)
    (hreg : s.regions = []) (hring : ∀ f ∈ s.cands ++ s.subs, RingArea s.len f.loc)
    (harc : ArcUnions s.len (s.cands ++ s.subs)) (h : createRegions s = .ok s') :
    ∀ r ∈ s'.regions, ∃ sec, SecOK s.len (s.cands ++ s.subs) sec ∧ MadeFrom s (childrenOf sec.2) r := by
  intro r hr
  obtain ⟨secs, hsecs, sec, hsec, m⟩ := createRegions_made hi hreg h r hr
  rw [show s.wrap = some s.len by simp [State.wrap, hcirc]] at hsecs
  exact ⟨sec, sectionsOf_secOK hL hring harc (nodup_areas hi) hsecs sec hsec, m⟩

/-- **Circular record with origin-spanning areas** (`_partial`: hypothesis `ArcUnions`; conditional on
    `create_regions` returning): every region lists areas of ONE connected component only — any two areas a
    region lists are linked by a chain of overlapping areas. -/
theorem ring_region_one_component (s s' : State) (hcirc : s.circular = true) (hL : 0 < s.len) (hi : Inv s)
    (hreg : s.regions = []) (hring : ∀ f ∈ s.cands ++ s.subs, RingArea s.len f.loc)
    (harc : ArcUnions s.len (s.cands ++ s.subs)) (h : createRegions s = .ok s') :
    ∀ r ∈ s'.regions, ∀ a ∈ s.cands ++ s.subs, ∀ b ∈ s.cands ++ s.subs,
      a.id ∈ memberIds r → b.id ∈ memberIds r → Linked (areasOf s) (toArea a) (toArea b) := by
  intro r hr a ha b hb hma hmb
  obtain ⟨sec, hS, m⟩ := createRegions_made_ring hcirc hL hi hreg hring harc h r hr
  exact hS.conn a ((mem_childrenOf _ a).1 (m.listed ha hma)) b ((mem_childrenOf _ b).1 (m.listed hb hmb))

end ASV.Regions
