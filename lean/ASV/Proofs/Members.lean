/-
  C05: what every group / candidate is made of — members come from the input, no member twice,
  non-single candidates have at least two members, every candidate satisfies the constructor's
  guarantees (location = connected span of the members, containing each of them).
-/
import ASV.Proofs.Coverage
import ASV.Proofs.Loc
namespace ASV.CC
open ASV.CC.Spec ASV.Base

/-- the list has two different elements (what a group of more than one protocluster means for a set) -/
def Two {α : Type} (g : List α) : Prop := ∃ a b, a ∈ g ∧ b ∈ g ∧ a ≠ b

theorem two_le_length {α : Type} {l : List α} (h : Two l) : 2 ≤ l.length := by
  obtain ⟨a, b, ha, hb, hab⟩ := h
  match l, ha, hb with
  | [x], ha, hb =>
    have h1 : a = x := by simpa using ha
    have h2 : b = x := by simpa using hb
    exact absurd (h1.trans h2.symm) hab
  | x :: y :: r, _, _ => simp

theorem two_of_nodup {α : Type} {l : List α} (hn : l.Nodup) (h : 2 ≤ l.length) : Two l := by
  match l, hn, h with
  | x :: y :: r, hn, _ =>
    refine ⟨x, y, by simp, by simp, ?_⟩
    intro e
    have := (List.nodup_cons.1 hn).1
    rw [e] at this
    exact this List.mem_cons_self

theorem two_mono {α : Type} {a b : List α} (h : Two a) (hs : ∀ x, x ∈ a → x ∈ b) : Two b := by
  obtain ⟨x, y, hx, hy, hxy⟩ := h
  exact ⟨x, y, hs x hx, hs y hy, hxy⟩

theorem nodup_sortBy {α : Type} [DecidableEq α] (lt : α → α → Bool) {l : List α} (h : l.Nodup) : (sortBy lt l).Nodup :=
  (perm_sortBy lt l).nodup_iff.2 h

/-- some occurrence of `a` stands before some occurrence of `b`: the pairs the passes' nested loops
    `for i, a in enumerate(xs[:-1]): for b in xs[i+1:]` visit -/
def Before {β : Type} (a b : β) : List β → Prop
  | [] => False
  | x :: rest => (x = a ∧ b ∈ rest) ∨ Before a b rest

theorem before_mem {β : Type} {a b : β} {l : List β} (h : Before a b l) : a ∈ l ∧ b ∈ l := by
  induction l with
  | nil => cases h
  | cons x rest ih =>
    rcases h with ⟨e, hb⟩ | h
    · exact ⟨e ▸ List.mem_cons_self, List.mem_cons_of_mem _ hb⟩
    · exact ⟨List.mem_cons_of_mem _ (ih h).1, List.mem_cons_of_mem _ (ih h).2⟩

theorem before_ne {β : Type} {a b : β} {l : List β} (hn : l.Nodup) (h : Before a b l) : a ≠ b := by
  induction l with
  | nil => cases h
  | cons x rest ih =>
    have hc := List.nodup_cons.1 hn
    rcases h with ⟨e, hb⟩ | h
    · intro e2; subst e; subst e2; exact hc.1 hb
    · exact ih hc.2 h

theorem before_length {β : Type} {a b : β} {l : List β} (h : Before a b l) : 2 ≤ l.length := by
  induction l with
  | nil => cases h
  | cons x rest ih =>
    rcases h with ⟨_, hb⟩ | h
    · exact Nat.succ_le_succ (List.length_pos_of_mem hb)
    · exact Nat.le_succ_of_le (ih h)

theorem before_total {β : Type} {a b : β} {l : List β} (ha : a ∈ l) (hb : b ∈ l) (hab : a ≠ b) :
    Before a b l ∨ Before b a l := by
  induction l with
  | nil => cases ha
  | cons x rest ih =>
    rcases List.mem_cons.1 ha with e1 | h1 <;> rcases List.mem_cons.1 hb with e2 | h2
    · exact absurd (e1.trans e2.symm) hab
    · exact Or.inl (Or.inl ⟨e1.symm, h2⟩)
    · exact Or.inr (Or.inl ⟨e2.symm, h1⟩)
    · rcases ih h1 h2 with h | h
      · exact Or.inl (Or.inr h)
      · exact Or.inr (Or.inr h)

theorem mem_pairsWhere {β γ : Type} (rel : β → β → Bool) (mk : β → β → γ) (l : List β) (g : γ) :
    g ∈ pairsWhere rel mk l ↔ ∃ a b, Before a b l ∧ rel a b = true ∧ g = mk a b := by
  induction l with
  | nil => simp [pairsWhere, Before]
  | cons x rest ih =>
    simp only [pairsWhere, List.mem_append, List.mem_map, List.mem_filter, ih, Before]
    constructor
    · rintro (⟨b, ⟨hb, hr⟩, e⟩ | ⟨a, b, hbf, hr, e⟩)
      · exact ⟨x, b, Or.inl ⟨rfl, hb⟩, hr, e.symm⟩
      · exact ⟨a, b, Or.inr hbf, hr, e⟩
    · rintro ⟨a, b, (⟨e1, hb⟩ | hbf), hr, e⟩
      · subst e1; exact Or.inl ⟨b, ⟨hb, hr⟩, e.symm⟩
      · exact Or.inr ⟨a, b, hbf, hr, e⟩

theorem before_head_last {β : Type} {l : List β} {a b : β} (hl : l.length > 1) (ha : l.head? = some a)
    (hb : l.getLast? = some b) : Before a b l := by
  match l, hl, ha, hb with
  | x :: y :: rest, _, ha, hb =>
    have e : x = a := by simpa using ha
    refine Or.inl ⟨e, ?_⟩
    have : (y :: rest).getLast? = some b := by
      simpa [List.getLast?_cons_cons] using hb
    exact List.mem_of_getLast? this

/-! ### `Before` through `map` and `++` -/

theorem before_map {β γ : Type} (f : β → γ) {a b : β} {l : List β} (h : Before a b l) : Before (f a) (f b) (l.map f) := by
  induction l with
  | nil => cases h
  | cons x rest ih =>
    rcases h with ⟨e, hb⟩ | h
    · exact Or.inl ⟨by rw [e], List.mem_map.2 ⟨b, hb, rfl⟩⟩
    · exact Or.inr (ih h)

theorem before_of_map {β γ : Type} (f : β → γ) {x y : γ} {l : List β} (h : Before x y (l.map f)) :
    ∃ a b, Before a b l ∧ f a = x ∧ f b = y := by
  induction l with
  | nil => cases h
  | cons z rest ih =>
    rcases h with ⟨e, hb⟩ | h
    · obtain ⟨b, hb', eb⟩ := List.mem_map.1 hb
      exact ⟨z, b, Or.inl ⟨rfl, hb'⟩, e, eb⟩
    · obtain ⟨a, b, hbf, e1, e2⟩ := ih h
      exact ⟨a, b, Or.inr hbf, e1, e2⟩

theorem before_append {β : Type} {a b : β} {l1 l2 : List β} :
    Before a b (l1 ++ l2) ↔ Before a b l1 ∨ (a ∈ l1 ∧ b ∈ l2) ∨ Before a b l2 := by
  induction l1 with
  | nil => simp [Before]
  | cons x rest ih =>
    simp only [List.cons_append, Before, ih, List.mem_append, List.mem_cons]
    constructor
    · rintro (⟨e, hb | hb⟩ | h | ⟨ha, hb⟩ | h)
      · exact Or.inl (Or.inl ⟨e, hb⟩)
      · exact Or.inr (Or.inl ⟨Or.inl e.symm, hb⟩)
      · exact Or.inl (Or.inr h)
      · exact Or.inr (Or.inl ⟨Or.inr ha, hb⟩)
      · exact Or.inr (Or.inr h)
    · rintro ((⟨e, hb⟩ | h) | ⟨ha | ha, hb⟩ | h)
      · exact Or.inl ⟨e, Or.inl hb⟩
      · exact Or.inr (Or.inl h)
      · exact Or.inl ⟨ha.symm, Or.inr hb⟩
      · exact Or.inr (Or.inr (Or.inl ⟨ha, hb⟩))
      · exact Or.inr (Or.inr (Or.inr h))

theorem mem_allPairs {α : Type} {l : List α} {x : α × α} : x ∈ allPairs l ↔ Before x.1 x.2 l := by
  induction l with
  | nil => simp [allPairs, Before]
  | cons a rest ih =>
    simp only [allPairs, List.mem_append, List.mem_map, ih, Before]
    constructor
    · rintro (⟨b, hb, e⟩ | h)
      · subst e; exact Or.inl ⟨rfl, hb⟩
      · exact Or.inr h
    · rintro (⟨e, hb⟩ | h)
      · exact Or.inl ⟨x.2, hb, by rw [e]⟩
      · exact Or.inr h

theorem mem_overlapGroups {units : List U} {g : List Proto} :
    g ∈ overlapGroups units ↔ ∃ u v, Before u v units ∧ locationsOverlap u.span v.span = true ∧ g = u.members ++ v.members := by
  simp only [overlapGroups, List.mem_map, List.mem_filter, mem_allPairs]
  constructor
  · rintro ⟨x, ⟨hb, ho⟩, e⟩; exact ⟨x.1, x.2, hb, ho, e.symm⟩
  · rintro ⟨u, v, hb, ho, e⟩; exact ⟨(u, v), ⟨hb, ho⟩, e.symm⟩

/-! ### the pairs each pass hands to `_merge_sets`

Each pass collects every related pair of a list in order, and then once more the pair of its first
and last element (the comparison across the origin).  As a set of groups the second part adds nothing. -/

/-- the pair of the first and the last element is among the pairs in order -/
theorem pair_head_last {β γ : Type} {rel : β → β → Bool} (mk : β → β → γ) {l : List β} {a b : β}
    (ha : l.head? = some a) (hb : l.getLast? = some b) (hr : rel a b = true)
    (hl : l.length > 1 ∨ ∀ a, rel a a = false) : mk a b ∈ pairsWhere rel mk l := by
  have hlen : l.length > 1 := by
    refine hl.elim id fun hirr => ?_
    match l, ha, hb with
    | [x], ha, hb =>
      have e : a = b := (Option.some.inj ha).symm.trans (Option.some.inj hb)
      rw [e, hirr] at hr
      cases hr
    | x :: y :: r, _, _ => exact Nat.succ_lt_succ (Nat.succ_pos _)
  exact (mem_pairsWhere _ _ _ _).2 ⟨a, b, before_head_last hlen ha hb, hr, rfl⟩

theorem pairsWhere_mono {β γ : Type} {rel rel' : β → β → Bool} (mk : β → β → γ) {l : List β} {g : γ}
    (h : ∀ a b, rel a b = true → rel' a b = true) (hg : g ∈ pairsWhere rel mk l) : g ∈ pairsWhere rel' mk l := by
  obtain ⟨a, b, hbf, hr, e⟩ := (mem_pairsWhere _ _ _ _).1 hg
  exact (mem_pairsWhere _ _ _ _).2 ⟨a, b, hbf, h a b hr, e⟩

theorem mem_hybridPairs {clusters : List Proto} {g : List Proto} :
    g ∈ hybridPairs clusters ↔ ∃ a b, Before a b (sortBy coreKeyLt clusters) ∧ shares a b = true ∧ g = [a, b] := by
  rw [← mem_pairsWhere]
  refine ⟨fun h => (List.mem_append.1 h).elim id fun h => ?_, fun h => List.mem_append.2 (Or.inl h)⟩
  split at h
  · rename_i f l hf hl
    split at h
    · rename_i hr
      rw [List.mem_singleton.1 h]
      exact pairsWhere_mono _ (fun a b hr => (Bool.and_eq_true _ _ ▸ hr).2)
        (pair_head_last (rel := fun f l => f != l && shares f l) _ hf hl hr (Or.inr fun a => by simp))
    · cases h
  · cases h

theorem mem_findInterleavedCandidates {cc : List CandC} {g : List Proto} :
    g ∈ findInterleavedCandidates cc ↔
      ∃ a b, Before a b cc ∧ locationsOverlap a.2 b.2 = true ∧ g = dedup (a.1.members ++ b.1.members) := by
  rw [← mem_pairsWhere]
  refine ⟨fun h => (List.mem_append.1 h).elim id fun h => ?_, fun h => List.mem_append.2 (Or.inl h)⟩
  split at h
  · rename_i hlen
    split at h
    · rename_i a b ha hb
      split at h
      · rename_i hr
        rw [List.mem_singleton.1 h]
        exact pair_head_last _ ha hb hr (Or.inl hlen)
      · cases h
    · cases h
  · cases h

theorem mem_findNeighbouringProtoclusters {ps : List Proto} {g : List Proto} :
    g ∈ findNeighbouringProtoclusters ps ↔
      ∃ a b, Before a b ps ∧ locationsOverlap a.loc b.loc = true ∧ g = [a, b] := by
  rw [← mem_pairsWhere]
  refine ⟨fun h => (List.mem_append.1 h).elim id fun h => ?_, fun h => List.mem_append.2 (Or.inl h)⟩
  split at h
  · rename_i hlen
    split at h
    · rename_i f l hf hl
      split at h
      · rename_i hr
        rw [List.mem_singleton.1 h]
        exact pairsWhere_mono _ (fun a b hr => (Bool.and_eq_true _ _ ▸ hr).2)
          (pair_head_last (rel := fun f l => f != l && locationsOverlap f.loc l.loc) _ hf hl hr (Or.inl hlen))
      · cases h
    · cases h
  · cases h

/-! ### `_merge_sets` keeps sizes and distinctness -/

theorem mergeSets_wf {G : List (List Proto)} (hG : ∀ g, g ∈ G → Two g) :
    ∀ r, r ∈ mergeSets G → r.Nodup ∧ 2 ≤ r.length := by
  intro r hr
  obtain ⟨r0, h0, e⟩ := mem_mergeSets.1 hr
  subst e
  have hn := mergeSetsCore_nodup groupKey G r0 h0
  obtain ⟨g, hg, _, hsub⟩ := mergeSetsCore_contains_input groupKey G r0 h0
  refine ⟨nodup_sortProtos hn, ?_⟩
  have : Two r0 := two_mono (hG g hg) hsub
  simp only [length_sortProtos]
  exact two_le_length this

theorem mergeSets_from {G : List (List Proto)} {r : List Proto} (hr : r ∈ mergeSets G) :
    ∀ x, x ∈ r → ∃ g, g ∈ G ∧ x ∈ g := fun x hx => (mergeSets_union G x).1 ⟨r, hr, hx⟩

theorem mergeSets_wf_of {G : List (List Proto)} {P : Proto → Prop} (hG : ∀ g, g ∈ G → Two g ∧ ∀ x, x ∈ g → P x) :
    ∀ r, r ∈ mergeSets G → r.Nodup ∧ 2 ≤ r.length ∧ ∀ x, x ∈ r → P x := by
  intro r hr
  obtain ⟨a, b⟩ := mergeSets_wf (fun g hg => (hG g hg).1) r hr
  refine ⟨a, b, fun x hx => ?_⟩
  obtain ⟨g0, hg0, hx0⟩ := mergeSets_from hr x hx
  exact (hG g0 hg0).2 x hx0

/-! ### `_find_hybrids` -/

theorem extendGroup_from {wrap : Option Int} {byCore g g' : List Proto} (h : extendGroup wrap byCore g = .ok g') :
    ∃ core, connect (g.map (·.core)) wrap = .ok core ∧
      ∀ p, p ∈ g' → p ∈ g ∨ (p ∈ byCore ∧ locationContainsOther core p.core = true) := by
  unfold extendGroup at h
  cases hcore : connect (g.map (·.core)) wrap with
  | error e => rw [hcore] at h; cases h
  | ok core =>
    rw [hcore] at h
    cases h
    refine ⟨core, rfl, fun p hp => ?_⟩
    split at hp
    · rcases scanContained_from _ _ _ _ p hp with h1 | h1
      · rcases scanContained_from _ _ _ _ p h1 with h2 | ⟨h2, h3⟩
        · exact Or.inl h2
        · exact Or.inr ⟨List.mem_of_mem_drop h2, h3⟩
      · exact Or.inr h1
    · rcases scanContained_from _ _ _ _ p hp with h2 | ⟨h2, h3⟩
      · exact Or.inl h2
      · exact Or.inr ⟨List.mem_of_mem_drop h2, h3⟩

theorem extendGroup_wf {wrap : Option Int} {byCore g g' : List Proto} (h : extendGroup wrap byCore g = .ok g')
    (hn : g.Nodup) : g'.Nodup ∧ ∀ p, p ∈ g' → p ∈ g ∨ p ∈ byCore := by
  refine ⟨?_, fun p hp => ((extendGroup_from h).choose_spec.2 p hp).imp_right And.left⟩
  unfold extendGroup at h
  cases hcore : connect (g.map (·.core)) wrap with
  | error e => rw [hcore] at h; cases h
  | ok core =>
    rw [hcore] at h
    cases h
    split
    · exact scanContained_nodup _ _ _ _ (scanContained_nodup _ _ _ _ hn)
    · exact scanContained_nodup _ _ _ _ hn

theorem extendGroups_wf {wrap : Option Int} {byCore : List Proto} {gs gs' : List (List Proto)}
    (h : extendGroups wrap byCore gs = .ok gs') (hn : ∀ g, g ∈ gs → g.Nodup ∧ 2 ≤ g.length) :
    ∀ g', g' ∈ gs' → g'.Nodup ∧ 2 ≤ g'.length ∧ ∀ p, p ∈ g' → (∃ g, g ∈ gs ∧ p ∈ g) ∨ p ∈ byCore := by
  intro g' hg'
  obtain ⟨g, hg, h0⟩ := extendGroups_rel h g' hg'
  obtain ⟨hnd, hfrom⟩ := extendGroup_wf h0 (hn g hg).1
  refine ⟨hnd, ?_, fun p hp => (hfrom p hp).imp_left fun h1 => ⟨g, hg, h1⟩⟩
  have := List.Nodup.length_le_of_subset (hn g hg).1 (fun x hx => extendGroup_sub h0 x hx)
  have := (hn g hg).2
  omega

/-- every pair handed over by `_find_hybrids`: two different protoclusters that share a defining gene -/
theorem hybridPairs_pair {clusters : List Proto} (hn : clusters.Nodup) {g : List Proto} (hg : g ∈ hybridPairs clusters) :
    ∃ a b, g = [a, b] ∧ a ∈ clusters ∧ b ∈ clusters ∧ a ≠ b ∧ shares a b = true := by
  obtain ⟨a, b, hbf, hs, e⟩ := mem_hybridPairs.1 hg
  exact ⟨a, b, e, (mem_sortBy _ _ _).1 (before_mem hbf).1, (mem_sortBy _ _ _).1 (before_mem hbf).2,
    before_ne (nodup_sortBy _ hn) hbf, hs⟩

theorem two_pair {α : Type} {a b : α} (h : a ≠ b) : Two [a, b] :=
  ⟨a, b, List.mem_cons_self, List.mem_cons_of_mem _ List.mem_cons_self, h⟩

theorem mem_pair {α : Type} {a b x : α} (hx : x ∈ [a, b]) : x = a ∨ x = b :=
  (List.mem_cons.1 hx).imp_right List.mem_singleton.1

theorem hybridClasses_wf {clusters : List Proto} (hn : clusters.Nodup) :
    ∀ m, m ∈ mergeSets (hybridPairs clusters) → m.Nodup ∧ 2 ≤ m.length ∧ ∀ x, x ∈ m → x ∈ clusters :=
  mergeSets_wf_of fun g hg => by
    obtain ⟨a, b, rfl, ha, hb, hab, _⟩ := hybridPairs_pair hn hg
    exact ⟨two_pair hab, fun p hp => (mem_pair hp).elim (· ▸ ha) (· ▸ hb)⟩

theorem findHybrids_wf {clusters : List Proto} {wrap : Option Int} {hg : List (List Proto)} {un : List Proto}
    (h : findHybrids clusters wrap = .ok (hg, un)) (hn : clusters.Nodup) :
    (∀ g, g ∈ hg → g.Nodup ∧ 2 ≤ g.length ∧ ∀ p, p ∈ g → p ∈ clusters) ∧ un.Nodup ∧ ∀ p, p ∈ un → p ∈ clusters := by
  obtain ⟨extended, hext, rfl, rfl⟩ := findHybrids_stages h
  have hm := hybridClasses_wf hn
  have hext' := extendGroups_wf hext fun m hm' => ⟨(hm m hm').1, (hm m hm').2.1⟩
  refine ⟨?_, nodup_sortProtos ((hn.filter _).filter _), ?_⟩
  · intro g hg
    obtain ⟨e, he, rfl⟩ := List.mem_map.1 hg
    obtain ⟨a, b, c⟩ := hext' e he
    refine ⟨nodup_sortProtos a, by rw [length_sortProtos]; exact b, fun p hp => ?_⟩
    rcases c p (mem_sortProtos.1 hp) with ⟨m, hm', hpm⟩ | h1
    · exact (hm m hm').2.2 p hpm
    · exact (List.mem_filter.1 ((mem_sortBy _ _ _).1 h1)).1
  · intro p hp
    exact (List.mem_filter.1 (List.mem_filter.1 (mem_sortProtos.1 hp)).1).1

/-! ### the units of a pass and the pair-groups of the reference -/

/-- the units of the neighbouring pass: the candidates so far, then the remaining protoclusters -/
def neighbourUnits (singles : List Proto) (cands : List Cand) : List U :=
  candUnits cands ++ protoUnits (·.loc) singles

/-- the units of the interleaved pass: candidates with their combined cores, then the remaining
    protoclusters with their cores -/
def interleaveUnits (clusters : List Proto) (cc : List CandC) : List U :=
  cc.map (fun x => (⟨x.1.members, x.2⟩ : U)) ++ protoUnits (·.core) clusters

/-- every set of `G` is, as a set, one of `H` -/
def SetsIn {α : Type} (G H : List (List α)) : Prop := ∀ g, g ∈ G → ∃ h, h ∈ H ∧ ∀ x, x ∈ g ↔ x ∈ h

theorem SetsIn.linked {α : Type} {G H : List (List α)} (s : SetsIn G H) {a b : α} (hl : Linked G a b) : Linked H a b :=
  linked_of_cover (fun g hg => let ⟨h, hh, e⟩ := s g hg; ⟨h, hh, fun x => (e x).1⟩) hl

theorem SetsIn.wf {G H : List (List Proto)} {P : Proto → Prop} (s : SetsIn G H)
    (hH : ∀ h, h ∈ H → Two h ∧ ∀ x, x ∈ h → P x) : ∀ g, g ∈ G → Two g ∧ ∀ x, x ∈ g → P x := fun g hg =>
  let ⟨h, hh, e⟩ := s g hg
  ⟨two_mono (hH h hh).1 fun x hx => (e x).2 hx, fun x hx => (hH h hh).2 x ((e x).1 hx)⟩

theorem mem_pair_swap {α : Type} {a b x : α} : x ∈ [a, b] ↔ x ∈ [b, a] := by
  simp only [List.mem_cons, List.not_mem_nil, or_false]; exact Or.comm

/-- the pair-groups of some composite units followed by lone protoclusters, by the kind of the two units -/
theorem mem_overlapGroups_units {β : Type} (f : β → U) (span : Proto → Loc) {cs : List β} {singles : List Proto}
    {h : List Proto} : h ∈ overlapGroups (cs.map f ++ protoUnits span singles) ↔
      (∃ a b, Before a b cs ∧ locationsOverlap (f a).span (f b).span = true ∧ h = (f a).members ++ (f b).members) ∨
      (∃ c s, c ∈ cs ∧ s ∈ singles ∧ locationsOverlap (f c).span (span s) = true ∧ h = (f c).members ++ [s]) ∨
      (∃ a b, Before a b singles ∧ locationsOverlap (span a) (span b) = true ∧ h = [a, b]) := by
  rw [mem_overlapGroups]
  constructor
  · rintro ⟨u, v, hbf, ho, rfl⟩
    rcases before_append.1 hbf with h | ⟨hu, hv⟩ | h
    · obtain ⟨a, b, hab, rfl, rfl⟩ := before_of_map _ h
      exact Or.inl ⟨a, b, hab, ho, rfl⟩
    · obtain ⟨c, hc, rfl⟩ := List.mem_map.1 hu
      obtain ⟨s, hs, rfl⟩ := List.mem_map.1 hv
      exact Or.inr (Or.inl ⟨c, s, hc, hs, ho, rfl⟩)
    · obtain ⟨a, b, hab, rfl, rfl⟩ := before_of_map _ h
      exact Or.inr (Or.inr ⟨a, b, hab, ho, rfl⟩)
  · rintro (⟨a, b, hab, ho, rfl⟩ | ⟨c, s, hc, hs, ho, rfl⟩ | ⟨a, b, hab, ho, rfl⟩)
    · exact ⟨f a, f b, before_append.2 (Or.inl (before_map f hab)), ho, rfl⟩
    · exact ⟨f c, ⟨[s], span s⟩,
        before_append.2 (Or.inr (Or.inl ⟨List.mem_map.2 ⟨c, hc, rfl⟩, List.mem_map.2 ⟨s, hs, rfl⟩⟩)), ho, rfl⟩
    · exact ⟨⟨[a], span a⟩, ⟨[b], span b⟩,
        before_append.2 (Or.inr (Or.inr (before_map (fun p => (⟨[p], span p⟩ : U)) hab))), ho, rfl⟩

theorem units_wf {β : Type} (f : β → U) (span : Proto → Loc) {cs : List β} {singles : List Proto} (hn : singles.Nodup)
    (hc : ∀ c, c ∈ cs → Two (f c).members) :
    ∀ h, h ∈ overlapGroups (cs.map f ++ protoUnits span singles) →
      Two h ∧ ∀ x, x ∈ h → x ∈ singles ∨ ∃ c, c ∈ cs ∧ x ∈ (f c).members := by
  intro h hh
  rcases (mem_overlapGroups_units f span).1 hh with ⟨a, b, hbf, _, rfl⟩ | ⟨c, s, hcm, hs, _, rfl⟩ | ⟨a, b, hbf, _, rfl⟩
  · have hm := before_mem hbf
    exact ⟨two_mono (hc a hm.1) fun _ hx => List.mem_append.2 (Or.inl hx), fun x hx =>
      (List.mem_append.1 hx).elim (fun h => Or.inr ⟨a, hm.1, h⟩) (fun h => Or.inr ⟨b, hm.2, h⟩)⟩
  · exact ⟨two_mono (hc c hcm) fun _ hx => List.mem_append.2 (Or.inl hx), fun x hx =>
      (List.mem_append.1 hx).elim (fun h => Or.inr ⟨c, hcm, h⟩) (fun h => Or.inl (List.mem_singleton.1 h ▸ hs))⟩
  · exact ⟨two_pair (before_ne hn hbf), fun x hx =>
      Or.inl ((mem_pair hx).elim (· ▸ (before_mem hbf).1) (· ▸ (before_mem hbf).2))⟩

/-! ### `_find_interleaved` -/

theorem findCross_wf {cc : List CandC} {un : List Proto} {groups groups' : List (List Proto)} {wrap : Option Int}
    {found : List Proto} (h : findCrossOriginInterleaved cc un groups wrap = .ok (found, groups')) :
    ∀ g, g ∈ groups' → g ∈ groups ∨ (Two g ∧ ∀ p, p ∈ g → (∃ c, c ∈ cc ∧ p ∈ c.1.members) ∨ p ∈ un) := by
  rcases findCross_cases h with ⟨_, rfl⟩ | ⟨core, cg0, g, _, _, hfrom, hw, _, ⟨hlen, rfl⟩ | ⟨_, rfl⟩⟩
  · exact fun g hg => Or.inl hg
  · intro g' hg'
    rcases List.mem_append.1 hg' with h1 | h1
    · exact Or.inl h1
    · rw [List.mem_singleton.1 h1]
      refine Or.inr ⟨two_of_nodup hw.nodup hlen, fun p hp => ?_⟩
      rcases hw.group p hp with h2 | h2
      · obtain ⟨c, hc, _, hpc⟩ := hfrom p h2
        exact Or.inl ⟨c, hc, hpc⟩
      · exact Or.inr h2.1
  · exact fun g hg => Or.inl hg

/-- one row of the sorted scan: up to its `break`, the pairs with an overlapping core -/
theorem interleavedRow_eq (c : Proto) (l : List Proto) :
    interleavedRow c l = ((l.takeWhile fun o => !decide (c.core.end ≤ o.core.start)).filter
      fun o => locationsOverlap c.core o.core).map fun o => [c, o] := by
  induction l with
  | nil => rfl
  | cons o rest ih =>
    rw [interleavedRow, List.takeWhile_cons]
    by_cases hb : c.core.end ≤ o.core.start
    · rw [if_pos hb, decide_eq_true hb]; rfl
    · rw [if_neg hb, decide_eq_false hb]
      simp only [Bool.not_false, if_true, List.filter_cons]
      split <;> simp [ih]

theorem mem_interleavedRow {c : Proto} {rest : List Proto} {g : List Proto} : g ∈ interleavedRow c rest ↔
    ∃ o, o ∈ rest.takeWhile (fun o => !decide (c.core.end ≤ o.core.start)) ∧
      locationsOverlap c.core o.core = true ∧ g = [c, o] := by
  simp only [interleavedRow_eq, List.mem_map, List.mem_filter, and_assoc, eq_comm]

theorem mem_interleavedPairs {l : List Proto} {g : List Proto} (h : g ∈ interleavedPairs l) :
    ∃ a b, Before a b l ∧ locationsOverlap a.core b.core = true ∧ g = [a, b] := by
  induction l with
  | nil => simp [interleavedPairs] at h
  | cons c rest ih =>
    simp only [interleavedPairs, List.mem_append] at h
    rcases h with h | h
    · obtain ⟨o, ho, h2, e⟩ := mem_interleavedRow.1 h
      exact ⟨c, o, Or.inl ⟨rfl, (List.takeWhile_sublist _).subset ho⟩, h2, e⟩
    · obtain ⟨a, b, hbf, h2, e⟩ := ih h
      exact ⟨a, b, Or.inr hbf, h2, e⟩

/-- what the passes need of the candidates so far: no member twice, at least two members -/
def CandBig (c : Cand) : Prop := c.members.Nodup ∧ 2 ≤ c.members.length

/-- what `_find_interleaved` collects before the origin-crossing step are, as sets, pair-groups of its units -/
theorem interleavedGroups_sound {clusters : List Proto} (hn : clusters.Nodup) (cc : List CandC) :
    SetsIn (interleavedGroups clusters cc) (overlapGroups (interleaveUnits clusters cc)) := by
  have hU := fun h => mem_overlapGroups_units (fun x : CandC => (⟨x.1.members, x.2⟩ : U)) (·.core)
    (cs := cc) (singles := clusters) (h := h)
  have hbm : ∀ p, p ∈ sortBy coreStartLt clusters ↔ p ∈ clusters := fun p => mem_sortBy _ _ _
  intro g hg
  rcases List.mem_append.1 hg with h12 | h3
  · rcases List.mem_append.1 h12 with h1 | h2
    · obtain ⟨a, b, hab, ho, rfl⟩ := mem_findInterleavedCandidates.1 h1
      exact ⟨_, (hU _).2 (Or.inl ⟨a, b, hab, ho, rfl⟩), fun x => mem_dedup⟩
    · -- the scan runs over the sorted list: the pair may stand the other way round in `clusters`
      obtain ⟨a, b, hbf, ho, rfl⟩ := mem_interleavedPairs h2
      have hm := before_mem hbf
      rcases before_total ((hbm a).1 hm.1) ((hbm b).1 hm.2) (before_ne (nodup_sortBy _ hn) hbf) with h1 | h1
      · exact ⟨_, (hU _).2 (Or.inr (Or.inr ⟨a, b, h1, ho, rfl⟩)), fun x => Iff.rfl⟩
      · exact ⟨_, (hU _).2 (Or.inr (Or.inr ⟨b, a, h1, by rw [locationsOverlap_comm]; exact ho, rfl⟩)),
          fun x => mem_pair_swap⟩
  · obtain ⟨s, hs, hg3⟩ := List.mem_flatMap.1 h3
    obtain ⟨c, hcf, rfl⟩ := List.mem_map.1 hg3
    exact ⟨_, (hU _).2 (Or.inr (Or.inl ⟨c, s, (List.mem_filter.1 hcf).1, (hbm s).1 hs, (List.mem_filter.1 hcf).2, rfl⟩)),
      fun x => mem_dedup⟩

theorem findInterleaved_wf {clusters : List Proto} {cands : List Cand} {wrap : Option Int}
    {ig : List (List Proto)} {un : List Proto} (h : findInterleaved clusters cands wrap = .ok (ig, un))
    (hn : clusters.Nodup) (hc : ∀ c, c ∈ cands → CandBig c) :
    (∀ g, g ∈ ig → g.Nodup ∧ 2 ≤ g.length ∧ ∀ p, p ∈ g → p ∈ clusters ∨ ∃ c, c ∈ cands ∧ p ∈ c.members) ∧
    un.Nodup ∧ ∀ p, p ∈ un → p ∈ clusters := by
  obtain ⟨cc, found1, groups, hcc, hx, rfl, rfl⟩ := findInterleaved_stages h
  have hccfst : ∀ x, x ∈ cc → x.1 ∈ cands :=
    hcc.elim withCores_fst (fun e x hx => by rw [e.1] at hx; cases hx)
  have hU := (interleavedGroups_sound hn cc).wf
    (units_wf (fun x : CandC => (⟨x.1.members, x.2⟩ : U)) (·.core) hn fun x hx =>
      two_of_nodup (hc _ (hccfst x hx)).1 (hc _ (hccfst x hx)).2)
  refine ⟨mergeSets_wf_of fun g hg => ?_, nodup_sortProtos (hn.filter _),
    fun p hp => (List.mem_filter.1 (mem_sortProtos.1 hp)).1⟩
  rcases findCross_wf hx g hg with h0 | ⟨h1, h2⟩
  · exact ⟨(hU g h0).1, fun p hp => ((hU g h0).2 p hp).imp_right fun ⟨c, hc', hpc⟩ => ⟨c.1, hccfst c hc', hpc⟩⟩
  · refine ⟨h1, fun p hp => ?_⟩
    rcases h2 p hp with ⟨c, hc', hpc⟩ | h3
    · exact Or.inr ⟨c.1, hccfst c hc', hpc⟩
    · exact Or.inl ((mem_sortBy _ _ _).1 h3)

/-! ### `_find_neighbouring` -/

/-- the groups `_find_neighbouring` hands to `_merge_sets`: every two overlapping candidates, every
    candidate with every protocluster overlapping it, every two overlapping protoclusters -/
theorem findNeighbouring_stages (singles : List Proto) (cands : List Cand) :
    ∃ G, findNeighbouring singles cands = mergeSets G ∧ ∀ g, g ∈ G ↔
      (∃ a b, Before a b cands ∧ locationsOverlap a.loc b.loc = true ∧ g = dedup (a.members ++ b.members)) ∨
      (∃ c s, c ∈ cands ∧ s ∈ singles ∧ locationsOverlap c.loc s.loc = true ∧ g = dedup (c.members ++ [s])) ∨
      (∃ a b, Before a b singles ∧ locationsOverlap a.loc b.loc = true ∧ g = [a, b]) := by
  unfold findNeighbouring
  dsimp only
  refine ⟨_, rfl, fun g => ?_⟩
  rw [List.mem_append, List.mem_append, List.mem_append, mem_findNeighbouringProtoclusters,
    findNeighbouringCandidates, mem_pairsWhere]
  have h2 : g ∈ (singles.flatMap fun s =>
        (cands.filter fun c => locationsOverlap s.loc c.loc).map fun c => dedup (c.members ++ [s])) ↔
      ∃ c s, c ∈ cands ∧ s ∈ singles ∧ locationsOverlap c.loc s.loc = true ∧ g = dedup (c.members ++ [s]) := by
    constructor
    · intro h
      obtain ⟨s, hs, hg2⟩ := List.mem_flatMap.1 h
      obtain ⟨c, hcf, e⟩ := List.mem_map.1 hg2
      exact ⟨c, s, (List.mem_filter.1 hcf).1, hs, locationsOverlap_comm s.loc c.loc ▸ (List.mem_filter.1 hcf).2, e.symm⟩
    · rintro ⟨c, s, hc, hs, ho, rfl⟩
      exact List.mem_flatMap.2 ⟨s, hs, List.mem_map.2 ⟨c, List.mem_filter.2 ⟨hc, locationsOverlap_comm c.loc s.loc ▸ ho⟩, rfl⟩⟩
  rw [h2]
  constructor
  · rintro (((h | h) | h) | h)
    · exact Or.inl h
    · exact Or.inr (Or.inl h)
    · -- the combinations across the origin: a first or last candidate and a remaining protocluster
      refine Or.inr (Or.inl ?_)
      obtain ⟨c, hce, hg3⟩ := List.mem_flatMap.1 h
      have hcc : c ∈ cands := by
        split at hce
        · rcases List.mem_append.1 hce with h | h
          · split at h
            · rename_i c0 hh
              split at h
              · rw [List.mem_singleton.1 h]; exact List.mem_of_head? hh
              · cases h
            · cases h
          · split at h
            · split at h
              · rename_i c0 hl
                split at h
                · rw [List.mem_singleton.1 h]; exact List.mem_of_getLast? hl
                · cases h
              · cases h
            · cases h
        · cases hce
      split at hg3
      · rename_i s hfind
        exact ⟨c, s, hcc, (List.mem_filter.1 (List.mem_of_find?_eq_some hfind)).1,
          by rw [locationsOverlap_comm]; simpa using List.find?_some hfind, List.mem_singleton.1 hg3⟩
      · cases hg3
    · exact Or.inr (Or.inr h)
  · rintro (h | h | h)
    · exact Or.inl (Or.inl (Or.inl h))
    · exact Or.inl (Or.inl (Or.inr h))
    · exact Or.inr h

/-- `_find_neighbouring` merges, as a family of sets, exactly the unions of every two overlapping units -/
theorem findNeighbouring_sameSets (singles : List Proto) (cands : List Cand) :
    ∃ G, findNeighbouring singles cands = mergeSets G ∧
      SetsIn G (overlapGroups (neighbourUnits singles cands)) ∧ SetsIn (overlapGroups (neighbourUnits singles cands)) G := by
  obtain ⟨G, hG, hmem⟩ := findNeighbouring_stages singles cands
  have hU := fun h => mem_overlapGroups_units (fun c : Cand => (⟨c.members, c.loc⟩ : U)) (·.loc)
    (cs := cands) (singles := singles) (h := h)
  refine ⟨G, hG, fun g hg => ?_, fun h hh => ?_⟩
  · rcases (hmem g).1 hg with ⟨a, b, hbf, ho, rfl⟩ | ⟨c, s, hc, hs, ho, rfl⟩ | ⟨a, b, hbf, ho, rfl⟩
    · exact ⟨_, (hU _).2 (Or.inl ⟨a, b, hbf, ho, rfl⟩), fun x => mem_dedup⟩
    · exact ⟨_, (hU _).2 (Or.inr (Or.inl ⟨c, s, hc, hs, ho, rfl⟩)), fun x => mem_dedup⟩
    · exact ⟨_, (hU _).2 (Or.inr (Or.inr ⟨a, b, hbf, ho, rfl⟩)), fun x => Iff.rfl⟩
  · rcases (hU h).1 hh with ⟨a, b, hbf, ho, rfl⟩ | ⟨c, s, hc, hs, ho, rfl⟩ | ⟨a, b, hbf, ho, rfl⟩
    · exact ⟨_, (hmem _).2 (Or.inl ⟨a, b, hbf, ho, rfl⟩), fun x => mem_dedup.symm⟩
    · exact ⟨_, (hmem _).2 (Or.inr (Or.inl ⟨c, s, hc, hs, ho, rfl⟩)), fun x => mem_dedup.symm⟩
    · exact ⟨_, (hmem _).2 (Or.inr (Or.inr ⟨a, b, hbf, ho, rfl⟩)), fun x => Iff.rfl⟩

theorem findNeighbouring_wf {singles : List Proto} {cands : List Cand} (hn : singles.Nodup)
    (hc : ∀ c, c ∈ cands → CandBig c) :
    ∀ g, g ∈ findNeighbouring singles cands → g.Nodup ∧ 2 ≤ g.length ∧
      ∀ p, p ∈ g → p ∈ singles ∨ ∃ c, c ∈ cands ∧ p ∈ c.members := by
  obtain ⟨G, hG, hs, _⟩ := findNeighbouring_sameSets singles cands
  rw [hG]
  exact mergeSets_wf_of (hs.wf
    (units_wf (fun c : Cand => (⟨c.members, c.loc⟩ : U)) (·.loc) hn fun c h => two_of_nodup (hc c h).1 (hc c h).2))

/-! ### `build_candidates` -/

/-- every candidate in the table, for input `ps`: constructor guarantees, no member twice, at least two
    members, not a SINGLE, members from the input -/
structure CandWF (wrap : Option Int) (ps : List Proto) (c : Cand) : Prop where
  ok : CandOK wrap c
  nodup : c.members.Nodup
  big : 2 ≤ c.members.length
  notSingle : c.kind ≠ .single
  fromInput : ∀ m, m ∈ c.members → m ∈ ps

def TableWF (wrap : Option Int) (ps : List Proto) (t : Table) : Prop :=
  (∀ c, c ∈ t.values → CandWF wrap ps c) ∧ (∀ p, p ∈ t.singles → p ∈ ps)

theorem tableWF_empty (wrap : Option Int) (ps : List Proto) : TableWF wrap ps ⟨[], []⟩ :=
  ⟨fun _ hc => (nomatch hc), fun _ hp => (nomatch hp)⟩

theorem TableWF.candBig {wrap : Option Int} {ps : List Proto} {t : Table} (ht : TableWF wrap ps t) :
    ∀ c, c ∈ sortCands t.values → CandBig c :=
  fun c hc => ⟨(ht.1 c (mem_sortCands.1 hc)).nodup, (ht.1 c (mem_sortCands.1 hc)).big⟩

theorem values_set {t : Table} {k : Int × Int} {c d : Cand} (h : d ∈ (t.set k c).values) : d = c ∨ d ∈ t.values := by
  obtain ⟨kd, hkd⟩ := mem_values.1 h
  rcases mem_setGo_new hkd with e | e
  · left; injection e
  · exact Or.inr (mem_values.2 ⟨kd, e⟩)

theorem nodup_diffL {α : Type} [DecidableEq α] {a b : List α} (h : a.Nodup) : (diffL a b).Nodup := h.filter _

theorem buildOne_wf {wrap : Option Int} {ps : List Proto} {kind : Kind} {t t' : Table} {g : List Proto}
    (h : buildOne wrap kind t g = .ok t') (hk : kind ≠ .single) (hg : g.Nodup) (hgp : ∀ p, p ∈ g → p ∈ ps)
    (ht : TableWF wrap ps t) : TableWF wrap ps t' := by
  obtain ⟨hlen, hstep⟩ := buildOne_step h
  have hlen : 2 ≤ g.length := hlen.resolve_left hk
  have hvals : ∀ {k : Int × Int} {c : Cand}, CandWF wrap ps c → ∀ d, d ∈ (t.set k c).values → CandWF wrap ps d := by
    intro k c hc d hd
    rcases values_set hd with e | e
    · rw [e]; exact hc
    · exact ht.1 d e
  have hcandwf : ∀ {cand : Cand}, mkCand wrap kind (sortProtos g) = .ok cand → CandWF wrap ps cand := by
    intro cand hcand
    obtain ⟨hkind, hmem, hok⟩ := mkCand_ok hcand
    refine ⟨hok, ?_, ?_, ?_, ?_⟩
    · rw [hmem]; exact nodup_sortProtos hg
    · rw [hmem, length_sortProtos]; exact hlen
    · rw [hkind]; exact hk
    · intro m hm; rw [hmem] at hm; exact hgp m (mem_sortProtos.1 hm)
  cases hstep with
  | fresh hc hget => exact ⟨hvals (hcandwf hc), ht.2⟩
  | known => exact ht
  | @grown cand ex repl hc hget hex hr =>
    have hexwf : CandWF wrap ps ex := ht.1 ex (mem_values.2 ⟨_, getGo_mem hget⟩)
    obtain ⟨hrk, hrm, hrok⟩ := mkCand_ok hr
    have hextras_from : ∀ p, p ∈ diffL (dedup g) ex.members → p ∈ ps := fun p hp =>
      hgp p (mem_dedup.1 (mem_diffL.1 hp).1)
    have hreplwf : CandWF wrap ps repl := by
      refine ⟨hrok, ?_, ?_, ?_, ?_⟩
      · rw [hrm]
        apply nodup_sortProtos
        refine List.nodup_append.2 ⟨nodup_dedup _, nodup_diffL (nodup_dedup _), ?_⟩
        intro x hx y hy e
        subst e
        exact (mem_diffL.1 hy).2 (mem_dedup.1 hx)
      · rw [hrm]
        have h1 : ex.members.length ≤ (dedup ex.members ++ diffL (dedup g) ex.members).length :=
          List.Nodup.length_le_of_subset hexwf.nodup
            (fun x hx => List.mem_append.2 (Or.inl (mem_dedup.2 hx)))
        have := hexwf.big
        simp only [length_sortProtos]
        omega
      · rw [hrk]; exact hexwf.notSingle
      · intro m hm
        rw [hrm] at hm
        rcases List.mem_append.1 (mem_sortProtos.1 hm) with h1 | h1
        · exact hexwf.fromInput m (mem_dedup.1 h1)
        · exact hextras_from m h1
    split
    · refine ⟨hvals hreplwf, fun p hp => ?_⟩
      rcases mem_unionL.1 hp with h1 | h1
      · exact ht.2 p h1
      · exact hextras_from p h1
    · exact ⟨hvals hreplwf, ht.2⟩

/-! ### the singles pass -/

theorem addSingles_wf {wrap : Option Int} {t : Table} {l : List Proto} {ss : List Cand}
    (h : addSingles wrap t l = .ok ss) :
    ∀ c, c ∈ ss → CandOK wrap c ∧ c.kind = .single ∧ ∃ p, p ∈ l ∧ c.members = [p] ∧
      ¬ (∃ ex, t.get (locKey p.loc) = some ex ∧ p ∈ ex.members) := by
  intro c hc
  obtain ⟨p, hp, hpc⟩ := (mapM_ok_mem (addSingles_eq_ok.1 h)).1 hc
  obtain ⟨hk, hm, hok⟩ := mkCand_ok hpc
  obtain ⟨hpl, hs⟩ := List.mem_filter.1 hp
  exact ⟨hok, hk, p, hpl, hm, fun hex => by rw [skipped_iff.2 hex] at hs; cases hs⟩

/-! ### the whole formation -/

/-- every candidate returned: constructor guarantees, no member twice, members from the input, one member
    exactly when it is a SINGLE -/
structure OutWF (wrap : Option Int) (ps : List Proto) (c : Cand) : Prop where
  ok : CandOK wrap c
  nodup : c.members.Nodup
  fromInput : ∀ m, m ∈ c.members → m ∈ ps
  size : (c.kind = .single → c.members.length = 1) ∧ (c.kind ≠ .single → 2 ≤ c.members.length)

theorem candWF_out {wrap : Option Int} {ps : List Proto} {c : Cand} (h : CandWF wrap ps c) : OutWF wrap ps c :=
  ⟨h.ok, h.nodup, h.fromInput, fun e => absurd e h.notSingle, fun _ => h.big⟩

/-! ### tables reachable by `build_candidates` -/

/-- the tables `build_candidates` can produce for input `ps`: start empty, add one group at a time -/
inductive Reach (wrap : Option Int) (ps : List Proto) : Table → Prop
  | empty : Reach wrap ps ⟨[], []⟩
  | step {t t' : Table} {kind : Kind} {g : List Proto} : Reach wrap ps t → kind ≠ .single → g.Nodup →
      (∀ p, p ∈ g → p ∈ ps) → buildOne wrap kind t g = .ok t' → Reach wrap ps t'

theorem reach_wf {wrap : Option Int} {ps : List Proto} {t : Table} (h : Reach wrap ps t) : TableWF wrap ps t := by
  induction h with
  | empty => exact tableWF_empty wrap ps
  | step _ hk hg hgp hb ih => exact buildOne_wf hb hk hg hgp ih

/-- what every pass hands to `build_candidates`: duplicate-free groups of at least two protoclusters of the input -/
def GroupsWF (ps : List Proto) (gs : List (List Proto)) : Prop :=
  ∀ g, g ∈ gs → g.Nodup ∧ 2 ≤ g.length ∧ ∀ p, p ∈ g → p ∈ ps

theorem reach_buildCandidates {wrap : Option Int} {ps : List Proto} {kind : Kind} {t t' : Table} {gs : List (List Proto)}
    (h : buildCandidates wrap kind t gs = .ok t') (hk : kind ≠ .single) (hg : GroupsWF ps gs)
    (ht : Reach wrap ps t) : Reach wrap ps t' :=
  foldlM_preserves (fun g hg' _ _ ht hb => Reach.step ht hk (hg g hg').1 (hg g hg').2.2 hb) ht
    (buildCandidates_eq_foldlM wrap kind gs t ▸ h)

/-! ### the groups of the three passes, given what the passes before have left -/

theorem hybrid_stage {ps : List Proto} {wrap : Option Int} {hg : List (List Proto)} {un1 : List Proto}
    (h : findHybrids (sortProtos ps) wrap = .ok (hg, un1)) (hn : ps.Nodup) :
    GroupsWF ps hg ∧ un1.Nodup ∧ ∀ p, p ∈ un1 → p ∈ ps := by
  obtain ⟨h1, h2, h3⟩ := findHybrids_wf h (nodup_sortProtos hn)
  exact ⟨fun g hg => ⟨(h1 g hg).1, (h1 g hg).2.1, fun p hp => mem_sortProtos.1 ((h1 g hg).2.2 p hp)⟩, h2,
    fun p hp => mem_sortProtos.1 (h3 p hp)⟩

theorem interleaved_stage {ps : List Proto} {wrap : Option Int} {t1 : Table} {ig : List (List Proto)} {un1 un2 : List Proto}
    (ht : TableWF wrap ps t1) (hu : un1.Nodup) (hs : ∀ p, p ∈ un1 → p ∈ ps)
    (h : findInterleaved un1 (sortCands t1.values) wrap = .ok (ig, un2)) :
    GroupsWF ps ig ∧ un2.Nodup ∧ ∀ p, p ∈ un2 → p ∈ un1 := by
  obtain ⟨h1, h2, h3⟩ := findInterleaved_wf h hu ht.candBig
  refine ⟨fun g hg => ⟨(h1 g hg).1, (h1 g hg).2.1, fun p hp => ?_⟩, h2, h3⟩
  rcases (h1 g hg).2.2 p hp with h4 | ⟨c, hc, hpc⟩
  · exact hs p h4
  · exact (ht.1 c (mem_sortCands.1 hc)).fromInput p hpc

theorem neighbouring_stage {ps : List Proto} {wrap : Option Int} {t2 : Table} {un2 : List Proto}
    (ht : TableWF wrap ps t2) (hu : un2.Nodup) (hs : ∀ p, p ∈ un2 → p ∈ ps) :
    GroupsWF ps (findNeighbouring un2 (sortCands t2.values)) := by
  intro g hg
  obtain ⟨h1, h2, h3⟩ := findNeighbouring_wf hu ht.candBig g hg
  refine ⟨h1, h2, fun p hp => ?_⟩
  rcases h3 p hp with h4 | ⟨c, hc, hpc⟩
  · exact hs p h4
  · exact (ht.1 c (mem_sortCands.1 hc)).fromInput p hpc

/-- what is known of the five stages once each has succeeded, whatever is done with their results afterwards: the
    three tables are reachable, what the hybrid and the interleaved pass leave over is duplicate-free and from the
    input -/
theorem stages_wf {ps : List Proto} {wrap : Option Int} {hg ig : List (List Proto)} {un1 un2 : List Proto}
    {t1 t2 t3 : Table} (hn : ps.Nodup)
    (hH : findHybrids (sortProtos ps) wrap = .ok (hg, un1))
    (hB1 : buildCandidates wrap .hybrid ⟨[], []⟩ hg = .ok t1)
    (hI : findInterleaved un1 (sortCands t1.values) wrap = .ok (ig, un2))
    (hB2 : buildCandidates wrap .interleaved t1 ig = .ok t2)
    (hB3 : buildCandidates wrap .neighbouring t2 (findNeighbouring un2 (sortCands t2.values)) = .ok t3) :
    Reach wrap ps t1 ∧ Reach wrap ps t2 ∧ Reach wrap ps t3 ∧
      un1.Nodup ∧ un2.Nodup ∧ (∀ p, p ∈ un1 → p ∈ ps) ∧ (∀ p, p ∈ un2 → p ∈ un1) := by
  obtain ⟨g1, hu1, hs1⟩ := hybrid_stage hH hn
  have hr1 := reach_buildCandidates hB1 (by decide) g1 Reach.empty
  obtain ⟨g2, hu2, hs2⟩ := interleaved_stage (reach_wf hr1) hu1 hs1 hI
  have hr2 := reach_buildCandidates hB2 (by decide) g2 hr1
  have g3 := neighbouring_stage (reach_wf hr2) hu2 fun p hp => hs1 p (hs2 p hp)
  exact ⟨hr1, hr2, reach_buildCandidates hB3 (by decide) g3 hr2, hu1, hu2, hs1, hs2⟩

theorem formationCore_stages_wf {ps : List Proto} {wrap : Option Int} {cs : List Cand}
    (h : formationCore ps wrap = .ok cs) (hn : ps.Nodup) (hne : ps ≠ []) :
    ∃ hg un1 t1 ig un2 t2 t3 singles,
      findHybrids (sortProtos ps) wrap = .ok (hg, un1) ∧
      buildCandidates wrap .hybrid ⟨[], []⟩ hg = .ok t1 ∧
      findInterleaved un1 (sortCands t1.values) wrap = .ok (ig, un2) ∧
      buildCandidates wrap .interleaved t1 ig = .ok t2 ∧
      buildCandidates wrap .neighbouring t2 (findNeighbouring un2 (sortCands t2.values)) = .ok t3 ∧
      addSingles wrap t3 (sortProtos (dedup (un2 ++ t3.singles))) = .ok singles ∧
      cs = sortCands t3.values ++ singles ∧
      Reach wrap ps t1 ∧ Reach wrap ps t2 ∧ Reach wrap ps t3 ∧
      un1.Nodup ∧ un2.Nodup ∧ (∀ p, p ∈ un1 → p ∈ ps) ∧ (∀ p, p ∈ un2 → p ∈ un1) := by
  obtain ⟨hgroups, un1, t1, igroups, un2, t2, t3, singles, hH, hB1, hI, hB2, hB3, hS, rfl⟩ :=
    (formationCore_stages hne).1 h
  exact ⟨hgroups, un1, t1, igroups, un2, t2, t3, singles, hH, hB1, hI, hB2, hB3, hS, rfl,
    stages_wf hn hH hB1 hI hB2 hB3⟩

/-- the structure of a successful run: a reachable table, then singles for a duplicate-free list -/
theorem formationCore_struct {ps : List Proto} {wrap : Option Int} {cs : List Cand}
    (h : formationCore ps wrap = .ok cs) (hn : ps.Nodup) (hne : ps ≠ []) :
    ∃ t3 l singles, Reach wrap ps t3 ∧ l.Nodup ∧ (∀ p, p ∈ l → p ∈ ps) ∧ addSingles wrap t3 l = .ok singles ∧
      cs = sortCands t3.values ++ singles := by
  obtain ⟨_, _, _, _, un2, _, t3, singles, _, _, _, _, _, hS, rfl, _, _, hr3, _, _, hu1, hu2⟩ :=
    formationCore_stages_wf h hn hne
  refine ⟨t3, _, singles, hr3, nodup_sortProtos (nodup_dedup _), fun p hp => ?_, hS, rfl⟩
  rcases List.mem_append.1 (mem_dedup.1 (mem_sortProtos.1 hp)) with h2 | h2
  · exact hu1 p (hu2 p h2)
  · exact (reach_wf hr3).2 p h2

theorem formationCore_wf {ps : List Proto} {wrap : Option Int} {cs : List Cand}
    (h : formationCore ps wrap = .ok cs) (hn : ps.Nodup) : ∀ c, c ∈ cs → OutWF wrap ps c := by
  by_cases hne : ps = []
  · subst hne
    cases (show Except.ok [] = Except.ok cs from h)
    exact fun c hc => nomatch hc
  obtain ⟨t3, l, singles, hr, _, hl, hS, rfl⟩ := formationCore_struct h hn hne
  intro c hc
  rcases List.mem_append.1 hc with h1 | h1
  · exact candWF_out ((reach_wf hr).1 c (mem_sortCands.1 h1))
  · obtain ⟨a, b, p, hp, e, _⟩ := addSingles_wf hS c h1
    refine ⟨a, by rw [e]; simp, fun m hm => ?_, fun _ => by rw [e]; rfl, fun hk => absurd b hk⟩
    rw [e] at hm
    rw [List.mem_singleton.1 hm]
    exact hl p hp

/-! ### the final sanity check -/

theorem assigned_length {ps : List Proto} {wrap : Option Int} {cs : List Cand}
    (h : formationCore ps wrap = .ok cs) (hn : ps.Nodup) : (assigned cs).length = ps.length := by
  have hwf := formationCore_wf h hn
  have hcov := formationCore_cover h
  have h1 : (assigned cs).length ≤ ps.length := by
    apply List.Nodup.length_le_of_subset (nodup_dedup _)
    intro p hp
    obtain ⟨c, hc, hpc⟩ := List.mem_flatMap.1 (mem_dedup.1 hp)
    exact (hwf c hc).fromInput p hpc
  have h2 : ps.length ≤ (assigned cs).length := by
    apply List.Nodup.length_le_of_subset hn
    intro p hp
    obtain ⟨c, hc, hpc⟩ := hcov p hp
    exact mem_dedup.2 (List.mem_flatMap.2 ⟨c, hc, hpc⟩)
  omega

theorem formation_eq_core {ps : List Proto} {wrap : Option Int} {cs : List Cand}
    (h : formationCore ps wrap = .ok cs) (hn : ps.Nodup) : formation ps wrap = .ok (sortCands cs) := by
  unfold formation
  rw [h]
  dsimp only
  rw [assigned_length h hn]
  simp

theorem formation_ok_core {ps : List Proto} {wrap : Option Int} {cs : List Cand}
    (h : formation ps wrap = .ok cs) : ∃ cs0, formationCore ps wrap = .ok cs0 ∧ cs = sortCands cs0 := by
  unfold formation at h
  split at h
  · cases h
  · rename_i cs0 h0
    split at h
    · cases h
    · injection h with h
      exact ⟨cs0, h0, h.symm⟩

theorem formation_error_core {ps : List Proto} {wrap : Option Int} {e : String}
    (h : formationCore ps wrap = .error e) : formation ps wrap = .error e := by
  unfold formation; rw [h]

end ASV.CC
