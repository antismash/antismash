/-
  The gene-function container keeps its two indexes in step with the annotation list.
-/
import ASV.Spec.GeneFunctions
namespace ASV.GeneFn

/-- the indexes list exactly the annotations, under their keys, in the same order -/
structure Consistent (g : GF) : Prop where
  byFunction : g.byFunction = g.annotations.map fun a => (a.fn, a)
  byTool : g.byTool = g.annotations.map fun a => (a.tool, a)

/-- looking a key up in an index built from a list is filtering the list by that key -/
theorem index_lookup {κ α} [BEq κ] (key : α → κ) (k : κ) (l : List α) :
    ((l.map fun a => (key a, a)).filter fun x => x.1 == k).map (·.2) = l.filter fun a => key a == k := by
  induction l with
  | nil => rfl
  | cons a l ih => simp only [List.map_cons, List.filter_cons]; split <;> simp [ih]

theorem Consistent.getByFunction {g : GF} (h : Consistent g) (fn : Nat) :
    g.getByFunction fn = g.annotations.filter fun a => a.fn == fn := by
  rw [GF.getByFunction, h.byFunction, index_lookup]

theorem Consistent.getByTool {g : GF} (h : Consistent g) (tool : String) :
    g.getByTool tool = g.annotations.filter fun a => a.tool == tool := by
  rw [GF.getByTool, h.byTool, index_lookup]

theorem Consistent.step {g : GF} (h : Consistent g) (op : Op) : Consistent (step g op) := by
  cases op with
  | clear => exact ⟨rfl, rfl⟩
  | add a =>
    simp only [GeneFn.step, GF.add]
    split
    · exact h
    · exact ⟨by simp [h.byFunction], by simp [h.byTool]⟩

theorem foldl_consistent : ∀ (ops : List Op) (g : GF), Consistent g → Consistent (ops.foldl step g)
  | [], _, h => h
  | op :: ops, g, h => foldl_consistent ops (step g op) (h.step op)

theorem run_consistent (ops : List Op) : Consistent (run ops) := foldl_consistent ops {} ⟨rfl, rfl⟩

/-- the annotation list is what the spec says the gene carries -/
theorem foldl_carried : ∀ (ops : List Op) (g : GF), Consistent g →
    (ops.foldl step g).annotations = ops.foldl (fun acc op => match op with
      | .clear => []
      | .add a => if acc.contains a then acc else acc ++ [a]) g.annotations
  | [], _, _ => rfl
  | op :: ops, g, h => by
    simp only [List.foldl_cons]
    rw [foldl_carried ops (step g op) (h.step op)]
    congr 1
    cases op with
    | clear => rfl
    | add a =>
      simp only [GeneFn.step, GF.add, h.getByFunction]
      have : ((g.annotations.filter fun b => b.fn == a.fn).contains a) = g.annotations.contains a := by
        rw [Bool.eq_iff_iff]
        simp only [List.contains_iff_mem, List.mem_filter, beq_iff_eq, and_true]
      rw [this]
      split <;> rfl

theorem run_annotations (ops : List Op) : (run ops).annotations = carried ops :=
  foldl_carried ops {} ⟨rfl, rfl⟩

end ASV.GeneFn
