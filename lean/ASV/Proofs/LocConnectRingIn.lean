/-
  `connect_locations` on a circular record: from the inputs (locations that do not bridge the
  origin, origin-spanning spans, origin-bridging genes) to the closed form on reduced locations (C04).
-/
import ASV.Proofs.LocConnectRingN
namespace ASV

/-- an origin-spanning span on the reverse strand, in Biopython's part order -/
def areaTwoRev (x y L : Int) : Loc := .compound [⟨0, y, .rev⟩, ⟨x, L, .rev⟩]

/-- inputs whose line hull is meaningful: a location that does not bridge the origin, with all
    parts non-empty and inside `[0, L]` (single-part locations of any strand, genes with introns, …),
    or an origin-spanning span `[x, L) + [0, y)` with `0 < y ≤ x < L` (any single strand; on the
    reverse strand also in Biopython's part order `[0, y)(−), [x, L)(−)`) -/
def RingInSpan (L : Int) (l : Loc) : Prop :=
  (l.parts ≠ [] ∧ bridgesOrigin l = false ∧ l.Inside L) ∨
  (∃ x y s, l = areaTwo x y L s ∧ 0 < y ∧ y ≤ x ∧ x < L) ∨
  (∃ x y, l = areaTwoRev x y L ∧ 0 < y ∧ y ≤ x ∧ x < L)

/-- all inputs covered: parts non-empty and inside `[0, L]`, and when the location bridges the
    origin (`location_bridges_origin`) it can be split there (`split_origin_bridging_location`
    does not raise) — what `ensure_valid_locations` guarantees for the features of a record -/
def RingIn (L : Int) (l : Loc) : Prop :=
  l.parts ≠ [] ∧ l.Inside L ∧
  (bridgesOrigin l = true → ∃ lower upper, splitBridging l = .ok (lower, upper))

/-- what `_reduce_parts_to_location` makes of an input -/
def toR (l : Loc) : RLoc :=
  if bridgesOrigin l then
    match splitBridging l with
    | .ok (lower, upper) => .two (minList (upper.map (·.lo))) (maxList (lower.map (·.hi)))
    | .error _ => .one default
  else .one ⟨l.start, l.end, l.strand⟩

theorem start_end_attained (l : Loc) (hne : l.parts ≠ []) :
    (∃ p ∈ l.parts, l.start = p.lo) ∧ (∃ p ∈ l.parts, l.end = p.hi) := by
  cases l with
  | simple q => exact ⟨⟨q, by simp [Loc.parts], rfl⟩, ⟨q, by simp [Loc.parts], rfl⟩⟩
  | compound ps =>
    simp only [Loc.parts] at hne
    have h1 : ps.map (·.lo) ≠ [] := by simpa using hne
    have h2 : ps.map (·.hi) ≠ [] := by simpa using hne
    obtain ⟨q, hq, e⟩ := List.mem_map.1 (minList_mem h1)
    obtain ⟨q2, hq2, e2⟩ := List.mem_map.1 (maxList_mem h2)
    exact ⟨⟨q, hq, e.symm⟩, ⟨q2, hq2, e2.symm⟩⟩

theorem splitBridging_twoRev (x y L : Int) (hy0 : 0 < y) (hyx : y ≤ x) (hxL : x < L) :
    splitBridging (areaTwoRev x y L) = .ok ([⟨0, y, .rev⟩], [⟨x, L, .rev⟩]) := by
  have c1 : ¬ (x < 0) := by omega
  have hno := hulls_apart x y L .rev hy0 hyx hxL
  have hstr : (Loc.compound [(⟨0, y, .rev⟩ : Part), ⟨x, L, .rev⟩]).strand = .rev := by simp [Loc.strand]
  simp only [areaTwoRev, splitBridging, strandsUsed, List.foldl, List.contains_nil, Bool.false_eq_true, if_false, List.nil_append,
    List.contains_cons, beq_self_eq_true, Bool.true_or, if_true, List.length_singleton, hstr, splitRev, c1,
    List.reverse_cons, List.reverse_nil, isValidSplit, 
    sortInts, beq_self_eq_true, 
    bind, Except.bind, pure, Except.pure, throw, throwThe, MonadExceptOf.throw]
  simp [hno, insertInt]

/-! ### `split_origin_bridging_location` in general -/

theorem splitFwd_spec (ps : List Part) : ∀ (acc lo up : List Part), splitFwd acc ps = (lo, up) →
    up ++ lo = acc.reverse ++ ps ∧ (lo ≠ [] → ∃ a ∈ lo, ∃ b ∈ up, a.lo ≤ b.lo) := by
  induction ps with
  | nil =>
    intro acc lo up h
    simp only [splitFwd, Prod.mk.injEq] at h
    obtain ⟨rfl, rfl⟩ := h
    exact ⟨by simp, fun h => absurd rfl h⟩
  | cons p rest ih =>
    intro acc lo up h
    cases acc with
    | nil =>
      simp only [splitFwd] at h
      obtain ⟨h1, h2⟩ := ih [p] lo up h
      exact ⟨by simpa using h1, h2⟩
    | cons u us =>
      simp only [splitFwd] at h
      by_cases hc : p.lo > u.lo
      · rw [if_pos hc] at h
        obtain ⟨h1, h2⟩ := ih (p :: u :: us) lo up h
        exact ⟨by simpa using h1, h2⟩
      · rw [if_neg hc] at h
        simp only [Prod.mk.injEq] at h
        obtain ⟨rfl, rfl⟩ := h
        exact ⟨by simp, fun _ => ⟨p, by simp, u, by simp, by omega⟩⟩

theorem splitRev_spec (ps : List Part) : ∀ (acc lo up : List Part), splitRev acc ps = (lo, up) →
    lo ++ up = acc.reverse ++ ps ∧ (up ≠ [] → ∃ a ∈ lo, ∃ b ∈ up, a.lo ≤ b.lo) := by
  induction ps with
  | nil =>
    intro acc lo up h
    simp only [splitRev, Prod.mk.injEq] at h
    obtain ⟨rfl, rfl⟩ := h
    exact ⟨by simp, fun h => absurd rfl h⟩
  | cons p rest ih =>
    intro acc lo up h
    cases acc with
    | nil =>
      simp only [splitRev] at h
      obtain ⟨h1, h2⟩ := ih [p] lo up h
      exact ⟨by simpa using h1, h2⟩
    | cons u us =>
      simp only [splitRev] at h
      by_cases hc : p.lo < u.lo
      · rw [if_pos hc] at h
        obtain ⟨h1, h2⟩ := ih (p :: u :: us) lo up h
        exact ⟨by simpa using h1, h2⟩
      · rw [if_neg hc] at h
        simp only [Prod.mk.injEq] at h
        obtain ⟨rfl, rfl⟩ := h
        exact ⟨by simp, fun _ => ⟨u, by simp, p, by simp, by omega⟩⟩

/-- either walk partitions the parts, and when both sections are non-empty some lower part starts no later
    than some upper part -/
theorem splitWalk_spec (ps : List Part) (c : Prop) [Decidable c] :
    (∀ p, p ∈ ps ↔ (p ∈ (if c then splitFwd [] ps else splitRev [] ps).1 ∨ p ∈ (if c then splitFwd [] ps else splitRev [] ps).2)) ∧
    ((if c then splitFwd [] ps else splitRev [] ps).1 ≠ [] → (if c then splitFwd [] ps else splitRev [] ps).2 ≠ [] →
      ∃ a ∈ (if c then splitFwd [] ps else splitRev [] ps).1, ∃ b ∈ (if c then splitFwd [] ps else splitRev [] ps).2, a.lo ≤ b.lo) := by
  split
  · obtain ⟨e, hab⟩ := splitFwd_spec ps [] (splitFwd [] ps).1 (splitFwd [] ps).2 rfl
    refine ⟨fun p => ?_, fun h _ => hab h⟩
    have : p ∈ (splitFwd [] ps).2 ++ (splitFwd [] ps).1 ↔ p ∈ ps := by rw [e]; simp
    rw [← this, List.mem_append]; exact Or.comm
  · obtain ⟨e, hab⟩ := splitRev_spec ps [] (splitRev [] ps).1 (splitRev [] ps).2 rfl
    refine ⟨fun p => ?_, fun _ h => hab h⟩
    have : p ∈ (splitRev [] ps).1 ++ (splitRev [] ps).2 ↔ p ∈ ps := by rw [e]; simp
    rw [← this, List.mem_append]

/-- what a successful split guarantees: the two sections partition the parts, both are non-empty,
    their hulls do not overlap, and some lower part starts no later than some upper part -/
theorem splitBridging_ok (ps lower upper : List Part) (h : splitBridging (.compound ps) = .ok (lower, upper)) :
    (∀ p, p ∈ ps ↔ (p ∈ lower ∨ p ∈ upper)) ∧ lower ≠ [] ∧ upper ≠ [] ∧
      locationsOverlap (partsHull lower) (partsHull upper) = false ∧
      (∃ a ∈ lower, ∃ b ∈ upper, a.lo ≤ b.lo) := by
  obtain ⟨hmem, hab⟩ := splitWalk_spec ps ((Loc.compound ps).strand != .rev) 
  simp only [splitBridging, ok_inv] at h
  generalize (if ((Loc.compound ps).strand != Strand.rev) = true then splitFwd [] ps else splitRev [] ps) = sp at h hmem hab
  obtain ⟨-, hemp, hval, h⟩ := h
  obtain ⟨rfl, rfl⟩ := Prod.mk.inj h
  simp only [Bool.or_eq_true, not_or, Bool.not_eq_true, List.isEmpty_eq_false_iff] at hemp
  simp only [Bool.not_eq_true', Bool.not_eq_false] at hval
  refine ⟨hmem, hemp.1, hemp.2, ?_, hab hemp.1 hemp.2⟩
  unfold isValidSplit at hval
  split at hval
  · cases hval
  · split at hval
    · cases hval
    · next hov => simpa using hov

theorem bridging_is_compound (l : Loc) (hb : bridgesOrigin l = true) : ∃ p q rest, l = .compound (p :: q :: rest) := by
  cases l with
  | simple p => cases hb
  | compound ps =>
    match ps with
    | [] => simp [bridgesOrigin, Loc.strand, sortInts] at hb
    | [p] => rw [single_not_bridging' p] at hb; cases hb
    | p :: q :: rest => exact ⟨p, q, rest, rfl⟩
where
  single_not_bridging' (p : Part) : bridgesOrigin (.compound [p]) = false := by
    cases hs : p.strand <;> simp [bridgesOrigin, Loc.strand, hs, orderInvalid, sortInts, insertInt]

/-- an origin-bridging input that can be split: its reduced form `[X, L) + [0, Y)` with
    `X = min upper.start`, `Y = max lower.end` -/
theorem bridging_facts (L : Int) (hL : 0 < L) (l : Loc) (hb : bridgesOrigin l = true) (hin : l.Inside L)
    (lower upper : List Part) (hs : splitBridging l = .ok (lower, upper)) :
    toR l = .two (minList (upper.map (·.lo))) (maxList (lower.map (·.hi))) ∧
    (RLoc.two (minList (upper.map (·.lo))) (maxList (lower.map (·.hi)))).OK L ∧
    reduceParts l.parts (some L) = .ok ((RLoc.two (minList (upper.map (·.lo))) (maxList (lower.map (·.hi)))).toLoc L) ∧
    ∀ i, l.mem i = true → ((RLoc.two (minList (upper.map (·.lo))) (maxList (lower.map (·.hi)))).toLoc L).mem i = true := by
  have hL' : ¬ L ≤ 0 := by omega
  obtain ⟨p, q, rest, rfl⟩ := bridging_is_compound l hb
  obtain ⟨hmem, hlne, hune, hov, a, ha, b, hbm, hab⟩ := splitBridging_ok _ lower upper hs
  have hina := hin a ((hmem a).2 (Or.inl ha))
  have hinb := hin b ((hmem b).2 (Or.inr hbm))
  have hl1 : lower.map (·.lo) ≠ [] := by simpa using hlne
  have hl2 : lower.map (·.hi) ≠ [] := by simpa using hlne
  have hu1 : upper.map (·.lo) ≠ [] := by simpa using hune
  have hu2 : upper.map (·.hi) ≠ [] := by simpa using hune
  have a1 : minList (lower.map (·.lo)) ≤ a.lo := minList_le_of_mem (List.mem_map.2 ⟨a, ha, rfl⟩)
  have a2 : a.hi ≤ maxList (lower.map (·.hi)) := le_maxList_of_mem (List.mem_map.2 ⟨a, ha, rfl⟩)
  have b1 : minList (upper.map (·.lo)) ≤ b.lo := minList_le_of_mem (List.mem_map.2 ⟨b, hbm, rfl⟩)
  have b2 : b.hi ≤ maxList (upper.map (·.hi)) := le_maxList_of_mem (List.mem_map.2 ⟨b, hbm, rfl⟩)
  have hdis : maxList (lower.map (·.hi)) ≤ minList (upper.map (·.lo)) := by
    simp only [partsHull, hullOf, map_simple_start, map_simple_end, locationsOverlap, Loc.parts, List.any_cons,
      List.any_nil, Bool.or_false] at hov
    have := noOverlap_disjoint (by dsimp only; omega) (by dsimp only; omega) hov
    dsimp only at this
    omega
  have hxL : minList (upper.map (·.lo)) < L := by omega
  have hok : (RLoc.two (minList (upper.map (·.lo))) (maxList (lower.map (·.hi)))).OK L := by
    simp only [RLoc.OK]; omega
  refine ⟨?_, hok, ?_, ?_⟩
  · simp only [toR, hb, if_true, hs]
  · simp only [Loc.parts, reduceParts, hb, if_true, hL', if_false, hs, bind, Except.bind, pure, Except.pure, RLoc.toLoc]
  · intro i hi
    simp only [Loc.mem, Loc.parts, List.any_eq_true, Part.mem_iff] at hi
    obtain ⟨r, hr, h1, h2⟩ := hi
    have hinr := hin r hr
    simp only [RLoc.toLoc, mem_two, fl]
    rcases (hmem r).1 hr with hlo | hup
    · have : r.hi ≤ maxList (lower.map (·.hi)) := le_maxList_of_mem (List.mem_map.2 ⟨r, hlo, rfl⟩)
      right; omega
    · have : minList (upper.map (·.lo)) ≤ r.lo := minList_le_of_mem (List.mem_map.2 ⟨r, hup, rfl⟩)
      left; omega

/-- the reduced form of an input: well-formed, what `_reduce_parts_to_location` returns, bridging
    exactly when it has two parts, and covering every base of the input -/
theorem toR_spec (L : Int) (hL : 0 < L) (l : Loc) (h : RingIn L l) :
    (toR l).OK L ∧ reduceParts l.parts (some L) = .ok ((toR l).toLoc L) ∧
      bridgesOrigin l = (toR l).isTwo ∧ ∀ i, l.mem i = true → ((toR l).toLoc L).mem i = true := by
  obtain ⟨hne, hp, hsplit⟩ := h
  cases hb : bridgesOrigin l
  · have ht : toR l = .one ⟨l.start, l.end, l.strand⟩ := by simp only [toR, hb, Bool.false_eq_true, if_false]
    rw [ht]
    obtain ⟨⟨p1, hp1, e1⟩, ⟨p2, hp2, e2⟩⟩ := start_end_attained l hne
    have b1 := hp p1 hp1
    have b2 := hp p2 hp2
    have b3 := start_le_part l p2 hp2
    refine ⟨by simp only [RLoc.OK]; omega, reduceParts_nonbridging l hne hb _, rfl, ?_⟩
    intro i hi
    rw [Loc.mem_iff] at hi
    obtain ⟨p, hpm, h1, h2⟩ := hi
    have := start_le_part l p hpm
    simp only [RLoc.toLoc, mem_simple]; omega
  · obtain ⟨lower, upper, hs⟩ := hsplit hb
    obtain ⟨ht, hok, hred, hmem⟩ := bridging_facts L hL l hb hp lower upper hs
    rw [ht]
    exact ⟨hok, hred, rfl, hmem⟩

theorem mapM_reduce_in (L : Int) (hL : 0 < L) (ls : List Loc) (h : ∀ l ∈ ls, RingIn L l) :
    ls.mapM (fun l => reduceParts l.parts (some L)) = .ok ((ls.map toR).map (RLoc.toLoc L)) := by
  induction ls with
  | nil => rfl
  | cons l ls ih =>
    rw [List.mapM_cons, (toR_spec L hL l (h l (by simp))).2.1, ih (fun x hx => h x (List.mem_cons_of_mem _ hx))]
    rfl

theorem any_bridges_in (L : Int) (hL : 0 < L) (ls : List Loc) (h : ∀ l ∈ ls, RingIn L l) :
    ls.any bridgesOrigin = (ls.map toR).any RLoc.isTwo := by
  induction ls with
  | nil => rfl
  | cons l ls ih =>
    rw [List.map_cons, List.any_cons, List.any_cons, (toR_spec L hL l (h l (by simp))).2.2.1,
      ih (fun x hx => h x (List.mem_cons_of_mem _ hx))]

theorem toR_ok (L : Int) (hL : 0 < L) (ls : List Loc) (h : ∀ l ∈ ls, RingIn L l) : ∀ r ∈ ls.map toR, r.OK L := by
  intro r hr
  obtain ⟨l, hl, rfl⟩ := List.mem_map.1 hr
  exact (toR_spec L hL l (h l hl)).1

/-- `connect_locations` on a ring of length `L`, for any non-empty list of `RingIn` locations:
    it succeeds, with the closed form `connR` -/
theorem connect_ring_closed (ls : List Loc) (L : Int) (hne : ls ≠ []) (hL : 0 < L) (h : ∀ l ∈ ls, RingIn L l) :
    connect ls (some L) = .ok (connR (ls.map toR) L) := by
  have hok := toR_ok L hL ls h
  have hred := mapM_reduce_in L hL ls h
  have hany := any_bridges_in L hL ls h
  unfold connR connect
  cases htwo : (ls.map toR).any RLoc.isTwo
  · rw [if_neg (by simp)]
    obtain ⟨ps, hps⟩ := all_one _ htwo
    rw [hps] at hok hred ⊢
    rw [map_one_toLoc] at hred
    have hpne : ps ≠ [] := by
      intro e; subst e
      simp only [List.map_nil, List.map_eq_nil_iff] at hps
      exact hne hps
    exact connectLocations_A 2 ls L ps hne hpne hL hok hred (by rw [hany, htwo])
  · rw [if_pos rfl]
    exact connectLocations_B 1 ls L _ hne hL hok hred (by rw [hany, htwo]) htwo

/-! ### the span-shaped inputs -/

theorem not_bridges_areaTwo_rev (x y L : Int) (hy0 : 0 < y) (hyx : y ≤ x) :
    bridgesOrigin (areaTwo x y L .rev) = false := by
  have : ¬ x < 0 := by omega
  simp [areaTwo, bridgesOrigin, Loc.strand, orderInvalid, this]

theorem bridges_areaTwoRev (x y L : Int) (hy0 : 0 < y) (hyx : y ≤ x) : bridgesOrigin (areaTwoRev x y L) = true := by
  have h1 : 0 < x := by omega
  simp [areaTwoRev, bridgesOrigin, Loc.strand, orderInvalid, h1]

theorem inside_areaTwo (x y L : Int) (s : Strand) (hy0 : 0 < y) (hyx : y ≤ x) (hxL : x < L) : (areaTwo x y L s).Inside L := by
  intro p hp
  simp only [areaTwo, Loc.parts, List.mem_cons, List.mem_nil_iff, or_false] at hp
  rcases hp with rfl | rfl <;> (dsimp only; omega)

theorem inside_areaTwoRev (x y L : Int) (hy0 : 0 < y) (hyx : y ≤ x) (hxL : x < L) : (areaTwoRev x y L).Inside L := by
  intro p hp
  simp only [areaTwoRev, Loc.parts, List.mem_cons, List.mem_nil_iff, or_false] at hp
  rcases hp with rfl | rfl <;> (dsimp only; omega)

theorem toR_areaTwo (x y L : Int) (s : Strand) (hs : s ≠ .rev) (hy0 : 0 < y) (hyx : y ≤ x) (hxL : x < L) :
    toR (areaTwo x y L s) = .two x y := by
  have hb := bridges_areaTwo x y L s hs hy0 hyx
  have hsb : splitBridging (areaTwo x y L s) = .ok ([⟨0, y, s⟩], [⟨x, L, s⟩]) := splitBridging_two x y L s hs hy0 hyx hxL
  simp only [toR, hb, if_true, hsb]
  rfl

theorem toR_areaTwoRev (x y L : Int) (hy0 : 0 < y) (hyx : y ≤ x) (hxL : x < L) : toR (areaTwoRev x y L) = .two x y := by
  have hb := bridges_areaTwoRev x y L hy0 hyx
  simp only [toR, hb, if_true, splitBridging_twoRev x y L hy0 hyx hxL]
  rfl

theorem RingInSpan.ringIn {L : Int} {l : Loc} (h : RingInSpan L l) : RingIn L l := by
  rcases h with ⟨hne, hb, hp⟩ | ⟨x, y, s, rfl, hy0, hyx, hxL⟩ | ⟨x, y, rfl, hy0, hyx, hxL⟩
  · exact ⟨hne, hp, fun h => by rw [hb] at h; cases h⟩
  · refine ⟨by simp [areaTwo, Loc.parts], inside_areaTwo x y L s hy0 hyx hxL, fun hb => ?_⟩
    by_cases hs : s = .rev
    · subst hs; rw [not_bridges_areaTwo_rev x y L hy0 hyx] at hb; cases hb
    · exact ⟨_, _, splitBridging_two x y L s hs hy0 hyx hxL⟩
  · exact ⟨by simp [areaTwoRev, Loc.parts], inside_areaTwoRev x y L hy0 hyx hxL,
      fun _ => ⟨_, _, splitBridging_twoRev x y L hy0 hyx hxL⟩⟩

/-- reducing a span-shaped input keeps `start` and `end` -/
theorem toR_start_end (L : Int) (l : Loc) (h : RingInSpan L l) :
    ((toR l).toLoc L).start = l.start ∧ ((toR l).toLoc L).end = l.end := by
  rcases h with ⟨hne, hb, hp⟩ | ⟨x, y, s, rfl, hy0, hyx, hxL⟩ | ⟨x, y, rfl, hy0, hyx, hxL⟩
  · have ht : toR l = .one ⟨l.start, l.end, l.strand⟩ := by simp only [toR, hb, Bool.false_eq_true, if_false]
    rw [ht]; exact ⟨rfl, rfl⟩
  · by_cases hs : s = .rev
    · subst hs
      have hb := not_bridges_areaTwo_rev x y L hy0 hyx
      have ht : toR (areaTwo x y L .rev) = .one ⟨(areaTwo x y L .rev).start, (areaTwo x y L .rev).end, (areaTwo x y L .rev).strand⟩ := by
        simp only [toR, hb, Bool.false_eq_true, if_false]
      rw [ht]; exact ⟨rfl, rfl⟩
    · rw [toR_areaTwo x y L s hs hy0 hyx hxL]; exact ⟨rfl, rfl⟩
  · rw [toR_areaTwoRev x y L hy0 hyx hxL]
    simp only [RLoc.toLoc, areaTwoRev, Loc.start, Loc.end, List.map, minList, maxList, List.foldl, fl]; omega

/-- an input whose reduced form has exactly its bases: a single part, or an origin-spanning span.
    (A location with several parts that does not bridge the origin — a gene with introns, among them
    the two-exon reverse-strand location `[x, L)(−), [0, y)(−)` — is reduced to its line hull.) -/
def RingInStrict (L : Int) (l : Loc) : Prop :=
  (∃ p, l.parts = [p] ∧ 0 ≤ p.lo ∧ p.lo < p.hi ∧ p.hi ≤ L) ∨
  (∃ x y s, s ≠ .rev ∧ l = areaTwo x y L s ∧ 0 < y ∧ y ≤ x ∧ x < L) ∨
  (∃ x y, l = areaTwoRev x y L ∧ 0 < y ∧ y ≤ x ∧ x < L)

theorem single_not_bridging (l : Loc) (p : Part) (hp : l.parts = [p]) : bridgesOrigin l = false := by
  cases l with
  | simple q => rfl
  | compound ps =>
    simp only [Loc.parts] at hp; subst hp
    exact bridging_is_compound.single_not_bridging' p

theorem RingInStrict.ringInSpan {L : Int} {l : Loc} (h : RingInStrict L l) : RingInSpan L l := by
  rcases h with ⟨p, hp, h0, h1, h2⟩ | ⟨x, y, s, _, h⟩ | h
  · refine Or.inl ⟨by rw [hp]; simp, single_not_bridging l p hp, ?_⟩
    intro q hq; rw [hp] at hq; simp only [List.mem_singleton] at hq; subst hq; exact ⟨h0, h1, h2⟩
  · exact Or.inr (Or.inl ⟨x, y, s, h⟩)
  · exact Or.inr (Or.inr h)

theorem RingInStrict.ringIn {L : Int} {l : Loc} (h : RingInStrict L l) : RingIn L l := h.ringInSpan.ringIn

theorem toR_mem_iff (L : Int) (hL : 0 < L) (l : Loc) (h : RingInStrict L l) (i : Int) :
    ((toR l).toLoc L).mem i = true ↔ l.mem i = true := by
  rcases h with ⟨p, hp, h0, h1, h2⟩ | ⟨x, y, s, hs, rfl, hy0, hyx, hxL⟩ | ⟨x, y, rfl, hy0, hyx, hxL⟩
  · have hb := single_not_bridging l p hp
    have ht : toR l = .one ⟨l.start, l.end, l.strand⟩ := by simp only [toR, hb, Bool.false_eq_true, if_false]
    obtain ⟨e1, e2⟩ := start_single l p hp
    rw [ht]
    simp only [RLoc.toLoc]
    rw [mem_simple]
    simp only [e1, e2, Loc.mem, hp, List.any_cons, List.any_nil, Bool.or_false, Part.mem_iff]
  · rw [toR_areaTwo x y L s hs hy0 hyx hxL, areaTwo, mem_two]; simp only [RLoc.toLoc, mem_two, fl]
  · rw [toR_areaTwoRev x y L hy0 hyx hxL, areaTwoRev, mem_two]; simp only [RLoc.toLoc, mem_two, fl]; omega

end ASV
