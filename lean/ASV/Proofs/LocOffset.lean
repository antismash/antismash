/-
  `offset_location` (C04): the rotation relation `RotOf`, the pieces `wrapPiece` that the tail of the function makes
  of a shifted part, and the merge step `mergeAdjacent` (the loop with the repair D58), which keeps total length and
  base set for runs of abutting parts of any length.  Also the extension of a single part on a linear record
  (`extend_simple_line`), which the protocluster proofs reach through this file.
-/
import ASV.Proofs.LocConnect
namespace ASV

/-- base `i` is base `j` moved by `k`, modulo `L` -/
def RotOf (L k i j : Int) : Prop := ∃ c : Int, i = j + k + c * L

theorem emod_shift (x L : Int) (hL : 0 < L) : ∃ q : Int, x = x % L + q * L ∧ 0 ≤ x % L ∧ x % L < L := by
  refine ⟨x / L, ?_, Int.emod_nonneg _ (by omega), Int.emod_lt_of_pos _ hL⟩
  have := Int.emod_add_mul_ediv x L
  rw [Int.mul_comm] ; omega

/-- `(i - k) mod L` is the base that `k` moves to `i` -/
theorem rot_iff_emod (L k i : Int) (hL : 0 < L) (l : Loc) (hin : ∀ j, l.mem j = true → 0 ≤ j ∧ j < L) :
    l.mem ((i - k) % L) = true ↔ ∃ j, l.mem j = true ∧ RotOf L k i j := by
  constructor
  · intro h
    obtain ⟨q, hq, _, _⟩ := emod_shift (i - k) L hL
    exact ⟨_, h, q, by omega⟩
  · rintro ⟨j, hj, c, hc⟩
    have hb := hin j hj
    have : (i - k) % L = j := by
      have e : i - k = j + c * L := by omega
      rw [e, Int.add_mul_emod_self_right]
      exact Int.emod_eq_of_lt hb.1 hb.2
    rw [this]; exact hj

/-- when no early exit applies, `offset_location` shifts every part and reduces the result modulo the wrap point -/
theorem offset_general (l : Loc) (k L : Int) (hL0 : L ≠ 0) (hk : k ≠ 0) (hlt : ¬ L < 1) (hlen : ¬ l.len = L)
    (htriv : offsetTrivial l k L = false) :
    offsetLocation l k L = (do let parts ← shiftedParts l k true; wrapParts parts L) := by
  simp [offsetLocation, hL0, hk, hlt, hlen, htriv]

/-- what the tail of `offset_location` makes of one shifted part: both ends reduced modulo the wrap point, and the
    part split at the origin when the reduced end does not lie after the reduced start -/
def wrapPiece (wrap : Int) (p : Part) : List Part :=
  let s := p.lo % wrap
  let e := (p.hi - 1) % wrap + 1
  if 0 ≤ s && s < e && e ≤ wrap then [(⟨s, e, p.strand⟩ : Part)]
  else [⟨s, wrap, p.strand⟩, ⟨0, e, p.strand⟩]

/-- `wrapParts` succeeds once the pieces are known to lie inside the record and the merge step goes through -/
theorem wrapParts_ok (parts : List Part) (L : Int) (first : Part) (rest merged : List Part)
    (hp : parts.flatMap (wrapPiece L) = first :: rest)
    (hin : ((first :: rest).all fun p => decide (0 ≤ p.lo) && decide (p.lo < p.hi) && decide (p.hi ≤ L)) = true)
    (hm : mergeAdjacent [first] first rest = .ok merged) :
    wrapParts parts L = .ok (Loc.ofParts merged) := by
  unfold wrapPiece at hp
  dsimp only at hp
  simp only [wrapParts, hp, hin, hm, Bool.not_true, Bool.false_eq_true, if_false, bind, Except.bind, pure, Except.pure]

theorem extend_simple_line (p : Part) (d mx : Int) :
    extendLocation (.simple p) d mx false = .ok (.simple ⟨max 0 (p.lo - d), min (p.hi + d) mx, p.strand⟩) := by
  cases hs : p.strand <;>
  simp [extendLocation, Loc.strand, Loc.parts, hs, mergeEnds, setHead, setLast, pure, Except.pure]

/-- on a linear record the result covers exactly the bases within the distance, clipped at both ends -/
theorem extend_simple_line_mem (p : Part) (d mx : Int) (h0 : 0 ≤ p.lo) (h1 : p.lo < p.hi) (h2 : p.hi ≤ mx) (hd : 0 ≤ d) (i : Int) :
    (Loc.simple ⟨max 0 (p.lo - d), min (p.hi + d) mx, p.strand⟩).mem i = true ↔
      (0 ≤ i ∧ i < mx ∧ ∃ j, p.mem j = true ∧ iabs (i - j) ≤ d) := by
  rw [mem_simple]
  simp only [Part.mem_iff, iabs_def]
  constructor
  · intro h
    refine ⟨by omega, by omega, ?_⟩
    by_cases hlo : i < p.lo
    · exact ⟨p.lo, ⟨by omega, by omega⟩, by split <;> omega⟩
    · by_cases hhi : i < p.hi
      · exact ⟨i, ⟨by omega, by omega⟩, by split <;> omega⟩
      · exact ⟨p.hi - 1, ⟨by omega, by omega⟩, by split <;> omega⟩
  · rintro ⟨hi0, hi1, j, ⟨hj0, hj1⟩, hij⟩
    split at hij <;> omega

/-! ### the merge step loses no base -/

/-- total number of bases named by a list of parts (with repeats) -/
def partsLen (ps : List Part) : Int := (ps.map fun p => p.hi - p.lo).sum

theorem partsLen_eq_len (ps : List Part) : partsLen ps = (Loc.compound ps).len := rfl

theorem partsLen_reverse (ps : List Part) : partsLen ps.reverse = partsLen ps := by
  induction ps with
  | nil => rfl
  | cons p ps ih => simp [partsLen, List.sum_append] at *; omega

/-- invariant of the loop: the last merged part ends where the previous shifted part ends -/
theorem mergeAdjacent_len (rest : List Part) : ∀ (acc : List Part) (prev : Part) (out : List Part),
    (∃ m more, acc = m :: more ∧ m.hi = prev.hi) →
    mergeAdjacent acc prev rest = .ok out → partsLen out = partsLen acc + partsLen rest := by
  induction rest with
  | nil =>
    intro acc prev out _ h
    simp only [mergeAdjacent, pure, Except.pure, Except.ok.injEq] at h
    subst h; rw [partsLen_reverse]; simp [partsLen]
  | cons part rest ih =>
    intro acc prev out ⟨m, more, hacc, hm⟩ h
    subst hacc
    simp only [mergeAdjacent] at h
    split at h
    · next heq =>
      split at h
      · simp only [ok_inv] at h
      · have := ih (⟨m.lo, part.hi, part.strand⟩ :: more) part out ⟨_, _, rfl, rfl⟩ h
        rw [this]; simp [partsLen]; omega
    · have := ih (part :: m :: more) part out ⟨_, _, rfl, rfl⟩ h
      rw [this]; simp [partsLen]; omega

/-- base `x` lies in one of the parts -/
def coversB (ps : List Part) (x : Int) : Prop := ∃ p ∈ ps, p.lo ≤ x ∧ x < p.hi

theorem coversB_iff_mem (ps : List Part) (x : Int) : coversB ps x ↔ (Loc.compound ps).mem x = true :=
  (Loc.mem_iff (.compound ps) x).symm

theorem mergeAdjacent_bases (rest : List Part) : ∀ (acc : List Part) (prev : Part) (out : List Part),
    (∃ m more, acc = m :: more ∧ m.hi = prev.hi ∧ m.lo ≤ m.hi) → (∀ p ∈ rest, p.lo ≤ p.hi) →
    mergeAdjacent acc prev rest = .ok out → ∀ x, coversB out x ↔ (coversB acc x ∨ coversB rest x) := by
  induction rest with
  | nil =>
    intro acc prev out _ _ h x
    simp only [mergeAdjacent, pure, Except.pure, Except.ok.injEq] at h
    subst h; simp [coversB]
  | cons part rest ih =>
    intro acc prev out ⟨m, more, hacc, hm, hmw⟩ hwf h x
    subst hacc
    have hp : part.lo ≤ part.hi := hwf part (by simp)
    have hwf' : ∀ p ∈ rest, p.lo ≤ p.hi := fun p hp => hwf p (List.mem_cons_of_mem _ hp)
    simp only [mergeAdjacent] at h
    split at h
    · next heq =>
      split at h
      · simp only [ok_inv] at h
      · have := ih (⟨m.lo, part.hi, part.strand⟩ :: more) part out ⟨_, _, rfl, rfl, by dsimp only; omega⟩ hwf' h x
        rw [this]
        simp only [coversB, List.mem_cons, exists_eq_or_imp]
        constructor
        · rintro ((⟨h1, h2⟩ | h) | h)
          · by_cases hx : x < m.hi
            · exact Or.inl (Or.inl ⟨h1, hx⟩)
            · exact Or.inr (Or.inl ⟨by omega, h2⟩)
          · exact Or.inl (Or.inr h)
          · exact Or.inr (Or.inr h)
        · rintro ((⟨h1, h2⟩ | h) | (⟨h1, h2⟩ | h))
          · exact Or.inl (Or.inl ⟨h1, by omega⟩)
          · exact Or.inl (Or.inr h)
          · exact Or.inl (Or.inl ⟨by omega, h2⟩)
          · exact Or.inr h
    · have := ih (part :: m :: more) part out ⟨_, _, rfl, rfl, hp⟩ hwf' h x
      rw [this]
      simp only [coversB, List.mem_cons, exists_eq_or_imp]
      constructor
      · rintro ((h | h | h) | h)
        · exact Or.inr (Or.inl h)
        · exact Or.inl (Or.inl h)
        · exact Or.inl (Or.inr h)
        · exact Or.inr (Or.inr h)
      · rintro ((h | h) | (h | h))
        · exact Or.inl (Or.inr (Or.inl h))
        · exact Or.inl (Or.inr (Or.inr h))
        · exact Or.inl (Or.inl h)
        · exact Or.inr h
/-- the loop as it was before D58 (`FeatureLocation(previous.start, …)`), kept only for the witness `example` in Props/C04.lean -/
def mergeAdjacentBeforeD58 : List Part → Part → List Part → E (List Part)
  | mergedRev, _, [] => pure mergedRev.reverse
  | mergedRev, previous, part :: rest =>
    if previous.hi = part.lo then
      if previous.strand != part.strand then throw "assertion"
      else match mergedRev with
        | _ :: more => mergeAdjacentBeforeD58 (⟨previous.lo, part.hi, part.strand⟩ :: more) part rest
        | [] => throw "assertion"
    else mergeAdjacentBeforeD58 (part :: mergedRev) part rest

end ASV
