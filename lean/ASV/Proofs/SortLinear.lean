/-
  C05: on a linear record `CDSCollection.__lt__` is the key order (start ascending, longer first),
  a strict weak order, so every `sorted(...)` of protoclusters / candidates in the model is the plain
  stable sort by that key; and the result of the formation does not depend on the order of its input.
-/
import ASV.Proofs.SortModel
import ASV.Proofs.MergeSets
namespace ASV.CC

/-! ### the collection order on single-part locations -/

/-- start ascending, then longer first -/
def locKeyLt (a b : Loc) : Bool := decide (a.start < b.start) || (a.start == b.start && decide (b.len < a.len))

theorem locKeyLt_iff (a b : Loc) : locKeyLt a b = true ↔ a.start < b.start ∨ (a.start = b.start ∧ b.len < a.len) := by
  simp only [locKeyLt, Bool.or_eq_true, Bool.and_eq_true, decide_eq_true_eq, beq_iff_eq]

/-- neither before the other: the same start and the same length -/
theorem locKeyLt_inc {a b : Loc} (h1 : locKeyLt a b = false) (h2 : locKeyLt b a = false) :
    a.start = b.start ∧ a.len = b.len := by
  rw [← Bool.not_eq_true, locKeyLt_iff] at h1 h2
  omega

theorem locKeyLt_weak {α : Type} (f : α → Loc) : WeakOrder (fun a b : α => locKeyLt (f a) (f b)) := by
  refine ⟨fun a => by simp [locKeyLt], fun a b c h1 h2 => ?_, fun a b c h1 h2 h3 h4 => ?_⟩
  · rw [locKeyLt_iff] at *
    exact lex_trans (fun h1 h2 => Int.lt_trans h2 h1) h1 h2
  · obtain ⟨e1, e2⟩ := locKeyLt_inc h1 h2
    obtain ⟨e3, e4⟩ := locKeyLt_inc h3 h4
    simp [locKeyLt, e1, e2, e3, e4]

theorem locKeyLt_simple (p q : Part) :
    locKeyLt (.simple p) (.simple q) = (decide (p.lo < q.lo) || (p.lo == q.lo && decide (q.hi - q.lo < p.hi - p.lo))) := by
  have e1 : (Loc.simple p).start = p.lo := rfl
  have e2 : (Loc.simple q).start = q.lo := rfl
  have e3 : (Loc.simple p).len = p.hi - p.lo := by simp [Loc.len, Loc.parts, Part.len]
  have e4 : (Loc.simple q).len = q.hi - q.lo := by simp [Loc.len, Loc.parts, Part.len]
  simp only [locKeyLt]
  rw [e1, e2, e3, e4]

/-- `__lt__` first tests "`a` contains `b` and not conversely" and only then compares starts; for single
    parts that test agrees with (start, longer first) -/
theorem locLt_simple (p q : Part) (hp : p.lo ≤ p.hi) :
    locLt (.simple p) (.simple q) = locKeyLt (.simple p) (.simple q) := by
  rw [locKeyLt_simple]
  simp only [locLt, collectionLt, comparatorStart, bridgesOrigin, Bool.false_eq_true, if_false, bind, Except.bind, pure,
    Except.pure, locationContainsOther, Loc.parts, List.all_cons, List.all_nil, List.any_cons, List.any_nil, Bool.or_false,
    Bool.and_true, partContains, Loc.start, Loc.len, List.map, List.sum_cons, List.sum_nil, Part.len]
  split
  · rename_i v hv
    split at hv
    · rename_i hc
      injection hv with hv
      subst hv
      simp only [Bool.and_eq_true, decide_eq_true_eq, Bool.not_eq_true', Bool.and_eq_false_iff, decide_eq_false_iff_not] at hc
      symm
      simp only [Bool.or_eq_true, Bool.and_eq_true, decide_eq_true_eq, beq_iff_eq]
      omega
    · injection hv with hv
      subst hv
      rw [Bool.eq_iff_iff]
      simp
  · rename_i a hv
    split at hv <;> cases hv

def SimpleLoc (l : Loc) : Prop := ∃ p, l = .simple p ∧ p.lo ≤ p.hi

/-- where the compared locations are single parts, a sort by `__lt__` is the stable sort by (start, longer first) -/
theorem pySort_linear {α : Type} (f : α → Loc) {l : List α} (hs : ∀ a, a ∈ l → SimpleLoc (f a)) :
    pySort (fun a b => locLt (f a) (f b)) l = sortBy (fun a b => locKeyLt (f a) (f b)) l := by
  have hc : ∀ a b, a ∈ l → b ∈ l → locLt (f a) (f b) = locKeyLt (f a) (f b) := by
    intro a b ha hb
    obtain ⟨p, hp, h1⟩ := hs a ha
    obtain ⟨q, hq, _⟩ := hs b hb
    rw [hp, hq]
    exact locLt_simple p q h1
  rw [pySort_eq_sortBy_on _ l (((locKeyLt_weak f).swo _).congr hc), Determinism.ccSortBy_eq_sortBy,
    Determinism.ccSortBy_eq_sortBy]
  exact Refine.sortBy_congr l fun x hx y hy => by rw [hc y x hy hx]

/-- on a linear record `sorted(candidates)` is the stable sort by (start, longer first) -/
theorem sortCands_linear {l : List Cand} (hs : ∀ c, c ∈ l → SimpleLoc c.loc) :
    sortCands l = sortBy (fun a b => locKeyLt a.loc b.loc) l :=
  pySort_linear (fun c : Cand => c.loc) hs

/-- … and `_sorted_protoclusters` the stable sort by (start, longer first) of the list pre-sorted by
    (product, core start, core end) -/
theorem sortProtos_linear {l : List Proto} (hs : ∀ p, p ∈ l → SimpleLoc p.loc) :
    sortProtos l = sortBy (fun a b => locKeyLt a.loc b.loc) (sortBy tieLt l) :=
  pySort_linear (fun p : Proto => p.loc) fun p hp => hs p ((mem_sortBy _ _ _).1 hp)

/-! ### the result does not depend on the order of the input

After fix D507 the first thing `create_candidates_from_protoclusters` does is
`_sorted_protoclusters(protoclusters)`; its pre-sort by `(product, core start, core end)` is a strict
total order on protoclusters with distinct keys, so the pre-sorted list — and with it everything
computed from it — does not depend on the input order. -/

/-- no two protoclusters with the same product and the same core ends -/
def DistinctKeys (ps : List Proto) : Prop :=
  ∀ a b, a ∈ ps → b ∈ ps → a ≠ b → Determinism.tieKey a ≠ Determinism.tieKey b

/-- `_sorted_protoclusters` gives the same list for every order of its input -/
theorem sortProtos_perm {ps qs : List Proto} (hk : DistinctKeys ps) (hp : ps.Perm qs) :
    sortProtos ps = sortProtos qs :=
  Determinism.sortProtos_eq_of_perm (fun a ha b hb e => Classical.byContradiction fun hne => hk a b ha hb hne e) hp

/-- … and so does the whole formation: same candidates, in the same order, members in the same
    order, same error if any -/
theorem formation_perm {ps qs : List Proto} (wrap : Option Int) (hn : ps.Nodup) (hk : DistinctKeys ps)
    (hp : ps.Perm qs) : formation ps wrap = formation qs wrap := by
  have hs := sortProtos_perm hk hp
  have he : ps.isEmpty = qs.isEmpty := Refine.isEmpty_eq_of_same_members fun _ => hp.mem_iff
  have hc : formationCore ps wrap = formationCore qs wrap := by
    unfold formationCore
    rw [he, hs]
  unfold formation
  rw [hc, hp.length_eq]

end ASV.CC
