/-
  C06: on a record without origin-spanning areas (linear or circular) the model's sweep (`sweepAreas`, with
  `connect_locations` and `locations_overlap` on real locations) is the abstract sweep
  `SweepG.go` over (start, end); the first/last fix-up changes nothing.
-/
import ASV.Proofs.RegionsSort
import ASV.Proofs.RegionsDict
import ASV.Proofs.SweepRegions
import ASV.Proofs.LocConnectRingIn
namespace ASV.Regions
open ASV ASV.SweepG

def fLo (f : Feat) : Int := f.loc.start
def fHi (f : Feat) : Int := f.loc.end

/-- the strand the running hull ends up with: the common strand, or None as soon as two differ -/
def hullStrand : List Feat → Strand
  | [] => .none
  | m :: rest => rest.foldl (fun s y => if s == y.loc.strand then y.loc.strand else .none) m.loc.strand

theorem hullStrand_snoc (ms : List Feat) (y : Feat) (h : ms ≠ []) :
    hullStrand (ms ++ [y]) = if hullStrand ms == y.loc.strand then y.loc.strand else .none := by
  cases ms with
  | nil => exact absurd rfl h
  | cons m rest => simp [hullStrand, List.foldl_append]

def secOf (g : Grp Feat) : Sec := (.simple ⟨g.lo, g.hi, hullStrand g.members⟩, g.members)

theorem LineArea.parts {len : Int} {l : Loc} (h : LineArea len l) : l.parts ≠ [] ∧ bridgesOrigin l = false := by
  obtain ⟨p, rfl, _⟩ := h
  simp [Loc.parts, bridgesOrigin]

theorem LineArea.bounds {len : Int} {l : Loc} (h : LineArea len l) : 0 ≤ l.start ∧ l.start < l.end ∧ l.end ≤ len := by
  obtain ⟨p, rfl, h0, h1, h2⟩ := h
  exact ⟨h0, h1, h2⟩

theorem overlap_simple (p q : Part) (hp : p.lo < p.hi) (hq : q.lo < q.hi) :
    locationsOverlap (.simple p) (.simple q) = (decide (p.lo < q.hi) && decide (q.lo < p.hi)) := by
  rw [Bool.eq_iff_iff]
  simp only [locationsOverlap, Loc.parts, List.any_cons, List.any_nil, Bool.or_false, Bool.and_eq_true, decide_eq_true_eq]
  rw [partsOverlap_iff p q hp hq]
  constructor
  · rintro ⟨i, h1, h2⟩
    rw [Part.mem_iff] at h1 h2
    omega
  · intro h
    refine ⟨max p.lo q.lo, ?_, ?_⟩ <;> rw [Part.mem_iff] <;> omega

/-- the overlap test of the sweep against the running hull -/
theorem overlap_hull {len : Int} (y : Feat) (hy : LineArea len y.loc) (lo hi : Int) (s : Strand)
    (h1 : lo < hi) (h2 : lo ≤ fLo y) :
    locationsOverlap y.loc (.simple ⟨lo, hi, s⟩) = decide (fLo y < hi) := by
  obtain ⟨p, hp, h0, hlt, hle⟩ := hy
  simp only [fLo, hp, Loc.start] at h2 ⊢
  rw [overlap_simple p _ hlt h1, Bool.eq_iff_iff]
  simp only [Bool.and_eq_true, decide_eq_true_eq]
  omega

/-- … and the hull it is replaced by -/
theorem connect_hull {len : Int} (y : Feat) (hy : LineArea len y.loc) (lo hi : Int) (s : Strand) (h2 : lo ≤ fLo y) :
    connect [y.loc, .simple ⟨lo, hi, s⟩] none =
      .ok (.simple ⟨lo, max hi (fHi y), if s == y.loc.strand then y.loc.strand else .none⟩) := by
  rw [connect_line _ (by simp)]
  · obtain ⟨p, hp, h0, hlt, hle⟩ := hy
    simp only [fLo, fHi, hp, Loc.start, Loc.end] at h2 ⊢
    simp only [List.map, minList, maxList, List.foldl, commonStrand, Loc.strand, List.all_cons, List.all_nil, Bool.and_true,
      Loc.start, Loc.end]
    congr 2
    · congr 1
      · omega
      · omega
  · intro l hl
    simp only [List.mem_cons, List.mem_singleton, List.not_mem_nil, or_false] at hl
    rcases hl with rfl | rfl
    · exact hy.parts
    · simp [Loc.parts, bridgesOrigin]

/-- two overlapping single-part spans are never "shorter over the origin" -/
theorem not_wrapping_overlap (a b : Part) (L : Int) (hL : 0 ≤ L) (h1 : a.lo < b.hi) (h2 : b.lo < a.hi) :
    isWrappingShorter [.simple a, .simple b] L = false := by
  have hdiv : 0 ≤ L / 2 := Int.ediv_nonneg hL (by omega)
  have hsort : sortLocs [Loc.simple a, Loc.simple b] = [Loc.simple a, Loc.simple b] ∨
      sortLocs [Loc.simple a, Loc.simple b] = [Loc.simple b, Loc.simple a] := by
    simp only [sortLocs, List.foldr, insertLocBy]
    split
    · exact Or.inl rfl
    · exact Or.inr rfl
  have hnb : [Loc.simple a, Loc.simple b].any bridgesOrigin = false := by simp [bridgesOrigin]
  unfold isWrappingShorter
  rw [hnb]
  simp only [Bool.false_eq_true, if_false]
  rcases hsort with h | h <;> rw [h] <;> simp [Loc.start, Loc.end] <;> omega

/-- on a circular record, connecting two overlapping single-part spans gives their line hull as well -/
theorem connect_ring_overlap (a b : Part) (L : Int) (hL : 0 < L)
    (ha : 0 ≤ a.lo ∧ a.lo < a.hi ∧ a.hi ≤ L) (hb : 0 ≤ b.lo ∧ b.lo < b.hi ∧ b.hi ≤ L)
    (h1 : a.lo < b.hi) (h2 : b.lo < a.hi) :
    connect [.simple a, .simple b] (some L) = connect [.simple a, .simple b] none := by
  have hin : ∀ l ∈ [Loc.simple a, Loc.simple b], RingIn L l := by
    intro l hl
    simp only [List.mem_cons, List.mem_singleton, List.not_mem_nil, or_false] at hl
    rcases hl with rfl | rfl
    · exact ⟨by simp [Loc.parts], by intro p hp; simp [Loc.parts] at hp; subst hp; exact ha,
        fun h => by simp [bridgesOrigin] at h⟩
    · exact ⟨by simp [Loc.parts], by intro p hp; simp [Loc.parts] at hp; subst hp; exact hb,
        fun h => by simp [bridgesOrigin] at h⟩
  rw [connect_ring_closed _ L (by simp) hL hin, connect_line _ (by simp) (by
    intro l hl
    simp only [List.mem_cons, List.mem_singleton, List.not_mem_nil, or_false] at hl
    rcases hl with rfl | rfl <;> simp [Loc.parts, bridgesOrigin])]
  have ht : ∀ p : Part, toR (.simple p) = .one p := by
    intro p; simp [toR, bridgesOrigin, Loc.start, Loc.end, Loc.strand]
  simp only [List.map_cons, List.map_nil, ht, connR, List.any_cons, List.any_nil, RLoc.isTwo, Bool.or_false,
    Bool.false_eq_true, if_false, connA, RLoc.toLoc, not_wrapping_overlap a b L (by omega) h1 h2, hullOf]

/-- the wrap point handed to `connect_locations`: none (linear record) or the record length -/
def WrapOf (len : Int) (w : Option Int) : Prop := w = none ∨ (w = some len ∧ 0 < len)

/-- the hull step of the sweep, on a linear record or on a circular one (areas not spanning the origin) -/
theorem connect_hull_w {len : Int} {w : Option Int} (hw : WrapOf len w) (y : Feat) (hy : LineArea len y.loc)
    (lo hi : Int) (s : Strand) (h0 : 0 ≤ lo) (h1 : lo < hi) (hL : hi ≤ len) (h2 : lo ≤ fLo y) (hov : fLo y < hi) :
    connect [y.loc, .simple ⟨lo, hi, s⟩] w =
      .ok (.simple ⟨lo, max hi (fHi y), if s == y.loc.strand then y.loc.strand else .none⟩) := by
  rcases hw with rfl | ⟨rfl, hpos⟩
  · exact connect_hull y hy lo hi s h2
  · obtain ⟨p, hp, hp0, hp1, hp2⟩ := hy
    have := connect_hull y ⟨p, hp, hp0, hp1, hp2⟩ lo hi s h2
    rw [hp] at this ⊢
    rw [connect_ring_overlap p ⟨lo, hi, s⟩ len hpos ⟨hp0, hp1, hp2⟩ ⟨h0, h1, hL⟩ (by
      simp only [fLo, hp, Loc.start] at hov; exact hov) (by simp only [fLo, hp, Loc.start] at h2; simp only; omega)]
    exact this

theorem secOf_single {len : Int} (f : Feat) (h : LineArea len f.loc) : (secOf ⟨fLo f, fHi f, [f]⟩).1 = f.loc := by
  obtain ⟨p, hp, _⟩ := h
  simp only [secOf, fLo, fHi, hullStrand, List.foldl, hp, Loc.start, Loc.end, Loc.strand]

/-- the model's sweep over single spans, with either wrap point (`WrapOf`), is the abstract sweep -/
theorem sweepAreas_line {len : Int} {w : Option Int} (hw : WrapOf len w) (cur : Grp Feat) (ys : List Feat)
    (hne : cur.members ≠ []) (hcur : cur.lo < cur.hi) (hcb : 0 ≤ cur.lo ∧ cur.hi ≤ len)
    (hys : ∀ y ∈ ys, LineArea len y.loc) (hs : ∀ y ∈ ys, cur.lo ≤ fLo y)
    (hsorted : ys.Pairwise (fun a b => fLo a ≤ fLo b)) :
    sweepAreas w (secOf cur).1 cur.members ys = .ok ((go fLo fHi cur ys).map secOf) := by
  induction ys generalizing cur with
  | nil => simp [sweepAreas, go, secOf, pure, Except.pure]
  | cons y ys ih =>
    have hy := hys y (by simp)
    have hsorted' := List.pairwise_cons.1 hsorted
    simp only [sweepAreas, go, secOf]
    have hov := overlap_hull y hy cur.lo cur.hi (hullStrand cur.members) hcur (hs y (by simp))
    simp only [hov]
    by_cases hlt : fLo y < cur.hi
    · simp only [hlt, decide_true, Bool.not_true, Bool.false_eq_true, if_false, if_true]
      rw [connect_hull_w hw y hy _ _ _ hcb.1 hcur hcb.2 (hs y (by simp)) hlt]
      simp only [bind, Except.bind]
      have hyb := hy.bounds
      have := ih ⟨cur.lo, max cur.hi (fHi y), cur.members ++ [y]⟩ (by simp) (by simp only; omega)
        (by simp only [fHi]; omega)
        (fun z hz => hys z (by simp [hz])) (fun z hz => hs z (by simp [hz])) hsorted'.2
      simp only [secOf, hullStrand_snoc _ _ hne] at this
      exact this
    · simp only [hlt, decide_false, Bool.not_false, if_true, if_false]
      have hb := hy.bounds
      have := ih ⟨fLo y, fHi y, [y]⟩ (by simp) (by simp only [fLo, fHi]; omega) (by simp only [fLo, fHi]; omega)
        (fun z hz => hys z (by simp [hz])) (fun z hz => hsorted'.1 z hz) hsorted'.2
      rw [secOf_single y hy] at this
      simp only [this, bind, Except.bind, pure, Except.pure, List.map_cons, secOf]

theorem no_overlap_sep (g g' : Grp Feat) (h1 : g.lo < g.hi) (h2 : g'.lo < g'.hi) (hsep : g.hi ≤ g'.lo) :
    locationsOverlap (secOf g).1 (secOf g').1 = false := by
  simp only [secOf]
  rw [overlap_simple _ _ h1 h2]
  simp only [Bool.and_eq_false_iff, decide_eq_false_iff_not]
  omega

theorem mergeFirstLast_line (gs : List (Grp Feat)) (hsep : gs.Pairwise (fun g g' => g.hi ≤ g'.lo))
    (hwf : ∀ g ∈ gs, g.lo < g.hi) (w : Option Int) (n : Nat) :
    mergeFirstLast w n (gs.map secOf) = .ok (gs.map secOf) := by
  cases n with
  | zero => rfl
  | succ n =>
    match gs, hsep, hwf with
    | [], _, _ => rfl
    | [g], _, _ => rfl
    | g :: g2 :: more, hsep, hwf =>
      simp only [List.map_cons, mergeFirstLast]
      have hne : (g2 :: more) ≠ [] := by simp
      have hlast : (secOf g2 :: List.map secOf more).getLast? = some (secOf ((g2 :: more).getLast hne)) := by
        rw [← List.map_cons, List.getLast?_map, List.getLast?_eq_some_getLast hne]; rfl
      rw [hlast]
      have hmem : (g2 :: more).getLast hne ∈ g2 :: more := List.getLast_mem hne
      have h1 := (List.pairwise_cons.1 hsep).1 _ hmem
      simp only [no_overlap_sep g _ (hwf g (by simp)) (hwf _ (by simp [hmem])) h1]
      rfl

theorem collectionInitCheck_simple (p : Part) (h0 : 0 ≤ p.lo) (h1 : p.lo ≤ p.hi) :
    collectionInitCheck (.simple p) = .ok () := by
  simp [collectionInitCheck, Loc.parts, strandsUsed, Loc.start, Loc.end, h0, h1, pure, Except.pure, bind, Except.bind]

theorem setParents_ok (d : Dict (Option Nat)) (parent : Feat) (cs : List Feat)
    (h : ∀ c ∈ cs, locationContainsOther parent.loc c.loc = true) :
    setParents d parent cs = .ok (cs.foldl (fun d c => d.set c.id (some parent.id)) d) := by
  induction cs generalizing d with
  | nil => rfl
  | cons c cs ih =>
    simp only [setParents, h c (by simp), Bool.not_true, Bool.false_eq_true, if_false, List.foldl_cons]
    exact ih _ (fun x hx => h x (by simp [hx]))

/-- hull of a non-empty list of line areas -/
def hullLoc (fs : List Feat) : Loc :=
  .simple ⟨minList (fs.map fLo), maxList (fs.map fHi), commonStrand (fs.map (·.loc))⟩

theorem hull_bounds {len : Int} (fs : List Feat) (hne : fs ≠ []) (h : ∀ f ∈ fs, LineArea len f.loc) :
    0 ≤ minList (fs.map fLo) ∧ minList (fs.map fLo) < maxList (fs.map fHi) ∧ maxList (fs.map fHi) ≤ len := by
  have hne1 : fs.map fLo ≠ [] := by simpa using hne
  have hne2 : fs.map fHi ≠ [] := by simpa using hne
  obtain ⟨f, hf, e1⟩ := List.mem_map.1 (minList_mem hne1)
  obtain ⟨g, hg, e2⟩ := List.mem_map.1 (maxList_mem hne2)
  have b1 := (h f hf).bounds
  have b2 := (h g hg).bounds
  have : fHi f ≤ maxList (fs.map fHi) := le_maxList_of_mem (List.mem_map.2 ⟨f, hf, rfl⟩)
  simp only [fLo, fHi] at *
  omega

theorem hull_contains {len : Int} (fs : List Feat) (h : ∀ f ∈ fs, LineArea len f.loc) (f : Feat) (hf : f ∈ fs) :
    locationContainsOther (hullLoc fs) f.loc = true := by
  obtain ⟨p, hp, h0, h1, h2⟩ := h f hf
  have a1 : minList (fs.map fLo) ≤ fLo f := minList_le_of_mem (List.mem_map.2 ⟨f, hf, rfl⟩)
  have a2 : fHi f ≤ maxList (fs.map fHi) := le_maxList_of_mem (List.mem_map.2 ⟨f, hf, rfl⟩)
  simp only [fLo, fHi, hp, Loc.start, Loc.end] at a1 a2
  simp only [locationContainsOther, hullLoc, hp, Loc.parts, List.all_cons, List.all_nil, List.any_cons, List.any_nil,
    partContains, Bool.or_false, Bool.and_true, Bool.and_eq_true, decide_eq_true_eq]
  omega

/-- the state after `Region(...)` was constructed: a fresh region id is used up and the children point at it -/
def afterMk (s : State) (children : List Feat) : State :=
  { s with nextRid := s.nextRid + 1,
           parent := children.foldl (fun d c => d.set c.id (some s.nextRid)) s.parent }

/-- the `Region(candidates, subregions)` object built from single spans -/
def newRegion (s : State) (cands subs : List Feat) : Feat :=
  { id := s.nextRid, kind := .region, loc := hullLoc (subs ++ cands),
    kids := cands.map (·.id), subs := subs.map (·.id) }

theorem mkRegion_line {len : Int} (s : State) (cands subs : List Feat)
    (hne : subs ++ cands ≠ []) (h : ∀ f ∈ subs ++ cands, LineArea len f.loc) :
    mkRegion s cands subs = .ok (afterMk s (subs ++ cands), newRegion s cands subs) := by
  have hemp : (cands.isEmpty && subs.isEmpty) = false := by
    cases cands <;> cases subs <;> simp_all
  have hany : ((subs ++ cands).map (·.loc)).any bridgesOrigin = false := by
    rw [List.any_eq_false]
    intro l hl
    obtain ⟨f, hf, rfl⟩ := List.mem_map.1 hl
    simp [(h f hf).parts.2]
  have hconn : connect ((subs ++ cands).map (·.loc)) none = .ok (hullLoc (subs ++ cands)) := by
    rw [connect_line _ (by simpa using hne)]
    · simp only [hullLoc, List.map_map]; rfl
    · intro l hl
      obtain ⟨f, hf, rfl⟩ := List.mem_map.1 hl
      exact (h f hf).parts
  have hb := hull_bounds (subs ++ cands) hne h
  have hchk : collectionInitCheck (hullLoc (subs ++ cands)) = .ok () :=
    collectionInitCheck_simple _ hb.1 (by simp only; omega)
  simp only [mkRegion, regionWrap, hemp, hany, Bool.false_eq_true, if_false, hconn, hchk, bind, Except.bind, pure, Except.pure]
  rw [setParents_ok]
  · rfl
  · intro c hc
    exact hull_contains _ h c hc

theorem regionIndex_append (region : Feat) (i : Nat) (rs : List Feat)
    (hno : ∀ r ∈ rs, locationsOverlap region.loc r.loc = false ∧ collectionLt region.loc r.loc = .ok false) :
    regionIndex region i rs = .ok (i + rs.length) := by
  induction rs generalizing i with
  | nil => rfl
  | cons r rs ih =>
    simp only [regionIndex, (hno r (by simp)).1, (hno r (by simp)).2, Bool.false_eq_true, if_false, bind, Except.bind,
      pure, Except.pure]
    rw [ih _ (fun x hx => hno x (by simp [hx]))]
    simp only [List.length_cons]
    congr 1; omega

theorem checkInside_ok (s : State) (loc : Loc) (h0 : 0 ≤ loc.start) (h1 : loc.end ≤ s.len) : checkInside s loc = .ok () := by
  simp [checkInside, h0, h1, pure, Except.pure]

theorem addRegion_line {len : Int} (s : State) (region : Feat) (hlen : s.len = len) (hr : LineArea len region.loc)
    (hregs : ∀ r ∈ s.regions, LineArea len r.loc ∧ r.loc.end ≤ region.loc.start) :
    addRegion s region = .ok { s with
      regions := s.regions ++ [{ region with cdses := cdsWithin s.cds region.loc }],
      numR := renumber s.numR (s.regions ++ [{ region with cdses := cdsWithin s.cds region.loc }]) s.regions.length,
      cdsRegion := (cdsWithin s.cds region.loc).foldl (fun (acc : Dict (Option Nat)) i => acc.set i (some region.id)) s.cdsRegion } := by
  have hb := hr.bounds
  have hidx : regionIndex region 0 s.regions = .ok s.regions.length := by
    rw [regionIndex_append region 0 s.regions]
    · simp
    · intro r hr'
      obtain ⟨hrl, hre⟩ := hregs r hr'
      refine ⟨?_, ?_⟩
      · obtain ⟨p, hp, _, hp1, _⟩ := hr
        obtain ⟨q, hq, _, hq1, _⟩ := hrl
        rw [hp, hq, overlap_simple p q hp1 hq1]
        simp only [hp, hq, Loc.start, Loc.end] at hre
        simp only [Bool.and_eq_false_iff, decide_eq_false_iff_not]
        omega
      · rw [collectionLt_line hr hrl]
        congr 1
        rw [keyLt_false_iff]
        have := hrl.bounds
        simp only [lineKey]
        omega
  simp only [addRegion, checkInside_ok s region.loc hb.1 (by omega), hidx, bind, Except.bind, pure, Except.pure,
    insertAt_end]

theorem minList_eq {l : List Int} {v : Int} (hv : v ∈ l) (hle : ∀ x ∈ l, v ≤ x) : minList l = v := by
  have h1 := minList_le_of_mem hv
  have h2 := hle _ (minList_mem (List.ne_nil_of_mem hv))
  omega

theorem maxList_eq {l : List Int} {v : Int} (hv : v ∈ l) (hle : ∀ x ∈ l, x ≤ v) : maxList l = v := by
  have h1 := le_maxList_of_mem hv
  have h2 := hle _ (maxList_mem (List.ne_nil_of_mem hv))
  omega

/-- the hull of a group's members (in any order) is the group's running hull -/
theorem hull_of_group {g : Grp Feat} (hg : GInv fLo fHi g) (fs : List Feat) (hp : fs.Perm g.members) :
    minList (fs.map fLo) = g.lo ∧ maxList (fs.map fHi) = g.hi := by
  constructor
  · obtain ⟨m, hm, e⟩ := hg.loAtt
    apply minList_eq
    · exact List.mem_map.2 ⟨m, hp.mem_iff.2 hm, e⟩
    · intro x hx
      obtain ⟨f, hf, rfl⟩ := List.mem_map.1 hx
      exact hg.loMin f (hp.mem_iff.1 hf)
  · obtain ⟨m, hm, e⟩ := hg.hiAtt
    apply maxList_eq
    · exact List.mem_map.2 ⟨m, hp.mem_iff.2 hm, e⟩
    · intro x hx
      obtain ⟨f, hf, rfl⟩ := List.mem_map.1 hx
      exact hg.hiMax f (hp.mem_iff.1 hf)

theorem group_nonempty {g : Grp Feat} (hg : GInv fLo fHi g) : g.lo < g.hi := by
  obtain ⟨m, hm, e⟩ := hg.loAtt
  have := hg.wf m hm
  have := hg.hiMax m hm
  omega

/-- what is observable of a region: location, candidate ids, subregion ids -/
def view (r : Feat) : Loc × List Nat × List Nat := (r.loc, r.kids, r.subs)

def grpView (g : Grp Feat) : Loc × List Nat × List Nat :=
  (.simple ⟨g.lo, g.hi, commonStrand ((childrenOf g.members).map (·.loc))⟩,
   (candsOf g.members).map (·.id), (subsOf g.members).map (·.id))

theorem addSection_step {len : Int} (s : State) (g : Grp Feat) (hlen : s.len = len)
    (hg : GInv fLo fHi g) (harea : ∀ f ∈ g.members, LineArea len f.loc)
    (hregs : ∀ r ∈ s.regions, LineArea len r.loc ∧ r.loc.end ≤ g.lo) :
    ∃ s1 r s2, mkRegion s (candsOf g.members) (subsOf g.members) = .ok (s1, r) ∧ addRegion s1 r = .ok s2 ∧
      s2.regions = s.regions ++ [{ r with cdses := cdsWithin s.cds r.loc }] ∧ view r = grpView g ∧
      s2.cands = s.cands ∧ s2.subs = s.subs ∧ s2.protos = s.protos ∧ s2.len = s.len ∧
      s2.circular = s.circular := by
  have hperm := childrenOf_perm g.members
  have hne : childrenOf g.members ≠ [] := by
    intro h
    rw [h] at hperm
    exact hg.ne (List.perm_nil.1 hperm.symm)
  have hch : ∀ f ∈ childrenOf g.members, LineArea len f.loc :=
    fun f hf => harea f (hperm.mem_iff.1 hf)
  have hhull := hull_of_group hg _ hperm
  have hb := hull_bounds _ hne hch
  have hmk := mkRegion_line (len := len) s (candsOf g.members) (subsOf g.members) hne hch
  have hr : LineArea len (newRegion s (candsOf g.members) (subsOf g.members)).loc :=
    ⟨_, rfl, hb.1, hb.2.1, hb.2.2⟩
  have hadd := addRegion_line (len := len) (afterMk s (subsOf g.members ++ candsOf g.members))
    (newRegion s (candsOf g.members) (subsOf g.members)) hlen hr (by
      intro r hr'
      refine ⟨(hregs r hr').1, ?_⟩
      have := (hregs r hr').2
      simp only [newRegion, hullLoc, Loc.start]
      rw [show subsOf g.members ++ candsOf g.members = childrenOf g.members from rfl, hhull.1]
      exact this)
  refine ⟨_, _, _, hmk, hadd, rfl, ?_, rfl, rfl, rfl, rfl, rfl⟩
  simp only [view, grpView, newRegion, hullLoc]
  rw [show subsOf g.members ++ candsOf g.members = childrenOf g.members from rfl, hhull.1, hhull.2]

theorem addSections_line {len : Int} (gs : List (Grp Feat)) (s : State) (hlen : s.len = len)
    (hinv : ∀ g ∈ gs, GInv fLo fHi g) (hsep : gs.Pairwise (fun g g' => g.hi ≤ g'.lo))
    (harea : ∀ g ∈ gs, ∀ f ∈ g.members, LineArea len f.loc)
    (hregs : ∀ r ∈ s.regions, LineArea len r.loc ∧ ∀ g ∈ gs, r.loc.end ≤ g.lo) :
    ∃ s', addSections s (gs.map secOf) = .ok s' ∧
      s'.regions.map view = s.regions.map view ++ gs.map grpView ∧
      s'.cands = s.cands ∧ s'.subs = s.subs ∧ s'.protos = s.protos ∧ s'.len = s.len ∧
      s'.circular = s.circular := by
  induction gs generalizing s with
  | nil => exact ⟨s, rfl, by simp, rfl, rfl, rfl, rfl, rfl⟩
  | cons g gs ih =>
    have hg := hinv g (by simp)
    have hsep' := List.pairwise_cons.1 hsep
    obtain ⟨s1, r, s2, hmk, hadd, e1, e2, e3, e4, e5, e6, e7⟩ := addSection_step s g hlen hg (harea g (by simp))
      (fun r hr => ⟨(hregs r hr).1, (hregs r hr).2 g (by simp)⟩)
    have hview : r.loc = (grpView g).1 := by rw [← e2]; rfl
    obtain ⟨s', h1, h2, h3, h4, h5, h6, h7⟩ := ih s2 (by rw [e6]; exact hlen) (fun g' hg' => hinv g' (by simp [hg'])) hsep'.2
      (fun g' hg' => harea g' (by simp [hg'])) (by
        intro x hx
        rw [e1] at hx
        simp only [List.mem_append, List.mem_singleton] at hx
        rcases hx with hx | rfl
        · exact ⟨(hregs x hx).1, fun g' hg' => (hregs x hx).2 g' (by simp [hg'])⟩
        · have hnon := group_nonempty hg
          have hb : 0 ≤ g.lo ∧ g.hi ≤ len := by
            obtain ⟨m, hm, e⟩ := hg.loAtt
            obtain ⟨m', hm', e'⟩ := hg.hiAtt
            have := (harea g (by simp) m hm).bounds
            have := (harea g (by simp) m' hm').bounds
            simp only [fLo, fHi] at e e'
            omega
          simp only [hview, grpView]
          exact ⟨⟨_, rfl, hb.1, hnon, hb.2⟩, fun g' hg' => hsep'.1 g' hg'⟩)
    refine ⟨s', ?_, ?_, h3.trans e3, h4.trans e4, h5.trans e5, h6.trans e6, h7.trans e7⟩
    · simp only [List.map_cons, secOf, addSections_cons, hmk, hadd, bind, Except.bind, h1]
    · rw [h2, e1]
      simp only [List.map_append, List.map_cons, List.map_nil, List.append_assoc, List.singleton_append]
      congr 2

end ASV.Regions
