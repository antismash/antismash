/-
  Helper lemmas for C13: `filter_result_multiple` keeps, per profile, the earliest best-scoring
  hit (if it scores above −1), and returns the kept hits in the order of the gene's list.
-/
import ASV.Proofs.Sort
import ASV.Proofs.Base.AList
import ASV.Spec.HitFilter
namespace ASV.HitFilter
open ASV.Refine

abbrev QS := List (Int × Nat × FHit)

/-- `x` sits in `hits` after `l1` and is the earliest best of its profile there -/
def FirstBest (hits l1 : List FHit) (x : FHit) (l2 : List FHit) : Prop :=
  hits = l1 ++ x :: l2 ∧ -10 < x.sc ∧ (∀ g ∈ l1, g.prof = x.prof → g.sc < x.sc) ∧
    (∀ g ∈ l2, g.prof = x.prof → g.sc ≤ x.sc)

theorem keptMultiple_iff (l1 l2 : List FHit) (x : FHit) :
    keptMultiple (l1 ++ x :: l2) l1.length x = true ↔ FirstBest (l1 ++ x :: l2) l1 x l2 := by
  have hd : List.drop (l1.length + 1) (l1 ++ x :: l2) = l2 := by
    rw [show l1 ++ x :: l2 = (l1 ++ [x]) ++ l2 by simp]
    exact List.drop_left' (by simp)
  simp only [keptMultiple, FirstBest, true_and, List.take_left', hd, Bool.and_eq_true, decide_eq_true_eq,
    List.all_eq_true, Bool.or_eq_true, bne_iff_ne, ne_eq, ← Decidable.imp_iff_not_or, and_assoc]

/-- the score dict is an association list: `setScore`/`getScore` are its `put`/`get` -/
theorem setScore_eq_put (p : Int) (v : Nat × FHit) : ∀ q : QS, setScore q p v = Base.AList.put q p v
  | [] => rfl
  | (p', v') :: t => by
    simp only [setScore, Base.AList.put, setScore_eq_put p v t]
    split
    · rename_i h; rw [h]
    · rfl

theorem getScore_eq_get (q : QS) (p : Int) : getScore q p = Base.AList.get q p := by
  rw [Base.AList.get_eq_find?, getScore]
  cases q.find? (fun e => e.1 == p) <;> rfl

theorem setScore_keys (p : Int) (v : Nat × FHit) (q : QS) :
    (setScore q p v).map (·.1) = if p ∈ q.map (·.1) then q.map (·.1) else q.map (·.1) ++ [p] :=
  setScore_eq_put p v q ▸ Base.AList.keys_put q p v

theorem mem_setScore_iff (p : Int) (v : Nat × FHit) (q : QS) (hn : (q.map (·.1)).Nodup) (e : Int × Nat × FHit) :
    e ∈ setScore q p v ↔ e = (p, v) ∨ (e ∈ q ∧ e.1 ≠ p) :=
  setScore_eq_put p v q ▸ Base.AList.mem_put hn

theorem getScore_eq_some {q : QS} (hn : (q.map (·.1)).Nodup) {p : Int} {v : Nat × FHit} :
    getScore q p = some v ↔ (p, v) ∈ q :=
  getScore_eq_get q p ▸ Base.AList.get_eq_some hn

theorem getScore_eq_none {q : QS} {p : Int} : getScore q p = none ↔ p ∉ q.map (·.1) :=
  getScore_eq_get q p ▸ Base.AList.get_eq_none

/-- invariant of the `enumerate` loop after the prefix `pre` -/
structure Inv (q : QS) (pre : List FHit) : Prop where
  keys : (q.map (·.1)).Nodup
  sound : ∀ e ∈ q, ∃ l1 l2, FirstBest pre l1 e.2.2 l2 ∧ l1.length = e.2.1 ∧ e.2.2.prof = e.1
  complete : ∀ g ∈ pre, -10 < g.sc → g.prof ∈ q.map (·.1)

/-- a hit that improves on its profile's entry beats every earlier hit of the profile -/
theorem Inv.of_improves {q : QS} {pre : List FHit} (inv : Inv q pre) {h : FHit} (himp : improves q h = true) :
    -10 < h.sc ∧ ∀ g ∈ pre, g.prof = h.prof → g.sc < h.sc := by
  simp only [improves] at himp
  split at himp
  · rename_i hnone
    have hnk := getScore_eq_none.mp hnone
    have hpos : -10 < h.sc := of_decide_eq_true himp
    refine ⟨hpos, ?_⟩
    intro g hg hgp
    by_cases hgs : -10 < g.sc
    · exact absurd (hgp ▸ inv.complete g hg hgs) hnk
    · omega
  · rename_i i b hsome
    have hb : b.sc < h.sc := of_decide_eq_true himp
    obtain ⟨l1, l2, ⟨hsplit, hpos, hl1, hl2⟩, _, hprof⟩ := inv.sound _ ((getScore_eq_some inv.keys).mp hsome)
    simp only at hsplit hpos hl1 hl2 hprof
    refine ⟨Int.lt_trans hpos hb, ?_⟩
    intro g hg hgp
    rw [hsplit] at hg
    rcases List.mem_append.mp hg with hg | hg
    · exact Int.lt_trans (hl1 g hg (hgp.trans hprof.symm)) hb
    · rcases List.mem_cons.mp hg with rfl | hg
      · exact hb
      · exact Int.lt_of_le_of_lt (hl2 g hg (hgp.trans hprof.symm)) hb

/-- a hit that does not improve scores no more than its profile's entry, which exists if the hit counts -/
theorem Inv.of_not_improves {q : QS} {pre : List FHit} (inv : Inv q pre) {h : FHit} (himp : ¬ improves q h = true) :
    (∀ e ∈ q, e.1 = h.prof → h.sc ≤ e.2.2.sc) ∧ (-10 < h.sc → h.prof ∈ q.map (·.1)) := by
  simp only [improves] at himp
  split at himp
  · rename_i hnone
    have hnk := getScore_eq_none.mp hnone
    exact ⟨fun e he hep => absurd (List.mem_map.mpr ⟨e, he, hep⟩) hnk, fun hpos => absurd (decide_eq_true hpos) himp⟩
  · rename_i i b hsome
    have hmem := (getScore_eq_some inv.keys).mp hsome
    have hb : h.sc ≤ b.sc := Int.not_lt.mp (fun hlt => himp (decide_eq_true hlt))
    refine ⟨?_, fun _ => List.mem_map.mpr ⟨_, hmem, rfl⟩⟩
    intro e he hep
    obtain rfl : e = (h.prof, i, b) := inj_of_nodup_map _ inv.keys e he _ hmem hep
    exact hb

theorem Inv.step {q : QS} {pre : List FHit} (inv : Inv q pre) (h : FHit) :
    Inv (if improves q h then setScore q h.prof (pre.length, h) else q) (pre ++ [h]) := by
  -- extending the split of an entry of another profile, or of the same profile when `h` is not better
  have extend : ∀ e ∈ q, (e.1 = h.prof → h.sc ≤ e.2.2.sc) →
      ∃ l1 l2, FirstBest (pre ++ [h]) l1 e.2.2 l2 ∧ l1.length = e.2.1 ∧ e.2.2.prof = e.1 := by
    intro e he hsc
    obtain ⟨l1, l2, ⟨hsplit, hpos, hl1, hl2⟩, hlen, hprof⟩ := inv.sound e he
    refine ⟨l1, l2 ++ [h], ⟨by rw [hsplit, List.append_assoc, List.cons_append], hpos, hl1, ?_⟩, hlen, hprof⟩
    intro g hg hgp
    rcases List.mem_append.mp hg with hg | hg
    · exact hl2 g hg hgp
    · rw [List.mem_singleton.mp hg] at hgp ⊢
      exact hsc (hprof.symm.trans hgp.symm)
  split
  · rename_i himp
    have hless := inv.of_improves himp
    refine ⟨?_, ?_, ?_⟩
    · exact setScore_eq_put _ _ q ▸ Base.AList.nodup_put inv.keys _ _
    · intro e he
      rcases (mem_setScore_iff _ _ q inv.keys e).mp he with rfl | ⟨heq, hne⟩
      · exact ⟨pre, [], ⟨rfl, hless.1, hless.2, fun _ hg => absurd hg List.not_mem_nil⟩, rfl, rfl⟩
      · exact extend e heq (fun h' => absurd h' hne)
    · intro g hg hgs
      rw [setScore_eq_put]
      refine Base.AList.mem_keys_put.mpr ?_
      rcases List.mem_append.mp hg with hg | hg
      · exact Or.inr (inv.complete g hg hgs)
      · exact Or.inl (congrArg FHit.prof (List.mem_singleton.mp hg))
  · rename_i himp
    obtain ⟨hle, hkey⟩ := inv.of_not_improves himp
    refine ⟨inv.keys, fun e he => extend e he (hle e he), ?_⟩
    intro g hg hgs
    rcases List.mem_append.mp hg with hg | hg
    · exact inv.complete g hg hgs
    · rw [List.mem_singleton.mp hg] at hgs ⊢
      exact hkey hgs

theorem scanMultiple_inv : ∀ (t : List FHit) (q : QS) (pre : List FHit), Inv q pre →
    Inv (scanMultiple q pre.length t) (pre ++ t)
  | [], q, pre, inv => by simpa [scanMultiple] using inv
  | h :: t, q, pre, inv => by
    have st := inv.step h
    have e1 : (pre ++ [h]).length = pre.length + 1 := by simp
    have e2 : (pre ++ [h]) ++ t = pre ++ h :: t := by simp
    simp only [scanMultiple]
    split
    · rename_i himp
      simp only [himp, if_true] at st
      have := scanMultiple_inv t _ (pre ++ [h]) st
      rw [e1, e2] at this
      exact this
    · rename_i himp
      simp only [himp, Bool.false_eq_true, if_false] at st
      have := scanMultiple_inv t _ (pre ++ [h]) st
      rw [e1, e2] at this
      exact this

theorem firstBest_unique {hits l1 l2 l1' l2' : List FHit} {x y : FHit}
    (hx : FirstBest hits l1 x l2) (hy : FirstBest hits l1' y l2') (hp : x.prof = y.prof) : x = y := by
  obtain ⟨ex, _, hx1, hx2⟩ := hx
  obtain ⟨ey, _, hy1, hy2⟩ := hy
  rw [ex] at ey
  rcases List.append_eq_append_iff.mp ey with ⟨a', e1, e2⟩ | ⟨c', e1, e2⟩
  · cases a' with
    | nil => simp at e2; exact e2.1
    | cons z a'' =>
      simp only [List.cons_append, List.cons.injEq] at e2
      obtain ⟨rfl, e3⟩ := e2
      have hx_in : x ∈ l1' := by rw [e1]; simp
      have hy_in : y ∈ l2 := by rw [e3]; simp
      have h1 := hy1 x hx_in hp
      have h2 := hx2 y hy_in hp.symm
      omega
  · cases c' with
    | nil => simp at e2; exact e2.1.symm
    | cons z c'' =>
      simp only [List.cons_append, List.cons.injEq] at e2
      obtain ⟨rfl, e3⟩ := e2
      have hy_in : y ∈ l1 := by rw [e1]; simp
      have hx_in : x ∈ l2' := by rw [e3]; simp
      have h1 := hx1 y hy_in hp.symm
      have h2 := hy2 x hx_in hp
      omega

theorem scanMultiple_inv_all (hits : List FHit) : Inv (scanMultiple [] 0 hits) hits := by
  have := scanMultiple_inv hits [] [] ⟨by simp, by simp, by simp⟩
  simpa using this

theorem mem_filterMultiple {hits : List FHit} {x : FHit} :
    x ∈ filterMultiple hits ↔ ∃ l1 l2, FirstBest hits l1 x l2 := by
  have inv := scanMultiple_inv_all hits
  simp only [filterMultiple, List.mem_map, mem_sortBy]
  constructor
  · rintro ⟨⟨i, y⟩, ⟨e, he, hev⟩, rfl⟩
    obtain ⟨l1, l2, hfb, _, _⟩ := inv.sound e he
    rw [hev] at hfb
    exact ⟨l1, l2, hfb⟩
  · rintro ⟨l1, l2, hfb⟩
    have hx : x ∈ hits := by rw [hfb.1]; simp
    obtain ⟨e, he, hk⟩ := List.mem_map.mp (inv.complete x hx hfb.2.1)
    obtain ⟨l1', l2', hfb', _, hp⟩ := inv.sound e he
    have : e.2.2 = x := firstBest_unique hfb' hfb (by rw [hp, hk])
    exact ⟨e.2, ⟨e, he, rfl⟩, this⟩

/-- every profile with a hit scoring above −1 keeps one that scores at least as high -/
theorem filterMultiple_represents (hits : List FHit) (g : FHit) (hg : g ∈ hits) (hs : -10 < g.sc) :
    ∃ x ∈ filterMultiple hits, x.prof = g.prof ∧ g.sc ≤ x.sc := by
  have inv := scanMultiple_inv_all hits
  obtain ⟨e, he, hk⟩ := List.mem_map.mp (inv.complete g hg hs)
  obtain ⟨l1, l2, hfb, _, hp⟩ := inv.sound e he
  refine ⟨e.2.2, mem_filterMultiple.mpr ⟨l1, l2, hfb⟩, by rw [hp, hk], ?_⟩
  obtain ⟨hsplit, _, h1, h2⟩ := hfb
  rw [hsplit] at hg
  rcases List.mem_append.mp hg with hg | hg
  · have := h1 g hg (by rw [hp, hk]); omega
  · rcases List.mem_cons.mp hg with rfl | hg
    · exact Int.le_refl _
    · exact h2 g hg (by rw [hp, hk])

/-- the reported hits come in the order of the gene's hit list -/
theorem filterMultiple_sublist (hits : List FHit) : (filterMultiple hits).Sublist hits := by
  have inv := scanMultiple_inv_all hits
  -- every recorded (index, hit) really is the hit at that index
  have hidx : ∀ e ∈ scanMultiple [] 0 hits, e.2 ∈ enumG 0 hits := by
    intro e he
    obtain ⟨l1, l2, hfb, hlen, _⟩ := inv.sound e he
    rw [mem_enumG_iff]
    refine ⟨Nat.zero_le _, ?_⟩
    rw [Nat.sub_zero, ← hlen, hfb.1]
    simp
  let K := sortBy (fun (a b : Nat × FHit) => decide (a.1 ≤ b.1)) ((scanMultiple [] 0 hits).map (·.2))
  have hK_mem : ∀ x ∈ K, x ∈ enumG 0 hits := by
    intro x hx
    obtain ⟨e, he, rfl⟩ := List.mem_map.mp ((mem_sortBy _).mp hx)
    exact hidx e he
  have hK_le : K.Pairwise (fun a b => a.1 ≤ b.1) := sortBy_key_pairwise (Prod.fst : Nat × FHit → Nat) _
  -- different recorded entries have different indices: equal index, equal hit, equal profile, equal key
  have hK_ne : K.Pairwise (fun a b => a.1 ≠ b.1) := by
    have hE : ((scanMultiple [] 0 hits).map (·.2)).Pairwise (fun a b => a.1 ≠ b.1) := by
      rw [List.pairwise_map]
      have hkeys := inv.keys
      rw [List.Nodup, List.pairwise_map] at hkeys
      refine List.Pairwise.imp_of_mem ?_ hkeys
      intro a b ha hb hne hidxeq
      apply hne
      have h1 := (mem_enumG_iff.mp (hidx a ha)).2
      have h2 := (mem_enumG_iff.mp (hidx b hb)).2
      rw [hidxeq, h2] at h1
      simp only [Option.some.injEq] at h1
      obtain ⟨_, _, _, _, pa⟩ := inv.sound a ha
      obtain ⟨_, _, _, _, pb⟩ := inv.sound b hb
      rw [← pa, ← pb, h1]
    exact (List.Perm.pairwise_iff (fun {x y} h => fun e => h e.symm) (sortBy_perm _ _)).mpr hE
  have hK_lt : K.Pairwise (fun a b => a.1 < b.1) := (hK_le.and hK_ne).imp (fun h => by omega)
  have := (sublist_of_subset_of_increasing (·.1) (enumG_idx_lt 0 hits) hK_lt hK_mem).map (·.2)
  rw [enumG_map_snd] at this
  exact this

end ASV.HitFilter
