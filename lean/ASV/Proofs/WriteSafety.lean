/-
  C20: the effect machine of `Model/WriteSafety.lean` against the order-free definitions of
  `Spec/WriteSafety.lean` — `json.dumps`, the two conversion loops, `write_to_file` and `dump_records` as wholes (also
  in an environment and with a directory at the target path), fault plans, results read back with
  `--reuse-results`, file contents.
-/
import ASV.Spec.WriteSafety
namespace ASV.WriteSafety

mutual
theorem encode_spec : ∀ v : PyVal, encode v = if v.faulty then none else some (denote v)
  | .none => rfl
  | .bool _ => rfl
  | .int n => by
      show (if intOk n then _ else _) = if !intOk n then _ else _
      cases intOk n <;> rfl
  | .str _ => rfl
  | .list xs => by
      show (match encodeList xs with | some ts => _ | none => _) = if faultyList xs then _ else _
      rw [encodeList_spec xs]
      cases faultyList xs <;> rfl
  | .dict kvs => by
      show (match encodeKvs kvs with | some ts => _ | none => _) = if faultyKvs kvs then _ else _
      rw [encodeKvs_spec kvs]
      cases faultyKvs kvs <;> rfl
  | .seq _ => rfl
  | .seqConv _ _ => rfl
  | .conv v => encode_spec v
  | .convRaises _ => rfl
  | .dunder v => encode_spec v
  | .dunderRaises _ => rfl
  | .both v _ => encode_spec v
  | .opaque => rfl
theorem encodeList_spec : ∀ xs : List PyVal,
    encodeList xs = if faultyList xs then none else some (denoteList xs)
  | [] => rfl
  | x :: xs => by
      show (match encode x with | none => _ | some t => _) = if x.faulty || faultyList xs then _ else _
      rw [encode_spec x, encodeList_spec xs]
      cases x.faulty <;> cases faultyList xs <;> rfl
theorem encodeKvs_spec : ∀ kvs : List (String × PyVal),
    encodeKvs kvs = if faultyKvs kvs then none else some (denoteKvs kvs)
  | [] => rfl
  | (k, v) :: rest => by
      show (match encode v with | none => _ | some t => _) = if v.faulty || faultyKvs rest then _ else _
      rw [encode_spec v, encodeKvs_spec rest]
      cases v.faulty <;> cases faultyKvs rest <;> rfl
end

/-- what `modules` holds after the inner loop when no call raised -/
def payloads : ModDict → List (String × PyVal)
  | [] => []
  | (k, .mod _ v) :: rest => (k, v) :: payloads rest
  | _ :: rest => payloads rest

def valueFault (m : ModDict) : Bool := faultyKvs (payloads m)
def raisingDict (m : ModDict) : Bool := m.any fun kv => kv.2.raising

@[simp] theorem dictFaulty_nil : dictFaulty [] = false := rfl
@[simp] theorem raisingDict_nil : raisingDict [] = false := rfl
theorem dictFaulty_cons (k : String) (s : ModSpec) (rest : ModDict) :
    dictFaulty ((k, s) :: rest) = (s.faulty || dictFaulty rest) := by
  simp only [dictFaulty, List.any_cons]
theorem raisingDict_cons (k : String) (s : ModSpec) (rest : ModDict) :
    raisingDict ((k, s) :: rest) = (s.raising || raisingDict rest) := by
  simp only [raisingDict, List.any_cons]

theorem dictFaulty_split : ∀ m : ModDict, dictFaulty m = (raisingDict m || valueFault m)
  | [] => by simp [valueFault, payloads, faultyKvs]
  | (k, s) :: rest => by
      rw [dictFaulty_cons, raisingDict_cons, dictFaulty_split rest]
      cases s with
      | none => simp [ModSpec.faulty, ModSpec.raising, valueFault, payloads]
      | mod t v =>
        simp only [ModSpec.faulty, ModSpec.raising, valueFault, payloads, faultyKvs, Bool.false_or]
        cases v.faulty <;> cases raisingDict rest <;> simp
      | raises t e => simp [ModSpec.faulty, ModSpec.raising]
      | invalid raw => simp [ModSpec.faulty, ModSpec.raising]

theorem denoteKvs_payloads : ∀ m : ModDict, denoteKvs (payloads m) = modsDoc m
  | [] => by simp [payloads, denoteKvs, modsDoc]
  | (k, s) :: rest => by
      cases s <;> simp [payloads, denoteKvs, modsDoc, denoteKvs_payloads rest]

private theorem convertModules_aux (i : Nat) : ∀ (j : Nat) (m : ModDict),
    (∀ ev ∈ (convertModules i j m).trace, ev.isConversion = true) ∧
    (raisingDict m = false → (convertModules i j m).out = .ok (payloads m)) ∧
    (raisingDict m = true → ∃ e, (convertModules i j m).out = .error e)
  | _, [] => ⟨by simp [convertModules], fun _ => rfl, fun h => by simp at h⟩
  | j, (k, s) :: rest => by
      obtain ⟨ht, hok, herr⟩ := convertModules_aux i (j + 1) rest
      rw [raisingDict_cons]
      cases s with
      | none => simpa [convertModules, ModSpec.isNone, ModSpec.raising, payloads] using ⟨ht, hok, herr⟩
      | mod t v =>
        simp only [convertModules, ModSpec.isNone, ModSpec.raising, payloads, Bool.false_or, Bool.false_eq_true,
          if_false]
        refine ⟨?_, ?_, ?_⟩
        · intro ev hev
          rcases List.mem_cons.1 hev with rfl | hev
          · rfl
          · exact ht ev hev
        · intro h
          rw [hok h]
        · intro h
          obtain ⟨e, he⟩ := herr h
          exact ⟨e, by rw [he]⟩
      | raises t e =>
        exact ⟨by simp [convertModules, ModSpec.isNone, Ev.isConversion], fun h => by simp [ModSpec.raising] at h,
          fun _ => ⟨e, by simp [convertModules, ModSpec.isNone]⟩⟩
      | invalid raw =>
        exact ⟨by simp [convertModules, ModSpec.isNone], fun h => by simp [ModSpec.raising] at h,
          fun _ => ⟨typeError, by simp [convertModules, ModSpec.isNone]⟩⟩

theorem convertModules_ok (i j : Nat) (m : ModDict) (h : raisingDict m = false) :
    (convertModules i j m).out = .ok (payloads m) :=
  (convertModules_aux i j m).2.1 h

theorem convertModules_err (i j : Nat) (m : ModDict) (h : raisingDict m = true) :
    ∃ e, (convertModules i j m).out = .error e :=
  (convertModules_aux i j m).2.2 h

theorem convertModules_trace (i j : Nat) (m : ModDict) :
    ∀ ev ∈ (convertModules i j m).trace, ev.isConversion = true :=
  (convertModules_aux i j m).1

@[simp] theorem callFault_nil (ress : List ModDict) : callFault [] ress = false := by
  simp [callFault]
@[simp] theorem callFault_cons_nil (r : RecSpec) (rs : List RecSpec) : callFault (r :: rs) [] = true := by
  simp [callFault]
theorem callFault_cons_cons (r : RecSpec) (rs : List RecSpec) (res : ModDict) (ress : List ModDict) :
    callFault (r :: rs) (res :: ress) = (r.fault.isSome || raisingDict res || callFault rs ress) := by
  simp only [callFault, raisingDict, List.length_cons, List.any_cons, List.take_succ_cons, Nat.add_lt_add_iff_right]
  ac_rfl

@[simp] theorem conversionFault_nil (ress : List ModDict) : conversionFault [] ress = false := by
  simp [conversionFault]
@[simp] theorem conversionFault_cons_nil (r : RecSpec) (rs : List RecSpec) :
    conversionFault (r :: rs) [] = true := by
  simp [conversionFault]
theorem conversionFault_cons_cons (r : RecSpec) (rs : List RecSpec) (res : ModDict) (ress : List ModDict) :
    conversionFault (r :: rs) (res :: ress) = (r.fault.isSome || dictFaulty res || conversionFault rs ress) := by
  simp only [conversionFault, List.length_cons, List.any_cons, List.take_succ_cons, Nat.add_lt_add_iff_right]
  ac_rfl

/-- some module value among the visited results cannot be serialised -/
def valueFaults (rs : List RecSpec) (ress : List ModDict) : Bool := (ress.take rs.length).any valueFault

theorem conversionFault_split : ∀ (rs : List RecSpec) (ress : List ModDict),
    conversionFault rs ress = (callFault rs ress || valueFaults rs ress)
  | [], ress => by simp [valueFaults]
  | r :: rs, [] => by simp
  | r :: rs, res :: ress => by
      rw [conversionFault_cons_cons, callFault_cons_cons, conversionFault_split rs ress, dictFaulty_split]
      simp only [valueFaults, List.length_cons, List.take_succ_cons, List.any_cons]
      cases r.fault.isSome <;> cases raisingDict res <;> cases valueFault res <;> cases callFault rs ress <;> simp

private theorem convertRecords_aux : ∀ (i : Nat) (rs : List RecSpec) (ress : List ModDict),
    (∀ ev ∈ (convertRecords i rs ress).trace, ev.isConversion = true) ∧
    (callFault rs ress = false → (convertRecords i rs ress).out = .ok ((ress.take rs.length).map payloads)) ∧
    (callFault rs ress = true → ∃ e, (convertRecords i rs ress).out = .error e)
  | _, [], _ => ⟨by simp [convertRecords], fun _ => by simp [convertRecords], fun h => by simp at h⟩
  | _, r :: rs, [] =>
    ⟨by simp [convertRecords], fun h => by simp at h, fun _ => ⟨indexError, by simp [convertRecords]⟩⟩
  | i, r :: rs, res :: ress => by
      have mt := convertModules_trace i 0 res
      have mok := convertModules_ok i 0 res
      have merr := convertModules_err i 0 res
      obtain ⟨ht, hok, herr⟩ := convertRecords_aux (i + 1) rs ress
      rw [callFault_cons_cons]
      cases hr : r.fault with
      | some e =>
        exact ⟨by simp [convertRecords, hr, Ev.isConversion], fun h => by simp at h,
          fun _ => ⟨e, by simp [convertRecords, hr]⟩⟩
      | none =>
        cases hm : raisingDict res with
        | true =>
          obtain ⟨e, he⟩ := merr hm
          refine ⟨?_, fun h => by simp at h, fun _ => ⟨e, by simp [convertRecords, hr, he]⟩⟩
          intro ev hev
          simp only [convertRecords, hr, he, List.mem_cons] at hev
          rcases hev with rfl | hev
          · rfl
          · exact mt ev hev
        | false =>
          have hmo := mok hm
          simp only [Option.isSome_none, Bool.false_or]
          refine ⟨?_, ?_, ?_⟩
          · intro ev hev
            simp only [convertRecords, hr, hmo, List.mem_cons, List.mem_append] at hev
            rcases hev with (rfl | hev) | hev
            · rfl
            · exact mt ev hev
            · exact ht ev hev
          · intro h
            simp [convertRecords, hr, hmo, hok h]
          · intro h
            obtain ⟨e, he⟩ := herr h
            exact ⟨e, by simp [convertRecords, hr, hmo, he]⟩

theorem convertRecords_ok (i : Nat) (rs : List RecSpec) (ress : List ModDict) (h : callFault rs ress = false) :
    (convertRecords i rs ress).out = .ok ((ress.take rs.length).map payloads) :=
  (convertRecords_aux i rs ress).2.1 h

theorem convertRecords_err (i : Nat) (rs : List RecSpec) (ress : List ModDict) (h : callFault rs ress = true) :
    ∃ e, (convertRecords i rs ress).out = .error e :=
  (convertRecords_aux i rs ress).2.2 h

theorem convertRecords_trace (i : Nat) (rs : List RecSpec) (ress : List ModDict) :
    ∀ ev ∈ (convertRecords i rs ress).trace, ev.isConversion = true :=
  (convertRecords_aux i rs ress).1

theorem encodeRecords_spec : ∀ ms : List ModDict,
    encodeRecords (ms.map payloads) = if ms.any valueFault then none else some (recordsDoc ms)
  | [] => by simp [encodeRecords, recordsDoc]
  | m :: ms => by
      have e1 : faultyKvs (payloads m) = valueFault m := rfl
      simp only [List.map_cons, encodeRecords, encodeKvs_spec, encodeRecords_spec ms, List.any_cons,
        recordsDoc, denoteKvs_payloads, e1]
      by_cases h1 : valueFault m = true <;> by_cases h2 : ms.any valueFault = true <;> simp [h1, h2]

/-- a trace of conversion calls and error logs: what a failing write may leave behind -/
abbrev Quiet (tr : List Ev) : Prop := ∀ ev ∈ tr, ev.isConversion = true ∨ ev = .logErr

theorem quiet_conversions (i : Nat) (rs : List RecSpec) (ress : List ModDict) :
    Quiet (convertRecords i rs ress).trace :=
  fun ev hev => Or.inl (convertRecords_trace i rs ress ev hev)

theorem Quiet.logged {tr : List Ev} (h : Quiet tr) : Quiet (tr ++ [.logErr]) := by
  intro ev hev
  rcases List.mem_append.1 hev with h1 | h1
  · exact h ev h1
  · exact Or.inr (List.mem_singleton.1 h1)

theorem Quiet.maybe_logged {tr : List Ev} (h : Quiet tr) (b : Bool) :
    Quiet (tr ++ if b then [.logErr] else []) := by
  cases b
  · rw [if_neg Bool.false_ne_true, List.append_nil]
    exact h
  · exact h.logged

theorem conversion_not_touching (ev : Ev) (h : ev.isConversion = true) : ev.touchesFiles = false := by
  cases ev <;> simp_all [Ev.isConversion, Ev.touchesFiles]

theorem quiet_trace (tr : List Ev) (h : Quiet tr) : tr.any Ev.touchesFiles = false := by
  rw [List.any_eq_false]
  intro ev hev
  rcases h ev hev with hc | rfl
  · simp [conversion_not_touching ev hc]
  · simp [Ev.touchesFiles]

theorem writesOrRemoves_touches (ev : Ev) (h : ev.writesOrRemoves = true) : ev.touchesFiles = true := by
  cases ev <;> simp_all [Ev.writesOrRemoves, Ev.touchesFiles]

theorem no_write_of_untouched (tr : List Ev) (h : tr.any Ev.touchesFiles = false) :
    tr.any Ev.writesOrRemoves = false := by
  rw [List.any_eq_false] at h ⊢
  exact fun ev hev hw => h ev hev (writesOrRemoves_touches ev hw)

theorem convertThenTouch_append (a b : List Ev) (h : a.any Ev.touchesFiles = false) :
    convertThenTouch (a ++ b) = convertThenTouch b := by
  induction a with
  | nil => rfl
  | cons e a ih =>
    simp only [List.any_cons, Bool.or_eq_false_iff] at h
    simp [convertThenTouch, h.1, ih h.2]

theorem convertThenTouch_quiet (a : List Ev) (h : a.any Ev.touchesFiles = false) :
    convertThenTouch a = true := by
  have := convertThenTouch_append a [] h
  simpa [convertThenTouch] using this

theorem convertThenTouch_emit (h : Handle) (d : Dir) (t : Bytes) : convertThenTouch (emit h d t).1 = true := by
  cases h <;> simp [emit, convertThenTouch, Ev.touchesFiles, Ev.isConversion]

theorem append_other (d : Dir) (n : String) (t : Bytes) (h : d.any (fun e => e.name == n) = false) :
    d.append n t = d := by
  rw [List.any_eq_false] at h
  unfold Dir.append
  conv => rhs; rw [← List.map_id d]
  apply List.map_congr_left
  intro e he
  have := h e he
  simp_all

theorem openW_append (d : Dir) (n : String) (t : Bytes) : (d.openW n).append n t = d.withFile n t := by
  unfold Dir.openW Dir.withFile
  cases hany : d.any (fun e => e.name == n) with
  | true =>
    simp only [if_true, Dir.append, List.map_map]
    apply List.map_congr_left
    intro e _
    by_cases hn : e.name = n <;> simp [hn]
  | false =>
    simp only [Bool.false_eq_true, if_false]
    have h1 : Dir.append (d ++ [⟨n, false, []⟩]) n t = d.append n t ++ [⟨n, false, t⟩] := by
      simp [Dir.append]
    rw [h1, append_other d n t hany]

theorem emit_dir (h : Handle) (d : Dir) (t : Bytes) : (emit h d t).2 = expectedAfter h d t := by
  cases h <;> simp [emit, expectedAfter, openW_append]

/-- every way `write_to_file` fails has one shape: the conversions that ran, the error log exactly
    for a `TypeError`, the exception, and the directory that was passed in -/
theorem writeToFile_fault (r : Results) (h : Handle) (d : Dir) (hf : r.hasFault = true) :
    ∃ e, writeToFile r h d =
      ⟨(convertRecords 0 r.records r.results).trace ++ (if e == typeError then [.logErr] else []), some e, d⟩ := by
  unfold Results.hasFault at hf
  rw [conversionFault_split] at hf
  cases hc : callFault r.records r.results with
  | true =>
    obtain ⟨e, he⟩ := convertRecords_err 0 _ _ hc
    refine ⟨e, ?_⟩
    cases hte : e == typeError with
    | true =>
      have := eq_of_beq hte
      subst this
      simp only [writeToFile, he, hte, if_true]
    | false => simp [writeToFile, he, hte]
  | false =>
    have hok := convertRecords_ok 0 _ _ hc
    rw [hc, Bool.false_or] at hf
    refine ⟨typeError, ?_⟩
    rw [beq_self_eq_true, if_pos rfl]
    cases hv : (List.take r.records.length r.results).any valueFault with
    | true => simp only [writeToFile, hok, encodeRecords_spec, hv, if_true]
    | false =>
      have ht : r.timings.faulty = true := by
        rw [valueFaults, hv, Bool.false_or] at hf
        exact hf
      simp only [writeToFile, hok, encodeRecords_spec, hv, encode_spec, ht, if_true]
      simp

theorem writeToFile_clean (r : Results) (h : Handle) (d : Dir) (hf : r.hasFault = false) :
    writeToFile r h d =
      ⟨(convertRecords 0 r.records r.results).trace ++ (emit h d (expectedFull r)).1, none,
       expectedAfter h d (expectedFull r)⟩ := by
  unfold Results.hasFault at hf
  rw [conversionFault_split] at hf
  simp only [Bool.or_eq_false_iff] at hf
  obtain ⟨⟨hc, hv⟩, ht⟩ := hf
  have hv' : (List.take r.records.length r.results).any valueFault = false := hv
  have hok := convertRecords_ok 0 _ _ hc
  simp only [writeToFile, hok, encodeRecords_spec, hv', encode_spec, ht]
  simp [emit_dir, expectedFull]

/-- the faults `dump_records` can meet: value faults only matter when something is serialised -/
def dumpFault (records : List RecSpec) (results : List ModDict) : Handle → Bool
  | .absent => callFault records results
  | _ => conversionFault records results

theorem dumpRecords_fault (rs : List RecSpec) (ress : List ModDict) (h : Handle) (d : Dir)
    (hf : dumpFault rs ress h = true) :
    ∃ e tr, dumpRecords rs ress h d = ⟨tr, some e, d⟩ ∧ Quiet tr := by
  cases hc : callFault rs ress with
  | true =>
    obtain ⟨e, he⟩ := convertRecords_err 0 _ _ hc
    exact ⟨e, _, by simp only [dumpRecords, he], quiet_conversions 0 rs ress⟩
  | false =>
    have hok := convertRecords_ok 0 _ _ hc
    have hv : conversionFault rs ress = true → (List.take rs.length ress).any valueFault = true := by
      rw [conversionFault_split, hc, Bool.false_or]
      exact id
    cases h with
    | absent => exact absurd (hc ▸ hf) Bool.false_ne_true
    | path n | io n =>
      exact ⟨typeError, _, by simp only [dumpRecords, hok, encodeRecords_spec, hv hf, if_true],
        (quiet_conversions 0 rs ress).logged⟩

/-- the document `dump_records` emits: none without a handle -/
def dumpText (rs : List RecSpec) (ress : List ModDict) : Handle → Bytes
  | .absent => []
  | _ => expectedRecords rs ress

theorem dumpRecords_clean (rs : List RecSpec) (ress : List ModDict) (h : Handle) (d : Dir)
    (hf : dumpFault rs ress h = false) :
    dumpRecords rs ress h d =
      ⟨(convertRecords 0 rs ress).trace ++ (emit h d (dumpText rs ress h)).1, none,
       expectedAfter h d (dumpText rs ress h)⟩ := by
  cases h with
  | absent =>
    have hok := convertRecords_ok 0 _ _ hf
    simp [dumpRecords, hok, emit, expectedAfter]
  | path n | io n =>
    simp only [dumpFault, conversionFault_split, Bool.or_eq_false_iff] at hf
    have hv : (List.take rs.length ress).any valueFault = false := hf.2
    have hok := convertRecords_ok 0 _ _ hf.1
    simp only [dumpRecords, hok, encodeRecords_spec, hv]
    simp [emit_dir, dumpText, expectedRecords]

/-- how `write_to_file` and `dump_records` behave on the directory `d`: on a fault, an exception after a quiet
    trace and `d` as it was; otherwise the conversions `conv`, then `text` emitted to the handle -/
def Behaves (fault : Bool) (conv : List Ev) (text : Bytes) (h : Handle) (d : Dir) (o : Out) : Prop :=
  (fault = true → ∃ e tr, o = ⟨tr, some e, d⟩ ∧ Quiet tr) ∧
  (fault = false → o = ⟨conv ++ (emit h d text).1, none, expectedAfter h d text⟩)

theorem writeToFile_behaves (r : Results) (h : Handle) (d : Dir) :
    Behaves r.hasFault (convertRecords 0 r.records r.results).trace (expectedFull r) h d (writeToFile r h d) := by
  refine ⟨fun hf => ?_, writeToFile_clean r h d⟩
  obtain ⟨e, he⟩ := writeToFile_fault r h d hf
  exact ⟨e, _, he, (quiet_conversions 0 r.records r.results).maybe_logged (e == typeError)⟩

theorem dumpRecords_behaves (rs : List RecSpec) (ress : List ModDict) (h : Handle) (d : Dir) :
    Behaves (dumpFault rs ress h) (convertRecords 0 rs ress).trace (dumpText rs ress h) h d
      (dumpRecords rs ress h d) :=
  ⟨dumpRecords_fault rs ress h d, dumpRecords_clean rs ress h d⟩

theorem specDumpRecords_eq (rs : List RecSpec) (ress : List ModDict) (h : Handle) (d : Dir) (o : Out) :
    specDumpRecords rs ress h d o =
      (convertThenTouch o.trace && if dumpFault rs ress h then failSafe d o else written h d (dumpText rs ress h) o) := by
  cases h <;> rfl

section
variable {fault : Bool} {conv : List Ev} {text : Bytes} {h : Handle} {d : Dir} {o : Out}

/-- the failure half of the property -/
theorem Behaves.failed (b : Behaves fault conv text h d o) (hf : fault = true) :
    (∃ e, o.err = some e) ∧ o.dir = d ∧ o.trace.any Ev.touchesFiles = false := by
  obtain ⟨e, tr, rfl, hq⟩ := b.1 hf
  exact ⟨⟨e, rfl⟩, rfl, quiet_trace tr hq⟩

/-- the success half -/
theorem Behaves.wrote (b : Behaves fault conv text h d o) (hf : fault = false) :
    o.err = none ∧ o.dir = expectedAfter h d text := by
  rw [b.2 hf]
  exact ⟨rfl, rfl⟩

theorem Behaves.fault_of_err (b : Behaves fault conv text h d o) (e : Exn) (he : o.err = some e) : fault = true := by
  cases hf : fault with
  | true => rfl
  | false =>
    rw [(b.wrote hf).1] at he
    cases he

/-- "convert, then open": no conversion follows the first file effect -/
theorem Behaves.ordered (b : Behaves fault conv text h d o) (hc : Quiet conv) : convertThenTouch o.trace = true := by
  cases hf : fault with
  | true => exact convertThenTouch_quiet _ (b.failed hf).2.2
  | false =>
    rw [b.2 hf, convertThenTouch_append _ _ (quiet_trace conv hc)]
    exact convertThenTouch_emit h d text

/-- the executable specs of both operations have this form -/
theorem Behaves.spec (b : Behaves fault conv text h d o) (hc : Quiet conv) :
    (convertThenTouch o.trace && if fault then failSafe d o else written h d text o) = true := by
  rw [b.ordered hc, Bool.true_and]
  cases hf : fault with
  | true =>
    obtain ⟨⟨e, he⟩, h2, h3⟩ := b.failed hf
    simp [failSafe, he, h2, h3]
  | false =>
    obtain ⟨h1, h2⟩ := b.wrote hf
    simp [written, h1, h2]

end

theorem setFault_faulty (f : ModSpec) (hf : f.faulty = true) :
    ∀ (m : ModDict) (j : Nat), j < m.length → dictFaulty (setFault m j f) = true
  | [], _, h => by simp at h
  | (k, s) :: rest, 0, _ => by simp [setFault, dictFaulty_cons, hf]
  | (k, s) :: rest, j + 1, h => by
      have := setFault_faulty f hf rest j (by simpa using h)
      simp [setFault, dictFaulty_cons, this]

theorem injectAt_fault (f : ModSpec) (hf : f.faulty = true) :
    ∀ (rs : List RecSpec) (ress : List ModDict) (i j : Nat) (_ : i < rs.length) (hi : i < ress.length),
      j < ress[i].length → conversionFault rs (injectAt ress i j f) = true
  | [], _, _, _, h, _, _ => by simp at h
  | _ :: _, [], _, _, _, h, _ => by simp at h
  | r :: rs, m :: ms, 0, j, _, _, hj => by
      simp only [injectAt, conversionFault_cons_cons]
      simp [setFault_faulty f hf m j (by simpa using hj)]
  | r :: rs, m :: ms, i + 1, j, h1, h2, hj => by
      have := injectAt_fault f hf rs ms i j (by simpa using h1) (by simpa using h2) (by simpa using hj)
      simp [injectAt, conversionFault_cons_cons, this]

theorem contentOf_withFile (d : Dir) (n : String) (t : Bytes) : (d.withFile n t).contentOf n = some t := by
  unfold Dir.withFile Dir.contentOf
  cases hany : d.any (fun e => e.name == n) with
  | true =>
    simp only [if_true]
    induction d with
    | nil => simp at hany
    | cons e d ih =>
      cases hb : e.name == n with
      | true =>
        have he : e.name = n := by simpa using hb
        simp [he]
      | false =>
        have hany' : d.any (fun e => e.name == n) = true := by simpa [hb] using hany
        simp only [List.map_cons, hb, Bool.false_eq_true, if_false, List.find?_cons]
        exact ih hany'
  | false =>
    simp only [Bool.false_eq_true, if_false]
    rw [List.any_eq_false] at hany
    have : d.find? (fun e => e.name == n) = none := by
      rw [List.find?_eq_none]; intro e he; simpa using hany e he
    simp [List.find?_append, this]

theorem contentOf_filter (d : Dir) (q : Entry → Bool) (n : String) (h : ∀ e ∈ d, e.name = n → q e = true) :
    Dir.contentOf (d.filter q) n = Dir.contentOf d n := by
  unfold Dir.contentOf
  induction d with
  | nil => rfl
  | cons e d ih =>
    have ih' := ih fun x hx => h x (List.mem_cons_of_mem _ hx)
    cases hb : e.name == n with
    | true =>
      have := h e (List.mem_cons_self ..) (by simpa using hb)
      simp [this, hb]
    | false =>
      rw [List.filter_cons, List.find?_cons, hb]
      split
      · rw [List.find?_cons, hb]
        exact ih'
      · exact ih'

theorem jsonShape_faulty_or_none : ∀ v : PyVal, jsonShape v = .none ∨ (jsonShape v).faulty = true
  | .none => Or.inl rfl
  | .bool _ => Or.inr rfl
  | .int _ => Or.inr rfl
  | .str _ => Or.inr rfl
  | .list _ => Or.inr rfl
  | .dict _ => Or.inr rfl
  | .seq _ => Or.inr rfl
  | .seqConv _ _ => Or.inr rfl
  | .conv v => by simpa [jsonShape] using jsonShape_faulty_or_none v
  | .convRaises _ => Or.inr rfl
  | .dunder v => by simpa [jsonShape] using jsonShape_faulty_or_none v
  | .dunderRaises _ => Or.inr rfl
  | .both v _ => by simpa [jsonShape] using jsonShape_faulty_or_none v
  | .opaque => Or.inr rfl

/-- a reloaded record's modules are faulty as soon as one of them was written as something other
    than `null` -/
theorem reloadDict_faulty (m : ModDict) (k : String) (t : Bool) (v : PyVal) (hk : (k, ModSpec.mod t v) ∈ m)
    (hv : jsonShape v ≠ .none) : dictFaulty (reloadDict m) = true := by
  induction m with
  | nil => simp at hk
  | cons kv rest ih =>
    obtain ⟨k', s⟩ := kv
    rcases List.mem_cons.1 hk with h | h
    · cases h
      rcases jsonShape_faulty_or_none v with h1 | h1
      · exact absurd h1 hv
      · simp [reloadDict, dictFaulty_cons, h1]
    · have := ih h
      cases s <;> simp [reloadDict, dictFaulty_cons, this]

theorem reload_hasFault (r : Results) (i : Nat) (hi : i < r.records.length) (hi' : i < r.results.length)
    (k : String) (t : Bool) (v : PyVal) (hk : (k, ModSpec.mod t v) ∈ r.results[i]) (hv : jsonShape v ≠ .none) :
    (reload r).hasFault = true := by
  have hmem : r.results[i] ∈ r.results.take r.records.length := by
    have hlt : i < (r.results.take r.records.length).length := by simp; omega
    have := List.getElem_mem hlt
    simpa using this
  have hf := reloadDict_faulty r.results[i] k t v hk hv
  have e : (reload r).results.take (reload r).records.length =
      (r.results.take r.records.length).map reloadDict := by
    unfold reload
    apply List.take_of_length_le
    simp
  simp only [Results.hasFault, conversionFault, Bool.or_eq_true]
  refine Or.inl (Or.inr ?_)
  rw [e, List.any_eq_true]
  exact ⟨reloadDict r.results[i], List.mem_map_of_mem hmem, hf⟩

theorem reload_lengths (r : Results) : (reload r).results.length = (reload r).records.length := by
  simp [reload]

theorem utf8_encodes_everything (text : Bytes) : encodable .utf8 text = true := by
  simp [encodable, Codec.canEncode]

theorem emitWith_utf8 (h : Handle) (d : Dir) (text : Bytes) :
    emitWith .utf8 h d text = ((emit h d text).1, (emit h d text).2, none) := by
  cases h <;> simp [emitWith, emit, utf8_encodes_everything]

theorem writeToFileIn_eq (env : Env) (r : Results) (h : Handle) (d : Dir) :
    writeToFileIn env r h d = writeToFile r h d := by
  unfold writeToFileIn writeToFile
  simp only [fileCodec, emitWith_utf8]

theorem dumpRecordsIn_eq (env : Env) (rs : List RecSpec) (ress : List ModDict) (h : Handle) (d : Dir) :
    dumpRecordsIn env rs ress h d = dumpRecords rs ress h d := by
  unfold dumpRecordsIn dumpRecords
  simp only [fileCodec, emitWith_utf8]

/-- a conversion fault is reported as always; otherwise the `open` fails and nothing changes -/
theorem writeToFileAt_dir (env : Env) (r : Results) (n : String) (d : Dir) (hd : targetIsDir (.path n) d = true) :
    writeToFileAt env r (.path n) d =
      if r.hasFault then writeToFile r (.path n) d
      else ⟨(convertRecords 0 r.records r.results).trace ++ [.openW n], some "IsADirectoryError", d⟩ := by
  cases hf : r.hasFault with
  | true =>
    obtain ⟨e, he⟩ := writeToFile_fault r (.path n) d hf
    simp [writeToFileAt, writeToFileIn_eq, hd, he]
  | false => simp [writeToFileAt, writeToFileIn_eq, hd, writeToFile_clean r (.path n) d hf]

end ASV.WriteSafety
