/-
  C16, gene level: `_sanitise_id_value`, `get_name()`, the name/location bookkeeping of
  `Record.add_cds_feature` (invariant `GInv`) and the feature loop of `Record.from_biopython`.
-/
import ASV.Proofs.Ids
namespace ASV.Ids
open ASV.Generated.Ids

/-- no character of the (regenerated) gene-level illegal set occurs -/
def GSafe (s : Str) : Prop := ∀ c ∈ s, c ∉ illegalGeneChars

theorem gsafe_iff (s : Str) : GSafe s ↔ IdSpec.geneSafe s = true := avoids_iff_all _ s

/-- table fact: the replacement character is itself legal -/
theorem underscore_gene_legal : '_' ∉ illegalGeneChars := by decide +kernel

theorem sanitise_safe (s : Str) : GSafe (sanitiseIdValue s) := by
  intro c hc
  unfold sanitiseIdValue at hc
  obtain ⟨a, _, rfl⟩ := List.mem_map.mp hc
  split
  · exact underscore_gene_legal
  · rename_i h
    simpa using h

theorem sanitise_length (s : Str) : (sanitiseIdValue s).length = s.length := by
  unfold sanitiseIdValue; simp

theorem sanitise_id_of_safe {s : Str} (h : GSafe s) : sanitiseIdValue s = s := by
  unfold sanitiseIdValue
  conv => rhs; rw [← List.map_id s]
  refine List.map_congr_left fun c hc => ?_
  have : c ∉ illegalGeneChars := h c hc
  simp [this]

theorem truthy_some {n : Str} (h : truthy (some n) = true) : n ≠ [] := by
  rintro rfl
  exact Bool.false_ne_true h

theorem truthy_ne_none {o : Option Str} (h : truthy o = true) : o ≠ none := by
  cases o with
  | none => simp [truthy] at h
  | some _ => simp

theorem getName_some {c : Cds} {n : Str} (h : c.getName = some n) :
    n ≠ [] ∧ (c.locusTag = some n ∨ c.gene = some n ∨ c.proteinId = some n) := by
  unfold Cds.getName at h
  by_cases h1 : truthy c.locusTag = true
  · rw [if_pos h1] at h
    exact ⟨truthy_some (h ▸ h1), Or.inl h⟩
  · rw [if_neg h1] at h
    by_cases h2 : truthy c.gene = true
    · rw [if_pos h2] at h
      exact ⟨truthy_some (h ▸ h2), Or.inr (Or.inl h)⟩
    · rw [if_neg h2] at h
      by_cases h3 : truthy c.proteinId = true
      · rw [if_pos h3] at h
        exact ⟨truthy_some (h ▸ h3), Or.inr (Or.inr h)⟩
      · rw [if_neg h3] at h
        exact nomatch h

theorem getName_ne_none {c : Cds} (h : (truthy c.locusTag || truthy c.gene || truthy c.proteinId) = true) :
    c.getName ≠ none := by
  unfold Cds.getName
  by_cases h1 : truthy c.locusTag = true
  · rw [if_pos h1]
    exact truthy_ne_none h1
  · rw [if_neg h1]
    by_cases h2 : truthy c.gene = true
    · rw [if_pos h2]
      exact truthy_ne_none h2
    · rw [if_neg h2]
      by_cases h3 : truthy c.proteinId = true
      · rw [if_pos h3]
        exact truthy_ne_none h3
      · rw [Bool.eq_false_iff.mpr h1, Bool.eq_false_iff.mpr h2, Bool.eq_false_iff.mpr h3] at h
        exact nomatch h

theorem mkCds_getName_safe {loc : Loc} {lt g p : Option Str} {n : Str}
    (h : (mkCds loc lt g p).getName = some n) : GSafe n := by
  have key : ∀ o : Option Str, o.map sanitiseIdValue = some n → GSafe n := by
    intro o he
    obtain ⟨x, _, rfl⟩ := Option.map_eq_some_iff.mp he
    exact sanitise_safe x
  exact (getName_some h).2.elim (key lt) fun ho => ho.elim (key g) (key p)

theorem cdsByName_none {s : GState} {n : Str} : s.cdsByName n = none ↔ n ∉ s.cdss.map (·.1) := by
  unfold GState.cdsByName
  simp only [Option.map_eq_none_iff, List.find?_eq_none, List.mem_map, not_exists, not_and]
  constructor
  · intro h x hx heq
    have := h x hx
    simp [heq] at this
  · intro h x hx
    have := h x hx
    simpa using this

theorem hasLocation_false {s : GState} {l : Loc} :
    s.hasLocation l = false ↔ locChars l ∉ s.cdss.map (fun x => locChars x.2) := by
  unfold GState.hasLocation
  simp only [List.any_eq_false, List.mem_map, not_exists, not_and]
  constructor
  · intro h x hx heq
    have := h x hx
    simp [heq] at this
  · intro h x hx
    have := h x hx
    simpa using this

/-! ### the checksum is made of hex digits, which are legal gene-id characters -/

/-- table fact: no hex digit is an illegal gene-id character -/
theorem hexChar_legal : ∀ d, d < 16 → hexChar d ∉ illegalGeneChars := by decide +kernel

theorem hexAux_safe : ∀ (fuel n : Nat) (acc : Str), GSafe acc → GSafe (hexAux fuel n acc)
  | 0, _, _, h => h
  | fuel + 1, n, acc, h => by
    have h' : GSafe (hexChar (n % 16) :: acc) := by
      intro c hc
      rcases List.mem_cons.mp hc with rfl | hc
      · exact hexChar_legal _ (Nat.mod_lt _ (by decide))
      · exact h c hc
    unfold hexAux
    split
    · exact h'
    · exact hexAux_safe fuel (n / 16) _ h'

theorem locationChecksum_safe (l : Loc) : GSafe (locationChecksum l) :=
  hexAux_safe 8 _ [] fun _ hc => nomatch hc

/-- every outcome of `add_cds_feature`: the feature is appended under `get_name()` or
    `get_name()_checksum`, a name and a location key that no earlier CDS feature of the record
    has; or one of the three input errors, the missing identifier only when there is none -/
theorem addCds_outcome {s : GState} {c : Cds} {res : Except GErr (GState × Str)} (h : addCds s c = res) :
    match res with
    | .ok (s', n) =>
      n ∉ s.cdss.map (·.1) ∧ locChars c.loc ∉ s.cdss.map (fun x => locChars x.2) ∧
      s'.cdss = s.cdss ++ [(n, c.loc)] ∧ s'.genes = s.genes ∧
      ∃ name, c.getName = some name ∧ (n = name ∨ n = name ++ '_' :: locationChecksum c.loc)
    | .error e => e = .noIdentifier → c.getName = none := by
  unfold addCds at h
  cases hn : c.getName with
  | none =>
    rw [hn] at h
    subst h
    exact fun _ => rfl
  | some name =>
    rw [hn] at h
    dsimp only at h
    by_cases hloc : s.hasLocation c.loc = true
    · rw [if_pos hloc] at h
      subst h
      exact fun he => nomatch he
    · rw [if_neg hloc] at h
      have hloc := hasLocation_false.mp (Bool.eq_false_iff.mpr hloc)
      cases hb : s.cdsByName name with
      | none =>
        rw [hb] at h
        subst h
        exact ⟨cdsByName_none.mp hb, hloc, rfl, rfl, name, rfl, Or.inl rfl⟩
      | some existing =>
        rw [hb] at h
        dsimp only at h
        by_cases h1 : (!truthy c.locusTag) = true
        · rw [if_pos h1] at h
          subst h
          exact fun he => nomatch he
        · rw [if_neg h1] at h
          by_cases h2 : (!(ASV.locationsOverlap c.loc existing ||
              (s.genes.filter (·.1 == name)).any fun g => ASV.locationsOverlap c.loc g.2)) = true
          · rw [if_pos h2] at h
            subst h
            exact fun he => nomatch he
          · rw [if_neg h2] at h
            cases hnew : s.cdsByName (name ++ '_' :: locationChecksum c.loc) with
            | some l =>
              rw [hnew] at h
              subst h
              exact fun he => nomatch he
            | none =>
              rw [hnew] at h
              subst h
              exact ⟨cdsByName_none.mp hnew, hloc, rfl, rfl, name, rfl, Or.inr rfl⟩

/-- the bookkeeping invariant: pairwise distinct names made of legal characters, pairwise
    distinct location keys -/
structure GInv (s : GState) : Prop where
  names : (s.cdss.map (·.1)).Nodup
  keys : (s.cdss.map (fun x => locChars x.2)).Nodup
  safe : ∀ x ∈ s.cdss, GSafe x.1

theorem GInv.empty : GInv {} := ⟨List.nodup_nil, List.nodup_nil, fun _ hx => nomatch hx⟩

/-- the invariant speaks of the CDS features only (`add_gene` leaves them alone) -/
theorem GInv.of_cdss_eq {s s' : GState} (h : GInv s) (e : s'.cdss = s.cdss) : GInv s' :=
  ⟨e ▸ h.names, e ▸ h.keys, e ▸ h.safe⟩

/-- a successful `add_cds_feature` keeps the invariant, for any feature whose `get_name()` is legal:
    name and location key are new, and the stored name is `get_name()`, possibly with the suffix
    `_` + hex digits -/
theorem addCds_inv {s s' : GState} {c : Cds} {n : Str} (hc : ∀ m, c.getName = some m → GSafe m)
    (hok : addCds s c = .ok (s', n)) (h : GInv s) : GInv s' := by
  obtain ⟨h1, h2, h3, _, name, hname, hn⟩ := addCds_outcome hok
  have hs := hc name hname
  have hsafe : GSafe n := by
    rcases hn with rfl | rfl
    · exact hs
    · intro c hm
      rcases List.mem_append.mp hm with hm | hm
      · exact hs c hm
      · rcases List.mem_cons.mp hm with rfl | hm
        · exact underscore_gene_legal
        · exact locationChecksum_safe _ c hm
  refine ⟨?_, ?_, fun x hx => ?_⟩
  · rw [h3, List.map_append]
    exact List.nodup_append_comm.mp (List.nodup_cons.mpr ⟨h1, h.names⟩)
  · rw [h3, List.map_append]
    exact List.nodup_append_comm.mp (List.nodup_cons.mpr ⟨h2, h.keys⟩)
  · rcases List.mem_append.mp (h3 ▸ hx) with hx | hx
    · exact h.safe x hx
    · exact List.mem_singleton.mp hx ▸ hsafe

theorem applyOp_rejected {s : GState} {loc : Loc} {lt g p : Option Str} {e : GErr}
    (h : addCds s (mkCds loc lt g p) = .error e) : applyOp s (.cds loc lt g p) = s := by
  simp only [applyOp, h]

theorem applyOp_inv {s : GState} (op : GOp) (h : GInv s) : GInv (applyOp s op) := by
  cases op with
  | gene name loc => exact h.of_cdss_eq rfl
  | cds loc lt g p =>
    cases hok : addCds s (mkCds loc lt g p) with
    | error e => rwa [applyOp_rejected hok]
    | ok r =>
      simp only [applyOp, hok]
      exact addCds_inv (fun _ => mkCds_getName_safe) hok h

theorem runOps_inv (ops : List GOp) {s : GState} (h : GInv s) : GInv (runOps s ops) := by
  induction ops generalizing s with
  | nil => exact h
  | cons op ops ih => exact ih (applyOp_inv op h)

theorem locs_nodup_of_keys {l : List (Str × Loc)} (h : (l.map (fun x => locChars x.2)).Nodup) :
    (l.map (·.2)).Nodup :=
  List.Nodup.of_map locChars (by rwa [List.map_map])

theorem genesOk_of_inv {s : GState} (h : GInv s) : IdSpec.genesOk s.cdss = true := by
  unfold IdSpec.genesOk
  simp only [Bool.and_eq_true, List.all_eq_true]
  exact ⟨⟨pairwiseDistinct_iff.mpr h.names, pairwiseDistinct_iff.mpr (locs_nodup_of_keys h.keys)⟩,
    fun x hx => (gsafe_iff _).mp (h.safe x hx)⟩

theorem truthy_map_sanitise (o : Option Str) : truthy (o.map sanitiseIdValue) = truthy o := by
  cases o with
  | none => rfl
  | some x => cases x <;> rfl

theorem positionalName_truthy (pre : Str) (l : Loc) : truthy (some (positionalName pre l)) = true := by
  unfold positionalName
  cases pre with
  | nil =>
    cases h : intChars l.start with
    | nil => rfl
    | cons _ _ => rfl
  | cons _ _ => rfl

theorem cdsOfBio_getName_safe {f : BioFeat} {n : Str} (h : (cdsOfBio f).getName = some n) : GSafe n :=
  mkCds_getName_safe (loc := f.loc) h

/-- a CDS feature read from a file always has an identifier (position-based if need be) -/
theorem cdsOfBio_named (f : BioFeat) : (cdsOfBio f).getName ≠ none := by
  apply getName_ne_none
  unfold cdsOfBio mkCds
  simp only [truthy_map_sanitise]
  by_cases h : (truthy f.gene || truthy f.proteinId || truthy (popLocus f.locusTag)) = true
  · rw [if_pos h, Bool.or_assoc, Bool.or_comm]
    exact h
  · rw [if_neg h, positionalName_truthy, Bool.or_true, Bool.true_or]

/-- every outcome of the feature loop: the invariant is kept, or the record is rejected for a
    duplicate location or name — never for a missing identifier -/
theorem fromBiopython_outcome (fs : List BioFeat) {s : GState} {res : Except GErr GState}
    (h : fromBiopython s fs = res) :
    match res with
    | .ok s' => GInv s → GInv s'
    | .error e => e = .dupLocation ∨ e = .dupName := by
  induction fs generalizing s with
  | nil =>
    subst h
    exact id
  | cons f fs ih =>
    unfold fromBiopython at h
    split at h
    · split at h
      · rename_i e herr
        subst h
        cases e with
        | noIdentifier => exact absurd (addCds_outcome herr rfl) (cdsOfBio_named f)
        | dupLocation => exact Or.inl rfl
        | dupName => exact Or.inr rfl
      · rename_i s1 n hok
        have r := ih h
        cases res with
        | error e => exact r
        | ok s' => exact fun hi => r (addCds_inv (fun _ => cdsOfBio_getName_safe) hok hi)
    · have r := ih h
      cases res with
      | error e => exact r
      | ok s' => exact fun hi => r (hi.of_cdss_eq rfl)

end ASV.Ids
