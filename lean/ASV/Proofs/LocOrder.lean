/-
  The feature ordering (`Feature.__lt__`) compares a key lexicographically and is a strict weak order (C04).
-/
import ASV.Proofs.LocOffset
namespace ASV


/-- the sort key of `Feature.__lt__`: (comparator start, length), compared lexicographically -/
def keyLt (a b : Int × Int) : Bool := decide (a.1 < b.1) || (a.1 == b.1 && decide (a.2 < b.2))

theorem featureLt_eq (a b : Loc) (ka kb : Int) (ha : comparatorStart a = .ok ka) (hb : comparatorStart b = .ok kb) :
    featureLt a b = .ok (keyLt (ka, a.len) (kb, b.len)) := by
  simp [featureLt, ha, hb, keyLt, bind, Except.bind, pure, Except.pure]

theorem comparatorStart_of_not_bridges {l : Loc} (h : bridgesOrigin l = false) : comparatorStart l = .ok l.start := by
  simp [comparatorStart, h, pure, Except.pure]

/-- `CDSCollection.__lt__` on two single parts is the key order on `(start, -length)`: when its containment shortcut
    fires, the key is smaller as well -/
theorem collectionLt_simple (p q : Part) (hp : p.lo ≤ p.hi) :
    collectionLt (.simple p) (.simple q) =
      .ok (keyLt ((Loc.simple p).start, -(Loc.simple p).len) ((Loc.simple q).start, -(Loc.simple q).len)) := by
  have hc : (locationContainsOther (.simple p) (.simple q) && !locationContainsOther (.simple q) (.simple p)) = true →
      keyLt ((Loc.simple p).start, -(Loc.simple p).len) ((Loc.simple q).start, -(Loc.simple q).len) = true := by
    simp only [keyLt, Bool.or_eq_true, Bool.and_eq_true, beq_iff_eq, decide_eq_true_eq]
    simp only [locationContainsOther, Loc.parts, List.all_cons, List.all_nil, List.any_cons, List.any_nil, partContains,
      Bool.or_false, Bool.and_true, Bool.and_eq_true, decide_eq_true_eq, Bool.not_eq_true', Bool.and_eq_false_iff,
      decide_eq_false_iff_not, len_simple, Loc.start]
    omega
  simp only [collectionLt, comparatorStart_of_not_bridges (l := .simple _) rfl, bind, Except.bind, pure, Except.pure]
  split
  · next h => rw [hc h]
  · rfl

theorem keyLt_irrefl (a : Int × Int) : keyLt a a = false := by
  simp [keyLt]

theorem keyLt_trans (a b c : Int × Int) (h1 : keyLt a b = true) (h2 : keyLt b c = true) : keyLt a c = true := by
  simp only [keyLt, Bool.or_eq_true, Bool.and_eq_true, decide_eq_true_eq, beq_iff_eq] at *
  omega

theorem keyLt_total (a b : Int × Int) (h : a ≠ b) : keyLt a b = true ∨ keyLt b a = true := by
  simp only [keyLt, Bool.or_eq_true, Bool.and_eq_true, decide_eq_true_eq, beq_iff_eq]
  have : a.1 ≠ b.1 ∨ a.2 ≠ b.2 := by
    by_cases h1 : a.1 = b.1
    · by_cases h2 : a.2 = b.2
      · exact absurd (Prod.ext h1 h2) h
      · exact Or.inr h2
    · exact Or.inl h1
  omega

/-- incomparability (equal keys) is transitive: with irreflexivity and transitivity this makes
    `Feature.__lt__` a strict weak order, so `sorted()`/`bisect` behave -/
theorem keyLt_incomp_trans (a b c : Int × Int)
    (h1 : keyLt a b = false ∧ keyLt b a = false) (h2 : keyLt b c = false ∧ keyLt c b = false) :
    keyLt a c = false ∧ keyLt c a = false := by
  simp only [keyLt, Bool.or_eq_false_iff, Bool.and_eq_false_iff, decide_eq_false_iff_not, beq_eq_false_iff_ne] at *
  omega

end ASV
