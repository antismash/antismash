/-
  C14 helper lemmas: `combine_modules` as a whole against `Spec.combineOK` — `view` (a module as the
  spec sees it), `combineOK_merged` (the verdict for a merge from its ingredients), `combine_spec`.
-/
import ASV.Proofs.ModulesCombine
namespace ASV.Modules
open T Spec

/-- a module as the spec sees it -/
def view (m : Module) : List Comp × Bool := (m.components, m.firstInCds)

theorem getLast?_split {α} (l : List α) (a : α) (h : l.getLast? = some a) : l = l.dropLast ++ [a] := by
  cases l with
  | nil => cases h
  | cons x xs =>
    have hne : x :: xs ≠ [] := List.cons_ne_nil _ _
    rw [List.getLast?_eq_some_getLast hne] at h
    injection h with h
    rw [← h]; exact (List.dropLast_concat_getLast hne).symm

theorem flatMap_view (ms : List Module) : (ms.map view).flatMap (·.1) = ms.flatMap (·.components) := by
  rw [List.flatMap_map]; rfl

theorem combineOK_unchanged (s : Bool) (prev cur : List (List Comp × Bool)) :
    combineOK s prev cur prev cur none = true := by
  unfold combineOK; simp

/-- the spec verdict for a merge, from its ingredients -/
theorem combineOK_merged (init rest cur' : List Module) (head tail m : Module)
    (h1 : head.isComplete = false) (hIh : StateInv head) (hIt : StateInv tail) (hIm : StateInv m)
    (h2 : tail.isComplete = true → ∃ c0 r, tail.components = c0 :: r ∧ c0.isFusedStarter = true)
    (h3 : ((head.isPks && tail.isNrps) || (head.isNrps && tail.isPks)) = false)
    (h4 : m.isComplete = true) (h5 : layout m.components = true) (h6 : m.firstInCds = false)
    (h7 : (m.components = head.components ++ tail.components ∧ cur' = rest)
          ∨ ∃ next rest2 kr, rest = next :: rest2 ∧ next.components = [kr] ∧ kr.label = trailingKrLabel
              ∧ transAt (head.components ++ tail.components) = true
              ∧ m.components = head.components ++ tail.components ++ [kr] ∧ cur' = rest2) :
    combineOK true ((init ++ [head]).map view) ((tail :: rest).map view)
      ((init ++ [m]).map view) (cur'.map view) (some (view m)) = true := by
  unfold combineOK
  simp only [List.map_append, List.map_cons, List.map_nil, List.getLast?_concat, List.dropLast_concat,
             Bool.and_eq_true, Bool.true_and]
  have e1 : complete (view head).1 (view head).2 = false := by rw [← h1, hIh.isComplete_eq]; rfl
  have e4 : complete (view m).1 (view m).2 = true := by rw [← h4, hIm.isComplete_eq]; rfl
  have e3 : ((Spec.isPks (view head).1 && Spec.isNrps (view tail).1)
             || (Spec.isNrps (view head).1 && Spec.isPks (view tail).1)) = false := by
    rw [← h3, hIh.isNrps_eq, hIt.isNrps_eq]; rfl
  have e2 : (!complete (view tail).1 (view tail).2
             || (match (view tail).1 with | c0 :: _ => c0.isFusedStarter | [] => false)) = true := by
    cases hc : complete (view tail).1 (view tail).2 with
    | false => rfl
    | true =>
      have : tail.isComplete = true := by rw [hIt.isComplete_eq]; exact hc
      obtain ⟨c0, r, hr, hf⟩ := h2 this
      show (!true || match tail.components with | c0 :: _ => c0.isFusedStarter | [] => false) = true
      rw [hr]; simpa using hf
  refine ⟨?_, ⟨⟨⟨⟨⟨⟨⟨?_, e2⟩, ?_⟩, e4⟩, h5⟩, ?_⟩, ?_⟩, ?_⟩⟩
  · -- nothing lost, nothing duplicated, order kept
    rw [beq_iff_eq]
    have hv : ∀ ms : List Module, (ms.map view).flatMap (·.1) = ms.flatMap (·.components) := flatMap_view
    simp only [List.flatMap_append, List.flatMap_cons, List.flatMap_nil, List.append_nil, hv]
    show _ ++ m.components ++ _ = _ ++ head.components ++ (tail.components ++ _)
    rcases h7 with ⟨hm, hc⟩ | ⟨next, rest2, kr, hr, hn, _, _, hm, hc⟩
    · rw [hm, hc]; simp
    · rw [hm, hc, hr]; simp [hn]
  · rw [e1]; rfl
  · rw [e3]; rfl
  · show (!m.firstInCds) = true
    rw [h6]; rfl
  · exact beq_self_eq_true _
  · rcases h7 with ⟨hm, hc⟩ | ⟨next, rest2, kr, hr, hn, hl, ht, hm, hc⟩
    · rw [Bool.or_eq_true]; left
      simp [view, hm, hc]
    · rw [Bool.or_eq_true]; right
      rw [hr, hc]
      simp only [List.map_cons, view, hn]
      simp [hl, ht, hm]

/-- `combine_modules` on two genes whose modules are sound: it never fails, the resulting lists
    are sound again, and the outcome satisfies the spec -/
theorem combine_spec (cs ps : Int) (cur prev : List Module)
    (hp : ∀ m ∈ prev, Sound m) (hc : ∀ m ∈ cur, Sound m) :
    ∃ r, combine cs ps cur prev = .ok r ∧ (∀ m ∈ r.prev, Sound m) ∧ (∀ m ∈ r.cur, Sound m) ∧
      (∀ m, r.merged = some m → r.prev.getLast? = some m) ∧
      combineOK (cs == ps) (prev.map view) (cur.map view) (r.prev.map view) (r.cur.map view)
        (r.merged.map view) = true := by
  have unchanged : (∀ m ∈ (⟨none, prev, cur⟩ : Combined).prev, Sound m)
      ∧ (∀ m ∈ (⟨none, prev, cur⟩ : Combined).cur, Sound m)
      ∧ (∀ m, (⟨none, prev, cur⟩ : Combined).merged = some m → (⟨none, prev, cur⟩ : Combined).prev.getLast? = some m)
      ∧ combineOK (cs == ps) (prev.map view) (cur.map view) (prev.map view) (cur.map view) none = true :=
    ⟨hp, hc, fun m h => by simp at h, combineOK_unchanged _ _ _⟩
  unfold combine
  cases hs : (cs != ps) with
  | true => exact ⟨_, by simp, unchanged⟩
  | false =>
    have hse : (cs == ps) = true := by simpa [bne] using hs
    simp only [Bool.false_eq_true, if_false]
    cases hl : prev.getLast? with
    | none => exact ⟨_, rfl, unchanged⟩
    | some head =>
      cases cur with
      | nil => exact ⟨_, rfl, unchanged⟩
      | cons tail rest =>
        simp only
        have hprev := getLast?_split prev head hl
        have hhS : Sound head := hp head (by rw [hprev]; simp)
        have htS : Sound tail := hc tail (List.mem_cons_self)
        obtain ⟨hIh, _, _⟩ := hhS.facts
        obtain ⟨hIt, _, _⟩ := htS.facts
        have hinv : ∃ b, invalidTail tail = .ok b
            ∧ (b = false → tail.isComplete = true → ∃ c0 r, tail.components = c0 :: r ∧ c0.isFusedStarter = true) := by
          unfold invalidTail
          cases htc : tail.isComplete with
          | false => exact ⟨false, by simp, fun _ h => by cases h⟩
          | true =>
            cases hcomp : tail.components with
            | nil =>
              rw [hIt.isComplete_eq, hcomp] at htc
              simp [complete, hasCarrier] at htc
            | cons c0 r =>
              refine ⟨!c0.isFusedStarter, by simp, ?_⟩
              intro hb _
              exact ⟨c0, r, rfl, by simpa using hb⟩
        obtain ⟨invalid, hie, hiv⟩ := hinv
        rw [hie]
        simp only
        cases hg1 : (head.isComplete || invalid) with
        | true => exact ⟨_, by simp, unchanged⟩
        | false =>
          simp only [Bool.false_eq_true, if_false]
          simp only [Bool.or_eq_false_iff] at hg1
          cases hg2 : ((head.isPks && tail.isNrps) || (head.isNrps && tail.isPks)) with
          | true => exact ⟨_, by simp, unchanged⟩
          | false =>
            simp only [Bool.false_eq_true, if_false]
            obtain ⟨mr, hmr, hmspec⟩ := mergeModules_spec hhS htS
            rw [hmr]
            cases mr with
            | none => exact ⟨_, rfl, unchanged⟩
            | some m2 =>
              simp only
              obtain ⟨hS2, hcomps2, hfirst2, hcomplete2⟩ := hmspec m2 rfl
              have hrest : ∀ m ∈ rest, Sound m := fun m hm => hc m (List.mem_cons_of_mem _ hm)
              have hinit : ∀ m ∈ prev.dropLast, Sound m := fun m hm => hp m (by rw [hprev]; exact List.mem_append_left _ hm)
              rcases absorbTrailingKr_spec hS2 hcomplete2 hrest with hk | ⟨next, rest2, kr, m3, hr, hn, hlab, hT, hk, hS3, hcomps3, hfirst3, hcomplete3⟩
              · rw [hk]
                refine ⟨_, rfl, ?_, hrest, ?_, ?_⟩
                · exact List.forall_mem_append.mpr ⟨hinit, List.forall_mem_singleton.mpr hS2⟩
                · intro m h; injection h with h; subst h; simp
                · rw [hse]
                  have := combineOK_merged prev.dropLast rest rest head tail m2 hg1.1 hIh hIt hS2.facts.1
                    (hiv hg1.2) hg2 hcomplete2 hS2.facts.2.2 hfirst2 (Or.inl ⟨hcomps2, rfl⟩)
                  rw [← hprev] at this
                  exact this
              · rw [hk]
                refine ⟨_, rfl, ?_, ?_, ?_, ?_⟩
                · exact List.forall_mem_append.mpr ⟨hinit, List.forall_mem_singleton.mpr hS3⟩
                · intro m hm; exact hrest m (by rw [hr]; exact List.mem_cons_of_mem _ hm)
                · intro m h; injection h with h; subst h; simp
                · rw [hse]
                  have htr : transAt (head.components ++ tail.components) = true := by
                    rw [← hcomps2, ← hS2.facts.1.isTransAt_eq]; exact hT
                  have := combineOK_merged prev.dropLast rest rest2 head tail m3 hg1.1 hIh hIt hS3.facts.1
                    (hiv hg1.2) hg2 hcomplete3 hS3.facts.2.2 (by rw [hfirst3, hfirst2])
                    (Or.inr ⟨next, rest2, kr, hr, hn, hlab, htr, by rw [hcomps3, hcomps2], rfl⟩)
                  rw [← hprev] at this
                  exact this

end ASV.Modules
