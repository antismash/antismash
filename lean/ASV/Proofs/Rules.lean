/-
  C01: the code-shaped evaluator of cluster rules refines the documented denotation, and evaluating a rule over the
  genes inside a gene's window gives the same result as over the whole record.
-/
import ASV.Spec.Formula
namespace ASV.Rules

/-! ### inside cds(...): local evaluation -/
mutual
theorem evalC_local (e : Env) (g : Gene) :
    ∀ c, c.localWF = true → (evalC e g true c).met = semLocal e g c
  | .single neg p, _ => by simp [evalC, semLocal]
  | .score _ _ _, h => by simp [Cond.localWF] at h
  | .minimum _ _ _, h => by simp [Cond.localWF] at h
  | .cds _ _, h => by simp [Cond.localWF] at h
  | .group neg subs, h => by
      simp only [Cond.localWF] at h
      simp [evalC, semLocal, evalOr_local e g subs h]
  | .conj subs, h => by
      simp only [Cond.localWF] at h
      simp [evalC, semLocal, evalAnd_local e g subs h]
theorem evalOr_local (e : Env) (g : Gene) :
    ∀ cs, localWFs cs = true → (evalOr e g true cs).met = semLocalAny e g cs
  | [], _ => by simp [evalOr, semLocalAny]
  | c :: cs, h => by
      simp only [localWFs, Bool.and_eq_true] at h
      simp [evalOr, semLocalAny, evalC_local e g c h.1, evalOr_local e g cs h.2]
theorem evalAnd_local (e : Env) (g : Gene) :
    ∀ cs, localWFs cs = true → (evalAnd e g true cs).met = semLocalAll e g cs
  | [], _ => by simp [evalAnd, semLocalAll]
  | c :: cs, h => by
      simp only [localWFs, Bool.and_eq_true] at h
      simp [evalAnd, semLocalAll, evalC_local e g c h.1, evalAnd_local e g cs h.2]
end

mutual
theorem evalC_local_reasons (e : Env) (g : Gene) :
    ∀ c, c.localWF = true → (evalC e g true c).reasons = leafHits e g c
  | .single neg p, _ => by simp [evalC, leafHits]
  | .score _ _ _, h => by simp [Cond.localWF] at h
  | .minimum _ _ _, h => by simp [Cond.localWF] at h
  | .cds _ _, h => by simp [Cond.localWF] at h
  | .group neg subs, h => by
      simp only [Cond.localWF] at h
      simp [evalC, leafHits, evalOr_local_reasons e g subs h]
  | .conj subs, h => by
      simp only [Cond.localWF] at h
      simp [evalC, leafHits, evalAnd_local_reasons e g subs h]
theorem evalOr_local_reasons (e : Env) (g : Gene) :
    ∀ cs, localWFs cs = true → (evalOr e g true cs).reasons = leafHitsL e g cs
  | [], _ => by simp [evalOr, leafHitsL]
  | c :: cs, h => by
      simp only [localWFs, Bool.and_eq_true] at h
      simp [evalOr, leafHitsL, evalC_local_reasons e g c h.1, evalOr_local_reasons e g cs h.2]
theorem evalAnd_local_reasons (e : Env) (g : Gene) :
    ∀ cs, localWFs cs = true → (evalAnd e g true cs).reasons = leafHitsL e g cs
  | [], _ => by simp [evalAnd, leafHitsL]
  | c :: cs, h => by
      simp only [localWFs, Bool.and_eq_true] at h
      simp [evalAnd, leafHitsL, evalC_local_reasons e g c h.1, evalAnd_local_reasons e g cs h.2]
end

theorem any_evalOr_local (e : Env) (subs : List Cond) (h : localWFs subs = true) (l : List Gene) :
    (l.any fun x => (evalOr e x true subs).met) = l.any (semLocalAny e · subs) := by
  induction l with
  | nil => rfl
  | cons x xs ih => simp [List.any_cons, evalOr_local e x subs h, ih]

/-! ### the two iteration sources agree under `Env.WF` -/

theorem has_imp_hits_ne (e : Env) (h : Gene) (p : Prof) (hp : e.has h p = true) : e.hits h ≠ [] := by
  intro hn
  simp [Env.has, Env.profs, hn] at hp

theorem hasScore_imp_hits_ne (e : Env) (h : Gene) (p : Prof) (s : Int)
    (hp : e.hasScore h p s = true) : e.hits h ≠ [] := by
  intro hn
  simp [Env.hasScore, hn] at hp

/-- SingleCondition looks at `results_by_id`; the spec at all genes in range -/
theorem nbrsHit_any_has (e : Env) (wf : e.WF) (g : Gene) (p : Prof) :
    ((e.nbrsHit g).filter (e.has · p)).isEmpty = !((e.near g).any (e.has · p)) := by
  rw [Bool.eq_not]
  cases hA : (e.near g).any (e.has · p)
  · -- nothing near: the filtered list is empty
    simp only [ne_eq, Bool.not_eq_false] at *
    rw [List.isEmpty_iff, List.filter_eq_nil_iff]
    intro h hh hhas
    simp only [Env.nbrsHit, List.mem_filter] at hh
    rw [List.any_eq_false] at hA
    exact hA h (by simp only [Env.near, List.mem_filter]; exact ⟨wf.sub h hh.1, hh.2⟩) hhas
  · simp only [ne_eq, Bool.not_eq_true]
    rw [List.any_eq_true] at hA
    obtain ⟨h, hh, hhas⟩ := hA
    simp only [Env.near, List.mem_filter] at hh
    have hm : h ∈ (e.nbrsHit g).filter (e.has · p) := by
      simp only [Env.nbrsHit, List.mem_filter]
      exact ⟨⟨wf.hit h hh.1 (has_imp_hits_ne e h p hhas), hh.2⟩, hhas⟩
    cases hE : ((e.nbrsHit g).filter (e.has · p)).isEmpty
    · rfl
    · rw [List.isEmpty_iff] at hE; rw [hE] at hm; cases hm

/-- ScoreCondition looks at `results_by_id` without skipping the gene itself -/
theorem inRangeHit_any_score (e : Env) (wf : e.WF) (g : Gene) (p : Prof) (s : Int)
    (hself : e.hasScore g p s = false) :
    (e.inRangeHit g).any (e.hasScore · p s) = (e.near g).any (e.hasScore · p s) := by
  cases hA : (e.near g).any (e.hasScore · p s)
  · rw [List.any_eq_false] at hA ⊢
    intro h hh
    simp only [Env.inRangeHit, List.mem_filter] at hh
    by_cases hg : h = g
    · subst hg; simp [hself]
    · exact hA h (by
        simp only [Env.near, List.mem_filter, Bool.and_eq_true, bne_iff_ne, ne_eq]
        exact ⟨wf.sub h hh.1, hg, hh.2⟩)
  · rw [List.any_eq_true] at hA ⊢
    obtain ⟨h, hh, hsc⟩ := hA
    simp only [Env.near, List.mem_filter, Bool.and_eq_true] at hh
    refine ⟨h, ?_, hsc⟩
    simp only [Env.inRangeHit, List.mem_filter]
    exact ⟨wf.hit h hh.1 (hasScore_imp_hits_ne e h p s hsc), hh.2.2⟩

theorem nbrs_eq_near (e : Env) (g : Gene) : e.nbrs g = e.near g := rfl

/-! ### top level: met = documented meaning -/
mutual
theorem evalC_sem (e : Env) (wf : e.WF) (g : Gene) :
    ∀ c, c.WF = true → (evalC e g false c).met = sem e g c
  | .single neg p, _ => by
      simp only [evalC, sem, Bool.false_or]
      rw [nbrsHit_any_has e wf g p]
      cases hf : e.has g p <;> cases hn : (e.near g).any (e.has · p) <;> cases neg <;> simp_all
  | .score neg p s, _ => by
      simp only [evalC, sem]
      cases hf : e.hasScore g p s
      · rw [inRangeHit_any_score e wf g p s hf]
        cases hn : (e.near g).any (e.hasScore · p s) <;> cases neg <;> simp_all
      · cases neg <;> simp
  | .minimum neg n opts, _ => by
      simp only [evalC, sem, List.map_cons, List.sum_cons, nbrs_eq_near, List.map_map]
      have hcomp : ((fun x : Gene × List Prof => x.2.length) ∘ fun h => (h, opts.filter (e.has h)))
          = fun h => (opts.filter (e.has h)).length := rfl
      rw [hcomp]
      split
      · next h => cases neg <;> simp <;> omega
      · next h =>
          split
          · next h2 => cases neg <;> simp <;> omega
          · next h2 => cases neg <;> simp <;> omega
  | .cds neg subs, h => by
      simp only [Cond.WF] at h
      simp only [evalC, sem, Bool.false_or, nbrs_eq_near]
      rw [evalOr_local e g subs h, any_evalOr_local e subs h]
      cases hi : semLocalAny e g subs <;> cases neg <;> simp
  | .group neg subs, h => by
      simp only [Cond.WF] at h
      simp [evalC, sem, evalOr_sem e wf g subs h]
  | .conj subs, h => by
      simp only [Cond.WF] at h
      simp [evalC, sem, evalAnd_sem e wf g subs h]
theorem evalOr_sem (e : Env) (wf : e.WF) (g : Gene) :
    ∀ cs, WFs cs = true → (evalOr e g false cs).met = semAny e g cs
  | [], _ => by simp [evalOr, semAny]
  | c :: cs, h => by
      simp only [WFs, Bool.and_eq_true] at h
      simp [evalOr, semAny, evalC_sem e wf g c h.1, evalOr_sem e wf g cs h.2]
theorem evalAnd_sem (e : Env) (wf : e.WF) (g : Gene) :
    ∀ cs, WFs cs = true → (evalAnd e g false cs).met = semAll e g cs
  | [], _ => by simp [evalAnd, semAll]
  | c :: cs, h => by
      simp only [WFs, Bool.and_eq_true] at h
      simp [evalAnd, semAll, evalC_sem e wf g c h.1, evalAnd_sem e wf g cs h.2]
end

/-! ### top level: reasons = documented reasons (as lists, hence as sets) -/
mutual
theorem evalC_reasons (e : Env) (g : Gene) :
    ∀ c, c.WF = true → (evalC e g false c).reasons = specReasons e g c
  | .single neg p, _ => by
      simp only [evalC, specReasons, Bool.false_or]
      cases hf : e.has g p <;> simp
      split <;> rfl
  | .score neg p s, _ => by
      simp only [evalC, specReasons]
      cases hf : e.hasScore g p s <;> simp
      split <;> rfl
  | .minimum neg n opts, _ => by
      simp only [evalC, specReasons]
      split
      · rfl
      · split <;> rfl
  | .cds neg subs, h => by
      simp only [Cond.WF] at h
      simp only [evalC, specReasons, Bool.false_or]
      rw [evalOr_local e g subs h, evalOr_local_reasons e g subs h]
      cases hi : semLocalAny e g subs <;> simp
  | .group neg subs, h => by
      simp only [Cond.WF] at h
      simp [evalC, specReasons, evalOr_reasons e g subs h]
  | .conj subs, h => by
      simp only [Cond.WF] at h
      simp [evalC, specReasons, evalAnd_reasons e g subs h]
theorem evalOr_reasons (e : Env) (g : Gene) :
    ∀ cs, WFs cs = true → (evalOr e g false cs).reasons = specReasonsL e g cs
  | [], _ => by simp [evalOr, specReasonsL]
  | c :: cs, h => by
      simp only [WFs, Bool.and_eq_true] at h
      simp [evalOr, specReasonsL, evalC_reasons e g c h.1, evalOr_reasons e g cs h.2]
theorem evalAnd_reasons (e : Env) (g : Gene) :
    ∀ cs, WFs cs = true → (evalAnd e g false cs).reasons = specReasonsL e g cs
  | [], _ => by simp [evalAnd, specReasonsL]
  | c :: cs, h => by
      simp only [WFs, Bool.and_eq_true] at h
      simp [evalAnd, specReasonsL, evalC_reasons e g c h.1, evalAnd_reasons e g cs h.2]
end

/-! ### ancillary hits are genuine neighbours carrying a profile of the rule -/
def AncOK (e : Env) (g : Gene) (ps : List Prof) (x : Gene × Prof) : Prop :=
  x.1 ∈ e.near g ∧ e.has x.1 x.2 = true ∧ x.2 ∈ ps

theorem AncOK.mono {e : Env} {g : Gene} {ps qs : List Prof} {x : Gene × Prof}
    (h : AncOK e g ps x) (hs : ∀ p, p ∈ ps → p ∈ qs) : AncOK e g qs x :=
  ⟨h.1, h.2.1, hs _ h.2.2⟩

mutual
theorem evalC_anc (e : Env) (wf : e.WF) (g : Gene) (lo : Bool) :
    ∀ c, ∀ x ∈ (evalC e g lo c).ancillary, AncOK e g c.profiles x
  | .single neg p, x, hx => by
      simp only [evalC] at hx
      split at hx
      · cases hx
      · split at hx
        · simp only [List.mem_map, List.mem_filter] at hx
          obtain ⟨h, ⟨hh, hhas⟩, rfl⟩ := hx
          simp only [Env.nbrsHit, List.mem_filter] at hh
          refine ⟨?_, hhas, by simp [Cond.profiles]⟩
          simp only [Env.near, List.mem_filter]
          exact ⟨wf.sub h hh.1, hh.2⟩
        · cases hx
  | .score neg p s, x, hx => by
      simp only [evalC] at hx
      split at hx
      · cases hx
      · split at hx <;> cases hx
  | .minimum neg n opts, x, hx => by
      simp only [evalC] at hx
      split at hx
      · cases hx
      · split at hx
        · simp only [List.mem_flatMap, List.mem_map] at hx
          obtain ⟨y, ⟨h, hh, rfl⟩, p, hp, rfl⟩ := hx
          simp only [List.mem_filter] at hp
          exact ⟨hh, hp.2, by simpa [Cond.profiles] using hp.1⟩
        · cases hx
  | .cds neg subs, x, hx => by
      simp only [evalC] at hx
      split at hx <;> cases hx
  | .group neg subs, x, hx => by
      simp only [evalC] at hx
      exact evalOr_anc e wf g lo subs x hx
  | .conj subs, x, hx => by
      simp only [evalC] at hx
      exact evalAnd_anc e wf g lo subs x hx
theorem evalOr_anc (e : Env) (wf : e.WF) (g : Gene) (lo : Bool) :
    ∀ cs, ∀ x ∈ (evalOr e g lo cs).ancillary, AncOK e g (profilesL cs) x
  | [], x, hx => by simp [evalOr] at hx
  | c :: cs, x, hx => by
      simp only [evalOr, List.mem_append] at hx
      rcases hx with hx | hx
      · exact (evalC_anc e wf g lo c x hx).mono (by intro p hp; simp [profilesL, hp])
      · exact (evalOr_anc e wf g lo cs x hx).mono (by intro p hp; simp [profilesL, hp])
theorem evalAnd_anc (e : Env) (wf : e.WF) (g : Gene) (lo : Bool) :
    ∀ cs, ∀ x ∈ (evalAnd e g lo cs).ancillary, AncOK e g (profilesL cs) x
  | [], x, hx => by simp [evalAnd] at hx
  | c :: cs, x, hx => by
      simp only [evalAnd, List.mem_append] at hx
      rcases hx with hx | hx
      · exact (evalC_anc e wf g lo c x hx).mono (by intro p hp; simp [profilesL, hp])
      · exact (evalAnd_anc e wf g lo cs x hx).mono (by intro p hp; simp [profilesL, hp])
end

/-! ### evaluation inside a window

`apply_cluster_rules` does not hand `rule.detect` the whole record but only the genes (and their hits) inside
the gene's window (`get_cds_features_within_location` of the gene extended by the cutoff).  For conditions of the
documented grammar the result is the same as over the whole record, as long as the window keeps every gene that is
in range. -/

open Env

/-- the dictionaries `apply_cluster_rules` builds: `nearby_features` / `nearby_results` keep the genes `keep` accepts -/
def Env.restrict (e : Env) (keep : Gene → Bool) : Env :=
  { e with genes := e.genes.filter keep, withHits := e.withHits.filter keep }

theorem restrict_has (e : Env) (keep : Gene → Bool) (h : Gene) (p : Prof) :
    (e.restrict keep).has h p = e.has h p := rfl
theorem restrict_hasScore (e : Env) (keep : Gene → Bool) (h : Gene) (p : Prof) (s : Int) :
    (e.restrict keep).hasScore h p s = e.hasScore h p s := rfl
theorem restrict_inRange (e : Env) (keep : Gene → Bool) (g h : Gene) :
    (e.restrict keep).inRange g h = e.inRange g h := rfl

/-- filtering by `keep` first changes nothing in a filter that asks for being in range, when `keep` accepts
    every gene in range -/
theorem filter_keep_inRange (e : Env) (keep : Gene → Bool) (g : Gene)
    (hk : ∀ h, e.inRange g h = true → keep h = true) (b : Gene → Bool) (l : List Gene) :
    (l.filter keep).filter (fun h => b h && e.inRange g h) = l.filter (fun h => b h && e.inRange g h) := by
  rw [List.filter_filter]
  apply List.filter_congr
  intro h _
  cases hr : e.inRange g h
  · simp
  · simp [hk h hr]

theorem restrict_nbrs (e : Env) (keep : Gene → Bool) (g : Gene)
    (hk : ∀ h, e.inRange g h = true → keep h = true) : (e.restrict keep).nbrs g = e.nbrs g :=
  filter_keep_inRange e keep g hk (· != g) e.genes

theorem restrict_nbrsHit (e : Env) (keep : Gene → Bool) (g : Gene)
    (hk : ∀ h, e.inRange g h = true → keep h = true) : (e.restrict keep).nbrsHit g = e.nbrsHit g :=
  filter_keep_inRange e keep g hk (· != g) e.withHits

theorem restrict_inRangeHit (e : Env) (keep : Gene → Bool) (g : Gene)
    (hk : ∀ h, e.inRange g h = true → keep h = true) : (e.restrict keep).inRangeHit g = e.inRangeHit g := by
  have := filter_keep_inRange e keep g hk (fun _ => true) e.withHits
  simp only [Bool.true_and] at this
  exact this

/-! ### a `cds(...)` body looks at one gene's own hits only -/
mutual
theorem evalC_local_restrict (e : Env) (keep : Gene → Bool) (h : Gene) :
    ∀ c, c.localWF = true → evalC (e.restrict keep) h true c = evalC e h true c
  | .single neg p, _ => by simp only [evalC, restrict_has, Bool.true_or, if_true]; all_goals rfl
  | .score _ _ _, hw => by simp [Cond.localWF] at hw
  | .minimum _ _ _, hw => by simp [Cond.localWF] at hw
  | .cds _ _, hw => by simp [Cond.localWF] at hw
  | .group neg subs, hw => by
      simp only [Cond.localWF] at hw
      simp only [evalC, evalOr_local_restrict e keep h subs hw]
  | .conj subs, hw => by
      simp only [Cond.localWF] at hw
      simp only [evalC, evalAnd_local_restrict e keep h subs hw]
theorem evalOr_local_restrict (e : Env) (keep : Gene → Bool) (h : Gene) :
    ∀ cs, localWFs cs = true → evalOr (e.restrict keep) h true cs = evalOr e h true cs
  | [], _ => by simp [evalOr]
  | c :: cs, hw => by
      simp only [localWFs, Bool.and_eq_true] at hw
      simp only [evalOr, evalC_local_restrict e keep h c hw.1, evalOr_local_restrict e keep h cs hw.2]
theorem evalAnd_local_restrict (e : Env) (keep : Gene → Bool) (h : Gene) :
    ∀ cs, localWFs cs = true → evalAnd (e.restrict keep) h true cs = evalAnd e h true cs
  | [], _ => by simp [evalAnd]
  | c :: cs, hw => by
      simp only [localWFs, Bool.and_eq_true] at hw
      simp only [evalAnd, evalC_local_restrict e keep h c hw.1, evalAnd_local_restrict e keep h cs hw.2]
end

/-! ### the whole condition -/
mutual
theorem evalC_restrict (e : Env) (keep : Gene → Bool) (g : Gene)
    (hk : ∀ h, e.inRange g h = true → keep h = true) (lo : Bool) :
    ∀ c, c.WF = true → evalC (e.restrict keep) g lo c = evalC e g lo c
  | .single neg p, _ => by
      simp only [evalC, restrict_has, restrict_nbrsHit e keep g hk]
      all_goals rfl
  | .score neg p s, _ => by
      simp only [evalC, restrict_hasScore, restrict_inRangeHit e keep g hk]
      all_goals rfl
  | .minimum neg n opts, _ => by
      simp only [evalC, restrict_nbrs e keep g hk]
      all_goals rfl
  | .cds neg subs, hw => by
      simp only [Cond.WF] at hw
      have hany : ((e.nbrs g).any fun h => (evalOr (e.restrict keep) h true subs).met)
          = ((e.nbrs g).any fun h => (evalOr e h true subs).met) := by
        congr 1; funext h; rw [evalOr_local_restrict e keep h subs hw]
      simp only [evalC, restrict_nbrs e keep g hk, evalOr_local_restrict e keep g subs hw, hany]
  | .group neg subs, hw => by
      simp only [Cond.WF] at hw
      simp only [evalC, evalOr_restrict e keep g hk lo subs hw]
  | .conj subs, hw => by
      simp only [Cond.WF] at hw
      simp only [evalC, evalAnd_restrict e keep g hk lo subs hw]
theorem evalOr_restrict (e : Env) (keep : Gene → Bool) (g : Gene)
    (hk : ∀ h, e.inRange g h = true → keep h = true) (lo : Bool) :
    ∀ cs, WFs cs = true → evalOr (e.restrict keep) g lo cs = evalOr e g lo cs
  | [], _ => by simp [evalOr]
  | c :: cs, hw => by
      simp only [WFs, Bool.and_eq_true] at hw
      simp only [evalOr, evalC_restrict e keep g hk lo c hw.1, evalOr_restrict e keep g hk lo cs hw.2]
theorem evalAnd_restrict (e : Env) (keep : Gene → Bool) (g : Gene)
    (hk : ∀ h, e.inRange g h = true → keep h = true) (lo : Bool) :
    ∀ cs, WFs cs = true → evalAnd (e.restrict keep) g lo cs = evalAnd e g lo cs
  | [], _ => by simp [evalAnd]
  | c :: cs, hw => by
      simp only [WFs, Bool.and_eq_true] at hw
      simp only [evalAnd, evalC_restrict e keep g hk lo c hw.1, evalAnd_restrict e keep g hk lo cs hw.2]
end

end ASV.Rules
