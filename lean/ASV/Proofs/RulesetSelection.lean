/-
  C07: a rule's distances (and everything else about it) are the same in every sub-selection of the
  ruleset — over C02's heap model of `Ruleset` / `hmm_detection.get_ruleset` (`Model/Rulesets.lean`).
-/
import ASV.Proofs.Rulesets
namespace ASV.Rulesets
open ASV ASV.Parser

theorem mem_wanted (rules : List Rule) (names cats : List String) (m : Mul) (r' : Rule) :
    r' ∈ wanted rules names cats m ↔ ∃ r ∈ rules, wantedRule names cats r = true ∧
      r' = { r with cutoff := r.cutoff * m.cutoff.1 / m.cutoff.2,
                    neighbourhood := r.neighbourhood * m.neighbourhood.1 / m.neighbourhood.2 } := by
  simp only [wanted, List.mem_map, List.mem_filter]
  constructor
  · rintro ⟨r, ⟨hr, hw⟩, e⟩; exact ⟨r, hr, hw, e.symm⟩
  · rintro ⟨r, hr, hw, e⟩; exact ⟨r, ⟨hr, hw⟩, e.symm⟩

/-- what two restrictions of the same parsed rules, with the same multipliers, hold under one rule name
    is the same rule: same cutoff, same neighbourhood, same conditions, same superiors -/
theorem wanted_rule_independent (rules : List Rule) (n1 c1 n2 c2 : List String) (m : Mul)
    (hd : ∀ x ∈ rules, ∀ y ∈ rules, x.name = y.name → x = y)
    (r1 r2 : Rule) (h1 : r1 ∈ wanted rules n1 c1 m) (h2 : r2 ∈ wanted rules n2 c2 m) (hn : r1.name = r2.name) :
    r1 = r2 := by
  obtain ⟨a, ha, _, rfl⟩ := (mem_wanted rules n1 c1 m r1).1 h1
  obtain ⟨b, hb, _, rfl⟩ := (mem_wanted rules n2 c2 m r2).1 h2
  have : a = b := hd a ha b hb hn
  subst this
  rfl

end ASV.Rulesets
