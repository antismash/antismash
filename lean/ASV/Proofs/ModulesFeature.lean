/-
  C14 helper lemmas: the aSModule feature round trip (`feature_roundtrip`) and the lookup of a module's domains by name.
-/
import ASV.Model.ModulesFeature
namespace ASV.Modules

theorem ModType.roundtrip (t : ModType) : ModType.fromString t.str = some t := by
  cases t <;> decide

theorem lookupAll_ok (known : String → Option FDomain) : ∀ (ds : List FDomain),
    (∀ d ∈ ds, known (removeSpaces d.name) = some d) → lookupAll known (ds.map (·.name)) = .ok ds
  | [], _ => rfl
  | d :: ds, h => by
    simp only [List.map_cons, lookupAll, h d (List.mem_cons_self),
               lookupAll_ok known ds (fun x hx => h x (List.mem_cons_of_mem _ hx))]

/-- a constructed feature is what the constructor was given -/
theorem construct_eq {ds : List FDomain} {t : ModType} {c s fi it : Bool} {f : ModFeature}
    (h : ModFeature.construct ds t c s fi it = .ok f) : f = ⟨ds, t, c, s, fi, it⟩ := by
  unfold ModFeature.construct at h
  cases ds with
  | nil => cases h
  | cons d ds =>
    simp only at h
    split at h
    · injection h with h; exact h.symm
    · cases h

theorem construct_again {ds : List FDomain} {t : ModType} {c s fi it : Bool} {f : ModFeature}
    (h : ModFeature.construct ds t c s fi it = .ok f) (t' : ModType) (c' s' fi' it' : Bool) :
    ModFeature.construct ds t' c' s' fi' it' = .ok ⟨ds, t', c', s', fi', it'⟩ := by
  unfold ModFeature.construct at h ⊢
  cases ds with
  | nil => cases h
  | cons d ds =>
    simp only at h ⊢
    split at h
    · rename_i hall; rw [if_pos hall]
    · cases h

/-- the feature written by `to_biopython` is rebuilt identically by `from_biopython` -/
theorem feature_roundtrip (known : String → Option FDomain) (f : ModFeature)
    (hv : ModFeature.construct f.domains f.type f.complete f.starter f.final f.iterative = .ok f)
    (hk : ∀ d ∈ f.domains, known (removeSpaces d.name) = some d) :
    ModFeature.fromBiopython known f.toBiopython = .ok f := by
  have hd : qget f.toBiopython "domains" = some (some (f.domains.map (·.name))) := by
    simp [qget, ModFeature.toBiopython]
  have ht : qget f.toBiopython "type" = some (some [f.type.str]) := by
    simp [qget, ModFeature.toBiopython]
  have hflag : ∀ (b : Bool) (k k' : String), k ≠ k' → (flag b k).any (fun kv => kv.1 == k') = false := by
    intro b k k' hne; cases b <;> simp [flag, hne]
  have hflag1 : ∀ (b : Bool) (k : String), (flag b k).any (fun kv => kv.1 == k) = b := by
    intro b k; cases b <;> simp [flag]
  have hc : qhas f.toBiopython "complete" = f.complete := by
    unfold qhas ModFeature.toBiopython
    simp only [List.any_append, List.any_cons, List.any_nil]
    rw [hflag _ _ _ (by decide), hflag _ _ _ (by decide), hflag _ _ _ (by decide)]
    cases f.complete <;> decide
  have hi : qhas f.toBiopython "incomplete" = !f.complete := by
    unfold qhas ModFeature.toBiopython
    simp only [List.any_append, List.any_cons, List.any_nil]
    rw [hflag _ _ _ (by decide), hflag _ _ _ (by decide), hflag _ _ _ (by decide)]
    cases f.complete <;> decide
  have hs : qhas f.toBiopython "starter_module" = f.starter := by
    unfold qhas ModFeature.toBiopython
    simp only [List.any_append, List.any_cons, List.any_nil]
    rw [hflag1, hflag _ _ _ (by decide), hflag _ _ _ (by decide)]
    cases f.complete <;> cases f.starter <;> decide
  have hfin : qhas f.toBiopython "final_module" = f.final := by
    unfold qhas ModFeature.toBiopython
    simp only [List.any_append, List.any_cons, List.any_nil]
    rw [hflag1, hflag _ _ _ (by decide), hflag _ _ _ (by decide)]
    cases f.complete <;> cases f.final <;> decide
  have hit : qhas f.toBiopython "iterative" = f.iterative := by
    unfold qhas ModFeature.toBiopython
    simp only [List.any_append, List.any_cons, List.any_nil]
    rw [hflag1, hflag _ _ _ (by decide), hflag _ _ _ (by decide)]
    cases f.complete <;> cases f.iterative <;> decide
  unfold ModFeature.fromBiopython
  simp only [hd, ht, Option.getD_some, ModType.roundtrip, hc, hi, hs, hfin, hit, lookupAll_ok known f.domains hk]
  have : (!f.complete && !!f.complete) = false := by cases f.complete <;> rfl
  simp only [this, Bool.false_eq_true, if_false]
  exact hv


/-! ### domain features and the look-up of `add_to_record` -/

theorem domainFeatures_locus (gene : String) (strand : Int) : ∀ (ds : List Domain) (counts : List (String × Nat)),
    ∀ e ∈ domainFeatures gene strand ds counts, e.2.locus = gene ∧ e.2.strand = strand
  | [], _, e, h => by cases h
  | d :: ds, counts, e, h => by
    simp only [domainFeatures] at h
    rcases List.mem_cons.mp h with h | h
    · subst h; exact ⟨rfl, rfl⟩
    · exact domainFeatures_locus gene strand ds _ e h

theorem domainFeatures_mem (gene : String) (strand : Int) : ∀ (ds : List Domain) (counts : List (String × Nat)),
    ∀ d ∈ ds, ∃ e ∈ domainFeatures gene strand ds counts, e.1 = d
  | [], _, d, h => by cases h
  | x :: ds, counts, d, h => by
    simp only [domainFeatures]
    rcases List.mem_cons.mp h with h | h
    · subst h; exact ⟨_, List.mem_cons_self, rfl⟩
    · obtain ⟨e, he, hd⟩ := domainFeatures_mem gene strand ds _ d h
      exact ⟨e, List.mem_cons_of_mem _ he, hd⟩

theorem tableOf_isSome (entries : List (Domain × FDomain)) (hit : Domain) (h : ∃ e ∈ entries, e.1 = hit) :
    (tableOf entries hit).isSome = true := by
  obtain ⟨e, he, hd⟩ := h
  unfold tableOf
  rw [Option.isSome_map, List.find?_isSome]
  exact ⟨e, List.mem_reverse.mpr he, by simp [hd]⟩

theorem tableOf_mem (entries : List (Domain × FDomain)) (hit : Domain) (d : FDomain)
    (h : tableOf entries hit = some d) : ∃ e ∈ entries, e.2 = d := by
  unfold tableOf at h
  cases hf : entries.reverse.find? (fun e => e.1 == hit) with
  | none => rw [hf] at h; cases h
  | some e =>
    rw [hf] at h; simp at h
    exact ⟨e, List.mem_reverse.mp (List.mem_of_find?_eq_some hf), h⟩

/-- every gene's dict only holds that gene's own domain features -/
theorem geneTables_locus (genes : List Gene) (l : String) (hit : Domain) (d : FDomain)
    (h : geneTables genes l hit = some d) : d.locus = l := by
  unfold geneTables at h
  cases hf : genes.find? (fun g => g.name == l) with
  | none => rw [hf] at h; cases h
  | some g =>
    rw [hf] at h
    obtain ⟨e, he, hd⟩ := tableOf_mem _ _ _ h
    have := (domainFeatures_locus g.name g.strand g.domains [] e he).1
    have hn : g.name = l := by simpa using List.find?_some hf
    rw [← hd, this, hn]

/-- the domains of the reported feature are, in order, the domain features of the module's
    components, each taken from the dict of the component's OWN gene -/
theorem lookupDomains_spec (tables : String → Domain → Option FDomain) (holder : String)
    (hloc : ∀ l h d, tables l h = some d → d.locus = l) :
    ∀ (comps : List Comp), (∀ c ∈ comps, (tables c.locus c.domain).isSome = true) →
    ∃ ds, lookupDomains tables holder comps = .ok ds
      ∧ ds.map some = comps.map (fun c => tables c.locus c.domain)
      ∧ ds.map (·.locus) = comps.map (·.locus)
  | [], _ => ⟨[], rfl, rfl, rfl⟩
  | c :: cs, hall => by
    obtain ⟨ds, h1, h2, h3⟩ := lookupDomains_spec tables holder hloc cs (fun x hx => hall x (List.mem_cons_of_mem _ hx))
    have hc := hall c (List.mem_cons_self)
    cases ht : tables c.locus c.domain with
    | none => rw [ht] at hc; cases hc
    | some d =>
      have hfound : (if c.locus == holder then tables holder c.domain else tables c.locus c.domain) = some d := by
        by_cases hh : c.locus = holder
        · simp [hh] at ht ⊢; exact ht
        · simp [hh, ht]
      refine ⟨d :: ds, ?_, ?_, ?_⟩
      · simp only [lookupDomains, hfound, h1]
      · simp only [List.map_cons, h2, ht]
      · simp only [List.map_cons, h3, hloc _ _ _ ht]

theorem qhas_eq_qget (q : Quals) (k : String) : qhas q k = (qget q k).isSome := by
  unfold qhas qget
  induction q with
  | nil => rfl
  | cons kv rest ih =>
    simp only [List.any_cons, List.find?_cons]
    cases h : kv.1 == k <;> simp [ih]

/-- `from_biopython` looks at `domains`, `type` and the presence of the five flags only -/
theorem ModFeature.fromBiopython_congr (known : String → Option FDomain) (q q' : Quals)
    (h1 : qget q "domains" = qget q' "domains") (h2 : qget q "type" = qget q' "type")
    (h3 : ∀ k ∈ ["complete", "incomplete", "starter_module", "final_module", "iterative"], qhas q k = qhas q' k) :
    ModFeature.fromBiopython known q = ModFeature.fromBiopython known q' := by
  unfold ModFeature.fromBiopython
  rw [h1, h2, h3 "complete" (by simp), h3 "incomplete" (by simp), h3 "starter_module" (by simp), h3 "final_module" (by simp),
    h3 "iterative" (by simp)]

end ASV.Modules
