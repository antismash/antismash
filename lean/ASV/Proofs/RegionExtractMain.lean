/-
  C12: the hypotheses `wfInput`, `twoPart`, `areaShape` unpacked; every feature written covers the same bases as
  the feature of the full record it was made from; the three renumberings are good numberings that break ties
  by record-wide number.
-/
import ASV.Proofs.RegionExtractRotate
namespace ASV.RegionExtract
open ASV

theorem oneStrand_unpack (l : Loc) (h : oneStrand l = true) : ∃ s, ∀ p ∈ l.parts, p.strand = s := by
  unfold oneStrand at h
  split at h
  · cases h
  · rename_i p ps hps
    refine ⟨p.strand, ?_⟩
    intro q hq
    rw [hps] at hq
    rcases List.mem_cons.1 hq with rfl | hq
    · rfl
    · have := List.all_eq_true.1 h q hq
      simpa using this

/-- what `wfInput` says about one feature when the region runs over the origin -/
def CrossOK (L : Int) (l : Loc) : Prop :=
  (bridgesOrigin l = true ∧ twoPart L l = true) ∨ (l.len ≠ L ∧ oneStrand l = true)

theorem wf_unpack (rd : RegionData) (rec : BioRecord) (h : wfInput rd rec = true) :
    0 < rec.length ∧
    (rd.crossesOrigin = true → 0 < rd.end ∧ rd.end ≤ rd.start ∧ rd.start < rec.length) ∧
    (rd.crossesOrigin = false → 0 ≤ rd.start ∧ rd.end ≤ rec.length) ∧
    ∀ f ∈ rec.features, (f.loc.parts ≠ [] ∧ ∀ p ∈ f.loc.parts, PartIn rec.length p) ∧
      (rd.crossesOrigin = true → CrossOK rec.length f.loc) := by
  unfold wfInput at h
  simp only [Bool.and_eq_true, decide_eq_true_eq, List.all_eq_true] at h
  obtain ⟨⟨hL, hreg⟩, hf⟩ := h
  refine ⟨hL, ?_, ?_, ?_⟩
  · intro hc
    rw [hc] at hreg
    simp only [if_true, Bool.and_eq_true, decide_eq_true_eq] at hreg
    exact ⟨hreg.1.1, hreg.1.2, hreg.2⟩
  · intro hc
    rw [hc] at hreg
    simp only [Bool.false_eq_true, if_false, Bool.and_eq_true, decide_eq_true_eq] at hreg
    exact hreg
  · intro f hfm
    obtain ⟨hp, hs⟩ := hf f hfm
    unfold partsOK at hp
    simp only [Bool.and_eq_true, Bool.not_eq_true', List.isEmpty_eq_false_iff, List.all_eq_true, decide_eq_true_eq] at hp
    refine ⟨⟨hp.1, fun p hpm => ?_⟩, ?_⟩
    · have := hp.2 p hpm
      exact ⟨this.1.1, this.1.2, this.2⟩
    · intro hc
      rw [hc] at hs
      simp only [Bool.not_true, Bool.false_or, Bool.or_eq_true, Bool.and_eq_true, decide_eq_true_eq] at hs
      exact hs

/-- an origin-spanning location with one part on each side of the origin, in either part order -/
theorem twoPart_unpack (L : Int) (l : Loc) (h : twoPart L l = true) :
    ∃ x y s, 0 < y ∧ y ≤ x ∧ x < L ∧
      (l = .compound [⟨x, L, s⟩, ⟨0, y, s⟩] ∨ l = .compound [⟨0, y, s⟩, ⟨x, L, s⟩]) := by
  unfold twoPart at h
  split at h
  · rename_i a b
    simp only [Bool.and_eq_true, Bool.or_eq_true, decide_eq_true_eq, beq_iff_eq] at h
    obtain ⟨hs, h⟩ := h
    obtain ⟨alo, ahi, as⟩ := a
    obtain ⟨blo, bhi, bs⟩ := b
    simp only at hs h
    subst hs
    rcases h with ⟨⟨⟨⟨h1, h2⟩, h3⟩, h4⟩, h5⟩ | ⟨⟨⟨⟨h1, h2⟩, h3⟩, h4⟩, h5⟩
    · subst h1 h2
      exact ⟨alo, bhi, as, h3, h4, h5, .inl rfl⟩
    · subst h1 h2
      exact ⟨blo, ahi, as, h3, h4, h5, .inr rfl⟩
  · cases h

theorem twoPart_end (L : Int) (l : Loc) (h : twoPart L l = true) (hL : 0 < L) : l.end = L := by
  obtain ⟨x, y, s, h1, h2, h3, rfl | rfl⟩ := twoPart_unpack L l h
  · rw [end_two]; simp only; omega
  · rw [end_two]; simp only; omega

theorem areaShape_unpack (L : Int) (rd : RegionData) (l : Loc) (h : areaShape L rd l = true) :
    (∃ lo hi, l = .simple ⟨lo, hi, .fwd⟩) ∨
    (∃ x y, l = .compound [⟨x, L, .fwd⟩, ⟨0, y, .fwd⟩] ∧ 0 < y ∧ y ≤ x ∧ x < L ∧
      ((y < x ∨ rd.crossesOrigin = false) ∨ x = rd.start)) := by
  unfold areaShape at h
  split at h
  · rename_i p
    obtain ⟨lo, hi, s⟩ := p
    have hs : s = .fwd := by simpa using h
    subst hs
    exact .inl ⟨lo, hi, rfl⟩
  · rename_i a b
    simp only [Bool.and_eq_true, Bool.or_eq_true, Bool.not_eq_true', decide_eq_true_eq, beq_iff_eq] at h
    obtain ⟨⟨⟨⟨⟨⟨⟨hsa, hsb⟩, h1⟩, h2⟩, h3⟩, h4⟩, h5⟩, h6⟩ := h
    obtain ⟨x, ahi, as⟩ := a
    obtain ⟨blo, y, bs⟩ := b
    simp only at hsa hsb h1 h2 h3 h4 h5 h6
    subst hsa hsb h1 h2
    exact .inr ⟨x, y, rfl, h3, h4, h5, h6⟩
  · cases h

/-- a pair of parts `[x, L)`, `[0, y)` with `y ≤ x` that is as long as the record covers every base -/
theorem two_whole (a b : Part) (x y L : Int) (hyx : y ≤ x)
    (hab : (a.lo = x ∧ a.hi = L ∧ b.lo = 0 ∧ b.hi = y) ∨ (a.lo = 0 ∧ a.hi = y ∧ b.lo = x ∧ b.hi = L))
    (hlen : (Loc.compound [a, b]).len = L) (j : Int) (h0 : 0 ≤ j) (h1 : j < L) :
    (Loc.compound [a, b]).mem j = true := by
  rw [len_two] at hlen
  rw [mem_two]
  omega

theorem cross_len (rd : RegionData) (rec : BioRecord) (he0 : 0 < rd.end) (hes : rd.end ≤ rd.start)
    (hsL : rd.start < rec.length) :
    ((sliceSeq rec.seq rd.start rec.length ++ sliceSeq rec.seq 0 rd.end).length : Int) = rec.length - rd.start + rd.end := by
  have hlen1 := sliceSeq_length rec.seq rd.start rec.length (by omega) (by omega) (by simp [BioRecord.length])
  have hlen2 := sliceSeq_length rec.seq 0 rd.end (by omega) (by omega) (by simp [BioRecord.length] at hsL ⊢; omega)
  rw [List.length_append]; push_cast; rw [hlen1, hlen2]; omega

/-- what the rotation lemma `offset_back_rotates` needs of a feature of a region over the origin -/
theorem crossOK_rot (L : Int) (l : Loc) (hok : CrossOK L l) :
    ∃ s, (∀ p ∈ l.parts, p.strand = s) ∧ (l.len = L → ∀ j, 0 ≤ j → j < L → l.mem j = true) := by
  rcases hok with ⟨_, htwo⟩ | ⟨hlen, hr1⟩
  · obtain ⟨x, y, s, _, hyx, _, hl⟩ := twoPart_unpack L l htwo
    rcases hl with rfl | rfl
    · exact ⟨s, by simp [Loc.parts], two_whole _ _ x y L hyx (.inl ⟨rfl, rfl, rfl, rfl⟩)⟩
    · exact ⟨s, by simp [Loc.parts], two_whole _ _ x y L hyx (.inr ⟨rfl, rfl, rfl, rfl⟩)⟩
  · obtain ⟨s, hs⟩ := oneStrand_unpack l hr1
    exact ⟨s, hs, fun h => absurd h hlen⟩

/-- what `offset_location` with `-start` makes of a feature running over the origin, after the whole-record
    adjustment: the rotated bases -/
theorem cross_rotated (rd : RegionData) (L : Int) (l : Loc) (hst0 : 0 < rd.start) (hstL : rd.start < L)
    (hne : l.parts ≠ []) (hparts : ∀ p ∈ l.parts, PartIn L p) (hok : CrossOK L l) :
    ∃ r, offsetLocation l (-rd.start) L = .ok r ∧
      ∀ i, (wholeFix L r).mem i = true ↔ (0 ≤ i ∧ i < L ∧ l.mem ((rd.start + i) % L) = true) := by
  obtain ⟨s, hs, hwhole⟩ := crossOK_rot L l hok
  obtain ⟨r, hr, _, hrl, hmem⟩ := offset_back_rotates l rd.start L s hne hparts hs (by omega) hstL hwhole
  refine ⟨r, hr, fun i => ?_⟩
  unfold wholeFix
  rw [hrl]
  by_cases hlen : l.len = L
  · rw [if_pos hlen, mem_simple]
    constructor
    · rintro ⟨h0, h1⟩
      exact ⟨h0, h1, hwhole hlen _ (Int.emod_nonneg _ (by omega)) (Int.emod_lt_of_pos _ (by omega))⟩
    · rintro ⟨h0, h1, _⟩
      exact ⟨h0, h1⟩
  · rw [if_neg hlen]
    exact hmem i

/-- what `offset_location` with `L - start` makes of a feature after the origin (it ends before the record does, so
    it is not as long as the record): the rotated bases -/
theorem post_rotated (rd : RegionData) (L : Int) (l : Loc) (hst0 : 0 < rd.start) (hstL : rd.start < L)
    (hne : l.parts ≠ []) (hparts : ∀ p ∈ l.parts, PartIn L p) (hend : l.end < L) (hok : CrossOK L l) :
    ∃ r, offsetLocation l (L - rd.start) L = .ok r ∧
      ∀ i, r.mem i = true ↔ (0 ≤ i ∧ i < L ∧ l.mem ((rd.start + i) % L) = true) := by
  have hrot : l.len ≠ L ∧ oneStrand l = true := by
    rcases hok with ⟨_, htwo⟩ | h
    · have := twoPart_end _ l htwo (by omega); omega
    · exact h
  obtain ⟨s, hs⟩ := oneStrand_unpack l hrot.2
  obtain ⟨r, hr, _, _, hmem, _⟩ := offset_rotates l (L - rd.start) L s hne hparts hs (by omega) hrot.1
  refine ⟨r, hr, fun i => ?_⟩
  rw [hmem i]
  have : i - (L - rd.start) = (rd.start + i) - L := by omega
  rw [this, Int.sub_emod_right]

/-- every feature of the region record (before renumbering) covers the same bases as its source -/
theorem origin_sameBases (rd : RegionData) (rec : BioRecord) (hwf : wfInput rd rec = true) (g : BioFeature)
    (ho : Origin rd rec g) :
    ∃ f ∈ rec.features, g.tag = f.tag ∧ g.type = f.type ∧ g.q = f.q ∧ SameBases rec.length rd f.loc g.loc := by
  obtain ⟨hL, hcross, hplain, hfeat⟩ := wf_unpack rd rec hwf
  cases ho with
  | plain f hf hc h1 h2 hg =>
    subst hg
    exact ⟨f, hf, rfl, rfl, rfl, sameBases_plain _ rd f.loc hc h1 h2⟩
  | pre f hf hc h1 h2 hg =>
    subst hg
    obtain ⟨he0, hes, hsL⟩ := hcross hc
    exact ⟨f, hf, rfl, rfl, rfl, sameBases_pre _ rd f.loc hc hL he0 hes hsL h1 h2⟩
  | post f hf hc h1 h2 l hl hg =>
    subst hg
    obtain ⟨he0, hes, hsL⟩ := hcross hc
    obtain ⟨⟨hne, hparts⟩, hok⟩ := hfeat f hf
    obtain ⟨r, hr, hmem⟩ := post_rotated rd rec.length f.loc (by omega) hsL hne hparts (by omega) (hok hc)
    rw [hr] at hl
    injection hl with hl
    subst hl
    refine ⟨f, hf, rfl, rfl, rfl, sameBases_of_rotated _ rd f.loc r hplain hcross hmem (fun j hj => ?_)⟩
    have hb := mem_bounds f.loc j hj
    exact ⟨fun h => absurd (hc.symm.trans h) (by decide), fun _ => .inr ⟨by omega, by omega⟩⟩
  | cross f hf hc hb l hl hk hnb hg =>
    subst hg
    obtain ⟨he0, hes, hsL⟩ := hcross hc
    obtain ⟨⟨hne, hparts⟩, hok⟩ := hfeat f hf
    obtain ⟨r, hr, hmem⟩ := cross_rotated rd rec.length f.loc (by omega) hsL hne hparts (hok hc)
    rw [hr] at hl
    injection hl with hl
    subst hl
    refine ⟨f, hf, rfl, rfl, rfl, ?_⟩
    intro i
    have hw : wraps rd = true := by rw [wraps_eq, hc]
    rw [cross_len rd rec he0 hes hsL] at hk
    simp only [regionLen, toRecord, hw, if_true]
    rw [hmem i]
    constructor
    · rintro ⟨h0, h1, h2⟩
      have hb' := mem_bounds _ i ((hmem i).2 ⟨h0, h1, h2⟩)
      exact ⟨h0, by omega, h2⟩
    · rintro ⟨h0, h1, h2⟩
      exact ⟨h0, by omega, h2⟩

theorem adjusted_mem (rd : RegionData) (L : Int) (ws adjusted : List Working) (h : adjustFeatures rd L ws = .ok adjusted)
    (g : BioFeature) (hg : g ∈ adjusted.map (·.f)) :
    ∃ w ∈ ws, adjustFeature rd L (renumbering rd L) w.f = .ok g := by
  obtain ⟨w', hw', rfl⟩ := List.mem_map.1 hg
  unfold adjustFeatures at h
  obtain ⟨w, hw, hstep⟩ := mapE_mem _ ws adjusted h w' hw'
  refine ⟨w, hw, ?_⟩
  split at hstep
  · cases hstep
  · rename_i g' hg'
    injection hstep with hstep
    subst hstep
    exact hg'

/-- every written feature is what `_adjust_features` makes of a feature of the base record -/
theorem written_origin (rd : RegionData) (rec : BioRecord) (w : Written) (h : writeToGenbank rd rec = .ok w)
    (g : BioFeature) (hg : g ∈ w.extract.features) :
    ∃ g0, Origin rd rec g0 ∧ adjustFeature rd rec.length (renumbering rd rec.length) g0 = .ok g := by
  obtain ⟨seq, ws, parent, adjusted, hb, ha, hfe, _⟩ := written_features rd rec w h
  rw [hfe] at hg
  obtain ⟨w0, hw0, hadj⟩ := adjusted_mem rd _ ws adjusted ha g hg
  exact ⟨w0.f, base_origin rd rec seq ws parent hb w0 hw0, hadj⟩

/-- every written feature comes from a feature of the full record and covers the same bases -/
theorem written_sameBases (rd : RegionData) (rec : BioRecord) (w : Written) (h : writeToGenbank rd rec = .ok w)
    (hwf : wfInput rd rec = true) (g : BioFeature) (hg : g ∈ w.extract.features) :
    ∃ f ∈ rec.features, g.tag = f.tag ∧ g.type = f.type ∧ SameBases rec.length rd f.loc g.loc := by
  obtain ⟨g0, ho, hadj⟩ := written_origin rd rec w h g hg
  obtain ⟨ht, hty, hloc⟩ := adjustFeature_same rd _ _ g0 g hadj
  obtain ⟨f, hf, h1, h2, _, h4⟩ := origin_sameBases rd rec hwf g0 ho
  exact ⟨f, hf, by rw [ht, h1], by rw [hty, h2], by rw [hloc]; exact h4⟩

/-- the three renumberings of a region are bijections onto `1..n` following the position in the file -/
theorem renumbering_good (rd : RegionData) (L : Int) :
    GoodNumbering rd L ((protoDict rd).map fun kv => (kv.1, kv.2.loc)) (renumbering rd L).protos ∧
    GoodNumbering rd L (candDict rd) (renumbering rd L).cands ∧
    GoodNumbering rd L (subDict rd) (renumbering rd L).subs := by
  refine ⟨?_, ?_, ?_⟩
  · apply numberByPosition_spec
    rw [List.map_map]
    exact protoDict_nodup rd
  · exact numberByPosition_spec _ rd L (candDict_nodup rd)
  · exact numberByPosition_spec _ rd L (subDict_nodup rd)

/-- the tie rule: in a good numbering, areas with the same position and size are numbered in the order of
    their record-wide numbers (the last component of the sort key decides) -/
theorem good_ties {rd : RegionData} {L : Int} {areas : List (Int × Loc)} {ν : List (Int × Int)}
    (h : GoodNumbering rd L areas ν) : TiesByRecordNumber rd L areas ν := by
  intro a b la lb m m' ha hb hm hm' h1 h2
  obtain ⟨_, _, hord⟩ := h
  obtain ⟨hle, heq⟩ := hord a b la lb m m' ha hb hm hm'
  obtain ⟨hle', _⟩ := hord b a lb la m' m hb ha hm' hm
  have ka : (positionKey rd L a la).2.2 = a := rfl
  have kb : (positionKey rd L b lb).2.2 = b := rfl
  rw [keyLe_iff, ka, kb] at hle hle'
  have hab : a = b → m = m' := by
    intro e; subst e; rw [hm] at hm'; injection hm'
  constructor
  · intro hlt
    have h3 : ¬ (m' ≤ m) := by omega
    have h4 := mt hle'.mpr h3
    omega
  · intro hlt
    have h3 : m ≤ m' := hle.mpr (by omega)
    have h4 : m ≠ m' := fun e => by have := heq e; omega
    omega

/-- the three renumberings of a region break ties by record-wide number -/
theorem renumbering_ties (rd : RegionData) (L : Int) :
    TiesByRecordNumber rd L ((protoDict rd).map fun kv => (kv.1, kv.2.loc)) (renumbering rd L).protos ∧
    TiesByRecordNumber rd L (candDict rd) (renumbering rd L).cands ∧
    TiesByRecordNumber rd L (subDict rd) (renumbering rd L).subs :=
  ⟨good_ties (renumbering_good rd L).1, good_ties (renumbering_good rd L).2.1, good_ties (renumbering_good rd L).2.2⟩

/-- every written feature carries the numbering qualifiers of its source sent through the region's renumbering -/
theorem written_refs (rd : RegionData) (rec : BioRecord) (w : Written) (h : writeToGenbank rd rec = .ok w)
    (g : BioFeature) (hg : g ∈ w.extract.features) :
    ∃ f ∈ rec.features, g.tag = f.tag ∧ g.type = f.type ∧ RefsThrough (renumbering rd rec.length) f.type f.q g.q := by
  obtain ⟨g0, ho, hadj⟩ := written_origin rd rec w h g hg
  obtain ⟨ht, hty, _⟩ := adjustFeature_same rd _ _ g0 g hadj
  obtain ⟨f, hf, h1, h2, h3, _⟩ := origin_from rd rec g0 ho
  refine ⟨f, hf, by rw [ht, h1], by rw [hty, h2], ?_⟩
  rw [← h2, ← h3]
  exact adjustFeature_refs rd _ g0 g hadj

end ASV.RegionExtract
