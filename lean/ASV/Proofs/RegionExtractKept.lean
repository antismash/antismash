/-
  C12: nothing inside the region is left out.  Origin-spanning features inside a region over the origin pass the
  loop that gathers them: with any number of exons on each side of the origin in transcription order
  (`ringOrdered`), `offset_location` turns them into one ascending (forward) or descending (reverse) run of parts
  inside the region file, which neither sticks out of the file nor still looks origin-spanning; with one part on
  each side (`twoPart`, any strand, also all the way round) likewise.  With the slices this gives: every feature
  inside the region is written.
-/
import ASV.Proofs.RegionExtractOrder
import ASV.Proofs.LocOffsetGeneral
namespace ASV.RegionExtract
open ASV

/-- the base record contains every feature lying between the region's bounds (on one side of the origin) -/
theorem base_contains (rd : RegionData) (rec : BioRecord) (seq : List Char) (ws : List Working)
    (parent : List BioFeature) (h : buildBaseRecord rd rec = .ok (seq, ws, parent)) (f : BioFeature)
    (hf : f ∈ rec.features)
    (hin : (rd.crossesOrigin = false ∧ rd.start ≤ f.loc.start ∧ f.loc.end ≤ rd.end) ∨
           (rd.crossesOrigin = true ∧ rd.start ≤ f.loc.start ∧ f.loc.end ≤ rec.length) ∨
           (rd.crossesOrigin = true ∧ 0 ≤ f.loc.start ∧ f.loc.end ≤ rd.end)) :
    ∃ w ∈ ws, w.f.tag = f.tag := by
  rcases buildBase_eq rd rec seq ws parent h with ⟨hc, _, hws, _⟩ | ⟨hc, post, steps, hpost, _, _, hws, _⟩
  · subst hws
    rcases hin with ⟨_, h1', h2'⟩ | ⟨hc', _⟩ | ⟨hc', _⟩
    · exact ⟨⟨{ f with loc := shiftLoc f.loc (-rd.start) }, none⟩,
        List.mem_map.2 ⟨_, slice_to rec.features rd.start rd.end f hf h1' h2', rfl⟩, rfl⟩
    · rw [hc] at hc'; cases hc'
    · rw [hc] at hc'; cases hc'
  · subst hws
    rcases hin with ⟨hc', _⟩ | ⟨_, h1', h2'⟩ | ⟨_, h1', h2'⟩
    · rw [hc] at hc'; cases hc'
    · have := slice_to rec.features rd.start rec.length f hf h1' h2'
      refine ⟨⟨{ f with loc := shiftLoc f.loc (-rd.start) }, none⟩, ?_, rfl⟩
      exact List.mem_append.2 (.inl (List.mem_append.2 (.inl (List.mem_map.2 ⟨_, this, rfl⟩))))
    · obtain ⟨b, hb, hstep⟩ := mapE_mem_src _ _ post hpost _ (slice_to rec.features 0 rd.end f hf h1' h2')
      exact ⟨⟨b, none⟩, List.mem_append.2 (.inr (List.mem_map.2 ⟨b, hb, rfl⟩)), postStep_tag rd _ { f with loc := shiftLoc f.loc (-0) } b hstep⟩

/-- … and so does the written record -/
theorem written_contains (rd : RegionData) (rec : BioRecord) (w : Written) (h : writeToGenbank rd rec = .ok w)
    (f : BioFeature) (hf : f ∈ rec.features)
    (hin : (rd.crossesOrigin = false ∧ rd.start ≤ f.loc.start ∧ f.loc.end ≤ rd.end) ∨
           (rd.crossesOrigin = true ∧ rd.start ≤ f.loc.start ∧ f.loc.end ≤ rec.length) ∨
           (rd.crossesOrigin = true ∧ 0 ≤ f.loc.start ∧ f.loc.end ≤ rd.end)) :
    ∃ g ∈ w.extract.features, g.tag = f.tag := by
  obtain ⟨seq, ws, parent, hb, htags⟩ := written_tags rd rec w h
  obtain ⟨w0, hw0, ht⟩ := base_contains rd rec seq ws parent hb f hf hin
  obtain ⟨g, hg, e⟩ := written_of_base rd rec w ws htags w0 hw0
  exact ⟨g, hg, e.trans ht⟩

/-- merging an ascending run: succeeds, the result is an ascending run of non-empty parts below the same bound -/
theorem mergeAdjacent_asc (s : Strand) (bound : Int) : ∀ (rest more : List Part) (previous m : Part),
    m.hi = previous.hi → previous.strand = s →
    (m :: more).Pairwise (fun a b => b.hi ≤ a.lo) →
    (∀ p ∈ m :: more, p.lo < p.hi ∧ p.hi ≤ bound ∧ p.strand = s) →
    rest.Pairwise (fun p q => p.hi ≤ q.lo) →
    (∀ q ∈ rest, previous.hi ≤ q.lo ∧ q.lo < q.hi ∧ q.hi ≤ bound ∧ q.strand = s) →
    ∃ out, mergeAdjacent (m :: more) previous rest = .ok out ∧ out ≠ [] ∧
      out.Pairwise (fun p q => p.hi ≤ q.lo) ∧ ∀ p ∈ out, p.lo < p.hi ∧ p.hi ≤ bound ∧ p.strand = s
  | [], more, previous, m, _, _, hpw, hall, _, _ => by
    refine ⟨(m :: more).reverse, rfl, by simp, ?_, ?_⟩
    · rw [List.pairwise_reverse]; exact hpw
    · intro p hp; exact hall p (List.mem_reverse.1 hp)
  | part :: rest, more, previous, m, hm, hps, hpw, hall, hrest, hq => by
    obtain ⟨hq1, hq2, hq3, hq4⟩ := hq part (by simp)
    obtain ⟨hr1, hr2⟩ := List.pairwise_cons.1 hrest
    have hm' := hall m (by simp)
    unfold mergeAdjacent
    by_cases hadj : previous.hi = part.lo
    · have hst : (previous.strand != part.strand) = false := by simp [hps, hq4]
      simp only [hadj, if_true, hst, Bool.false_eq_true, if_false]
      apply mergeAdjacent_asc s bound rest more part ⟨m.lo, part.hi, part.strand⟩ rfl hq4
      · obtain ⟨hp1, hp2⟩ := List.pairwise_cons.1 hpw
        exact List.pairwise_cons.2 ⟨hp1, hp2⟩
      · intro p hp
        rcases List.mem_cons.1 hp with rfl | hp
        · exact ⟨by simp only; omega, hq3, hq4⟩
        · exact hall p (by simp [hp])
      · exact hr2
      · intro q hqm
        obtain ⟨_, h2, h3, h4⟩ := hq q (by simp [hqm])
        exact ⟨hr1 q hqm, h2, h3, h4⟩
    · simp only [hadj, if_false]
      apply mergeAdjacent_asc s bound rest (m :: more) part part rfl hq4
      · refine List.pairwise_cons.2 ⟨?_, hpw⟩
        intro b hb
        rcases List.mem_cons.1 hb with rfl | hb
        · omega
        · have := (List.pairwise_cons.1 hpw).1 b hb
          omega
      · intro p hp
        rcases List.mem_cons.1 hp with rfl | hp
        · exact ⟨hq2, hq3, hq4⟩
        · exact hall p hp
      · exact hr2
      · intro q hqm
        obtain ⟨_, h2, h3, h4⟩ := hq q (by simp [hqm])
        exact ⟨hr1 q hqm, h2, h3, h4⟩

/-- merging a descending run of non-empty parts: nothing abuts, the run comes back as it is -/
theorem mergeAdjacent_desc : ∀ (rest mergedRev : List Part) (previous : Part),
    previous.lo < previous.hi →
    rest.Pairwise (fun p q => q.hi ≤ p.lo) →
    (∀ q ∈ rest, q.hi ≤ previous.lo ∧ q.lo < q.hi) →
    mergeAdjacent mergedRev previous rest = .ok (mergedRev.reverse ++ rest)
  | [], mergedRev, _, _, _, _ => by simp [mergeAdjacent, pure, Except.pure]
  | part :: rest, mergedRev, previous, hp, hrest, hq => by
    obtain ⟨hq1, hq2⟩ := hq part (by simp)
    obtain ⟨hr1, hr2⟩ := List.pairwise_cons.1 hrest
    have hadj : ¬ previous.hi = part.lo := by omega
    unfold mergeAdjacent
    simp only [hadj, if_false]
    rw [mergeAdjacent_desc rest (part :: mergedRev) part hq2 hr2 (fun q hqm => ⟨hr1 q hqm, (hq q (by simp [hqm])).2⟩)]
    simp

theorem orderInvalid_asc : ∀ ps : List Part, ps.Pairwise (fun p q => p.hi ≤ q.lo) → (∀ p ∈ ps, p.lo < p.hi) →
    orderInvalid false ps = false
  | [], _, _ => rfl
  | [_], _, _ => rfl
  | p :: q :: rest, hpw, hne => by
    obtain ⟨h1, h2⟩ := List.pairwise_cons.1 hpw
    have := h1 q (by simp)
    have := hne p (by simp)
    simp only [orderInvalid, Bool.false_eq_true, if_false, Bool.or_eq_false_iff, decide_eq_false_iff_not]
    exact ⟨by omega, orderInvalid_asc (q :: rest) h2 (fun x hx => hne x (by simp [hx]))⟩

theorem orderInvalid_desc : ∀ ps : List Part, ps.Pairwise (fun p q => q.hi ≤ p.lo) → (∀ p ∈ ps, p.lo < p.hi) →
    orderInvalid true ps = false
  | [], _, _ => rfl
  | [_], _, _ => rfl
  | p :: q :: rest, hpw, hne => by
    obtain ⟨h1, h2⟩ := List.pairwise_cons.1 hpw
    have := h1 q (by simp)
    have := hne q (by simp)
    simp only [orderInvalid, if_true, Bool.or_eq_false_iff, decide_eq_false_iff_not]
    exact ⟨by omega, orderInvalid_desc (q :: rest) h2 (fun x hx => hne x (by simp [hx]))⟩

/-- a run of parts of one strand in transcription order does not look origin-spanning -/
theorem bridges_ofParts_run (ps : List Part) (hne : ps ≠ []) (hpos : ∀ p ∈ ps, p.lo < p.hi)
    (h : (ps.Pairwise (fun p q => p.hi ≤ q.lo) ∧ ∀ p ∈ ps, p.strand = .fwd) ∨
         (ps.Pairwise (fun p q => q.hi ≤ p.lo) ∧ ∀ p ∈ ps, p.strand = .rev)) :
    bridgesOrigin (Loc.ofParts ps) = false := by
  match ps, hne with
  | [p], _ => rfl
  | p :: q :: rest, _ =>
    show bridgesOrigin (Loc.compound (p :: q :: rest)) = false
    rcases h with ⟨hpw, hs⟩ | ⟨hpw, hs⟩
    · have hst : (Loc.compound (p :: q :: rest)).strand = .fwd := strand_of_parts _ _ (by simp [Loc.parts]) hs
      simp only [bridgesOrigin, hst]
      exact orderInvalid_asc _ hpw hpos
    · have hst : (Loc.compound (p :: q :: rest)).strand = .rev := strand_of_parts _ _ (by simp [Loc.parts]) hs
      simp only [bridgesOrigin, hst]
      exact orderInvalid_desc _ hpw hpos

/-- the tail of `offset_location` on an ascending run of forward parts inside `[0, n]`: one location that neither
    reaches beyond `n` nor looks origin-spanning -/
theorem finish_asc (L n : Int) (hnL : n ≤ L) (P : List Part) (hne : P ≠ [])
    (hpw : P.Pairwise (fun p q => p.hi ≤ q.lo))
    (hall : ∀ p ∈ P, 0 ≤ p.lo ∧ p.lo < p.hi ∧ p.hi ≤ n ∧ p.strand = .fwd) :
    ∃ r, finishOffset L P = .ok r ∧ bridgesOrigin r = false ∧ r.end ≤ n := by
  have hin : ∀ p ∈ P, PartIn L p := fun p hp => by
    obtain ⟨h1, h2, h3, _⟩ := hall p hp; exact ⟨h1, h2, by omega⟩
  match P, hne with
  | first :: rest, _ =>
    obtain ⟨h1, h2⟩ := List.pairwise_cons.1 hpw
    obtain ⟨out, hout, hone, hopw, hoall⟩ := mergeAdjacent_asc .fwd n rest [] first first rfl (hall first (by simp)).2.2.2
      (by simp) (by intro p hp; simp at hp; subst hp; obtain ⟨_, a, b, c⟩ := hall p (by simp); exact ⟨a, b, c⟩) h2
      (fun q hq => by obtain ⟨_, a, b, c⟩ := hall q (by simp [hq]); exact ⟨h1 q hq, a, b, c⟩)
    refine ⟨Loc.ofParts out, ?_, ?_, ?_⟩
    · unfold finishOffset
      simp only [allIn_of L _ hin, Bool.not_true, Bool.false_eq_true, if_false, bind, Except.bind, hout, pure, Except.pure]
    · exact bridges_ofParts_run out hone (fun p hp => (hoall p hp).1) (.inl ⟨hopw, fun p hp => (hoall p hp).2.2⟩)
    · apply end_le_of_parts _ _ (by rw [ofParts_parts]; exact hone)
      intro p hp; rw [ofParts_parts] at hp; exact (hoall p hp).2.1

theorem finish_desc (L n : Int) (hnL : n ≤ L) (P : List Part) (hne : P ≠ [])
    (hpw : P.Pairwise (fun p q => q.hi ≤ p.lo))
    (hall : ∀ p ∈ P, 0 ≤ p.lo ∧ p.lo < p.hi ∧ p.hi ≤ n ∧ p.strand = .rev) :
    ∃ r, finishOffset L P = .ok r ∧ bridgesOrigin r = false ∧ r.end ≤ n := by
  have hin : ∀ p ∈ P, PartIn L p := fun p hp => by
    obtain ⟨h1, h2, h3, _⟩ := hall p hp; exact ⟨h1, h2, by omega⟩
  match P, hne with
  | first :: rest, _ =>
    obtain ⟨h1, h2⟩ := List.pairwise_cons.1 hpw
    have hout := mergeAdjacent_desc rest [first] first (hall first (by simp)).2.1 h2
      (fun q hq => ⟨h1 q hq, (hall q (by simp [hq])).2.1⟩)
    refine ⟨Loc.ofParts (first :: rest), ?_, ?_, ?_⟩
    · unfold finishOffset
      simp only [allIn_of L _ hin, Bool.not_true, Bool.false_eq_true, if_false, bind, Except.bind, hout, pure, Except.pure]
      rfl
    · exact bridges_ofParts_run _ (by simp) (fun p hp => (hall p hp).2.1) (.inr ⟨hpw, fun p hp => (hall p hp).2.2.2⟩)
    · apply end_le_of_parts _ _ (by rw [ofParts_parts]; simp)
      intro p hp; rw [ofParts_parts] at hp; exact (hall p hp).2.2.1

/-- `offset_location` by `-st` on a location whose parts are `X ++ Y`, the pieces of `X` and of `Y` each moved as
    a whole -/
theorem offset_pieces (l : Loc) (L st kx ky : Int) (X Y : List Part) (hparts : l.parts = X ++ Y)
    (hX : ∀ p ∈ X, wrapPart L (shiftPart (-st) p) = [shiftPart kx p])
    (hY : ∀ p ∈ Y, wrapPart L (shiftPart (-st) p) = [shiftPart ky p])
    (hpos : ∀ p ∈ l.parts, p.lo < p.hi) (hL : 0 < L) (hk : st ≠ 0) (hlen : l.len ≠ L) (hnt : l.start - st < 0) :
    offsetLocation l (-st) L = finishOffset L (X.map (shiftPart kx) ++ Y.map (shiftPart ky)) := by
  rw [offsetLocation_general l (-st) L _ hL (by omega) hlen (by omega) (shiftedParts_ok l (-st) hpos)]
  congr 1
  have e : (l.parts.map fun p => (⟨p.lo + -st, p.hi + -st, p.strand⟩ : Part)).flatMap (wrapPart L) =
      l.parts.flatMap fun p => wrapPart L (shiftPart (-st) p) := by
    rw [List.flatMap_map]; rfl
  rw [e, hparts, List.flatMap_append, flatMap_singleton _ _ X hX, flatMap_singleton _ _ Y hY]

/-- the pieces of parts before / after the origin of a region over the origin under `offset_location(-start)` -/
theorem piece_pre (rd : RegionData) (L : Int) (h0 : 0 ≤ rd.start) (p : Part) (hpos : p.lo < p.hi) (h1 : rd.start ≤ p.lo)
    (h2 : p.hi ≤ L) :
    wrapPart L (shiftPart (-rd.start) p) = [shiftPart (-rd.start) p] :=
  wrapPart_inside L (p.lo + -rd.start) (p.hi + -rd.start) p.strand (by omega) (by omega) (by omega)

theorem piece_post (rd : RegionData) (L : Int) (hes : rd.end ≤ rd.start) (hsL : rd.start < L) (p : Part)
    (hpos : p.lo < p.hi) (h1 : 0 ≤ p.lo) (h2 : p.hi ≤ rd.end) :
    wrapPart L (shiftPart (-rd.start) p) = [shiftPart (L - rd.start) p] := by
  simp only [shiftPart]
  rw [wrapPart_below L (p.lo + -rd.start) (p.hi + -rd.start) p.strand (by omega) (by omega) (by omega)]
  simp only [List.cons.injEq, Part.mk.injEq, and_true]
  omega

/-- `ringOrdered` unpacked: the non-empty parts before the origin (`A`) and after it (`B`), each on its side of the
    region, standing `A ++ B` in ascending order on the forward strand and `B ++ A` in descending order on the
    reverse strand -/
theorem ringOrdered_unpack (L : Int) (rd : RegionData) (l : Loc) (hord : ringOrdered L rd l = true) :
    ∃ (s : Strand) (A B : List Part), l.strand = s ∧ A ≠ [] ∧ B ≠ [] ∧
      (∀ p ∈ A, rd.start ≤ p.lo ∧ p.hi ≤ L ∧ p.lo < p.hi) ∧ (∀ p ∈ B, 0 ≤ p.lo ∧ p.hi ≤ rd.end ∧ p.lo < p.hi) ∧
      ((s = .fwd ∧ l.parts = A ++ B ∧ A.Pairwise (fun p q => p.hi ≤ q.lo) ∧ B.Pairwise (fun p q => p.hi ≤ q.lo)) ∨
       (s = .rev ∧ l.parts = B ++ A ∧ A.Pairwise (fun p q => q.hi ≤ p.lo) ∧ B.Pairwise (fun p q => q.hi ≤ p.lo))) := by
  unfold ringOrdered at hord
  rw [Bool.and_eq_true, List.all_eq_true] at hord
  obtain ⟨hpos', hord⟩ := hord
  have hpos : ∀ p ∈ l.parts, p.lo < p.hi := fun p hp => by simpa using hpos' p hp
  have pre : ∀ p, onPre L rd p = true → rd.start ≤ p.lo ∧ p.hi ≤ L := fun p h => by
    simpa only [onPre, Bool.and_eq_true, decide_eq_true_eq] using h
  have post : ∀ p, onPost rd p = true → 0 ≤ p.lo ∧ p.hi ≤ rd.end := fun p h => by
    simpa only [onPost, Bool.and_eq_true, decide_eq_true_eq] using h
  cases hst : l.strand with
  | zero => simp [hst] at hord
  | none => simp [hst] at hord
  | fwd =>
    simp only [hst, Bool.and_eq_true, Bool.not_eq_true', List.isEmpty_eq_false_iff, List.all_eq_true, ascParts_iff] at hord
    obtain ⟨⟨⟨⟨hAne, hBne⟩, hBpost⟩, hApw⟩, hBpw⟩ := hord
    have hdec := (List.takeWhile_append_dropWhile (p := onPre L rd) (l := l.parts)).symm
    refine ⟨.fwd, _, _, rfl, hAne, hBne, fun p hp => ?_, fun p hp => ?_, .inl ⟨rfl, hdec, hApw, hBpw⟩⟩
    · have := pre p (mem_takeWhile_sat _ _ _ hp)
      exact ⟨this.1, this.2, hpos p (by rw [hdec]; exact List.mem_append.2 (.inl hp))⟩
    · have := post p (hBpost p hp)
      exact ⟨this.1, this.2, hpos p (by rw [hdec]; exact List.mem_append.2 (.inr hp))⟩
  | rev =>
    simp only [hst, Bool.and_eq_true, Bool.not_eq_true', List.isEmpty_eq_false_iff, List.all_eq_true, ascParts_iff,
      List.pairwise_reverse] at hord
    obtain ⟨⟨⟨⟨hAne, hBne⟩, hApre⟩, hApw⟩, hBpw⟩ := hord
    have hdec := (List.takeWhile_append_dropWhile (p := onPost rd) (l := l.parts)).symm
    refine ⟨.rev, _, _, rfl, hAne, hBne, fun p hp => ?_, fun p hp => ?_, .inr ⟨rfl, hdec, hApw, hBpw⟩⟩
    · have := pre p (hApre p hp)
      exact ⟨this.1, this.2, hpos p (by rw [hdec]; exact List.mem_append.2 (.inr hp))⟩
    · have := post p (mem_takeWhile_sat _ _ _ hp)
      exact ⟨this.1, this.2, hpos p (by rw [hdec]; exact List.mem_append.2 (.inl hp))⟩

/-- an origin-spanning feature with any number of exons on each side of the origin, in transcription order, inside a
    region over the origin is kept by the loop gathering origin-spanning features -/
theorem crossStep_keeps_multi (rd : RegionData) (L n : Int) (f : BioFeature) (he0 : 0 < rd.end)
    (hes : rd.end ≤ rd.start) (hsL : rd.start < L) (hn : n = L - rd.start + rd.end)
    (hb : bridgesOrigin f.loc = true) (hord : ringOrdered L rd f.loc = true) (hlen : f.loc.len ≠ L) :
    ∃ p g, crossStep rd L n f = .ok (p, some g) ∧ g.tag = f.tag := by
  have hL : 0 < L := by omega
  obtain ⟨s, A, B, hst, hAne, hBne, hAside, hBside, hcase⟩ := ringOrdered_unpack L rd f.loc hord
  have hmemAB : ∀ p, p ∈ f.loc.parts ↔ p ∈ A ∨ p ∈ B := by
    intro p
    rcases hcase with ⟨_, hd, _⟩ | ⟨_, hd, _⟩
    · rw [hd, List.mem_append]
    · rw [hd, List.mem_append, Or.comm]
  have hpos : ∀ p ∈ f.loc.parts, p.lo < p.hi := fun p hp => by
    rcases (hmemAB p).1 hp with hp | hp
    · exact (hAside p hp).2.2
    · exact (hBside p hp).2.2
  have hin : ∀ p ∈ f.loc.parts, PartIn L p := fun p hp => by
    rcases (hmemAB p).1 hp with hp | hp
    · have := hAside p hp; exact ⟨by omega, this.2.2, this.2.1⟩
    · have := hBside p hp; exact ⟨this.1, this.2.2, by omega⟩
  obtain ⟨b0, hb0⟩ := List.exists_mem_of_ne_nil B hBne
  have hne : f.loc.parts ≠ [] := List.ne_nil_of_mem ((hmemAB b0).2 (.inr hb0))
  have hnt : f.loc.start - rd.start < 0 := by
    have := (start_le_part f.loc b0 ((hmemAB b0).2 (.inr hb0))).1
    have := hBside b0 hb0
    omega
  have hs : ∀ p ∈ f.loc.parts, p.strand = s :=
    strand_parts _ _ hst (by rcases hcase with ⟨e, _⟩ | ⟨e, _⟩ <;> simp [e])
  -- moved into the file, the parts of `A` lie in `[0, L - start]` and those of `B` in `[L - start, n]`
  have hA' : ∀ p ∈ A.map (shiftPart (-rd.start)), 0 ≤ p.lo ∧ p.lo < p.hi ∧ p.hi ≤ L - rd.start ∧ p.strand = s := by
    intro p hp
    obtain ⟨a, ha, rfl⟩ := List.mem_map.1 hp
    have := hAside a ha
    exact ⟨by simp only [shiftPart]; omega, by simp only [shiftPart]; omega, by simp only [shiftPart]; omega,
      hs a ((hmemAB a).2 (.inl ha))⟩
  have hB' : ∀ p ∈ B.map (shiftPart (L - rd.start)), L - rd.start ≤ p.lo ∧ p.lo < p.hi ∧ p.hi ≤ n ∧ p.strand = s := by
    intro p hp
    obtain ⟨b, hb, rfl⟩ := List.mem_map.1 hp
    have := hBside b hb
    exact ⟨by simp only [shiftPart]; omega, by simp only [shiftPart]; omega, by simp only [shiftPart]; omega,
      hs b ((hmemAB b).2 (.inr hb))⟩
  have hpre := fun p hp => piece_pre rd L (by omega) p (hAside p hp).2.2 (hAside p hp).1 (hAside p hp).2.1
  have hpost := fun p hp => piece_post rd L hes hsL p (hBside p hp).2.2 (hBside p hp).1 (hBside p hp).2.1
  -- it is enough that `offset_location` gives a run inside the file that does not look origin-spanning
  suffices h : ∃ r, offsetLocation f.loc (-rd.start) L = .ok r ∧ bridgesOrigin r = false ∧ r.end ≤ n by
    obtain ⟨r, hr, hnb, hend⟩ := h
    obtain ⟨r', hr', _, hrl, _⟩ := offset_rotates f.loc (-rd.start) L s hne hin hs (by omega) hlen
    rw [hr] at hr'
    injection hr' with hr'
    subst hr'
    unfold crossStep
    have hwf : wholeFix L r = r := by simp [wholeFix, hrl, hlen]
    simp only [hb, if_true, hr, hwf, hnb, Bool.or_false, decide_eq_true_eq]
    rw [if_neg (by omega)]
    exact ⟨_, _, rfl, rfl⟩
  rcases hcase with ⟨rfl, hdec, hApw, hBpw⟩ | ⟨rfl, hdec, hApw, hBpw⟩
  · rw [offset_pieces f.loc L rd.start (-rd.start) (L - rd.start) A B hdec hpre hpost hpos hL (by omega) hlen hnt]
    apply finish_asc L n (by omega) _ (by simp [hAne])
    · rw [List.pairwise_append, List.pairwise_map, List.pairwise_map]
      refine ⟨hApw.imp (fun h => by simp only [shiftPart]; omega), hBpw.imp (fun h => by simp only [shiftPart]; omega), ?_⟩
      intro a ha b hb
      have := hA' a ha
      have := hB' b hb
      omega
    · intro p hp
      rcases List.mem_append.1 hp with hp | hp
      · have := hA' p hp
        exact ⟨this.1, this.2.1, by omega, this.2.2.2⟩
      · have := hB' p hp
        exact ⟨by omega, this.2.1, this.2.2.1, this.2.2.2⟩
  · rw [offset_pieces f.loc L rd.start (L - rd.start) (-rd.start) B A hdec hpost hpre hpos hL (by omega) hlen hnt]
    apply finish_desc L n (by omega) _ (by simp [hBne])
    · rw [List.pairwise_append, List.pairwise_map, List.pairwise_map]
      refine ⟨hBpw.imp (fun h => by simp only [shiftPart]; omega), hApw.imp (fun h => by simp only [shiftPart]; omega), ?_⟩
      intro b hb a ha
      have := hA' a ha
      have := hB' b hb
      omega
    · intro p hp
      rcases List.mem_append.1 hp with hp | hp
      · have := hB' p hp
        exact ⟨by omega, this.2.1, this.2.2.1, this.2.2.2⟩
      · have := hA' p hp
        exact ⟨this.1, this.2.1, by omega, this.2.2.2⟩

/-- the part order `[0, y)`, `[x, L)` runs over the origin only on the reverse strand -/
theorem bridges_two_rev (x y L : Int) (s : Strand) (hy0 : 0 < y) (hyx : y ≤ x)
    (hb : bridgesOrigin (.compound [⟨0, y, s⟩, ⟨x, L, s⟩]) = true) : s = .rev := by
  cases s <;> simp_all [bridgesOrigin, Loc.strand, orderInvalid, sortInts, insertInt]
  all_goals omega

/-- … where it is in transcription order -/
theorem ringOrdered_two_rev (L : Int) (rd : RegionData) (x y : Int) (hy0 : 0 < y) (hxL : x < L) (hx : rd.start ≤ x)
    (hy : y ≤ rd.end) (hE : rd.end < L) :
    ringOrdered L rd (.compound [⟨0, y, .rev⟩, ⟨x, L, .rev⟩]) = true := by
  have h1 : ¬ L ≤ rd.end := by omega
  simp [ringOrdered, Loc.parts, Loc.strand, onPost, onPre, ascParts, hx, hy, h1, hy0, hxL]

/-- a two-part origin-spanning feature that lies inside a region over the origin is kept by the loop gathering
    origin-spanning features -/
theorem crossStep_keeps (rd : RegionData) (L n : Int) (f : BioFeature) (hL : 0 < L) (he0 : 0 < rd.end)
    (hes : rd.end ≤ rd.start) (hsL : rd.start < L) (hn : n = L - rd.start + rd.end)
    (hb : bridgesOrigin f.loc = true) (htwo : twoPart L f.loc = true) (hin : insideRegion L rd f.loc = true) :
    ∃ p g, crossStep rd L n f = .ok (p, some g) ∧ g.tag = f.tag := by
  obtain ⟨x, y, s, hy0, hyx, hxL, hl⟩ := twoPart_unpack L f.loc htwo
  -- each part lies on its side of the origin
  have hside : rd.start ≤ x ∧ y ≤ rd.end := by
    have hw : wraps rd = true := by simp [wraps]; omega
    unfold insideRegion at hin
    simp only [hw, if_true, hb, Bool.true_and, Bool.or_eq_true, List.all_eq_true, Bool.and_eq_true,
      decide_eq_true_eq] at hin
    have hp : ∀ p ∈ f.loc.parts, (rd.start ≤ p.lo ∧ p.hi ≤ L) ∨ (0 ≤ p.lo ∧ p.hi ≤ rd.end) := by
      intro p hp
      rcases hin with (h | h) | h
      · exact .inl (h p hp)
      · exact .inr (h p hp)
      · exact h p hp
    have h1 := hp ⟨x, L, s⟩ (by rcases hl with e | e <;> simp [e, Loc.parts])
    have h2 := hp ⟨0, y, s⟩ (by rcases hl with e | e <;> simp [e, Loc.parts])
    simp only at h1 h2
    omega
  by_cases hlen : f.loc.len = L
  · -- all the way round: returned as it is and replaced by the whole file
    have hyx' : y = x := by
      rcases hl with e | e <;> (rw [e, len_two] at hlen; simp only at hlen; omega)
    unfold crossStep
    simp only [hb, if_true, offsetLocation_whole f.loc (-rd.start) L (by omega) hL hlen, wholeFix, hlen]
    have hnb : bridgesOrigin (.simple ⟨0, L, f.loc.strand⟩) = false := rfl
    have hend : ¬ (Loc.simple ⟨0, L, f.loc.strand⟩).end > n := by simp only [Loc.end]; omega
    simp only [hnb, Bool.or_false, decide_eq_true_eq, hend, if_false]
    exact ⟨_, _, rfl, rfl⟩
  · rcases hl with e | e
    · -- forward part order: the two parts come out as one
      have hyx' : y < x := by rw [e, len_two] at hlen; simp only at hlen; omega
      obtain ⟨r, hr, hcase⟩ := cross_two_fwd_exact x y rd.start L s hy0 hyx hxL (by omega) hsL
      unfold crossStep
      rw [e] at hb ⊢
      simp only [hb, if_true, hr]
      rcases hcase with ⟨_, _, _, hr', hwf⟩ | ⟨hyx, _, _⟩ | ⟨hno, _⟩
      · rw [hwf, hr']
        have hnb : bridgesOrigin (.simple ⟨x + -rd.start, y + -rd.start + L, s⟩) = false := rfl
        have hend : ¬ (Loc.simple ⟨x + -rd.start, y + -rd.start + L, s⟩).end > n := by simp only [Loc.end]; omega
        simp only [hnb, Bool.or_false, decide_eq_true_eq, hend, if_false]
        exact ⟨_, _, rfl, rfl⟩
      · omega
      · omega
    · -- reverse part order runs over the origin only on the reverse strand, where it is in transcription order
      have hrev : s = .rev := bridges_two_rev x y L s hy0 hyx (by rw [e] at hb; exact hb)
      subst hrev
      refine crossStep_keeps_multi rd L n f he0 hes hsL hn hb ?_ hlen
      rw [e]
      exact ringOrdered_two_rev L rd x y hy0 hxL hside.1 hside.2 (by omega)

theorem collectCross_to (rd : RegionData) (L n : Int) :
    ∀ (fs : List BioFeature) (steps : List (BioFeature × Option BioFeature)) (i : Nat) (f p g : BioFeature),
      mapE (crossStep rd L n) fs = .ok steps → f ∈ fs → crossStep rd L n f = .ok (p, some g) →
      ∃ w ∈ collectCross i steps, w.f = g
  | [], _, _, f, _, _, _, hf, _ => by simp at hf
  | f0 :: fs, steps, i, f, p, g, h, hf, hstep => by
    obtain ⟨b, bs, hb, hbs, rfl⟩ := (mapE_cons_ok _ f0 fs steps).1 h
    rcases List.mem_cons.1 hf with rfl | hf
    · rw [hstep] at hb
      injection hb with hb
      subst hb
      exact ⟨⟨g, some i⟩, by simp [collectCross], rfl⟩
    · obtain ⟨w, hw, hwg⟩ := collectCross_to rd L n fs bs (i + 1) f p g hbs hf hstep
      obtain ⟨p0, o0⟩ := b
      cases o0 with
      | none => exact ⟨w, by simpa [collectCross] using hw, hwg⟩
      | some g0 => exact ⟨w, by simp [collectCross, hw], hwg⟩

/-- an origin-spanning feature that the gathering loop keeps is written.  The loop's bound is the length of the
    concatenated sequence, which only `cross_len` identifies with `L - start + end`: hence `∀ n, n = … →` -/
theorem written_contains_kept (rd : RegionData) (rec : BioRecord) (w : Written) (h : writeToGenbank rd rec = .ok w)
    (hc : rd.crossesOrigin = true) (he0 : 0 < rd.end) (hsL : rd.start < rec.length)
    (f : BioFeature) (hf : f ∈ rec.features)
    (hkeep : ∀ n, n = rec.length - rd.start + rd.end →
      ∃ p g, crossStep rd rec.length n f = .ok (p, some g) ∧ g.tag = f.tag) :
    ∃ g ∈ w.extract.features, g.tag = f.tag := by
  have hes : rd.end ≤ rd.start := by simpa [RegionData.crossesOrigin] using hc
  have hL : 0 < rec.length := by omega
  obtain ⟨seq, ws, parent, hbase, htags⟩ := written_tags rd rec w h
  -- the feature is in the base record
  have hbase2 : ∃ w0 ∈ ws, w0.f.tag = f.tag := by
    rcases buildBase_eq rd rec seq ws parent hbase with ⟨hc', _⟩ | ⟨_, post, steps, _, hs, _, hws, _⟩
    · rw [hc] at hc'; cases hc'
    · obtain ⟨p, g, hstep, hgt⟩ := hkeep _ (cross_len rd rec he0 hes hsL)
      obtain ⟨w0, hw0, hwg⟩ := collectCross_to rd _ _ rec.features steps 0 f p g hs hf hstep
      exact ⟨w0, by rw [hws]; exact List.mem_append.2 (.inl (List.mem_append.2 (.inr hw0))), by rw [hwg, hgt]⟩
  obtain ⟨w0, hw0, ht⟩ := hbase2
  obtain ⟨g, hg, e⟩ := written_of_base rd rec w ws htags w0 hw0
  exact ⟨g, hg, e.trans ht⟩

/-- every feature inside the region (in the spec's sense) is written; an origin-spanning feature inside a region
    over the origin has one part on each side of the origin, or any number of parts in transcription order
    (`ringOrdered`) and is not as long as the record -/
theorem written_contains_inside (rd : RegionData) (rec : BioRecord) (w : Written) (h : writeToGenbank rd rec = .ok w)
    (hreg : rd.crossesOrigin = true → 0 < rd.end ∧ rd.start < rec.length)
    (f : BioFeature) (hf : f ∈ rec.features) (hne : f.loc.parts ≠ [])
    (hin : insideRegion rec.length rd f.loc = true)
    (hord : rd.crossesOrigin = true → bridgesOrigin f.loc = true →
      twoPart rec.length f.loc = true ∨ (ringOrdered rec.length rd f.loc = true ∧ f.loc.len ≠ rec.length)) :
    ∃ g ∈ w.extract.features, g.tag = f.tag := by
  cases hc : rd.crossesOrigin with
  | false =>
    have hw : wraps rd = false := by rw [wraps_eq, hc]
    unfold insideRegion at hin
    simp only [hw, Bool.false_eq_true, if_false, List.all_eq_true, Bool.and_eq_true, decide_eq_true_eq] at hin
    exact written_contains rd rec w h f hf (.inl ⟨hc, start_ge_of_parts _ _ hne (fun p hp => (hin p hp).1),
      end_le_of_parts _ _ hne (fun p hp => (hin p hp).2)⟩)
  | true =>
    obtain ⟨he0, hsL⟩ := hreg hc
    cases hb : bridgesOrigin f.loc with
    | true =>
      have hes : rd.end ≤ rd.start := by simpa [RegionData.crossesOrigin] using hc
      refine written_contains_kept rd rec w h hc he0 hsL f hf (fun n hn => ?_)
      rcases hord hc hb with h2 | ⟨h2, h3⟩
      · exact crossStep_keeps rd rec.length n f (by omega) he0 hes hsL hn hb h2 hin
      · exact crossStep_keeps_multi rd rec.length n f he0 hes hsL hn hb h2 h3
    | false =>
      have hw : wraps rd = true := by rw [wraps_eq, hc]
      unfold insideRegion at hin
      simp only [hw, if_true, hb, Bool.false_and, Bool.or_false, Bool.or_eq_true, List.all_eq_true, Bool.and_eq_true,
        decide_eq_true_eq] at hin
      rcases hin with hin | hin
      · exact written_contains rd rec w h f hf (.inr (.inl ⟨hc, start_ge_of_parts _ _ hne (fun p hp => (hin p hp).1),
          end_le_of_parts _ _ hne (fun p hp => (hin p hp).2)⟩))
      · exact written_contains rd rec w h f hf (.inr (.inr ⟨hc, start_ge_of_parts _ _ hne (fun p hp => (hin p hp).1),
          end_le_of_parts _ _ hne (fun p hp => (hin p hp).2)⟩))

end ASV.RegionExtract
