/-
  The single-part lookup returns exactly the kept genes, in list order.
-/
import ASV.Proofs.LookupKey
import ASV.Proofs.Bisect
namespace ASV.Lookup
open ASV

/-- the gene list is in `Feature.__lt__` order -/
def Sorted (fs : List Gene) : Prop := fs.Pairwise fun a b => locLt b.loc a.loc = false

def GenesOK (fs : List Gene) : Prop := ∀ g ∈ fs, LocOK g.loc

/-- the test the lookup applies to a candidate -/
def keep (ql : Loc) (ov : Bool) (f : Gene) : Bool := containedBy f.loc ql || (ov && overlapsWith f.loc ql)

theorem exists_part_start {l : Loc} (h : LocOK l) : ∃ p ∈ l.parts, p.lo = l.start := by
  cases l with
  | simple p => exact ⟨p, by simp [Loc.parts], rfl⟩
  | compound ps =>
    have hne : ps.map (·.lo) ≠ [] := by
      have := h.1; simp [Loc.parts] at this; simpa using this
    obtain ⟨p, hp, e⟩ := List.mem_map.1 (minList_mem hne)
    exact ⟨p, by simpa [Loc.parts] using hp, e⟩

theorem contained_simple_iff (g : Loc) (q : Part) :
    containedBy g (.simple q) = true ↔ ∀ p ∈ g.parts, q.lo ≤ p.lo ∧ p.lo ≤ p.hi ∧ p.hi ≤ q.hi := by
  simp [containedBy, locationContainsOther, Loc.parts, partContains, and_assoc]

theorem not_contained_of_start_lt {l : Loc} {q : Part} (h : LocOK l) (hs : l.start < q.lo) :
    containedBy l (.simple q) = false := by
  cases hc : containedBy l (.simple q)
  · rfl
  · obtain ⟨p, hp, e⟩ := exists_part_start h
    have := (contained_simple_iff l q).1 hc p hp
    omega

theorem overlaps_simple_imp {l : Loc} {q : Part} (hl : l.PartsNonEmpty) (hq : q.lo < q.hi)
    (h : overlapsWith l (.simple q) = true) :
    ∃ p ∈ l.parts, ∃ i, p.lo ≤ i ∧ i < p.hi ∧ q.lo ≤ i ∧ i < q.hi := by
  simp only [overlapsWith, locationsOverlap, Loc.parts, List.any_eq_true, List.mem_singleton] at h
  obtain ⟨p, hp, q', rfl, h⟩ := h
  obtain ⟨i, h1, h2⟩ := (partsOverlap_iff p q' (hl p hp) hq).1 h
  rw [Part.mem_iff] at h1 h2
  exact ⟨p, hp, i, h1.1, h1.2, h2.1, h2.2⟩

theorem not_keep_of_start_ge {f : Gene} {q : Part} {ov : Bool} (h : LocOK f.loc) (hq : q.lo < q.hi)
    (hs : q.hi ≤ f.loc.start) :
    keep (.simple q) ov f = false := by
  cases hk : keep (.simple q) ov f
  · rfl
  · exfalso
    simp only [keep, Bool.or_eq_true, Bool.and_eq_true] at hk
    rcases hk with hk | ⟨_, hk⟩
    · obtain ⟨p, hp⟩ := List.exists_mem_of_ne_nil _ h.1
      have h1 := (contained_simple_iff f.loc q).1 hk p hp
      have h2 := (start_le_part f.loc p hp).1
      have h3 := (h.2.1 p hp).2
      omega
    · obtain ⟨p, hp, i, h1, h2, h3, h4⟩ := overlaps_simple_imp h.nonEmpty hq hk
      have := (start_le_part f.loc p hp).1
      omega

theorem end_gt_of_keep {f : Gene} {q : Part} {ov : Bool} (h : LocOK f.loc) (hq : q.lo < q.hi)
    (hk : keep (.simple q) ov f = true) : f.loc.end > q.lo := by
  simp only [keep, Bool.or_eq_true, Bool.and_eq_true] at hk
  rcases hk with hk | ⟨_, hk⟩
  · obtain ⟨p, hp⟩ := List.exists_mem_of_ne_nil _ h.1
    have h1 := (contained_simple_iff f.loc q).1 hk p hp
    have h2 := (start_le_part f.loc p hp).2
    have h3 := (h.2.1 p hp).2
    omega
  · obtain ⟨p, hp, i, h1, h2, h3, h4⟩ := overlaps_simple_imp h.nonEmpty hq hk
    have := (start_le_part f.loc p hp).2
    omega

/-! ### order facts -/

theorem start_le_of_not_lt {a b : Loc} (ha : bridgesOrigin a = false) (hb : bridgesOrigin b = false)
    (h : locLt b a = false) : a.start ≤ b.start := by
  rw [locLt_false_iff, cmpStart_linear ha, cmpStart_linear hb] at h
  omega

theorem start_le_of_lt_simple {a : Loc} {q : Part} (ha : bridgesOrigin a = false)
    (h : locLt a (.simple q) = true) : a.start ≤ q.lo := by
  have hq : bridgesOrigin (.simple q) = false := rfl
  have hs : (Loc.simple q).start = q.lo := rfl
  rw [locLt_true_iff, cmpStart_linear ha, cmpStart_linear hq, hs] at h
  omega

theorem Sorted.sublist {fs gs : List Gene} (h : Sorted fs) (hs : gs.Sublist fs) : Sorted gs :=
  List.Pairwise.sublist hs h

/-- after the leading origin-crossing genes nothing crosses the origin -/
theorem linear_after_crossing {fs : List Gene} (hs : Sorted fs) (hok : GenesOK fs) :
    ∀ f ∈ fs.dropWhile (fun f => crosses f.loc), bridgesOrigin f.loc = false := by
  refine Bisect.dropWhile_fails (fun f : Gene => crosses f.loc) hs fun a ha b hb hlt hy => ?_
  apply linear_of_cmpStart_nonneg (hok b hb)
  have h0 := cmpStart_nonneg_linear (hok a ha) hy
  rw [locLt_false_iff] at hlt
  omega

/-! ### the single-part lookup -/

theorem filter_eq_nil_of_all_false {α} (k : α → Bool) (l : List α) (h : ∀ x ∈ l, k x = false) : l.filter k = [] := by
  rw [List.filter_eq_nil_iff]
  intro x hx; simp [h x hx]

/-- the list surgery of `within1`, with the two facts that make it sound left abstract -/
theorem within1_core (crossing earlier same after : List Gene) (k c2 e : Gene → Bool) (ov : Bool)
    (hE : ∀ f ∈ earlier, k f = true → (ov = true ∧ e f = true))
    (hW : ∀ f ∈ (same ++ after).dropWhile c2, k f = false) :
    (crossing ++ (if ov then earlier.filter e else []) ++ (same ++ after).takeWhile c2).filter k
      = (crossing ++ ((earlier ++ same) ++ after)).filter k := by
  have h1 : (if ov then earlier.filter e else []).filter k = earlier.filter k := by
    cases ov
    · simp only [Bool.false_eq_true, if_false, List.filter_nil]
      symm
      apply filter_eq_nil_of_all_false
      intro f hf
      cases hk : k f
      · rfl
      · exact absurd (hE f hf hk).1 (by simp)
    · simp only [if_true, List.filter_filter]
      apply List.filter_congr
      intro f hf
      cases hk : k f
      · simp
      · simp [(hE f hf hk).2]
  have h2 : ((same ++ after).takeWhile c2).filter k = (same ++ after).filter k := by
    conv => rhs; rw [← List.takeWhile_append_dropWhile (p := c2) (l := same ++ after)]
    rw [List.filter_append, filter_eq_nil_of_all_false k _ hW, List.append_nil]
  simp only [List.filter_append, h1, h2, List.append_assoc]

theorem reverse_split {α} (p : α → Bool) (l : List α) :
    l = (l.reverse.dropWhile p).reverse ++ (l.reverse.takeWhile p).reverse := by
  have := List.takeWhile_append_dropWhile (p := p) (l := l.reverse)
  have h2 := congrArg List.reverse this
  simp only [List.reverse_append, List.reverse_reverse] at h2
  exact h2.symm

/-- once a gene of a sorted run of non-crossing genes starts at or after the query's end, nothing
    from there on is kept -/
theorem tail_not_kept {X : List Gene} (hsX : Sorted X) (hlin : ∀ f ∈ X, bridgesOrigin f.loc = false)
    (hok : ∀ f ∈ X, LocOK f.loc) (q : Part) (ov : Bool) (hq : q.lo < q.hi) :
    ∀ f ∈ X.dropWhile (fun f => decide (f.loc.start < q.hi)), keep (.simple q) ov f = false := by
  intro f hf
  have hstart := Bisect.dropWhile_fails (fun f : Gene => decide (f.loc.start < q.hi)) hsX
    (fun a ha b hb hlt hy => by
      have := start_le_of_not_lt (hlin a ha) (hlin b hb) hlt
      simp only [decide_eq_false_iff_not] at hy ⊢
      omega) f hf
  exact not_keep_of_start_ge (hok f ((List.dropWhile_sublist _).subset hf)) hq (by simpa using hstart)

/-- in a sorted run of non-crossing genes that all sort before the query, the ones left after walking
    back over "same start as the query" start strictly before the query -/
theorem earlier_start_lt {B : List Gene} (hsB : Sorted B) (hlin : ∀ f ∈ B, bridgesOrigin f.loc = false)
    (q : Part) (hlt : ∀ f ∈ B, locLt f.loc (.simple q) = true) :
    ∀ f ∈ (B.reverse.dropWhile (fun f => f.loc.start == q.lo)).reverse, f.loc.start < q.lo := by
  intro f hf
  have hlo : ∀ g ∈ B, g.loc.start ≤ q.lo := fun g hg => start_le_of_lt_simple (hlin g hg) (hlt g hg)
  have hne := Bisect.dropWhile_fails (fun f : Gene => f.loc.start == q.lo) (List.pairwise_reverse.2 hsB)
    (fun a ha b hb hab hy => by
      have ha' := List.mem_reverse.1 ha
      have hb' := List.mem_reverse.1 hb
      have := start_le_of_not_lt (hlin b hb') (hlin a ha') hab
      have := hlo a ha'
      simp only [beq_eq_false_iff_ne, ne_eq] at hy ⊢
      omega) f (List.mem_reverse.1 hf)
  have := hlo f (List.mem_reverse.1 ((List.dropWhile_sublist _).subset (List.mem_reverse.1 hf)))
  simp only [beq_eq_false_iff_ne, ne_eq] at hne
  omega

/-- the single-part branch of the lookup returns exactly the genes that pass the test, in list order -/
theorem within1_exact {fs : List Gene} (hs : Sorted fs) (hok : GenesOK fs) (q0 : Part) (ov : Bool)
    (hq : (clampQuery q0).lo < (clampQuery q0).hi) :
    within1 fs q0 ov = fs.filter (keep (.simple (clampQuery q0)) ov) := by
  generalize hqd : clampQuery q0 = q at hq
  let c := fun f : Gene => crosses f.loc
  let lt := fun f : Gene => locLt f.loc (.simple q)
  let eqs := fun f : Gene => f.loc.start == q.lo
  have hlin := linear_after_crossing hs hok
  have hsub1 : (fs.dropWhile c).Sublist fs := List.dropWhile_sublist _
  have hsl : Sorted (fs.dropWhile c) := hs.sublist hsub1
  have h1 : fs = fs.takeWhile c ++ fs.dropWhile c := (List.takeWhile_append_dropWhile).symm
  have h2 : fs.dropWhile c = (fs.dropWhile c).takeWhile lt ++ (fs.dropWhile c).dropWhile lt :=
    (List.takeWhile_append_dropWhile).symm
  have h3 := reverse_split eqs ((fs.dropWhile c).takeWhile lt)
  have hbefore_sub : ((fs.dropWhile c).takeWhile lt).Sublist (fs.dropWhile c) := List.takeWhile_sublist _
  have hEs := earlier_start_lt (hsl.sublist hbefore_sub) (fun f hf => hlin f (hbefore_sub.subset hf)) q
    (fun f hf => List.all_eq_true.1 List.all_takeWhile f hf)
  have hE : ∀ f ∈ (((fs.dropWhile c).takeWhile lt).reverse.dropWhile eqs).reverse,
      keep (.simple q) ov f = true → (ov = true ∧ decide (f.loc.end > q.lo) = true) := by
    intro f hf hk
    have hfb : f ∈ (fs.dropWhile c).takeWhile lt :=
      List.mem_reverse.1 ((List.dropWhile_sublist _).subset (List.mem_reverse.1 hf))
    have hff : f ∈ fs := hsub1.subset (hbefore_sub.subset hfb)
    refine ⟨?_, by simpa using end_gt_of_keep (hok f hff) hq hk⟩
    cases ov
    · exfalso
      have := not_contained_of_start_lt (hok f hff) (hEs f hf)
      simp [keep, this] at hk
    · rfl
  have hsuf : ((((fs.dropWhile c).takeWhile lt).reverse.takeWhile eqs).reverse ++ (fs.dropWhile c).dropWhile lt).Sublist
      (fs.dropWhile c) := by
    conv => rhs; rw [h2, h3]
    rw [List.append_assoc]
    exact List.sublist_append_right _ _
  have hW := tail_not_kept (hsl.sublist hsuf) (fun f hf => hlin f (hsuf.subset hf))
    (fun f hf => hok f (hsub1.subset (hsuf.subset hf))) q ov hq
  have core := within1_core (fs.takeWhile c)
    (((fs.dropWhile c).takeWhile lt).reverse.dropWhile eqs).reverse
    (((fs.dropWhile c).takeWhile lt).reverse.takeWhile eqs).reverse
    ((fs.dropWhile c).dropWhile lt) (keep (.simple q) ov) (fun f => decide (f.loc.start < q.hi))
    (fun f => decide (f.loc.end > q.lo)) ov hE hW
  rw [← h3, ← h2, ← h1] at core
  rw [← core]
  simp only [within1, hqd]
  rfl

end ASV.Lookup
