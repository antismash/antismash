/-
  C14 helper lemmas: sequences of `add_component` calls whose look-ahead is "what
  follows" (Module.from_json, both loops of combine_modules): on a module in a consistent state
  (`Ready`) such a replay is the layout test followed by a fold of `Module.next`, and a failing one
  is an IncompatibleComponentError; the look-ahead matters only through the first two labels in
  front of an extra carrier protein (`add_la_indep`).
-/
import ASV.Proofs.ModulesAdd
namespace ASV.Modules
open T Spec

/-- the pending look-ahead acceptance is justified by the upcoming components -/
def PendOK (m : Module) (nxt : List Comp) : Prop :=
  m.unambiguous ≤ nxt.length ∧ ∀ x ∈ nxt.take m.unambiguous, kindOf x = .modification

theorem PendOK.zero {m : Module} (h : m.unambiguous = 0) (nxt : List Comp) : PendOK m nxt := by
  unfold PendOK; rw [h]; simp

theorem PendOK.head {m : Module} {c : Comp} {nxt : List Comp} (h : PendOK m (c :: nxt)) :
    m.unambiguous > 0 → kindOf c = .modification := by
  intro h0
  apply h.2
  cases hu : m.unambiguous with
  | zero => omega
  | succ k => simp

theorem PendOK.nil {m : Module} (h : PendOK m []) : m.unambiguous = 0 := by
  have := h.1; simpa using this

/-- the pending acceptance stays justified across an accepted step whose look-ahead agrees with
    the upcoming components on the first two labels -/
theorem pend_step {m : Module} {c : Comp} {nxt la : List Comp} (hI : StateInv m)
    (hP : PendOK m (c :: nxt)) (hpos : positionOK m.components c la = true)
    (hla : m.carrier.isSome = true → (la.take 2).map (·.label) = (nxt.take 2).map (·.label)) :
    PendOK (m.next c) nxt := by
  have hu := m.next_unambiguous c
  by_cases h0 : m.unambiguous > 0
  · rw [if_pos h0] at hu
    constructor
    · have := hP.1; simp at this; omega
    · intro x hx
      apply hP.2
      have : m.unambiguous = (m.unambiguous - 1) + 1 := by omega
      rw [this, List.take_succ_cons, ← hu]
      exact List.mem_cons_of_mem _ hx
  · rw [if_neg h0] at hu
    cases hc : (c.isCarrierProtein && m.carrier.isSome) with
    | false => rw [hc] at hu; exact PendOK.zero (by simpa using hu) nxt
    | true =>
      rw [hc] at hu; simp at hu hc
      -- the extra carrier protein was admitted because a double-transporter pair follows
      have hv := (slots_of_pos hI (not_special c (.inr (.inr (.inl hc.1)))) hpos).2.2.2 hc.1 hc.2
      rw [dtValid_take2 la nxt (hla hc.2)] at hv
      obtain ⟨h2, hm⟩ := dtValid_next nxt hv
      exact ⟨by omega, by rw [hu]; exact hm⟩

/-- a module in front of the components `nxt`: its slots and pending counter are what its own
    components show, and what is pending is what `nxt` begins with -/
structure Ready (m : Module) (nxt : List Comp) : Prop where
  inv : StateInv m
  exact : PendExact m
  pend : PendOK m nxt

theorem Ready.new (f : Bool) (nxt : List Comp) : Ready (Module.new f) nxt :=
  ⟨StateInv.new f, PendExact.new f, PendOK.zero rfl nxt⟩

theorem Ready.idle {m : Module} {nxt : List Comp} (h : Ready m nxt) (h0 : m.unambiguous = 0)
    (nxt' : List Comp) : Ready m nxt' :=
  ⟨h.inv, h.exact, PendOK.zero h0 nxt'⟩

theorem Ready.next {m : Module} {c : Comp} {nxt la : List Comp} (h : Ready m (c :: nxt))
    (hc : c.isIgnored = false) (hpos : positionOK m.components c la = true)
    (hla : m.carrier.isSome = true → (la.take 2).map (·.label) = (nxt.take 2).map (·.label)) :
    Ready (m.next c) nxt :=
  ⟨h.inv.next h.pend.head hc hpos, h.exact.next h.inv h.pend.head, pend_step h.inv h.pend hpos hla⟩

/-- both halves of `add_component` read the look-ahead only in the double-transporter test of a
    carrier protein arriving at a module that already has one -/
theorem ensure_place_la {m : Module} {c : Comp} {la la' : List Comp}
    (h : m.carrier.isSome = true → c.isCarrierProtein = true →
          dtValid (la.map (·.label)) = dtValid (la'.map (·.label))) :
    ensureSuitable m c la = ensureSuitable m c la' ∧ place m c la = place m c la' := by
  cases hcp : c.isCarrierProtein with
  | false =>
    exact ⟨by simp only [ensureSuitable, hcp, Bool.false_eq_true, if_false], by simp [place, hcp]⟩
  | true =>
    cases hC : m.carrier with
    | none =>
      exact ⟨by simp only [ensureSuitable, hC, Option.isSome_none, Bool.false_eq_true, if_false],
             by simp [place, hcp, hC]⟩
    | some x =>
      have := h (by rw [hC]; rfl) hcp
      exact ⟨by simp only [ensureSuitable, this], by simp only [place, dtLongest_eq, this]⟩

/-- the result of `addComponent` depends on the look-ahead only through its first two labels, and
    only for a carrier protein arriving at a module that already has one -/
theorem add_la_indep {m : Module} {c : Comp} {la la' : List Comp}
    (h : m.carrier.isSome = true → c.isCarrierProtein = true →
          (la.take 2).map (·.label) = (la'.take 2).map (·.label)) :
    addComponent m c la = addComponent m c la' := by
  have hv : m.carrier.isSome = true → c.isCarrierProtein = true →
      dtValid (la.map (·.label)) = dtValid (la'.map (·.label)) :=
    fun a b => dtValid_take2 la la' (h a b)
  cases hi : c.isIgnored with
  | true => rw [add_ignored m c la hi, add_ignored m c la' hi]
  | false =>
    by_cases h0 : m.unambiguous > 0
    · rw [add_unfold1 m c la h0 hi, add_unfold1 m c la' h0 hi]
      rw [(ensure_place_la (m := { m with unambiguous := m.unambiguous - 1 }) hv).2]
    · have h0 : m.unambiguous = 0 := by omega
      rw [add_unfold0 m c la h0 hi, add_unfold0 m c la' h0 hi, (ensure_place_la hv).1, (ensure_place_la hv).2]

/-- a replay from a consistent state is the layout test followed by a fold of `next`, and ends in a
    consistent state -/
theorem replay_eq {cs : List Comp} : ∀ {m : Module}, Ready m cs → (∀ c ∈ cs, c.isIgnored = false) →
    replayGo m cs = (if layoutFrom m.components cs then .ok (cs.foldl Module.next m)
                     else .error .incompatible)
    ∧ (layoutFrom m.components cs = true → Ready (cs.foldl Module.next m) []) := by
  induction cs with
  | nil => intro m h _; exact ⟨rfl, fun _ => h⟩
  | cons c cs ih =>
    intro m h hign
    have hc := hign c List.mem_cons_self
    simp only [replayGo, List.foldl_cons]
    rw [add_eq cs h.inv h.exact h.pend.head hc,
      show layoutFrom m.components (c :: cs)
        = (positionOK m.components c cs && layoutFrom (m.next c).components cs) from rfl]
    rcases Bool.eq_false_or_eq_true (positionOK m.components c cs) with hpos | hpos
    · rw [hpos]
      exact ih (h.next hc hpos (fun _ => rfl)) (fun x hx => hign x (List.mem_cons_of_mem _ hx))
    · rw [hpos]
      exact ⟨rfl, fun h => (nomatch h)⟩

/-- `Module.from_json` accepts exactly the documented layouts, and rebuilds the module as a fold -/
theorem replay_new (f : Bool) {cs : List Comp} (hign : ∀ c ∈ cs, c.isIgnored = false) :
    replayGo (Module.new f) cs = (if layout cs then .ok (cs.foldl Module.next (Module.new f))
                                  else .error .incompatible)
    ∧ (layout cs = true → Ready (cs.foldl Module.next (Module.new f)) []) :=
  replay_eq (Ready.new f cs) hign

end ASV.Modules
