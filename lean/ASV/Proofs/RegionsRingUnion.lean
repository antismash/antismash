/-
  C06: on a circular record the location of a region has exactly the bases of the areas it
  lists (under `ArcUnions`, conditional on `create_regions` returning).
-/
import ASV.Proofs.RegionsRingNear
namespace ASV.Regions
open ASV ASV.Components

/-- the union of a joined family of single-part areas is the interval from its least start to its greatest end -/
theorem joined_line_union {L : Int} {all : List Feat} {ms : List Feat} (hj : Joined all ms)
    (hline : ∀ m ∈ ms, LineArea L m.loc) :
    ∃ lo hi, (∀ i, (∃ m ∈ ms, m.loc.mem i = true) ↔ lo ≤ i ∧ i < hi) ∧
      (∃ m ∈ ms, fLo m = lo) ∧ (∀ m ∈ ms, lo ≤ fLo m) ∧ (∃ m ∈ ms, fHi m = hi) ∧ (∀ m ∈ ms, fHi m ≤ hi) ∧ lo < hi := by
  induction hj with
  | single a ha =>
    obtain ⟨p, hp, h0, h1, h2⟩ := hline a (by simp)
    refine ⟨p.lo, p.hi, ?_, ⟨a, by simp, by simp [fLo, hp, Loc.start]⟩, by simp [fLo, hp, Loc.start],
      ⟨a, by simp, by simp [fHi, hp, Loc.end]⟩, by simp [fHi, hp, Loc.end], h1⟩
    intro i
    simp [hp, mem_simple]
  | join m1 m2 ms _ _ hshare hms ih1 ih2 =>
    obtain ⟨lo1, hi1, a1, ⟨x1, hx1, ex1⟩, a3, ⟨y1, hy1, ey1⟩, a5, a6⟩ := ih1 (fun m hm => hline m ((hms m).2 (Or.inl hm)))
    obtain ⟨lo2, hi2, b1, ⟨x2, hx2, ex2⟩, b3, ⟨y2, hy2, ey2⟩, b5, b6⟩ := ih2 (fun m hm => hline m ((hms m).2 (Or.inr hm)))
    obtain ⟨a, ha, b, hb, j, hja, hjb⟩ := hshare
    have hj1 := (a1 j).1 ⟨a, ha, hja⟩
    have hj2 := (b1 j).1 ⟨b, hb, hjb⟩
    have hov : lo1 < hi2 ∧ lo2 < hi1 := by omega
    refine ⟨min lo1 lo2, max hi1 hi2, ?_, ?_, ?_, ?_, ?_, Int.lt_of_le_of_lt (Int.min_le_left _ _) (Int.lt_of_lt_of_le a6 (Int.le_max_left _ _))⟩
    · intro i
      rw [exists_mem_join hms, a1 i, b1 i, interval_union hov.1 hov.2]
    · by_cases hc : lo1 ≤ lo2
      · exact ⟨x1, (hms x1).2 (Or.inl hx1), ex1.trans (Int.min_eq_left hc).symm⟩
      · exact ⟨x2, (hms x2).2 (Or.inr hx2), ex2.trans (Int.min_eq_right (Int.le_of_lt (Int.not_le.1 hc))).symm⟩
    · intro m hm
      rcases (hms m).1 hm with h | h
      · exact Int.le_trans (Int.min_le_left _ _) (a3 m h)
      · exact Int.le_trans (Int.min_le_right _ _) (b3 m h)
    · by_cases hc : hi2 ≤ hi1
      · exact ⟨y1, (hms y1).2 (Or.inl hy1), ey1.trans (Int.max_eq_left hc).symm⟩
      · exact ⟨y2, (hms y2).2 (Or.inr hy2), ey2.trans (Int.max_eq_right (Int.le_of_lt (Int.not_le.1 hc))).symm⟩
    · intro m hm
      rcases (hms m).1 hm with h | h
      · exact Int.le_trans (a5 m h) (Int.le_max_left _ _)
      · exact Int.le_trans (b5 m h) (Int.le_max_right _ _)


/-- the hull of a joined family of single-part areas, listed in any order, has exactly their bases -/
theorem hull_joined_mem {L : Int} {all fam fs : List Feat} (hj : Joined all fam) (hmem : ∀ f, f ∈ fs ↔ f ∈ fam)
    (hline : ∀ m ∈ fam, LineArea L m.loc) (i : Int) :
    (hullLoc fs).mem i = true ↔ ∃ f ∈ fam, f.loc.mem i = true := by
  obtain ⟨lo, hi', hu, ⟨x, hx, ex⟩, hlo, ⟨y, hy, ey⟩, hhi, _⟩ := joined_line_union hj hline
  have e1 : minList (fs.map fLo) = lo := minList_eq (List.mem_map.2 ⟨x, (hmem x).2 hx, ex⟩) (by
    intro v hv
    obtain ⟨f, hf, rfl⟩ := List.mem_map.1 hv
    exact hlo f ((hmem f).1 hf))
  have e2 : maxList (fs.map fHi) = hi' := maxList_eq (List.mem_map.2 ⟨y, (hmem y).2 hy, ey⟩) (by
    intro v hv
    obtain ⟨f, hf, rfl⟩ := List.mem_map.1 hv
    exact hhi f ((hmem f).1 hf))
  rw [hullLoc, e1, e2, mem_simple, hu i]

/-- The location `Region.__init__` computes from a listing `fs` of a joined family `fam` of areas of a ring has exactly
    the bases of the family: with an origin-spanning member `connect` returns the arc `ArcUnions` provides, without one
    the hull. -/
theorem region_loc_joined {L : Int} (hL : 0 < L) {all fam fs : List Feat} (hring : ∀ f ∈ all, RingArea L f.loc)
    (harc : ArcUnions L all) (hj : Joined all fam) (hmem : ∀ f, f ∈ fs ↔ f ∈ fam) (hne : fs ≠ [])
    {w : Option Int} {loc : Loc} (hw : regionWrap (fs.map (·.loc)) = .ok w) (hconn : connect (fs.map (·.loc)) w = .ok loc) :
    ∀ i, loc.mem i = true ↔ ∃ m ∈ fam, m.loc.mem i = true := by
  have hch : ∀ f ∈ fs, RingArea L f.loc := fun f hf => hring f (hj.sub f ((hmem f).1 hf))
  intro i
  rcases region_loc_ring hL hne hch hw hconn with ⟨_, rfl, _, _⟩ | ⟨_, hline, hh⟩
  · obtain ⟨c, hwf, hlen, hc⟩ := harc fam hj
    obtain ⟨r', hr', _, hrm⟩ := connect_ring_exact hL (fs.map (·.loc)) (by simpa using hne) (by
      intro l hl
      obtain ⟨f, hf, rfl⟩ := List.mem_map.1 hl
      exact hch f hf) c hwf hlen (by intro j; rw [hc j, exists_mem_listing hmem])
    rw [hr'] at hconn
    cases hconn
    rw [hrm i, exists_mem_listing hmem]
  · rw [hh]
    exact hull_joined_mem hj hmem (fun m hm => hline m ((hmem m).2 hm)) i

/-- **Circular record** (`ArcUnions`, conditional on `create_regions` returning): the location of every region has
    exactly the bases of the areas it lists -/
theorem ring_region_union (s s' : State) (hcirc : s.circular = true) (hL : 0 < s.len) (hi : Inv s)
    (hreg : s.regions = []) (hring : ∀ f ∈ s.cands ++ s.subs, RingArea s.len f.loc)
    (harc : ArcUnions s.len (s.cands ++ s.subs)) (h : createRegions s = .ok s') :
    ∀ r ∈ s'.regions, ∀ i, r.loc.mem i = true ↔ ∃ f ∈ s.cands ++ s.subs, f.id ∈ memberIds r ∧ f.loc.mem i = true := by
  intro r hr i
  obtain ⟨sec, hS, m⟩ := createRegions_made_ring hcirc hL hi hreg hring harc h r hr
  obtain ⟨w, hw, hconn⟩ := m.loc
  rw [region_loc_joined hL hring harc hS.joined (mem_childrenOf _) m.ne hw hconn i]
  constructor
  · rintro ⟨f, hf, hfi⟩
    have hf' := (mem_childrenOf _ f).2 hf
    exact ⟨f, m.sub f hf', m.lists hf', hfi⟩
  · rintro ⟨f, hf, hm, hfi⟩
    exact ⟨f, (mem_childrenOf _ f).1 (m.listed hf hm), hfi⟩

end ASV.Regions
