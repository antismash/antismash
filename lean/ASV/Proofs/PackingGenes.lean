/-
  C19: `convert_cds_features` — every gene is drawn in range, exactly once (or as two linked
  halves), at the genome distance from the region's first base.
-/
import ASV.Proofs.PackingBase
namespace ASV.Packing
open ASV ASV.Packing.Spec

/-- what is needed of the orfs drawn for one gene: in range, and reading back as that gene, whole
    (then placed where the unrolled record has it) or as two linked halves -/
structure GoodOrf (c : Ctx) (v : GeneView) (gid : Int) (os : List Orf) : Prop where
  range : ∀ o ∈ os, orfInRange (drawRange c).1 (drawRange c).2 o = true
  drawn : (∃ o, os = [o] ∧ o.group = 0 ∧ DrawnOrf.shown c.L (.whole o) = some (expectedOrf v) ∧
            orfPlaced c v o = true) ∨
    (∃ a b, os = [a, b] ∧ a.group = gid ∧ b.group = gid ∧
      DrawnOrf.shown c.L (.halves a b) = some (expectedOrf v))

theorem orfInRange_iff (lo hi : Int) (o : Orf) : orfInRange lo hi o = true ↔
    lo + 1 ≤ o.start ∧ o.start ≤ o.end ∧ o.end ≤ hi := by
  simp only [orfInRange, Bool.and_eq_true, decide_eq_true_eq]
  omega

/-- `feature.strand or 1` keeps the sign the reader expects -/
theorem strand_or_one {s : Int} (h : (s == 1 || s == -1 || s == 0) = true) :
    (if s == 0 then 1 else s) = if s == -1 then -1 else 1 := by
  simp only [Bool.or_eq_true, beq_iff_eq] at h
  rcases h with (rfl | rfl) | rfl <;> rfl

/-- a gene drawn as one orf whose two coordinates are the gene's, each as it is or moved past
    the record end by `L`, in order inside a drawing range no longer than the record -/
theorem goodOrf_whole {c : Ctx} {v : GeneView} {gid : Int} (s e : Int)
    (hst : (v.strand == 1 || v.strand == -1 || v.strand == 0) = true)
    (hs : s - 1 = v.start ∨ s - 1 = v.start + c.L) (he : e = v.end ∨ e = v.end + c.L)
    (hv : (0 ≤ v.start ∧ v.start < c.L ∧ 0 < v.end ∧ v.end ≤ c.L) ∧
      (drawRange c).1 + 1 ≤ s ∧ s ≤ e ∧ e ≤ (drawRange c).2) (hc : regionOK c = true) :
    GoodOrf c v gid [{ start := s, «end» := e, strand := if v.strand == 0 then 1 else v.strand }] := by
  obtain ⟨⟨hv0, hvL, he0, heL⟩, hr⟩ := hv
  have hhi := (drawRange_window hc).2
  refine ⟨?_, Or.inl ⟨_, rfl, rfl, ?_, ?_⟩⟩
  · intro o ho
    rw [List.mem_singleton] at ho
    rw [ho]
    exact (orfInRange_iff _ _ _).2 hr
  · simp only [DrawnOrf.shown, Bool.false_eq_true, ↓reduceIte, expectedOrf, foldS_shift hv0 hvL hs,
      foldE_shift he0 heL he, strand_or_one hst]
  · simp only [orfPlaced, beq_iff_eq]
    exact unroll_of_shift hs (by omega) (by omega)

theorem convertOne_good {c : Ctx} {v : GeneView} (hc : regionOK c = true) (hv : viewOK c v = true)
    (gid : Int) : GoodOrf c v gid (convertOne c v gid) := by
  obtain ⟨vs, ve, vx, vl, vst⟩ := v
  simp only [viewOK, Bool.and_eq_true] at hv
  obtain ⟨hst, hv⟩ := hv
  rcases regionOK_cases hc with ⟨R, hreg, hR1, hR2, hR3, hrc, hd⟩ | ⟨S, E, hreg, hE1, hE2, hE3, _, hrc, _, _, hd⟩
  · -- ordinary region
    cases vx
    · -- not across the origin: one orf
      simp only [hreg, Bool.false_eq_true, ↓reduceIte, Bool.and_eq_true, decide_eq_true_eq] at hv
      simp only [convertOne, hrc, Bool.false_eq_true, ↓reduceIte, Bool.false_and]
      refine goodOrf_whole (vs + 1) ve hst (Or.inl (Int.add_sub_cancel vs 1)) (Or.inl rfl) ?_ hc
      simp only [hd]
      omega
    · -- across the origin in a whole-record region: two halves
      simp only [hreg, ↓reduceIte, Bool.and_eq_true, decide_eq_true_eq, beq_iff_eq] at hv
      obtain ⟨⟨⟨⟨⟨_, hlo⟩, hhi⟩, h1⟩, h2⟩, h3⟩ := hv
      have hr : ∀ o : Orf, (o.start = vs + 1 ∧ o.end = c.L) ∨ (o.start = 1 ∧ o.end = ve) →
          orfInRange (drawRange c).1 (drawRange c).2 o = true := by
        intro o ho
        rw [orfInRange_iff, hd]
        simp only
        omega
      simp only [Bool.or_eq_true, beq_iff_eq] at hst
      rcases hst with (rfl | rfl) | rfl
      all_goals
        simp [convertOne, hrc]
        refine ⟨?_, Or.inr ⟨_, _, rfl, rfl, rfl, ?_⟩⟩
        · intro o ho
          simp only [List.mem_cons, List.not_mem_nil, or_false] at ho
          rcases ho with rfl | rfl
          · exact hr _ (Or.inl ⟨rfl, rfl⟩)
          · exact hr _ (Or.inr ⟨rfl, rfl⟩)
        · simp [DrawnOrf.shown, expectedOrf]
  · -- origin-spanning region: always one orf, moved past the record end where it lies behind the origin
    cases vx <;> cases vl <;>
      simp only [hreg, Bool.false_eq_true, ↓reduceIte, Bool.and_eq_true, decide_eq_true_eq, Bool.not_true,
        Bool.not_false, Bool.true_and, Bool.false_and] at hv
    · simp only [convertOne, hrc, Bool.false_eq_true, ↓reduceIte, Bool.and_false, Bool.not_true]
      refine goodOrf_whole (vs + 1) ve hst (Or.inl (Int.add_sub_cancel vs 1)) (Or.inl rfl) ?_ hc
      simp only [hd]
      omega
    · simp only [convertOne, hrc, Bool.false_eq_true, ↓reduceIte, Bool.and_false, Bool.not_true]
      refine goodOrf_whole (vs + 1 + c.L) (ve + c.L) hst (Or.inr ?_) (Or.inr rfl) ?_ hc
      all_goals simp only [hd]
      all_goals omega
    · simp only [convertOne, hrc, Bool.false_eq_true, ↓reduceIte, Bool.and_false, Bool.not_true]
      refine goodOrf_whole (vs + 1) (ve + c.L) hst (Or.inl (Int.add_sub_cancel vs 1)) (Or.inr rfl) ?_ hc
      simp only [hd]
      omega

theorem convertCdsFrom_mem {c : Ctx} : ∀ (views : List GeneView) (k : Nat) (o : Orf),
    o ∈ convertCdsFrom c views k → ∃ v ∈ views, ∃ gid, o ∈ convertOne c v gid
  | [], _, o, h => by simp [convertCdsFrom] at h
  | v :: vs, k, o, h => by
    simp only [convertCdsFrom, List.mem_append] at h
    rcases h with h | h
    · exact ⟨v, by simp, _, h⟩
    · obtain ⟨v', hv', gid, hm⟩ := convertCdsFrom_mem vs (k + 1) o h
      exact ⟨v', by simp [hv'], gid, hm⟩

theorem convertCdsFrom_parse {c : Ctx} (hc : regionOK c = true) : ∀ (views : List GeneView) (k : Nat),
    (∀ v ∈ views, viewOK c v = true) →
    ∃ ds, parseOrfsGo none (convertCdsFrom c views k) = some ds ∧
      ds.mapM (DrawnOrf.shown c.L) = some (views.map expectedOrf) ∧
      IdsAbove k (ds.filterMap DrawnOrf.groupId)
  | [], k, _ => ⟨[], by simp [convertCdsFrom, parseOrfsGo], by simp, by simp [IdsAbove]⟩
  | v :: vs, k, hall => by
    obtain ⟨ds, hp, hs, hids⟩ := convertCdsFrom_parse hc vs (k + 1) (fun x hx => hall x (by simp [hx]))
    have good := convertOne_good hc (hall v (by simp)) ((k : Int) + 1)
    rcases good.drawn with ⟨o, ho, hg0, hsh, _⟩ | ⟨a, b, ho, hga, hgb, hsh⟩
    · refine ⟨DrawnOrf.whole o :: ds, ?_, ?_, hids.whole⟩
      · simp [convertCdsFrom, ho, parseOrfsGo, hg0, hp]
      · simp [List.mapM_cons, hsh, hs, bind, pure]
    · have hk : ¬ ((k : Int) + 1 = 0) := by omega
      refine ⟨DrawnOrf.halves a b :: ds, ?_, ?_, ?_⟩
      · simp [convertCdsFrom, ho, parseOrfsGo, hga, hgb, hp, hk]
      · simp [List.mapM_cons, hsh, hs, bind, pure]
      · simp only [List.filterMap_cons, DrawnOrf.groupId, hga]
        exact hids.halves

theorem convertCds_complete {c : Ctx} (hc : regionOK c = true) (views : List GeneView)
    (hall : ∀ v ∈ views, viewOK c v = true) : orfsCompleteB c.L views (convertCds c views) = true := by
  obtain ⟨ds, hp, hs, hids⟩ := convertCdsFrom_parse hc views 0 hall
  have hnd := hids.nodup
  simp [orfsCompleteB, convertCds, hp, hs, hnd]

theorem strandInt_ok (s : Strand) : (strandInt s == 1 || strandInt s == -1 || strandInt s == 0) = true := by
  cases s <;> rfl

theorem geneView_simple (c : Ctx) (p : Part) : geneView c (.simple p) =
    ⟨p.lo, p.hi, false, partContains c.lastPart p, strandInt p.strand⟩ := by
  simp [geneView, bridgesOrigin, locationContainsOther, Loc.parts, Loc.strand]

/-- the view of a two-exon gene through its exons in genome order, `a` before `b` on the strand's
    own reading of the record: it starts with `a`, ends with `b`, and runs over the origin when
    `b` lies before `a` -/
theorem geneView_pair (c : Ctx) (p q : Part) (hs : p.strand = q.strand)
    (hfr : p.strand = .fwd ∨ p.strand = .rev) :
    geneView c (.compound [p, q]) =
      ⟨(if p.strand == .fwd then p else q).lo, (if p.strand == .fwd then q else p).hi,
        decide ((if p.strand == .fwd then q else p).lo < (if p.strand == .fwd then p else q).lo),
        partContains c.lastPart (if p.strand == .fwd then p else q) &&
          partContains c.lastPart (if p.strand == .fwd then q else p),
        if p.strand == .fwd then 1 else -1⟩ := by
  obtain ⟨plo, phi, ps⟩ := p
  obtain ⟨qlo, qhi, qs⟩ := q
  simp only at hs hfr
  subst hs
  rcases hfr with rfl | rfl
  · simp [geneView, bridgesOrigin, orderInvalid, locStart, locEnd, Loc.strand, locationContainsOther, Loc.parts,
      strandInt]
  · simp [geneView, bridgesOrigin, orderInvalid, locStart, locEnd, Loc.strand, locationContainsOther, Loc.parts,
      strandInt, Bool.and_comm]

/-- a gene whose hull `[lo, hi)` lies in one part of the region, and which is seen in the last
    part exactly when it lies there -/
theorem viewOK_of_hull {c : Ctx} (hc : regionOK c = true) {lo hi st : Int} {inl : Bool}
    (hst : (st == 1 || st == -1 || st == 0) = true) (hh : hullIn c lo hi = true)
    (hinl : inl = true ↔ c.lastPart.lo ≤ lo ∧ hi ≤ c.lastPart.hi) :
    viewOK c ⟨lo, hi, false, inl, st⟩ = true := by
  rcases regionOK_cases hc with ⟨R, hr, _⟩ | ⟨S, E, hr, hE1, hE2, hE3, _, _, _, hlast, _⟩
  · simp only [hullIn, hr] at hh
    simp only [viewOK, hr, hst, Bool.true_and, Bool.false_eq_true, ↓reduceIte]
    exact hh
  · rw [hlast] at hinl
    simp only [hullIn, hr, Bool.and_eq_true, Bool.or_eq_true, decide_eq_true_eq] at hh
    simp only [viewOK, hr, hst, Bool.true_and, Bool.false_eq_true, ↓reduceIte]
    cases inl
    · simp only [Bool.false_eq_true, false_iff] at hinl
      simp only [Bool.false_eq_true, ↓reduceIte, Bool.and_eq_true, decide_eq_true_eq]
      omega
    · simp only [true_iff] at hinl
      simp only [↓reduceIte, Bool.and_eq_true, decide_eq_true_eq]
      omega

/-- a gene running over the origin: exon `a` ends the record, exon `b` begins it -/
theorem viewOK_of_bridge {c : Ctx} (hc : regionOK c = true) {a b : Part} {st : Int} {inl : Bool}
    (hst : (st == 1 || st == -1 || st == 0) = true) (hb : bridgeIn c a b = true)
    (h1 : b.lo < b.hi) (h2 : b.hi ≤ a.lo) (h3 : a.lo < a.hi) (hinl : inl = true → a.hi ≤ c.lastPart.hi) :
    viewOK c ⟨a.lo, b.hi, true, inl, st⟩ = true := by
  rcases regionOK_cases hc with ⟨R, hr, _⟩ | ⟨S, E, hr, hE1, hE2, hE3, _, _, _, hlast, _⟩
  · simp only [bridgeIn, hr, Bool.and_eq_true, decide_eq_true_eq, beq_iff_eq] at hb
    obtain ⟨⟨⟨⟨hcirc, hlo⟩, hhi⟩, haL⟩, _⟩ := hb
    simp only [viewOK, hr, hst, Bool.true_and, ↓reduceIte, Bool.and_eq_true, decide_eq_true_eq, beq_iff_eq]
    exact ⟨⟨⟨⟨⟨hcirc, hlo⟩, hhi⟩, by omega⟩, h2⟩, by omega⟩
  · rw [hlast] at hinl
    simp only [bridgeIn, hr, Bool.and_eq_true, decide_eq_true_eq] at hb
    have hf : inl = false := by
      cases inl
      · rfl
      · have := hinl rfl
        simp only at this
        omega
    subst hf
    simp only [viewOK, hr, hst, Bool.true_and, ↓reduceIte, Bool.not_false, Bool.and_eq_true, decide_eq_true_eq]
    omega

/-- for genes of one or two exons the hypothesis of the gene theorems follows from the shape of
    the location: `Feature.start/end`, `crosses_origin` and `is_contained_by(parts[-1])` computed
    from the location satisfy `viewOK` -/
theorem geneView_ok {c : Ctx} {g : Loc} (hc : regionOK c = true) (hg : geneOK c g = true) :
    viewOK c (geneView c g) = true := by
  cases g with
  | simple p =>
    rw [geneView_simple]
    have hh : hullIn c p.lo p.hi = true := hg
    have hlt : p.lo < p.hi := by
      rcases regionOK_cases hc with ⟨R, hr, _⟩ | ⟨S, E, hr, _⟩
      · simp only [hullIn, hr, Bool.and_eq_true, decide_eq_true_eq] at hh
        exact hh.1.2
      · simp only [hullIn, hr, Bool.and_eq_true, decide_eq_true_eq] at hh
        exact hh.1
    refine viewOK_of_hull hc (strandInt_ok _) hh ?_
    simp only [partContains, Bool.and_eq_true, decide_eq_true_eq]
    omega
  | compound ps =>
    match ps, hg with
    | [], hg => simp [geneOK] at hg
    | [_], hg => simp [geneOK] at hg
    | _ :: _ :: _ :: _, hg => simp [geneOK] at hg
    | [p, q], hg =>
      simp only [geneOK, Bool.and_eq_true] at hg
      obtain ⟨⟨hst, hfr⟩, hg⟩ := hg
      simp only [Bool.or_eq_true, beq_iff_eq] at hfr
      rw [geneView_pair c p q (eq_of_beq hst) hfr]
      have hsi : ((if p.strand == Strand.fwd then (1 : Int) else -1) == 1 ||
          (if p.strand == Strand.fwd then (1 : Int) else -1) == -1 ||
          (if p.strand == Strand.fwd then (1 : Int) else -1) == 0) = true := by
        split <;> rfl
      generalize (if p.strand == Strand.fwd then p else q) = a at hg ⊢
      generalize (if p.strand == Strand.fwd then q else p) = b at hg ⊢
      split at hg
      · rename_i hab
        simp only [Bool.and_eq_true, decide_eq_true_eq] at hg
        obtain ⟨⟨⟨g1, g2⟩, g3⟩, hh⟩ := hg
        rw [decide_eq_false (by omega)]
        refine viewOK_of_hull hc hsi hh ?_
        simp only [partContains, Bool.and_eq_true, decide_eq_true_eq]
        omega
      · rename_i hab
        simp only [Bool.and_eq_true, decide_eq_true_eq] at hg
        obtain ⟨⟨⟨g1, g2⟩, g3⟩, hb⟩ := hg
        rw [decide_eq_true (by omega)]
        refine viewOK_of_bridge hc hsi hb g1 g2 g3 ?_
        intro h
        simp only [partContains, Bool.and_eq_true, decide_eq_true_eq] at h
        exact h.1.2
end ASV.Packing
