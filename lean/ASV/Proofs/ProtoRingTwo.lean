/-
  C03, two-part cores: `_extend_area_location` of an origin-spanning core `[x, L) + [0, y)` on a
  circular record in closed form, and what the cutoff window built from it contains.
-/
import ASV.Proofs.ProtoRingWide
import ASV.Proofs.LocExtendArea
namespace ASV.Proto
open ASV ASV.Chains

theorem areaTwo_len (x y L : Int) : (areaTwo x y L .fwd).len = (L - x) + y := by
  simp [areaTwo, Loc.len, Loc.parts, Part.len]

/-- the cap of `_extend_area_location` for an origin-spanning core: half of the gap between its two ends, plus one -/
theorem areaTwo_cap (x y L : Int) : (L - (areaTwo x y L .fwd).len) / 2 + 1 = (x - y) / 2 + 1 := by
  have h : L - (L - x + y) = x - y := by omega
  rw [areaTwo_len, h]

theorem extAreaRing_shape (x y d L : Int) :
    (∃ p, extAreaRing x y d L = .simple p) ∨ (∃ a b, extAreaRing x y d L = .compound [⟨a, L, .fwd⟩, ⟨0, b, .fwd⟩]) := by
  unfold extAreaRing
  split
  · exact Or.inl ⟨_, rfl⟩
  · exact Or.inr ⟨_, _, rfl⟩

/-- the location `_extend_area_location(core, n, force_cross_origin=True)` gives an origin-spanning core -/
def nbhdTwo (x y d L : Int) : Loc :=
  if x - y < 2 * d then .compound [⟨(x - y) / 2 + y, L, .fwd⟩, ⟨0, max y ((x - y) / 2 + y - 1), .fwd⟩]
  else .compound [⟨x - d, L, .fwd⟩, ⟨0, y + d, .fwd⟩]

/-- `_extend_area_location` of a forward origin-spanning core, up to the last step: the distance is capped at
    `(x − y)/2 + 1` (half of what the core leaves free, plus one), `extend_location` and `connect_locations` give
    `W`; with `force_cross_origin` a `W` that has become the whole record is split at the middle of the gap -/
theorem extendArea_ring_two_aux (r : Rec) (hcirc : r.circular = true) (x y c : Int) (hy0 : 0 < y) (hyx : y ≤ x)
    (hxL : x < r.len) (hc : 0 ≤ c) (force : Bool) :
    extendArea r (areaTwo x y r.len .fwd) c force =
      .ok (if (extAreaRing x y (min c ((x - y) / 2 + 1)) r.len).len == r.len &&
              !bridgesOrigin (extAreaRing x y (min c ((x - y) / 2 + 1)) r.len) && force
           then .compound [⟨(x - y) / 2 + y, r.len, (extAreaRing x y (min c ((x - y) / 2 + 1)) r.len).strand⟩,
                  ⟨0, max y ((x - y) / 2 + y - 1), (extAreaRing x y (min c ((x - y) / 2 + 1)) r.len).strand⟩]
           else extAreaRing x y (min c ((x - y) / 2 + 1)) r.len) := by
  have hL : 0 < r.len := by omega
  have hd0 : 0 ≤ min c ((x - y) / 2 + 1) := by omega
  have hb := bridges_areaTwo_fwd x y r.len hy0 hyx
  have hext := extend_area_ring_eq x y (min c ((x - y) / 2 + 1)) r.len hL hy0 hyx hxL hd0
  have hwf := extAreaRing_wf x y (min c ((x - y) / 2 + 1)) r.len hL hy0 hyx hxL hd0
  have hshape := extAreaRing_shape x y (min c ((x - y) / 2 + 1)) r.len
  have hconn := connect_self _ r.len hL hwf hshape
  have hcap := areaTwo_cap x y r.len
  have hstrand : (areaTwo x y r.len .fwd).strand = .fwd := by simp [areaTwo, Loc.strand]
  have hplen : (areaTwo x y r.len .fwd).parts.length = 2 := by simp [areaTwo, Loc.parts]
  have hhead : (areaTwo x y r.len .fwd).parts.head? = some ⟨x, r.len, .fwd⟩ := by simp [areaTwo, Loc.parts]
  have hlast : (areaTwo x y r.len .fwd).parts.getLast? = some ⟨0, y, .fwd⟩ := by simp [areaTwo, Loc.parts]
  generalize extAreaRing x y (min c ((x - y) / 2 + 1)) r.len = W at hext hconn hshape hwf ⊢
  have hle : W.parts.length ≤ 2 := by
    rcases hshape with ⟨q, hq⟩ | ⟨a, b, hq⟩ <;> rw [hq] <;> simp [Loc.parts]
  have hpl2 : ∀ (a b : Int) (s : Strand), (Loc.compound [⟨a, r.len, s⟩, ⟨0, b, s⟩]).parts.length = 2 := fun _ _ _ => rfl
  by_cases hcond : (W.len == r.len && !bridgesOrigin W && force) = true
  · simp [extendArea, hcirc, hstrand, hplen, hb, hcap, hext, Rec.wrap, hconn, hhead, hlast, hcond, hpl2, bind, Except.bind, pure, Except.pure]
  · simp [extendArea, hcirc, hstrand, hplen, hb, hcap, hext, Rec.wrap, hconn, hcond, hle, bind, Except.bind, pure, Except.pure]

/-- … in closed form: `nbhdTwo` with `force_cross_origin`, `extend_location`'s closed form without -/
theorem extendArea_ring_two_any (r : Rec) (hcirc : r.circular = true) (x y c : Int) (hy0 : 0 < y) (hyx : y ≤ x)
    (hxL : x < r.len) (hc : 0 ≤ c) (force : Bool) :
    extendArea r (areaTwo x y r.len .fwd) c force =
      .ok (if force then nbhdTwo x y (min c ((x - y) / 2 + 1)) r.len
           else extAreaRing x y (min c ((x - y) / 2 + 1)) r.len) := by
  rw [extendArea_ring_two_aux r hcirc x y c hy0 hyx hxL hc force]
  unfold nbhdTwo extAreaRing
  by_cases hcase : x - y < 2 * min c ((x - y) / 2 + 1)
  · rw [if_pos hcase, if_pos hcase]
    cases force <;> simp [Loc.len, Loc.parts, Part.len, bridgesOrigin, Loc.strand]
  · rw [if_neg hcase, if_neg hcase]
    have hb2 := bridges_areaTwo_fwd (x - min c ((x - y) / 2 + 1)) (y + min c ((x - y) / 2 + 1)) r.len (by omega) (by omega)
    simp only [areaTwo] at hb2
    simp [hb2]

theorem extendArea_ring_two (r : Rec) (hcirc : r.circular = true) (x y c : Int) (hy0 : 0 < y) (hyx : y ≤ x)
    (hxL : x < r.len) (hc : 0 ≤ c) :
    extendArea r (areaTwo x y r.len .fwd) c false = .ok (extAreaRing x y (min c ((x - y) / 2 + 1)) r.len) := by
  rw [extendArea_ring_two_any r hcirc x y c hy0 hyx hxL hc false]
  rfl

theorem extendArea_ring_two_force (r : Rec) (hcirc : r.circular = true) (x y c : Int) (hy0 : 0 < y) (hyx : y ≤ x)
    (hxL : x < r.len) (hc : 0 ≤ c) :
    extendArea r (areaTwo x y r.len .fwd) c true = .ok (nbhdTwo x y (min c ((x - y) / 2 + 1)) r.len) := by
  rw [extendArea_ring_two_any r hcirc x y c hy0 hyx hxL hc true]
  rfl

/-- the cutoff window of a two-part core: an area, exactly the bases within the capped distance of the core
    the shorter way round, and a gene shares a base with it iff one of its bases is that close to the core -/
theorem window_two_part (r : Rec) (hcirc : r.circular = true) (x y c : Int) (hy0 : 0 < y) (hyx : y ≤ x)
    (hxL : x < r.len) (hc : 0 ≤ c) :
    ∃ W, extendArea r (areaTwo x y r.len .fwd) c false = .ok W ∧ RingArea r.len W ∧
      (∀ i, W.mem i = true ↔ (0 ≤ i ∧ i < r.len ∧
        ∃ j, (areaTwo x y r.len .fwd).mem j = true ∧ ringAbs r.len i j ≤ min c ((x - y) / 2 + 1))) ∧
      ∀ g : Loc, g.PartsNonEmpty → (locationsOverlap g W = true ↔
        ∃ i j, g.mem i = true ∧ 0 ≤ i ∧ i < r.len ∧ (areaTwo x y r.len .fwd).mem j = true ∧
          ringAbs r.len i j ≤ min c ((x - y) / 2 + 1)) := by
  have hL : 0 < r.len := by omega
  have hd0 : 0 ≤ min c ((x - y) / 2 + 1) := by omega
  have harea : RingArea r.len (extAreaRing x y (min c ((x - y) / 2 + 1)) r.len) :=
    ⟨extAreaRing_wf x y _ r.len hL hy0 hyx hxL hd0, extAreaRing_shape x y _ r.len⟩
  have hmem := extAreaRing_mem x y (min c ((x - y) / 2 + 1)) r.len hL hy0 hyx hxL hd0
  refine ⟨_, extendArea_ring_two r hcirc x y c hy0 hyx hxL hc, harea, hmem, ?_⟩
  intro g hg
  rw [locationsOverlap_iff g _ hg harea.partsNonEmpty]
  constructor
  · rintro ⟨i, hi, hW⟩
    obtain ⟨h0, h1, j, hj, hr⟩ := (hmem i).1 hW
    exact ⟨i, j, hi, h0, h1, hj, hr⟩
  · rintro ⟨i, j, hi, h0, h1, hj, hr⟩
    exact ⟨i, hi, (hmem i).2 ⟨h0, h1, j, hj, hr⟩⟩

theorem nbhdTwo_props (x y d L : Int) (hy0 : 0 < y) (hyx : y ≤ x) (hxL : x < L) (hd : 0 ≤ d)
    (hdcap : d ≤ (x - y) / 2 + 1) :
    (∃ a b, nbhdTwo x y d L = .compound [⟨a, L, .fwd⟩, ⟨0, b, .fwd⟩] ∧ 0 < b ∧ b ≤ a ∧ a < L ∧ a ≤ x ∧ y ≤ b) := by
  unfold nbhdTwo
  by_cases hcase : x - y < 2 * d
  · rw [if_pos hcase]
    exact ⟨_, _, rfl, by omega⟩
  · rw [if_neg hcase]
    exact ⟨_, _, rfl, by omega⟩

/-- `Protocluster(core, surrounds)` succeeds for an origin-spanning core inside an origin-spanning area -/
theorem mkPC_two (rule : String) (x y a b L : Int) (hy0 : 0 < y) (hyx : y ≤ x) (hb0 : 0 < b) (hba : b ≤ a) (haL : a < L) :
    mkPC rule (areaTwo x y L .fwd) (.compound [⟨a, L, .fwd⟩, ⟨0, b, .fwd⟩]) =
      .ok ⟨rule, areaTwo x y L .fwd, .compound [⟨a, L, .fwd⟩, ⟨0, b, .fwd⟩]⟩ := by
  have hbc := bridges_areaTwo_fwd x y L hy0 hyx
  have hbw : bridgesOrigin (.compound [⟨a, L, .fwd⟩, ⟨0, b, .fwd⟩]) = true := bridges_areaTwo_fwd a b L hb0 hba
  have h1 : ¬ (b = L) := by omega
  have h2 : ¬ (minList [a, 0] > maxList [L, b]) := by simp [minList, maxList]; omega
  have h3 : ¬ (minList [a, 0] < 0) := by simp [minList]; omega
  have hcl : (areaTwo x y L .fwd).parts.length = 2 := by simp [areaTwo, Loc.parts]
  simp [mkPC, hbc, hbw, areaTwo, Loc.parts, Loc.start, Loc.end, Loc.strand, dupEnds, h1, h2, h3, pure, Except.pure]

/-- the protocluster of an origin-spanning core: `_extend_area_location(…, force_cross_origin=True)` and the
    constructor succeed; the location spans the origin, is a well-formed area and covers the core -/
theorem protocluster_two_part (r : Rec) (hcirc : r.circular = true) (rule : String) (x y n : Int) (hy0 : 0 < y)
    (hyx : y ≤ x) (hxL : x < r.len) (hn : 0 ≤ n) :
    ∃ W, extendArea r (areaTwo x y r.len .fwd) n true = .ok W ∧
      mkPC rule (areaTwo x y r.len .fwd) W = .ok ⟨rule, areaTwo x y r.len .fwd, W⟩ ∧
      RingArea r.len W ∧ bridgesOrigin W = true ∧ Covers W (areaTwo x y r.len .fwd) := by
  obtain ⟨a, b, hW, hb0, hba, haL, hax, hyb⟩ := nbhdTwo_props x y (min n ((x - y) / 2 + 1)) r.len hy0 hyx hxL
    (by omega) (by omega)
  refine ⟨_, extendArea_ring_two_force r hcirc x y n hy0 hyx hxL hn, ?_, ?_, ?_, ?_⟩
  · rw [hW]; exact mkPC_two rule x y a b r.len hy0 hyx hb0 hba haL
  · rw [hW]
    exact RingArea.two hb0 hba haL
  · rw [hW]; exact bridges_areaTwo_fwd a b r.len hb0 hba
  · rw [hW]
    intro i hi
    simp only [areaTwo, Loc.mem, Loc.parts, List.any_cons, List.any_nil, Bool.or_false, Bool.or_eq_true, Part.mem_iff] at hi ⊢
    omega

end ASV.Proto
