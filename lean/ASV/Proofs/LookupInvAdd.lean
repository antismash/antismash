/-
  `add_cds_feature` and the `add_<area>` methods preserve the invariant.  Each updates the list half of the record
  (`withGene`, `registerArea`) and then enters the links between the new and the old (`addCds_eff`, `addArea_eff`);
  `InvCore.link` carries the invariant over.
-/
import ASV.Proofs.LookupInv
namespace ASV.Lookup
open ASV

/-! ### `add_cds_feature` -/

/-- `add_cds_feature`: the sort key exists, location and name are new; then the gene is inserted, linked and entered
    into the dictionaries -/
theorem addCds_ok_iff {r r' : Rec} {g : Gene} : addCds r g = .ok r' ↔
    keyExists g.loc = true ∧ r.byLoc.contains g.loc = false ∧ (r.byName.any fun x => x.1 == g.id) = false ∧
    r' = { linkCdsToParent { r with genes := ins r.genes g, cdsCacheDirty := true } g with
            byLoc := (linkCdsToParent { r with genes := ins r.genes g, cdsCacheDirty := true } g).byLoc ++ [g.loc],
            byName := (linkCdsToParent { r with genes := ins r.genes g, cdsCacheDirty := true } g).byName ++ [(g.id, g)] } := by
  simp only [Lookup.addCds, ok_inv, Bool.not_eq_true', Bool.not_eq_true, Bool.not_eq_false, eq_comm (b := r'), ins]

/-- the record after the list half of `add_cds_feature`: the gene inserted and entered into the dictionaries -/
def withGene (r : Rec) (g : Gene) : Rec :=
  { r with genes := ins r.genes g, cdsCacheDirty := true, byLoc := r.byLoc ++ [g.loc], byName := r.byName ++ [(g.id, g)] }

/-- a successful `add_cds_feature` updates the list half and enters the links of the new gene to the collections of
    the record -/
theorem addCds_eff {r r' : Rec} {g : Gene} (h : addCds r g = .ok r') : Eff (links [g] (registered r)) (withGene r g) r' := by
  obtain ⟨_, _, _, hr'⟩ := addCds_ok_iff.1 h
  have eff := linkCdsToParent_eff { r with genes := ins r.genes g, cdsCacheDirty := true } g
  generalize linkCdsToParent { r with genes := ins r.genes g, cdsCacheDirty := true } g = r1 at eff hr'
  subst hr'
  exact { eff with byLoc := congrArg (· ++ [g.loc]) eff.byLoc, byName := congrArg (· ++ [(g.id, g)]) eff.byName }

/-- a gene whose location and name are new enters the list half -/
theorem InvLists.withGene {L : Live} {ever : List AreaT} {r : Rec} (l : InvLists L ever r) {g : Gene} (hg : LocOK g.loc)
    (hnew : ∀ f ∈ r.genes, f.loc ≠ g.loc ∧ f.id ≠ g.id) : InvLists (L.step (.cds g)) ever (withGene r g) :=
  { l with
    genesLive := fun x => by
      show x ∈ ins r.genes g ↔ x ∈ L.genes ++ [g]
      rw [mem_ins, l.genesLive, List.mem_append, List.mem_singleton]
    sorted := ins_sorted l.sorted g
    ok := fun x hx => ((mem_ins r.genes g x).1 hx).elim (l.ok x) fun e => e ▸ hg
    ids := by
      show (ins r.genes g).Pairwise _
      rw [ins_eq]
      exact Refine.insertBy_pairwise_gen g r.genes (fun _ _ z hz _ _ => (hnew z hz).2.symm)
        (fun y hy _ => (hnew y hy).2.symm) (fun y hy _ => (hnew y hy).2) l.ids
    byName := fun x => by
      show x ∈ r.byName ++ [(g.id, g)] ↔ ∃ f ∈ ins r.genes g, x = (f.id, f)
      simp only [List.mem_append, List.mem_singleton, l.byName, mem_ins, or_and_right, exists_or, exists_eq_left]
    byLoc := fun x => by
      show x ∈ r.byLoc ++ [g.loc] ↔ ∃ f ∈ ins r.genes g, f.loc = x
      simp only [List.mem_append, List.mem_singleton, l.byLoc, mem_ins, or_and_right, exists_or, exists_eq_left]
      exact or_congr Iff.rfl eq_comm }

/-- `add_cds_feature` preserves the invariant: the instance of `InvCore.link` in which the links entered are those of
    the new gene to the collections of the record -/
theorem Inv.addCds {S : Prop} {L : Live} {ever : List AreaT} {r r' : Rec} (h : Inv S L ever r) (g : Gene) (hg : LocOK g.loc)
    (hstep : addCds r g = .ok r') : Inv S (L.step (.cds g)) ever r' := by
  obtain ⟨_, hloc, hname, _⟩ := addCds_ok_iff.1 hstep
  have eff := addCds_eff hstep
  have c := h.core
  refine ⟨c.link (c.lists.withGene hg ((c.dict_free g).1 ⟨hloc, hname⟩)) eff rfl rfl rfl rfl
    (fun x hx => (mem_ins r.genes g x).2 (Or.inl hx)) (fun a ha => ha) (fun a ha => ha) (fun g' d s => ?_),
    eff.cache ⟨fun hd => (by cases hd), h.cache.slot, h.cache.tuple⟩⟩
  show (g' ∈ ins r.genes g ∧ LinkedS (registered r) g' d s) ↔ _
  rw [mem_ins, List.mem_singleton, or_and_right]

/-! ### `add_protocluster`, `add_candidate_cluster`, `add_subregion`, `add_region` -/

/-- the record right after the collection has been put into its list -/
def registerArea (r : Rec) (a : AreaT) : Rec :=
  { r with regions := if a.kind = .region then r.regions ++ [a] else r.regions,
           protos := if a.kind = .proto ∨ a.kind = .sideProto then r.protos ++ [a] else r.protos,
           cands := if a.kind = .cand then r.cands ++ [a] else r.cands,
           subs := if a.kind = .sub then r.subs ++ [a] else r.subs }

structure RegFrame (r r0 : Rec) (a : AreaT) : Prop where
  len : r0.len = r.len
  genes : r0.genes = r.genes
  byName : r0.byName = r.byName
  byLoc : r0.byLoc = r.byLoc
  cdsCache : r0.cdsCache = r.cdsCache
  cdsCacheDirty : r0.cdsCacheDirty = r.cdsCacheDirty
  members : r0.members = r.members
  sections : r0.sections = r.sections
  defs : r0.defs = r.defs
  regionOf : r0.regionOf = r.regionOf
  clean : r0.clean = r.clean
  slotClean : r0.slotClean = r.slotClean
  slotVal : r0.slotVal = r.slotVal
  tupleVal : r0.tupleVal = r.tupleVal
  log : r0.log = r.log
  regions : r0.regions = (if a.kind = .region then r.regions ++ [a] else r.regions)
  protos : r0.protos = (if a.kind = .proto ∨ a.kind = .sideProto then r.protos ++ [a] else r.protos)
  cands : r0.cands = (if a.kind = .cand then r.cands ++ [a] else r.cands)
  subs : r0.subs = (if a.kind = .sub then r.subs ++ [a] else r.subs)

theorem registerArea_frame (r : Rec) (a : AreaT) : RegFrame r (registerArea r a) a :=
  ⟨rfl, rfl, rfl, rfl, rfl, rfl, rfl, rfl, rfl, rfl, rfl, rfl, rfl, rfl, rfl, rfl, rfl, rfl, rfl⟩

theorem mem_ite_snoc {α} {c : Prop} [Decidable c] {l : List α} {a x : α} :
    x ∈ (if c then l ++ [a] else l) ↔ x ∈ l ∨ (c ∧ x = a) := by
  split <;> simp [*]

/-- a collection is put into exactly one of the four lists, chosen by its class -/
theorem mem_lists_snoc {R P C S : List AreaT} {a x : AreaT} :
    x ∈ (if a.kind = .region then R ++ [a] else R) ++ (if a.kind = .proto ∨ a.kind = .sideProto then P ++ [a] else P)
        ++ (if a.kind = .cand then C ++ [a] else C) ++ (if a.kind = .sub then S ++ [a] else S)
      ↔ x ∈ R ++ P ++ C ++ S ∨ x = a := by
  simp only [List.mem_append, mem_ite_snoc]
  by_cases e : x = a
  · subst e; cases hk : x.kind <;> simp
  · simp only [e, and_false, or_false]

theorem RegFrame.registered {r r0 : Rec} {a : AreaT} (f : RegFrame r r0 a) :
    ∀ x, x ∈ registered r0 ↔ x ∈ registered r ∨ x = a := by
  intro x
  simp only [Lookup.registered, f.regions, f.protos, f.cands, f.subs]
  exact mem_lists_snoc

theorem Live.step_area (L : Live) (a : AreaT) : L.step (.area a) =
    { L with regions := if a.kind = .region then L.regions ++ [a] else L.regions,
             protos := if a.kind = .proto ∨ a.kind = .sideProto then L.protos ++ [a] else L.protos,
             cands := if a.kind = .cand then L.cands ++ [a] else L.cands,
             subs := if a.kind = .sub then L.subs ++ [a] else L.subs } := by
  simp only [Live.step]
  cases a.kind <;> rfl

theorem Live.step_area_areas (L : Live) (a : AreaT) : ∀ x, x ∈ (L.step (.area a)).areas ↔ x ∈ L.areas ∨ x = a := by
  intro x
  rw [Live.step_area]
  exact mem_lists_snoc

/-- `add_<area>`: two bounds assertions, for a region the overlap check, then the genes found are added -/
theorem addArea_ok_iff {r r' : Rec} {a : AreaT} : addArea r a = .ok r' ↔
    (0 ≤ a.loc.start ∧ a.loc.end ≤ r.len) ∧
    (a.kind = .region → ∀ x ∈ r.regions, overlapsWith a.loc x.loc = false) ∧ addFound (registerArea r a) a = .ok r' := by
  simp only [Lookup.addArea, ok_inv, Int.not_lt, gt_iff_lt, and_assoc]
  refine and_congr_right fun _ => and_congr_right fun _ => ?_
  -- by class: the collection goes into its list; only a region is checked against the regions there are
  cases hk : a.kind <;> simp [registerArea, hk, ok_inv]

/-- the containment lookup an `add_<area>` method starts from -/
theorem mem_within_area {r : Rec} (hs : Sorted r.genes) (hok : GenesOK r.genes) {a : AreaT} (ha : QueryOK a.loc) (g : Gene) :
    g ∈ within r.genes a.loc false ↔ g ∈ r.genes ∧ containedBy g.loc a.loc = true := by
  rw [mem_within hs hok a.loc false ha]
  refine and_congr_right fun hg => ?_
  rw [containedBy_eq_spec (LocOK.parts_le (hok g hg))]
  rfl

/-- on a sorted list of well-formed genes the loop over the genes found never raises; it enters the links of the
    record's genes to the new collection (the lookup finds exactly the genes that have one) -/
theorem addFound_eff {r : Rec} (hs : Sorted r.genes) (hok : GenesOK r.genes) (a : AreaT) (ha : QueryOK a.loc) :
    ∃ r', addFound (registerArea r a) a = .ok r' ∧ Eff (links r.genes [a]) (registerArea r a) r' := by
  obtain ⟨r', hrun, eff⟩ := addAll_eff a (within r.genes a.loc false) (registerArea r a)
    (fun g hg => ((mem_within_area hs hok ha g).1 hg).2)
  have hP : ∀ t, t ∈ links (within r.genes a.loc false) [a] ↔ t ∈ links r.genes [a] := fun t => by
    rw [mem_links, mem_links, mem_within_area hs hok ha, and_assoc]
    exact and_congr_right fun _ => and_iff_right_of_imp fun ⟨x, hx, hc, _⟩ => List.mem_singleton.1 hx ▸ hc
  exact ⟨r', hrun, eff.congr hP hP⟩

/-- a successful `add_<area>` puts the collection into its list and enters the links of the record's genes to it -/
theorem addArea_eff {r r' : Rec} (hs : Sorted r.genes) (hok : GenesOK r.genes) {a : AreaT} (ha : QueryOK a.loc)
    (h : addArea r a = .ok r') : Eff (links r.genes [a]) (registerArea r a) r' := by
  obtain ⟨r'', hrun, eff⟩ := addFound_eff hs hok a ha
  obtain rfl : r'' = r' := Except.ok.inj (hrun.symm.trans (addArea_ok_iff.1 h).2.2)
  exact eff

/-- a well-formed collection (a region: one that overlaps no region of the record) enters the list half -/
theorem InvLists.registerArea {L : Live} {ever : List AreaT} {r : Rec} (l : InvLists L ever r) {a : AreaT} (ha : AreaOK a)
    (hdis : a.kind = .region → ∀ x ∈ r.regions, overlapsWith a.loc x.loc = false) :
    InvLists (L.step (.area a)) (ever ++ [a]) (registerArea r a) := by
  have f := registerArea_frame r a
  rw [Live.step_area]
  exact { l with
    regionsEq := by rw [f.regions, l.regionsEq]
    protosEq := by rw [f.protos, l.protosEq]
    candsEq := by rw [f.cands, l.candsEq]
    subsEq := by rw [f.subs, l.subsEq]
    liveEver := fun x hx => by
      rcases (f.registered x).1 hx with hx | rfl
      · exact List.mem_append.2 (Or.inl (l.liveEver x hx))
      · simp
    areasOK := fun x hx => by
      rcases List.mem_append.1 hx with hx | hx
      · exact l.areasOK x hx
      · rw [List.mem_singleton.1 hx]; exact ha
    kindsR := fun x hx => by
      rcases (mem_ite_snoc.1 (f.regions ▸ hx)) with hx | ⟨hk, rfl⟩
      · exact l.kindsR x hx
      · exact hk
    kindsO := fun x hx hkx => by
      rw [f.protos, f.cands, f.subs] at hx
      simp only [List.mem_append, mem_ite_snoc] at hx
      refine l.kindsO x ?_ hkx
      simp only [List.mem_append]
      by_cases e : x = a
      · subst e; simpa [hkx] using hx
      · simpa [e] using hx
    disjoint := by
      rw [f.regions]
      split
      · rename_i hk
        rw [List.pairwise_append]
        refine ⟨l.disjoint, by simp, fun x hx y hy => ?_⟩
        rw [List.mem_singleton.1 hy]
        exact hdis hk x hx
      · exact l.disjoint }

/-- the `add_<area>` methods preserve the invariant: the instance of `InvCore.link` in which the links entered are those
    of the record's genes to the new collection -/
theorem Inv.addArea {S : Prop} {L : Live} {ever : List AreaT} {r r' : Rec} (h : Inv S L ever r) (a : AreaT) (ha : AreaOK a)
    (hstep : addArea r a = .ok r') : Inv S (L.step (.area a)) (ever ++ [a]) r' := by
  have c := h.core
  have eff := addArea_eff c.sorted c.ok ha.1 hstep
  have f := registerArea_frame r a
  refine ⟨c.link (c.lists.registerArea ha (addArea_ok_iff.1 hstep).2.1) eff rfl rfl rfl rfl (fun g hg => hg)
    (fun x hx => f.regions ▸ mem_ite_snoc.2 (Or.inl hx)) (fun x hx => List.mem_append.2 (Or.inl hx)) (fun g d s => ?_),
    eff.cache ⟨h.cache.cds, h.cache.slot, h.cache.tuple⟩⟩
  show (g ∈ r.genes ∧ LinkedS (registered (registerArea r a)) g d s) ↔ _
  rw [LinkedS.congr (l₂ := registered r ++ [a]) (fun x => by rw [f.registered, List.mem_append, List.mem_singleton]),
    LinkedS.append, and_or_left]

end ASV.Lookup
