/-
  C06: no stale parent link for any object whatsoever (held references included),
  after any history.
-/
import ASV.Proofs.RegionsEff
namespace ASV.Regions
open ASV

/-- every parent link held by any object whatsoever — in the record's lists or merely referenced from
    outside after a `clear_*` — names a region of the record that lists the object, or a candidate cluster
    (of the record, or constructed and not stored) that lists it.  Nothing points at a region or candidate
    cluster that is gone. -/
def ParentsLive (s : State) : Prop :=
  ∀ k p, s.parentOf k = some p →
    (∃ r ∈ s.regions, r.id = p ∧ k ∈ r.kids ++ r.subs) ∨ (∃ c ∈ s.cands ++ s.pool, c.id = p ∧ k ∈ c.kids)

theorem parentsLive_iff {s : State} : ParentsLive s ↔ LinksOn (fun _ => True) s :=
  ⟨fun h k _ p hp => h k p hp, fun h k p hp => h k trivial p hp⟩

/-- dropping a list keeps the parent dictionary, which is why the statement is about every key and not about the lists -/
theorem Prim.live {A : Loc → Prop} {s t : State} (hi : Inv s) (hp : ParentsLive s) (h : Prim A s t) : ParentsLive t := by
  obtain ⟨W, v, e⟩ := h.linkEff hi
  exact parentsLive_iff.2 ((parentsLive_iff.1 hp).write e fun _ _ => Or.inl trivial)

theorem Steps.live {A : Loc → Prop} {s u : State} (hi : Inv s) (hp : ParentsLive s) (h : Steps A s u) : ParentsLive u :=
  (h.preserves Prim.live hi hp).2

theorem init_live (len : Int) (circ : Bool) (cds : List Loc) : ParentsLive { len := len, circular := circ, cds := cds } := by
  intro k p hk
  simp [State.parentOf, Dict.get] at hk

end ASV.Regions
