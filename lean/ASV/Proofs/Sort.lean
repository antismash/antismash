/-
  List toolkit of the hit filters: `dedupAdj`, first occurrences, `enumerate`, and the greedy selection loop shared
  by the two overlap filters.
-/
import ASV.Proofs.SortTheory

namespace ASV.Refine
variable {α : Type}

theorem dedupAdj_sublist [DecidableEq α] : ∀ l : List α, (dedupAdj l).Sublist l
  | [] => by simp [dedupAdj]
  | [a] => by simp [dedupAdj]
  | a :: b :: l => by
    simp only [dedupAdj]
    split
    · exact (dedupAdj_sublist (b :: l)).trans (List.sublist_cons_self a _)
    · exact (dedupAdj_sublist (b :: l)).cons_cons a

theorem mem_dedupAdj [DecidableEq α] : ∀ {l : List α} {x : α}, x ∈ dedupAdj l ↔ x ∈ l
  | [], x => by simp [dedupAdj]
  | [a], x => by simp [dedupAdj]
  | a :: b :: l, x => by
    simp only [dedupAdj]
    split
    · rename_i hab
      subst hab
      rw [mem_dedupAdj (l := a :: l)]
      simp only [List.mem_cons, or_self_left]
    · rw [List.mem_cons, mem_dedupAdj (l := b :: l)]
      exact List.mem_cons.symm

theorem dedupAdj_ne_nil [DecidableEq α] {l : List α} (h : l ≠ []) : dedupAdj l ≠ [] := by
  cases l with
  | nil => exact absurd rfl h
  | cons a t =>
    intro h'
    have : a ∈ dedupAdj (a :: t) := mem_dedupAdj.mpr (by simp)
    rw [h'] at this
    simp at this

theorem mem_firstOcc : ∀ {ps : List Int} {p : Int}, p ∈ firstOcc ps ↔ p ∈ ps
  | [], p => by simp [firstOcc]
  | q :: ps, p => by
    simp only [firstOcc, List.mem_cons, List.mem_filter, mem_firstOcc (ps := ps)]
    by_cases h : p = q
    · simp [h]
    · simp [h]

theorem firstOcc_nodup : ∀ ps : List Int, (firstOcc ps).Nodup
  | [] => by simp [firstOcc]
  | p :: ps => by
    simp only [firstOcc]
    rw [List.nodup_cons]
    refine ⟨by simp [List.mem_filter], (firstOcc_nodup ps).sublist List.filter_sublist⟩

theorem forall_mem_snoc {α} {P : α → Prop} {l : List α} {a : α} (hl : ∀ x ∈ l, P x) (ha : P a) :
    ∀ x ∈ l ++ [a], P x := by
  intro x hx
  rcases List.mem_append.mp hx with h | h
  · exact hl x h
  · rw [List.mem_singleton.mp h]
    exact ha

theorem filter_isEmpty_eq {α} (p : α → Bool) : ∀ l : List α, (l.filter p).isEmpty = !l.any p
  | [] => rfl
  | a :: l => by
    simp only [List.filter, List.any]
    cases h : p a
    · simp [filter_isEmpty_eq p l]
    · simp

/-- a sub-list of a duplicate-free list is that list filtered by membership -/
theorem sublist_eq_filter_mem {α} [BEq α] [LawfulBEq α] : ∀ {l' l : List α}, l'.Sublist l → l.Nodup → l' = l.filter (fun x => l'.contains x)
  | _, _, .slnil, _ => rfl
  | l', _, .cons a (l₂ := l) h, hn => by
    have hn' := List.nodup_cons.mp hn
    have ha : l'.contains a = false := by
      rw [← Bool.not_eq_true, List.contains_iff_mem]
      exact fun hm => hn'.1 (h.subset hm)
    rw [List.filter_cons, ha]
    simp only [Bool.false_eq_true, if_false]
    exact sublist_eq_filter_mem h hn'.2
  | _, _, .cons_cons a (l₁ := l') (l₂ := l) h, hn => by
    have hn' := List.nodup_cons.mp hn
    rw [List.filter_cons]
    simp only [List.contains_cons, beq_self_eq_true, Bool.true_or, if_true, List.cons.injEq, true_and]
    rw [sublist_eq_filter_mem h hn'.2]
    apply List.filter_congr
    intro x hx
    have hxa : (x == a) = false := by
      rw [beq_eq_false_iff_ne]
      intro e; subst e; exact hn'.1 hx
    rw [← sublist_eq_filter_mem h hn'.2]
    simp [hxa]

theorem pairwise_mem {α} {R : α → α → Prop} : ∀ {l : List α}, l.Pairwise R → ∀ a ∈ l, ∀ b ∈ l, a = b ∨ R a b ∨ R b a
  | [], _, a, ha, _, _ => by simp at ha
  | x :: t, h, a, ha, b, hb => by
    have hp := List.pairwise_cons.mp h
    rcases List.mem_cons.mp ha with rfl | ha'
    · rcases List.mem_cons.mp hb with rfl | hb'
      · exact Or.inl rfl
      · exact Or.inr (Or.inl (hp.1 b hb'))
    · rcases List.mem_cons.mp hb with rfl | hb'
      · exact Or.inr (Or.inr (hp.1 a ha'))
      · exact pairwise_mem hp.2 a ha' b hb'

/-- a function whose values on `l` are pairwise different is injective on `l` -/
theorem inj_of_nodup_map {α β} (f : α → β) {l : List α} (h : (l.map f).Nodup) :
    ∀ a ∈ l, ∀ b ∈ l, f a = f b → a = b := by
  rw [List.Nodup, List.pairwise_map] at h
  intro a ha b hb e
  rcases pairwise_mem h a ha b hb with h1 | h1 | h1
  · exact h1
  · exact absurd e h1
  · exact absurd e.symm h1

theorem isEmpty_eq_of_same_members {α} {a₁ a₂ : List α} (h : ∀ x, x ∈ a₁ ↔ x ∈ a₂) : a₁.isEmpty = a₂.isEmpty := by
  cases a₁ with
  | nil => cases a₂ with
    | nil => rfl
    | cons b t => exact absurd ((h b).2 List.mem_cons_self) List.not_mem_nil
  | cons a t => cases a₂ with
    | nil => exact absurd ((h a).1 List.mem_cons_self) List.not_mem_nil
    | cons b u => rfl

theorem sublist_of_subset_of_increasing {β} (f : β → Nat) : ∀ {l k : List β},
    l.Pairwise (fun a b => f a < f b) → k.Pairwise (fun a b => f a < f b) → (∀ x ∈ k, x ∈ l) → k.Sublist l
  | [], k, _, _, hk => by
    cases k with
    | nil => exact .slnil
    | cons x _ => exact absurd (hk x List.mem_cons_self) List.not_mem_nil
  | h :: t, [], _, _, _ => List.nil_sublist _
  | h :: t, x :: k', hl, hs, hk => by
    have hlp := List.pairwise_cons.mp hl
    have hsp := List.pairwise_cons.mp hs
    rcases List.mem_cons.mp (hk x List.mem_cons_self) with rfl | hx
    · refine (sublist_of_subset_of_increasing f hlp.2 hsp.2 ?_).cons_cons _
      intro y hy
      rcases List.mem_cons.mp (hk y (List.mem_cons_of_mem _ hy)) with rfl | h1
      · exact absurd (hsp.1 y hy) (Nat.lt_irrefl _)
      · exact h1
    · refine (sublist_of_subset_of_increasing f hlp.2 hs ?_).cons _
      intro y hy
      rcases List.mem_cons.mp (hk y hy) with rfl | h1
      · have h1 : f y < f x := hlp.1 x hx
        rcases List.mem_cons.mp hy with rfl | hy'
        · exact absurd h1 (Nat.lt_irrefl _)
        · exact absurd (Nat.lt_trans h1 (hsp.1 y hy')) (Nat.lt_irrefl _)
      · exact h1

/-- `enumerate(l, n)` -/
def enumG {α} (n : Nat) : List α → List (Nat × α)
  | [] => []
  | h :: t => (n, h) :: enumG (n + 1) t

theorem enumG_eq_zipIdx : ∀ (n : Nat) (l : List α), enumG n l = (l.zipIdx n).map fun p => (p.2, p.1)
  | _, [] => rfl
  | n, h :: t => by simp only [enumG, List.zipIdx_cons, List.map_cons, enumG_eq_zipIdx (n + 1) t]

theorem enumG_map_snd (n : Nat) (l : List α) : (enumG n l).map (·.2) = l := by
  rw [enumG_eq_zipIdx, List.map_map]
  exact List.zipIdx_map_fst n l

theorem mem_enumG_iff {n : Nat} {l : List α} {x : Nat × α} :
    x ∈ enumG n l ↔ n ≤ x.1 ∧ l[x.1 - n]? = some x.2 := by
  rw [enumG_eq_zipIdx, ← List.mk_mem_zipIdx_iff_le_and_getElem?_sub, List.mem_map]
  constructor
  · rintro ⟨p, hp, rfl⟩
    exact hp
  · intro h
    exact ⟨_, h, rfl⟩

theorem enumG_idx_lt : ∀ (n : Nat) (l : List α), (enumG n l).Pairwise (fun a b => a.1 < b.1)
  | _, [] => .nil
  | n, h :: t => by
    refine List.Pairwise.cons ?_ (enumG_idx_lt (n + 1) t)
    intro x hx
    exact (mem_enumG_iff.mp hx).1

section greedy
variable {α : Type} {clash : α → α → Bool}

/-- the selection loop of both overlap filters: go through the candidates in rank order and keep one unless
    it clashes with something kept already -/
def greedy (clash : α → α → Bool) : List α → List α → List α
  | kept, [] => kept
  | kept, x :: rest =>
    if kept.any (fun k => clash k x) then greedy clash kept rest else greedy clash (kept ++ [x]) rest

theorem greedy_eq_append : ∀ (kept l : List α), ∃ s, s.Sublist l ∧ greedy clash kept l = kept ++ s
  | kept, [] => ⟨[], .slnil, (List.append_nil kept).symm⟩
  | kept, x :: rest => by
    simp only [greedy]
    split
    · obtain ⟨s, hs, e⟩ := greedy_eq_append kept rest
      exact ⟨s, hs.cons x, e⟩
    · obtain ⟨s, hs, e⟩ := greedy_eq_append (kept ++ [x]) rest
      exact ⟨x :: s, hs.cons_cons x, by rw [e, List.append_assoc, List.singleton_append]⟩

theorem greedy_sublist (clash : α → α → Bool) (l : List α) : (greedy clash [] l).Sublist l := by
  obtain ⟨s, hs, e⟩ := greedy_eq_append (clash := clash) [] l
  rw [e, List.nil_append]
  exact hs

theorem greedy_mono (kept l : List α) {x : α} (hx : x ∈ kept) : x ∈ greedy clash kept l := by
  obtain ⟨s, _, e⟩ := greedy_eq_append (clash := clash) kept l
  rw [e]
  exact List.mem_append_left s hx

theorem greedy_ne_nil (clash : α → α → Bool) {l : List α} (h : l ≠ []) : greedy clash [] l ≠ [] := by
  cases l with
  | nil => exact absurd rfl h
  | cons x rest =>
    have : x ∈ greedy clash [] (x :: rest) := greedy_mono (clash := clash) [x] rest List.mem_cons_self
    exact List.ne_nil_of_mem this

theorem greedy_pairwise {R : α → α → Prop} (hR : ∀ k x, clash k x = false → R k x) :
    ∀ (kept l : List α), kept.Pairwise R → (greedy clash kept l).Pairwise R
  | kept, [], h => h
  | kept, x :: rest, h => by
    simp only [greedy]
    split
    · exact greedy_pairwise hR kept rest h
    · rename_i hno
      refine greedy_pairwise hR (kept ++ [x]) rest (List.pairwise_append.mpr ⟨h, List.pairwise_singleton R x, ?_⟩)
      intro k hk y hy
      rw [List.mem_singleton.mp hy]
      apply hR
      cases hc : clash k x with
      | false => rfl
      | true => exact absurd (List.any_eq_true.mpr ⟨k, hk, hc⟩) hno

/-- an element of a list sorted by `before` is kept or clashes with a kept one that was there from the
    start or comes before it -/
theorem greedy_justified {before : α → α → Prop} : ∀ (kept l : List α), l.Pairwise before → ∀ d ∈ l,
    d ∈ greedy clash kept l ∨ ∃ k ∈ greedy clash kept l, clash k d = true ∧ (k ∈ kept ∨ before k d)
  | kept, [], _, d, hd => absurd hd List.not_mem_nil
  | kept, x :: rest, hs, d, hd => by
    have hsp := List.pairwise_cons.mp hs
    simp only [greedy]
    split
    · rename_i hcl
      rcases List.mem_cons.mp hd with rfl | hd'
      · obtain ⟨k, hk, hc⟩ := List.any_eq_true.mp hcl
        exact Or.inr ⟨k, greedy_mono kept rest hk, hc, Or.inl hk⟩
      · exact greedy_justified kept rest hsp.2 d hd'
    · rcases List.mem_cons.mp hd with rfl | hd'
      · exact Or.inl (greedy_mono _ rest (List.mem_append_right kept List.mem_cons_self))
      · rcases greedy_justified (kept ++ [x]) rest hsp.2 d hd' with h1 | ⟨k, hk, hc, hr⟩
        · exact Or.inl h1
        · refine Or.inr ⟨k, hk, hc, ?_⟩
          rcases hr with hr | hr
          · rcases List.mem_append.mp hr with h2 | h2
            · exact Or.inl h2
            · rw [List.mem_singleton.mp h2]
              exact Or.inr (hsp.1 d hd')
          · exact Or.inr hr

end greedy

end ASV.Refine
