/-
  C14 helper lemmas about the layout spec: the counting step behind "at most one loader, at most
  one terminating domain" (`layoutFrom_atMostOne`), the clauses of `positionOK`, the reading of the
  layout position by position (`layoutFrom_iff`) and with indices, and `layoutFromX`, the layout
  with further components visible behind the list, which depends on them only while an extra
  carrier protein stands among the last two.
-/
import ASV.Proofs.ModulesStep
namespace ASV.Modules
open T Spec

/-- generic counting step: if the layout lets a `P`-component in only when no `P`-component
    precedes it, there is at most one -/
theorem layoutFrom_atMostOne (P : Comp → Bool)
    (hP : ∀ pre c rest, positionOK pre c rest = true → P c = true → pre.any P = false) :
    ∀ (cs pre : List Comp), layoutFrom pre cs = true → (pre.filter P).length ≤ 1 →
      ((pre ++ cs).filter P).length ≤ 1
  | [], pre, _, h => by simpa using h
  | c :: rest, pre, hl, h => by
    simp only [layoutFrom, Bool.and_eq_true] at hl
    have ih := layoutFrom_atMostOne P hP rest (pre ++ [c]) hl.2
    have : pre ++ c :: rest = (pre ++ [c]) ++ rest := by simp
    rw [this]
    apply ih
    rw [List.filter_append]
    cases hc : P c with
    | false => simp [hc]; exact h
    | true =>
      have := List.filter_eq_nil_iff.mpr (List.any_eq_false.mp (hP pre c rest hl.1 hc))
      simp [hc, this]

/-- the class tables keep `special` apart from the classes the layout speaks of -/
theorem not_special (c : Comp)
    (h : c.isStarter = true ∨ c.isLoader = true ∨ c.isCarrierProtein = true ∨ c.isEnd = true) :
    c.isSpecial = false := by
  rw [isStarter_eq, isLoader_eq, isCarrierProtein_eq, isEnd_eq] at h
  rw [isSpecial_eq]
  exact Kind.forall_of_allKinds
    (P := fun k => k.bits.st = true ∨ k.bits.lo = true ∨ k.bits.cp = true ∨ k.bits.en = true → k.bits.spec = false)
    (by decide) _ h

/-- the clauses of `positionOK` for a component that is not a `special` domain -/
theorem positionOK_clauses {pre : List Comp} {c : Comp} {rest : List Comp}
    (h : positionOK pre c rest = true) (hs : c.isSpecial = false) :
    pre.any Comp.isEnd = false
    ∧ (pureStarter c = true → pre = [])
    ∧ (c.isLoader = true → pre.any Comp.isLoader = false)
    ∧ (c.isCarrierProtein = true → hasCarrier pre = true → dtPair rest = true) := by
  unfold positionOK at h
  rw [hs] at h
  simp only [Bool.false_or, Bool.and_eq_true, Bool.or_eq_true, Bool.not_eq_eq_eq_not, Bool.not_true,
    Bool.and_eq_false_imp, List.isEmpty_iff] at h
  obtain ⟨_, ⟨⟨⟨⟨hend, hst⟩, hlo⟩, _⟩, hcp⟩⟩ := h
  refine ⟨hend, ?_, ?_, ?_⟩
  · intro hp
    rcases hst with h | h
    · rw [hp] at h
      cases h
    · exact h
  · intro hl
    rcases hlo with h | h
    · rw [hl] at h
      cases h
    · exact h.1.1
  · intro hc hh
    rcases hcp with h | h
    · exact absurd hh (by rw [h hc]; decide)
    · exact h

theorem positionOK_loader (pre : List Comp) (c : Comp) (rest : List Comp)
    (h : positionOK pre c rest = true) (hc : c.isLoader = true) : pre.any Comp.isLoader = false :=
  (positionOK_clauses h (not_special c (.inr (.inl hc)))).2.2.1 hc

theorem positionOK_end (pre : List Comp) (c : Comp) (rest : List Comp)
    (h : positionOK pre c rest = true) (hc : c.isEnd = true) : pre.any Comp.isEnd = false :=
  (positionOK_clauses h (not_special c (.inr (.inr (.inr hc))))).1

/-- the layout holds iff every component stands where `positionOK` admits it -/
theorem layoutFrom_iff : ∀ (cs pre : List Comp),
    layoutFrom pre cs = true ↔ ∀ a c b, cs = a ++ c :: b → positionOK (pre ++ a) c b = true
  | [], pre => by simp [layoutFrom]
  | x :: rest, pre => by
    rw [layoutFrom, Bool.and_eq_true, layoutFrom_iff rest (pre ++ [x])]
    constructor
    · rintro ⟨h1, h2⟩ a c b he
      cases a with
      | nil => injection he with e1 e2; subst e1 e2; simpa using h1
      | cons y a' => injection he with e1 e2; subst e1; simpa using h2 a' c b e2
    · intro h
      exact ⟨by simpa using h [] x rest rfl, fun a c b he => by simpa using h (x :: a) c b (by rw [he]; rfl)⟩

/-! ### the layout with more components visible behind the list -/

/-- the layout spec with extra components `ext` visible behind the list -/
def layoutFromX (pre : List Comp) (ext : List Comp) : List Comp → Bool
  | [] => true
  | c :: rest => positionOK pre c (rest ++ ext) && layoutFromX (pre ++ [c]) ext rest

theorem layoutFromX_nil (pre cs : List Comp) : layoutFromX pre [] cs = layoutFrom pre cs := by
  induction cs generalizing pre with
  | nil => rfl
  | cons c cs ih => simp only [layoutFromX, layoutFrom, List.append_nil, ih]

theorem layoutFromX_append (pre ext a b : List Comp) :
    layoutFromX pre ext (a ++ b) = (layoutFromX pre (b ++ ext) a && layoutFromX (pre ++ a) ext b) := by
  induction a generalizing pre with
  | nil => simp [layoutFromX]
  | cons x a ih => simp only [List.cons_append, layoutFromX, ih, List.append_assoc, Bool.and_assoc, List.nil_append]

/-- the look-ahead enters the layout clause only through the double-transporter test of an extra carrier protein -/
theorem positionOK_la {pre : List Comp} {c : Comp} {r r' : List Comp} (h : positionOK pre c r = true)
    (hd : c.isCarrierProtein = true → hasCarrier pre = true → dtPair r = true → dtPair r' = true) :
    positionOK pre c r' = true := by
  unfold positionOK at h ⊢
  rw [Bool.and_eq_true, Bool.or_eq_true, Bool.and_eq_true] at h ⊢
  refine h.imp id (Or.imp id (And.imp id fun hx => ?_))
  cases hk : (c.isCarrierProtein && hasCarrier pre) with
  | false => rfl
  | true =>
    rw [hk] at hx
    rw [Bool.and_eq_true] at hk
    rw [hd hk.1 hk.2 (by simpa using hx)]; rfl

theorem dtPair_append {r : List Comp} (ext : List Comp) (h : 2 ≤ r.length) : dtPair (r ++ ext) = dtPair r := by
  unfold dtPair; rw [List.take_append_of_le_length h]

/-- once no extra carrier protein stands among the last two components, what is visible behind the
    list plays no role -/
theorem layoutFromX_idle {pre cs ext : List Comp} (ext' : List Comp) (h : layoutFromX pre ext cs = true)
    (hf : followsExtraCarrier (pre ++ cs) = false) : layoutFromX pre ext' cs = true := by
  induction cs generalizing pre with
  | nil => rfl
  | cons c rest ih =>
    simp only [layoutFromX, Bool.and_eq_true] at h ⊢
    refine ⟨positionOK_la h.1 fun hcp hh _ => ?_, ih h.2 (by rw [← List.append_cons]; exact hf)⟩
    -- an extra carrier protein that is not among the last two has two components behind it
    have hx : extraCarrierAt (pre ++ [c]) 0 = true := by rw [extraCarrierAt_snoc0, hcp]; exact hh
    have h2 : 2 ≤ rest.length := by
      unfold followsExtraCarrier at hf
      rcases rest with _ | ⟨x, _ | ⟨y, r⟩⟩
      · rw [hx] at hf; cases hf
      · rw [List.append_cons, extraCarrierAt_snoc, hx, Bool.or_true] at hf; cases hf
      · exact Nat.le_add_left 2 _
    rw [dtPair_append _ h2, ← dtPair_append ext h2]; assumption

end ASV.Modules

/-! ### the position-by-position reading (`layoutIdx`, with indices) is the recursive `layout` -/

namespace ASV.Modules.Spec

theorem layoutFrom_eq_idx : ∀ (cs pre : List Comp),
    layoutFrom pre cs = (List.range cs.length).all fun i =>
      match cs[i]? with
      | some c => positionOK (pre ++ cs.take i) c (cs.drop (i + 1))
      | none => true
  | [], pre => by simp [layoutFrom]
  | c :: rest, pre => by
    rw [layoutFrom, layoutFrom_eq_idx rest (pre ++ [c])]
    simp only [List.length_cons, List.range_succ_eq_map, List.all_cons, List.all_map]
    congr 1
    · simp
    · apply List.all_congr rfl
      simp [List.append_assoc]

theorem layout_eq_layoutIdx (cs : List Comp) : layout cs = layoutIdx cs := by
  unfold layout layoutIdx
  rw [layoutFrom_eq_idx]
  simp only [List.nil_append]
  apply List.all_congr rfl
  intro i
  cases cs[i]? <;> rfl

end ASV.Modules.Spec
