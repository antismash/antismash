/-
  C18: from the wait loop to `poolRunWith` / `poolRun` on the tasks cut from the argument list.
  `poolRunWith_spec` gives the outcome for every event list whose completions name existing
  chunks; `StoresAll` names the event lists that get every chunk stored, and for those the outcome
  is the sequential one (`poolRunWith_stored`, `poolRun_stored`).  Complete schedules, interrupted
  ones and the executable spec are read off from these.
-/
import ASV.Proofs.ParallelPool
namespace ASV.Parallel

variable {α ε β : Type}

/-! ### start state -/

theorem MapResult.init_pos (cs n : Nat) (h : 0 < cs) :
    (MapResult.init cs n : MapResult ε β) =
      ⟨cs, (ceilDiv n cs : Nat), false, .ok (List.replicate n none)⟩ := by
  unfold MapResult.init
  rw [if_neg (Nat.not_le.mpr h), ceilDiv_eq n cs h]
  by_cases hr : n % cs = 0 <;> simp [hr]

theorem tasks_flatten (args : List α) (workers : Nat) :
    (getTasks (chunkSize args.length workers) args).flatten = args := by
  cases args with
  | nil => rfl
  | cons a t => exact getTasks_flatten _ (chunkSize_pos _ workers (Nat.succ_pos _)) _

theorem tasks_uniform (args : List α) (workers : Nat) :
    Uniform (chunkSize args.length workers)
      ((getTasks (chunkSize args.length workers) args).map List.length) := by
  cases args with
  | nil => exact Uniform_nil _
  | cons a t => exact getTasks_uniform _ (chunkSize_pos _ workers (Nat.succ_pos _)) _

/-- `MapResult.__init__` establishes the wait loop's invariant: nothing stored, every task batch
    outstanding -/
theorem MapResult.init_stored (run : List α → Except ε (List β)) (args : List α) (workers : Nat) :
    Stored run (getTasks (chunkSize args.length workers) args) (chunkSize args.length workers)
      (MapResult.init (chunkSize args.length workers) args.length) []
      (getTasks (chunkSize args.length workers) args).length := by
  cases args with
  | nil => exact ⟨rfl, rfl, rfl, rfl⟩
  | cons a t =>
    have hn : 0 < (a :: t).length := Nat.succ_pos _
    have hpos := chunkSize_pos (a :: t).length workers hn
    have hne : ceilDiv (a :: t).length (chunkSize (a :: t).length workers) ≠ 0 := by
      rw [ceilDiv_pos _ _ hn hpos]
      exact Nat.succ_ne_zero _
    rw [MapResult.init_pos _ _ hpos, getTasks_length _ hpos]
    refine ⟨rfl, ?_, rfl, (beq_false_of_ne (Int.natCast_ne_zero.mpr hne)).symm⟩
    simp only [stateAfter, List.findSome?_nil, blocksOf_nil, tasks_flatten]

/-- **`poolRunWith` for every event list** whose completions name existing chunks: the first
    interruption, else blocked while chunks are outstanding, else what the first `numChunks`
    completions stored -/
theorem poolRunWith_spec {run : List α → Except ε (List β)} (hrun : LengthPreserving run) {args : List α}
    {workers : Nat} (hw : 0 < workers) (hasTimeout : Bool) {evs : List Event}
    (hvalid : ∀ i ∈ doneIdxs evs, i < numChunks args.length workers) :
    poolRunWith run args workers hasTimeout evs =
      match interruption (ε := ε) hasTimeout (numChunks args.length workers) evs with
      | some err => .raised err
      | none =>
        if (doneIdxs evs).length < numChunks args.length workers then .blocked
        else getOf (stateAfter run (getTasks (chunkSize args.length workers) args)
          ((doneIdxs evs).take (numChunks args.length workers))) := by
  have hst := MapResult.init_stored run args workers
  rw [tasks_length_eq_numChunks args workers hw] at hst
  exact await_spec run _ hrun _ (tasks_uniform args workers) hasTimeout evs
    (numChunks args.length workers) _ [] hst
    (by rw [tasks_length_eq_numChunks args workers hw]; exact hvalid)

theorem poolRunWith_append {run : List α → Except ε (List β)} {args : List α} {workers : Nat}
    {hasTimeout : Bool}
    {evs : List Event} (rest : List Event) {o : Outcome ε β}
    (h : poolRunWith run args workers hasTimeout evs = o)
    (ho : o ≠ .blocked) : poolRunWith run args workers hasTimeout (evs ++ rest) = o := by
  rw [← h] at ho ⊢
  exact await_append run _ hasTimeout rest evs _ ho

/-! ### event lists that get every chunk stored -/

/-- nothing interrupts the wait before the `m`-th completion, and the first `m` completions are
    those of all `m` chunks -/
structure StoresAll (ε : Type) (hasTimeout : Bool) (m : Nat) (evs : List Event) : Prop where
  bound : ∀ i ∈ doneIdxs evs, i < m
  uninterrupted : interruption (ε := ε) hasTimeout m evs = none
  enough : m ≤ (doneIdxs evs).length
  covers : ∀ j, j < m → j ∈ (doneIdxs evs).take m

/-- a run of completions is skipped by `interruption`, which goes on with what is left -/
theorem interruption_dones (hasTimeout : Bool) (rest : List Event) :
    ∀ (pre : List Event) (left : Nat), (∀ ev ∈ pre, ev.isDone = true) →
      interruption (ε := ε) hasTimeout left (pre ++ rest) = interruption hasTimeout (left - pre.length) rest
  | [], left, _ => rfl
  | ev :: pre, 0, _ => by simp only [interruption, Nat.zero_sub]
  | .done i :: pre, left + 1, h => by
    rw [List.cons_append, interruption, List.length_cons, Nat.add_sub_add_right]
    exact interruption_dones hasTimeout rest pre left fun ev hev => h ev (List.mem_cons_of_mem _ hev)
  | .timeout :: _, _ + 1, h => by cases h .timeout List.mem_cons_self
  | .died w :: _, _ + 1, h => by cases h (.died w) List.mem_cons_self
  | .bystander p :: _, _ + 1, h => by cases h (.bystander p) List.mem_cons_self

theorem Complete.storesAll {m : Nat} {sched : List Event} (hasTimeout : Bool) (hc : Complete m sched) :
    StoresAll ε hasTimeout m sched := by
  obtain ⟨hdone, hperm⟩ := hc
  have hlen : (doneIdxs sched).length = m := by rw [hperm.length_eq, List.length_range]
  refine ⟨fun i hi => List.mem_range.mp (hperm.mem_iff.mp hi), ?_, Nat.le_of_eq hlen.symm, ?_⟩
  · have h := interruption_dones (ε := ε) hasTimeout [] sched m hdone
    rw [List.append_nil] at h
    rw [h]
    cases m - sched.length <;> rfl
  · intro j hj
    rw [List.take_of_length_le (Nat.le_of_eq hlen)]
    exact hperm.mem_iff.mpr (List.mem_range.mpr hj)

/-- pigeonhole: `m` distinct numbers below `m` are all of them -/
theorem mem_of_nodup_of_length (m : Nat) (l : List Nat) (hnd : l.Nodup) (hlt : ∀ i ∈ l, i < m)
    (hlen : l.length = m) (j : Nat) (hj : j < m) : j ∈ l := by
  apply Classical.byContradiction
  intro hnot
  have hsub : l ⊆ (List.range m).erase j := by
    intro x hx
    have hxj : x ≠ j := fun h => hnot (h ▸ hx)
    exact (List.mem_erase_of_ne hxj).mpr (List.mem_range.mpr (hlt x hx))
  have h1 := List.Nodup.length_le_of_subset hnd hsub
  rw [List.length_erase_of_mem (List.mem_range.mpr hj), List.length_range, hlen] at h1
  exact Nat.not_le_of_gt (Nat.sub_one_lt (Nat.ne_of_gt (Nat.zero_lt_of_lt hj))) h1

theorem Valid.storesAll {m : Nat} {evs : List Event} (hasTimeout : Bool) (hv : Valid m evs)
    (hint : interruption (ε := ε) hasTimeout m evs = none) (hlen : m ≤ (doneIdxs evs).length) :
    StoresAll ε hasTimeout m evs :=
  ⟨hv.2, hint, hlen,
    mem_of_nodup_of_length m _ (List.Nodup.sublist (List.take_sublist _ _) hv.1)
      (fun i hi => hv.2 i (List.mem_of_mem_take hi)) (by rw [List.length_take, Nat.min_eq_left hlen])⟩

/-- an outcome that is the batch results in batch order, or the exception of a failing batch -/
def BatchResults (run : List α → Except ε (List β)) (tasks : List (List α)) (o : Outcome ε β) : Prop :=
  (∀ rs, comprehension run tasks = .ok rs → o = .returned (rs.flatten.map some)) ∧
  (∀ e₀, comprehension run tasks = .error e₀ →
    ∃ e t, t ∈ tasks ∧ run t = .error e ∧ o = .raised (.task e))

/-- an outcome that is the sequential result, or the exception of one of the failing calls -/
def SequentialResults (f : α → Except ε β) (args : List α) (o : Outcome ε β) : Prop :=
  (∀ l, sequential f args = .ok l → o = .returned (l.map some)) ∧
  (∀ e₀, sequential f args = .error e₀ → ∃ e, o = .raised (.task e) ∧ ∃ a ∈ args, f a = .error e)

theorem BatchResults.ok {run : List α → Except ε (List β)} {tasks : List (List α)} {o : Outcome ε β}
    (h : BatchResults run tasks o) {rs : List (List β)} (hrs : comprehension run tasks = .ok rs) :
    o = .returned (rs.flatten.map some) := h.1 rs hrs

theorem BatchResults.error {run : List α → Except ε (List β)} {tasks : List (List α)} {o : Outcome ε β}
    (h : BatchResults run tasks o) {e₀ : ε} (he : comprehension run tasks = .error e₀) :
    ∃ e t, t ∈ tasks ∧ run t = .error e ∧ o = .raised (.task e) := h.2 e₀ he

theorem SequentialResults.ok {f : α → Except ε β} {args : List α} {o : Outcome ε β}
    (h : SequentialResults f args o) {l : List β} (hl : sequential f args = .ok l) :
    o = .returned (l.map some) := h.1 l hl

theorem SequentialResults.error {f : α → Except ε β} {args : List α} {o : Outcome ε β}
    (h : SequentialResults f args o) {e₀ : ε} (he : sequential f args = .error e₀) :
    ∃ e, o = .raised (.task e) ∧ ∃ a ∈ args, f a = .error e := h.2 e₀ he

/-- batches that are comprehensions of `f` give the sequential result of `f` -/
theorem BatchResults.sequential {f : α → Except ε β} {tasks : List (List α)} {o : Outcome ε β}
    (h : BatchResults (comprehension f) tasks o) : SequentialResults f tasks.flatten o := by
  have hseq := comprehension_flatten f tasks
  rw [comprehension_eq_sequential] at hseq
  cases hrs : comprehension (comprehension f) tasks with
  | ok rs =>
    rw [hrs] at hseq
    constructor
    · intro l hl
      rw [hseq] at hl
      cases hl
      exact h.ok hrs
    · intro e₀ he₀
      rw [hseq] at he₀
      cases he₀
  | error e₁ =>
    rw [hrs] at hseq
    constructor
    · intro l hl
      rw [hseq] at hl
      cases hl
    · intro _ _
      obtain ⟨e, t, htm, hte, ho⟩ := h.error hrs
      obtain ⟨a, ha, hfa⟩ := comprehension_error_mem f t e hte
      exact ⟨e, ho, a, List.mem_flatten.mpr ⟨t, htm, ha⟩, hfa⟩

/-- when the failing calls cannot be told apart by their error, the reading pins the outcome down -/
theorem SequentialResults.eq_of_unambiguous {f : α → Except ε β} {args : List α} {o : Outcome ε β}
    (h : SequentialResults f args o) (e : ε) (hsame : ∀ a ∈ args, ∀ e', f a = .error e' → e' = e) :
    o = sequentialOutcome f args := by
  rw [sequentialOutcome]
  cases hseq : sequential f args with
  | ok l => exact h.ok hseq
  | error e₂ =>
    obtain ⟨e₁, ho, a₁, ha₁, hfa₁⟩ := h.error hseq
    obtain ⟨a₂, ha₂, hfa₂⟩ :=
      comprehension_error_mem f args e₂ (comprehension_eq_sequential f args ▸ hseq)
    rw [ho, hsame a₁ ha₁ e₁ hfa₁, hsame a₂ ha₂ e₂ hfa₂]

/-- **every chunk stored ⇒ the batch results in batch order**, or the exception of a failing
    batch; whatever follows is not looked at -/
theorem poolRunWith_stored {run : List α → Except ε (List β)} (hrun : LengthPreserving run)
    {args : List α} {workers : Nat} (hw : 0 < workers) {hasTimeout : Bool} {evs : List Event}
    (rest : List Event)
    (hs : StoresAll ε hasTimeout (numChunks args.length workers) evs) :
    BatchResults run (getTasks (chunkSize args.length workers) args)
      (poolRunWith run args workers hasTimeout (evs ++ rest)) := by
  obtain ⟨hvalid, hint, hlen, hall⟩ := hs
  have hspec := poolRunWith_spec hrun hw hasTimeout hvalid
  rw [hint] at hspec
  simp only [Nat.not_lt.mpr hlen, if_false] at hspec
  have hm := tasks_length_eq_numChunks args workers hw
  have hall : ∀ j, j < (getTasks (chunkSize args.length workers) args).length →
      j ∈ (doneIdxs evs).take (numChunks args.length workers) := fun j hj => hall j (hm ▸ hj)
  constructor
  · intro rs hrs
    rw [stateAfter_ok run _ _ hall rs hrs, getOf_ok] at hspec
    exact poolRunWith_append rest hspec nofun
  · intro e₀ he₀
    obtain ⟨e, t, htm, hte, hst⟩ := stateAfter_error run _ _ hall e₀ he₀
    rw [hst, getOf_error] at hspec
    exact ⟨e, t, htm, hte, poolRunWith_append rest hspec nofun⟩

/-- **every chunk stored ⇒ the sequential result**, or the exception of one of the failing calls -/
theorem poolRun_stored (f : α → Except ε β) {args : List α} {workers : Nat} (hw : 0 < workers)
    {hasTimeout : Bool} {evs : List Event} (rest : List Event)
    (hs : StoresAll ε hasTimeout (numChunks args.length workers) evs) :
    SequentialResults f args (poolRun f args workers hasTimeout (evs ++ rest)) := by
  have h := (poolRunWith_stored (comprehension_lengthPreserving f) hw rest hs).sequential
  rw [tasks_flatten] at h
  exact h

/-! ### complete schedules, interrupted schedules -/

theorem poolRun_complete (f : α → Except ε β) {args : List α} {workers : Nat} (hw : 0 < workers)
    (hasTimeout : Bool) {sched : List Event} (rest : List Event)
    (hc : Complete (numChunks args.length workers) sched) :
    SequentialResults f args (poolRun f args workers hasTimeout (sched ++ rest)) :=
  poolRun_stored f hw rest (hc.storesAll hasTimeout)

/-- an interruption observed while chunks are outstanding is what the caller gets, whatever
    follows -/
theorem poolRunWith_interrupted {run : List α → Except ε (List β)} (hrun : LengthPreserving run)
    {args : List α} {workers : Nat} (hw : 0 < workers) {hasTimeout : Bool} {evs : List Event}
    (rest : List Event)
    {err : Err ε}
    (hvalid : ∀ i ∈ doneIdxs evs, i < numChunks args.length workers)
    (hint : interruption hasTimeout (numChunks args.length workers) evs = some err) :
    poolRunWith run args workers hasTimeout (evs ++ rest) = .raised err := by
  have hspec := poolRunWith_spec hrun hw hasTimeout hvalid
  rw [hint] at hspec
  exact poolRunWith_append rest hspec nofun

/-- the same when the interrupting event `ev` (a deadline with a timeout requested, a worker death)
    comes after a run of fewer completions than chunks -/
theorem poolRunWith_interrupted_after_dones {run : List α → Except ε (List β)}
    (hrun : LengthPreserving run) {args : List α} {workers : Nat} (hw : 0 < workers)
    (hasTimeout : Bool) {pre : List Event} (post : List Event) (ev : Event) (err : Err ε)
    (hdone : ∀ e ∈ pre, e.isDone = true)
    (hvalid : ∀ i ∈ doneIdxs pre, i < numChunks args.length workers)
    (hfew : pre.length < numChunks args.length workers)
    (hnd : ev.chunk? = none) (hev : ∀ k, interruption hasTimeout (k + 1) [ev] = some err) :
    poolRunWith run args workers hasTimeout (pre ++ ev :: post) = .raised err := by
  obtain ⟨k, hk⟩ := Nat.exists_eq_add_one_of_ne_zero (Nat.ne_of_gt (Nat.sub_pos_of_lt hfew))
  have hidx : doneIdxs (pre ++ [ev]) = doneIdxs pre := by
    unfold doneIdxs
    rw [List.filterMap_append, List.filterMap_cons_none hnd]
    exact List.append_nil _
  have hint : interruption (ε := ε) hasTimeout (numChunks args.length workers) (pre ++ [ev]) = some err := by
    rw [interruption_dones hasTimeout [ev] pre _ hdone, hk]
    exact hev k
  rw [List.append_cons]
  exact poolRunWith_interrupted hrun hw post (by rw [hidx]; exact hvalid) hint

/-! ### every valid event list; the executable spec -/

/-- fewer completions than chunks and no interruption: the caller is still waiting -/
theorem poolRunWith_blocked {run : List α → Except ε (List β)} (hrun : LengthPreserving run)
    {args : List α} {workers : Nat} (hw : 0 < workers) {hasTimeout : Bool} {evs : List Event}
    (hvalid : ∀ i ∈ doneIdxs evs, i < numChunks args.length workers)
    (hint : interruption (ε := ε) hasTimeout (numChunks args.length workers) evs = none)
    (hshort : (doneIdxs evs).length < numChunks args.length workers) :
    poolRunWith run args workers hasTimeout evs = .blocked := by
  rw [poolRunWith_spec hrun hw hasTimeout hvalid, hint]
  exact if_pos hshort

/-- the three things a valid event list can do: interrupt, leave the caller waiting, or get every
    chunk stored -/
theorem poolRun_valid_cases (f : α → Except ε β) {args : List α} {workers : Nat} (hw : 0 < workers)
    (hasTimeout : Bool) {evs : List Event} (hv : Valid (numChunks args.length workers) evs) :
    (∃ err, interruption (ε := ε) hasTimeout (numChunks args.length workers) evs = some err ∧
      poolRun f args workers hasTimeout evs = .raised err) ∨
    (interruption (ε := ε) hasTimeout (numChunks args.length workers) evs = none ∧
      (doneIdxs evs).length < numChunks args.length workers ∧
      poolRun f args workers hasTimeout evs = .blocked) ∨
    (interruption (ε := ε) hasTimeout (numChunks args.length workers) evs = none ∧
      ¬ (doneIdxs evs).length < numChunks args.length workers ∧
      SequentialResults f args (poolRun f args workers hasTimeout evs)) := by
  have hrun := comprehension_lengthPreserving f
  cases hint : interruption (ε := ε) hasTimeout (numChunks args.length workers) evs with
  | some err =>
    have h := poolRunWith_interrupted hrun hw [] hv.2 hint
    rw [List.append_nil] at h
    exact Or.inl ⟨err, rfl, h⟩
  | none =>
    by_cases hshort : (doneIdxs evs).length < numChunks args.length workers
    · exact Or.inr (Or.inl ⟨rfl, hshort, poolRunWith_blocked hrun hw hv.2 hint hshort⟩)
    · have h := poolRun_stored f hw [] (hv.storesAll hasTimeout hint (Nat.not_lt.mp hshort))
      rw [List.append_nil] at h
      exact Or.inr (Or.inr ⟨rfl, hshort, h⟩)

/-- the pool path of the model meets the spec's reading of its outcome, for every valid event
    list (interruptions anywhere, incomplete schedules, anything after completion) -/
theorem poolRun_acceptable [DecidableEq ε] [DecidableEq β] (f : α → Except ε β) {args : List α}
    {workers : Nat} (hw : 0 < workers) (hasTimeout : Bool) {evs : List Event}
    (hv : Valid (numChunks args.length workers) evs) :
    poolAcceptable f args workers hasTimeout evs (poolRun f args workers hasTimeout evs) = true := by
  unfold poolAcceptable
  rcases poolRun_valid_cases f hw hasTimeout hv with ⟨err, hint, h⟩ | ⟨hint, hshort, h⟩ | ⟨hint, hshort, h⟩
  · simp [hint, h]
  · simp [hint, hshort, h]
  · simp only [hint, hshort, if_false]
    cases hseq : sequential f args with
    | ok l => simp [h.ok hseq]
    | error e₀ =>
      obtain ⟨e, he, a, ha, hfa⟩ := h.error hseq
      rw [he]
      simp only [List.any_eq_true]
      exact ⟨a, ha, by simp [hfa]⟩

/-- whatever a valid event list does, a list that comes back is the sequential result -/
theorem poolRun_returned {f : α → Except ε β} {args : List α} {workers : Nat} (hw : 0 < workers)
    {hasTimeout : Bool} {evs : List Event} (hv : Valid (numChunks args.length workers) evs)
    {r : List (Option β)} (hret : poolRun f args workers hasTimeout evs = .returned r) :
    ∃ l, sequential f args = .ok l ∧ r = l.map some := by
  rcases poolRun_valid_cases f hw hasTimeout hv with ⟨err, _, h⟩ | ⟨_, _, h⟩ | ⟨_, _, h⟩
  · rw [hret] at h
    cases h
  · rw [hret] at h
    cases h
  · rw [hret] at h
    cases hseq : sequential f args with
    | ok l =>
      cases h.ok hseq
      exact ⟨l, rfl, rfl⟩
    | error e₀ =>
      obtain ⟨e, he, _⟩ := h.error hseq
      cases he

/-! ### bystander exits -/

theorem poolRunWith_drop_bystanders (run : List α → Except ε (List β)) (args : List α) (workers : Nat)
    (hasTimeout : Bool) (evs : List Event) :
    poolRunWith run args workers hasTimeout (evs.filter fun e => !e.isBystander) =
      poolRunWith run args workers hasTimeout evs :=
  await_drop_bystanders run _ hasTimeout evs _

theorem parallelFunction_drop_bystanders (configCpus : Nat) (f : α → Except ε β) (args : List α)
    (cpus : Nat) (hasTimeout : Bool) (evs : List Event) :
    parallelFunction configCpus f args cpus hasTimeout (evs.filter fun e => !e.isBystander) =
      parallelFunction configCpus f args cpus hasTimeout evs := by
  simp only [parallelFunction, poolRun, poolRunWith_drop_bystanders]

theorem parallelExecute_drop_bystanders {α : Type} (configCpus : Nat) (runner : α → Except ε Int)
    (commands : List α) (cpus : Nat) (hasTimeout : Bool) (evs : List Event) :
    parallelExecute configCpus runner commands cpus hasTimeout (evs.filter fun e => !e.isBystander) =
      parallelExecute configCpus runner commands cpus hasTimeout evs := by
  simp only [parallelExecute, poolRun, poolRunWith_drop_bystanders]

/-! ### which exits are worker deaths -/

theorem classifyExit_of_mem_before (before after : List Nat) (p : Nat) (h : p ∈ before) :
    classifyExit before after p = .bystander p := by
  simp [classifyExit, poolWorkers, h]

theorem classifyExit_of_worker (before after : List Nat) (p : Nat) (ha : p ∈ after) (hb : p ∉ before) :
    classifyExit before after p = .died p := by
  simp [classifyExit, poolWorkers, ha, hb]

/-! ### which path a call takes -/

theorem resolveCpus_cases (configCpus cpus : Nat) :
    resolveCpus configCpus cpus = 1 ∨ resolveCpus configCpus cpus = 0 ∨
      2 ≤ resolveCpus configCpus cpus := by
  omega

theorem pos_of_two_le {k : Nat} (h : 2 ≤ k) : 0 < k := Nat.lt_of_lt_of_le Nat.zero_lt_two h

theorem parallelFunction_zero {configCpus cpus : Nat} {f : α → Except ε β} {args : List α} {hasTimeout : Bool}
    {evs : List Event} (h0 : resolveCpus configCpus cpus = 0) :
    parallelFunction configCpus f args cpus hasTimeout evs = .raised .noProcesses := by
  simp only [parallelFunction, h0, Nat.zero_ne_one, if_false, if_true]

theorem parallelExecute_zero {α : Type} {configCpus cpus : Nat} {runner : α → Except ε Int}
    {commands : List α} {hasTimeout : Bool} {evs : List Event} (h0 : resolveCpus configCpus cpus = 0) :
    parallelExecute configCpus runner commands cpus hasTimeout evs = .raised .noProcesses := by
  simp only [parallelExecute, h0, if_true]

theorem parallelFunction_pool {configCpus cpus : Nat} {f : α → Except ε β} {args : List α} {hasTimeout : Bool}
    {evs : List Event} (hk : 2 ≤ resolveCpus configCpus cpus) :
    parallelFunction configCpus f args cpus hasTimeout evs =
      poolRun f args (resolveCpus configCpus cpus) hasTimeout evs := by
  simp only [parallelFunction, Nat.ne_of_gt hk, Nat.ne_of_gt (pos_of_two_le hk), if_false]

theorem parallelExecute_pool {α : Type} {configCpus cpus : Nat} {runner : α → Except ε Int}
    {commands : List α} {hasTimeout : Bool} {evs : List Event} (hk : 1 ≤ resolveCpus configCpus cpus) :
    parallelExecute configCpus runner commands cpus hasTimeout evs =
      poolRun runner commands (resolveCpus configCpus cpus) hasTimeout evs := by
  simp only [parallelExecute, Nat.ne_of_gt hk, if_false]

theorem parallelFunctionShipped_pool {σ : Type} {configCpus cpus : Nat} {g : σ → α → Except ε (σ × β)}
    {s₀ : σ} {args : List α} {hasTimeout : Bool} {evs : List Event} (hk : 2 ≤ resolveCpus configCpus cpus) :
    parallelFunctionShipped configCpus g s₀ args cpus hasTimeout evs =
      poolRunWith (shippedChunk g s₀) args (resolveCpus configCpus cpus) hasTimeout evs := by
  simp only [parallelFunctionShipped, Nat.ne_of_gt hk, Nat.ne_of_gt (pos_of_two_le hk), if_false]

theorem acceptable_eq [DecidableEq ε] [DecidableEq β] (configCpus cpus : Nat) (f : α → Except ε β)
    (args : List α) (hasTimeout : Bool) (evs : List Event) (o : Outcome ε β) :
    acceptable configCpus f args cpus hasTimeout evs o =
      if resolveCpus configCpus cpus = 1 then o == sequentialOutcome f args
      else if resolveCpus configCpus cpus = 0 then o == .raised .noProcesses
      else poolAcceptable f args (resolveCpus configCpus cpus) hasTimeout evs o := rfl

theorem acceptableExecute_eq {α : Type} [DecidableEq ε] (configCpus cpus : Nat)
    (runner : α → Except ε Int) (commands : List α) (hasTimeout : Bool) (evs : List Event) (o : Outcome ε Int) :
    acceptableExecute configCpus runner commands cpus hasTimeout evs o =
      if resolveCpus configCpus cpus = 0 then o == .raised .noProcesses
      else poolAcceptable runner commands (resolveCpus configCpus cpus) hasTimeout evs o := rfl

/-! ### the helper looks at `f` only on the batch's own arguments -/

theorem parallelFunction_congr (configCpus : Nat) (f f' : α → Except ε β) (args : List α) (cpus : Nat)
    (hasTimeout : Bool) (evs : List Event) (h : ∀ a ∈ args, f a = f' a) :
    parallelFunction configCpus f args cpus hasTimeout evs
      = parallelFunction configCpus f' args cpus hasTimeout evs := by
  unfold parallelFunction poolRun poolRunWith
  rw [comprehension_congr f f' args h]
  have hrun : ∀ t ∈ getTasks (chunkSize args.length (resolveCpus configCpus cpus)) args,
      comprehension f t = comprehension f' t := by
    intro t htm
    exact comprehension_congr f f' t fun a ha => h a (mem_of_mem_getTasksAux _ _ args t a htm ha)
  simp only [await_congr _ _ _ hasTimeout hrun]

end ASV.Parallel
