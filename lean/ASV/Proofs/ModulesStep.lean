/-
  C14 helper lemmas: the class predicates of a component of known kind, the double-transporter
  look-ahead (`dtValid`, `dtLongest`) in terms of the first two labels, and `StateInv m` — every slot
  of the module state is the corresponding *spec* function of its component list — with the flags
  (`is_complete`, `is_trans_at`, …) and `Module.start`/`end` it determines.
-/
import ASV.Proofs.ModulesTables
namespace ASV.Modules
open T Spec

theorem find?_isSome_eq_any {α} (p : α → Bool) (l : List α) : (l.find? p).isSome = l.any p := by
  rw [Bool.eq_iff_iff, List.find?_isSome, List.any_eq_true]

/-- how a "first element with property p" slot evolves when an element is appended -/
def orSnoc {α} (o : Option α) (b : Bool) (a : α) : Option α :=
  match o with
  | some x => some x
  | none => if b then some a else none

@[simp] theorem orSnoc_false {α} (o : Option α) (a : α) : orSnoc o false a = o := by
  cases o <;> rfl
@[simp] theorem orSnoc_none_true {α} (a : α) : orSnoc none true a = some a := rfl
@[simp] theorem orSnoc_some {α} (x : α) (b : Bool) (a : α) : orSnoc (some x) b a = some x := rfl

theorem find?_snoc {α} (p : α → Bool) (l : List α) (a : α) :
    (l ++ [a]).find? p = orSnoc (l.find? p) (p a) a := by
  rw [List.find?_append]
  cases l.find? p <;> cases hp : p a <;> simp [hp, orSnoc]

theorem classBits_of_kind (c : Comp) (k : Kind) (hk : kindOf c = k) :
    c.isIgnored = k.bits.ign ∧ c.isSpecial = k.bits.spec ∧ c.isStarter = k.bits.st ∧
    c.isLoader = k.bits.lo ∧ c.isModification = k.bits.md ∧ c.isCarrierProtein = k.bits.cp ∧
    c.isEnd = k.bits.en := by
  subst hk
  exact ⟨isIgnored_eq c, isSpecial_eq c, isStarter_eq c, isLoader_eq c, isModification_eq c,
         isCarrierProtein_eq c, isEnd_eq c⟩

theorem kind_of_isIgnored (c : Comp) (h : c.isIgnored = true) : kindOf c = .ignored := by
  rw [isIgnored_eq] at h
  exact Kind.forall_of_allKinds (P := fun k => k.bits.ign = true → k = .ignored) (by decide) _ h

theorem kind_of_isModification (c : Comp) (h : c.isModification = true) : kindOf c = .modification := by
  rw [isModification_eq] at h
  exact Kind.forall_of_allKinds (P := fun k => k.bits.md = true → k = .modification) (by decide) _ h

theorem docking_special (c : Comp) (h : (c.label == transAtDocking) = true) : kindOf c = .special := by
  have : c.label = transAtDocking := by simpa using h
  unfold kindOf; rw [this]; exact docking_kind

/-- with all cases of length 2 the look-ahead only matters through its first two labels -/
theorem caseMatches_take2 (up : List String) (case : List String) (h : case ∈ doubleTransporterCases) :
    caseMatches up case = (case == up.take 2) := by
  unfold caseMatches; rw [dt_cases_len case h]

theorem dtValid_eq (up : List String) : dtValid up = doubleTransporterCases.contains (up.take 2) := by
  unfold dtValid
  rw [Bool.eq_iff_iff, List.any_eq_true, List.contains_iff_mem]
  constructor
  · rintro ⟨case, hc, hm⟩
    rw [caseMatches_take2 up case hc] at hm
    rw [← eq_of_beq hm]; exact hc
  · intro h
    refine ⟨up.take 2, h, ?_⟩
    rw [caseMatches_take2 up _ h]; exact beq_self_eq_true _

theorem dtLongest_eq (up : List String) : dtLongest up = if dtValid up then 2 else 0 := by
  unfold dtLongest dtValid
  have gen : ∀ (cases : List (List String)) (acc : Nat), (∀ c ∈ cases, c.length = 2) →
      cases.foldl (fun acc case => if caseMatches up case then case.length else acc) acc
        = if cases.any (caseMatches up) then 2 else acc := by
    intro cases
    induction cases with
    | nil => intro acc _; rfl
    | cons c cs ih =>
      intro acc hl
      have hc : c.length = 2 := hl c (List.mem_cons_self)
      have hcs : ∀ x ∈ cs, x.length = 2 := fun x hx => hl x (List.mem_cons_of_mem _ hx)
      simp only [List.foldl_cons, List.any_cons]
      rw [ih _ hcs, hc]
      by_cases h1 : caseMatches up c = true <;> by_cases h2 : cs.any (caseMatches up) = true <;> simp [h1, h2]
  exact gen _ 0 dt_cases_len

theorem dtValid_take2 (la la' : List Comp)
    (h : (la.take 2).map (·.label) = (la'.take 2).map (·.label)) :
    dtValid (la.map (·.label)) = dtValid (la'.map (·.label)) := by
  rw [dtValid_eq, dtValid_eq, ← List.map_take, ← List.map_take, h]

theorem dtPair_eq (rest : List Comp) : dtPair rest = dtValid (rest.map (·.label)) := by
  rw [dtValid_eq, ← List.map_take]; rfl

/-- a matching look-ahead shows two modification domains -/
theorem dtValid_next (la : List Comp) (h : dtValid (la.map (·.label)) = true) :
    2 ≤ la.length ∧ ∀ x ∈ la.take 2, kindOf x = .modification := by
  rw [dtValid_eq, List.contains_iff_mem, ← List.map_take] at h
  have hl := dt_cases_len _ h
  have hm := dt_cases_mod _ h
  simp only [List.length_map, List.length_take] at hl
  refine ⟨by omega, ?_⟩
  intro x hx
  exact hm x.label (List.mem_map.mpr ⟨x, hx, rfl⟩)

/-- every slot of a module is the spec function of its component list; the last four fields are
    the shape of a pending `_unambiguous_accept` -/
structure StateInv (m : Module) : Prop where
  starter : m.starter = starterOf m.components
  loader : m.loader = loaderOf m.components
  carrier : m.carrier = carrierOf m.components
  end_ : m.end_ = endOf m.components
  mods : m.modifications = m.components.filter Comp.isModification
  docking : m.others.any (fun c => c.label == transAtDocking)
            = m.components.any (fun c => c.label == transAtDocking)
  sil : m.starterIsLoader = (match starterOf m.components with | some s => s.isLoader | none => false)
  noIgn : ∀ c ∈ m.components, c.isIgnored = false
  /-- two acceptances pending: the last component is an extra carrier protein -/
  pend2 : m.unambiguous = 2 → extraCarrierAt m.components 0 = true
  /-- one pending: the last but one is -/
  pend1 : m.unambiguous = 1 → extraCarrierAt m.components 1 = true
  /-- all double-transporter cases are pairs -/
  pendLe : m.unambiguous ≤ 2
  pendEnd : m.unambiguous > 0 → m.end_ = none

theorem StateInv.new (f : Bool) : StateInv (Module.new f) := by
  constructor <;> simp [Module.new, starterOf, loaderOf, carrierOf, endOf]

theorem extraCarrierAt_snoc (cs : List Comp) (c : Comp) :
    extraCarrierAt (cs ++ [c]) 1 = extraCarrierAt cs 0 := by
  simp [extraCarrierAt]

theorem extraCarrierAt_snoc0 (cs : List Comp) (c : Comp) :
    extraCarrierAt (cs ++ [c]) 0 = (c.isCarrierProtein && cs.any Comp.isCarrierProtein) := by
  simp [extraCarrierAt]

namespace StateInv
variable {m : Module} (h : StateInv m)
include h

theorem end_isSome : m.end_.isSome = m.components.any Comp.isEnd := by
  rw [h.end_]; exact find?_isSome_eq_any _ _
theorem carrier_isSome : m.carrier.isSome = hasCarrier m.components := by
  rw [h.carrier]; exact find?_isSome_eq_any _ _
theorem loader_isSome : m.loader.isSome = m.components.any Comp.isLoader := by
  rw [h.loader]; exact find?_isSome_eq_any _ _
theorem starter_isSome : m.starter.isSome = m.components.any Comp.isStarter := by
  rw [h.starter]; exact find?_isSome_eq_any _ _

theorem isPks_eq : m.isPks = isPks m.components := rfl

theorem isNrps_eq : m.isNrps = isNrps m.components := by
  unfold Module.isNrps Spec.isNrps; rw [h.starter, h.loader]; rfl

theorem isTransAt_eq : m.isTransAt = transAt m.components := by
  unfold Module.isTransAt transAt
  rw [h.starter, h.loader, h.docking]
  show _ = (Spec.isPks m.components && _ && _)
  cases starterOf m.components with
  | none => simp
  | some s =>
    show (if (!(m.isPks && (loaderOf m.components).isNone)) = true then false
          else if (s.subtype == some transAtSubtype) = true then true else _)
        = (m.isPks && (loaderOf m.components).isNone && (s.subtype == some transAtSubtype || _))
    cases (s.subtype == some transAtSubtype) <;> cases m.isPks <;> cases (loaderOf m.components).isNone <;> rfl

theorem isComplete_eq : m.isComplete = complete m.components m.firstInCds := by
  unfold Module.isComplete complete
  rw [h.isTransAt_eq, h.carrier_isSome, h.sil, h.starter, h.loader]
  cases hs : starterOf m.components with
  | none =>
    have : transAt m.components = false := by simp [transAt, hs]
    simp [this]
  | some s =>
    cases hl : loaderOf m.components with
    | none =>
      have : s.isLoader = false := by
        cases hsl : s.isLoader with
        | false => rfl
        | true =>
          have hm : s ∈ m.components := List.mem_of_find?_eq_some hs
          have : (loaderOf m.components).isSome = true := by
            unfold loaderOf; rw [find?_isSome_eq_any, List.any_eq_true]; exact ⟨s, hm, hsl⟩
          rw [hl] at this; simp at this
      simp [this]
      cases hasCarrier m.components <;> simp
    | some l =>
      have : transAt m.components = false := by simp [transAt, hl]
      simp [this]
      cases hasCarrier m.components <;> cases s.isLoader <;> cases m.firstInCds <;> simp

theorem isStarterModule_eq : m.isStarterModule = starterModule m.components m.firstInCds := by
  unfold Module.isStarterModule starterModule
  rw [h.starter, h.sil]
  cases hs : starterOf m.components <;> simp

theorem isTerminationModule_eq : m.isTerminationModule = terminationModule m.components := by
  unfold Module.isTerminationModule terminationModule; rw [h.end_]; rfl

theorem isIterative_eq : m.isIterative = iterative m.components := by
  unfold Module.isIterative iterative; rw [h.starter]; rfl

end StateInv

theorem startPos_eq (m : Module) (hne : m.components ≠ []) :
    (m.startPos.toOption = moduleStart m.components) ∧ ∃ s, m.startPos = .ok s := by
  unfold Module.startPos moduleStart
  cases hc : m.components with
  | nil => exact absurd hc hne
  | cons c cs => exact ⟨rfl, c.start, rfl⟩

theorem endPos_eq (m : Module) (hI : StateInv m) (hne : m.components ≠ []) :
    (m.endPos.toOption = moduleEnd m.components) ∧ ∃ e, m.endPos = .ok e := by
  unfold Module.endPos moduleEnd
  rw [hI.end_]
  cases hr : m.components.reverse with
  | nil => exact absurd (List.reverse_eq_nil_iff.mp hr) hne
  | cons last rest =>
    simp only
    cases endOf m.components with
    | none => exact ⟨rfl, _, rfl⟩
    | some e =>
      cases rest with
      | nil => exact ⟨rfl, _, rfl⟩
      | cons second more =>
        simp only
        cases endTrimLabels.contains e.label with
        | true => exact ⟨rfl, _, rfl⟩
        | false => exact ⟨rfl, _, rfl⟩

end ASV.Modules
