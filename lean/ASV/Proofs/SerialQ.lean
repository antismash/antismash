/-
  Helper lemmas about qualifier dictionaries (C10): `Q.get? / set / erase` are `Base.AList.get / put / del`
  (`Q.get?_eq`, `Q.set_eq`, `Q.erase_eq`) and `sortKeys`, `sortStrs` are `Refine.sortBy` (`Q.sortKeys_eq`,
  `sortStrs_eq`), so lookups through `set / erase / update / sortKeys` are instances of those theories; dictionaries
  written by a run of conditional assignments (`Q.assign`), and the canonical-form facts: two dictionaries with
  distinct keys and the same lookups have the same `sortKeys`; two rearrangements of the same strings have the same
  `sortStrs`.
-/
import ASV.Proofs.SerialSort
import ASV.Proofs.Base.AList

/-! for Base/AList -/

namespace ASV.Base.AList
variable {κ : Type u} {β : Type v} [DecidableEq κ]

/-- with distinct keys an entry is determined by its key -/
theorem eq_of_key {l : List (κ × β)} (hn : (keys l).Nodup) {a b : κ × β} (ha : a ∈ l) (hb : b ∈ l) (hk : a.1 = b.1) :
    a = b := by
  have h := (get_eq_some hn).2 ha
  rw [hk, (get_eq_some hn).2 hb] at h
  exact Prod.ext hk (Option.some.inj h).symm

/-- with distinct keys, dictionaries with the same lookups have the same entries -/
theorem perm_of_get_eq {l l' : List (κ × β)} (hn : (keys l).Nodup) (hn' : (keys l').Nodup)
    (h : ∀ k, get l k = get l' k) : l.Perm l' := by
  have nd : ∀ {l : List (κ × β)}, (keys l).Nodup → l.Nodup := fun hl =>
    List.Pairwise.of_map (S := (· ≠ ·)) (fun e : κ × β => e.1) (fun a b hne e => hne (e ▸ rfl)) hl
  refine (List.perm_ext_iff_of_nodup (nd hn) (nd hn')).2 fun e => ?_
  rw [← get_eq_some hn, ← get_eq_some hn', h]

end ASV.Base.AList

namespace ASV.Serial
open ASV ASV.Base

namespace Q

def keys (q : Quals) : List String := q.map (·.1)
/-- a well-formed dictionary: no key twice -/
def Nodup (q : Quals) : Prop := (keys q).Nodup

/-! ### the qualifier dictionary is `Base.AList` at string keys -/

theorem get?_eq : ∀ (q : Quals) (k : String), get? q k = AList.get q k
  | [], _ => rfl
  | (k', v) :: rest, k => by rw [get?, AList.get, get?_eq rest k]

theorem set_eq : ∀ (q : Quals) (k : String) (v : List String), set q k v = AList.put q k v
  | [], _, _ => rfl
  | (k', v') :: rest, k, v => by rw [set, AList.put, set_eq rest k v]

theorem erase_eq (q : Quals) (k : String) : erase q k = AList.del q k :=
  List.filter_congr fun e _ => (decide_not (p := e.1 = k)).symm

theorem get?_set (q : Quals) (k k2 : String) (v : List String) :
    get? (set q k v) k2 = if k2 = k then some v else get? q k2 := by
  rw [set_eq, get?_eq, get?_eq, AList.get_put]

theorem get?_none_iff (q : Quals) (k : String) : get? q k = none ↔ k ∉ keys q :=
  get?_eq q k ▸ AList.get_eq_none

theorem get?_some_iff {q : Quals} (h : Nodup q) (k : String) (v : List String) : get? q k = some v ↔ (k, v) ∈ q :=
  get?_eq q k ▸ AList.get_eq_some h

theorem get?_perm {q q' : Quals} (hp : q.Perm q') (h : Nodup q) (k : String) : get? q k = get? q' k := by
  rw [get?_eq, get?_eq, AList.get_perm hp h]

theorem get?_erase (q : Quals) (k k2 : String) : get? (erase q k) k2 = if k2 = k then none else get? q k2 := by
  rw [erase_eq, get?_eq, get?_eq, AList.get_del]

theorem get?_erase_other (q : Quals) (k k2 : String) (h : k2 ≠ k) : get? (erase q k) k2 = get? q k2 :=
  (get?_erase q k k2).trans (if_neg h)

theorem keys_erase_sub (q : Quals) (k : String) : (keys (erase q k)).Sublist (keys q) :=
  erase_eq q k ▸ AList.keys_del_sublist q k

theorem nodup_erase {q : Quals} (h : Nodup q) (k : String) : Nodup (erase q k) :=
  List.Nodup.sublist (keys_erase_sub q k) h

theorem erase_absent (q : Quals) (k : String) (h : get? q k = none) : erase q k = q :=
  (erase_eq q k).trans (AList.del_of_not_mem ((get?_none_iff q k).1 h))

theorem mem_keys_set (q : Quals) (k k2 : String) (v : List String) : k2 ∈ keys (set q k v) ↔ k2 = k ∨ k2 ∈ keys q :=
  set_eq q k v ▸ AList.mem_keys_put

theorem set_not_mem (q : Quals) (k : String) (v : List String) (h : k ∉ keys q) : set q k v = q ++ [(k, v)] :=
  (set_eq q k v).trans (AList.put_of_not_mem h v)

theorem keys_set_mem (q : Quals) (k : String) (v : List String) (h : k ∈ keys q) : keys (set q k v) = keys q :=
  set_eq q k v ▸ (AList.keys_put q k v).trans (if_pos h)

theorem nodup_set {q : Quals} (h : Nodup q) (k : String) (v : List String) : Nodup (set q k v) :=
  set_eq q k v ▸ AList.nodup_put h k v

theorem nodup_update {q : Quals} (h : Nodup q) (o : Quals) : Nodup (update q o) := by
  unfold update
  induction o generalizing q with
  | nil => exact h
  | cons e rest ih => exact ih (nodup_set h e.1 e.2)

theorem update_disjoint (o : Quals) : ∀ q : Quals, Nodup o → (∀ k ∈ keys o, k ∉ keys q) → update q o = q ++ o := by
  induction o with
  | nil => intro q _ _; simp [update]
  | cons e rest ih =>
    intro q hn hd
    obtain ⟨k, v⟩ := e
    have hk : k ∉ keys q := hd k (by simp [keys])
    have hn' : Nodup rest := (List.nodup_cons.1 hn).2
    have hkr : k ∉ keys rest := (List.nodup_cons.1 hn).1
    have : update q ((k, v) :: rest) = update (set q k v) rest := rfl
    rw [this, set_not_mem q k v hk, ih (q ++ [(k, v)]) hn']
    · simp
    · intro k2 hk2 hm
      simp only [keys, List.map_append, List.mem_append, List.map_cons, List.map_nil, List.mem_singleton] at hm
      rcases hm with hm | hm
      · exact hd k2 (by simp only [keys, List.map_cons, List.mem_cons]; exact Or.inr hk2) hm
      · subst hm; exact hkr hk2

/-- `{}.update(o)` is `o` itself -/
theorem update_nil (o : Quals) (h : Nodup o) : update [] o = o := by
  simpa using update_disjoint o [] h (by simp [keys])

/-! ### `sorted(d.items())` -/

/-- the order of the items of a dictionary with string keys, whatever the values -/
def ltKey {β : Type} (a b : String × β) : Bool := decide (a.1 < b.1)
def ltStr (a b : String) : Bool := decide (a < b)

theorem swo_ltStr : SWO ltStr (fun _ => True) := by
  constructor
  · intro a b _ _ h
    simp only [ltStr, decide_eq_true_eq, decide_eq_false_iff_not] at *
    exact String.lt_asymm h
  · intro a b c _ _ _ h1 h2
    simp only [ltStr, decide_eq_false_iff_not, String.not_lt] at *
    exact String.le_trans h2 h1

theorem swo_ltKey {β : Type} : SWO (ltKey (β := β)) (fun _ => True) :=
  ⟨fun a b _ _ => swo_ltStr.asymm a.1 b.1 trivial trivial,
   fun a b c _ _ _ => swo_ltStr.negTrans a.1 b.1 c.1 trivial trivial trivial⟩

/-- neither string smaller than the other: the same string -/
theorem ltStr_antisymm {a b : String} (hab : ltStr b a = false) (hba : ltStr a b = false) : a = b := by
  simp only [ltStr, decide_eq_false_iff_not, String.not_lt] at hab hba
  exact String.le_antisymm hab hba

theorem sortKeys_eq (q : Quals) : sortKeys q = Refine.sortBy ltKey q.reverse :=
  Refine.foldl_eq_sortBy (ins := insertKey) (fun _ => rfl)
    (fun _ _ _ => by simp only [insertKey, ltKey, decide_eq_true_eq]) q

theorem sortKeys_perm (q : Quals) : (sortKeys q).Perm q :=
  sortKeys_eq q ▸ (Refine.sortBy_perm _ _).trans (List.reverse_perm q)

theorem sortKeys_sorted (q : Quals) : Sorted ltKey (sortKeys q) :=
  sortKeys_eq q ▸ Refine.sortBy_sorted_strict swo_ltKey.asymm swo_ltKey.negTrans _ (fun _ _ => trivial)

theorem nodup_sortKeys {q : Quals} (h : Nodup q) : Nodup (sortKeys q) := by
  unfold Nodup keys at *
  exact ((sortKeys_perm q).map _).nodup_iff.2 h

theorem get?_sortKeys {q : Quals} (h : Nodup q) (k : String) : get? (sortKeys q) k = get? q k :=
  get?_perm (sortKeys_perm q) (nodup_sortKeys h) k

/-! ### canonical forms -/

/-- items sorted by distinct keys have only one order -/
theorem sorted_key_unique {β : Type} {l l' : List (String × β)} (hp : l.Perm l') (hn : (l.map (·.1)).Nodup)
    (hs : Sorted ltKey l) (hs' : Sorted ltKey l') : l = l' :=
  List.Perm.eq_of_pairwise (fun _ _ ha hb hab hba => Base.AList.eq_of_key hn ha (hp.mem_iff.2 hb) (ltStr_antisymm hab hba))
    hs hs' hp

/-- two dictionaries with the same lookups are written identically -/
theorem sortKeys_congr {q q' : Quals} (h : Nodup q) (h' : Nodup q') (he : ∀ k, get? q k = get? q' k) :
    sortKeys q = sortKeys q' :=
  have hp : q.Perm q' := AList.perm_of_get_eq h h' fun k => by rw [← get?_eq, ← get?_eq, he]
  sorted_key_unique ((sortKeys_perm q).trans (hp.trans (sortKeys_perm q').symm)) (nodup_sortKeys h)
    (sortKeys_sorted q) (sortKeys_sorted q')

end Q

/-! ### dictionaries written by conditional assignments

  Every class writes its qualifiers by a run of assignments, most of them conditional (`if value: mine[key] = [value]`).
  Such a run is a list of keys with optional values; when the keys are distinct, a lookup in the result is the first
  matching entry of that list, or else the lookup in the dictionary the run started from. -/

namespace Q

/-- `if o is not None: d[k] = o` -/
def setO (q : Quals) (k : String) : Option (List String) → Quals
  | some v => set q k v
  | none => q

/-- the optional value of `if values: d[k] = values` -/
def _root_.ASV.Serial.listQ (l : List String) : Option (List String) := if l.isEmpty then none else some l

/-- the assignments `w`, in order, on `q` -/
def assign (q : Quals) (w : List (String × Option (List String))) : Quals := w.foldl (fun a e => setO a e.1 e.2) q

/-- the first entry for `k` in a list of assignments -/
def getO : List (String × Option (List String)) → String → Option (List String)
  | [], _ => none
  | (k', o) :: rest, k => if k = k' then o else getO rest k

theorem set_eq_setO (q : Quals) (k : String) (v : List String) : set q k v = setO q k (some v) := rfl

theorem setO_unless (c : Prop) [Decidable c] (q : Quals) (k : String) (o : Option (List String)) :
    (if c then q else setO q k o) = setO q k (if c then none else o) := by
  split <;> rfl

theorem setO_unless_pair (c : Prop) [Decidable c] (q : Quals) (k1 k2 : String) (o1 o2 : Option (List String)) :
    (if c then q else setO (setO q k1 o1) k2 o2) = setO (setO q k1 (if c then none else o1)) k2 (if c then none else o2) := by
  split <;> rfl

theorem get?_setO (q : Quals) (k k2 : String) (o : Option (List String)) :
    get? (setO q k o) k2 = if k2 = k then (match o with | some v => some v | none => get? q k2) else get? q k2 := by
  cases o with
  | none => simp only [setO, ite_self]
  | some v => exact get?_set q k k2 v

theorem nodup_setO {q : Quals} (h : Nodup q) (k : String) (o : Option (List String)) : Nodup (setO q k o) := by
  cases o with
  | none => exact h
  | some v => exact nodup_set h k v

theorem nodup_assign (w : List (String × Option (List String))) : ∀ {q : Quals}, Nodup q → Nodup (assign q w) := by
  induction w with
  | nil => exact fun h => h
  | cons e rest ih => exact fun h => ih (nodup_setO h e.1 e.2)

theorem getO_of_not_mem {w : List (String × Option (List String))} {k : String} (h : k ∉ w.map (·.1)) : getO w k = none := by
  induction w with
  | nil => rfl
  | cons e rest ih =>
    rw [List.map_cons, List.mem_cons, not_or] at h
    exact (if_neg h.1).trans (ih h.2)

theorem get?_assign (w : List (String × Option (List String))) (hn : (w.map (·.1)).Nodup) : ∀ (q : Quals) (k : String),
    get? (assign q w) k = match getO w k with | some v => some v | none => get? q k := by
  induction w with
  | nil => exact fun _ _ => rfl
  | cons e rest ih =>
    intro q k
    obtain ⟨k', o⟩ := e
    rw [List.map_cons, List.nodup_cons] at hn
    show get? (assign (setO q k' o) rest) k = match (if k = k' then o else getO rest k) with | some v => some v | none => get? q k
    rw [ih hn.2, get?_setO]
    by_cases hk : k = k'
    · rw [if_pos hk, if_pos hk, getO_of_not_mem (hk ▸ hn.1)]
    · rw [if_neg hk, if_neg hk]

theorem get?_assign_nil (w : List (String × Option (List String))) (hn : (w.map (·.1)).Nodup) (k : String) :
    get? (assign [] w) k = getO w k := by
  rw [get?_assign w hn]
  cases getO w k <;> rfl

end Q

/-- popping a list of keys -/
theorem get?_eraseAll : ∀ (ks : List String) (q : Quals) (k : String),
    Q.get? (ks.foldl Q.erase q) k = if k ∈ ks then none else Q.get? q k
  | [], _, _ => by simp
  | a :: ks, q, k => by
    rw [List.foldl_cons, get?_eraseAll ks, Q.get?_erase]
    by_cases h1 : k ∈ ks <;> by_cases h2 : k = a <;> simp [h1, h2]

theorem nodup_eraseAll : ∀ (ks : List String) {q : Quals}, Q.Nodup q → Q.Nodup (ks.foldl Q.erase q)
  | [], _, h => h
  | a :: ks, _, h => nodup_eraseAll ks (Q.nodup_erase h a)

/-! ### `sorted(notes)` -/

theorem sortStrs_eq (l : List String) : sortStrs l = Refine.sortBy Q.ltStr l.reverse :=
  Refine.foldl_eq_sortBy (ins := insertStr) (fun _ => rfl)
    (fun _ _ _ => by simp only [insertStr, Q.ltStr, decide_eq_true_eq]) l

theorem sortStrs_perm (l : List String) : (sortStrs l).Perm l :=
  sortStrs_eq l ▸ (Refine.sortBy_perm _ _).trans (List.reverse_perm l)

theorem sortStrs_sorted (l : List String) : Sorted Q.ltStr (sortStrs l) :=
  sortStrs_eq l ▸ Refine.sortBy_sorted_strict Q.swo_ltStr.asymm Q.swo_ltStr.negTrans _ (fun _ _ => trivial)

/-- the sorted notes depend only on which notes there are -/
theorem sortStrs_congr {l l' : List String} (hp : l.Perm l') : sortStrs l = sortStrs l' :=
  List.Perm.eq_of_pairwise (fun _ _ _ _ => Q.ltStr_antisymm) (sortStrs_sorted l) (sortStrs_sorted l')
    ((sortStrs_perm l).trans (hp.trans (sortStrs_perm l').symm))

theorem sortStrs_idem (l : List String) : sortStrs (sortStrs l) = sortStrs l :=
  sortStrs_congr (sortStrs_perm l)

theorem Q.isEmpty_of_get? {q : Quals} {k : String} {v : List String} (h : Q.get? q k = some v) : q.isEmpty = false := by
  cases q with
  | nil => simp [Q.get?] at h
  | cons _ _ => rfl

theorem nodupNil : Q.Nodup ([] : Quals) := by simp [Q.Nodup, Q.keys]

theorem sortStrs_isEmpty (l : List String) : (sortStrs l).isEmpty = l.isEmpty := by
  have hp := (sortStrs_perm l).length_eq
  cases l with
  | nil => rfl
  | cons x xs =>
    cases hs : sortStrs (x :: xs) with
    | nil => rw [hs] at hp; simp at hp
    | cons _ _ => rfl

theorem Q.eq_nil_of_get? : ∀ (l : Quals), (∀ k, Q.get? l k = none) → l = []
  | [], _ => rfl
  | (k, v) :: _, h => by have := h k; simp [Q.get?] at this

theorem Q.first_of_get? {q : Quals} {k d v : String} {rest : List String} (h : Q.get? q k = some (v :: rest)) :
    Q.first q k d = v := by
  simp [Q.first, h]

theorem Q.first_of_none {q : Quals} {k d : String} (h : Q.get? q k = none) : Q.first q k d = d := by
  simp [Q.first, h]

theorem isEmpty_toList (s : String) : s.isEmpty = s.toList.isEmpty := by
  cases h : s.toList.isEmpty
  · cases h2 : s.isEmpty
    · rfl
    · rw [String.isEmpty_iff] at h2
      subst h2
      simp at h
  · rw [List.isEmpty_iff, String.toList_eq_nil_iff] at h
    subst h
    rfl

end ASV.Serial
