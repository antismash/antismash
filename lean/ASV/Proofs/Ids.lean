/-
  C16 building blocks: sets as lists, `generate_unique_id` (freshness, least counter, termination
  of the counter loop), "clean" strings (no illegal character), the length of `_shorten_ids`, the
  few facts about `List.Forall₂` the record level needs, and the `Bool` tests of `ASV/Spec/Ids.lean`
  as propositions.  Facts about the regenerated tables are evaluated by the kernel on the tables
  themselves.
-/
import ASV.Model.Ids
import ASV.Spec.Ids
import Mathlib.Data.List.Nodup

/-! general facts about `Nat.toDigits` and `List.Forall₂` that the library does not have -/

theorem Nat.toDigits_ten_inj {a b : Nat} (h : Nat.toDigits 10 a = Nat.toDigits 10 b) : a = b := by
  have := congrArg (fun l => Nat.ofDigitChars 10 l 0) h
  simpa [Nat.ofDigitChars_ten_toDigits] using this

theorem List.Forall₂.mem_left {α β} {R : α → β → Prop} {l₁ : List α} {l₂ : List β} (h : List.Forall₂ R l₁ l₂) :
    ∀ a ∈ l₁, ∃ b ∈ l₂, R a b := by
  induction h with
  | nil => exact fun _ ha => nomatch ha
  | cons hab _ ih =>
    intro a ha
    rcases List.mem_cons.mp ha with rfl | ha
    · exact ⟨_, List.mem_cons_self, hab⟩
    · obtain ⟨b, hb, hr⟩ := ih a ha
      exact ⟨b, List.mem_cons_of_mem _ hb, hr⟩

theorem List.Forall₂.mem_right {α β} {R : α → β → Prop} {l₁ : List α} {l₂ : List β} (h : List.Forall₂ R l₁ l₂) :
    ∀ b ∈ l₂, ∃ a ∈ l₁, R a b :=
  List.Forall₂.mem_left (List.Forall₂.flip (R := _root_.flip R) h)

theorem List.Forall₂.comp {α β γ} {R : α → β → Prop} {S : β → γ → Prop} {l₁ : List α} {l₂ : List β} {l₃ : List γ}
    (h1 : List.Forall₂ R l₁ l₂) (h2 : List.Forall₂ S l₂ l₃) : List.Forall₂ (fun a c => ∃ b, R a b ∧ S b c) l₁ l₃ := by
  induction h1 generalizing l₃ with
  | nil =>
    cases h2
    exact .nil
  | cons hab _ ih =>
    cases h2 with
    | cons hbc t => exact .cons ⟨_, hab, hbc⟩ (ih t)

namespace ASV.Ids
open ASV.Generated.Ids

theorem contains_iff {x : Str} {s : List Str} : s.contains x = true ↔ x ∈ s := by
  simp

theorem mem_setAdd {x y : Str} {s : List Str} : y ∈ setAdd x s ↔ y = x ∨ y ∈ s := by
  unfold setAdd
  split
  · rename_i h
    exact ⟨Or.inr, fun h' => h'.elim (fun e => e ▸ contains_iff.mp h) id⟩
  · exact List.mem_cons

theorem setAdd_nodup {x : Str} {s : List Str} (h : s.Nodup) : (setAdd x s).Nodup := by
  unfold setAdd
  split
  · exact h
  · rename_i hx
    exact List.nodup_cons.mpr ⟨fun hm => hx (contains_iff.mpr hm), h⟩

theorem setAdd_length_of_not_mem {x : Str} {s : List Str} (h : x ∉ s) : (setAdd x s).length = s.length + 1 := by
  unfold setAdd
  rw [if_neg fun hc => h (contains_iff.mp hc)]
  rfl

theorem mkName_inj {pre : Str} {a b : Nat} (h : mkName pre a = mkName pre b) : a = b :=
  Nat.toDigits_ten_inj (List.cons.inj (List.append_cancel_left h)).2

theorem mkName_ne_nil (pre : Str) (c : Nat) : mkName pre c ≠ [] :=
  List.append_ne_nil_of_right_ne_nil _ (List.cons_ne_nil _ _)

theorem genLoop_some {pre : Str} {taken : List Str} {fuel c : Nat} {n : Str} {k : Nat}
    (h : genLoop pre taken fuel c = some (n, k)) :
    n = mkName pre k ∧ n ∉ taken ∧ c ≤ k ∧ ∀ j, c ≤ j → j < k → mkName pre j ∈ taken := by
  induction fuel generalizing c with
  | zero => exact nomatch h
  | succ fuel ih =>
    unfold genLoop at h
    split at h
    · rename_i hc
      obtain ⟨h1, h2, h3, h4⟩ := ih h
      refine ⟨h1, h2, Nat.le_of_succ_le h3, fun j hj hjk => ?_⟩
      rcases Nat.eq_or_lt_of_le hj with rfl | hlt
      · exact contains_iff.mp hc
      · exact h4 j hlt hjk
    · rename_i hc
      obtain ⟨rfl, rfl⟩ := Prod.mk.inj (Option.some.inj h)
      exact ⟨rfl, fun hm => hc (contains_iff.mpr hm), Nat.le_refl _, fun j hj hjk => absurd hjk (Nat.not_lt.mpr hj)⟩

theorem genLoop_none {pre : Str} {taken : List Str} {fuel c : Nat} (h : genLoop pre taken fuel c = none) :
    ∀ i, i < fuel → mkName pre (c + i) ∈ taken := by
  induction fuel generalizing c with
  | zero => exact fun i hi => absurd hi (Nat.not_lt_zero i)
  | succ fuel ih =>
    unfold genLoop at h
    split at h
    · rename_i hc
      intro i hi
      cases i with
      | zero => exact contains_iff.mp hc
      | succ j =>
        have := ih h j (Nat.lt_of_succ_lt_succ hi)
        rwa [Nat.add_assoc, Nat.add_comm 1 j] at this
    · exact nomatch h

/-- the counter loop stops within `|taken| + 1` steps (pigeonhole on the distinct names) -/
theorem genLoop_total (pre : Str) (taken : List Str) (c : Nat) :
    genLoop pre taken (taken.length + 1) c ≠ none := by
  intro h
  have hall := genLoop_none h
  let names := (List.range (taken.length + 1)).map fun i => mkName pre (c + i)
  have hnd : names.Nodup := by
    refine (List.nodup_map_iff_inj_on List.nodup_range).mpr ?_
    intro a _ b _ hab
    have := mkName_inj hab
    omega
  have hsub : names ⊆ taken := by
    intro x hx
    obtain ⟨i, hi, rfl⟩ := List.mem_map.mp hx
    exact hall i (List.mem_range.mp hi)
  have := hnd.length_le_of_subset hsub
  rw [List.length_map, List.length_range] at this
  omega

/-- every outcome of `generate_unique_id`: the loop always finds the least free counter from
    `start`; its name is returned if it is within a positive limit, and the RuntimeError means
    exactly that it is longer -/
theorem generateUniqueId_outcome {pre : Str} {taken : List Str} {start : Nat} {maxLength : Int}
    {res : Except Err (Str × Nat)} (h : generateUniqueId pre taken start maxLength = res) :
    match res with
    | .ok (n, k) =>
      n = mkName pre k ∧ n ∉ taken ∧ (start ≤ k ∧ ∀ j, start ≤ j → j < k → mkName pre j ∈ taken) ∧
      (0 < maxLength → (n.length : Int) ≤ maxLength)
    | .error e => e = .runtime ∧ 0 < maxLength ∧
        ∃ k, mkName pre k ∉ taken ∧ (start ≤ k ∧ ∀ j, start ≤ j → j < k → mkName pre j ∈ taken) ∧
          maxLength < ((mkName pre k).length : Int) := by
  unfold generateUniqueId at h
  split at h
  · rename_i hg
    exact absurd hg (genLoop_total pre taken start)
  · rename_i name c hg
    obtain ⟨rfl, hfree, hleast⟩ := genLoop_some hg
    split at h
    · rename_i hc
      subst h
      exact ⟨rfl, hc.1, c, hfree, hleast, hc.2⟩
    · rename_i hlen
      subst h
      refine ⟨rfl, hfree, hleast, fun hpos => ?_⟩
      by_contra hgt
      exact hlen ⟨hpos, by omega⟩

theorem generateUniqueId_ok {pre : Str} {taken : List Str} {start : Nat} {maxLength : Int} {n : Str} {k : Nat}
    (h : generateUniqueId pre taken start maxLength = .ok (n, k)) :
    n = mkName pre k ∧ n ∉ taken ∧ (0 < maxLength → (n.length : Int) ≤ maxLength) :=
  have o := generateUniqueId_outcome h
  ⟨o.1, o.2.1, o.2.2.2⟩

theorem generateUniqueId_least {pre : Str} {taken : List Str} {start : Nat} {maxLength : Int} {n : Str} {k : Nat}
    (h : generateUniqueId pre taken start maxLength = .ok (n, k)) :
    start ≤ k ∧ ∀ j, start ≤ j → j < k → mkName pre j ∈ taken :=
  (generateUniqueId_outcome h).2.2.1

theorem generateUniqueId_total {pre : Str} {taken : List Str} {start : Nat} {maxLength : Int} (hm : maxLength ≤ 0) :
    ∃ n k, generateUniqueId pre taken start maxLength = .ok (n, k) := by
  cases h : generateUniqueId pre taken start maxLength with
  | error e => have := (generateUniqueId_outcome h).2.1; omega
  | ok r => exact ⟨r.1, r.2, rfl⟩

/-- no character of the (regenerated) illegal set occurs -/
def Clean (s : Str) : Prop := ∀ c ∈ s, c ∉ illegalRecordChars

/-- table fact: neither `_` nor any digit is an illegal character, so generated names are clean
    (re-checked whenever the table is regenerated) -/
theorem table_safe_chars : ∀ c ∈ illegalRecordChars, c.isDigit = false ∧ c ≠ '_' := by decide +kernel

theorem digit_not_illegal {c : Char} (h : c.isDigit = true) : c ∉ illegalRecordChars :=
  fun hm => Bool.false_ne_true ((table_safe_chars c hm).1.symm.trans h)

theorem underscore_not_illegal : '_' ∉ illegalRecordChars := fun hm => (table_safe_chars _ hm).2 rfl
theorem dot_not_illegal : '.' ∉ illegalRecordChars := by decide +kernel
theorem c_not_illegal : 'c' ∉ illegalRecordChars := by decide +kernel

theorem strip_clean (s : Str) : Clean (strip s) := by
  intro c hc
  unfold strip at hc
  have := (List.mem_filter.mp hc).2
  simpa using this

theorem strip_eq_self {s : Str} : strip s = s ↔ Clean s := by
  unfold strip Clean
  rw [List.filter_eq_self]
  simp

theorem strip_length_le (s : Str) : (strip s).length ≤ s.length := List.length_filter_le _ _

theorem Clean.take {s : Str} (h : Clean s) (n : Nat) : Clean (s.take n) :=
  fun c hc => h c (List.mem_of_mem_take hc)

theorem Clean.takeWhile {s : Str} (h : Clean s) (p : Char → Bool) : Clean (s.takeWhile p) :=
  fun c hc => h c ((List.takeWhile_prefix p).subset hc)

theorem toDigits_clean (n : Nat) : Clean (Nat.toDigits 10 n) :=
  fun _ hc => digit_not_illegal (Nat.isDigit_of_mem_toDigits (by omega) (by omega) hc)

theorem mkName_clean {pre : Str} (h : Clean pre) (k : Nat) : Clean (mkName pre k) := by
  intro c hc
  unfold mkName at hc
  rcases List.mem_append.mp hc with hc | hc
  · exact h c hc
  · rcases List.mem_cons.mp hc with rfl | hc
    · exact underscore_not_illegal
    · exact toDigits_clean k c hc

/-! ### `_shorten_ids` always fits into 16 characters -/

theorem lastN_length_le (k : Nat) (s : Str) : (lastN k s).length ≤ k := by
  unfold lastN
  rw [List.length_drop]
  omega

theorem shortenIds_length (idx : Nat) (s : Str) : (shortenIds idx s).length ≤ 16 := by
  unfold shortenIds
  simp only [List.length_cons, List.length_append, List.length_take, List.length_nil]
  have := lastN_length_le 12 (pad5 (contigNoOf idx s))
  omega

/-- for numbers of at most five digits the repaired `_shorten_ids` is the original
    `f"c{contig_no:05d}_{idstring[:7]}.."` -/
theorem shortenIds_small (idx : Nat) (s : Str) (hd : (Nat.toDigits 10 (contigNoOf idx s)).length ≤ 5) :
    shortenIds idx s = 'c' :: pad5 (contigNoOf idx s) ++ '_' :: s.take 7 ++ ['.', '.'] := by
  unfold shortenIds
  have hl : (pad5 (contigNoOf idx s)).length = 5 := by
    unfold pad5
    simp only [List.length_append, List.length_replicate]
    omega
  have : lastN 12 (pad5 (contigNoOf idx s)) = pad5 (contigNoOf idx s) := by
    unfold lastN
    rw [hl]
    rfl
  simp only [this, hl]

/-- `fileSafe` / `geneSafe` for any table: no character of `s` is in `bad` -/
theorem avoids_iff_all (bad s : List Char) : (∀ c ∈ s, c ∉ bad) ↔ (bad.all fun b => !s.contains b) = true := by
  simp only [List.all_eq_true, Bool.not_eq_true', List.contains_eq_mem, decide_eq_false_iff_not]
  exact ⟨fun h b hb hs => h b hs hb, fun h c hc hb => h c hb hc⟩

theorem clean_iff_fileSafe (s : Str) : Clean s ↔ IdSpec.fileSafe s = true := avoids_iff_all _ s

theorem pairwiseDistinct_iff {α} [BEq α] [LawfulBEq α] : ∀ {l : List α}, IdSpec.pairwiseDistinct l = true ↔ l.Nodup
  | [] => by simp [IdSpec.pairwiseDistinct]
  | x :: xs => by
    simp only [IdSpec.pairwiseDistinct, Bool.and_eq_true, List.nodup_cons, pairwiseDistinct_iff (l := xs),
      List.all_eq_true, Bool.not_eq_true', beq_eq_false_iff_ne, ne_eq]
    exact and_congr_left' ⟨fun h1 hm => h1 x hm rfl, fun h1 y hy heq => h1 (heq ▸ hy)⟩

end ASV.Ids
