/-
  C05: the constructor `mkCand`, the de-duplication table, and the body of `build_candidates` as the
  three ways it succeeds on a group (`BuildStep`).
-/
import ASV.Proofs.MergeSets
import ASV.Proofs.Base.Except
import ASV.Proofs.Base.AList
namespace ASV.CC
open ASV.CC.Spec ASV.Base

/-! for Base/Except -/

theorem _root_.ASV.Base.mapM_ok_pairwise {ε α β : Type} {f : α → Except ε β} {R : α → α → Prop} {S : β → β → Prop}
    {l : List α} {out : List β} (h : l.mapM f = .ok out) (hl : l.Pairwise R)
    (hRS : ∀ a b x y, R a b → f a = .ok x → f b = .ok y → S x y) : out.Pairwise S := by
  induction l generalizing out with
  | nil => cases h; exact List.Pairwise.nil
  | cons a l ih =>
    obtain ⟨b, bs, hb, hbs, rfl⟩ := mapM_cons_eq_ok.1 h
    have hc := List.pairwise_cons.1 hl
    refine List.Pairwise.cons (fun y hy => ?_) (ih hbs hc.2)
    obtain ⟨a', ha', hfa'⟩ := (mapM_ok_mem hbs).1 hy
    exact hRS _ _ _ _ (hc.1 a' ha') hb hfa'

/-! for Base/AList -/

theorem _root_.ASV.Base.AList.mem_of_mem_put {κ : Type} {β : Type} [DecidableEq κ] {l : List (κ × β)} {k : κ} {v : β}
    {e : κ × β} (h : e ∈ AList.put l k v) : e = (k, v) ∨ e ∈ l := by
  induction l with
  | nil => exact Or.inl (List.mem_singleton.1 h)
  | cons e0 l ih =>
    obtain ⟨k0, v0⟩ := e0
    rw [AList.put] at h
    split at h
    · exact (List.mem_cons.1 h).imp_right (List.mem_cons_of_mem _)
    · exact (List.mem_cons.1 h).elim (fun e1 => Or.inr (e1 ▸ List.mem_cons_self))
        fun h1 => (ih h1).imp_right (List.mem_cons_of_mem _)

/-! ### sorting keeps the elements -/

theorem perm_sortProtos (l : List Proto) : (sortProtos l).Perm l :=
  (perm_pySort protoLt _).trans (perm_sortBy tieLt l)
theorem perm_sortCands (l : List Cand) : (sortCands l).Perm l := perm_pySort candLt l
theorem mem_sortProtos {l : List Proto} {p : Proto} : p ∈ sortProtos l ↔ p ∈ l := (perm_sortProtos l).mem_iff
theorem mem_sortCands {l : List Cand} {c : Cand} : c ∈ sortCands l ↔ c ∈ l := (perm_sortCands l).mem_iff
theorem length_sortProtos (l : List Proto) : (sortProtos l).length = l.length := (perm_sortProtos l).length_eq
theorem nodup_sortProtos {l : List Proto} (h : l.Nodup) : (sortProtos l).Nodup :=
  (perm_sortProtos l).nodup_iff.2 h

/-! ### the constructor -/

/-- what a successfully constructed candidate satisfies -/
structure CandOK (wrap : Option Int) (c : Cand) : Prop where
  nonempty : c.members ≠ []
  loc_eq : connect (c.members.map (·.loc)) wrap = .ok c.loc
  contains : ∀ m, m ∈ c.members → locationContainsOther c.loc m.loc = true

theorem mkCand_ok {wrap : Option Int} {k : Kind} {ms : List Proto} {c : Cand} (h : mkCand wrap k ms = .ok c) :
    c.kind = k ∧ c.members = ms ∧ CandOK wrap c := by
  unfold mkCand at h
  obtain ⟨hne, h⟩ := ite_error_eq_ok.1 h
  cases hloc : connect (ms.map (·.loc)) wrap with
  | error e => rw [hloc] at h; cases h
  | ok loc =>
    rw [hloc] at h
    dsimp only at h
    -- the shape guards of the constructor say nothing about the members; the last one is containment
    obtain ⟨_, h⟩ := ite_error_eq_ok.1 h
    obtain ⟨_, h⟩ := ite_error_eq_ok.1 h
    obtain ⟨_, h⟩ := ite_error_eq_ok.1 h
    obtain ⟨_, h⟩ := ite_error_eq_ok.1 h
    obtain ⟨_, h⟩ := ite_error_eq_ok.1 h
    obtain ⟨hcont, h⟩ := ite_error_eq_ok.1 h
    cases h
    refine ⟨rfl, rfl, fun (e : ms = []) => hne (by rw [e]; rfl), hloc, fun m hm => ?_⟩
    exact List.all_eq_true.1 (by simpa using hcont) m hm

/-! ### the table: `existing` is an association list -/

theorem getGo_eq_get (k : Int × Int) (l : List ((Int × Int) × Cand)) : getGo k l = AList.get l k := by
  induction l with
  | nil => rfl
  | cons e es ih => obtain ⟨k', v⟩ := e; simp only [getGo, AList.get, beq_iff_eq, ih]

theorem setGo_eq_put (k : Int × Int) (c : Cand) (l : List ((Int × Int) × Cand)) : setGo k c l = AList.put l k c := by
  induction l with
  | nil => rfl
  | cons e es ih => obtain ⟨k', v⟩ := e; simp only [setGo, AList.put, beq_iff_eq, ih]

def keys (l : List ((Int × Int) × Cand)) : List (Int × Int) := l.map (·.1)

theorem getGo_mem {k : Int × Int} {l : List ((Int × Int) × Cand)} {c : Cand} (h : getGo k l = some c) :
    (k, c) ∈ l := AList.mem_of_get (getGo_eq_get k l ▸ h)

theorem getGo_none {k : Int × Int} {l : List ((Int × Int) × Cand)} (h : getGo k l = none) : k ∉ keys l :=
  AList.get_eq_none.1 (getGo_eq_get k l ▸ h)

theorem entry_unique {l : List ((Int × Int) × Cand)} (hn : (keys l).Nodup) {k : Int × Int} {c d : Cand}
    (hc : (k, c) ∈ l) (hd : (k, d) ∈ l) : c = d :=
  Option.some.inj (((AList.get_eq_some hn).2 hc).symm.trans ((AList.get_eq_some hn).2 hd))

theorem getGo_some_of_mem {l : List ((Int × Int) × Cand)} (hn : (keys l).Nodup) {k : Int × Int} {c : Cand}
    (hc : (k, c) ∈ l) : getGo k l = some c := by
  rw [getGo_eq_get]; exact (AList.get_eq_some hn).2 hc

theorem mem_setGo_new {k : Int × Int} {c : Cand} {l : List ((Int × Int) × Cand)} {e : (Int × Int) × Cand}
    (he : e ∈ setGo k c l) : e = (k, c) ∨ e ∈ l := AList.mem_of_mem_put (setGo_eq_put k c l ▸ he)

theorem keys_setGo (k : Int × Int) (c : Cand) (l : List ((Int × Int) × Cand)) :
    keys (setGo k c l) = if k ∈ keys l then keys l else keys l ++ [k] := by
  rw [setGo_eq_put]
  by_cases h : k ∈ keys l
  · rw [if_pos h]; exact (AList.keys_put l k c).trans (if_pos h)
  · rw [if_neg h]; exact (AList.keys_put l k c).trans (if_neg h)

theorem keys_nodup_setGo {l : List ((Int × Int) × Cand)} (hn : (keys l).Nodup) (k : Int × Int) (c : Cand) :
    (keys (setGo k c l)).Nodup := by
  rw [setGo_eq_put]; exact AList.nodup_put hn k c

theorem mem_keys_setGo (l : List ((Int × Int) × Cand)) (k k' : Int × Int) (c : Cand) :
    k' ∈ keys (setGo k c l) ↔ k' ∈ keys l ∨ k' = k := by
  rw [setGo_eq_put]; exact AList.mem_keys_put.trans Or.comm

theorem mem_values {t : Table} {c : Cand} : c ∈ t.values ↔ ∃ k, (k, c) ∈ t.existing := by
  simp only [Table.values, List.mem_map]
  constructor
  · rintro ⟨e, he, rfl⟩; exact ⟨e.1, he⟩
  · rintro ⟨k, hk⟩; exact ⟨(k, c), hk, rfl⟩

theorem mem_diffL {α : Type} [DecidableEq α] {a b : List α} {x : α} : x ∈ diffL a b ↔ x ∈ a ∧ x ∉ b := by
  simp [diffL, List.mem_filter]

/-! ### `build_candidates` -/

/-- the three ways the body of `build_candidates` succeeds on a group: its coordinates are new; they
    are those of a candidate that already has every member; or that candidate is replaced by one
    with the members of both (and the new members are promoted when the kinds differ) -/
inductive BuildStep (wrap : Option Int) (kind : Kind) (t : Table) (g : List Proto) : Table → Prop
  | fresh {cand : Cand} (hc : mkCand wrap kind (sortProtos g) = .ok cand) (hget : t.get (locKey cand.loc) = none) :
      BuildStep wrap kind t g (t.set (locKey cand.loc) cand)
  | known {cand ex : Cand} (hc : mkCand wrap kind (sortProtos g) = .ok cand)
      (hget : t.get (locKey cand.loc) = some ex) (hno : diffL (dedup g) ex.members = [])
      (hin : ∀ m, m ∈ g → locationContainsOther ex.loc m.loc = true) : BuildStep wrap kind t g t
  | grown {cand ex repl : Cand} (hc : mkCand wrap kind (sortProtos g) = .ok cand)
      (hget : t.get (locKey cand.loc) = some ex) (hex : diffL (dedup g) ex.members ≠ [])
      (hr : mkCand wrap ex.kind (sortProtos (dedup ex.members ++ diffL (dedup g) ex.members)) = .ok repl) :
      BuildStep wrap kind t g
        (if (ex.kind != kind) = true then
          { t.set (locKey cand.loc) repl with
            singles := unionL (t.set (locKey cand.loc) repl).singles (diffL (dedup g) ex.members) }
         else t.set (locKey cand.loc) repl)

theorem buildOne_step {wrap : Option Int} {kind : Kind} {t t' : Table} {g : List Proto}
    (h : buildOne wrap kind t g = .ok t') : (kind = .single ∨ g.length > 1) ∧ BuildStep wrap kind t g t' := by
  unfold buildOne at h
  obtain ⟨hk, h⟩ := ite_error_eq_ok.1 h
  refine ⟨Decidable.or_iff_not_imp_left.2 (by simpa using hk), ?_⟩
  cases hc : mkCand wrap kind (sortProtos g) with
  | error e => rw [hc] at h; cases h
  | ok cand =>
    rw [hc] at h
    dsimp only at h
    cases hget : t.get (locKey cand.loc) with
    | none => rw [hget] at h; cases h; exact .fresh hc hget
    | some ex =>
      rw [hget] at h
      dsimp only at h
      by_cases hex : (diffL (dedup g) ex.members).isEmpty = true
      · rw [if_pos hex] at h
        obtain ⟨hin, h⟩ := ite_error_eq_ok.1 h
        cases h
        exact .known hc hget (by simpa using hex) (List.all_eq_true.1 (by simpa using hin))
      · rw [if_neg hex] at h
        cases hr : mkCand wrap ex.kind (sortProtos (dedup ex.members ++ diffL (dedup g) ex.members)) with
        | error e => rw [hr] at h; cases h
        | ok repl => rw [hr] at h; cases h; exact .grown hc hget (by simpa using hex) hr

theorem buildCandidates_eq_foldlM (wrap : Option Int) (kind : Kind) (gs : List (List Proto)) (t : Table) :
    buildCandidates wrap kind t gs = gs.foldlM (buildOne wrap kind) t := by
  induction gs generalizing t with
  | nil => rfl
  | cons g gs ih =>
    rw [buildCandidates, List.foldlM_cons]
    cases buildOne wrap kind t g with
    | error e => rfl
    | ok t1 => exact ih t1

theorem buildCandidates_cons {wrap : Option Int} {kind : Kind} {t t' : Table} {g : List Proto} {gs : List (List Proto)} :
    buildCandidates wrap kind t (g :: gs) = .ok t' ↔
      ∃ t1, buildOne wrap kind t g = .ok t1 ∧ buildCandidates wrap kind t1 gs = .ok t' := by
  simp only [buildCandidates_eq_foldlM, foldlM_cons_eq_ok]

end ASV.CC
