/-
  The canonical form of a set of bases (`canon`): sorted, separated, non-empty intervals with the
  same bases as the parts it was computed from (spec-level lemmas for C04).
-/
import ASV.Proofs.Loc
import ASV.Proofs.SortTheory
namespace ASV

/-- sorted by start -/
def IvSorted (l : List Iv) : Prop := l.Pairwise (fun x y => x.1 ≤ y.1)
/-- consecutive (hence all) intervals are separated by at least one base -/
def IvSep (l : List Iv) : Prop := l.Pairwise (fun x y => x.2 < y.1)

theorem sortIvs_eq (l : List Iv) : sortIvs l = Refine.sortBy (fun x y => decide (x.1 ≤ y.1)) l :=
  Refine.foldr_eq_sortBy (ins := insertIv) (fun _ => rfl) (fun _ _ _ => by simp only [insertIv, decide_eq_true_eq]) l

theorem sortIvs_perm (l : List Iv) : (sortIvs l).Perm l :=
  sortIvs_eq l ▸ Refine.sortBy_perm _ l

theorem sortIvs_sorted (l : List Iv) : IvSorted (sortIvs l) :=
  sortIvs_eq l ▸ Refine.sortBy_key_pairwise (fun x : Iv => x.1) l

theorem ivsMem_iff (l : List Iv) (i : Int) : ivsMem l i = true ↔ ∃ x ∈ l, x.1 ≤ i ∧ i < x.2 := by
  simp [ivsMem]

theorem mergeSorted_spec (l : List Iv) (hs : IvSorted l) (hne : ∀ x ∈ l, x.1 < x.2) :
    IvSep (mergeSorted l) ∧ (∀ x ∈ mergeSorted l, x.1 < x.2) ∧
      (∀ i, ivsMem (mergeSorted l) i = true ↔ ivsMem l i = true) ∧
      (∀ z ∈ mergeSorted l, ∃ w ∈ l, z.1 = w.1) := by
  fun_induction mergeSorted l with
  | case1 => exact ⟨List.Pairwise.nil, by simp, by simp, by simp⟩
  | case2 x => exact ⟨List.pairwise_singleton _ _, hne, fun _ => Iff.rfl, fun z hz => ⟨z, hz, rfl⟩⟩
  | case3 x y rest hle ih =>
    have hx := List.pairwise_cons.1 hs
    have hy := List.pairwise_cons.1 hx.2
    have hxy : x.1 ≤ y.1 := hx.1 y (by simp)
    have hxne := hne x (by simp)
    have hs' : IvSorted ((x.1, max x.2 y.2) :: rest) := by
      refine List.pairwise_cons.2 ⟨?_, hy.2⟩
      intro z hz
      exact hx.1 z (by simp [hz])
    have hne' : ∀ z ∈ (x.1, max x.2 y.2) :: rest, z.1 < z.2 := by
      intro z hz
      rcases List.mem_cons.1 hz with rfl | hz
      · show x.1 < max x.2 y.2; omega
      · exact hne z (by simp [hz])
    obtain ⟨i1, i2, i3, i4⟩ := ih hs' hne'
    refine ⟨i1, i2, ?_, ?_⟩
    · intro i
      rw [i3 i, ivsMem_iff, ivsMem_iff]
      constructor
      · rintro ⟨z, hz, h1, h2⟩
        rcases List.mem_cons.1 hz with rfl | hz
        · by_cases hc : i < x.2
          · exact ⟨x, by simp, h1, hc⟩
          · exact ⟨y, by simp, by omega, by simp only at h2; omega⟩
        · exact ⟨z, by simp [hz], h1, h2⟩
      · rintro ⟨z, hz, h1, h2⟩
        simp only [List.mem_cons] at hz
        rcases hz with rfl | rfl | hz
        · exact ⟨(z.1, max z.2 y.2), by simp, h1, by show i < max z.2 y.2; omega⟩
        · exact ⟨(x.1, max x.2 z.2), by simp, by show x.1 ≤ i; omega, by show i < max x.2 z.2; omega⟩
        · exact ⟨z, by simp [hz], h1, h2⟩
    · intro z hz
      obtain ⟨w, hw, e⟩ := i4 z hz
      rcases List.mem_cons.1 hw with rfl | hw
      · exact ⟨x, by simp, e⟩
      · exact ⟨w, by simp [hw], e⟩
  | case4 x y rest hnle ih =>
    have hx := List.pairwise_cons.1 hs
    obtain ⟨i1, i2, i3, i4⟩ := ih hx.2 (fun z hz => hne z (List.mem_cons_of_mem _ hz))
    have hy := List.pairwise_cons.1 hx.2
    refine ⟨?_, ?_, ?_, ?_⟩
    · refine List.pairwise_cons.2 ⟨?_, i1⟩
      intro z hz
      obtain ⟨w, hw, e⟩ := i4 z hz
      have : y.1 ≤ w.1 := by
        rcases List.mem_cons.1 hw with rfl | hw
        · exact Int.le_refl _
        · exact hy.1 w hw
      omega
    · intro z hz
      rcases List.mem_cons.1 hz with rfl | hz
      · exact hne z (by simp)
      · exact i2 z hz
    · intro i
      rw [ivsMem_iff, ivsMem_iff]
      constructor
      · rintro ⟨z, hz, h1, h2⟩
        rcases List.mem_cons.1 hz with rfl | hz
        · exact ⟨z, by simp, h1, h2⟩
        · obtain ⟨w, hw, h3⟩ := (ivsMem_iff _ _).1 ((i3 i).1 ((ivsMem_iff _ _).2 ⟨z, hz, h1, h2⟩))
          exact ⟨w, List.mem_cons_of_mem _ hw, h3⟩
      · rintro ⟨z, hz, h1, h2⟩
        rcases List.mem_cons.1 hz with rfl | hz
        · exact ⟨z, by simp, h1, h2⟩
        · obtain ⟨w, hw, h3⟩ := (ivsMem_iff _ _).1 ((i3 i).2 ((ivsMem_iff _ _).2 ⟨z, hz, h1, h2⟩))
          exact ⟨w, List.mem_cons_of_mem _ hw, h3⟩
    · intro z hz
      rcases List.mem_cons.1 hz with rfl | hz
      · exact ⟨z, by simp, rfl⟩
      · obtain ⟨w, hw, e⟩ := i4 z hz
        exact ⟨w, List.mem_cons_of_mem _ hw, e⟩

/-- the canonical form: separated, non-empty intervals holding exactly the bases of the parts -/
theorem canon_spec (ps : List Part) :
    IvSep (canon ps) ∧ (∀ x ∈ canon ps, x.1 < x.2) ∧
      (∀ i, ivsMem (canon ps) i = true ↔ ∃ p ∈ ps, p.mem i = true) := by
  have hs := sortIvs_sorted ((ps.map fun p => (p.lo, p.hi)).filter fun x => x.1 < x.2)
  have hp := sortIvs_perm ((ps.map fun p => (p.lo, p.hi)).filter fun x => x.1 < x.2)
  have hne : ∀ x ∈ sortIvs ((ps.map fun p => (p.lo, p.hi)).filter fun x => x.1 < x.2), x.1 < x.2 := by
    intro x hx
    have := hp.mem_iff.1 hx
    simp only [List.mem_filter, decide_eq_true_eq] at this
    exact this.2
  obtain ⟨i1, i2, i3, _⟩ := mergeSorted_spec _ hs hne
  refine ⟨i1, i2, ?_⟩
  intro i
  show ivsMem (mergeSorted _) i = true ↔ _
  rw [i3 i, ivsMem_iff]
  constructor
  · rintro ⟨x, hx, h1, h2⟩
    have := hp.mem_iff.1 hx
    simp only [List.mem_filter, List.mem_map, decide_eq_true_eq] at this
    obtain ⟨⟨p, hp', rfl⟩, _⟩ := this
    exact ⟨p, hp', by rw [Part.mem_iff]; exact ⟨h1, h2⟩⟩
  · rintro ⟨p, hp', hm⟩
    rw [Part.mem_iff] at hm
    refine ⟨(p.lo, p.hi), hp.mem_iff.2 ?_, hm.1, hm.2⟩
    simp only [List.mem_filter, List.mem_map, decide_eq_true_eq]
    exact ⟨⟨p, hp', rfl⟩, by show p.lo < p.hi; omega⟩

end ASV
