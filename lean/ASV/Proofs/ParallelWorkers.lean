/-
  C18: what `pre_process_sequences` does with records around the two trips through the pool —
  the worker functions `sanitise_sequence` / `ensure_cds_info`, the parent-side filters, and how a
  `Record` is rebuilt from its pickled slot state (tables regenerated from `secmet/record.py`).
-/
import ASV.Model.ParallelFilters
import ASV.Model.ParallelPickle
namespace ASV.Parallel

/-! ### the worker functions -/

def isRealBase (c : Char) : Bool := ['A', 'C', 'G', 'T'].contains c

theorem sanitiseChars_cons (c : Char) (rest : List Char) :
    sanitiseChars (c :: rest) =
      if c.toUpper = '-' then sanitiseChars rest
      else if isRealBase c.toUpper then (c.toUpper :: (sanitiseChars rest).1, true)
      else ('N' :: (sanitiseChars rest).1, (sanitiseChars rest).2) := by
  simp only [sanitiseChars, isRealBase]
  split <;> rfl

theorem isRealBase_alphabet (c : Char) (h : isRealBase c = true) : c ∈ ['A', 'C', 'G', 'T', 'N'] := by
  have : c ∈ ['A', 'C', 'G', 'T'] := by simpa [isRealBase] using h
  exact List.mem_append_left ['N'] this

theorem sanitiseChars_alphabet : ∀ (s : List Char) (c : Char), c ∈ (sanitiseChars s).1 →
    c ∈ ['A', 'C', 'G', 'T', 'N']
  | [], c, h => by cases h
  | x :: rest, c, h => by
    rw [sanitiseChars_cons] at h
    by_cases hd : x.toUpper = '-'
    · rw [if_pos hd] at h
      exact sanitiseChars_alphabet rest c h
    · rw [if_neg hd] at h
      by_cases hb : isRealBase x.toUpper = true
      · rw [if_pos hb] at h
        rcases List.mem_cons.mp h with rfl | h
        · exact isRealBase_alphabet _ hb
        · exact sanitiseChars_alphabet rest c h
      · rw [if_neg hb] at h
        rcases List.mem_cons.mp h with rfl | h
        · decide
        · exact sanitiseChars_alphabet rest c h

theorem sanitiseChars_length_le : ∀ (s : List Char), (sanitiseChars s).1.length ≤ s.length
  | [] => Nat.le_refl 0
  | x :: rest => by
    have ih := sanitiseChars_length_le rest
    rw [sanitiseChars_cons]
    by_cases hd : x.toUpper = '-'
    · rw [if_pos hd]
      exact Nat.le_succ_of_le ih
    · rw [if_neg hd]
      by_cases hb : isRealBase x.toUpper = true
      · rw [if_pos hb]
        exact Nat.succ_le_succ ih
      · rw [if_neg hb]
        exact Nat.succ_le_succ ih

theorem sanitiseChars_real (s : List Char) : (sanitiseChars s).2 = (sanitiseChars s).1.any isRealBase := by
  induction s with
  | nil => rfl
  | cons x rest ih =>
    rw [sanitiseChars_cons]
    by_cases hd : x.toUpper = '-'
    · rw [if_pos hd]
      exact ih
    · rw [if_neg hd]
      by_cases hb : isRealBase x.toUpper = true
      · rw [if_pos hb, List.any_cons, hb]
        rfl
      · rw [if_neg hb, List.any_cons, show isRealBase 'N' = false by decide, Bool.false_or]
        exact ih

/-- the output alphabet is left alone: upper case already, no gap, a base or `N` -/
theorem alphabet_fixed : ∀ x ∈ ['A', 'C', 'G', 'T', 'N'],
    x.toUpper = x ∧ x ≠ '-' ∧ (isRealBase x = true ∨ x = 'N') := by decide

theorem sanitiseChars_fixed : ∀ (s : List Char), (∀ c ∈ s, c ∈ ['A', 'C', 'G', 'T', 'N']) →
    (sanitiseChars s).1 = s
  | [], _ => rfl
  | x :: rest, h => by
    have ih := sanitiseChars_fixed rest fun c hc => h c (List.mem_cons_of_mem x hc)
    obtain ⟨hup, hgap, hbase⟩ := alphabet_fixed x (h x List.mem_cons_self)
    rw [sanitiseChars_cons, hup, if_neg hgap]
    rcases hbase with hb | rfl
    · rw [if_pos hb, ih]
    · rw [if_neg (by decide), ih]

theorem sanitiseSequence_idempotent (r : SeqRec) :
    sanitiseSequence (sanitiseSequence r) = sanitiseSequence r := by
  have hfix := sanitiseChars_fixed (sanitiseChars r.seq).1 (sanitiseChars_alphabet r.seq)
  have hreal₁ := sanitiseChars_real r.seq
  have hreal₂ := sanitiseChars_real (sanitiseChars r.seq).1
  rw [hfix] at hreal₂
  unfold sanitiseSequence
  simp only [hfix]
  rw [hreal₂, ← hreal₁]
  cases (sanitiseChars r.seq).2 <;> simp

theorem ensureCdsInfo_skipped (gff3 toolNone : Bool) (gf : GeneFinder) (r : CdsRec)
    (h : truthy r.skip = true) : ensureCdsInfo gff3 toolNone gf r = .ok r := by
  simp [ensureCdsInfo, h]

/-- "records without CDS features will have their skip flag marked" -/
theorem ensureCdsInfo_post (gff3 toolNone : Bool) (gf : GeneFinder) (r r' : CdsRec)
    (h : ensureCdsInfo gff3 toolNone gf r = .ok r') : truthy r'.skip = true ∨ 0 < r'.cds := by
  unfold ensureCdsInfo at h
  by_cases hs : truthy r.skip = true
  · rw [if_pos hs] at h
    cases h
    exact Or.inl hs
  · rw [if_neg hs] at h
    by_cases hc : r.cds = 0
    · rw [if_pos hc] at h
      cases hf : runGeneFinder gff3 toolNone gf with
      | error e => rw [hf] at h; cases h
      | ok n =>
        rw [hf] at h
        by_cases hn : n = 0
        · simp only [hn, if_true] at h
          cases h
          exact Or.inl (by decide)
        · simp only [hn, if_false] at h
          cases h
          exact Or.inr (Nat.pos_of_ne_zero hn)
    · rw [if_neg hc] at h
      cases h
      exact Or.inr (Nat.pos_of_ne_zero hc)

/-! ### the parent-side filters -/

/-- a pass that only writes skip flags leaves ids, lengths and order alone -/
theorem map_ids_of_marking (m : FRec → FRec) (hm : ∀ r, ((m r).id, (m r).len) = (r.id, r.len))
    (rs : List FRec) :
    (rs.map m).map (fun r => (r.id, r.len)) = rs.map (fun r => (r.id, r.len)) := by
  rw [List.map_map]
  exact List.map_congr_left fun r _ => hm r

theorem filterByName_ids (target : String) (rs out : List FRec) (h : filterByName target rs = .ok out) :
    out.map (fun r => (r.id, r.len)) = rs.map (fun r => (r.id, r.len)) := by
  unfold filterByName at h
  by_cases he : target.isEmpty = true
  · rw [if_pos he] at h
    cases h
    rfl
  · rw [if_neg he] at h
    by_cases hm : (rs.any fun r => r.id == target) = true
    · rw [if_pos hm] at h
      cases h
      exact map_ids_of_marking _ (fun r => by split <;> rfl) rs
    · rw [if_neg hm] at h
      cases h

theorem filterByMinLength_ids (minlength : Nat) (rs : List FRec) :
    (filterByMinLength minlength rs).map (fun r => (r.id, r.len)) = rs.map (fun r => (r.id, r.len)) :=
  map_ids_of_marking _ (fun r => by split <;> rfl) rs

theorem filterByCount_ids (maximum : Int) (rs : List FRec) :
    (filterByCount maximum rs).1.map (fun r => (r.id, r.len)) = rs.map (fun r => (r.id, r.len)) := by
  unfold filterByCount
  split
  · rfl
  · simp only [List.map_map]
    have : rs.map (fun r => (r.id, r.len)) = rs.zipIdx.map (fun p => (p.1.id, p.1.len)) := by
      conv => lhs; rw [← List.zipIdx_map_fst (l := rs) (i := 0)]
      rw [List.map_map]; rfl
    rw [this]
    apply List.map_congr_left
    intro p _
    simp only [Function.comp]
    split <;> rfl

theorem filterByName_only_target (target : String) (rs out : List FRec) (hne : target.isEmpty = false)
    (h : filterByName target rs = .ok out) : ∀ r ∈ out, r.id = target ∨ truthy r.skip = true := by
  unfold filterByName at h
  rw [hne, if_neg Bool.false_ne_true] at h
  by_cases hm : (rs.any fun r => r.id == target) = true
  · rw [if_pos hm] at h
    cases h
    intro r hr
    obtain ⟨r₀, _, rfl⟩ := List.mem_map.mp hr
    by_cases hid : r₀.id = target
    · left; simp [hid]
    · right
      have : (r₀.id != target) = true := by simp [hid]
      simp only [this, if_true, truthy]
      have : ("did not match filter: " ++ target).isEmpty = false := by
        simp [String.append_eq_empty_iff]
      simp [this]
  · rw [if_neg hm] at h
    cases h

/-! ### record pickling -/

theorem rebuildSlots_id {V : Type} (st : SlotState V) (h : ∀ kv ∈ st, storedInSlot kv.1 = true) :
    rebuildSlots st = st := by
  unfold rebuildSlots
  exact List.filter_eq_self.mpr h

end ASV.Parallel
