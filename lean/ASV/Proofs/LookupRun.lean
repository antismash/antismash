/-
  Every call preserves the invariant; whole histories (`run_inv`, `runLoose_inv`); strict histories are loose ones;
  the last call of a history.
-/
import ASV.Proofs.LookupInvOps
namespace ASV.Lookup
open ASV

/-- what a call's arguments must satisfy: a well-formed gene location; a well-formed collection; the
    regions a clearing call re-creates are well-formed region objects -/
def OpOK : Op → Prop
  | .cds g => LocOK g.loc
  | .area a => AreaOK a
  | .clearSubs new => ∀ a ∈ new, AreaOK a ∧ a.kind = .region
  | .clearCands new => ∀ a ∈ new, AreaOK a ∧ a.kind = .region
  | .clearProtos new => ∀ a ∈ new, AreaOK a ∧ a.kind = .region
  | _ => True

theorem Inv.peek {S : Prop} {L : Live} {ever : List AreaT} {r r' : Rec} (h : Inv S L ever r) (e : CoreEq r r') (c : InvCache r') :
    Inv S L ever r' :=
  ⟨h.core.congr e, c⟩

/-- the calls that only read (and fill caches) -/
def Op.observes : Op → Bool
  | .peekCds | .peekArea _ | .byName _ | .withinRegions | .hasCds _ _ | .indexOf _ _ => true
  | _ => false

/-- an observing call leaves everything but caches and log as it is, and the caches right -/
theorem step_observe {r r' : Rec} {op : Op} (hobs : op.observes = true) (c : InvCache r) (hstep : step r op = .ok r') :
    CoreEq r r' ∧ InvCache r' := by
  have hlog : ∀ lg, CoreEq r { r with log := lg } ∧ InvCache { r with log := lg } :=
    fun lg => ⟨CoreEq.caches r _ _ _ _ _ _ _, c.cds, c.slot, c.tuple⟩
  cases op with
  | peekCds =>
    obtain rfl := Except.ok.inj hstep
    exact ⟨(peekCds_spec c).1, (peekCds_spec c).2.1⟩
  | peekArea aid =>
    obtain rfl := Except.ok.inj hstep
    exact ⟨(peekArea_spec c aid).1, (peekArea_spec c aid).2.1⟩
  | byName gid =>
    rw [show step r (.byName gid) = getByName r gid from rfl, getByName] at hstep
    split at hstep
    · obtain rfl := Except.ok.inj hstep
      exact hlog _
    · cases hstep
  | withinRegions =>
    obtain rfl := Except.ok.inj hstep
    exact hlog _
  | hasCds aid gid =>
    obtain rfl := Except.ok.inj hstep
    exact hlog _
  | indexOf aid gid =>
    rw [show step r (.indexOf aid gid) = indexOf r aid gid from rfl, indexOf_eq c] at hstep
    split at hstep
    · obtain rfl := Except.ok.inj hstep
      obtain ⟨cl, sc, sv, tv, e, c1, _⟩ := peekRegen_spec c aid
      rw [e]
      exact ⟨CoreEq.caches r _ _ _ _ _ _ _, c1.cds, c1.slot, c1.tuple⟩
    · cases hstep
  | _ => cases hobs

theorem stepLoose_observe {r : Rec} {op : Op} (h : op.observes = true) : stepLoose r op = step r op := by
  cases op with
  | setCores gid cs => cases h
  | _ => rfl

/-- every call of the loose machine preserves the invariant; its definition-set part (`S`) under the guard -/
theorem Inv.stepLoose {S : Prop} {L : Live} {ever : List AreaT} {r r' : Rec} (h : Inv S L ever r) (op : Op) (hop : OpOK op)
    (hS : S → Guard r op) (hstep : Lookup.stepLoose r op = .ok r') : Inv S (L.step op) (ever ++ opAreas op) r' := by
  cases op with
  | setCores gid cs =>
    obtain rfl := Except.ok.inj hstep
    rw [show opAreas (.setCores gid cs) = [] from rfl, List.append_nil]
    exact h.rewriteCores gid cs hS
  | cds g => rw [show opAreas (.cds g) = [] from rfl, List.append_nil]; exact h.addCds g hop hstep
  | area a => exact h.addArea a hop hstep
  | clearRegions =>
    obtain rfl := Except.ok.inj hstep
    rw [show opAreas .clearRegions = [] from rfl, List.append_nil]; exact h.clearRegions
  | clearSubs new => exact (h.drop (p := false) (c := false) (s := true)).reset new hop hstep
  | clearCands new => exact (h.drop (p := false) (c := true) (s := false)).reset new hop hstep
  | clearProtos new => exact (h.drop (p := true) (c := true) (s := false)).reset new hop hstep
  | _ =>
    rw [stepLoose_observe rfl] at hstep
    exact (List.append_nil ever).symm ▸ h.peek (step_observe rfl h.cache hstep).1 (step_observe rfl h.cache hstep).2

theorem Inv.step {S : Prop} {L : Live} {ever : List AreaT} {r r' : Rec} (h : Inv S L ever r) (op : Op) (hop : OpOK op)
    (hstep : Lookup.step r op = .ok r') : Inv S (L.step op) (ever ++ opAreas op) r' :=
  h.stepLoose op hop (fun _ => (step_ok_iff_loose.1 hstep).1) (step_ok_iff_loose.1 hstep).2

theorem liveAfter_append (ops : List Op) (op : Op) : liveAfter (ops ++ [op]) = (liveAfter ops).step op := by
  simp [liveAfter, List.foldl_append]

theorem opsAreas_append (ops : List Op) (op : Op) : opsAreas (ops ++ [op]) = opsAreas ops ++ opAreas op := by
  simp [opsAreas]

/-- a history whose calls each preserve the invariant ends in a state satisfying it -/
theorem foldlM_inv {S : Prop} {f : Rec → Op → E Rec}
    (hf : ∀ {L : Live} {ever : List AreaT} {r r' : Rec} (op : Op), Inv S L ever r → OpOK op → f r op = .ok r' →
      Inv S (L.step op) (ever ++ opAreas op) r')
    {len : Int} {ops : List Op} {r : Rec} (hok : ∀ op ∈ ops, OpOK op) (hrun : ops.foldlM f { len := len } = .ok r) :
    Inv S (liveAfter ops) (opsAreas ops) r := by
  have := Base.foldlM_invariant (I := fun seen r => Inv S (liveAfter seen) (opsAreas seen) r) (P := OpOK)
    (fun seen b a b' hP h hs => by rw [liveAfter_append, opsAreas_append]; exact hf a h hP hs)
    ops [] _ r hok (Inv.init S len) hrun
  rwa [List.nil_append] at this

/-- every successful history ends in a state satisfying the invariant -/
theorem run_inv {len : Int} {ops : List Op} {r : Rec} (hok : ∀ op ∈ ops, OpOK op) (hrun : run len ops = .ok r) :
    Inv True (liveAfter ops) (opsAreas ops) r :=
  foldlM_inv (fun op h => h.step op) hok hrun

/-! ### histories in which genes are re-annotated at any time (`runLoose`) -/

/-- every successful history with annotation rewrites at any time satisfies the invariant except for its
    definition-set part -/
theorem runLoose_inv {len : Int} {ops : List Op} {r : Rec} (hok : ∀ op ∈ ops, OpOK op) (hrun : runLoose len ops = .ok r) :
    Inv False (liveAfter ops) (opsAreas ops) r :=
  foldlM_inv (fun op h hop => h.stepLoose op hop (fun f => f.elim)) hok hrun

/-- whatever `run` accepts, `runLoose` does in the same way -/
theorem runLoose_of_run {len : Int} {ops : List Op} {r : Rec} (h : run len ops = .ok r) : runLoose len ops = .ok r :=
  Base.foldlM_ok_mono (fun _ _ _ h => (step_ok_iff_loose.1 h).2) ops _ r h

/-! ### the last call of a history -/

theorem run_append_one (len : Int) (ops : List Op) (op : Op) :
    run len (ops ++ [op]) = run len ops >>= fun r => step r op := by
  simp only [run, List.foldlM_append, List.foldlM_cons, List.foldlM_nil, bind_pure]

theorem run_snoc {len : Int} {ops : List Op} {op : Op} {r' : Rec} (h : run len (ops ++ [op]) = .ok r') :
    ∃ r, run len ops = .ok r ∧ step r op = .ok r' :=
  Base.foldlM_snoc_eq_ok.1 h

end ASV.Lookup
