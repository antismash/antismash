/-
  C20: `run_antismash` — the log file is set up before the output directory is looked at.
-/
import ASV.Proofs.OutputDir
import ASV.Proofs.WriteSafetyNames
namespace ASV.WriteSafety
open ASV.PosixPath (Path Plain)

theorem stripPrefix_some : ∀ (a l rest : List Path), stripPrefix a l = some rest → l = a ++ rest
  | [], l, rest, h => by
      simp only [stripPrefix, Option.some.injEq] at h
      simp [h]
  | _ :: _, [], _, h => by simp [stripPrefix] at h
  | x :: xs, y :: ys, rest, h => by
      simp only [stripPrefix] at h
      split at h
      · rename_i hxy
        have := stripPrefix_some xs ys rest h
        simp [this, eq_of_beq hxy]
      · cases h

/-- `logPlace` read backwards: what each answer says about what the two paths denote -/
theorem logPlace_inv (p : PrepIn) :
    match logPlace p with
    | .nowhere => True
    | .entry m => p.logfile ≠ "" ∧
        denotes p.cwd.toList p.logfile.toList =
          ((denotes p.cwd.toList p.name.toList).1, (denotes p.cwd.toList p.name.toList).2 ++ [m.toList])
    | .below s => p.logfile ≠ "" ∧ ∃ x rest,
        denotes p.cwd.toList p.logfile.toList =
          ((denotes p.cwd.toList p.name.toList).1, (denotes p.cwd.toList p.name.toList).2 ++ s.toList :: x :: rest) := by
  generalize h : logPlace p = pl
  unfold logPlace at h
  split at h
  · subst h; trivial
  · rename_i hl
    have hl' : p.logfile ≠ "" := by simpa using hl
    simp only [] at h
    split at h
    · subst h; trivial
    · rename_i hk
      have hk' : (pathId p.cwd.toList p.name.toList).1 = (pathId p.cwd.toList p.logfile.toList).1 := by
        simpa using hk
      split at h
      · rename_i mm hs
        subst h
        exact ⟨hl', by rw [String.toList_ofList]; exact Prod.ext hk'.symm (stripPrefix_some _ _ _ hs)⟩
      · rename_i ss x rest hs
        subst h
        exact ⟨hl', x, rest, by rw [String.toList_ofList]; exact Prod.ext hk'.symm (stripPrefix_some _ _ _ hs)⟩
      · subst h; trivial

theorem denotes_plain (cwd q : Path) (pre post : List Path) (c : Path) (n : Nat)
    (h : denotes cwd q = (n, pre ++ c :: post)) : Plain c :=
  pathId_plain cwd q c (by rw [pathId_eq_denotes, h]; simp)

theorem logPlace_entry (p : PrepIn) (m : String) (h : logPlace p = .entry m) :
    p.logfile ≠ "" ∧ Plain m.toList ∧
      denotes p.cwd.toList p.logfile.toList =
        ((denotes p.cwd.toList p.name.toList).1, (denotes p.cwd.toList p.name.toList).2 ++ [m.toList]) := by
  have := logPlace_inv p
  rw [h] at this
  exact ⟨this.1, denotes_plain _ _ _ _ _ _ this.2, this.2⟩

theorem logPlace_below (p : PrepIn) (s : String) (h : logPlace p = .below s) : Plain s.toList := by
  have := logPlace_inv p
  rw [h] at this
  obtain ⟨_, x, rest, hd⟩ := this
  exact denotes_plain _ _ _ _ _ _ hd

/-- the entry logging creates (or appends to) is the one the own-log test exempts -/
theorem isLogFile_of_logPlace (p : PrepIn) (m : String) (h : logPlace p = .entry m)
    (hcwd : PosixPath.isabs p.cwd.toList = true) (hname : p.name.toList ≠ []) (e : Entry) (he : e.name = m) :
    isLogFile p e = true := by
  obtain ⟨hl, hpl, hd⟩ := logPlace_entry p m h
  unfold isLogFile
  have h1 : (p.logfile != "") = true := by simpa using hl
  rw [h1, Bool.true_and, decide_eq_true_eq, entryPath, he,
    denotes_entry _ _ _ hcwd hname hpl, hd]

/-- the one name logging may create or grow -/
def LogPlace.name? : LogPlace → Option String
  | .nowhere => none
  | .entry m => some m
  | .below s => some s

/-- what `setupLogging` does to the listing: every old entry with another name is kept as it is, and every entry
    afterwards has an old name or the log place's -/
theorem setupLogging_touches (place : LogPlace) (t : Target) :
    (∀ e ∈ t.entries, place ≠ .entry e.name → e ∈ (setupLogging place t).1.entries) ∧
    (∀ e ∈ (setupLogging place t).1.entries, (∃ e0 ∈ t.entries, e0.name = e.name) ∨ some e.name = place.name?) := by
  cases place with
  | nowhere => exact ⟨fun e he _ => he, fun e he => Or.inl ⟨e, he, rfl⟩⟩
  | entry m =>
    cases t with
    | absent => simp [setupLogging, Target.entries, LogPlace.name?]
    | file => simp [setupLogging, Target.entries]
    | dir es =>
      cases hany : (es.any fun e => e.name == m) with
      | true =>
        simp only [setupLogging, hany, if_true, Target.entries, LogPlace.name?, List.mem_map]
        refine ⟨fun e he hne => ⟨e, he, by simp [show e.name ≠ m from fun h => hne (by rw [h])]⟩, ?_⟩
        rintro _ ⟨e, he, rfl⟩
        exact Or.inl ⟨e, he, by split <;> rfl⟩
      | false =>
        simp only [setupLogging, hany, Bool.false_eq_true, if_false, Target.entries, LogPlace.name?,
          List.mem_append, List.mem_singleton]
        exact ⟨fun e he _ => Or.inl he,
          fun e he => he.elim (fun h => Or.inl ⟨e, h, rfl⟩) (fun h => Or.inr (by rw [h]))⟩
  | below s =>
    cases t with
    | absent => simp [setupLogging, Target.entries, LogPlace.name?]
    | file => simp [setupLogging, Target.entries]
    | dir es =>
      cases hany : (es.any fun e => e.name == s) with
      | true =>
        simp only [setupLogging, hany, if_true, Target.entries]
        exact ⟨fun e he _ => he, fun e he => Or.inl ⟨e, he, rfl⟩⟩
      | false =>
        simp only [setupLogging, hany, Bool.false_eq_true, if_false, Target.entries, LogPlace.name?,
          List.mem_append, List.mem_singleton]
        exact ⟨fun e he _ => Or.inl he,
          fun e he => he.elim (fun h => Or.inl ⟨e, h, rfl⟩) (fun h => Or.inr (by rw [h]))⟩

theorem setupLogging_dir (place : LogPlace) (es : Dir) :
    (setupLogging place (.dir es)).1 = .dir (setupLogging place (.dir es)).1.entries := by
  cases place with
  | nowhere => rfl
  | entry m => simp only [setupLogging]; split <;> rfl
  | below s => simp only [setupLogging]; split <;> rfl

theorem logPlace_name_plain (p : PrepIn) (n : String) (h : (logPlace p).name? = some n) : Plain n.toList := by
  cases hp : logPlace p with
  | nowhere => rw [hp] at h; cases h
  | entry m => rw [hp] at h; cases h; exact (logPlace_entry p _ hp).2.1
  | below s => rw [hp] at h; cases h; exact logPlace_below p _ hp

/-- logging only adds entries with plain names: the invariants survive -/
theorem afterLogging_wf (p : PrepIn) (wf : p.WF = true) : (afterLogging p).WF = true := by
  obtain ⟨hcwd, hname, hpl⟩ := (wf_iff p).1 wf
  refine (wf_iff _).2 ⟨hcwd, hname, fun e he => ?_⟩
  rcases (setupLogging_touches (logPlace p) p.target).2 e he with ⟨e0, he0, hn⟩ | hn
  · rw [← hn]; exact hpl e0 he0
  · exact logPlace_name_plain p e.name hn.symm

/-- setting up the log file adds or grows at most the log entry (or the directory above the log
    file): every other entry of an existing output directory is still there, unchanged -/
theorem setupLogging_keeps (place : LogPlace) (es : Dir) :
    ∃ es', (setupLogging place (.dir es)).1 = .dir es' ∧
      ∀ e ∈ es, (∀ m, place = .entry m → e.name ≠ m) → e ∈ es' :=
  ⟨_, setupLogging_dir place es, fun e he h =>
    (setupLogging_touches place (.dir es)).1 e he fun hp => h _ hp rfl⟩

/-- `run_antismash` is the tail of the run on the directory logging left, framed by logging's own effects -/
theorem runAntismash_eq (r : RunIn) :
    runAntismash r =
      let p := (effective r.call).1
      let s := setupLogging (logPlace p) p.target
      let out := runPipeline ⟨afterLogging p, r.results, r.jsonName⟩
      ⟨s.2 ++ out.trace ++ (if out.err == some inputError then [.logErr] else []), out.err, out.target⟩ := by
  simp only [runAntismash, runTail, RunIn.toPipe, RunIn.jsonName, effective_target, afterLogging]
  rfl

theorem run_meets_spec (r : RunIn) (wf : (effective r.call).1.WF = true) :
    specRun r (runAntismash r) = true := by
  have hp := pipeline_meets_spec' ⟨afterLogging (effective r.call).1, r.results, r.jsonName⟩
    (afterLogging_wf _ wf)
  rw [runAntismash_eq]
  -- `specRun` strips logging's prefix and, on a refusal, the trailing `logErr`: what is left is `runPipeline`'s output
  simp only [specRun]
  generalize (setupLogging (logPlace (effective r.call).1) (effective r.call).1.target).2 = pre at *
  generalize runPipeline ⟨afterLogging (effective r.call).1, r.results, r.jsonName⟩ = out at *
  by_cases he : (out.err == some inputError) = true
  · simp [he, hp, List.append_assoc]
  · simp [he, hp]

end ASV.WriteSafety
