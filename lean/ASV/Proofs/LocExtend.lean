/-
  `Record.extend_location` (C04): a single-part location on a circular record covers exactly the bases within the
  ring distance; for two or more parts on a linear record, or on a circular record when neither end reaches the
  record edge, the outer ends move and nothing else changes.
-/
import ASV.Proofs.LocOffset
namespace ASV

/-- distance of positions `i`, `j` the shorter way round a ring of length `L`; one more than the number
    `ringBetween L i j` of bases strictly between them -/
def ringAbs (L i j : Int) : Int := min (iabs (i - j)) (L - iabs (i - j))

/-- `j` is within ring distance `d` of `i`: directly, or over the origin in either direction -/
theorem ringAbs_eq_ringBetween_add_one (L i j : Int) : ringAbs L i j = ringBetween L i j + 1 := by
  unfold ringAbs ringBetween
  omega

theorem ringAbs_le_iff (L i j d : Int) :
    ringAbs L i j ≤ d ↔ (i - d ≤ j ∧ j ≤ i + d) ∨ j ≤ i + d - L ∨ i - d + L ≤ j := by
  simp only [ringAbs, iabs_def, Int.min_def]
  split <;> split <;> omega

/-- the positions within ring distance `d` of a non-empty interval: the interval widened by `d` on both sides,
    and what sticks out over either end of the ring, seen from the other side -/
theorem exists_mem_ringAbs_le (p : Part) (L i d : Int) (h : p.lo < p.hi) (hd : 0 ≤ d) :
    (∃ j, p.mem j = true ∧ ringAbs L i j ≤ d) ↔
      (p.lo - d ≤ i ∧ i < p.hi + d) ∨ i < p.hi + d - L ∨ p.lo - d + L ≤ i := by
  simp only [Part.mem_iff, ringAbs_le_iff]
  constructor
  · rintro ⟨j, hj, hr⟩
    omega
  · rintro (hr | hr | hr)
    · exact ⟨max p.lo (min i (p.hi - 1)), by omega, by omega⟩
    · exact ⟨p.hi - 1, by omega, by omega⟩
    · exact ⟨p.lo, by omega, by omega⟩

/-- the same for a location of two parts: what is near either part -/
theorem exists_mem_two_ringAbs_le (a b : Part) (L i d : Int) (ha : a.lo < a.hi) (hb : b.lo < b.hi) (hd : 0 ≤ d) :
    (∃ j, (Loc.compound [a, b]).mem j = true ∧ ringAbs L i j ≤ d) ↔
      ((a.lo - d ≤ i ∧ i < a.hi + d) ∨ i < a.hi + d - L ∨ a.lo - d + L ≤ i) ∨
      ((b.lo - d ≤ i ∧ i < b.hi + d) ∨ i < b.hi + d - L ∨ b.lo - d + L ≤ i) := by
  rw [← exists_mem_ringAbs_le a L i d ha hd, ← exists_mem_ringAbs_le b L i d hb hd, ← exists_or]
  simp only [Loc.mem, Loc.parts, List.any_cons, List.any_nil, Bool.or_false, Bool.or_eq_true, or_and_right]

/-- the bases of a two-part location do not depend on the order its parts are listed in -/
theorem mem_two_ite (c : Prop) [Decidable c] (a b : Part) (i : Int) :
    (Loc.compound (if c then [a, b] else [b, a])).mem i = true ↔ (a.lo ≤ i ∧ i < a.hi) ∨ (b.lo ≤ i ∧ i < b.hi) := by
  split
  · exact mem_two a b i
  · rw [mem_two, Or.comm]

/-- closed form of `extend_location` for a single-part location on a circular record -/
def extSimpleRing (p : Part) (d L : Int) : Loc :=
  if p.lo - d < 0 ∧ p.lo - d + L ≤ p.hi + d then .simple ⟨0, L, p.strand⟩
  else if p.lo - d < 0 then
    Loc.compound (if p.strand == .rev then [⟨0, p.hi + d, p.strand⟩, ⟨L + (p.lo - d), L, p.strand⟩]
                  else [⟨L + (p.lo - d), L, p.strand⟩, ⟨0, p.hi + d, p.strand⟩])
  else if p.hi + d > L then
    if p.hi + d - L > p.lo - d then .simple ⟨0, L, p.strand⟩
    else Loc.compound (if p.strand == .rev then [⟨0, p.hi + d - L, p.strand⟩, ⟨p.lo - d, L, p.strand⟩]
                       else [⟨p.lo - d, L, p.strand⟩, ⟨0, p.hi + d - L, p.strand⟩])
  else .simple ⟨p.lo - d, p.hi + d, p.strand⟩

theorem extend_simple_ring_eq (p : Part) (d L : Int) (h0 : 0 ≤ p.lo) (h1 : p.lo < p.hi) (h2 : p.hi ≤ L) (hd : 0 ≤ d) (hdL : d ≤ L) :
    extendLocation (.simple p) d L true = .ok (extSimpleRing p d L) := by
  unfold extSimpleRing
  by_cases hW : p.lo - d < 0 ∧ p.lo - d + L ≤ p.hi + d
  · simp only [hW, and_self, if_true]
    have hc1 : (((p.lo - d + L ≤ 0 ∧ 0 < L ∨ p.lo - d + L ≤ L - 1 ∧ L - 1 < L) ∨ 0 ≤ p.lo - d + L ∧ p.lo - d + L < L) ∨
        1 ≤ L ∧ L - 1 < L) := by omega
    have hc2 : (((0 < (p.hi + d) % L ∨ 1 ≤ L ∧ L - 1 < (p.hi + d) % L) ∨ 0 < L) ∨
        1 ≤ (p.hi + d) % L ∧ (p.hi + d) % L - 1 < L) := by omega
    have e5 : min 0 (p.lo - d + L) = 0 := by omega
    have hm := Int.emod_lt_of_pos (p.hi + d) (show 0 < L by omega)
    have hm0 := Int.emod_nonneg (p.hi + d) (show L ≠ 0 by omega)
    have e6 : max L ((p.hi + d) % L) = L := by omega
    simp [extendLocation, Loc.strand, Loc.parts, setHead, setLast, pure, Except.pure, 
      hW.1, hW.2, popWhileUpper, popWhileLower, partsOverlap, Part.mem, hc1, e5, e6, hc2] <;> split <;> simp
  · simp only [hW, if_false]
    by_cases hA : p.lo - d < 0
    · have hB : ¬ (p.hi + d > L) := by omega
      simp only [hA, if_true]
      have hW' : ¬ (p.lo - d + L ≤ p.hi + d) := by omega
      have e1 : min (L + (p.lo - d)) L = L + (p.lo - d) := by omega
      have e2 : min (p.hi + d) L = p.hi + d := by omega
      have hcond : ¬ (((0 ≤ L + (p.lo - d) ∧ L + (p.lo - d) < p.hi + d ∨ 1 ≤ L ∧ L - 1 < p.hi + d) ∨ L + (p.lo - d) ≤ 0 ∧ 0 < L) ∨
          L + (p.lo - d) ≤ p.hi + d - 1 ∧ p.hi + d - 1 < L) := by omega
      simp [extendLocation, Loc.strand, Loc.parts, mergeEnds, setHead, setLast, pure, Except.pure, 
        hA, hB, hW', partsOverlap, Part.mem, e1, e2, hcond]
    · simp only [hA, if_false]
      by_cases hB : p.hi + d > L
      · simp only [hB, if_true]
        have e1 : max 0 (p.lo - d) = p.lo - d := by omega
        have e2 : min (p.hi + d - L) L = p.hi + d - L := by omega
        by_cases hM : p.hi + d - L > p.lo - d
        · simp only [hM, if_true]
          have hcond : (((d ≤ p.lo ∧ p.lo - d < p.hi + d - L ∨ 1 ≤ L ∧ L - 1 < p.hi + d - L) ∨ p.lo - d ≤ 0 ∧ 0 < L) ∨
              p.lo - d ≤ p.hi + d - L - 1 ∧ p.hi + d - L - 1 < L) := by omega
          have e3 : min (p.lo - d) 0 = 0 := by omega
          have e4 : max L (p.hi + d - L) = L := by omega
          simp [extendLocation, Loc.strand, Loc.parts, mergeEnds, setHead, setLast, pure, Except.pure, 
            hA, hB, e1, e2, partsOverlap, Part.mem, hcond, e3, e4]
        · simp only [hM, if_false]
          have hcond : ¬ (((d ≤ p.lo ∧ p.lo - d < p.hi + d - L ∨ 1 ≤ L ∧ L - 1 < p.hi + d - L) ∨ p.lo - d ≤ 0 ∧ 0 < L) ∨
              p.lo - d ≤ p.hi + d - L - 1 ∧ p.hi + d - L - 1 < L) := by omega
          simp [extendLocation, Loc.strand, Loc.parts, mergeEnds, setHead, setLast, pure, Except.pure, 
            hA, hB, e1, e2, partsOverlap, Part.mem, hcond]
      · simp only [hB, if_false]
        have e1 : max 0 (p.lo - d) = p.lo - d := by omega
        have e2 : min (p.hi + d) L = p.hi + d := by omega
        simp [extendLocation, Loc.strand, Loc.parts, mergeEnds, setHead, setLast, pure, Except.pure, 
          hA, hB, e1, e2]


theorem extSimpleRing_mem (p : Part) (d L : Int) (h0 : 0 ≤ p.lo) (h1 : p.lo < p.hi) (h2 : p.hi ≤ L) (hd : 0 ≤ d) (i : Int) :
    (extSimpleRing p d L).mem i = true ↔ (0 ≤ i ∧ i < L ∧ ∃ j, p.mem j = true ∧ ringAbs L i j ≤ d) := by
  rw [exists_mem_ringAbs_le p L i d h1 hd]
  unfold extSimpleRing
  by_cases hW : p.lo - d < 0 ∧ p.lo - d + L ≤ p.hi + d
  · rw [if_pos hW, mem_simple]
    dsimp only
    omega
  · rw [if_neg hW]
    by_cases hA : p.lo - d < 0
    · rw [if_pos hA, mem_two_ite]
      dsimp only
      omega
    · rw [if_neg hA]
      by_cases hB : p.hi + d > L
      · rw [if_pos hB]
        by_cases hM : p.hi + d - L > p.lo - d
        · rw [if_pos hM, mem_simple]
          dsimp only
          omega
        · rw [if_neg hM, mem_two_ite]
          dsimp only
          omega
      · rw [if_neg hB, mem_simple]
        dsimp only
        omega

/-! ### two or more parts -/

theorem getLast?_cons_snoc (a x : Part) (mid : List Part) : (a :: (mid ++ [x])).getLast? = some x := by
  rw [show a :: (mid ++ [x]) = (a :: mid) ++ [x] by simp, List.getLast?_append]; simp

theorem dropLast_cons_snoc (a x : Part) (mid : List Part) : (a :: (mid ++ [x])).dropLast = a :: mid := by
  rw [show a :: (mid ++ [x]) = (a :: mid) ++ [x] by simp, List.dropLast_concat]

/-- the loop that merges the two ends of the part list does nothing while they do not overlap -/
theorem mergeEnds_of_disjoint {a x : Part} {mid : List Part} (h : partsOverlap a x = false) (n : Nat) :
    mergeEnds n (a :: (mid ++ [x])) = a :: (mid ++ [x]) := by
  cases n with
  | zero => rfl
  | succ k => simp only [mergeEnds, List.getLast?_append, List.getLast?_singleton, Option.some_or, h, Bool.false_eq_true, if_false]

/-- two or more parts in walking order `p0 :: mid ++ [pn]` (ascending), any strand, either part order: linear record, or ring
    without reaching the edges -/
theorem extend_multi_walk (l : Loc) (p0 pn : Part) (mid : List Part) (d mx : Int) (circ : Bool)
    (hparts : (if l.strand = .rev then l.parts.reverse else l.parts) = p0 :: (mid ++ [pn]))
    (hsep : p0.hi ≤ pn.lo) (h0 : p0.lo < p0.hi) (hn : pn.lo < pn.hi) (hd : 0 ≤ d) (hmx : pn.hi ≤ mx) (hlo : 0 ≤ p0.lo)
    (hc : circ = true → bridgesOrigin l = false ∧ pn.hi + d ≤ mx ∧ d ≤ p0.lo) :
    extendLocation l d mx circ =
      .ok (.compound (if l.strand = .rev then
          (⟨max 0 (p0.lo - d), p0.hi, p0.strand⟩ :: (mid ++ [⟨pn.lo, min (pn.hi + d) mx, pn.strand⟩])).reverse
        else ⟨max 0 (p0.lo - d), p0.hi, p0.strand⟩ :: (mid ++ [⟨pn.lo, min (pn.hi + d) mx, pn.strand⟩]))) := by
  have m1 := mergeEnds_of_disjoint (mid := mid) (partsOverlap_eq_false h0 hn (Or.inl hsep))
  have m2 := mergeEnds_of_disjoint (mid := mid)
    (partsOverlap_eq_false (p := ⟨max 0 (p0.lo - d), p0.hi, p0.strand⟩) (q := ⟨pn.lo, min (pn.hi + d) mx, pn.strand⟩)
      (by dsimp only; omega) (by dsimp only; omega) (Or.inl hsep))
  cases circ with
  | false =>
    simp only [extendLocation, beq_iff_eq, hparts, Bool.false_eq_true, if_false, List.head?_cons, getLast?_cons_snoc, Bool.false_and,
      m1, setHead, setLast, dropLast_cons_snoc, Bool.and_false, List.cons_append, m2]
    cases mid <;> rfl
  | true =>
    obtain ⟨hb, h1, h2⟩ := hc rfl
    have f1 : decide (p0.lo - d < 0) = false := by simp; omega
    have f2 : decide (pn.hi + d > mx) = false := by simp; omega
    simp only [extendLocation, beq_iff_eq, hparts, hb, Bool.false_eq_true, if_false, List.head?_cons, getLast?_cons_snoc, Bool.false_and,
      Bool.and_false, Bool.true_and, f1, f2,
      m1, setHead, setLast, dropLast_cons_snoc, List.cons_append, m2]
    cases mid <;> rfl

/-- `extend_location` of a location with two or more parts (forward or unstranded, ascending order) on a linear record,
    or on a circular record when neither end reaches the record edge and the location does not bridge the origin: the
    outer ends move, nothing else -/
theorem extend_multi_eq (p0 pn : Part) (mid : List Part) (d mx : Int) (circ : Bool)
    (hs : (Loc.compound (p0 :: (mid ++ [pn]))).strand ≠ .rev)
    (hsep : p0.hi ≤ pn.lo) (h0 : p0.lo < p0.hi) (hn : pn.lo < pn.hi) (hd : 0 ≤ d) (hmx : pn.hi ≤ mx) (hlo : 0 ≤ p0.lo)
    (hc : circ = true → bridgesOrigin (Loc.compound (p0 :: (mid ++ [pn]))) = false ∧ pn.hi + d ≤ mx ∧ d ≤ p0.lo) :
    extendLocation (.compound (p0 :: (mid ++ [pn]))) d mx circ =
      .ok (.compound (⟨max 0 (p0.lo - d), p0.hi, p0.strand⟩ :: (mid ++ [⟨pn.lo, min (pn.hi + d) mx, pn.strand⟩]))) := by
  rw [extend_multi_walk _ p0 pn mid d mx circ (by rw [if_neg hs]; rfl) hsep h0 hn hd hmx hlo hc, if_neg hs]

/-- the bases of that result: the input's bases plus the two flanks, clipped to the record -/
theorem extend_line_multi_mem (p0 pn : Part) (mid : List Part) (d mx : Int)
    (h0 : p0.lo < p0.hi) (hn : pn.lo < pn.hi) (hd : 0 ≤ d) (hmx : pn.hi ≤ mx) (hlo : 0 ≤ p0.lo) (i : Int) :
    (Loc.compound (⟨max 0 (p0.lo - d), p0.hi, p0.strand⟩ :: (mid ++ [⟨pn.lo, min (pn.hi + d) mx, pn.strand⟩]))).mem i = true ↔
      ((Loc.compound (p0 :: (mid ++ [pn]))).mem i = true ∨ (max 0 (p0.lo - d) ≤ i ∧ i < p0.lo) ∨ (pn.hi ≤ i ∧ i < min (pn.hi + d) mx)) := by
  simp only [Loc.mem, Loc.parts, List.any_cons, List.any_append, List.any_nil, Bool.or_false, Bool.or_eq_true, Part.mem_iff]
  constructor
  · rintro (h | h | h)
    · by_cases hx : p0.lo ≤ i
      · exact Or.inl (Or.inl ⟨hx, h.2⟩)
      · exact Or.inr (Or.inl ⟨h.1, by omega⟩)
    · exact Or.inl (Or.inr (Or.inl h))
    · by_cases hx : i < pn.hi
      · exact Or.inl (Or.inr (Or.inr ⟨h.1, hx⟩))
      · exact Or.inr (Or.inr ⟨by omega, h.2⟩)
  · rintro ((h | h | h) | h | h)
    · exact Or.inl ⟨by omega, h.2⟩
    · exact Or.inr (Or.inl h)
    · exact Or.inr (Or.inr ⟨h.1, by omega⟩)
    · exact Or.inl ⟨h.1, by omega⟩
    · exact Or.inr (Or.inr ⟨by omega, h.2⟩)
/-- reverse-strand location with two or more parts (Biopython order: descending), linear record or ring without wrap -/
theorem extend_multi_rev_eq (p0 pn : Part) (mid : List Part) (d mx : Int) (circ : Bool)
    (hs : (Loc.compound (p0 :: (mid ++ [pn])).reverse).strand = .rev)
    (hsep : p0.hi ≤ pn.lo) (h0 : p0.lo < p0.hi) (hn : pn.lo < pn.hi) (hd : 0 ≤ d) (hmx : pn.hi ≤ mx) (hlo : 0 ≤ p0.lo)
    (hc : circ = true → bridgesOrigin (Loc.compound (p0 :: (mid ++ [pn])).reverse) = false ∧ pn.hi + d ≤ mx ∧ d ≤ p0.lo) :
    extendLocation (.compound (p0 :: (mid ++ [pn])).reverse) d mx circ =
      .ok (.compound (⟨max 0 (p0.lo - d), p0.hi, p0.strand⟩ :: (mid ++ [⟨pn.lo, min (pn.hi + d) mx, pn.strand⟩])).reverse) := by
  rw [extend_multi_walk _ p0 pn mid d mx circ (by rw [if_pos hs]; exact List.reverse_reverse _) hsep h0 hn hd hmx hlo hc, if_pos hs]

theorem mem_reverse_compound (ps : List Part) (i : Int) :
    (Loc.compound ps.reverse).mem i = (Loc.compound ps).mem i := by
  simp [Loc.mem, Loc.parts, List.any_reverse]

end ASV
