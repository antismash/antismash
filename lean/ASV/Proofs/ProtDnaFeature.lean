/-
  Helper lemmas for C09 about a gene as a feature: partial genes (`subLocationFuzzy`), the translation stored for a CDS
  (`aaTranslation`, `forceMet`), locations read back through `Record.from_biopython`, `Feature.start` / `Feature.end`.
-/
import ASV.Proofs.ProtDna
namespace ASV.ProtDna
open ASV

/-! ### partial genes -/

theorem subLocationFuzzy_eq (amb : Bool) (l : Loc) (s e : Int) (h : e ≤ l.len / 3 ∨ amb = false) :
    subLocationFuzzy amb l s e = subLocation l s e := by
  unfold subLocationFuzzy
  split
  · rename_i h1; unfold subLocation; rw [if_pos h1]
  · rename_i h1
    split
    · rfl
    · rename_i h2
      have hv : subLocation l s e = .valueError := by
        unfold subLocation
        rw [if_neg h1, if_pos (by simp at h2 ⊢; omega)]
      rw [hv]
      split
      · rename_i h3
        simp only [Bool.and_eq_true, decide_eq_true_eq] at h2 h3
        rcases h with h | h
        · omega
        · rw [h] at h3; exact absurd h3.2 (by simp)
      · rfl

theorem subLocationFuzzy_truncates (l : Loc) (s e : Int) (h0 : 0 ≤ s) (hs : s < l.len / 3) (he : l.len / 3 < e) :
    subLocationFuzzy true l s e = subLocation l s (l.len / 3) := by
  unfold subLocationFuzzy
  rw [if_neg (by simp; omega), if_neg (by simp; omega), if_pos (by simp; omega)]

/-! ### the gene's own translation -/

theorem takeWhile_take_of_all {α} (p : α → Bool) (l : List α) (n : Nat) (h : ∀ x ∈ l.take n, p x = true) :
    (l.takeWhile p).take n = l.take n := by
  induction l generalizing n with
  | nil => simp
  | cons a l ih =>
    cases n with
    | zero => simp
    | succ n =>
      have ha : p a = true := h a (by simp)
      simp only [List.takeWhile_cons, ha, if_true, List.take_succ_cons]
      rw [ih n (fun x hx => h x (by simp [hx]))]

theorem sliceL_forceMet (x : List Char) (s e : Nat) (hs : 1 ≤ s) : sliceL (forceMet x) s e = sliceL x s e := by
  cases x with
  | nil => rfl
  | cons a r =>
    obtain ⟨k, rfl⟩ : ∃ k, s = k + 1 := ⟨s - 1, by omega⟩
    simp [sliceL, forceMet]

/-- residues before the first stop (and not one of the letters replaced by X) come through
    `get_aa_translation_from_location` unchanged -/
theorem aaTranslation_take (aas : List Char) (e : Nat) (he : 1 ≤ e) (hlen : e ≤ aas.length)
    (h : ∀ c ∈ aas.take e, "*BJOUZ".toList.contains c = false) :
    (aaTranslation aas).take e = aas.take e := by
  have hns : ∀ c ∈ aas.take e, (c != '*') = true := by
    intro c hc
    have := h c hc
    by_cases hcs : c = '*'
    · subst hcs; simp at this
    · simpa using hcs
  have htw := takeWhile_take_of_all (· != '*') aas e hns
  have hne : (aas.takeWhile (· != '*')).isEmpty = false := by
    cases h0 : aas.takeWhile (· != '*') with
    | nil =>
      have := congrArg List.length htw
      rw [h0, List.take_nil, List.length_nil, List.length_take] at this
      omega
    | cons _ _ => rfl
  unfold aaTranslation
  simp only [hne, Bool.false_eq_true, if_false]
  rw [← List.map_take, htw]
  conv => rhs; rw [← List.map_id (aas.take e)]
  apply List.map_congr_left
  intro c hc
  have := h c hc
  simp only [this, Bool.false_eq_true, if_false, id]

/-! ### features read back through `Record.from_biopython` -/

/-- without `allow_reversing` the origin test answers `location_bridges_origin` and touches nothing -/
theorem bridgesOriginAR_false (l : Loc) : bridgesOriginAR false l = (bridgesOrigin l, l) := by
  cases l with
  | simple p => rfl
  | compound ps =>
    simp only [bridgesOriginAR, bridgesOrigin]
    cases hs : (Loc.compound ps).strand <;> simp
    split <;> simp_all

/-- a feature that is not a misc_feature keeps its location when read back -/
theorem readLocation_other (c : Bool) (l : Loc) : readLocation c false l = l := by
  simp [readLocation, bridgesOriginAR_false]

theorem readLocation_not_bridging (c m : Bool) (l : Loc) (h : bridgesOrigin l = false) : readLocation c m l = l := by
  simp [readLocation, bridgesOriginAR_false, h]

/-- two exons, neither inside the other (e.g. a codon or a range split over the origin): nothing is redundant -/
theorem removeRedundant_two (p q : Part) (h1 : partContains p q = false) (h2 : partContains q p = false) :
    removeRedundantExons (.compound [p, q]) = .compound [p, q] := by
  by_cases hlen : p.len > q.len
  · simp [removeRedundantExons, sortBySizeDesc, insertBySizeDesc, hlen, h1]
  · simp [removeRedundantExons, sortBySizeDesc, insertBySizeDesc, hlen, h2]

/-! ### `Feature.start` / `Feature.end` -/

/-- `Feature.start` / `Feature.end` are the gene's ends in transcription order: on a non-reverse strand the first
    transcribed base is `start` and the last is `end - 1`; on the reverse strand the first is `end - 1`, the last `start` -/
theorem feature_ends (l : Loc) (hwf : geneWF l = true) :
    (bases l).head? = some (if isRev l then featureEnd l - 1 else featureStart l) ∧
    (bases l).getLast? = some (if isRev l then featureStart l else featureEnd l - 1) := by
  obtain ⟨hne, hparts⟩ := (geneWF_iff l).mp hwf
  obtain ⟨p, rest, hpr⟩ := List.exists_cons_of_ne_nil hne
  obtain ⟨ys, z, hyz⟩ : ∃ ys z, l.parts = ys ++ [z] := ⟨_, _, (List.dropLast_concat_getLast hne).symm⟩
  have hp := hparts p (by rw [hpr]; exact List.mem_cons_self)
  have hz := hparts z (by rw [hyz]; simp)
  have hpb := partBases_eq_ray (isRev l) p (by rw [isRev, hp.2])
  have hzb := partBases_eq_ray (isRev l) z (by rw [isRev, hz.2])
  constructor
  · rw [bases, hpr, List.flatMap_cons, List.head?_append, hpb, ray_head? _ _ _ (by omega), Option.some_or,
      featureEnd, featureStart, hpr]
    cases isRev l
    · rfl
    · rfl
  · rw [bases, hyz, List.flatMap_append, List.flatMap_singleton, List.getLast?_append, hzb,
      ray_getLast? _ _ _ (by omega), Option.some_or, featureEnd, featureStart, hyz, List.getLast?_concat]
    cases isRev l
    · simp only [Bool.false_eq_true, if_false, Option.map_some, Option.getD_some]
      congr 1
      omega
    · simp only [if_true, Option.map_some, Option.getD_some]
      congr 1
      omega

end ASV.ProtDna
