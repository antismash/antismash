/-
  C05: no two candidates with the same coordinates and members on a circular record, when all
  protoclusters fit into a span shorter than half the record (then every candidate's span is the
  unique shortest arc covering its members, so promotion keeps the table key).
-/
import ASV.Proofs.RingFacts
namespace ASV.CC
open ASV.CC.Spec

/-! ### shortest arcs -/

theorem ring_shortest (ls : List Loc) (L : Int) (hne : ls ≠ []) (hL : 0 < L)
    (hin : ∀ l ∈ ls, RingInStrict L l) (c : Loc) (hwf : areaWF L L c = true) (hlen : 2 * c.len < L)
    (hcov : ∀ l ∈ ls, ∀ i, l.mem i = true → c.mem i = true) (r : Loc) (hr : connect ls (some L) = .ok r) :
    r.len ≤ c.len ∧ ∀ i, r.mem i = true → c.mem i = true := by
  have hin' : ∀ l ∈ ls, RingIn L l := fun l hl => (hin l hl).ringIn
  rw [connect_ring_closed ls L hne hL hin'] at hr
  injection hr with hr
  subst hr
  apply connR_shortest _ L hL (by simpa using hne) (toR_ok L hL ls hin') c hwf hlen
  intro r hr i hi
  obtain ⟨l, hl, rfl⟩ := List.mem_map.1 hr
  exact hcov l hl i ((toR_mem_iff L hL l (hin l hl) i).1 hi)

theorem mem_of_coords {r s : Loc} (h : coords r = coords s) (i : Int) : r.mem i = s.mem i := by
  have : ∀ l : Loc, l.mem i = (coords l).any fun x => decide (x.1 ≤ i) && decide (i < x.2) := by
    intro l; simp [Loc.mem, coords, List.any_map, Part.mem, Function.comp_def]
  rw [this r, this s, h]

/-- spans of the two shapes with the same bases, shorter than half the record, have the same coordinates -/
theorem coords_of_mem_eq {L : Int} {r s : Loc} (hr : Shaped L r) (hs : Shaped L s)
    (hwr : areaWF L L r = true) (hws : areaWF L L s = true) (hlen : 2 * r.len < L)
    (hm : ∀ i, r.mem i = true ↔ s.mem i = true) : coords r = coords s := by
  rcases hr with ⟨p, rfl⟩ | ⟨a, b, rfl⟩ <;> rcases hs with ⟨q, rfl⟩ | ⟨c, d, rfl⟩
  · simp only [areaWF, Loc.parts, Bool.and_eq_true, decide_eq_true_eq] at hwr hws
    have h1 := (mem_simple q p.lo).1 ((hm p.lo).1 ((mem_simple p p.lo).2 ⟨Int.le_refl _, by omega⟩))
    have h2 := (mem_simple p q.lo).1 ((hm q.lo).2 ((mem_simple q q.lo).2 ⟨Int.le_refl _, by omega⟩))
    have h3 := (mem_simple q (p.hi - 1)).1 ((hm (p.hi - 1)).1 ((mem_simple p (p.hi - 1)).2 ⟨by omega, by omega⟩))
    have h4 := (mem_simple p (q.hi - 1)).1 ((hm (q.hi - 1)).2 ((mem_simple q (q.hi - 1)).2 ⟨by omega, by omega⟩))
    have e1 : p.lo = q.lo := by omega
    have e2 : p.hi = q.hi := by omega
    simp [coords, Loc.parts, e1, e2]
  · -- a span through the origin has the first and the last base; a single part with both is the whole record
    exfalso
    simp only [areaWF, Loc.parts, Bool.and_eq_true, decide_eq_true_eq] at hwr hws
    simp only [Loc.len, Loc.parts, List.map, List.sum_cons, List.sum_nil, Part.len] at hlen
    obtain ⟨⟨⟨⟨⟨⟨_, hc0⟩, hcL⟩, _⟩, _⟩, hd0⟩, hdc⟩ := hws
    have ms : ∀ i, (Loc.compound [⟨c, L, .fwd⟩, ⟨0, d, .fwd⟩]).mem i = true ↔ (c ≤ i ∧ i < L) ∨ (0 ≤ i ∧ i < d) :=
      fun i => mem_two _ _ i
    have h1 := (mem_simple p 0).1 ((hm 0).2 ((ms 0).2 (Or.inr ⟨Int.le_refl _, hd0⟩)))
    have h2 := (mem_simple p (L - 1)).1 ((hm (L - 1)).2 ((ms (L - 1)).2 (Or.inl ⟨Int.le_sub_one_of_lt hcL, Int.sub_one_lt_of_le (Int.le_refl L)⟩)))
    omega
  · exfalso
    simp only [areaWF, Loc.parts, Bool.and_eq_true, decide_eq_true_eq] at hwr hws
    simp only [Loc.len, Loc.parts, List.map, List.sum_cons, List.sum_nil, Part.len] at hlen
    obtain ⟨⟨⟨⟨⟨⟨_, ha0⟩, haL⟩, _⟩, _⟩, hb0⟩, hba⟩ := hwr
    have mr : ∀ i, (Loc.compound [⟨a, L, .fwd⟩, ⟨0, b, .fwd⟩]).mem i = true ↔ (a ≤ i ∧ i < L) ∨ (0 ≤ i ∧ i < b) :=
      fun i => mem_two _ _ i
    have h1 := (mem_simple q 0).1 ((hm 0).1 ((mr 0).2 (Or.inr ⟨Int.le_refl _, hb0⟩)))
    have h2 := (mem_simple q (L - 1)).1 ((hm (L - 1)).1 ((mr (L - 1)).2 (Or.inl ⟨Int.le_sub_one_of_lt haL, Int.sub_one_lt_of_le (Int.le_refl L)⟩)))
    -- so the single part also has base `b`, which the short span has not
    rcases (mr b).1 ((hm b).2 ((mem_simple q b).2 ⟨by omega, by omega⟩)) with h | h <;> omega
  · simp only [areaWF, Loc.parts, Bool.and_eq_true, decide_eq_true_eq] at hwr hws
    simp only [Loc.len, Loc.parts, List.map, List.sum_cons, List.sum_nil, Part.len] at hlen
    obtain ⟨⟨⟨⟨⟨⟨_, ha0⟩, haL⟩, _⟩, _⟩, hb0⟩, hba⟩ := hwr
    obtain ⟨⟨⟨⟨⟨⟨_, hc0⟩, hcL⟩, _⟩, _⟩, hd0⟩, hdc⟩ := hws
    have mr : ∀ i, (Loc.compound [⟨a, L, .fwd⟩, ⟨0, b, .fwd⟩]).mem i = true ↔ (a ≤ i ∧ i < L) ∨ (0 ≤ i ∧ i < b) :=
      fun i => mem_two _ _ i
    have ms : ∀ i, (Loc.compound [⟨c, L, .fwd⟩, ⟨0, d, .fwd⟩]).mem i = true ↔ (c ≤ i ∧ i < L) ∨ (0 ≤ i ∧ i < d) :=
      fun i => mem_two _ _ i
    -- `[b, a)` is a gap of more than half the record in `r`, so neither end of `s` lies in it
    have hca : c ≤ a := by
      rcases (ms a).1 ((hm a).1 ((mr a).2 (Or.inl ⟨Int.le_refl _, haL⟩))) with h | h
      · exact h.1
      · rcases (mr (a - 1)).1 ((hm (a - 1)).2 ((ms (a - 1)).2 (Or.inr ⟨Int.le_sub_one_of_lt (Int.lt_of_lt_of_le hb0 hba), Int.lt_trans (Int.sub_one_lt_of_le (Int.le_refl a)) h.2⟩))) with h' | h' <;> omega
    have hac : a ≤ c := by
      rcases (mr c).1 ((hm c).2 ((ms c).2 (Or.inl ⟨Int.le_refl _, hcL⟩))) with h | h
      · exact h.1
      · rcases (mr b).1 ((hm b).2 ((ms b).2 (Or.inl ⟨by omega, by omega⟩))) with h' | h' <;> omega
    have hbd : b ≤ d := by
      rcases (ms (b - 1)).1 ((hm (b - 1)).1 ((mr (b - 1)).2 (Or.inr ⟨Int.le_sub_one_of_lt hb0, Int.sub_one_lt_of_le (Int.le_refl b)⟩))) with h | h <;> omega
    have hdb : d ≤ b := by
      rcases (mr (d - 1)).1 ((hm (d - 1)).2 ((ms (d - 1)).2 (Or.inr ⟨Int.le_sub_one_of_lt hd0, Int.sub_one_lt_of_le (Int.le_refl d)⟩))) with h | h <;> omega
    have e1 : a = c := by omega
    have e2 : b = d := by omega
    simp [coords, Loc.parts, e1, e2]
theorem locKey_two (a b L : Int) : locKey (.compound [⟨a, L, .fwd⟩, ⟨0, b, .fwd⟩]) = (a, b) := by
  simp [locKey, featStart, featEnd, Loc.parts, Loc.strand]

theorem locKey_of_coords {L : Int} {r s : Loc} (hr : Shaped L r) (hs : Shaped L s) (h : coords r = coords s) :
    locKey r = locKey s := by
  rcases hr with ⟨p, rfl⟩ | ⟨a, b, rfl⟩ <;> rcases hs with ⟨q, rfl⟩ | ⟨c, d, rfl⟩
  · exact coords_simple_key h
  · simp [coords, Loc.parts] at h
  · simp [coords, Loc.parts] at h
  · simp only [coords, Loc.parts, List.map_cons, List.map_nil, List.cons.injEq, Prod.mk.injEq, and_true] at h
    rw [locKey_two, locKey_two, h.1, h.2.2]

theorem coords_of_locKey {L : Int} {r s : Loc} (hr : Shaped L r) (hs : Shaped L s)
    (hwr : areaWF L L r = true) (hws : areaWF L L s = true) (h : locKey r = locKey s) : coords r = coords s := by
  rcases hr with ⟨p, rfl⟩ | ⟨a, b, rfl⟩ <;> rcases hs with ⟨q, rfl⟩ | ⟨c, d, rfl⟩
  · rw [locKey_simple, locKey_simple] at h
    injection h with h1 h2
    simp [coords, Loc.parts, h1, h2]
  · exfalso
    simp only [areaWF, Loc.parts, Bool.and_eq_true, decide_eq_true_eq] at hwr hws
    rw [locKey_simple, locKey_two] at h
    injection h with h1 h2
    omega
  · exfalso
    simp only [areaWF, Loc.parts, Bool.and_eq_true, decide_eq_true_eq] at hwr hws
    rw [locKey_simple, locKey_two] at h
    injection h with h1 h2
    omega
  · rw [locKey_two, locKey_two] at h
    injection h with h1 h2
    simp [coords, Loc.parts, h1, h2]

/-! ### the setting: a circular record whose protoclusters fit into less than half of it -/

/-- every protocluster's extent is a single part or an origin-spanning span of the record, and one
    span shorter than half the record covers them all -/
structure HalfRing (L : Int) (ps : List Proto) : Prop where
  pos : 0 < L
  valid : ∀ p, p ∈ ps → RingInStrict L p.loc
  half : ∃ c, areaWF L L c = true ∧ 2 * c.len < L ∧ ∀ p, p ∈ ps → ∀ i, p.loc.mem i = true → c.mem i = true

/-- the span of any group of the protoclusters: well-formed, of one of the two shapes, shorter than
    half the record, covering the members -/
theorem group_span {L : Int} {ps : List Proto} (H : HalfRing L ps) {ms : List Proto} {r : Loc}
    (s : Span (some L) ps ms r) :
    areaWF L L r = true ∧ Shaped L r ∧ 2 * r.len < L ∧ ∀ m, m ∈ ms → ∀ i, m.loc.mem i = true → r.mem i = true := by
  have hin : ∀ l ∈ ms.map (·.loc), RingInStrict L l := by
    intro l hl
    obtain ⟨m, hm, e⟩ := List.mem_map.1 hl
    rw [← e]; exact H.valid m (s.sub m hm)
  obtain ⟨r', hr', hwf, hsh, hcov⟩ := connect_ring_ok (ms.map (·.loc)) L (by simpa using s.ne) H.pos
    (fun l hl => (hin l hl).ringIn)
  rw [s.eq] at hr'; injection hr' with e; subst e
  obtain ⟨c, hcw, hcl, hcc⟩ := H.half
  have hs := ring_shortest (ms.map (·.loc)) L (by simpa using s.ne) H.pos hin c hcw hcl
    (fun l hl i hi => by
      obtain ⟨m, hm, e⟩ := List.mem_map.1 hl
      rw [← e] at hi
      exact hcc m (s.sub m hm) i hi) r s.eq
  refine ⟨hwf, hsh, by omega, ?_⟩
  intro m hm i hi
  exact hcov m.loc (List.mem_map.2 ⟨m, hm, rfl⟩) i hi

theorem Span.shortest {L : Int} {ps : List Proto} (H : HalfRing L ps) {ms : List Proto} {r c : Loc}
    (s : Span (some L) ps ms r) (hwf : areaWF L L c = true) (hlen : 2 * c.len < L)
    (hcov : ∀ m, m ∈ ms → ∀ i, m.loc.mem i = true → c.mem i = true) : ∀ i, r.mem i = true → c.mem i = true :=
  (ring_shortest (ms.map (·.loc)) L (by simpa using s.ne) H.pos
    (fun l hl => by obtain ⟨m, hm, e⟩ := List.mem_map.1 hl; rw [← e]; exact H.valid m (s.sub m hm)) c hwf hlen
    (fun l hl i hi => by obtain ⟨m, hm, e⟩ := List.mem_map.1 hl; rw [← e] at hi; exact hcov m hm i hi) r s.eq).2

/-- two groups whose spans cover each other have the same coordinates -/
theorem group_span_unique {L : Int} {ps : List Proto} (H : HalfRing L ps) {ms ns : List Proto} {r s : Loc}
    (sm : Span (some L) ps ms r) (sn : Span (some L) ps ns s)
    (h1 : ∀ m, m ∈ ns → ∀ i, m.loc.mem i = true → r.mem i = true)
    (h2 : ∀ m, m ∈ ms → ∀ i, m.loc.mem i = true → s.mem i = true) : coords r = coords s := by
  obtain ⟨rwf, rsh, rl, _⟩ := group_span H sm
  obtain ⟨swf, ssh, sl, _⟩ := group_span H sn
  exact coords_of_mem_eq rsh ssh rwf swf rl fun i => ⟨sm.shortest H swf sl h2 i, sn.shortest H rwf rl h1 i⟩

/-- the span is the shortest arc, so a group between `a` and `a ∪ b`, where `b`'s span has the bases of
    `a`'s, has those bases as well -/
theorem keyStable_halfRing {L : Int} {ps : List Proto} (H : HalfRing L ps) : KeyStable (some L) ps where
  union := by
    intro a b r la lb lr sa sb sr hk hsub hfrom
    obtain ⟨aw, ash, _, acov⟩ := group_span H sa
    obtain ⟨bw, bsh, _, bcov⟩ := group_span H sb
    obtain ⟨_, rsh, _, rcov⟩ := group_span H sr
    have hab : coords la = coords lb := coords_of_locKey ash bsh aw bw hk
    have h1 : ∀ m, m ∈ r → ∀ i, m.loc.mem i = true → la.mem i = true := fun m hm i hi =>
      (hfrom m hm).elim (fun h => acov m h i hi) (fun h => by rw [mem_of_coords hab i]; exact bcov m h i hi)
    exact (locKey_of_coords ash rsh (group_span_unique H sa sr h1 fun m hm => rcov m (hsub m hm))).symm
  coords := by
    intro a b la lb sa sb h
    exact locKey_of_coords (group_span H sa).2.1 (group_span H sb).2.1 h

end ASV.CC
