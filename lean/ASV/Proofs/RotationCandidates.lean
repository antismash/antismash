/-
  C07 helper lemmas: the neighbouring pass of candidate-cluster formation (C05's model of
  `_find_neighbouring`) groups the same protoclusters after every location has been re-indexed by a
  rotation — from C05's unconditional characterisation of the pass by chains of overlapping extents.
-/
import ASV.Proofs.RotationStages
import ASV.Proofs.Passes
namespace ASV.CC
open ASV ASV.CC.Spec

theorem Linked.map_sets {α β : Type} (g : α → β) {G : List (List α)} {a b : α} (h : Linked G a b) :
    Linked (G.map (·.map g)) (g a) (g b) := by
  induction h with
  | base hg ha hb => exact Linked.base (List.mem_map_of_mem hg) (List.mem_map_of_mem ha) (List.mem_map_of_mem hb)
  | trans _ _ ih1 ih2 => exact Linked.trans ih1 ih2

theorem Linked.of_map_sets {α β : Type} (g : α → β) (hinj : ∀ p q, g p = g q → p = q) {G : List (List α)} {x y : β}
    (h : Linked (G.map (·.map g)) x y) : ∃ a b, g a = x ∧ g b = y ∧ Linked G a b := by
  induction h with
  | base hg ha hb =>
    obtain ⟨grp, hgrp, rfl⟩ := List.mem_map.1 hg
    obtain ⟨a, ha', rfl⟩ := List.mem_map.1 ha
    obtain ⟨b, hb', rfl⟩ := List.mem_map.1 hb
    exact ⟨a, b, rfl, rfl, Linked.base hgrp ha' hb'⟩
  | trans _ _ ih1 ih2 =>
    obtain ⟨a, b, ea, eb, l1⟩ := ih1
    obtain ⟨b', c, eb', ec, l2⟩ := ih2
    have : b = b' := hinj b b' (by rw [eb, eb'])
    subst this
    exact ⟨a, c, ea, ec, Linked.trans l1 l2⟩

theorem mem_overlapGroups_rot {L k : Int} (hL : 0 < L) (units : List U) (f : U → U) (g : Proto → Proto)
    (hmem : ∀ u ∈ units, (f u).members = u.members.map g)
    (hok : ∀ u ∈ units, u.span.OK L ∧ (f u).span.OK L ∧ IsRot L k u.span (f u).span) (grp : List Proto) :
    grp ∈ overlapGroups (units.map f) ↔ ∃ grp0, grp0 ∈ overlapGroups units ∧ grp = grp0.map g := by
  simp only [mem_overlapGroups]
  constructor
  · rintro ⟨u', v', hb, ho, e⟩
    obtain ⟨u, v, hbf, rfl, rfl⟩ := before_of_map f hb
    obtain ⟨hu, hv⟩ := before_mem hbf
    obtain ⟨ou, ou', ru⟩ := hok u hu
    obtain ⟨ov, ov', rv⟩ := hok v hv
    rw [locationsOverlap_rot hL ou ov ou' ov' ru rv] at ho
    exact ⟨u.members ++ v.members, ⟨u, v, hbf, ho, rfl⟩, by rw [e, hmem u hu, hmem v hv, List.map_append]⟩
  · rintro ⟨grp0, ⟨u, v, hbf, ho, rfl⟩, rfl⟩
    obtain ⟨hu, hv⟩ := before_mem hbf
    obtain ⟨ou, ou', ru⟩ := hok u hu
    obtain ⟨ov, ov', rv⟩ := hok v hv
    refine ⟨f u, f v, before_map f hbf, ?_, by rw [hmem u hu, hmem v hv, List.map_append]⟩
    rw [locationsOverlap_rot hL ou ov ou' ov' ru rv]
    exact ho

theorem linked_overlapGroups_rot {L k : Int} (hL : 0 < L) (units : List U) (f : U → U) (g : Proto → Proto)
    (hinj : ∀ p q, g p = g q → p = q) (hmem : ∀ u ∈ units, (f u).members = u.members.map g)
    (hok : ∀ u ∈ units, u.span.OK L ∧ (f u).span.OK L ∧ IsRot L k u.span (f u).span) (a b : Proto) :
    Linked (overlapGroups (units.map f)) (g a) (g b) ↔ Linked (overlapGroups units) a b := by
  have hgroups := mem_overlapGroups_rot hL units f g hmem hok
  constructor
  · intro h
    have h' : Linked ((overlapGroups units).map (·.map g)) (g a) (g b) := by
      refine linked_of_cover ?_ h
      intro grp hgrp
      obtain ⟨grp0, h0, rfl⟩ := (hgroups grp).1 hgrp
      exact ⟨grp0.map g, List.mem_map_of_mem h0, fun x hx => hx⟩
    obtain ⟨a', b', ea, eb, hl⟩ := Linked.of_map_sets g hinj h'
    rw [hinj a' a ea, hinj b' b eb] at hl
    exact hl
  · intro h
    refine linked_of_cover ?_ (Linked.map_sets g h)
    intro grp hgrp
    obtain ⟨grp0, h0, rfl⟩ := List.mem_map.1 hgrp
    exact ⟨grp0.map g, (hgroups _).2 ⟨grp0, h0, rfl⟩, fun x hx => hx⟩

end ASV.CC
