/-
  C10 helper theory: CPython's small-list sort (`pySort`: initial run + binary insertion) and
  `bisect_left/right` under a comparison that is a strict weak order on the elements involved.
    * `bisectGo_eq_loop` / `bisectLGo_eq_loop`: the two loops are `Bisect.loop`, so the binary search finds the
      partition point (`bisectR_partition` / `bisectL_partition`) and a step of `binarysort` on a sorted list is the
      linear insertion `Refine.insertBy lt` (`binInsert_eq_insertBy`)
    * `pySort_eq_sortBy`: `pySort lt l = Refine.sortBy lt l.reverse`, the insertion sort that puts each element behind
      its ties; hence `pySort_spec`: the result is a rearrangement, in non-descending order, and keeps the relative
      order of elements that compare equal
    * `sorted_unique`: a list is determined by its order-equivalence classes (each in its own order)
      once it is sorted — so any two sorted arrangements with the same tie order are equal
-/
import ASV.Model.Serial
import ASV.Proofs.SortTheory

/-! for Proofs/Bisect -/

/-- a list put together from a part passing the test and a part failing it is partitioned at the seam -/
theorem ASV.Bisect.partitionedAt_append {α} (keep : α → Bool) (l1 l2 : List α) (h1 : ∀ e ∈ l1, keep e = true)
    (h2 : ∀ e ∈ l2, keep e = false) : PartitionedAt keep (l1 ++ l2) l1.length := by
  refine ⟨List.length_append ▸ Nat.le_add_right _ _, fun i y hy hi => ?_, fun i y hy hi => ?_⟩
  · rw [List.getElem?_append_left hi] at hy
    exact h1 y (List.mem_of_getElem? hy)
  · rw [List.getElem?_append_right hi] at hy
    exact h2 y (List.mem_of_getElem? hy)

/-! for Proofs/SortTheory -/

/-- inserting further elements one by one continues the sort (the model's `foldl` sorts; the second phase of
    `binarysort`) -/
theorem ASV.Refine.foldl_insertBy {α : Type} (c : α → α → Bool) : ∀ rem l : List α,
    rem.foldl (fun acc x => insertBy c x acc) (sortBy c l) = sortBy c (rem.reverse ++ l)
  | [], _ => rfl
  | x :: rem, l => by
    rw [List.foldl_cons, ← sortBy, foldl_insertBy c rem (x :: l), List.reverse_cons, List.append_assoc]; rfl

namespace ASV.Serial
open ASV

variable {α : Type}

/-- non-descending for `lt`: no later element is smaller than an earlier one -/
def Sorted (lt : α → α → Bool) (l : List α) : Prop := l.Pairwise (fun a b => lt b a = false)

/-- strict weak order on the elements satisfying `S` -/
structure SWO (lt : α → α → Bool) (S : α → Prop) : Prop where
  asymm : ∀ a b, S a → S b → lt a b = true → lt b a = false
  negTrans : ∀ a b c, S a → S b → S c → lt a b = false → lt b c = false → lt a c = false

/-- neither is smaller: the two compare equal -/
def eqv (lt : α → α → Bool) (a b : α) : Bool := !lt a b && !lt b a

namespace SWO
variable {lt : α → α → Bool} {S : α → Prop}

theorem irrefl (h : SWO lt S) {a : α} (ha : S a) : lt a a = false := by
  cases hlt : lt a a
  · rfl
  · have := h.asymm a a ha ha hlt; rw [hlt] at this; cases this

theorem trans (h : SWO lt S) {a b c : α} (ha : S a) (hb : S b) (hc : S c)
    (h1 : lt a b = true) (h2 : lt b c = true) : lt a c = true := by
  cases hac : lt a c
  · have := h.negTrans a c b ha hc hb hac (h.asymm b c hb hc h2)
    rw [h1] at this; cases this
  · rfl

theorem mono (h : SWO lt S) {T : α → Prop} (hsub : ∀ a, T a → S a) : SWO lt T :=
  ⟨fun a b ha hb => h.asymm a b (hsub a ha) (hsub b hb),
   fun a b c ha hb hc => h.negTrans a b c (hsub a ha) (hsub b hb) (hsub c hc)⟩

theorem eqv_refl (h : SWO lt S) {a : α} (ha : S a) : eqv lt a a = true := by
  simp [eqv, h.irrefl ha]

theorem eqv_symm (a b : α) : eqv lt a b = eqv lt b a := by
  simp [eqv, Bool.and_comm]

theorem eqv_trans (h : SWO lt S) {a b c : α} (ha : S a) (hb : S b) (hc : S c)
    (h1 : eqv lt a b = true) (h2 : eqv lt b c = true) : eqv lt a c = true := by
  simp only [eqv, Bool.and_eq_true, Bool.not_eq_true'] at h1 h2 ⊢
  exact ⟨h.negTrans a b c ha hb hc h1.1 h2.1, h.negTrans c b a hc hb ha h2.2 h1.2⟩

end SWO

/-! ### bisection -/

/-- both model loops are the literal `bisect` loop at their test -/
theorem bisectGo_eq_loop (lt : α → α → Bool) (x : α) (l : List α) : ∀ fuel lo hi,
    bisectGo lt x l fuel lo hi = Bisect.loop (fun e => !lt x e) l fuel lo hi
  | 0, _, _ => rfl
  | fuel + 1, lo, hi => by
    rw [bisectGo, Bisect.loop]
    split
    · -- the two `match l[mid]?` are different auxiliary constants: compare them on the cases
      dsimp only
      cases l[(lo + hi) / 2]? with
      | none => rfl
      | some e =>
        simp only [bisectGo_eq_loop lt x l fuel]
        cases lt x e <;> rfl
    · rfl

theorem bisectLGo_eq_loop (lt : α → α → Bool) (x : α) (l : List α) : ∀ fuel lo hi,
    bisectLGo lt x l fuel lo hi = Bisect.loop (fun e => lt e x) l fuel lo hi
  | 0, _, _ => rfl
  | fuel + 1, lo, hi => by
    rw [bisectLGo, Bisect.loop]
    split
    · dsimp only
      cases l[(lo + hi) / 2]? with
      | none => rfl
      | some e => simp only [bisectLGo_eq_loop lt x l fuel]
    · rfl

/-- `bisect_right` returns the boundary between the elements `x` is not smaller than and those it is smaller than -/
theorem bisectR_partition (lt : α → α → Bool) (x : α) (l1 l2 : List α)
    (h1 : ∀ e ∈ l1, lt x e = false) (h2 : ∀ e ∈ l2, lt x e = true) :
    bisectR lt x (l1 ++ l2) = l1.length := by
  rw [bisectR, bisectGo_eq_loop]
  exact Bisect.loop_eq _ _ _
    (Bisect.partitionedAt_append _ l1 l2 (fun e he => by rw [h1 e he]; rfl) (fun e he => by rw [h2 e he]; rfl))
    _ 0 _ (Nat.zero_le _) (List.length_append ▸ Nat.le_add_right _ _) (Nat.le_refl _) (Nat.le_succ _)

/-- `bisect_left` returns the boundary between the elements smaller than `x` and the others -/
theorem bisectL_partition (lt : α → α → Bool) (x : α) (l1 l2 : List α)
    (h1 : ∀ e ∈ l1, lt e x = true) (h2 : ∀ e ∈ l2, lt e x = false) :
    bisectL lt x (l1 ++ l2) = l1.length := by
  rw [bisectL, bisectLGo_eq_loop]
  exact Bisect.loop_eq _ _ _ (Bisect.partitionedAt_append _ l1 l2 h1 h2)
    _ 0 _ (Nat.zero_le _) (List.length_append ▸ Nat.le_add_right _ _) (Nat.le_refl _) (Nat.le_succ _)

theorem insertAt_append (l1 l2 : List α) (x : α) : insertAt (l1 ++ l2) l1.length x = l1 ++ x :: l2 := by
  simp [insertAt]

/-- an element that is smaller than nothing present goes to the end (`bisect_right`) -/
theorem bisectR_end (lt : α → α → Bool) (x : α) (l : List α) (h : ∀ e ∈ l, lt x e = false) :
    insertAt l (bisectR lt x l) x = l ++ [x] := by
  have := bisectR_partition lt x l [] h (by simp)
  rw [List.append_nil] at this
  rw [this]; simpa using insertAt_append l [] x

/-- an element that nothing present is smaller than goes to the front (`bisect_left`) -/
theorem bisectL_front (lt : α → α → Bool) (x : α) (l : List α) (h : ∀ e ∈ l, lt e x = false) :
    insertAt l (bisectL lt x l) x = x :: l := by
  have := bisectL_partition lt x [] l (by simp) h
  rw [List.nil_append] at this
  rw [this]; simp [insertAt]

end ASV.Serial

namespace ASV.Serial
open ASV
variable {α : Type} {lt : α → α → Bool} {S : α → Prop}

/-! ### insertion at the partition point keeps the list sorted and stable -/

/-- in a sorted list, `x` is smaller than everything behind the first element it is smaller than -/
theorem Sorted.lt_dropWhile (h : SWO lt S) (x : α) (hx : S x) (l : List α) (hl : ∀ e ∈ l, S e) (hs : Sorted lt l) :
    ∀ y ∈ l.dropWhile (fun e => !lt x e), lt x y = true := by
  have := Bisect.dropWhile_fails (fun e => !lt x e) hs fun a ha b hb hab hxa => by
    cases hxb : lt x b
    · rw [h.negTrans x b a hx (hl b hb) (hl a ha) hxb hab] at hxa; cases hxa
    · rfl
  exact fun y hy => Bool.not_eq_eq_eq_not.1 (this y hy)

/-- on a sorted list one step of `binarysort` is the linear insertion: `bisect_right` finds the first element `x` is
    smaller than -/
theorem binInsert_eq_insertBy (h : SWO lt S) (x : α) (hx : S x) (l : List α) (hl : ∀ e ∈ l, S e) (hs : Sorted lt l) :
    binInsert lt l x = Refine.insertBy lt x l := by
  rw [binInsert, insertAt, bisectR, bisectGo_eq_loop, Refine.insertAt_loop_eq _ x l
    (fun y hy => Bool.not_eq_eq_eq_not.2 (hs.lt_dropWhile h x hx l hl y hy)) _ (Nat.le_succ _)]
  exact Refine.insertBy_congr x l fun y _ => Bool.not_not _

/-- so the second phase of `pySort`, started on a sorted list, is the insertion sort's fold -/
theorem foldl_binInsert_eq (h : SWO lt S) : ∀ (rem acc : List α), Sorted lt acc → (∀ e ∈ acc, S e) → (∀ e ∈ rem, S e) →
    rem.foldl (binInsert lt) acc = rem.foldl (fun a x => Refine.insertBy lt x a) acc
  | [], _, _, _, _ => rfl
  | x :: rem, acc, hs, hA, hR => by
    have hx : S x := hR x List.mem_cons_self
    rw [List.foldl_cons, List.foldl_cons, binInsert_eq_insertBy h x hx acc hA hs]
    exact foldl_binInsert_eq h rem _ (Refine.insertBy_sorted_strict h.asymm h.negTrans x hx acc hA hs)
      (fun z hz => ((Refine.mem_insertBy lt).1 hz).elim (fun e => e ▸ hx) (hA z))
      (fun z hz => hR z (List.mem_cons_of_mem _ hz))

/-- the strict insertion sort puts each element behind its ties, so on the reversed list it keeps every tie class in
    its order -/
theorem sortBy_filter_eqv (h : SWO lt S) (a : α) (ha : S a) : ∀ l : List α, (∀ e ∈ l, S e) →
    (Refine.sortBy lt l).filter (eqv lt a) = l.reverse.filter (eqv lt a)
  | [], _ => rfl
  | x :: l, hl => by
    have hx : S x := hl x List.mem_cons_self
    have hl' : ∀ e ∈ l, S e := fun e he => hl e (List.mem_cons_of_mem _ he)
    have hm : ∀ e ∈ Refine.sortBy lt l, S e := fun e he => hl' e ((Refine.mem_sortBy lt).1 he)
    have hs : Sorted lt (Refine.sortBy lt l) := Refine.sortBy_sorted_strict h.asymm h.negTrans l hl'
    -- an element of `x`'s class behind `x`'s place would be one `x` is smaller than
    have hback : eqv lt a x = true → ∀ y ∈ (Refine.sortBy lt l).dropWhile (fun y => !lt x y), eqv lt a y = false := by
      intro hax y hy
      cases hay : eqv lt a y
      · rfl
      · have := h.eqv_trans hx ha (hm y (List.dropWhile_subset _ hy)) (SWO.eqv_symm a x ▸ hax) hay
        simp only [eqv, hs.lt_dropWhile h x hx _ hm y hy, Bool.not_true, Bool.false_and] at this
        cases this
    rw [Refine.sortBy, Refine.insertBy_filter_back (eqv lt a) x _ hback, List.filter_append,
      sortBy_filter_eqv h a ha l hl', List.reverse_cons, List.filter_append]

/-! ### the initial run -/

theorem takeAsc_append (lt : α → α → Bool) : ∀ (l : List α) (prev : α), (takeAsc lt prev l).1 ++ (takeAsc lt prev l).2 = l := by
  intro l
  induction l with
  | nil => intro _; rfl
  | cons x rest ih =>
    intro prev
    unfold takeAsc
    by_cases hx : lt x prev = true
    · simp [hx]
    · simp [hx, ih x]

/-- the descending run for `lt` is the non-descending run for its negation -/
theorem takeDesc_eq (lt : α → α → Bool) : ∀ (l : List α) (prev : α), takeDesc lt prev l = takeAsc (fun a b => !lt a b) prev l
  | [], _ => rfl
  | x :: rest, prev => by
    unfold takeDesc takeAsc
    cases lt x prev
    · rfl
    · simp only [takeDesc_eq lt rest x, Bool.not_true, if_true, Bool.false_eq_true, if_false]

theorem takeDesc_append (lt : α → α → Bool) (l : List α) (prev : α) : (takeDesc lt prev l).1 ++ (takeDesc lt prev l).2 = l := by
  rw [takeDesc_eq]
  exact takeAsc_append _ l prev

/-- the run `takeAsc` cuts off is non-descending from `prev` on.  Only this half of the order is used, so the lemma
    also serves the strictly descending run, which is the non-descending run of the negated comparison (`takeDesc_eq`) -/
theorem takeAsc_pairwise (negTrans : ∀ a b c, S a → S b → S c → lt a b = false → lt b c = false → lt a c = false) :
    ∀ (l : List α) (prev : α), S prev → (∀ e ∈ l, S e) →
      (prev :: (takeAsc lt prev l).1).Pairwise (fun a b => lt b a = false)
  | [], _, _, _ => List.pairwise_singleton _ _
  | x :: rest, prev, hp, hS => by
    rw [takeAsc]
    cases hx : lt x prev
    · have hxS : S x := hS x List.mem_cons_self
      have hrS : ∀ e ∈ rest, S e := fun e he => hS e (List.mem_cons_of_mem _ he)
      have ihx := takeAsc_pairwise negTrans rest x hxS hrS
      refine List.pairwise_cons.2 ⟨fun b hb => ?_, ihx⟩
      rcases List.mem_cons.1 hb with rfl | hb
      · exact hx
      · have hbS : S b := hrS b (takeAsc_append lt rest x ▸ List.mem_append_left _ hb)
        exact negTrans b x prev hbS hxS hp ((List.pairwise_cons.1 ihx).1 b hb) hx
    · exact List.pairwise_singleton _ _

/-- a strictly descending run: every later element is smaller than every earlier one -/
theorem takeDesc_desc (h : SWO lt S) (l : List α) (prev : α) (hp : S prev) (hS : ∀ e ∈ l, S e) :
    (prev :: (takeDesc lt prev l).1).Pairwise (fun a b => lt b a = true) := by
  rw [takeDesc_eq]
  refine (takeAsc_pairwise (lt := fun a b => !lt a b) (fun a b c ha hb hc h1 h2 => ?_) l prev hp hS).imp
    fun hab => Bool.not_eq_eq_eq_not.1 hab
  rw [Bool.not_eq_eq_eq_not] at h1 h2 ⊢
  exact h.trans ha hb hc h1 h2

/-! ### `pySort` -/

/-- binary insertion of `rem` into the sorted initial run -/
theorem foldl_binInsert_sortBy (h : SWO lt S) (run rem : List α) (hS : ∀ e ∈ run ++ rem, S e) :
    rem.foldl (binInsert lt) (Refine.sortBy lt run.reverse) = Refine.sortBy lt (run ++ rem).reverse := by
  have hrun : ∀ e ∈ run.reverse, S e := fun e he => hS e (List.mem_append_left _ (List.mem_reverse.1 he))
  rw [foldl_binInsert_eq h rem _ (Refine.sortBy_sorted_strict h.asymm h.negTrans _ hrun)
      (fun e he => hrun e ((Refine.mem_sortBy lt).1 he)) (fun e he => hS e (List.mem_append_right _ he)),
    Refine.foldl_insertBy, ← List.reverse_append]

/-- on a strict weak order CPython's small-list sort is the insertion sort that puts each element behind its ties:
    the initial run, reversed when descending, is already that sort of itself -/
theorem pySort_eq_sortBy (l : List α) (h : SWO lt (· ∈ l)) : pySort lt l = Refine.sortBy lt l.reverse := by
  match l, h with
  | [], _ => rfl
  | [x], _ => rfl
  | x :: y :: rest, h =>
    have hx : x ∈ x :: y :: rest := List.mem_cons_self
    rw [pySort]
    cases hyx : lt y x
    · -- non-descending start
      have happ := takeAsc_append lt rest y
      have hsorted : Sorted lt (x :: y :: (takeAsc lt y rest).1) := by
        have := takeAsc_pairwise h.negTrans (y :: rest) x hx fun e he => List.mem_cons_of_mem _ he
        rwa [takeAsc, hyx, if_neg Bool.false_ne_true] at this
      simp only [Bool.false_eq_true, if_false]
      rw [← List.reverse_reverse (x :: y :: (takeAsc lt y rest).1),
        ← Refine.sortBy_of_pairwise_gt (List.pairwise_reverse.2 hsorted),
        foldl_binInsert_sortBy h _ _ (by simp only [List.cons_append, happ]; exact fun _ he => he)]
      simp only [List.cons_append, happ]
    · -- strictly descending start
      have happ := takeDesc_append lt rest y
      have hd : (x :: y :: (takeDesc lt y rest).1).Pairwise (fun a b => lt b a = true) := by
        have := takeDesc_desc h (y :: rest) x hx fun e he => List.mem_cons_of_mem _ he
        rwa [takeDesc, hyx, if_pos rfl] at this
      simp only [if_true]
      rw [← Refine.sortBy_of_pairwise (List.pairwise_reverse.2 hd),
        foldl_binInsert_sortBy h _ _ (by simp only [List.cons_append, happ]; exact fun _ he => he)]
      simp only [List.cons_append, happ]

/-- on a strict weak order CPython's small-list sort returns a sorted rearrangement that keeps the
    relative order of elements comparing equal -/
theorem pySort_spec (l : List α) (h : SWO lt (· ∈ l)) :
    Sorted lt (pySort lt l) ∧ (pySort lt l).Perm l ∧
    ∀ a ∈ l, (pySort lt l).filter (eqv lt a) = l.filter (eqv lt a) := by
  have hl : ∀ e ∈ l.reverse, e ∈ l := fun _ => List.mem_reverse.1
  rw [pySort_eq_sortBy l h]
  exact ⟨Refine.sortBy_sorted_strict h.asymm h.negTrans _ hl, (Refine.sortBy_perm lt _).trans (List.reverse_perm l),
    fun a ha => by rw [sortBy_filter_eqv h a ha _ hl, List.reverse_reverse]⟩

/-! ### a sorted list is determined by its tie classes -/

/-- induction on both lists at once: each head occurs in the other list, so neither is smaller than the other; both are
    then the first element of the same tie class, hence equal, and the tails are compared in the same way -/
theorem sorted_unique (h : SWO lt S) : ∀ (l1 l2 : List α), (∀ e ∈ l1, S e) → (∀ e ∈ l2, S e) →
    Sorted lt l1 → Sorted lt l2 → (∀ a, S a → l1.filter (eqv lt a) = l2.filter (eqv lt a)) → l1 = l2 := by
  intro l1
  induction l1 with
  | nil =>
    intro l2 _ h2 _ _ hf
    cases l2 with
    | nil => rfl
    | cons y t =>
      have hy : S y := h2 y (by simp)
      have := hf y hy
      simp [h.eqv_refl hy] at this
  | cons x t1 ih =>
    intro l2 h1 h2 s1 s2 hf
    have hx : S x := h1 x (by simp)
    cases l2 with
    | nil =>
      have := hf x hx
      simp [h.eqv_refl hx] at this
    | cons y t2 =>
      have hy : S y := h2 y (by simp)
      have s1' := List.pairwise_cons.1 s1
      have s2' := List.pairwise_cons.1 s2
      -- y occurs in l1 and x occurs in l2
      have hy1 : y ∈ x :: t1 := by
        have : y ∈ (x :: t1).filter (eqv lt y) := by
          rw [hf y hy]; simp [h.eqv_refl hy]
        exact (List.mem_filter.1 this).1
      have hx2 : x ∈ y :: t2 := by
        have : x ∈ (y :: t2).filter (eqv lt x) := by
          rw [← hf x hx]; simp [h.eqv_refl hx]
        exact (List.mem_filter.1 this).1
      have hxy : x = y := by
        by_cases e : x = y
        · exact e
        · have hyx : lt y x = false := by
            rcases List.mem_cons.1 hy1 with e' | hm
            · exact absurd e'.symm e
            · exact s1'.1 y hm
          have hxy' : lt x y = false := by
            rcases List.mem_cons.1 hx2 with e' | hm
            · exact absurd e' e
            · exact s2'.1 x hm
          have hev : eqv lt x y = true := by simp [eqv, hyx, hxy']
          have := hf x hx
          simp only [List.filter_cons, h.eqv_refl hx, hev, if_true] at this
          injection this
      subst hxy
      congr 1
      apply ih t2 (fun e he => h1 e (List.mem_cons_of_mem _ he)) (fun e he => h2 e (List.mem_cons_of_mem _ he)) s1'.2 s2'.2
      intro a ha
      have := hf a ha
      simp only [List.filter_cons] at this
      cases hax : eqv lt a x
      · simpa [hax] using this
      · simp only [hax, if_true] at this
        injection this

/-- the elements of one class (`P`) keep their order through the sort when they were in order already -/
theorem pySort_filter_class (l : List α) (h : SWO lt (· ∈ l)) (P : α → Bool) (hs : Sorted lt (l.filter P)) :
    (pySort lt l).filter P = l.filter P := by
  obtain ⟨f1, f2, f3⟩ := pySort_spec l h
  apply sorted_unique h
  · intro e he; exact (f2.mem_iff).1 (List.mem_filter.1 he).1
  · intro e he; exact (List.mem_filter.1 he).1
  · exact List.Pairwise.sublist List.filter_sublist f1
  · exact hs
  · intro a ha
    rw [List.filter_filter, List.filter_filter]
    have e1 : (pySort lt l).filter (fun x => eqv lt a x && P x) = ((pySort lt l).filter (eqv lt a)).filter P := by
      rw [List.filter_filter]; congr 1; funext x; exact Bool.and_comm _ _
    have e2 : l.filter (fun x => eqv lt a x && P x) = (l.filter (eqv lt a)).filter P := by
      rw [List.filter_filter]; congr 1; funext x; exact Bool.and_comm _ _
    rw [e1, e2, f3 a ha]

end ASV.Serial
