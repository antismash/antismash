/-
  The invariant of every history of calls on a record
  (`add_cds_feature`, `add_<area>`, `clear_*`, the observing calls), and how it is carried over when new
  (gene, collection) links are entered (`InvCore.link`).
-/
import ASV.Proofs.LookupRec
import ASV.Proofs.SortTheory
namespace ASV.Lookup
open ASV

/-! ### inserting a gene keeps the list sorted -/

/-- `features.insert(bisect_right(features, cds), cds)` -/
def ins (fs : List Gene) (g : Gene) : List Gene :=
  fs.takeWhile (fun f => !locLt g.loc f.loc) ++ g :: fs.dropWhile (fun f => !locLt g.loc f.loc)

/-- the test `¬ g < f` of `bisect_right` is monotone along the order: in a sorted list it fails on the whole
    `dropWhile` part -/
theorem dropWhile_not_locLt_fails {fs : List Gene} (hs : Sorted fs) (g : Gene) :
    ∀ b ∈ fs.dropWhile (fun f => !locLt g.loc f.loc), (!locLt g.loc b.loc) = false :=
  Bisect.dropWhile_fails _ hs fun x _ y _ hxy hx => by
    cases hgy : locLt g.loc y.loc
    · rw [locLt_false_trans hgy hxy] at hx; cases hx
    · rfl

/-- `ins` is the insertion of `Refine.insertBy`, in its `takeWhile`/`dropWhile` form, with the order of locations -/
theorem ins_eq (fs : List Gene) (g : Gene) : ins fs g = Refine.insertBy (fun a b => locLt a.loc b.loc) g fs := by
  rw [ins, Refine.insertBy_eq_split]

theorem ins_sorted {fs : List Gene} (hs : Sorted fs) (g : Gene) : Sorted (ins fs g) := by
  rw [ins_eq]
  exact Refine.insertBy_sorted_strict (lt := fun a b : Gene => locLt a.loc b.loc) (S := fun _ => True) (fun _ _ _ _ => locLt_asymm)
    (fun _ _ _ _ _ _ => locLt_false_trans) g trivial fs (fun _ _ => trivial) hs

theorem mem_ins (fs : List Gene) (g x : Gene) : x ∈ ins fs g ↔ x ∈ fs ∨ x = g := by
  rw [ins_eq, Refine.mem_insertBy, or_comm]

/-! ### the newest-first list of `cds.region = …` assignments -/

/-- the value the newest assignment for `gid` gives -/
def ptr (l : List (Nat × Option Nat)) (gid : Nat) : Option Nat := ((l.find? fun x => x.1 == gid).map (·.2)).join

theorem regionOfGene_eq (r : Rec) (gid : Nat) : r.regionOfGene gid = ptr r.regionOf gid := rfl

theorem ptr_skip {pre old : List (Nat × Option Nat)} {gid : Nat} (h : ∀ x ∈ pre, x.1 ≠ gid) :
    ptr (pre ++ old) gid = ptr old gid := by
  have : pre.find? (fun x => x.1 == gid) = none := List.find?_eq_none.2 fun x hx => by simpa using h x hx
  simp only [ptr, List.find?_append, this, Option.none_or]

theorem ptr_hit {pre old : List (Nat × Option Nat)} {gid : Nat} {v : Option Nat}
    (hex : ∃ x ∈ pre, x.1 = gid) (hall : ∀ x ∈ pre, x.1 = gid → x.2 = v) : ptr (pre ++ old) gid = v := by
  obtain ⟨x, hx, e⟩ := hex
  cases hf : pre.find? (fun x => x.1 == gid) with
  | none => exact absurd (by simpa using e) (List.find?_eq_none.1 hf x hx)
  | some y =>
    simp only [ptr, List.find?_append, hf, Option.some_or, Option.map_some, Option.join_some]
    exact hall y (List.mem_of_find?_eq_some hf) (by simpa using List.find?_some hf)

/-! ### the invariant -/

/-- what an area handed to the record must satisfy: a well-formed location, and regions only at the top -/
def AreaOK (a : AreaT) : Prop := QueryOK a.loc ∧ ∀ d ∈ nodes a, d.kind = .region → d = a

/-- the part of the invariant that does not involve caches or the log.  `L` is what the spec says is alive
    (`liveAfter` of the calls so far), `ever` every collection handed to the record so far.
    `S` switches the two fields about definition sets (`defsSound`, `defsComplete`) on: it is `True` for the strict
    histories (`run`: a gene's annotations are rewritten only before any collection lists it, so the definition sets
    are decided by the current annotations — `run_inv`) and `False` for `runLoose` (rewrites at any time: the
    definition sets are what was decided when gene and protocluster met, described by `specDefsAfter` instead —
    `runLoose_inv`).  Every other field holds in both. -/
structure InvCore (S : Prop) (L : Live) (ever : List AreaT) (r : Rec) : Prop where
  genesLive : ∀ g, g ∈ r.genes ↔ g ∈ L.genes
  regionsEq : r.regions = L.regions
  protosEq : r.protos = L.protos
  candsEq : r.cands = L.cands
  subsEq : r.subs = L.subs
  liveEver : ∀ a ∈ registered r, a ∈ ever
  sorted : Sorted r.genes
  ok : GenesOK r.genes
  ids : r.genes.Pairwise fun a b => a.id ≠ b.id
  byName : ∀ x, x ∈ r.byName ↔ ∃ g ∈ r.genes, x = (g.id, g)
  byLoc : ∀ l, l ∈ r.byLoc ↔ ∃ g ∈ r.genes, g.loc = l
  areasOK : ∀ a ∈ ever, AreaOK a
  kindsR : ∀ a ∈ r.regions, a.kind = .region
  kindsO : ∀ a ∈ r.protos ++ r.cands ++ r.subs, a.kind ≠ .region
  disjoint : r.regions.Pairwise fun x y => overlapsWith y.loc x.loc = false
  membersSound : ∀ x ∈ r.members, ∃ g ∈ r.genes, ∃ d, Linked ever g d ∧ x = (d.id, g.id)
  membersComplete : ∀ g ∈ r.genes, ∀ d, Linked (registered r) g d → (d.id, g.id) ∈ r.members
  sectionsSound : ∀ x ∈ r.sections, ∃ g ∈ r.genes, ∃ d s, LinkedS ever g d s ∧ x = ((d.id, s), g.id)
  sectionsComplete : ∀ g ∈ r.genes, ∀ d s, LinkedS (registered r) g d s → ((d.id, s), g.id) ∈ r.sections
  cover : ∀ aid gid, (aid, gid) ∈ r.members ↔ ∃ s, ((aid, s), gid) ∈ r.sections
  defsSub : ∀ x ∈ r.defs, x ∈ r.members
  defsSound : S → ∀ x ∈ r.defs, ∃ g ∈ r.genes, ∃ d, Linked ever g d ∧ defines g d = true ∧ x = (d.id, g.id)
  defsComplete : S → ∀ g ∈ r.genes, ∀ d, Linked (registered r) g d → defines g d = true → (d.id, g.id) ∈ r.defs
  regionKeys : ∀ x ∈ r.regionOf, ∃ g ∈ r.genes, g.id = x.1
  regionPtr : ∀ g ∈ r.genes,
    (∀ a ∈ r.regions, containedBy g.loc a.loc = true → r.regionOfGene g.id = some a.id) ∧
    ((∀ a ∈ r.regions, containedBy g.loc a.loc = false) → r.regionOfGene g.id = none)

/-- the caches: whatever is marked clean holds the current value -/
structure InvCache (r : Rec) : Prop where
  cds : r.cdsCacheDirty = false → r.cdsCache = r.genes
  slot : ∀ x ∈ r.slotClean, ((r.slotVal.find? fun y => y.1 == x).map (·.2)) = some (r.section x.1 x.2)
  tuple : ∀ aid ∈ r.clean, ((r.tupleVal.find? fun y => y.1 == aid).map (·.2))
    = some [r.section aid .pre, r.section aid .cross, r.section aid .post]

structure Inv (S : Prop) (L : Live) (ever : List AreaT) (r : Rec) : Prop where
  core : InvCore S L ever r
  cache : InvCache r

theorem Inv.init (S : Prop) (len : Int) : Inv S {} [] { len := len } := by
  constructor
  · constructor <;> simp [registered, Sorted, GenesOK, Linked, LinkedS, Live.genes, Live.regions]
  · constructor <;> simp

/-! ### at most one region contains a gene -/

theorem pairwise_sym_mem {α} {R : α → α → Prop} (hsym : ∀ a b, R a b → R b a) :
    ∀ {l : List α}, l.Pairwise R → ∀ {a b : α}, a ∈ l → b ∈ l → a = b ∨ R a b
  | [], _, _, _, ha, _ => by simp at ha
  | x :: l, h, a, b, ha, hb => by
    obtain ⟨h1, h2⟩ := List.pairwise_cons.1 h
    rcases List.mem_cons.1 ha with rfl | ha'
    · rcases List.mem_cons.1 hb with rfl | hb'
      · exact Or.inl rfl
      · exact Or.inr (h1 b hb')
    · rcases List.mem_cons.1 hb with rfl | hb'
      · exact Or.inr (hsym _ _ (h1 a ha'))
      · exact pairwise_sym_mem hsym h2 ha' hb'

theorem gene_of_id {fs : List Gene} (hids : fs.Pairwise fun a b => a.id ≠ b.id) {g g' : Gene} (hg : g ∈ fs) (hg' : g' ∈ fs)
    (hid : g'.id = g.id) : g' = g :=
  (pairwise_sym_mem (fun _ _ h => h.symm) hids hg' hg).resolve_right (fun h => h hid)

theorem overlapsWith_comm (a b : Loc) : overlapsWith a b = overlapsWith b a := locationsOverlap_comm a b

/-- two locations that both contain a (non-empty) gene overlap -/
theorem overlap_of_both_contain {g a b : Loc} (hg : LocOK g) (ha : QueryOK a) (hb : QueryOK b)
    (h1 : containedBy g a = true) (h2 : containedBy g b = true) : overlapsWith b a = true := by
  obtain ⟨gp, hgp⟩ := List.exists_mem_of_ne_nil _ hg.1
  have hne := (hg.2.1 gp hgp).2
  simp only [containedBy, locationContainsOther, List.all_eq_true, List.any_eq_true, partContains,
    Bool.and_eq_true, decide_eq_true_eq] at h1 h2
  obtain ⟨ap, hap, h1⟩ := h1 gp hgp
  obtain ⟨bp, hbp, h2⟩ := h2 gp hgp
  rw [overlapsWith, locationsOverlap_iff b a (fun p hp => (hb.2 p hp).2) (fun p hp => (ha.2 p hp).2)]
  refine ⟨gp.lo, ?_, ?_⟩
  · simp only [Loc.mem, List.any_eq_true, Part.mem_iff]; exact ⟨bp, hbp, by omega, by omega⟩
  · simp only [Loc.mem, List.any_eq_true, Part.mem_iff]; exact ⟨ap, hap, by omega, by omega⟩

/-- at most one of a list of pairwise non-overlapping areas contains a given gene -/
theorem containing_unique {regions : List AreaT} (hd : regions.Pairwise fun x y => overlapsWith y.loc x.loc = false)
    (hq : ∀ a ∈ regions, QueryOK a.loc) {g : Gene} (hg : LocOK g.loc) {a b : AreaT} (ha : a ∈ regions) (hb : b ∈ regions)
    (hca : containedBy g.loc a.loc = true) (hcb : containedBy g.loc b.loc = true) : a = b := by
  rcases pairwise_sym_mem (fun x y h => (overlapsWith_comm _ _).trans h) hd ha hb with h | h
  · exact h
  · have := overlap_of_both_contain hg (hq a ha) (hq b hb) hca hcb
    rw [h] at this; cases this

theorem regions_sub_registered (r : Rec) : ∀ a ∈ r.regions, a ∈ registered r := by
  intro a ha; simp [registered, ha]

theorem ptr_none {l : List (Nat × Option Nat)} {gid : Nat} (h : ∀ x ∈ l, x.1 ≠ gid) : ptr l gid = none := by
  have := ptr_skip (pre := l) (old := []) h
  simpa [ptr] using this

/-- the two dictionaries refuse a gene exactly when a gene of the record has its location or its name -/
theorem InvCore.dict_free {S : Prop} {L : Live} {ever : List AreaT} {r : Rec} (c : InvCore S L ever r) (g : Gene) :
    (r.byLoc.contains g.loc = false ∧ (r.byName.any fun x => x.1 == g.id) = false) ↔
      ∀ f ∈ r.genes, f.loc ≠ g.loc ∧ f.id ≠ g.id := by
  rw [← Bool.not_eq_true, ← Bool.not_eq_true, List.contains_iff_mem, c.byLoc, List.any_eq_true]
  constructor
  · rintro ⟨h1, h2⟩ f hf
    exact ⟨fun e => h1 ⟨f, hf, e⟩, fun e => h2 ⟨(f.id, f), (c.byName _).2 ⟨f, hf, rfl⟩, beq_iff_eq.2 e⟩⟩
  · refine fun h => ⟨fun ⟨f, hf, e⟩ => (h f hf).1 e, fun ⟨x, hx, e⟩ => ?_⟩
    obtain ⟨f, hf, rfl⟩ := (c.byName x).1 hx
    exact (h f hf).2 (beq_iff_eq.1 e)

/-! ### entering new links -/

/-- the half of `InvCore` that speaks of the gene list, the two dictionaries and the record's lists of collections -/
structure InvLists (L : Live) (ever : List AreaT) (r : Rec) : Prop where
  genesLive : ∀ g, g ∈ r.genes ↔ g ∈ L.genes
  regionsEq : r.regions = L.regions
  protosEq : r.protos = L.protos
  candsEq : r.cands = L.cands
  subsEq : r.subs = L.subs
  liveEver : ∀ a ∈ registered r, a ∈ ever
  sorted : Sorted r.genes
  ok : GenesOK r.genes
  ids : r.genes.Pairwise fun a b => a.id ≠ b.id
  byName : ∀ x, x ∈ r.byName ↔ ∃ g ∈ r.genes, x = (g.id, g)
  byLoc : ∀ l, l ∈ r.byLoc ↔ ∃ g ∈ r.genes, g.loc = l
  areasOK : ∀ a ∈ ever, AreaOK a
  kindsR : ∀ a ∈ r.regions, a.kind = .region
  kindsO : ∀ a ∈ r.protos ++ r.cands ++ r.subs, a.kind ≠ .region
  disjoint : r.regions.Pairwise fun x y => overlapsWith y.loc x.loc = false

theorem InvLists.regionQ {L : Live} {ever : List AreaT} {r : Rec} (l : InvLists L ever r) : ∀ a ∈ r.regions, QueryOK a.loc :=
  fun a ha => (l.areasOK a (l.liveEver a (regions_sub_registered r a ha))).1

/-- a region-class collection a gene is linked to through the record's collections is one of the record's regions
    (regions are nobody's children) and contains the gene -/
theorem InvLists.region_of_linked {L : Live} {ever : List AreaT} {r : Rec} (l : InvLists L ever r) {g : Gene} {d : AreaT}
    {s : Section} (hl : LinkedS (registered r) g d s) (hk : d.kind = .region) :
    d ∈ r.regions ∧ containedBy g.loc d.loc = true := by
  obtain ⟨a, ha, hc, hda⟩ := hl
  have := (l.areasOK a (l.liveEver a ha)).2 d (downNodes_sound hc hda).2 hk
  subst this
  refine ⟨?_, hc⟩
  simp only [registered, List.mem_append] at ha
  rcases ha with ((ha | ha) | ha) | ha
  · exact ha
  · exact absurd hk (l.kindsO d (by simp [ha]))
  · exact absurd hk (l.kindsO d (by simp [ha]))
  · exact absurd hk (l.kindsO d (by simp [ha]))

theorem InvCore.lists {S : Prop} {L : Live} {ever : List AreaT} {r : Rec} (c : InvCore S L ever r) : InvLists L ever r :=
  { genesLive := c.genesLive, regionsEq := c.regionsEq, protosEq := c.protosEq, candsEq := c.candsEq, subsEq := c.subsEq,
    liveEver := c.liveEver, sorted := c.sorted, ok := c.ok, ids := c.ids, byName := c.byName, byLoc := c.byLoc,
    areasOK := c.areasOK, kindsR := c.kindsR, kindsO := c.kindsO, disjoint := c.disjoint }

/-- entering triples into the relations touches nothing the list half reads -/
theorem InvLists.of_eff {P Q : List (Gene × AreaT × Section)} {L : Live} {ever : List AreaT} {r r' : Rec}
    (l : InvLists L ever r) (h : Eff2 P Q r r') : InvLists L ever r' := by
  have hreg := h.registered
  obtain ⟨_, hg, hn, hl, _, _, hR, hP, hC, hS⟩ := h
  exact ⟨hg ▸ l.genesLive, hR ▸ l.regionsEq, hP ▸ l.protosEq, hC ▸ l.candsEq, hS ▸ l.subsEq, hreg ▸ l.liveEver,
    hg ▸ l.sorted, hg ▸ l.ok, hg ▸ l.ids, hn ▸ hg ▸ l.byName, hl ▸ hg ▸ l.byLoc, l.areasOK, hR ▸ l.kindsR,
    hP ▸ hC ▸ hS ▸ l.kindsO, hR ▸ l.disjoint⟩

/-- The step shared by `add_cds_feature` and the `add_<area>` methods: the links between the genes `Gs` and the
    collections `As` are entered.  `r0` is `r` with its list half updated (more genes or collections; `l` is
    established by the caller; the relations are untouched), `r'` is `r0` with the links entered.  If the links of
    `r0` are those of `r` and those between `Gs` and `As` (`hnew`), the invariant carries over. -/
theorem InvCore.link {S : Prop} {L L' : Live} {ever ever' : List AreaT} {r r0 r' : Rec} {Gs : List Gene} {As : List AreaT}
    (c : InvCore S L ever r) (l : InvLists L' ever' r0) (eff : Eff (links Gs As) r0 r')
    (hm : r0.members = r.members) (hs : r0.sections = r.sections) (hd : r0.defs = r.defs) (hro : r0.regionOf = r.regionOf)
    (hg : ∀ g ∈ r.genes, g ∈ r0.genes) (hR : ∀ a ∈ r.regions, a ∈ r0.regions) (hever : ∀ a ∈ ever, a ∈ ever')
    (hnew : ∀ g d s, (g ∈ r0.genes ∧ LinkedS (registered r0) g d s) ↔
      (g ∈ r.genes ∧ LinkedS (registered r) g d s) ∨ (g ∈ Gs ∧ LinkedS As g d s)) :
    InvCore S L' ever' r' := by
  have l := l.of_eff eff
  have hg : ∀ g ∈ r.genes, g ∈ r'.genes := fun g h => eff.genes ▸ hg g h
  have hR : ∀ a ∈ r.regions, a ∈ r'.regions := fun a h => eff.regions ▸ hR a h
  have hm := hm ▸ eff.members
  have hs := hs ▸ eff.sections
  have hd := hd ▸ eff.defs
  have hro := hro ▸ eff.regionOf
  -- every triple entered is a link of `r'`, and every link of `r'` is a link of `r` or was entered
  have hPs : ∀ t ∈ links Gs As, t.1 ∈ r'.genes ∧ LinkedS (registered r') t.1 t.2.1 t.2.2 := fun t ht => by
    rw [eff.genes, eff.registered]
    exact (hnew _ _ _).2 (Or.inr (mem_links.1 ht))
  have hPc : ∀ g ∈ r'.genes, ∀ d s, LinkedS (registered r') g d s →
      (g ∈ r.genes ∧ LinkedS (registered r) g d s) ∨ (g, d, s) ∈ links Gs As := fun g hg' d s hl => by
    rw [eff.genes] at hg'
    rw [eff.registered] at hl
    exact ((hnew g d s).1 ⟨hg', hl⟩).imp id mem_links.2
  have hPe : ∀ t ∈ links Gs As, LinkedS ever' t.1 t.2.1 t.2.2 := fun t ht => (hPs t ht).2.mono l.liveEver
  obtain ⟨pre, hpre_eq, hpre⟩ := hro
  -- a back link entered now: its gene is in the record, its region is one of the record's and contains the gene
  have hpre_val : ∀ x ∈ pre, ∃ g ∈ r'.genes, ∃ a ∈ r'.regions, containedBy g.loc a.loc = true ∧ x = (g.id, some a.id) := by
    intro x hx
    obtain ⟨t, ht, hk, rfl⟩ := (hpre x).1 hx
    obtain ⟨h1, h2⟩ := l.region_of_linked (hPs t ht).2 hk
    exact ⟨t.1, (hPs t ht).1, t.2.1, h1, h2, rfl⟩
  refine { genesLive := l.genesLive, regionsEq := l.regionsEq, protosEq := l.protosEq, candsEq := l.candsEq,
           subsEq := l.subsEq, liveEver := l.liveEver, sorted := l.sorted, ok := l.ok, ids := l.ids, byName := l.byName,
           byLoc := l.byLoc, areasOK := l.areasOK, kindsR := l.kindsR, kindsO := l.kindsO, disjoint := l.disjoint,
           membersSound := ?_, membersComplete := ?_, sectionsSound := ?_, sectionsComplete := ?_, cover := ?_,
           defsSub := ?_, defsSound := ?_, defsComplete := ?_, regionKeys := ?_, regionPtr := ?_ }
  · intro x hx
    rcases (hm x).1 hx with hx | ⟨t, ht, rfl⟩
    · obtain ⟨g, hg', d, hl, e⟩ := c.membersSound x hx
      exact ⟨g, hg g hg', d, hl.mono hever, e⟩
    · exact ⟨t.1, (hPs t ht).1, t.2.1, ⟨t.2.2, hPe t ht⟩, rfl⟩
  · rintro g hg' d ⟨s, hl⟩
    rcases hPc g hg' d s hl with ⟨h1, h2⟩ | h
    · exact (hm _).2 (Or.inl (c.membersComplete g h1 d ⟨s, h2⟩))
    · exact (hm _).2 (Or.inr ⟨(g, d, s), h, rfl⟩)
  · intro x hx
    rcases (hs x).1 hx with hx | ⟨t, ht, rfl⟩
    · obtain ⟨g, hg', d, s, hl, e⟩ := c.sectionsSound x hx
      exact ⟨g, hg g hg', d, s, hl.mono hever, e⟩
    · exact ⟨t.1, (hPs t ht).1, t.2.1, t.2.2, hPe t ht, rfl⟩
  · intro g hg' d s hl
    rcases hPc g hg' d s hl with ⟨h1, h2⟩ | h
    · exact (hs _).2 (Or.inl (c.sectionsComplete g h1 d s h2))
    · exact (hs _).2 (Or.inr ⟨(g, d, s), h, rfl⟩)
  · intro aid gid
    rw [hm]
    simp only [hs, c.cover]
    constructor
    · rintro (⟨s, h⟩ | ⟨t, ht, e⟩)
      · exact ⟨s, Or.inl h⟩
      · injection e with e1 e2
        exact ⟨t.2.2, Or.inr ⟨t, ht, by rw [e1, e2]⟩⟩
    · rintro ⟨s, h | ⟨t, ht, e⟩⟩
      · exact Or.inl ⟨s, h⟩
      · injection e with e1 e2
        injection e1 with e1 _
        exact Or.inr ⟨t, ht, by rw [e1, e2]⟩
  · intro x hx
    rcases (hd x).1 hx with hx | ⟨t, ht, _, e⟩
    · exact (hm x).2 (Or.inl (c.defsSub x hx))
    · exact (hm x).2 (Or.inr ⟨t, ht, e⟩)
  · intro hS x hx
    rcases (hd x).1 hx with hx | ⟨t, ht, hdf, rfl⟩
    · obtain ⟨g, hg', d, hl, hdf, e⟩ := c.defsSound hS x hx
      exact ⟨g, hg g hg', d, hl.mono hever, hdf, e⟩
    · exact ⟨t.1, (hPs t ht).1, t.2.1, ⟨t.2.2, hPe t ht⟩, hdf, rfl⟩
  · rintro hS g hg' d ⟨s, hl⟩ hdf
    rcases hPc g hg' d s hl with ⟨h1, h2⟩ | h
    · exact (hd _).2 (Or.inl (c.defsComplete hS g h1 d ⟨s, h2⟩ hdf))
    · exact (hd _).2 (Or.inr ⟨(g, d, s), h, hdf, rfl⟩)
  · intro x hx
    rw [hpre_eq] at hx
    rcases List.mem_append.1 hx with hx | hx
    · obtain ⟨g, hg', _, _, _, rfl⟩ := hpre_val x hx
      exact ⟨g, hg', rfl⟩
    · obtain ⟨g, hg', e⟩ := c.regionKeys x hx
      exact ⟨g, hg g hg', e⟩
  · intro g hg'
    simp only [regionOfGene_eq, hpre_eq]
    by_cases hnew : ∃ x ∈ pre, x.1 = g.id
    · -- the gene got a back link now: to a region containing it, hence to the only one
      obtain ⟨x, hx, hxg⟩ := hnew
      obtain ⟨g0, hg0, a, ha, hca, rfl⟩ := hpre_val x hx
      have := gene_of_id l.ids hg' hg0 hxg
      subst this
      have hptr : ptr (pre ++ r.regionOf) g0.id = some a.id := by
        refine ptr_hit ⟨_, hx, rfl⟩ fun y hy hyg => ?_
        obtain ⟨g1, hg1, b, hb, hcb, rfl⟩ := hpre_val y hy
        have := gene_of_id l.ids hg' hg1 hyg
        subst this
        rw [containing_unique l.disjoint l.regionQ (l.ok g1 hg') hb ha hcb hca]
      refine ⟨fun b hb hcb => ?_, fun hnone => ?_⟩
      · rw [hptr, containing_unique l.disjoint l.regionQ (l.ok g0 hg') hb ha hcb hca]
      · rw [hnone a ha] at hca; cases hca
    · -- no new back link: the regions containing the gene are old ones, and so is the gene if there is one
      rw [ptr_skip (fun x hx e => hnew ⟨x, hx, e⟩)]
      have hold : ∀ a ∈ r'.regions, containedBy g.loc a.loc = true → g ∈ r.genes ∧ a ∈ r.regions := by
        intro a ha hca
        have hl : LinkedS (registered r') g a (ownSection a g none) :=
          ⟨a, regions_sub_registered r' a ha, hca, downNodes_self g none a⟩
        rcases hPc g hg' a _ hl with ⟨h1, h2⟩ | h
        · exact ⟨h1, (c.lists.region_of_linked h2 (l.kindsR a ha)).1⟩
        · exact absurd ⟨_, (hpre _).2 ⟨_, h, l.kindsR a ha, rfl⟩, rfl⟩ hnew
      by_cases hgo : g ∈ r.genes
      · obtain ⟨p1, p2⟩ := c.regionPtr g hgo
        simp only [regionOfGene_eq] at p1 p2
        exact ⟨fun a ha hca => p1 a (hold a ha hca).2 hca, fun hnone => p2 fun a ha => hnone a (hR a ha)⟩
      · have hnone : ptr r.regionOf g.id = none := by
          refine ptr_none fun x hx e => hgo ?_
          obtain ⟨f, hf, e'⟩ := c.regionKeys x hx
          rw [← gene_of_id l.ids hg' (hg f hf) (e'.trans e)]; exact hf
        exact ⟨fun a ha hca => absurd (hold a ha hca).1 hgo, fun _ => hnone⟩

/-- adding entries never invalidates a clean cache: clean ones were not touched -/
theorem Eff2.cache {P Q : List (Gene × AreaT × Section)} {r r' : Rec} (h : Eff2 P Q r r') (c : InvCache r) : InvCache r' := by
  constructor
  · rw [h.cdsCacheDirty, h.cdsCache, h.genes]; exact c.cds
  · intro x hx
    obtain ⟨h1, h2⟩ := (h.slotClean x).1 hx
    rw [h.slotVal, c.slot x h1, h.sectionSame x.1 x.2 (fun t ht => h2 t ht)]
  · intro aid ha
    obtain ⟨h1, h2⟩ := (h.clean aid).1 ha
    have e : ∀ s, r'.section aid s = r.section aid s := fun s =>
      h.sectionSame aid s (fun t ht e => h2 t ht (by injection e))
    rw [h.tupleVal, c.tuple aid h1, e, e, e]

end ASV.Lookup
