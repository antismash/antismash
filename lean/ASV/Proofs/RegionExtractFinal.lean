/-
  C12: assembling `extract_reloads`: under `wfInput` and `consistent` the written file is numbered as a loading
  record numbers it, all its references by number resolve, its `core_location` texts read back to the cores, and
  the features references point at are the images of the original referents.
-/
import ASV.Proofs.RegionExtractReload
import ASV.Proofs.LocString
namespace ASV.RegionExtract
open ASV

/-- what `_adjust_protocluster` makes of a core location: it covers the same bases -/
theorem core_offset (rd : RegionData) (L : Int) (core : Loc)
    (hplain : rd.crossesOrigin = false → 0 ≤ rd.start ∧ rd.end ≤ L)
    (hcross : rd.crossesOrigin = true → 0 < rd.end ∧ rd.end ≤ rd.start ∧ rd.start < L)
    (hshape : areaShape L rd core = true) (hparts : ∀ p ∈ core.parts, PartIn L p)
    (hin : insideRegion L rd core = true) :
    ∃ newLoc, offsetLocation core (-rd.start) L = .ok newLoc ∧ newLoc.parts ≠ [] ∧ SameBases L rd core newLoc := by
  have hne := areaShape_parts L rd core hshape
  -- forward parts; as long as the record only when it covers every base
  have hrot : (∀ p ∈ core.parts, p.strand = .fwd) ∧ (core.len = L → ∀ j, 0 ≤ j → j < L → core.mem j = true) := by
    rcases areaShape_unpack L rd core hshape with ⟨lo, hi, rfl⟩ | ⟨x, y, rfl, _, hyx, _, _⟩
    · refine ⟨by simp [Loc.parts], fun hlen j h0 h1 => ?_⟩
      have hp := hparts ⟨lo, hi, .fwd⟩ (by simp [Loc.parts])
      unfold PartIn at hp
      simp only [Loc.len, Loc.parts, Part.len, List.map_cons, List.map_nil, List.sum_cons, List.sum_nil] at hlen
      rw [mem_simple]
      simp only at hp ⊢
      omega
    · exact ⟨by simp [Loc.parts], two_whole _ _ x y L hyx (.inl ⟨rfl, rfl, rfl, rfl⟩)⟩
  -- the region starts inside the record: it holds a base of the core
  have hst : 0 ≤ rd.start ∧ rd.start < L := by
    cases hc : rd.crossesOrigin with
    | true => have := hcross hc; omega
    | false =>
      obtain ⟨p0, hp0⟩ := List.exists_mem_of_ne_nil _ hne
      have hp := hparts p0 hp0
      unfold PartIn at hp
      have hm : core.mem p0.lo = true := by
        simp only [Loc.mem, List.any_eq_true]
        exact ⟨p0, hp0, by rw [Part.mem_iff]; omega⟩
      have := (insideRegion_mem L rd core hin _ hm).1 hc
      have := hplain hc
      omega
  obtain ⟨r, hr, hrne, _, hmem⟩ := offset_back_rotates core rd.start L .fwd hne hparts hrot.1 hst.1 hst.2 hrot.2
  exact ⟨r, hr, hrne, sameBases_of_rotated L rd core r hplain hcross hmem (insideRegion_mem L rd core hin)⟩

theorem locFromString_locToString (l : Loc) (hne : l.parts ≠ []) : locFromString (locToString l) = some l := by
  unfold locFromString locToString
  simp only [String.toList_ofList]
  exact locFromChars_locChars l hne

theorem adjustFeature_core (rd : RegionData) (L : Int) (rn : Renumbering) (g0 g : BioFeature)
    (h : adjustFeature rd L rn g0 = .ok g) (ht : g0.type = "protocluster") :
    ∃ n p newLoc, g0.q.protoNumber = some n ∧ dictGet (protoDict rd) n = .ok p ∧
      offsetLocation p.core (-rd.start) L = .ok newLoc ∧ g.q.coreLoc = some (locToString newLoc) := by
  unfold adjustFeature at h
  have h1 : (g0.type == "region") = false := by rw [ht]; decide
  have h2 : (g0.type == "cand_cluster") = false := by rw [ht]; decide
  have h3 : (g0.type == "protocluster" || g0.type == "proto_core") = true := by rw [ht]; decide
  simp only [h1, h2, h3, Bool.false_eq_true, if_false, if_true] at h
  split at h
  · cases h
  · rename_i n hn
    split at h
    · cases h
    · rename_i p hp
      split at h
      · cases h
      · rename_i m hm
        unfold adjustProtocluster at h
        have h4 : (g0.type == "protocluster") = true := by rw [ht]; decide
        simp only [h4, if_true] at h
        split at h
        · cases h
        · rename_i newLoc hl
          injection h with h
          exact ⟨n, p, newLoc, hn, hp, hl, by rw [← h]⟩

theorem consistent_unpack (rd : RegionData) (rec : BioRecord) (h : consistent rd rec = true) :
    (rec.features.map (·.tag)).Nodup ∧
    (∀ f ∈ rec.features, bridgesOrigin f.loc = true → f.loc.start = 0 ∧ f.loc.end = rec.length) ∧
    KindOK rd rec "protocluster" (·.q.protoNumber) (protoAreas rd) ∧
    KindOK rd rec "cand_cluster" (·.q.candNumber) (candDict rd) ∧
    KindOK rd rec "subregion" (·.q.subNumber) (subDict rd) ∧
    linkedKind "proto_core" (·.q.protoNumber) (coreAreas rd) rec = true ∧
    (∀ a ∈ coreAreas rd, ∃ f ∈ rec.features, f.type = "proto_core" ∧ f.q.protoNumber = some a.1) ∧
    (∀ a ∈ coreAreas rd, insideRegion rec.length rd a.2 = true) ∧
    (∀ a ∈ coreAreas rd, areaShape rec.length rd a.2 = true) := by
  unfold consistent at h
  simp only [Bool.and_eq_true] at h
  obtain ⟨⟨⟨⟨⟨⟨⟨⟨hlinked, htag⟩, hspan⟩, hkp⟩, hkc⟩, hks⟩, hlcore⟩, hkcore⟩, hshapecore⟩ := h
  unfold linked at hlinked
  simp only [Bool.and_eq_true, List.all_eq_true, List.mem_append] at hlinked
  obtain ⟨⟨⟨hl1, hl2⟩, hl3⟩, hshape⟩ := hlinked
  obtain ⟨hp1, hp2, hp3⟩ := consistentKind_unpack _ _ _ rd rec hkp
  obtain ⟨hc1, hc2, hc3⟩ := consistentKind_unpack _ _ _ rd rec hkc
  obtain ⟨hs1, hs2, hs3⟩ := consistentKind_unpack _ _ _ rd rec hks
  obtain ⟨hk1, _, hk3⟩ := consistentKind_unpack _ _ _ rd rec hkcore
  refine ⟨(nodupB_iff _).1 htag, ?_, ?_, ?_, ?_, hlcore, hk1, hk3, ?_⟩
  · intro f hf hb
    have := List.all_eq_true.1 hspan f hf
    simpa [hb] using this
  · exact { nodupKeys := by unfold protoAreas; rw [List.map_map]; exact protoDict_nodup rd
            shape := fun a ha => hshape a (.inl (.inl ha))
            link := hl1, present := hp1, distinct := hp2, inside := hp3
            renum := by
              intro g0 g hadj ht
              obtain ⟨n, m, hn, hm, hd⟩ := (adjustFeature_refs rd _ g0 g hadj).2.2.1 (.inl ht)
              exact ⟨n, m, hn, hm, hd⟩
            ofQ := fun a b e => by rw [e] }
  · exact { nodupKeys := candDict_nodup rd
            shape := fun a ha => hshape a (.inl (.inr ha))
            link := hl2, present := hc1, distinct := hc2, inside := hc3
            renum := by
              intro g0 g hadj ht
              obtain ⟨n, m, _, _, hn, hm, hd, _⟩ := (adjustFeature_refs rd _ g0 g hadj).2.1 ht
              exact ⟨n, m, hn, hm, hd⟩
            ofQ := fun a b e => by rw [e] }
  · exact { nodupKeys := subDict_nodup rd
            shape := fun a ha => hshape a (.inr ha)
            link := hl3, present := hs1, distinct := hs2, inside := hs3
            renum := by
              intro g0 g hadj ht
              obtain ⟨n, m, hn, hm, hd⟩ := (adjustFeature_refs rd _ g0 g hadj).2.2.2 ht
              exact ⟨n, m, hn, hm, hd⟩
            ofQ := fun a b e => by rw [e] }
  · exact List.all_eq_true.1 hshapecore

theorem through_range (areas : List (Int × Loc)) (rd : RegionData) (L : Int) (hnd : (areas.map (·.1)).Nodup)
    (xs ys : List Int) (h : Through (numberByPosition areas rd L) xs ys) :
    inRange areas.length ys = true := by
  obtain ⟨_, hrange, _⟩ := numberByPosition_spec areas rd L hnd
  unfold inRange
  simp only [List.all_eq_true, Bool.and_eq_true, decide_eq_true_eq]
  intro y hy
  obtain ⟨x, _, hd⟩ := mapE_mem _ xs ys h y hy
  have := hrange x y hd
  exact ⟨this.1, this.2.1⟩

/-- the written file is what a record loading it expects -/
theorem written_selfconsistent (rd : RegionData) (rec : BioRecord) (w : Written) (h : writeToGenbank rd rec = .ok w)
    (hwf : wfInput rd rec = true) (hcons : consistent rd rec = true) :
    numberedAsLoaded (·.q.protoNumber) (ofType "protocluster" w.extract.features) = true ∧
    numberedAsLoaded (·.q.candNumber) (ofType "cand_cluster" w.extract.features) = true ∧
    numberedAsLoaded (·.q.subNumber) (ofType "subregion" w.extract.features) = true ∧
    refsInRange w.extract.features = true ∧ CoresAgree w.extract.features := by
  obtain ⟨htags, hspan, okP, okC, okS, hlcore, hpcore, hincore, hshcore⟩ := consistent_unpack rd rec hcons
  obtain ⟨hnP, hlenP⟩ := kind_numbered rd rec w h hwf htags hspan _ _ _ okP
  obtain ⟨hnC, hlenC⟩ := kind_numbered rd rec w h hwf htags hspan _ _ _ okC
  obtain ⟨hnS, hlenS⟩ := kind_numbered rd rec w h hwf htags hspan _ _ _ okS
  obtain ⟨hL, hcross, hplain, hfeat⟩ := wf_unpack rd rec hwf
  refine ⟨hnP, hnC, hnS, ?_, ?_⟩
  · -- every reference by number points at an area present in the file
    unfold refsInRange
    simp only [List.all_eq_true]
    intro g hg
    obtain ⟨f, hf, _, hty, hrefs⟩ := written_refs rd rec w h g hg
    rw [hlenC, hlenP, hlenS]
    by_cases h1 : g.type = "region"
    · obtain ⟨hc, hs⟩ := hrefs.1 (by rw [← hty]; exact h1)
      simp only [h1, beq_self_eq_true, if_true, Bool.and_eq_true]
      exact ⟨through_range _ rd _ okC.nodupKeys _ _ hc, through_range _ rd _ okS.nodupKeys _ _ hs⟩
    · have h1' : (g.type == "region") = false := by simpa using h1
      simp only [h1', Bool.false_eq_true, if_false]
      by_cases h2 : g.type = "cand_cluster"
      · obtain ⟨n, m, ps, ps', _, _, _, _, hps', hthr⟩ := hrefs.2.1 (by rw [← hty]; exact h2)
        simp only [h2, beq_self_eq_true, if_true, hps', Option.getD_some]
        exact through_range _ rd _ okP.nodupKeys _ _ hthr
      · have h2' : (g.type == "cand_cluster") = false := by simpa using h2
        simp only [h2', Bool.false_eq_true, if_false]
        by_cases h3 : g.type = "proto_core"
        · obtain ⟨n, m, _, hm, hd⟩ := hrefs.2.2.1 (.inr (by rw [← hty]; exact h3))
          simp only [h3, beq_self_eq_true, if_true, hm, Option.toList_some]
          exact through_range _ rd _ okP.nodupKeys [n] [m] (by
            unfold Through; simp only [mapE]
            have : dictGet (numberByPosition (protoAreas rd) rd rec.length) n = .ok m := hd
            rw [this])
        · have h3' : (g.type == "proto_core") = false := by simpa using h3
          simp only [h3', Bool.false_eq_true, if_false]
  · -- core locations
    intro g hg ht
    obtain ⟨g0, ho, hadj⟩ := written_origin rd rec w h g hg
    obtain ⟨_, hty, _⟩ := adjustFeature_same rd _ _ g0 g hadj
    have ht0 : g0.type = "protocluster" := by rw [← hty]; exact ht
    obtain ⟨n, p, newLoc, hn, hp, hoff, hcl⟩ := adjustFeature_core rd _ _ g0 g hadj ht0
    have hmemd := dictGet_mem _ n p hp
    have hcoreA : (n, p.core) ∈ coreAreas rd := List.mem_map.2 ⟨(n, p), hmemd, rfl⟩
    -- the proto_core feature of the record with this number
    obtain ⟨f', hf', hf't, hf'n⟩ := hpcore _ hcoreA
    have hf'loc : p.core = f'.loc := linkedKind_loc _ _ _ rec hlcore f' hf' hf't n hf'n p.core hcoreA
    have hparts : ∀ q ∈ p.core.parts, PartIn rec.length q := by rw [hf'loc]; exact (hfeat f' hf').1.2
    obtain ⟨newLoc', hoff', hne, hsame⟩ := core_offset rd rec.length p.core hplain hcross (hshcore _ hcoreA) hparts (hincore _ hcoreA)
    rw [hoff] at hoff'; injection hoff' with hoff'; subst hoff'
    refine ⟨locToString newLoc, newLoc, hcl, locFromString_locToString newLoc hne, ?_⟩
    -- the written proto_core feature
    obtain ⟨g', hg', hg't⟩ := written_contains_inside rd rec w h (fun hc => ⟨(hcross hc).1, (hcross hc).2.2⟩) f' hf'
      (hfeat f' hf').1.1 (by rw [← hf'loc]; exact hincore _ hcoreA)
      (fun _ hb => .inl (areaShape_twoPart _ rd _ (by rw [← hf'loc]; exact hshcore _ hcoreA) hb))
    obtain ⟨f'', hf'', ht'', hty'', hrefs''⟩ := written_refs rd rec w h g' hg'
    have e1 : f'' = f' := nodup_map_inj (·.tag) rec.features htags f'' f' hf'' hf' (by rw [← ht'', hg't])
    subst e1
    obtain ⟨f3, hf3, ht3, _, hsb⟩ := written_sameBases rd rec w h hwf g' hg'
    have e2 : f3 = f'' := nodup_map_inj (·.tag) rec.features htags f3 f'' hf3 hf'' (by rw [← ht3, ht''])
    subst e2
    obtain ⟨n', m', hn', hm', hd'⟩ := hrefs''.2.2.1 (.inr hf't)
    rw [hf'n] at hn'; injection hn' with hn'; subst hn'
    obtain ⟨n2, m2, hn2, hm2, hd2⟩ := (adjustFeature_refs rd _ g0 g hadj).2.2.1 (.inl ht0)
    rw [hn] at hn2; injection hn2 with hn2; subst hn2
    rw [hd'] at hd2; injection hd2 with hd2
    refine ⟨g', hg', by rw [hty'', hf't], by rw [hm', hm2, hd2], fun i => ?_⟩
    rw [Bool.eq_iff_iff, hsame i, hsb i, hf'loc]

/-- the written cross references resolve to the images of the original referents: for every area of the region
    (number `n` in the record) the feature of the record carrying `n` has an image in the file, and it
    carries the number `ν n` that every reference to `n` was rewritten to -/
theorem written_images (rd : RegionData) (rec : BioRecord) (w : Written) (h : writeToGenbank rd rec = .ok w)
    (hwf : wfInput rd rec = true) (hcons : consistent rd rec = true) :
    (∀ a ∈ protoAreas rd, ∃ f ∈ rec.features, f.type = "protocluster" ∧ f.q.protoNumber = some a.1 ∧ f.loc = a.2 ∧
      ∃ g ∈ w.extract.features, g.tag = f.tag ∧ g.type = "protocluster" ∧
        ∃ m, g.q.protoNumber = some m ∧ dictGet (renumbering rd rec.length).protos a.1 = .ok m) ∧
    (∀ a ∈ candDict rd, ∃ f ∈ rec.features, f.type = "cand_cluster" ∧ f.q.candNumber = some a.1 ∧ f.loc = a.2 ∧
      ∃ g ∈ w.extract.features, g.tag = f.tag ∧ g.type = "cand_cluster" ∧
        ∃ m, g.q.candNumber = some m ∧ dictGet (renumbering rd rec.length).cands a.1 = .ok m) ∧
    (∀ a ∈ subDict rd, ∃ f ∈ rec.features, f.type = "subregion" ∧ f.q.subNumber = some a.1 ∧ f.loc = a.2 ∧
      ∃ g ∈ w.extract.features, g.tag = f.tag ∧ g.type = "subregion" ∧
        ∃ m, g.q.subNumber = some m ∧ dictGet (renumbering rd rec.length).subs a.1 = .ok m) := by
  obtain ⟨htags, hspan, okP, okC, okS, _⟩ := consistent_unpack rd rec hcons
  exact ⟨fun a ha => kind_to rd rec w h hwf htags _ _ _ okP a.1 a.2 ha,
    fun a ha => kind_to rd rec w h hwf htags _ _ _ okC a.1 a.2 ha,
    fun a ha => kind_to rd rec w h hwf htags _ _ _ okS a.1 a.2 ha⟩

end ASV.RegionExtract
