/-
  C10 helper lemmas: the record level.  The written feature list keeps each area class in its list
  order (`sorted_indices`), so re-reading re-inserts every area at the end (front, for candidate
  clusters) of its list and the numbering is reproduced (`numbering_main`).
-/
import ASV.Proofs.SerialArea
import ASV.Proofs.Base.Except
/-! for Base/Except -/

/-- two step functions that agree on the members run the same loop -/
theorem ASV.Base.foldlM_congr {ε : Type u} {α β : Type v} {f g : β → α → Except ε β} : ∀ (l : List α) (b : β),
    (∀ a ∈ l, ∀ b, f b a = g b a) → l.foldlM f b = l.foldlM g b
  | [], _, _ => rfl
  | a :: l, b, h => by
    rw [List.foldlM_cons, List.foldlM_cons, h a List.mem_cons_self b]
    cases g b a with
    | error e => rfl
    | ok b' => exact foldlM_congr l b' fun x hx => h x (List.mem_cons_of_mem _ hx)

namespace ASV.Serial
open ASV ASV.Base

/-- the four area classes of a record; what the record lemmas say of one class they say of each -/
inductive Area where
  | sub | proto | cand | reg

/-- the entry of class `k` at position `i` of the class's list -/
def Area.ent : Area → Nat → Ent
  | .sub => .sub | .proto => .proto | .cand => .cand | .reg => .reg

/-- the position of an entry in the list of class `k`, if it is of that class -/
def Area.idx : Area → Ent → Option Nat
  | .sub, .sub i | .proto, .proto i | .cand, .cand i | .reg, .reg i => some i
  | _, _ => none

def Area.count (r : Rec) : Area → Nat
  | .sub => r.subs.length | .proto => r.protos.length | .cand => r.cands.length | .reg => r.regs.length

/-- the entries of class `k` in `all_features` (`subEnts`, `protoEnts`, `candEnts`, `regEnts`) -/
def Area.ents (r : Rec) (k : Area) : List Ent := (List.range (k.count r)).map k.ent

theorem mem_plainEnts {r : Rec} {ranks : List Nat} {e : Ent} (h : e ∈ plainEnts r ranks) :
    ∃ k f, e = .plain k f ∧ f ∈ r.others := by
  unfold plainEnts at h
  simp only [List.mem_flatMap, List.mem_filter, List.mem_filterMap, List.mem_range, Option.map_eq_some_iff] at h
  obtain ⟨_, _, ⟨i, _, f, hf, rfl⟩, _⟩ := h
  exact ⟨i, f, rfl, List.mem_of_getElem? hf⟩

theorem mem_cdsEnts {r : Rec} {e : Ent} (h : e ∈ cdsEnts r) : ∃ k f, e = .cds k f ∧ f ∈ r.cdss := by
  unfold cdsEnts at h
  simp only [List.mem_filterMap, List.mem_range, Option.map_eq_some_iff] at h
  obtain ⟨i, _, f, hf, rfl⟩ := h
  exact ⟨i, f, rfl, List.mem_of_getElem? hf⟩

theorem filter_nil_of {α : Type} (p : α → Bool) (l : List α) (h : ∀ x ∈ l, p x = false) : l.filter p = [] := by
  rw [List.filter_eq_nil_iff]; intro x hx; rw [h x hx]; simp

theorem filter_self_of {α : Type} (p : α → Bool) (l : List α) (h : ∀ x ∈ l, p x = true) : l.filter p = l := by
  rw [List.filter_eq_self]; exact h

/-- the elements of one class inside `all_features` -/
theorem filter_allEntries (r : Rec) (k : Area) : (allEntries r).filter (fun e => (k.idx e).isSome) = k.ents r := by
  have hp : ∀ ranks, (plainEnts r ranks).filter (fun e => (k.idx e).isSome) = [] := fun ranks =>
    filter_nil_of _ _ (fun x hx => by obtain ⟨_, _, rfl, _⟩ := mem_plainEnts hx; cases k <;> rfl)
  have hc : (cdsEnts r).filter (fun e => (k.idx e).isSome) = [] :=
    filter_nil_of _ _ (fun x hx => by obtain ⟨_, _, rfl, _⟩ := mem_cdsEnts hx; cases k <;> rfl)
  -- a class list is kept whole by its own test and dropped by the others'
  have own : (k.ents r).filter (fun e => (k.idx e).isSome) = k.ents r :=
    filter_self_of _ _ (fun x hx => by obtain ⟨_, _, rfl⟩ := List.mem_map.1 hx; cases k <;> rfl)
  have other : ∀ k' : Area, (∀ i, k.idx (k'.ent i) = none) → (k'.ents r).filter (fun e => (k.idx e).isSome) = [] := fun k' h =>
    filter_nil_of _ _ (fun x hx => by obtain ⟨i, _, rfl⟩ := List.mem_map.1 hx; rw [h i]; rfl)
  unfold allEntries
  rw [show subEnts r = Area.ents r .sub from rfl, show protoEnts r = Area.ents r .proto from rfl,
    show candEnts r = Area.ents r .cand from rfl, show regEnts r = Area.ents r .reg from rfl]
  simp only [List.filter_append, hp, hc, List.nil_append]
  cases k
  · rw [own, other .proto (fun _ => rfl), other .cand (fun _ => rfl), other .reg (fun _ => rfl), List.append_nil, List.append_nil,
      List.append_nil]
  · rw [own, other .sub (fun _ => rfl), other .cand (fun _ => rfl), other .reg (fun _ => rfl), List.nil_append, List.append_nil,
      List.append_nil]
  · rw [own, other .sub (fun _ => rfl), other .proto (fun _ => rfl), other .reg (fun _ => rfl), List.nil_append, List.nil_append,
      List.append_nil]
  · rw [own, other .sub (fun _ => rfl), other .proto (fun _ => rfl), other .cand (fun _ => rfl), List.nil_append, List.nil_append,
      List.nil_append]

/-- a list of areas in non-descending order gives entries in non-descending order -/
theorem sorted_ents {β : Type} (r : Rec) (l : List β) (loc : β → Loc) (c : Nat → Ent)
    (hloc : ∀ i (hi : i < l.length), entLoc r (c i) = loc l[i])
    (harea : ∀ i, (c i).isArea = true) (hchild : ∀ i j, isChild r (c i) (c j) = false)
    (hs : Sorted (fun a b => areaLt (loc a) (loc b)) l) :
    Sorted (entLt r) ((List.range l.length).map c) := by
  unfold Sorted at *
  rw [List.pairwise_map]
  have hr : (List.range l.length).Pairwise (· < ·) := List.pairwise_lt_range
  refine hr.imp_of_mem ?_
  intro i j hi hj hij
  have hi' : i < l.length := List.mem_range.1 hi
  have hj' : j < l.length := List.mem_range.1 hj
  have := (List.pairwise_iff_getElem.1 hs) i j hi' hj' hij
  unfold entLt
  by_cases he : (c j == c i) = true
  · simp [he]
  · simp only [he, Bool.false_eq_true, if_false, harea j, if_true, hchild j i, hloc j hj', hloc i hi']
    exact this

/-! ### one step of the reading loop -/

/-- what the numbering theorem follows through the reading loop: the area lists and the postponed area features -/
structure AreaPart where
  len : Int
  circular : Bool
  subs : List Sub
  protos : List Proto
  cands : List Cand
  regs : List Reg
  postCands : List Bio
  postRegs : List Bio

/-- … of a loop state (record so far, postponed features) -/
def areaPart (acc : Rec × List Bio) : AreaPart :=
  ⟨acc.1.len, acc.1.circular, acc.1.subs, acc.1.protos, acc.1.cands, acc.1.regs,
   acc.2.filter (·.type == "cand_cluster"), acc.2.filter (·.type == "region")⟩

def areaType (t : String) : Prop := t = "protocluster" ∨ t = "subregion" ∨ t = "cand_cluster" ∨ t = "region"

theorem prefilter_type (b : Bio) : (prefilter b).type = b.type := by
  unfold prefilter; split <;> rfl

theorem addBio_plain (r r' : Rec) (b : Bio) (ht : ¬ areaType b.type) (h : addBio r b = .ok r') :
    r'.len = r.len ∧ r'.circular = r.circular ∧ r'.subs = r.subs ∧ r'.protos = r.protos ∧ r'.cands = r.cands ∧ r'.regs = r.regs := by
  simp only [areaType, not_or] at ht
  unfold addBio at h
  by_cases h1 : (b.type == "CDS") = true
  · simp only [h1, if_true, ok_inv] at h
    obtain ⟨f, -, rfl⟩ := h; simp [addCds]
  · have hp1 : (b.type == "protocluster") = false := by simpa using ht.1
    have hp2 : (b.type == "subregion") = false := by simpa using ht.2.1
    simp only [h1, Bool.false_eq_true, if_false, hp1, hp2] at h
    by_cases h2 : (b.type == "proto_core") = true
    · simp only [h2, if_true, pure, Except.pure] at h; cases h; simp
    · simp only [h2, Bool.false_eq_true, if_false] at h
      by_cases h3 : (b.type == "CDS_motif") = true
      · simp only [h3, if_true] at h
        split at h
        · simp only [pure, Except.pure] at h; cases h; simp
        · simp only [ok_inv] at h
          obtain ⟨f, -, rfl⟩ := h; simp
      · simp only [h3, Bool.false_eq_true, if_false, ok_inv] at h
        obtain ⟨f, -, rfl⟩ := h; simp

theorem readStep_plain (acc acc' : Rec × List Bio) (b0 : Bio) (ht : ¬ areaType b0.type)
    (h : readStep acc b0 = .ok acc') : areaPart acc' = areaPart acc := by
  unfold readStep at h
  split at h
  · cases h
  · have hty := prefilter_type b0
    generalize prefilter b0 = b at h hty
    have ht' : ¬ areaType b.type := by rw [hty]; exact ht
    have ht2 := ht'
    simp only [areaType, not_or] at ht2
    unfold dispatch at h
    have hc : (b.type == "cand_cluster") = false := by simpa using ht2.2.2.1
    have hr : (b.type == "region") = false := by simpa using ht2.2.2.2
    by_cases hm : (b.type == "aSModule") = true
    · simp only [hc, hr, hm, Bool.or_true, if_true, pure, Except.pure] at h
      cases h
      simp [areaPart, List.filter_append, hc, hr]
    · simp only [hc, hr, hm, Bool.or_self, Bool.false_eq_true, if_false] at h
      split at h
      · simp only [ok_inv] at h
        obtain ⟨r', ha, rfl⟩ := h
        obtain ⟨a1, a2, a3, a4, a5, a6⟩ := addBio_plain _ _ _ ht' ha
        simp [areaPart, a1, a2, a3, a4, a5, a6]
      · simp only [pure, Except.pure] at h; cases h; rfl


theorem prefilter_id (b : Bio) (h : b.type ≠ "misc_feature") : prefilter b = b := by
  unfold prefilter
  have : (b.type == "misc_feature") = false := by simpa using h
  simp [this]

theorem inRecord_ok (r : Rec) (l : Loc) (h : 0 ≤ l.start ∧ l.end ≤ r.len) : inRecord r l = .ok () := by
  unfold inRecord
  have : ¬ (l.start < 0 ∨ l.end > r.len) := by omega
  simp [this, pure, Except.pure]

/-! ### the reading step, layer by layer: `readStep` → `dispatch` → `addBio` → `addProto` / `addSub`; the four `add`s -/

theorem readStep_eq (acc : Rec × List Bio) (b : Bio) (hspan : linearSpan acc.1 b = false) (hm : b.type ≠ "misc_feature") :
    readStep acc b = dispatch acc b := by
  rw [readStep, hspan, prefilter_id b hm]; rfl

theorem dispatch_add (acc : Rec × List Bio) (b : Bio)
    (hty : b.type = "protocluster" ∨ b.type = "proto_core" ∨ b.type = "subregion") :
    dispatch acc b = addBio acc.1 b >>= fun r => pure (r, acc.2) := by
  rcases hty with h | h | h <;>
    simp only [dispatch, h, String.reduceBEq, String.reduceBNe, Bool.or_self, Bool.true_or, Bool.false_eq_true, if_false,
      if_true]

theorem addBio_proto (r : Rec) (b : Bio) (hty : b.type = "protocluster") : addBio r b = Proto.fromBio b >>= addProto r := by
  simp only [addBio, hty, String.reduceBEq, Bool.false_eq_true, if_false, if_true]

theorem addBio_core (r : Rec) (b : Bio) (hty : b.type = "proto_core") : addBio r b = pure r := by
  simp only [addBio, hty, String.reduceBEq, Bool.false_eq_true, if_false, if_true]

theorem addBio_sub (r : Rec) (b : Bio) (hty : b.type = "subregion") : addBio r b = Sub.fromBio b >>= addSub r := by
  simp only [addBio, hty, String.reduceBEq, Bool.false_eq_true, if_false, if_true]

/-- a protocluster that sorts after every protocluster already present is appended (`bisect_right` at the end); with no
    candidate cluster yet there is no reference to shift -/
theorem addProto_last (r : Rec) (p : Proto) (hin : 0 ≤ p.feat.loc.start ∧ p.feat.loc.end ≤ r.len)
    (hlast : ∀ e ∈ r.protos, areaLt p.feat.loc e.feat.loc = false) (hc : r.cands = []) :
    addProto r p = .ok { r with protos := r.protos ++ [p] } := by
  have := bisectR_end (fun (a b : Proto) => areaLt a.feat.loc b.feat.loc) p r.protos hlast
  simp only [addProto, inRecord_ok r _ hin, ok_bind, this, hc, List.map_nil, pure_def]

theorem addSub_last (r : Rec) (s : Sub) (hin : 0 ≤ s.feat.loc.start ∧ s.feat.loc.end ≤ r.len)
    (hlast : ∀ e ∈ r.subs, areaLt s.feat.loc e.feat.loc = false) (hc : r.regs = []) :
    addSub r s = .ok { r with subs := r.subs ++ [s] } := by
  have := bisectR_end (fun (a b : Sub) => areaLt a.feat.loc b.feat.loc) s r.subs hlast
  simp only [addSub, inRecord_ok r _ hin, ok_bind, this, hc, List.map_nil, pure_def]

theorem regionIndex_end (g : Reg) : ∀ (existing : List Reg) (i : Nat),
    (∀ e ∈ existing, locationsOverlap g.feat.loc e.feat.loc = false ∧ areaLt g.feat.loc e.feat.loc = false) →
    regionIndex g existing i = .ok (i + existing.length) := by
  intro existing
  induction existing with
  | nil => intro i _; simp [regionIndex, pure, Except.pure]
  | cons e rest ih =>
    intro i h
    obtain ⟨h1, h2⟩ := h e (by simp)
    unfold regionIndex
    simp only [h1, h2, Bool.false_eq_true, if_false]
    rw [ih (i + 1) (fun x hx => h x (List.mem_cons_of_mem _ hx))]
    simp only [List.length_cons]; congr 1; omega

/-- a candidate cluster that nothing present is smaller than goes to the front (`bisect_left`) -/
theorem addCand_front (r : Rec) (c : Cand) (hin : 0 ≤ c.feat.loc.start ∧ c.feat.loc.end ≤ r.len)
    (hfirst : ∀ e ∈ r.cands, areaLt e.feat.loc c.feat.loc = false) (hr : r.regs = []) :
    addCand r c = .ok { r with cands := c :: r.cands } := by
  have := bisectL_front (fun (a b : Cand) => areaLt a.feat.loc b.feat.loc) c r.cands hfirst
  simp only [addCand, inRecord_ok r _ hin, ok_bind, this, hr, List.map_nil, pure_def]

/-- a region that sorts after, and overlaps none of, those present is appended -/
theorem addReg_last (r : Rec) (g : Reg) (hin : 0 ≤ g.feat.loc.start ∧ g.feat.loc.end ≤ r.len)
    (hlast : ∀ e ∈ r.regs, locationsOverlap g.feat.loc e.feat.loc = false ∧ areaLt g.feat.loc e.feat.loc = false) :
    addReg r g = .ok { r with regs := r.regs ++ [g] } := by
  simp only [addReg, inRecord_ok r _ hin, ok_bind, regionIndex_end g r.regs 0 hlast, Nat.zero_add, insertAt,
    List.take_length, List.drop_length, pure_def]

theorem readStep_proto (acc : Rec × List Bio) (nb : Bio) (p' : Proto) (hty : nb.type = "protocluster")
    (hspan : linearSpan acc.1 nb = false) (hfrom : Proto.fromBio nb = .ok p')
    (hin : 0 ≤ p'.feat.loc.start ∧ p'.feat.loc.end ≤ acc.1.len)
    (hlast : ∀ e ∈ acc.1.protos, areaLt p'.feat.loc e.feat.loc = false) (hc : acc.1.cands = []) :
    readStep acc nb = .ok ({ acc.1 with protos := acc.1.protos ++ [p'] }, acc.2) := by
  rw [readStep_eq acc nb hspan (by rw [hty]; decide), dispatch_add acc nb (Or.inl hty), addBio_proto _ _ hty, hfrom,
    ok_bind, addProto_last _ _ hin hlast hc]
  rfl

theorem readStep_core (acc : Rec × List Bio) (b : Bio) (hty : b.type = "proto_core")
    (hspan : linearSpan acc.1 b = false) : readStep acc b = .ok acc := by
  rw [readStep_eq acc b hspan (by rw [hty]; decide), dispatch_add acc b (Or.inr (Or.inl hty)), addBio_core _ _ hty]
  rfl

theorem readStep_sub (acc : Rec × List Bio) (b : Bio) (s' : Sub) (hty : b.type = "subregion")
    (hspan : linearSpan acc.1 b = false) (hfrom : Sub.fromBio b = .ok s')
    (hin : 0 ≤ s'.feat.loc.start ∧ s'.feat.loc.end ≤ acc.1.len)
    (hlast : ∀ e ∈ acc.1.subs, areaLt s'.feat.loc e.feat.loc = false) (hc : acc.1.regs = []) :
    readStep acc b = .ok ({ acc.1 with subs := acc.1.subs ++ [s'] }, acc.2) := by
  rw [readStep_eq acc b hspan (by rw [hty]; decide), dispatch_add acc b (Or.inr (Or.inr hty)), addBio_sub _ _ hty, hfrom,
    ok_bind, addSub_last _ _ hin hlast hc]
  rfl

theorem readStep_post (acc : Rec × List Bio) (b : Bio) (hty : b.type = "cand_cluster" ∨ b.type = "region")
    (hspan : linearSpan acc.1 b = false) : readStep acc b = .ok (acc.1, acc.2 ++ [b]) := by
  rw [readStep_eq acc b hspan (by rcases hty with h | h <;> (rw [h]; decide)), dispatch]
  rcases hty with h | h <;> simp only [h, String.reduceBEq, Bool.or_false, Bool.or_true, if_true, pure_def]


/-! ### the reading loop over the sorted entries -/

/-- the features written for one entry (empty when the conversion fails) -/
def entBios (r : Rec) (e : Ent) : List Bio := match entToBio r e with | .ok bs => bs | .error _ => []

/-- the protocluster / subregion read back from what was written for position `i` -/
def reP (r : Rec) (i : Nat) : Proto :=
  match entBios r (.proto i) with
  | nb :: _ => (match Proto.fromBio nb with | .ok p' => p' | .error _ => default)
  | [] => default
def reS (r : Rec) (i : Nat) : Sub :=
  match entBios r (.sub i) with
  | b :: _ => (match Sub.fromBio b with | .ok s' => s' | .error _ => default)
  | [] => default
def candB (r : Rec) (i : Nat) : Bio := (entBios r (.cand i)).headD default
def regB (r : Rec) (i : Nat) : Bio := (entBios r (.reg i)).headD default

/-- the effect of reading one entry's features on the area part of the loop state -/
def stepArea (r : Rec) (e : Ent) (a : AreaPart) : AreaPart :=
  match e with
  | .plain _ _ | .cds _ _ => a
  | .sub i => { a with subs := a.subs ++ [reS r i] }
  | .proto i => { a with protos := a.protos ++ [reP r i] }
  | .cand i => { a with postCands := a.postCands ++ [candB r i] }
  | .reg i => { a with postRegs := a.postRegs ++ [regB r i] }

def a0 (r : Rec) : AreaPart := ⟨r.len, r.circular, [], [], [], [], [], []⟩

/-- the loop extends the four lists by what is read for the entries of each class, in the order of the entries -/
theorem foldl_stepArea (r : Rec) (l : List Ent) (a : AreaPart) :
    l.foldl (fun a e => stepArea r e a) a =
      { a with subs := a.subs ++ (l.filterMap Area.sub.idx).map (reS r),
               protos := a.protos ++ (l.filterMap Area.proto.idx).map (reP r),
               postCands := a.postCands ++ (l.filterMap Area.cand.idx).map (candB r),
               postRegs := a.postRegs ++ (l.filterMap Area.reg.idx).map (regB r) } := by
  induction l generalizing a with
  | nil => simp
  | cons e rest ih =>
    rw [List.foldl_cons, ih]
    cases e <;> simp [stepArea, Area.idx, List.filterMap_cons, List.append_assoc]

/-- dropping first the elements a partial map is undefined on changes nothing -/
theorem filterMap_filter_of {α β : Type} (f : α → Option β) (p : α → Bool) (h : ∀ a, p a = false → f a = none) (l : List α) :
    l.filterMap f = (l.filter p).filterMap f := by
  induction l with
  | nil => rfl
  | cons a rest ih =>
    cases hp : p a
    · rw [List.filter_cons_of_neg (by rw [hp]; exact Bool.false_ne_true), List.filterMap_cons_none (h a hp), ih]
    · rw [List.filter_cons_of_pos hp, List.filterMap_cons, List.filterMap_cons, ih]

theorem filterMap_idx (k : Area) (l : List Ent) : l.filterMap k.idx = (l.filter fun e => (k.idx e).isSome).filterMap k.idx :=
  filterMap_filter_of _ _ (fun e h => by cases hk : k.idx e with
    | none => rfl
    | some _ => rw [hk] at h; cases h) l

theorem filterMap_ents (r : Rec) (k : Area) : (k.ents r).filterMap k.idx = List.range (k.count r) := by
  unfold Area.ents
  rw [List.filterMap_map, show k.idx ∘ k.ent = some from funext fun i => by cases k <;> rfl, List.filterMap_some]

/-- in an increasing list, everything before a position is smaller than what is at the position -/
theorem lt_of_range_split {A B : List Nat} {j n : Nat} (h : A ++ j :: B = List.range n) : (∀ i ∈ A, i < j) ∧ j < n := by
  have hp : (A ++ j :: B).Pairwise (· < ·) := by rw [h]; exact List.pairwise_lt_range
  have hj : j ∈ List.range n := by rw [← h]; simp
  refine ⟨fun i hi => (List.pairwise_append.1 hp).2.2 i hi j (by simp), List.mem_range.1 hj⟩


/-! ### the records in scope -/

/-- well-formed candidate cluster of record `r`: exactly what `CandidateCluster.from_biopython`
    rebuilds — location derived from the children with the record's wrap point, no notes or free
    qualifiers, children present in the record -/
structure Cand.WF (r : Rec) (c : Cand) : Prop where
  feat : c.feat = ⟨c.feat.loc, "cand_cluster", [], [], true, none⟩
  kind : c.kind ∈ kinds
  nonempty : c.children ≠ []
  children : ∀ i ∈ c.children, i < r.protos.length
  wrap : c.wrap = if r.circular then some r.len else none
  loc : connect (c.children.filterMap fun i => (r.protos[i]?).map (·.feat.loc)) c.wrap = .ok c.feat.loc

/-- well-formed region of record `r`: exactly what `Region.from_biopython` rebuilds — location derived from the
    children, no notes or free qualifiers, children present in the record -/
structure Reg.WF (r : Rec) (g : Reg) : Prop where
  feat : g.feat = ⟨g.feat.loc, "region", [], [], true, none⟩
  nonempty : g.cands ≠ [] ∨ g.subs ≠ []
  cands : ∀ i ∈ g.cands, i < r.cands.length
  subs : ∀ i ∈ g.subs, i < r.subs.length
  loc : regionLoc ((g.subs.filterMap fun i => (r.subs[i]?).map (·.feat.loc)) ++
                   (g.cands.filterMap fun i => (r.cands[i]?).map (·.feat.loc))) = .ok g.feat.loc

/-- inside the record, and with two parts only on a circular record -/
def inside (r : Rec) (l : Loc) : Prop := 0 ≤ l.start ∧ l.end ≤ r.len ∧ (l.parts.length > 1 → r.circular = true)

/-- the records the numbering theorem speaks about -/
structure Rec.Scope (r : Rec) : Prop where
  swo : SWO (entLt r) (· ∈ allEntries r)
  plain : ∀ f, f ∈ r.others ∨ f ∈ r.cdss → ¬ areaType f.type
  subsWF : ∀ s ∈ r.subs, s.WF ∧ s.side = none ∧ inside r s.feat.loc
  protosWF : ∀ p ∈ r.protos, p.WF ∧ p.side = none ∧ inside r p.feat.loc ∧ (p.core.parts.length > 1 → r.circular = true)
  candsWF : ∀ c ∈ r.cands, c.WF r ∧ inside r c.feat.loc
  regsWF : ∀ g ∈ r.regs, g.WF r ∧ inside r g.feat.loc
  sortedS : Sorted (fun (a b : Sub) => areaLt a.feat.loc b.feat.loc) r.subs
  sortedP : Sorted (fun (a b : Proto) => areaLt a.feat.loc b.feat.loc) r.protos
  sortedC : Sorted (fun (a b : Cand) => areaLt a.feat.loc b.feat.loc) r.cands
  sortedR : Sorted (fun (a b : Reg) => areaLt a.feat.loc b.feat.loc) r.regs
  disjoint : r.regs.Pairwise (fun a b => locationsOverlap b.feat.loc a.feat.loc = false)

theorem linearSpan_false (r r' : Rec) (b : Bio) (l : Loc) (hl : b.loc = l) (hc : r'.circular = r.circular)
    (h : l.parts.length > 1 → r.circular = true) : linearSpan r' b = false := by
  unfold linearSpan
  rw [hl, hc]
  by_cases hp : l.parts.length > 1
  · simp [h hp]
  · simp [hp]

theorem Cand.toBio_shape (r : Rec) (c : Cand) (num : Option Nat) (bs : List Bio) (h : c.toBio r num = .ok bs) :
    ∃ b, bs = [b] ∧ c.feat.toBio (candX r c num) = .ok b ∧ b.type = c.feat.type ∧ (c.feat.codon = none → b.loc = c.feat.loc) := by
  unfold Cand.toBio at h
  split at h
  · cases h
  · cases hb : c.feat.toBio (candX r c num) with
    | error e => rw [hb] at h; cases h
    | ok b =>
      rw [hb] at h; cases h
      exact ⟨b, rfl, rfl, (toBio_written _ _ _ hb).1, (toBio_written _ _ _ hb).2.2⟩

theorem Reg.toBio_shape (r : Rec) (g : Reg) (num : Option Nat) (bs : List Bio) (h : g.toBio r num = .ok bs) :
    ∃ b, bs = [b] ∧ g.feat.toBio (regX r g num) = .ok b ∧ b.type = g.feat.type ∧ (g.feat.codon = none → b.loc = g.feat.loc) := by
  unfold Reg.toBio at h
  split at h
  · cases h
  · cases hb : g.feat.toBio (regX r g num) with
    | error e => rw [hb] at h; cases h
    | ok b =>
      rw [hb] at h; cases h
      exact ⟨b, rfl, rfl, (toBio_written _ _ _ hb).1, (toBio_written _ _ _ hb).2.2⟩



theorem foldlM_single (acc : Rec × List Bio) (b : Bio) : [b].foldlM readStep acc = readStep acc b := by
  simp [List.foldlM_cons, List.foldlM_nil, bind, Except.bind, pure, Except.pure]
  cases readStep acc b <;> rfl

theorem foldlM_pair (acc : Rec × List Bio) (b c : Bio) :
    [b, c].foldlM readStep acc = (readStep acc b).bind fun a => readStep a c := by
  simp [List.foldlM_cons, List.foldlM_nil, bind, Except.bind, pure, Except.pure]
  cases readStep acc b with
  | error e => rfl
  | ok a => simp; cases readStep a c <;> rfl

/-- what is written for subregion `j` and what is read back from it -/
theorem reS_spec (t : Bool) (r : Rec) (H : r.Scope) (j : Nat) (hj : j < r.subs.length) :
    ∃ b, entToBio r (.sub j) = .ok [b] ∧ b.type = "subregion" ∧ b.loc = r.subs[j].feat.loc ∧
      Sub.fromBio b = .ok (reS r j) ∧ (reS r j).view t = r.subs[j].view t ∧
      (reS r j).feat.loc = r.subs[j].feat.loc := by
  have hsj : r.subs[j]? = some r.subs[j] := List.getElem?_eq_getElem hj
  obtain ⟨hwf, hside, _⟩ := H.subsWF _ (List.getElem_mem hj)
  cases hp : (r.subs[j]).toBio (some (j + 1)) ((r.subs[j]).edge r.len) with
  | error e =>
    rw [Sub.toBio_eq, toBio_eq, hwf.codon] at hp
    cases hp
  | ok bs =>
    obtain ⟨b, rfl, bty, bloc, s', hfrom, hview, hloc, _, _⟩ := sub_roundtrip t _ hwf hside _ _ _ hp
    have hre : reS r j = s' := by simp [reS, entBios, entToBio, hsj, hp, hfrom]
    exact ⟨b, by simp [entToBio, hsj, hp], bty, bloc, by rw [hre]; exact hfrom, by rw [hre]; exact hview,
      by rw [hre]; exact hloc⟩

theorem reP_spec (t : Bool) (r : Rec) (H : r.Scope) (j : Nat) (hj : j < r.protos.length) :
    ∃ nb cb, entToBio r (.proto j) = .ok [nb, cb] ∧ nb.type = "protocluster" ∧ nb.loc = r.protos[j].feat.loc ∧
      cb.type = "proto_core" ∧ cb.loc = r.protos[j].core ∧
      Proto.fromBio nb = .ok (reP r j) ∧ (reP r j).view t = r.protos[j].view t ∧
      (reP r j).feat.loc = r.protos[j].feat.loc ∧ (reP r j).core = r.protos[j].core ∧
      (reP r j).cutoff = r.protos[j].cutoff ∧ (reP r j).side = none := by
  have hsj : r.protos[j]? = some r.protos[j] := List.getElem?_eq_getElem hj
  obtain ⟨hwf, hside, _⟩ := H.protosWF _ (List.getElem_mem hj)
  cases hp : (r.protos[j]).toBio (some (j + 1)) ((r.protos[j]).edge r.len) with
  | error e =>
    rw [Proto.toBio_eq, toBio_eq, hwf.codon] at hp
    cases hp
  | ok bs =>
    obtain ⟨nb, rfl, bty, bloc, p', hfrom, hview, hloc, _, hs', hcore, hcut⟩ := proto_roundtrip t _ hwf hside _ _ _ hp
    have hre : reP r j = p' := by simp [reP, entBios, entToBio, hsj, hp, hfrom]
    exact ⟨nb, coreBio r.protos[j] (some (j + 1)), by simp [entToBio, hsj, hp], bty, bloc, rfl, rfl, by rw [hre]; exact hfrom, by rw [hre]; exact hview,
      by rw [hre]; exact hloc, by rw [hre]; exact hcore, by rw [hre]; exact hcut, by rw [hre]; exact hs'⟩



/-- a plain or CDS entry of `all_features` carries a feature of the record's own list -/
theorem feat_of_mem_all (r : Rec) (e : Ent) (h : e ∈ allEntries r) :
    match e with
    | .plain _ f => f ∈ r.others
    | .cds _ f => f ∈ r.cdss
    | _ => True := by
  unfold allEntries at h
  simp only [List.mem_append] at h
  rcases h with (((((hm | hm) | hm) | hm) | hm) | hm) | hm
  · obtain ⟨_, _, rfl, hf⟩ := mem_plainEnts hm; exact hf
  · obtain ⟨_, _, rfl, hf⟩ := mem_cdsEnts hm; exact hf
  · obtain ⟨_, _, rfl, hf⟩ := mem_plainEnts hm; exact hf
  · obtain ⟨_, _, rfl⟩ := List.mem_map.1 hm; trivial
  · obtain ⟨_, _, rfl⟩ := List.mem_map.1 hm; trivial
  · obtain ⟨_, _, rfl⟩ := List.mem_map.1 hm; trivial
  · obtain ⟨_, _, rfl⟩ := List.mem_map.1 hm; trivial

/-- reading what is written for a feature that is not an area leaves the area part of the state alone -/
theorem plain_entry (acc acc1 : Rec × List Bio) (f : Feat) (p : List Bio) (hty : ¬ areaType f.type)
    (hp : (do pure [← f.toBio] : E (List Bio)) = .ok p) (hf : p.foldlM readStep acc = .ok acc1) :
    areaPart acc1 = areaPart acc := by
  simp only [ok_inv] at hp
  obtain ⟨b, hb, rfl⟩ := hp
  rw [foldlM_single] at hf
  exact readStep_plain acc acc1 b (by rw [(toBio_written f [] b hb).1]; exact hty) hf

/-- the indices of each area class occur in increasing order among the sorted entries -/
theorem sorted_indices (r : Rec) (H : r.Scope) (k : Area) :
    (pySort (entLt r) (allEntries r)).filterMap k.idx = List.range (k.count r) := by
  rw [filterMap_idx, pySort_filter_class _ H.swo, filter_allEntries, filterMap_ents]
  rw [filter_allEntries]
  cases k
  · exact sorted_ents r r.subs (·.feat.loc) Ent.sub (fun i hi => by simp [entLoc, hi]) (fun _ => rfl) (fun _ _ => rfl) H.sortedS
  · exact sorted_ents r r.protos (·.feat.loc) Ent.proto (fun i hi => by simp [entLoc, hi]) (fun _ => rfl) (fun _ _ => rfl) H.sortedP
  · exact sorted_ents r r.cands (·.feat.loc) Ent.cand (fun i hi => by simp [entLoc, hi]) (fun _ => rfl) (fun _ _ => rfl) H.sortedC
  · exact sorted_ents r r.regs (·.feat.loc) Ent.reg (fun i hi => by simp [entLoc, hi]) (fun _ => rfl) (fun _ _ => rfl) H.sortedR

/-- reading the features written for one entry changes the area part of the state by `stepArea` -/
theorem entry_step (r : Rec) (H : r.Scope) (pre es : List Ent) (e : Ent)
    (hE : pre ++ e :: es = pySort (entLt r) (allEntries r))
    (acc acc1 : Rec × List Bio) (p : List Bio)
    (hacc : areaPart acc = pre.foldl (fun a e => stepArea r e a) (a0 r))
    (hp : entToBio r e = .ok p) (hf : p.foldlM readStep acc = .ok acc1) :
    areaPart acc1 = stepArea r e (areaPart acc) := by
  obtain ⟨_, hperm, _⟩ := pySort_spec (allEntries r) H.swo
  have hmem : e ∈ allEntries r := hperm.mem_iff.1 (by rw [← hE]; simp)
  have hz := foldl_stepArea r pre (a0 r)
  rw [← hacc] at hz
  have z1 : acc.1.len = r.len := congrArg AreaPart.len hz
  have z2 : acc.1.circular = r.circular := congrArg AreaPart.circular hz
  have z3 : acc.1.cands = [] := congrArg AreaPart.cands hz
  have z4 : acc.1.regs = [] := congrArg AreaPart.regs hz
  have z5 : acc.1.subs = (pre.filterMap Area.sub.idx).map (reS r) := congrArg AreaPart.subs hz
  have z6 : acc.1.protos = (pre.filterMap Area.proto.idx).map (reP r) := congrArg AreaPart.protos hz
  cases e with
  | plain k f => exact plain_entry acc acc1 f p (H.plain f (Or.inl (feat_of_mem_all r _ hmem))) hp hf
  | cds k f => exact plain_entry acc acc1 f p (H.plain f (Or.inr (feat_of_mem_all r _ hmem))) hp hf
  | sub i =>
    -- the subregions read so far are those with smaller index (`sorted_indices`), so this one sorts after all of them
    -- and `bisect_right` appends it (`readStep_sub`); the protocluster case below is the same with its core feature skipped
    have hsplit : pre.filterMap Area.sub.idx ++ i :: es.filterMap Area.sub.idx = List.range r.subs.length := by
      rw [show r.subs.length = Area.sub.count r from rfl, ← sorted_indices r H .sub, ← hE]
      simp [List.filterMap_append, Area.idx]
    obtain ⟨hlt, hi⟩ := lt_of_range_split hsplit
    obtain ⟨b, hw, bty, bloc, hfrom, _, hloc⟩ := reS_spec false r H i hi
    rw [hw] at hp; cases hp
    rw [foldlM_single] at hf
    obtain ⟨_, _, hin1, hin2, hin3⟩ := H.subsWF _ (List.getElem_mem hi)
    have hstep := readStep_sub acc b (reS r i) bty
      (linearSpan_false r acc.1 b _ bloc z2 hin3) hfrom (by rw [hloc, z1]; exact ⟨hin1, hin2⟩)
      (by
        intro x hx
        rw [z5] at hx
        obtain ⟨j, hj, rfl⟩ := List.mem_map.1 hx
        have hji := hlt j hj
        have hjl : j < r.subs.length := by omega
        obtain ⟨_, _, _, _, _, _, hlocj⟩ := reS_spec false r H j hjl
        rw [hloc, hlocj]
        exact (List.pairwise_iff_getElem.1 H.sortedS) j i hjl hi hji)
      z4
    rw [hstep] at hf
    cases hf
    simp [areaPart, stepArea]
  | proto i =>
    have hsplit : pre.filterMap Area.proto.idx ++ i :: es.filterMap Area.proto.idx = List.range r.protos.length := by
      rw [show r.protos.length = Area.proto.count r from rfl, ← sorted_indices r H .proto, ← hE]
      simp [List.filterMap_append, Area.idx]
    obtain ⟨hlt, hi⟩ := lt_of_range_split hsplit
    obtain ⟨nb, cb, hw, bty, bloc, cty, cloc, hfrom, _, hloc, _, _, _⟩ := reP_spec false r H i hi
    rw [hw] at hp; cases hp
    rw [foldlM_pair] at hf
    obtain ⟨_, _, ⟨hin1, hin2, hin3⟩, hin4⟩ := H.protosWF _ (List.getElem_mem hi)
    have hstep := readStep_proto acc nb (reP r i) bty
      (linearSpan_false r acc.1 nb _ bloc z2 hin3) hfrom (by rw [hloc, z1]; exact ⟨hin1, hin2⟩)
      (by
        intro x hx
        rw [z6] at hx
        obtain ⟨j, hj, rfl⟩ := List.mem_map.1 hx
        have hji := hlt j hj
        have hjl : j < r.protos.length := by omega
        obtain ⟨_, _, _, _, _, _, _, _, _, hlocj, _⟩ := reP_spec false r H j hjl
        rw [hloc, hlocj]
        exact (List.pairwise_iff_getElem.1 H.sortedP) j i hjl hi hji)
      z3
    rw [hstep] at hf
    simp only [Except.bind] at hf
    rw [readStep_core _ cb cty (linearSpan_false r _ cb _ cloc (by simpa using z2) hin4)] at hf
    cases hf
    simp [areaPart, stepArea]
  | cand i =>
    -- candidate clusters and regions are only collected here; they are added after the loop
    cases hc : r.cands[i]? with
    | none => simp [entToBio, hc] at hp
    | some c =>
      simp only [entToBio, hc] at hp
      obtain ⟨hwf, hin1, hin2, hin3⟩ := H.candsWF c (List.mem_of_getElem? hc)
      obtain ⟨b, rfl, _, bty, bloc⟩ := Cand.toBio_shape r c _ _ hp
      have hcod : c.feat.codon = none := by rw [hwf.feat]
      have hty : b.type = "cand_cluster" := by rw [bty, hwf.feat]
      rw [foldlM_single, readStep_post acc b (Or.inl hty) (linearSpan_false r acc.1 b _ (bloc hcod) z2 hin3)] at hf
      cases hf
      have hcb : candB r i = b := by simp [candB, entBios, entToBio, hc, hp]
      simp [areaPart, stepArea, List.filter_append, hty, hcb]
  | reg i =>
    cases hc : r.regs[i]? with
    | none => simp [entToBio, hc] at hp
    | some g =>
      simp only [entToBio, hc] at hp
      obtain ⟨hwf, hin1, hin2, hin3⟩ := H.regsWF g (List.mem_of_getElem? hc)
      obtain ⟨b, rfl, _, bty, bloc⟩ := Reg.toBio_shape r g _ _ hp
      have hcod : g.feat.codon = none := by rw [hwf.feat]
      have hty : b.type = "region" := by rw [bty, hwf.feat]
      rw [foldlM_single, readStep_post acc b (Or.inr hty) (linearSpan_false r acc.1 b _ (bloc hcod) z2 hin3)] at hf
      cases hf
      have hcb : regB r i = b := by simp [regB, entBios, entToBio, hc, hp]
      simp [areaPart, stepArea, List.filter_append, hty, hcb]



/-- the reading loop over all written features -/
theorem fold_main (r : Rec) (H : r.Scope) :
    ∀ (es pre : List Ent), pre ++ es = pySort (entLt r) (allEntries r) →
      ∀ (acc acc' : Rec × List Bio) (parts : List (List Bio)),
        areaPart acc = pre.foldl (fun a e => stepArea r e a) (a0 r) →
        es.mapM (entToBio r) = .ok parts → parts.flatten.foldlM readStep acc = .ok acc' →
        areaPart acc' = (pre ++ es).foldl (fun a e => stepArea r e a) (a0 r) := by
  intro es
  induction es with
  | nil =>
    intro pre _ acc acc' parts hacc hm hf
    simp only [List.mapM_nil, pure, Except.pure] at hm
    cases hm
    simp only [List.flatten_nil, List.foldlM_nil, pure, Except.pure] at hf
    cases hf
    simpa using hacc
  | cons e es ih =>
    intro pre hE acc acc' parts hacc hm hf
    obtain ⟨p, ps, hp, hps, rfl⟩ := mapM_cons_eq_ok.1 hm
    rw [List.flatten_cons] at hf
    obtain ⟨acc1, h1, h2⟩ := foldlM_append_eq_ok.1 hf
    have hstep := entry_step r H pre es e hE acc acc1 p hacc hp h1
    have hE' : (pre ++ [e]) ++ es = pySort (entLt r) (allEntries r) := by rw [← hE]; simp
    have := ih (pre ++ [e]) hE' acc1 acc' ps (by rw [hstep, hacc]; simp [List.foldl_append]) hps h2
    rw [this]; simp


/-! ### candidate clusters and regions are rebuilt from the record -/

theorem nodup_candX (r : Rec) (c : Cand) (num : Option Nat) : Q.Nodup (candX r c num) := by
  unfold candX
  cases num <;> cases c.smiles <;> cases c.polymer <;>
    first
    | (simp [Q.Nodup, Q.keys, optQ]; done)
    | (apply Q.nodup_set; simp [Q.Nodup, Q.keys, optQ])

theorem get?_candX (r : Rec) (c : Cand) (k : Nat) :
    Q.get? (candX r c (some k)) "protoclusters" = some (c.children.map fun (i : Nat) => strOfInt (i + 1)) ∧
    Q.get? (candX r c (some k)) "kind" = some [c.kind] ∧
    Q.get? (candX r c (some k)) "candidate_cluster_number" = some [strOfInt k] ∧
    Q.get? (candX r c (some k)) "SMILES" = c.smiles.map (fun v => [v]) ∧
    Q.get? (candX r c (some k)) "polymer" = c.polymer.map (fun v => [v]) := by
  unfold candX
  cases c.smiles <;> cases c.polymer <;> simp [Q.get?_set, Q.get?, optQ]

theorem parseNums_map (l : List Nat) :
    parseNums (l.map fun (i : Nat) => strOfInt (i + 1)) = .ok (l.map fun (i : Nat) => ((i : Int) + 1)) := by
  unfold parseNums
  induction l with
  | nil => rfl
  | cons x xs ih =>
    rw [List.map_cons, List.mapM_cons, ih]
    simp [intOfStr_strOfInt, bind, Except.bind, pure, Except.pure]

theorem maxList_le_of_all (l : List Int) (m : Int) (hne : l ≠ []) (h : ∀ x ∈ l, x ≤ m) : maxList l ≤ m :=
  h _ (maxList_mem hne)

theorem filterMap_locs_congr {α β : Type} (l1 : List α) (l2 : List β) (f : α → Loc) (g : β → Loc) (idx : List Nat)
    (hlen : l1.length = l2.length) (h : ∀ i (hi : i < l2.length) (hi' : i < l1.length), f l1[i] = g l2[i]) :
    idx.filterMap (fun i => (l1[i]?).map f) = idx.filterMap (fun i => (l2[i]?).map g) := by
  induction idx with
  | nil => rfl
  | cons i rest ih =>
    simp only [List.filterMap_cons]
    by_cases hi : i < l2.length
    · have hi' : i < l1.length := by omega
      rw [List.getElem?_eq_getElem hi, List.getElem?_eq_getElem hi']
      simp [h i hi hi', ih]
    · have hi' : ¬ i < l1.length := by omega
      rw [List.getElem?_eq_none (by omega), List.getElem?_eq_none (by omega)]
      simp [ih]

/-- an area without free qualifiers (candidate cluster, region): every key but `tool` and `note` reads as the class wrote it -/
theorem get?_written_bare (f : Feat) (X : Quals) (hq : f.quals = []) (hX : Q.Nodup X) (hcod : f.codon = none) (k : String)
    (h2 : k ≠ "tool") (h3 : k ≠ "note") : Q.get? (Q.sortKeys (finalQuals f X)) k = Q.get? X k :=
  get?_written_own f X (by rw [hq]; exact nodupNil) hX hcod k h2 h3 (by rw [hq]; rfl)

/-! Positions `i` are written as the numbers `i + 1`; four facts about that list of numbers. -/

/-- when every position is below `m`, the "a number exceeds `m`" check of the readers does not fire -/
theorem maxList_map_succ_le (l : List Nat) (m : Nat) (h : ∀ i ∈ l, i < m) :
    ¬ ((!(l.map fun (i : Nat) => ((i : Int) + 1)).isEmpty && decide (maxList (l.map fun (i : Nat) => ((i : Int) + 1)) > (m : Int))) = true) := by
  cases hl : l with
  | nil => simp
  | cons x xs =>
    have hne : ((x :: xs).map fun (i : Nat) => ((i : Int) + 1)) ≠ [] := by simp
    have := maxList_le_of_all _ (m : Int) hne (by
      intro y hy
      obtain ⟨i, hi, rfl⟩ := List.mem_map.1 hy
      have := h i (by rw [hl]; exact hi)
      omega)
    simp only [Bool.and_eq_true, decide_eq_true_eq, not_and]
    intro _; omega

theorem any_lt_one_map_succ (l : List Nat) : (l.map fun (i : Nat) => ((i : Int) + 1)).any (· < 1) = false := by
  rw [List.any_eq_false]; intro x hx
  obtain ⟨i, _, rfl⟩ := List.mem_map.1 hx
  simp; omega

theorem map_pred_map_succ (l : List Nat) : (l.map fun (i : Nat) => ((i : Int) + 1)).map (fun n => (n - 1).toNat) = l := by
  rw [List.map_map]
  conv => rhs; rw [← List.map_id l]
  apply List.map_congr_left
  intro i _
  simp

theorem isEmpty_map_succ (l : List Nat) : (l.map fun (i : Nat) => ((i : Int) + 1)).isEmpty = l.isEmpty := by
  cases l <;> rfl

/-- a candidate cluster is rebuilt exactly from its written feature, given a record with the same
    protocluster locations in the same positions -/
theorem cand_fromBio (r r1 : Rec) (c : Cand) (k : Nat) (b : Bio) (hwf : c.WF r)
    (hb : c.feat.toBio (candX r c (some k)) = .ok b)
    (hlen : r1.len = r.len) (hcirc : r1.circular = r.circular) (hpl : r1.protos.length = r.protos.length)
    (hlocs : ∀ i (hi : i < r.protos.length) (hi' : i < r1.protos.length), r1.protos[i].feat.loc = r.protos[i].feat.loc) :
    Cand.fromBio r1 b = .ok c ∧ storedNumber b = k := by
  obtain ⟨g1, g2, g3, g4, g5⟩ := get?_candX r c k
  have hfeat := hwf.feat
  have hcod : c.feat.codon = none := by rw [hfeat]
  rw [toBio_eq, hcod] at hb
  cases hb
  have own := get?_written_bare c.feat _ (by rw [hfeat]) (nodup_candX r c (some k)) hcod
  have L1 := (own "protoclusters" (by simp) (by simp)).trans g1
  have L3 := (own "candidate_cluster_number" (by simp) (by simp)).trans g3
  refine ⟨?_, by simp [storedNumber, L3, intOfStr_strOfInt]⟩
  have n1 := maxList_map_succ_le c.children r1.protos.length (by rw [hpl]; exact hwf.children)
  have n2 := any_lt_one_map_succ c.children
  have n3 := map_pred_map_succ c.children
  have n4 := isEmpty_map_succ c.children
  have hemp : (c.children.map fun (i : Nat) => ((i : Int) + 1)).isEmpty = false := by
    rw [n4]
    cases hl : c.children with
    | nil => exact absurd hl hwf.nonempty
    | cons _ _ => rfl
  have hmax : ¬ (maxList (c.children.map fun (i : Nat) => ((i : Int) + 1)) > (r1.protos.length : Int)) := by
    simpa [hemp] using n1
  have K2 : Q.get? (Q.erase (Q.sortKeys (finalQuals c.feat (candX r c (some k)))) "protoclusters") "kind" = some [c.kind] := by
    rw [Q.get?_erase_other _ _ _ (by simp), own "kind" (by simp) (by simp), g2]
  have hkind : kinds.contains c.kind = true := by simpa using hwf.kind
  have hsm : (Q.get? (Q.erase (Q.erase (Q.sortKeys (finalQuals c.feat (candX r c (some k)))) "protoclusters") "kind") "SMILES").bind
      List.head? = c.smiles := by
    rw [Q.get?_erase_other _ _ _ (by simp), Q.get?_erase_other _ _ _ (by simp), own "SMILES" (by simp) (by simp), g4]
    cases c.smiles <;> rfl
  have hpo : (Q.get? (Q.erase (Q.erase (Q.sortKeys (finalQuals c.feat (candX r c (some k)))) "protoclusters") "kind") "polymer").bind
      List.head? = c.polymer := by
    rw [Q.get?_erase_other _ _ _ (by simp), Q.get?_erase_other _ _ _ (by simp), own "polymer" (by simp) (by simp), g5]
    cases c.polymer <;> rfl
  have hwrap : (if r1.circular then some r1.len else none) = c.wrap := by rw [hcirc, hlen, hwf.wrap]
  have hloc : connect (c.children.filterMap fun i => (r1.protos[i]?).map (·.feat.loc)) c.wrap = .ok c.feat.loc := by
    rw [filterMap_locs_congr r1.protos r.protos (·.feat.loc) (·.feat.loc) c.children hpl
      (fun i hi hi' => hlocs i hi hi')]
    exact hwf.loc
  unfold Cand.fromBio
  simp only [L1, parseNums_map, hemp, Bool.false_eq_true, if_false, hmax, popReq_of_get? K2, hkind, Bool.not_true, hsm, hpo,
    n2, n3, hwrap, hloc, Except.map]
  congr 1
  cases c with
  | mk feat kind children smiles polymer wrap =>
    simp only at hfeat ⊢
    conv => rhs; rw [hfeat]

theorem nodup_regX (r : Rec) (g : Reg) (num : Option Nat) : Q.Nodup (regX r g num) := by
  unfold regX
  cases num
  · simp [Q.Nodup, Q.keys]
  · apply Q.nodup_set; simp [Q.Nodup, Q.keys]

theorem get?_regX (r : Rec) (g : Reg) (k : Nat) :
    Q.get? (regX r g (some k)) "candidate_cluster_numbers" = some (g.cands.map fun (i : Nat) => strOfInt (i + 1)) ∧
    Q.get? (regX r g (some k)) "subregion_numbers" = some (g.subs.map fun (i : Nat) => strOfInt (i + 1)) := by
  unfold regX
  simp [Q.get?_set, Q.get?]

theorem reg_fromBio (r r1 : Rec) (g : Reg) (k : Nat) (b : Bio) (hwf : g.WF r)
    (hb : g.feat.toBio (regX r g (some k)) = .ok b)
    (hcl : r1.cands.length = r.cands.length) (hsl : r1.subs.length = r.subs.length)
    (hclocs : ∀ i (hi : i < r.cands.length) (hi' : i < r1.cands.length), r1.cands[i].feat.loc = r.cands[i].feat.loc)
    (hslocs : ∀ i (hi : i < r.subs.length) (hi' : i < r1.subs.length), r1.subs[i].feat.loc = r.subs[i].feat.loc) :
    Reg.fromBio r1 b = .ok g := by
  obtain ⟨g1, g2⟩ := get?_regX r g k
  have hfeat := hwf.feat
  have hcod : g.feat.codon = none := by rw [hfeat]
  rw [toBio_eq, hcod] at hb
  cases hb
  have own := get?_written_bare g.feat _ (by rw [hfeat]) (nodup_regX r g (some k)) hcod
  have L1 := (own "candidate_cluster_numbers" (by simp) (by simp)).trans g1
  have L2 := (own "subregion_numbers" (by simp) (by simp)).trans g2
  have c1 := maxList_map_succ_le g.cands r1.cands.length (by rw [hcl]; exact hwf.cands)
  have s1 := maxList_map_succ_le g.subs r1.subs.length (by rw [hsl]; exact hwf.subs)
  have hboth : ((g.cands.map fun (i : Nat) => ((i : Int) + 1)).isEmpty && (g.subs.map fun (i : Nat) => ((i : Int) + 1)).isEmpty) = false := by
    rw [isEmpty_map_succ, isEmpty_map_succ]
    rcases hwf.nonempty with h | h
    · cases hc : g.cands with
      | nil => exact absurd hc h
      | cons _ _ => rfl
    · cases hc : g.subs with
      | nil => exact absurd hc h
      | cons _ _ => simp
  have hloc : regionLoc ((g.subs.filterMap fun i => (r1.subs[i]?).map (·.feat.loc)) ++
      (g.cands.filterMap fun i => (r1.cands[i]?).map (·.feat.loc))) = .ok g.feat.loc := by
    rw [filterMap_locs_congr r1.subs r.subs (·.feat.loc) (·.feat.loc) g.subs hsl (fun i hi hi' => hslocs i hi hi'),
      filterMap_locs_congr r1.cands r.cands (·.feat.loc) (·.feat.loc) g.cands hcl (fun i hi hi' => hclocs i hi hi')]
    exact hwf.loc
  unfold Reg.fromBio
  simp only [L1, L2, Option.getD_some, parseNums_map, c1, s1, any_lt_one_map_succ, map_pred_map_succ, hboth, if_false, Bool.or_self,
    Bool.false_eq_true, hloc, Except.map]
  congr 1
  cases g with
  | mk feat cands subs =>
    simp only at hfeat ⊢
    conv => rhs; rw [hfeat]



/-- the feature written for candidate cluster `k` of a record in scope -/
theorem candB_written (r : Rec) (H : r.Scope) (k : Nat) (hk : k < r.cands.length) :
    (r.cands[k]).feat.toBio (candX r r.cands[k] (some (k + 1))) = .ok (candB r k) := by
  obtain ⟨hwf, _⟩ := H.candsWF _ (List.getElem_mem hk)
  have hcod : (r.cands[k]).feat.codon = none := by rw [hwf.feat]
  have hany : (r.cands[k].children.any fun i => decide (i ≥ r.protos.length)) = false := by
    rw [List.any_eq_false]; intro i hi; have := hwf.children i hi; simp; omega
  simp [candB, entBios, entToBio, List.getElem?_eq_getElem hk, Cand.toBio, hany, toBio_eq, hcod, Except.map]

/-- the feature written for region `k` of a record in scope -/
theorem regB_written (r : Rec) (H : r.Scope) (k : Nat) (hk : k < r.regs.length) :
    (r.regs[k]).feat.toBio (regX r r.regs[k] (some (k + 1))) = .ok (regB r k) := by
  obtain ⟨hwf, _⟩ := H.regsWF _ (List.getElem_mem hk)
  have hcod : (r.regs[k]).feat.codon = none := by rw [hwf.feat]
  have hany : ((r.regs[k]).cands.any (fun i => decide (i ≥ r.cands.length)) ||
      (r.regs[k]).subs.any (fun i => decide (i ≥ r.subs.length))) = false := by
    rw [Bool.or_eq_false_iff, List.any_eq_false, List.any_eq_false]
    exact ⟨fun i hi => by have := hwf.cands i hi; simp; omega, fun i hi => by have := hwf.subs i hi; simp; omega⟩
  simp [regB, entBios, entToBio, List.getElem?_eq_getElem hk, Reg.toBio, hany, toBio_eq, hcod, Except.map]

/-! ### the postponed candidate clusters -/

theorem candOrder_eq (l : List Bio) :
    candOrder l = Refine.sortBy (fun a b => decide (storedNumber a > storedNumber b)) l := by
  rw [candOrder, Refine.foldl_eq_sortBy (c := fun a b => decide (storedNumber a > storedNumber b))
    (ins := insertByNumberDesc) (fun _ => rfl)
    (fun _ _ _ => by simp only [insertByNumberDesc, decide_eq_true_eq]), List.reverse_reverse]

/-- candidate features written with increasing numbers are added from the last to the first -/
theorem candOrder_increasing (l : List Bio) (h : l.Pairwise (fun a b => storedNumber a ≤ storedNumber b)) :
    candOrder l = l.reverse := by
  rw [candOrder_eq]
  exact Refine.sortBy_of_pairwise_gt (h.imp fun hab => decide_eq_false (Int.not_lt.2 hab))

/-- adding the candidates `k-1, …, 0` in front of `k, k+1, …` gives all of them -/
theorem cand_phase (r : Rec) (H : r.Scope) : ∀ (k : Nat) (hk : k ≤ r.cands.length) (rk r' : Rec),
    rk.len = r.len → rk.circular = r.circular → rk.protos.length = r.protos.length →
    (∀ i (hi : i < r.protos.length) (hi' : i < rk.protos.length), rk.protos[i].feat.loc = r.protos[i].feat.loc) →
    rk.cands = r.cands.drop k → rk.regs = [] →
    ((List.range k).reverse.map (candB r)).foldlM (fun r b => do addCand r (← Cand.fromBio r b)) rk = .ok r' →
    r'.cands = r.cands ∧ r'.protos = rk.protos ∧ r'.subs = rk.subs ∧ r'.regs = [] ∧ r'.len = r.len ∧ r'.circular = r.circular := by
  intro k
  induction k with
  | zero =>
    intro _ rk r' h1 h2 _ _ hc hr hf
    simp only [List.range_zero, List.reverse_nil, List.map_nil, List.foldlM_nil, pure, Except.pure] at hf
    cases hf
    exact ⟨by simpa using hc, rfl, rfl, hr, h1, h2⟩
  | succ k ih =>
    intro hk rk r' h1 h2 h3 h4 hc hr hf
    have hkl : k < r.cands.length := by omega
    rw [List.range_succ, List.reverse_append, List.reverse_singleton, List.singleton_append, List.map_cons,
      List.foldlM_cons] at hf
    obtain ⟨hwf, hin1, hin2, _⟩ := H.candsWF _ (List.getElem_mem hkl)
    obtain ⟨hfrom, _⟩ := cand_fromBio r rk _ (k + 1) _ hwf (candB_written r H k hkl) h1 h2 h3 h4
    simp only [hfrom, bind, Except.bind] at hf
    have hadd := addCand_front rk r.cands[k] (by rw [h1]; exact ⟨hin1, hin2⟩) (by
      intro e he
      rw [hc] at he
      obtain ⟨j, hj, rfl⟩ := List.mem_iff_getElem.1 he
      rw [List.getElem_drop]
      have hjl : k + 1 + j < r.cands.length := by simp at hj; omega
      exact (List.pairwise_iff_getElem.1 H.sortedC) k (k + 1 + j) hkl hjl (by omega)) hr
    rw [hadd] at hf
    have := ih (by omega) _ r' (by simpa using h1) (by simpa using h2) (by simpa using h3) (by simpa using h4)
      (by simp only [hc]; exact (List.drop_eq_getElem_cons hkl).symm) (by simpa using hr) hf
    simpa using this



/-! ### the postponed regions -/

/-- adding the regions `k, k+1, …` after `0, …, k-1` gives all of them (each sorts after, and overlaps none of, those present) -/
theorem reg_phase (r : Rec) (H : r.Scope) : ∀ (m k : Nat) (hk : k + m = r.regs.length) (rk r' : Rec),
    rk.len = r.len → rk.cands.length = r.cands.length → rk.subs.length = r.subs.length →
    (∀ i (hi : i < r.cands.length) (hi' : i < rk.cands.length), rk.cands[i].feat.loc = r.cands[i].feat.loc) →
    (∀ i (hi : i < r.subs.length) (hi' : i < rk.subs.length), rk.subs[i].feat.loc = r.subs[i].feat.loc) →
    rk.regs = r.regs.take k →
    ((List.range' k m).map (regB r)).foldlM (fun r b => do addReg r (← Reg.fromBio r b)) rk = .ok r' →
    r'.regs = r.regs ∧ r'.cands = rk.cands ∧ r'.protos = rk.protos ∧ r'.subs = rk.subs ∧ r'.len = rk.len ∧ r'.circular = rk.circular := by
  intro m
  induction m with
  | zero =>
    intro k hk rk r' _ _ _ _ _ hr hf
    simp only [List.range'_zero, List.map_nil, List.foldlM_nil, pure, Except.pure] at hf
    cases hf
    refine ⟨?_, rfl, rfl, rfl, rfl, rfl⟩
    rw [hr, List.take_of_length_le (by omega)]
  | succ m ih =>
    intro k hk rk r' h1 h2 h3 h4 h5 hr hf
    have hkl : k < r.regs.length := by omega
    rw [List.range'_succ, List.map_cons, List.foldlM_cons] at hf
    obtain ⟨hwf, hin1, hin2, _⟩ := H.regsWF _ (List.getElem_mem hkl)
    have hfrom := reg_fromBio r rk _ (k + 1) _ hwf (regB_written r H k hkl) h2 h3 h4 h5
    simp only [hfrom, bind, Except.bind] at hf
    have hadd := addReg_last rk r.regs[k] (by rw [h1]; exact ⟨hin1, hin2⟩) (by
      intro e he
      rw [hr] at he
      obtain ⟨j, hj, rfl⟩ := List.mem_iff_getElem.1 he
      rw [List.getElem_take]
      have hjk : j < k := by simp at hj; omega
      have hjl : j < r.regs.length := by omega
      exact ⟨(List.pairwise_iff_getElem.1 H.disjoint) j k hjl hkl hjk,
             (List.pairwise_iff_getElem.1 H.sortedR) j k hjl hkl hjk⟩)
    rw [hadd] at hf
    have := ih (k + 1) (by omega) _ r' (by simpa using h1) (by simpa using h2) (by simpa using h3) (by simpa using h4)
      (by simpa using h5) (by simp only [hr]; rw [List.take_add_one, List.getElem?_eq_getElem hkl]; rfl) hf
    simpa using this

/-- modules (postponed as well) touch no area list -/
theorem module_phase : ∀ (l : List Bio) (rk r' : Rec),
    l.foldlM (fun r b => do pure { r with others := r.others ++ [← plainFromBio b] }) rk = .ok r' →
    r'.regs = rk.regs ∧ r'.cands = rk.cands ∧ r'.protos = rk.protos ∧ r'.subs = rk.subs ∧ r'.len = rk.len ∧ r'.circular = rk.circular := by
  intro l
  induction l with
  | nil => intro rk r' hf; simp only [List.foldlM_nil, pure, Except.pure] at hf; cases hf; simp
  | cons b rest ih =>
    intro rk r' hf
    simp only [foldlM_cons_eq_ok, ok_inv] at hf
    obtain ⟨_, ⟨f, -, rfl⟩, hf⟩ := hf
    simpa using ih _ r' hf



theorem map_range_eq {α β : Type} (l : List α) (f : Nat → β) (g : α → β)
    (h : ∀ i (hi : i < l.length), f i = g l[i]) : (List.range l.length).map f = l.map g := by
  apply List.ext_getElem
  · simp
  · intro i h1 h2
    simp only [List.getElem_map, List.getElem_range]
    exact h i (by simpa using h2)

/-- the re-read record has the same area lists, in the same order, with the same cross references -/
theorem numbering_main (t : Bool) (r : Rec) (H : r.Scope) (bios : List Bio) (r' : Rec)
    (hw : writeRecord r = .ok bios) (hr : readRecord r.len r.circular bios = .ok r') :
    r'.subs.map (Sub.view t) = r.subs.map (Sub.view t) ∧
    r'.protos.map (Proto.view t) = r.protos.map (Proto.view t) ∧
    r'.cands = r.cands ∧ r'.cands.map (Cand.view t r') = r.cands.map (Cand.view t r) ∧
    r'.regs = r.regs := by
  -- the written features, entry by entry
  unfold writeRecord at hw
  simp only [ok_inv] at hw
  obtain ⟨parts, hparts, rfl⟩ := hw
  unfold readRecord at hr
  simp only [ok_inv, Prod.exists] at hr
  obtain ⟨r1, post, hloop, r2, hcp, r3, hrp, hr⟩ := hr
  -- after the loop: subregions and protoclusters in their written order, candidates and regions collected
  have hmain := fold_main r H _ [] (by simp) _ _ parts (by simp [areaPart, a0]) hparts hloop
  have hz := foldl_stepArea r (pySort (entLt r) (allEntries r)) (a0 r)
  simp only [List.nil_append] at hmain
  rw [← hmain, sorted_indices r H, sorted_indices r H, sorted_indices r H, sorted_indices r H] at hz
  have z1 : r1.len = r.len := congrArg AreaPart.len hz
  have z2 : r1.circular = r.circular := congrArg AreaPart.circular hz
  have z3 : r1.cands = [] := congrArg AreaPart.cands hz
  have z4 : r1.regs = [] := congrArg AreaPart.regs hz
  have z5 : r1.subs = (List.range r.subs.length).map (reS r) := congrArg AreaPart.subs hz
  have z6 : r1.protos = (List.range r.protos.length).map (reP r) := congrArg AreaPart.protos hz
  have z7 : post.filter (·.type == "cand_cluster") = (List.range r.cands.length).map (candB r) := congrArg AreaPart.postCands hz
  have z8 : post.filter (·.type == "region") = (List.range r.regs.length).map (regB r) := congrArg AreaPart.postRegs hz
  have hnum : ∀ i (hi : i < r.cands.length), storedNumber (candB r i) = ((i + 1 : Nat) : Int) := fun i hi =>
    (cand_fromBio r r _ (i + 1) _ (H.candsWF _ (List.getElem_mem hi)).1 (candB_written r H i hi) rfl rfl rfl
      (fun _ _ _ => rfl)).2
  -- the postponed candidate clusters carry the numbers 1, 2, …, so they are added last to first (`cand_phase`)
  have horder : candOrder (post.filter (·.type == "cand_cluster")) = (List.range r.cands.length).reverse.map (candB r) := by
    rw [z7, candOrder_increasing, List.map_reverse]
    rw [List.pairwise_map]
    refine List.pairwise_lt_range.imp_of_mem ?_
    intro i j hi hj hij
    rw [hnum i (List.mem_range.1 hi), hnum j (List.mem_range.1 hj)]
    omega
  rw [horder] at hcp
  have hP1 : ∀ i (hi : i < r.protos.length) (hi' : i < r1.protos.length), r1.protos[i].feat.loc = r.protos[i].feat.loc := by
    intro i hi hi'
    have : r1.protos[i] = reP r i := by simp [z6]
    rw [this]
    obtain ⟨_, _, _, _, _, _, _, _, _, hloc, _⟩ := reP_spec t r H i hi
    exact hloc
  obtain ⟨c1, c2, c3, c4, c5, c6⟩ := cand_phase r H r.cands.length (Nat.le_refl _) r1 r2 z1 z2 (by simp [z6]) hP1
    (by rw [z3]; simp) z4 hcp
  -- the postponed regions, first to last: each is appended (`reg_phase`)
  rw [z8] at hrp
  have hS2 : ∀ i (hi : i < r.subs.length) (hi' : i < r2.subs.length), r2.subs[i].feat.loc = r.subs[i].feat.loc := by
    intro i hi hi'
    have : r2.subs[i] = reS r i := by simp [c3, z5]
    rw [this]
    obtain ⟨_, _, _, _, _, _, hloc⟩ := reS_spec t r H i hi
    exact hloc
  obtain ⟨g1, g2, g3, g4, g5, g6⟩ := reg_phase r H r.regs.length 0 (by simp) r2 r3 c5 (by rw [c1]) (by simp [c3, z5])
    (fun i hi hi' => by simp [c1]) hS2 (by rw [c4]; simp)
    (by rw [← List.range_eq_range']; exact hrp)
  -- the postponed modules touch no area list
  obtain ⟨m1, m2, m3, m4, m5, m6⟩ := module_phase _ r3 r' hr
  have hsubs : r'.subs = (List.range r.subs.length).map (reS r) := by rw [m4, g4, c3, z5]
  have hprotos : r'.protos = (List.range r.protos.length).map (reP r) := by rw [m3, g3, c2, z6]
  have hcands : r'.cands = r.cands := by rw [m2, g2, c1]
  refine ⟨?_, ?_, hcands, ?_, by rw [m1, g1]⟩
  · rw [hsubs, List.map_map]
    exact map_range_eq r.subs _ _ (fun i hi => by
      obtain ⟨_, _, _, _, _, hv, _⟩ := reS_spec t r H i hi
      exact hv)
  · rw [hprotos, List.map_map]
    exact map_range_eq r.protos _ _ (fun i hi => by
      obtain ⟨_, _, _, _, _, _, _, _, hv, _⟩ := reP_spec t r H i hi
      exact hv)
  · rw [hcands]
    apply List.map_congr_left
    intro c hc
    unfold Cand.view Cand.coreLoc
    have hcore : (childProtos r' c).map (·.core) = (childProtos r c).map (·.core) := by
      unfold childProtos
      rw [List.map_filterMap, List.map_filterMap, hprotos]
      exact filterMap_locs_congr (List.map (reP r) (List.range r.protos.length)) r.protos
        (fun x => x.core) (fun x => x.core) c.children (by simp) (fun i hi hi' => by
          simp only [List.getElem_map, List.getElem_range]
          obtain ⟨_, _, _, _, _, _, _, _, _, _, hcore, _⟩ := reP_spec t r H i hi
          exact hcore)
    rw [hcore]


/-! ### the taxon -/

theorem readStepT_true (acc : Rec × List Bio) (b : Bio) : readStepT true acc b = readStep acc b := by
  unfold readStepT readStep; simp

theorem readStepT_noclean (bact : Bool) (acc : Rec × List Bio) (b : Bio) (h : prefilter b = b) :
    readStepT bact acc b = readStep acc b := by
  unfold readStepT readStep
  cases bact <;> simp [h]

/-- reading does not depend on the taxon when no `misc_feature` needs the NCBI clean-up -/
theorem readRecordT_eq (bact : Bool) (len : Int) (circ : Bool) (bios : List Bio) (h : ∀ b ∈ bios, prefilter b = b) :
    readRecordT bact len circ bios = readRecord len circ bios := by
  unfold readRecordT readRecord
  rw [foldlM_congr bios _ fun b hb acc => readStepT_noclean bact acc b (h b hb)]

/-! ### the clean-up of `misc_feature` locations never reorders exons -/

theorem _root_.ASV.sortBySizeDesc_eq (l : List Part) :
    sortBySizeDesc l = Refine.sortBy (fun a b => decide (a.len > b.len)) l := by
  rw [sortBySizeDesc, Refine.foldl_eq_sortBy (c := fun a b => decide (a.len > b.len)) (ins := insertBySizeDesc) (fun _ => rfl)
    (fun _ _ _ => by simp only [insertBySizeDesc, decide_eq_true_eq]), List.reverse_reverse]

theorem kept_mem_aux : ∀ (l acc : List Part) (y : Part),
    y ∈ l.foldl (fun (acc : List Part) p => if acc.any (partContains · p) then acc else acc ++ [p]) acc → y ∈ l ∨ y ∈ acc
  | [], _, _, h => Or.inr h
  | x :: rest, acc, y, h => by
    simp only [List.foldl_cons] at h
    rcases kept_mem_aux rest _ y h with e | e
    · exact Or.inl (List.mem_cons_of_mem _ e)
    · split at e
      · exact Or.inr e
      · rcases List.mem_append.1 e with e' | e'
        · exact Or.inr e'
        · exact Or.inl (by simp at e'; simp [e'])

/-- `remove_redundant_exons` keeps the remaining exons in the order they had -/
theorem removeRedundantExons_sublist (l : Loc) : (removeRedundantExons l).parts.Sublist l.parts := by
  cases l with
  | simple p => exact List.Sublist.refl _
  | compound ps =>
    simp only [removeRedundantExons]
    split
    · rename_i p hk
      have hp : p ∈ ps := by
        have : p ∈ (sortBySizeDesc ps).foldl (fun (acc : List Part) p => if acc.any (partContains · p) then acc else acc ++ [p]) [] := by
          rw [hk]; simp
        rcases kept_mem_aux _ [] p this with e | e
        · exact (Refine.mem_sortBy _).1 (sortBySizeDesc_eq ps ▸ e)
        · cases e
      simpa [Loc.parts] using hp
    · exact List.filter_sublist

/-- the clean-up `Record.from_biopython` applies to `misc_feature` locations only ever drops exons: what is left is in
    the order it was written in -/
theorem prefilter_sublist (b : Bio) : (prefilter b).loc.parts.Sublist b.loc.parts := by
  unfold prefilter
  split
  · exact removeRedundantExons_sublist b.loc
  · exact List.Sublist.refl _

end ASV.Serial
