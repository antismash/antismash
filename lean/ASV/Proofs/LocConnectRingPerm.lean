/-
  `connect_locations` on a ring does not depend on the order of its arguments, and connecting its
  own result again returns it (C04).
-/
import ASV.Proofs.LocConnectRingSpec
namespace ASV

theorem hullP_perm {q₁ q₂ : List Part} (h : q₁.Perm q₂) : hullP q₁ = hullP q₂ := by
  simp only [hullP, minList_perm (h.map _), maxList_perm (h.map _)]

theorem any_isTwo_perm {r₁ r₂ : List RLoc} (h : r₁.Perm r₂) : r₁.any RLoc.isTwo = r₂.any RLoc.isTwo := by
  rw [Bool.eq_iff_iff, List.any_eq_true, List.any_eq_true]
  exact ⟨fun ⟨x, hx, e⟩ => ⟨x, h.mem_iff.1 hx, e⟩, fun ⟨x, hx, e⟩ => ⟨x, h.mem_iff.2 hx, e⟩⟩

theorem connB_many (r1 r2 : RLoc) (rest : List RLoc) (L : Int) :
    connB (r1 :: r2 :: rest) L =
      if 0 < (hullP (preOf L (r1 :: r2 :: rest))).lo ∧
          (hullP (postOf L (r1 :: r2 :: rest))).hi ≤ (hullP (preOf L (r1 :: r2 :: rest))).lo then
        .compound [⟨(hullP (preOf L (r1 :: r2 :: rest))).lo, L, .fwd⟩, ⟨0, (hullP (postOf L (r1 :: r2 :: rest))).hi, .fwd⟩]
      else .simple ⟨0, L, .fwd⟩ := rfl

theorem connB_perm {r₁ r₂ : List RLoc} (h : r₁.Perm r₂) (L : Int) : connB r₁ L = connB r₂ L := by
  have hpre : hullP (preOf L r₁) = hullP (preOf L r₂) := hullP_perm (h.flatMap_right _)
  have hpost : hullP (postOf L r₁) = hullP (postOf L r₂) := hullP_perm (h.flatMap_right _)
  have hlen := h.length_eq
  match r₁, r₂, h, hpre, hpost, hlen with
  | [], r₂, h, _, _, _ => rw [List.nil_perm.1 h]
  | [a], r₂, h, _, _, _ => rw [List.singleton_perm.1 h]
  | a :: b :: t, [], _, _, _, hlen => simp at hlen
  | a :: b :: t, [c], _, _, _, hlen => simp at hlen
  | a :: b :: t, c :: d :: u, _, hpre, hpost, _ => rw [connB_many, connB_many, hpre, hpost]

theorem connA_perm {r₁ r₂ : List RLoc} (h : r₁.Perm r₂) (L : Int) (hL : 0 < L) (hok : ∀ r ∈ r₁, r.OK L) :
    connA r₁ L = connA r₂ L := by
  have hpre : hullP (preOf L r₁) = hullP (preOf L r₂) := hullP_perm (h.flatMap_right _)
  have hpost : hullP (postOf L r₁) = hullP (postOf L r₂) := hullP_perm (h.flatMap_right _)
  have hpe : preOf L r₁ = [] ↔ preOf L r₂ = [] := by
    have := (h.flatMap_right (RLoc.pre L))
    exact ⟨fun e => by rw [preOf] at e; rw [e] at this; exact List.nil_perm.1 this,
           fun e => by rw [preOf] at e; rw [e] at this; exact List.perm_nil.1 this⟩
  have hqe : postOf L r₁ = [] ↔ postOf L r₂ = [] := by
    have := (h.flatMap_right (RLoc.post L))
    exact ⟨fun e => by rw [postOf] at e; rw [e] at this; exact List.nil_perm.1 this,
           fun e => by rw [postOf] at e; rw [e] at this; exact List.perm_nil.1 this⟩
  have hw : isWrappingShorter (r₁.map (RLoc.toLoc L)) L = isWrappingShorter (r₂.map (RLoc.toLoc L)) L := by
    apply isWrappingShorter_perm (h.map _) L (by omega)
    intro l hl
    obtain ⟨r, hr, rfl⟩ := List.mem_map.1 hl
    have := toLoc_bounds (hok r hr); omega
  have hh : hullOf (r₁.map (RLoc.toLoc L)) = hullOf (r₂.map (RLoc.toLoc L)) := by
    simp only [hullOf, minList_perm ((h.map _).map _), maxList_perm ((h.map _).map _), commonStrand_perm (h.map _)]
  unfold connA
  rw [hw, hpre, hpost, hh]
  by_cases c1 : postOf L r₁ = []
  · rw [if_pos c1, if_pos (hqe.1 c1)]
  · rw [if_neg c1, if_neg (fun e => c1 (hqe.2 e))]
    by_cases c2 : preOf L r₁ = []
    · rw [if_pos c2, if_pos (hpe.1 c2)]
    · rw [if_neg c2, if_neg (fun e => c2 (hpe.2 e))]

/-- the closed form does not depend on the order of the locations -/
theorem connR_perm {r₁ r₂ : List RLoc} (h : r₁.Perm r₂) (L : Int) (hL : 0 < L) (hok : ∀ r ∈ r₁, r.OK L) :
    connR r₁ L = connR r₂ L := by
  unfold connR
  rw [any_isTwo_perm h, connB_perm h L, connA_perm h L hL hok]

/-- connecting a well-formed one-part span, or a forward two-part span, on its own returns it -/
theorem connect_self (c : Loc) (L : Int) (hL : 0 < L) (hwf : areaWF L L c = true)
    (hshape : (∃ p, c = .simple p) ∨ (∃ a b, c = .compound [⟨a, L, .fwd⟩, ⟨0, b, .fwd⟩])) :
    connect [c] (some L) = .ok c := by
  rcases hshape with ⟨p, rfl⟩ | ⟨a, b, rfl⟩
  · simp only [areaWF, Loc.parts, Bool.and_eq_true, decide_eq_true_eq] at hwf
    have hin : ∀ l ∈ [Loc.simple p], RingIn L l := by
      intro l hl
      simp only [List.mem_singleton] at hl; subst hl
      exact RingInStrict.ringIn (Or.inl ⟨p, rfl, by omega, by omega, by omega⟩)
    rw [connect_ring_closed _ L (by simp) hL hin]
    have ht : toR (.simple p) = .one p := rfl
    have hw : isWrappingShorter [Loc.simple p] L = false := by
      simp [isWrappingShorter, bridgesOrigin, sortLocs, insertLocBy]
    simp only [List.map, ht, connR, List.any_cons, List.any_nil, RLoc.isTwo, Bool.or_false, Bool.false_eq_true, if_false,
      connA, RLoc.toLoc, hw, hullOf_single]
  · simp only [areaWF, Loc.parts, Bool.and_eq_true, decide_eq_true_eq] at hwf
    have hin : ∀ l ∈ [Loc.compound [⟨a, L, .fwd⟩, ⟨0, b, .fwd⟩]], RingIn L l := by
      intro l hl
      simp only [List.mem_singleton] at hl; subst hl
      exact RingInSpan.ringIn (Or.inr (Or.inl ⟨a, b, .fwd, rfl, by omega, by omega, by omega⟩))
    rw [connect_ring_closed _ L (by simp) hL hin]
    have ht : toR (Loc.compound [⟨a, L, .fwd⟩, ⟨0, b, .fwd⟩]) = .two a b :=
      toR_areaTwo a b L .fwd (by decide) (by omega) (by omega) (by omega)
    simp only [List.map, ht, connR, List.any_cons, List.any_nil, RLoc.isTwo, Bool.or_false, if_true, connB, RLoc.toLoc, fl]

end ASV
