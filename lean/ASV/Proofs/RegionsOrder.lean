/-
  C06: location order.  `bisect_left` and the scan of `add_region` find the split
  point of a key-sorted list; on a linear record every list of the record stays sorted by
  (start, longer first) through every operation.
-/
import ASV.Proofs.RegionsInv
import ASV.Proofs.RegionsComponents
namespace ASV.Regions
open ASV ASV.Base

/-- The call `insertSortedWith` makes: the list splits at the insertion point into the elements with `P` and those
    without.  A test that is downward closed in the key partitions a key-sorted list, and `bisect` finds the partition
    point.  Covers `bisect_left` (`l[mid] < x`) and `bisect_right` (`not (x < l[mid])`). -/
theorem insertSortedWith_split (key : Feat → Int × Int) (P : Feat → Bool) {l : List Feat} {lt : Feat → E Bool} (d : Dict Nat)
    (x : Feat) (hs : SortedBy key l) (hlt : ∀ y ∈ l, lt y = .ok (P y))
    (hmono : ∀ a b, keyLt (key b) (key a) = false → P b = true → P a = true) :
    ∃ r, r ≤ l.length ∧ (∀ y ∈ l.take r, P y = true) ∧ (∀ y ∈ l.drop r, P y = false) ∧
      insertSortedWith lt l d x = .ok (insertAt l r x, renumber d (insertAt l r x) r) := by
  have hd : ∀ y ∈ l.dropWhile P, P y = false := Bisect.dropWhile_fails P hs fun a _ b _ hab ha => by
    cases hb : P b
    · rfl
    · rw [hmono a b hab hb] at ha; cases ha
  have hp := Bisect.partitioned_takeWhile P l hd
  have hr : bisectLeft lt l (l.length + 1) 0 l.length = .ok (l.takeWhile P).length := by
    rw [bisectLeft_eq_loop P l lt hlt _ _ _ (Nat.le_refl _),
      Bisect.loop_eq P l _ hp _ 0 _ (Nat.zero_le _) hp.1 (Nat.le_refl _) (by omega)]
  refine ⟨_, hp.1, fun y hy => ?_, fun y hy => ?_, by simp only [insertSortedWith, hr, bind, Except.bind, pure, Except.pure]⟩
  · rw [Refine.take_length_takeWhile] at hy
    exact List.all_eq_true.1 List.all_takeWhile y hy
  · rw [Refine.drop_length_takeWhile] at hy
    exact hd y hy

/-- sort key of a member of a linear record -/
def lkey (f : Feat) : Int × Int := lineKey f.loc

/-- `bisect_left` (add_candidate_cluster): the new area goes before the first element that is not smaller -/
theorem insertSorted_split {len : Int} {l : List Feat} (d : Dict Nat) {x : Feat}
    (hs : SortedBy lkey l) (hl : ∀ y ∈ l, LineArea len y.loc) (hx : LineArea len x.loc) :
    ∃ r, r ≤ l.length ∧ (∀ y ∈ l.take r, keyLt (lkey y) (lkey x) = true) ∧
      (∀ y ∈ l.drop r, keyLt (lkey y) (lkey x) = false) ∧
      insertSorted l d x = .ok (insertAt l r x, renumber d (insertAt l r x) r) :=
  insertSortedWith_split lkey (fun y => keyLt (lkey y) (lkey x)) d x hs (fun y hy => collectionLt_line (hl y hy) hx)
    (fun _ _ hab hb => keyLt_of_le_of_lt hab hb)

/-- `bisect_right` (add_protocluster / add_subregion): the new area goes after every element that is not larger -/
theorem insertSortedRight_split {len : Int} {l : List Feat} (d : Dict Nat) {x : Feat}
    (hs : SortedBy lkey l) (hl : ∀ y ∈ l, LineArea len y.loc) (hx : LineArea len x.loc) :
    ∃ r, r ≤ l.length ∧ (∀ y ∈ l.take r, keyLt (lkey x) (lkey y) = false) ∧
      (∀ y ∈ l.drop r, keyLt (lkey x) (lkey y) = true) ∧
      insertSortedRight l d x = .ok (insertAt l r x, renumber d (insertAt l r x) r) := by
  obtain ⟨r, hle, h1, h2, h⟩ := insertSortedWith_split lkey (fun y => !keyLt (lkey x) (lkey y)) d x hs
    (lt := fun y => do pure (!(← collectionLt x.loc y.loc)))
    (fun y hy => by simp only [collectionLt_line hx (hl y hy), bind, Except.bind, pure, Except.pure]; rfl)
    (fun a b hab hb => by
      simp only [Bool.not_eq_true'] at hb ⊢
      exact keyLe_trans hab hb)
  exact ⟨r, hle, fun y hy => by simpa using h1 y hy, fun y hy => by simpa using h2 y hy, h⟩

theorem insertSorted_sorted {len : Int} {l : List Feat} {d : Dict Nat} {x : Feat} {l' : List Feat} {d' : Dict Nat}
    (hs : SortedBy lkey l) (hl : ∀ y ∈ l, LineArea len y.loc) (hx : LineArea len x.loc)
    (h : insertSorted l d x = .ok (l', d')) : SortedBy lkey l' := by
  obtain ⟨r, _, h1, h2, e⟩ := insertSorted_split d hs hl hx
  rw [e] at h
  cases h
  exact insertAt_pairwise (fun y hy => keyLt_asymm (h1 y hy)) h2 hs

theorem insertSortedRight_sorted {len : Int} {l : List Feat} {d : Dict Nat} {x : Feat} {l' : List Feat} {d' : Dict Nat}
    (hs : SortedBy lkey l) (hl : ∀ y ∈ l, LineArea len y.loc) (hx : LineArea len x.loc)
    (h : insertSortedRight l d x = .ok (l', d')) : SortedBy lkey l' := by
  obtain ⟨r, _, h1, h2, e⟩ := insertSortedRight_split d hs hl hx
  rw [e] at h
  cases h
  exact insertAt_pairwise h1 (fun y hy => keyLt_asymm (h2 y hy)) hs

/-- the scan of `add_region` stops at the first existing region the new one is smaller than -/
theorem regionIndex_sorted (key : Feat → Int × Int) (region : Feat) (l : List Feat) (hs : SortedBy key l)
    (hlt : ∀ y ∈ l, collectionLt region.loc y.loc = .ok (keyLt (key region) (key y))) (i r : Nat)
    (h : regionIndex region i l = .ok r) :
    (∀ y ∈ l.take (r - i), keyLt (key region) (key y) = false) ∧
    (∀ y ∈ l.drop (r - i), keyLt (key y) (key region) = false) := by
  induction l generalizing i with
  | nil => simp
  | cons x xs ih =>
    have hs' := List.pairwise_cons.1 hs
    have hb := (regionIndex_ok region i r (x :: xs) h).1
    simp only [regionIndex, hlt x (by simp), ok_inv] at h
    obtain ⟨-, b, rfl, h⟩ := h
    cases hk : keyLt (key region) (key x) with
    | true =>
      simp only [hk, if_true, ok_inv] at h
      rw [← h.2, Nat.sub_self]
      refine ⟨by simp, fun y hy => ?_⟩
      rcases List.mem_cons.1 hy with rfl | hy
      · exact keyLt_asymm hk
      · exact keyLt_asymm (keyLt_of_lt_of_le hk (hs'.1 y hy))
    | false =>
      simp only [hk, Bool.false_eq_true, if_false] at h
      have hb' := (regionIndex_ok region (i + 1) r xs h).1
      obtain ⟨ih1, ih2⟩ := ih hs'.2 (fun y hy => hlt y (by simp [hy])) (i + 1) h
      rw [show r - i = (r - (i + 1)) + 1 by omega, List.take_succ_cons, List.drop_succ_cons]
      refine ⟨fun y hy => ?_, ih2⟩
      rcases List.mem_cons.1 hy with rfl | hy
      · exact hk
      · exact ih1 y hy

/-- linear record, every member a non-empty single span inside it, every list in location order -/
structure LineSorted (s : State) : Prop where
  lin : s.circular = false
  locs : ∀ f ∈ s.protos ++ s.cands ++ s.subs ++ s.pool ++ s.regions, LineArea s.len f.loc
  sP : SortedBy lkey s.protos
  sC : SortedBy lkey s.cands
  sS : SortedBy lkey s.subs
  sR : SortedBy lkey s.regions

/-- the areas an operation introduces are non-empty single spans inside the record -/
def OpLine (len : Int) : Op → Prop
  | .addProto loc => LineArea len loc
  | .addSub loc => LineArea len loc
  | _ => True

theorem mem5 {s : State} {f : Feat} :
    f ∈ s.protos ++ s.cands ++ s.subs ++ s.pool ++ s.regions ↔
      f ∈ s.protos ∨ f ∈ s.cands ∨ f ∈ s.subs ∨ f ∈ s.pool ∨ f ∈ s.regions := by
  simp only [List.mem_append, or_assoc]

theorem LineSorted.protos {s : State} (hl : LineSorted s) : ∀ f ∈ s.protos, LineArea s.len f.loc :=
  fun f h => hl.locs f (mem5.2 (Or.inl h))

theorem LineSorted.cands {s : State} (hl : LineSorted s) : ∀ f ∈ s.cands, LineArea s.len f.loc :=
  fun f h => hl.locs f (mem5.2 (Or.inr (Or.inl h)))

theorem LineSorted.subs {s : State} (hl : LineSorted s) : ∀ f ∈ s.subs, LineArea s.len f.loc :=
  fun f h => hl.locs f (mem5.2 (Or.inr (Or.inr (Or.inl h))))

theorem LineSorted.pool {s : State} (hl : LineSorted s) : ∀ f ∈ s.pool, LineArea s.len f.loc :=
  fun f h => hl.locs f (mem5.2 (Or.inr (Or.inr (Or.inr (Or.inl h)))))

theorem LineSorted.regions {s : State} (hl : LineSorted s) : ∀ f ∈ s.regions, LineArea s.len f.loc :=
  fun f h => hl.locs f (mem5.2 (Or.inr (Or.inr (Or.inr (Or.inr h)))))

theorem LineSorted.of_lists {s : State} (lin : s.circular = false)
    (hP : ∀ f ∈ s.protos, LineArea s.len f.loc) (hC : ∀ f ∈ s.cands, LineArea s.len f.loc)
    (hS : ∀ f ∈ s.subs, LineArea s.len f.loc) (hPool : ∀ f ∈ s.pool, LineArea s.len f.loc)
    (hR : ∀ f ∈ s.regions, LineArea s.len f.loc) (sP : SortedBy lkey s.protos) (sC : SortedBy lkey s.cands)
    (sS : SortedBy lkey s.subs) (sR : SortedBy lkey s.regions) : LineSorted s := by
  refine ⟨lin, fun f hf => ?_, sP, sC, sS, sR⟩
  rcases mem5.1 hf with h | h | h | h | h
  · exact hP f h
  · exact hC f h
  · exact hS f h
  · exact hPool f h
  · exact hR f h

theorem mkAddRegion_sorted {s s1 s2 : State} {cands subs : List Feat} {r : Feat} (hl : LineSorted s)
    (hc : ∀ f ∈ cands, f ∈ s.cands ++ s.pool) (hs : ∀ f ∈ subs, f ∈ s.subs)
    (hmk : mkRegion s cands subs = .ok (s1, r)) (hadd : addRegion s1 r = .ok s2) : LineSorted s2 := by
  have hne : subs ++ cands ≠ [] := by
    intro he
    have h1 : cands = [] := (List.append_eq_nil_iff.1 he).2
    have h2 : subs = [] := (List.append_eq_nil_iff.1 he).1
    subst h1; subst h2
    simp [mkRegion, bind, Except.bind] at hmk
  have hch : ∀ f ∈ subs ++ cands, LineArea s.len f.loc := by
    intro f hf
    rcases List.mem_append.1 hf with h | h
    · exact hl.subs f (hs f h)
    · rcases List.mem_append.1 (hc f h) with h' | h'
      · exact hl.cands f h'
      · exact hl.pool f h'
  rw [mkRegion_line (len := s.len) s cands subs hne hch] at hmk
  cases hmk
  have hb := hull_bounds _ hne hch
  have hrl : LineArea s.len (newRegion s cands subs).loc := ⟨_, rfl, hb.1, hb.2.1, hb.2.2⟩
  obtain ⟨index, hidx, _, _, rfl⟩ := addRegion_ok hadd
  have hsr : SortedBy lkey (afterMk s (subs ++ cands)).regions := hl.sR
  obtain ⟨h1, h2⟩ := regionIndex_sorted lkey (newRegion s cands subs) (afterMk s (subs ++ cands)).regions hsr
    (fun y hy => collectionLt_line hrl (hl.regions y hy)) 0 index hidx
  refine .of_lists hl.lin hl.protos hl.cands hl.subs hl.pool ?_ hl.sP hl.sC hl.sS
    (insertAt_pairwise h1 h2 hsr)
  intro f hf
  rcases mem_insertAt.1 hf with rfl | h
  · exact hrl
  · exact hl.regions f h

theorem connect_lineArea {len : Int} (ps : List Feat) (hne : ps ≠ []) (h : ∀ p ∈ ps, LineArea len p.loc) (loc : Loc)
    (hc : connect (ps.map (·.loc)) none = .ok loc) : LineArea len loc := by
  rw [connect_line _ (by simpa using hne)] at hc
  · simp only [Except.ok.injEq] at hc
    subst hc
    have hb := hull_bounds ps hne h
    simp only [List.map_map]
    exact ⟨_, rfl, hb.1, hb.2.1, hb.2.2⟩
  · intro l hl
    obtain ⟨f, hf, rfl⟩ := List.mem_map.1 hl
    exact (h f hf).parts

theorem sortedBy_nil (key : Feat → Int × Int) : SortedBy key [] := List.Pairwise.nil

theorem clearRegions_sorted {s : State} (hl : LineSorted s) : LineSorted (clearRegions s) :=
  .of_lists hl.lin hl.protos hl.cands hl.subs hl.pool (fun _ h => nomatch h) hl.sP hl.sC hl.sS (sortedBy_nil _)

theorem dropProtos_sorted {s : State} (hl : LineSorted s) : LineSorted { s with protos := [] } :=
  .of_lists hl.lin (fun _ h => nomatch h) hl.cands hl.subs hl.pool hl.regions (sortedBy_nil _) hl.sC hl.sS hl.sR

theorem dropCands_sorted {s : State} (hl : LineSorted s) (par : Dict (Option Nat)) :
    LineSorted { s with cands := [], parent := par } :=
  .of_lists hl.lin hl.protos (fun _ h => nomatch h) hl.subs hl.pool hl.regions hl.sP (sortedBy_nil _) hl.sS hl.sR

theorem dropSubs_sorted {s : State} (hl : LineSorted s) : LineSorted { s with subs := [] } :=
  .of_lists hl.lin hl.protos hl.cands (fun _ h => nomatch h) hl.pool hl.regions hl.sP hl.sC (sortedBy_nil _) hl.sR

/-- location order on a linear record of length `len`; the areas that come in are line areas of it -/
theorem Prim.sorted {len : Int} {s t : State} (hl : LineSorted s) (hlen : s.len = len) (h : Prim (LineArea len) s t) :
    LineSorted t ∧ t.len = len := by
  subst hlen
  cases h with
  | @addProto loc l d hop hins =>
    refine ⟨.of_lists hl.lin ?_ hl.cands hl.subs hl.pool hl.regions
      (insertSortedRight_sorted (x := ⟨s.nextId, .proto, loc, [], [], []⟩) hl.sP hl.protos hop hins) hl.sC hl.sS hl.sR, rfl⟩
    intro f hf
    rcases List.mem_cons.1 ((insertSortedWith_perm hins).mem_iff.1 hf) with rfl | h
    · exact hop
    · exact hl.protos f h
  | @addSub loc l d hop hins =>
    refine ⟨.of_lists hl.lin hl.protos hl.cands ?_ hl.pool hl.regions
      hl.sP hl.sC (insertSortedRight_sorted (x := ⟨s.nextId, .sub, loc, [], [], []⟩) hl.sS hl.subs hop hins) hl.sR, rfl⟩
    intro f hf
    rcases List.mem_cons.1 ((insertSortedWith_perm hins).mem_iff.1 hf) with rfl | h
    · exact hop
    · exact hl.subs f h
  | @poolAdd c ps _ _ hps _ hne hconn =>
    rw [show s.wrap = none by simp [State.wrap, hl.lin]] at hconn
    have hcl : LineArea s.len c.loc := connect_lineArea ps hne (fun p hp => hl.protos p (hps p hp)) _ hconn
    refine ⟨.of_lists hl.lin hl.protos hl.cands hl.subs ?_ hl.regions hl.sP hl.sC hl.sS hl.sR, rfl⟩
    intro f hf
    rcases List.mem_append.1 hf with h | h
    · exact hl.pool f h
    · rw [List.mem_singleton.1 h]; exact hcl
  | link _ _ _ => exact ⟨⟨hl.lin, hl.locs, hl.sP, hl.sC, hl.sS, hl.sR⟩, rfl⟩
  | addCand h =>
    obtain ⟨x, l, d, hx, hins, rfl⟩ := addCandidate_ok h
    have hxl : LineArea s.len x.loc := hl.pool x (findId_some hx).1
    refine ⟨.of_lists hl.lin hl.protos ?_ hl.subs (fun f hf => hl.pool f (List.mem_filter.1 hf).1) hl.regions
      hl.sP (insertSorted_sorted hl.sC hl.cands hxl hins) hl.sS hl.sR, rfl⟩
    intro f hf
    rcases List.mem_cons.1 ((insertSortedWith_perm hins).mem_iff.1 hf) with rfl | h
    · exact hxl
    · exact hl.cands f h
  | region hc hs hmk hadd =>
    obtain ⟨_, _, _, _, _, _, rfl⟩ := mkRegion_ok hmk
    obtain ⟨_, _, _, _, e⟩ := addRegion_ok hadd
    exact ⟨mkAddRegion_sorted hl hc hs hmk hadd, by rw [e]⟩
  | clearRegions => exact ⟨clearRegions_sorted hl, rfl⟩
  | dropProtos => exact ⟨dropProtos_sorted hl, rfl⟩
  | dropCands => exact ⟨dropCands_sorted hl _, rfl⟩
  | dropSubs => exact ⟨dropSubs_sorted hl, rfl⟩

theorem OpLine.loc {len : Int} {op : Op} (h : OpLine len op) (loc : Loc) (e : op = .addProto loc ∨ op = .addSub loc) :
    LineArea len loc := by
  rcases e with rfl | rfl <;> exact h

theorem Steps.sorted {s u : State} (hi : Inv s) (hl : LineSorted s) (h : Steps (LineArea s.len) s u) : LineSorted u :=
  (h.preserves (P := fun t => LineSorted t ∧ t.len = s.len) (fun _ hp hprim => hprim.sorted hp.1 hp.2) hi ⟨hl, rfl⟩).2.1

theorem init_sorted (len : Int) (cds : List Loc) : LineSorted { len := len, circular := false, cds := cds } :=
  ⟨rfl, by intro f hf; simp at hf, sortedBy_nil _, sortedBy_nil _, sortedBy_nil _, sortedBy_nil _⟩


end ASV.Regions
