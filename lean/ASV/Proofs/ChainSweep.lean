/-
  The sorted sweep against the running hull, over `Int` coordinates for arbitrary items with a start `lo` and an
  end `hi`: `go` / `sweep`, the group invariant `GInv` (chained, hull least start / greatest end, both attained),
  `go_flatten` / `sweep_flatten`, `go_inv` / `sweep_inv`, `go_separated` / `sweep_separated`.
  C03 uses it through `ArcOps` (`find_protoclusters` on a linear record and inside the arcs of a ring).
-/
namespace ASV

theorem pairwise_iff_split {α : Type} {R : α → α → Prop} {l : List α} :
    l.Pairwise R ↔ ∀ l₁ a l₂, l = l₁ ++ a :: l₂ → ∀ b ∈ l₂, R a b := by
  induction l with
  | nil => exact ⟨fun _ l₁ a l₂ h => by simp at h, fun _ => List.Pairwise.nil⟩
  | cons x xs ih =>
    rw [List.pairwise_cons, ih]
    constructor
    · rintro ⟨h1, h2⟩ l₁ a l₂ e b hb
      cases l₁ with
      | nil => cases e; exact h1 b hb
      | cons z t => cases e; exact h2 t a l₂ rfl b hb
    · intro h
      exact ⟨fun b hb => h [] x xs rfl b hb, fun l₁ a l₂ e b hb => h (x :: l₁) a l₂ (by rw [e]; rfl) b hb⟩

theorem pairwise_mem {α} {R : α → α → Prop} {l : List α} (h : l.Pairwise R) {x y : α} (hx : x ∈ l) (hy : y ∈ l) :
    x = y ∨ R x y ∨ R y x := by
  induction l with
  | nil => cases hx
  | cons z zs ih =>
    have h' := List.pairwise_cons.1 h
    simp only [List.mem_cons] at hx hy
    rcases hx with rfl | hx <;> rcases hy with rfl | hy
    · exact Or.inl rfl
    · exact Or.inr (Or.inl (h'.1 y hy))
    · exact Or.inr (Or.inr (h'.1 x hx))
    · exact ih h'.2 hx hy

end ASV

namespace ASV.ChainSweep

variable {α : Type}

structure Grp (α : Type) where
  glo : Int
  ghi : Int
  members : List α

/-- fewer than `c` positions between the two spans, or they meet (`c = 0`: they meet) -/
def reach (lo hi : α → Int) (c : Int) (a b : α) : Prop := lo a < hi b + c ∧ lo b < hi a + c

def go (lo hi : α → Int) (c : Int) (cur : Grp α) : List α → List (Grp α)
  | [] => [cur]
  | y :: ys =>
    if lo y < cur.ghi + c then
      go lo hi c ⟨min cur.glo (lo y), max cur.ghi (hi y), cur.members ++ [y]⟩ ys
    else cur :: go lo hi c ⟨lo y, hi y, [y]⟩ ys

def sweep (lo hi : α → Int) (c : Int) : List α → List (Grp α)
  | [] => []
  | x :: xs => go lo hi c ⟨lo x, hi x, [x]⟩ xs

/-- sorted by start -/
def Sorted (lo : α → Int) : List α → Prop
  | [] => True
  | [_] => True
  | a :: b :: r => lo a ≤ lo b ∧ Sorted lo (b :: r)

theorem Sorted.tail {lo : α → Int} {a : α} {l : List α} (h : Sorted lo (a :: l)) : Sorted lo l := by
  cases l with
  | nil => trivial
  | cons b r => exact h.2

theorem Sorted.head_le {lo : α → Int} {a : α} {l : List α} (h : Sorted lo (a :: l)) : ∀ x ∈ l, lo a ≤ lo x := by
  induction l generalizing a with
  | nil => intro x hx; cases hx
  | cons b r ih =>
    intro x hx
    cases hx with
    | head => exact h.1
    | tail _ hx' => exact Int.le_trans h.1 (ih h.2 x hx')

/-- a list built by appending items each of which reaches an earlier one -/
inductive Chained (lo hi : α → Int) (c : Int) : List α → Prop
  | single (x : α) : Chained lo hi c [x]
  | snoc {l : List α} {y : α} : Chained lo hi c l → (∃ m ∈ l, reach lo hi c m y) → Chained lo hi c (l ++ [y])

theorem go_flatten (lo hi : α → Int) (c : Int) (cur : Grp α) (ys : List α) :
    ((go lo hi c cur ys).map Grp.members).flatten = cur.members ++ ys := by
  induction ys generalizing cur with
  | nil => simp [go]
  | cons y ys ih =>
    simp only [go]
    split
    · rw [ih]; simp
    · simp [ih]

theorem sweep_flatten (lo hi : α → Int) (c : Int) (xs : List α) :
    ((sweep lo hi c xs).map Grp.members).flatten = xs := by
  cases xs with
  | nil => rfl
  | cons x xs => simp [sweep, go_flatten]

/-- invariant of a group: non-empty, chained, and its hull is the least start / greatest end of its
    members, both attained -/
structure GInv (lo hi : α → Int) (c : Int) (g : Grp α) : Prop where
  ne : g.members ≠ []
  chained : Chained lo hi c g.members
  hiMax : ∀ m ∈ g.members, hi m ≤ g.ghi
  hiAtt : ∃ m ∈ g.members, hi m = g.ghi
  loMin : ∀ m ∈ g.members, g.glo ≤ lo m
  loAtt : ∃ m ∈ g.members, lo m = g.glo
  wf : ∀ m ∈ g.members, lo m < hi m

theorem GInv.single (lo hi : α → Int) (c : Int) (y : α) (h : lo y < hi y) : GInv lo hi c ⟨lo y, hi y, [y]⟩ :=
  ⟨by simp, Chained.single y, by simp, ⟨y, by simp, rfl⟩, by simp, ⟨y, by simp, rfl⟩,
    by intro m hm; simp at hm; subst hm; exact h⟩

theorem GInv.extend {lo hi : α → Int} {c : Int} {cur : Grp α} {y : α} (hinv : GInv lo hi c cur)
    (hc : 0 ≤ c) (hlt : lo y < cur.ghi + c) (hle : ∀ m ∈ cur.members, lo m ≤ lo y) (hy : lo y < hi y) :
    GInv lo hi c ⟨min cur.glo (lo y), max cur.ghi (hi y), cur.members ++ [y]⟩ := by
  have hge : cur.glo ≤ lo y := by
    obtain ⟨m, hm, hmlo⟩ := hinv.loAtt
    have := hle m hm
    omega
  refine ⟨by simp, ?_, ?_, ?_, ?_, ?_, ?_⟩
  · refine Chained.snoc hinv.chained ?_
    obtain ⟨m, hm, hmhi⟩ := hinv.hiAtt
    refine ⟨m, hm, ?_, ?_⟩
    · have := hle m hm
      omega
    · omega
  · intro m hm
    simp only [List.mem_append, List.mem_singleton] at hm
    rcases hm with hm | rfl
    · exact Int.le_trans (hinv.hiMax m hm) (Int.le_max_left _ _)
    · exact Int.le_max_right _ _
  · obtain ⟨m, hm, hmhi⟩ := hinv.hiAtt
    by_cases hcmp : cur.ghi ≤ hi y
    · exact ⟨y, by simp, (Int.max_eq_right hcmp).symm⟩
    · exact ⟨m, by simp [hm], hmhi.trans (Int.max_eq_left (by omega)).symm⟩
  · intro m hm
    simp only [List.mem_append, List.mem_singleton] at hm
    rcases hm with hm | rfl
    · exact Int.le_trans (Int.min_le_left _ _) (hinv.loMin m hm)
    · exact Int.min_le_right _ _
  · obtain ⟨m, hm, hmlo⟩ := hinv.loAtt
    exact ⟨m, by simp [hm], hmlo.trans (Int.min_eq_left hge).symm⟩
  · intro m hm
    simp only [List.mem_append, List.mem_singleton] at hm
    rcases hm with hm | rfl
    · exact hinv.wf m hm
    · exact hy

/-- every group the sweep produces satisfies the invariant -/
theorem go_inv (lo hi : α → Int) (c : Int) (hc : 0 ≤ c) (cur : Grp α) (ys : List α)
    (hinv : GInv lo hi c cur) (hs : ∀ m ∈ cur.members, ∀ y ∈ ys, lo m ≤ lo y) (hsorted : Sorted lo ys)
    (hwf : ∀ y ∈ ys, lo y < hi y) :
    ∀ g ∈ go lo hi c cur ys, GInv lo hi c g := by
  induction ys generalizing cur with
  | nil => intro g hg; simp [go] at hg; subst hg; exact hinv
  | cons y ys ih =>
    intro g hg
    simp only [go] at hg
    split at hg
    · next hlt =>
      refine ih _ (hinv.extend hc hlt (fun m hm => hs m hm y (by simp)) (hwf y (by simp))) ?_ hsorted.tail
        (fun z hz => hwf z (by simp [hz])) g hg
      intro m hm z hz
      simp only [List.mem_append, List.mem_singleton] at hm
      rcases hm with hm | rfl
      · exact hs m hm z (by simp [hz])
      · exact hsorted.head_le z hz
    · next hge =>
      simp only [List.mem_cons] at hg
      rcases hg with rfl | hg
      · exact hinv
      · exact ih _ (GInv.single lo hi c y (hwf y (by simp)))
          (fun m hm z hz => by simp at hm; subst hm; exact hsorted.head_le z hz) hsorted.tail
          (fun z hz => hwf z (by simp [hz])) g hg

theorem mem_of_mem_go {lo hi : α → Int} {c : Int} {cur : Grp α} {ys : List α} {g : Grp α}
    (hg : g ∈ go lo hi c cur ys) {b : α} (hb : b ∈ g.members) : b ∈ cur.members ++ ys := by
  rw [← go_flatten lo hi c cur ys]
  exact List.mem_flatten.2 ⟨_, List.mem_map_of_mem hg, hb⟩

/-- the whole of separation: a closed group ends at least `c` before anything later starts.  Needs of the
    running group only that its `ghi` bounds its members' ends. -/
theorem go_apart (lo hi : α → Int) (c : Int) (cur : Grp α) (ys : List α)
    (hmax : ∀ m ∈ cur.members, hi m ≤ cur.ghi) (hsorted : Sorted lo ys) :
    (go lo hi c cur ys).Pairwise fun g g' => ∀ a ∈ g.members, ∀ b ∈ g'.members, hi a + c ≤ lo b := by
  induction ys generalizing cur with
  | nil => simp [go]
  | cons y ys ih =>
    simp only [go]
    split
    · refine ih _ ?_ hsorted.tail
      intro m hm
      rcases List.mem_append.1 hm with hm | hm
      · exact Int.le_trans (hmax m hm) (Int.le_max_left _ _)
      · rw [List.mem_singleton.1 hm]; exact Int.le_max_right _ _
    · next hge =>
      refine List.pairwise_cons.2 ⟨?_, ih _ (by simp) hsorted.tail⟩
      intro g' hg' a ha b hb
      have hb' : b ∈ y :: ys := by simpa using mem_of_mem_go hg' hb
      have hylo : lo y ≤ lo b := by
        rcases List.mem_cons.1 hb' with rfl | hb2
        · exact Int.le_refl _
        · exact hsorted.head_le b hb2
      have := hmax a ha
      omega

/-- no step leads out of a closed group: nothing after it is within reach of any of its members -/
theorem go_separated (lo hi : α → Int) (c : Int) (hc : 0 ≤ c) (cur : Grp α) (ys : List α)
    (hinv : GInv lo hi c cur) (hs : ∀ m ∈ cur.members, ∀ y ∈ ys, lo m ≤ lo y) (hsorted : Sorted lo ys)
    (hwf : ∀ y ∈ ys, lo y < hi y) :
    ∀ gs₁ g gs₂, go lo hi c cur ys = gs₁ ++ g :: gs₂ →
      ∀ a ∈ g.members, ∀ g' ∈ gs₂, ∀ b ∈ g'.members, ¬ reach lo hi c a b := by
  intro gs₁ g gs₂ h a ha g' hg' b hb hr
  have := pairwise_iff_split.1 (go_apart lo hi c cur ys hinv.hiMax hsorted) gs₁ g gs₂ h g' hg' a ha b hb
  have := hr.2
  omega

theorem sweep_inv (lo hi : α → Int) (c : Int) (hc : 0 ≤ c) (xs : List α) (hsorted : Sorted lo xs)
    (hwf : ∀ x ∈ xs, lo x < hi x) : ∀ g ∈ sweep lo hi c xs, GInv lo hi c g := by
  cases xs with
  | nil => intro g hg; cases hg
  | cons x xs =>
    exact go_inv lo hi c hc _ xs (GInv.single lo hi c x (hwf x (by simp)))
      (fun m hm z hz => by simp at hm; subst hm; exact hsorted.head_le z hz)
      hsorted.tail (fun z hz => hwf z (by simp [hz]))

theorem sweep_apart (lo hi : α → Int) (c : Int) (xs : List α) (hsorted : Sorted lo xs) :
    (sweep lo hi c xs).Pairwise fun g g' => ∀ a ∈ g.members, ∀ b ∈ g'.members, hi a + c ≤ lo b := by
  cases xs with
  | nil => exact List.Pairwise.nil
  | cons x xs => exact go_apart lo hi c _ xs (by simp) hsorted.tail

theorem sweep_hulls_apart (lo hi : α → Int) (c : Int) (hc : 0 ≤ c) (xs : List α) (hsorted : Sorted lo xs)
    (hwf : ∀ x ∈ xs, lo x < hi x) : (sweep lo hi c xs).Pairwise fun g g' => g.ghi + c ≤ g'.glo :=
  (sweep_apart lo hi c xs hsorted).imp_of_mem fun {G G'} hG hG' h => by
    obtain ⟨m, hm, e⟩ := (sweep_inv lo hi c hc xs hsorted hwf G hG).hiAtt
    obtain ⟨m', hm', e'⟩ := (sweep_inv lo hi c hc xs hsorted hwf G' hG').loAtt
    rw [← e, ← e']; exact h m hm m' hm'

theorem sorted_of_pairwise {lo : α → Int} : ∀ {l : List α}, l.Pairwise (fun a b => lo a ≤ lo b) → Sorted lo l
  | [], _ => trivial
  | [_], _ => trivial
  | a :: b :: r, h => ⟨(List.pairwise_cons.1 h).1 b (by simp), sorted_of_pairwise (List.pairwise_cons.1 h).2⟩

end ASV.ChainSweep
