/-
  What the closed form of `connect_locations` on a ring is, said with the chunks only (`ConnSpec`: the line hull, or the
  hull over the origin), and what follows from that alone: it covers every input, is a well-formed span, is never longer
  than the line hull, and lies inside every covering span shorter than half the record (C04).
-/
import ASV.Proofs.LocConnectRingIn
namespace ASV

theorem hullOf_mem (ls : List Loc) (l : Loc) (hl : l ∈ ls) (i : Int) (hi : l.mem i = true) :
    (hullOf ls).mem i = true := by
  rw [Loc.mem_iff] at hi
  obtain ⟨p, hp, h1, h2⟩ := hi
  have hs := start_le_part l p hp
  have h3 : minList (ls.map (·.start)) ≤ l.start := minList_le_of_mem (List.mem_map.2 ⟨l, hl, rfl⟩)
  have h4 : l.end ≤ maxList (ls.map (·.end)) := le_maxList_of_mem (List.mem_map.2 ⟨l, hl, rfl⟩)
  simp only [hullOf, mem_simple]
  omega

theorem toLoc_bounds {L : Int} {r : RLoc} (h : r.OK L) : 0 ≤ (r.toLoc L).start ∧ (r.toLoc L).start < (r.toLoc L).end ∧ (r.toLoc L).end ≤ L := by
  cases r with
  | one p => exact h
  | two x y =>
    obtain ⟨h1, h2, h3⟩ := h
    simp only [RLoc.toLoc, Loc.start, Loc.end, fl, List.map, minList, maxList, List.foldl]
    omega

/-- `q` is one of the chunks -/
abbrev Chunk (L : Int) (rs : List RLoc) (q : Part) : Prop := q ∈ preOf L rs ∨ q ∈ postOf L rs

/-- What the closed form is, said with the chunks only: the line hull of all chunks, or the hull over the origin
    `[min pre-origin start, L) + [0, max post-origin end)`.  The hull over the origin is only ever chosen when it is
    not longer than the line hull; the line hull only when the other one (if there is one) is at least half the record. -/
inductive ConnSpec (L : Int) (pre post : List Part) : Loc → Prop
  | line (p : Part)
      (hb : ∀ q, q ∈ pre ∨ q ∈ post → p.lo ≤ q.lo ∧ q.hi ≤ p.hi)
      (hlo : ∃ q, (q ∈ pre ∨ q ∈ post) ∧ p.lo = q.lo) (hhi : ∃ q, (q ∈ pre ∨ q ∈ post) ∧ p.hi = q.hi)
      (hw : pre ≠ [] → post ≠ [] → 2 * ((hullP pre).lo - (hullP post).hi) ≤ L) :
      ConnSpec L pre post (.simple p)
  | wrap (hpre : pre ≠ []) (hpost : post ≠ [])
      (hvu : (hullP post).hi ≤ (hullP pre).lo)
      (hlen : L - (hullP pre).lo + (hullP post).hi ≤ (hullP pre).hi - (hullP post).lo) :
      ConnSpec L pre post (.compound [⟨(hullP pre).lo, L, .fwd⟩, ⟨0, (hullP post).hi, .fwd⟩])

theorem chunk_bounds {L : Int} {rs : List RLoc} (hok : ∀ r ∈ rs, r.OK L) {q : Part} (hq : Chunk L rs q) :
    0 ≤ q.lo ∧ q.lo < q.hi ∧ q.hi ≤ L := by
  rcases hq with hq | hq
  · have := mem_preOf hok hq; omega
  · have := mem_postOf hok hq; omega

theorem chunk_src {L : Int} {rs : List RLoc} {q : Part} (hq : Chunk L rs q) : ∃ r ∈ rs, q ∈ r.pre L ∨ q ∈ r.post L := by
  simp only [Chunk, preOf, postOf, List.mem_flatMap] at hq
  rcases hq with ⟨r, hr, hq⟩ | ⟨r, hr, hq⟩
  · exact ⟨r, hr, Or.inl hq⟩
  · exact ⟨r, hr, Or.inr hq⟩

theorem chunk_one {L : Int} {p q : Part} (hq : q ∈ (RLoc.one p).pre L ∨ q ∈ (RLoc.one p).post L) : q = fl p.lo p.hi := by
  simp only [RLoc.pre, RLoc.post] at hq
  split at hq <;> simpa using hq

/-- every chunk lies inside the span of the reduced location it comes from -/
theorem chunk_in_toLoc {L : Int} {rs : List RLoc} {q : Part} (hq : Chunk L rs q) :
    ∃ r ∈ rs, (r.toLoc L).start ≤ q.lo ∧ q.hi ≤ (r.toLoc L).end := by
  have key : ∀ r : RLoc, q ∈ r.pre L ∨ q ∈ r.post L → (r.toLoc L).start ≤ q.lo ∧ q.hi ≤ (r.toLoc L).end := by
    intro r hq
    cases r with
    | one p =>
      rw [chunk_one hq]; simp [RLoc.toLoc, Loc.start, Loc.end, fl]
    | two x y =>
      simp only [RLoc.pre, RLoc.post, List.mem_singleton] at hq
      rcases hq with rfl | rfl <;>
        (simp only [RLoc.toLoc, Loc.start, Loc.end, fl, List.map, minList, maxList, List.foldl]; omega)
  obtain ⟨r, hr, hq⟩ := chunk_src hq
  exact ⟨r, hr, key r hq⟩

/-- … hence inside the line hull -/
theorem chunk_in_hull {L : Int} {rs : List RLoc} {q : Part} (hq : Chunk L rs q) :
    minList ((rs.map (RLoc.toLoc L)).map (·.start)) ≤ q.lo ∧ q.hi ≤ maxList ((rs.map (RLoc.toLoc L)).map (·.end)) := by
  obtain ⟨r, hr, b1, b2⟩ := chunk_in_toLoc hq
  have h3 : minList ((rs.map (RLoc.toLoc L)).map (·.start)) ≤ (r.toLoc L).start :=
    minList_le_of_mem (List.mem_map.2 ⟨_, List.mem_map.2 ⟨r, hr, rfl⟩, rfl⟩)
  have h4 : (r.toLoc L).end ≤ maxList ((rs.map (RLoc.toLoc L)).map (·.end)) :=
    le_maxList_of_mem (List.mem_map.2 ⟨_, List.mem_map.2 ⟨r, hr, rfl⟩, rfl⟩)
  omega

/-- the one place where the branches of `connA` / `connB` are looked at -/
theorem connR_spec (rs : List RLoc) (L : Int) (hL : 0 < L) (hne : rs ≠ []) (hok : ∀ r ∈ rs, r.OK L) :
    ConnSpec L (preOf L rs) (postOf L rs) (connR rs L) := by
  unfold connR
  by_cases htwo : rs.any RLoc.isTwo = true
  · rw [if_pos htwo]
    obtain ⟨hpre, hpost, hhi, hlo⟩ := hull_two_ends L _ hok htwo
    obtain ⟨hu0, hu1, hu2, hu3⟩ := hull_pre hok hpre
    obtain ⟨hl0, hl1, hl2, hl3⟩ := hull_post hok hpost
    refine connB_cases (P := ConnSpec L (preOf L rs) (postOf L rs)) htwo (fun x y hrs => ?_) (fun _ => ?_)
    · subst hrs
      obtain ⟨h1, h2, h3⟩ : (RLoc.two x y).OK L := hok _ (by simp)
      exact ConnSpec.wrap (L := L) (pre := [fl x L]) (post := [fl 0 y]) (by simp) (by simp)
        (by show y ≤ x; omega) (by show L - x + y ≤ L - 0; omega)
    · split
      · next h => exact .wrap hpre hpost h.2 (by omega)
      · next h =>
        obtain ⟨⟨q1, hq1, e1⟩, _⟩ := hullP_attained _ hpost
        obtain ⟨_, ⟨q2, hq2, e2⟩⟩ := hullP_attained _ hpre
        exact .line ⟨0, L, .fwd⟩ (fun q hq => by have := chunk_bounds hok hq; exact ⟨this.1, this.2.2⟩)
          ⟨q1, Or.inr hq1, by show 0 = q1.lo; omega⟩ ⟨q2, Or.inl hq2, by show L = q2.hi; omega⟩ (fun _ _ => by omega)
  · rw [if_neg htwo]
    refine connA_cases (P := ConnSpec L (preOf L rs) (postOf L rs)) (fun _ hpost => ?_) (fun _ hpost hpre => ?_)
      (fun _ hpost hpre => ?_) (fun hw => ?_)
    · have hpre : preOf L rs ≠ [] := fun h => chunks_ne L rs hne h hpost
      obtain ⟨⟨q1, hq1, e1⟩, ⟨q2, hq2, e2⟩⟩ := hullP_attained _ hpre
      refine .line _ (fun q hq => ?_) ⟨q1, Or.inl hq1, e1⟩ ⟨q2, Or.inl hq2, e2⟩ (fun _ h => absurd hpost h)
      rcases hq with hq | hq
      · exact hullP_bounds _ _ hq
      · rw [hpost] at hq; cases hq
    · obtain ⟨⟨q1, hq1, e1⟩, ⟨q2, hq2, e2⟩⟩ := hullP_attained _ hpost
      refine .line _ (fun q hq => ?_) ⟨q1, Or.inr hq1, e1⟩ ⟨q2, Or.inr hq2, e2⟩ (fun h _ => absurd hpre h)
      rcases hq with hq | hq
      · rw [hpre] at hq; cases hq
      · exact hullP_bounds _ _ hq
    · obtain ⟨hu0, hu1, hu2, hu3⟩ := hull_pre hok hpre
      obtain ⟨hl0, hl1, hl2, hl3⟩ := hull_post hok hpost
      split
      · next h => exact .wrap hpre hpost h.1 (by omega)
      · next h =>
        obtain ⟨⟨q1, hq1, e1⟩, ⟨q2, hq2, e2⟩⟩ := hullP_attained _ hpre
        obtain ⟨⟨q3, hq3, e3⟩, ⟨q4, hq4, e4⟩⟩ := hullP_attained _ hpost
        refine .line _ (fun q hq => ?_) ?_ ?_ (fun _ _ => by omega)
        · rcases hq with hq | hq <;> (have := hullP_bounds _ _ hq; dsimp only; omega)
        · by_cases c : (hullP (preOf L rs)).lo ≤ (hullP (postOf L rs)).lo
          · exact ⟨q1, Or.inl hq1, by dsimp only; omega⟩
          · exact ⟨q3, Or.inr hq3, by dsimp only; omega⟩
        · by_cases c : (hullP (postOf L rs)).hi ≤ (hullP (preOf L rs)).hi
          · exact ⟨q2, Or.inl hq2, by dsimp only; omega⟩
          · exact ⟨q4, Or.inr hq4, by dsimp only; omega⟩
    · -- not judged shorter over the origin: the line hull of the spans, which are the chunks
      have one_of : ∀ r ∈ rs, ∃ p, r = .one p := fun r hr => by
        cases r with
        | one p => exact ⟨p, rfl⟩
        | two x y => exact absurd (List.any_eq_true.2 ⟨_, hr, rfl⟩) htwo
      have h1 : (rs.map (RLoc.toLoc L)).map (·.start) ≠ [] := by simpa using hne
      have h2 : (rs.map (RLoc.toLoc L)).map (·.end) ≠ [] := by simpa using hne
      obtain ⟨l1, hl1, e1⟩ := List.mem_map.1 (minList_mem h1)
      obtain ⟨l2, hl2, e2⟩ := List.mem_map.1 (maxList_mem h2)
      obtain ⟨r1, hr1, rfl⟩ := List.mem_map.1 hl1
      obtain ⟨r2, hr2, rfl⟩ := List.mem_map.1 hl2
      obtain ⟨p1, rfl⟩ := one_of r1 hr1
      obtain ⟨p2, rfl⟩ := one_of r2 hr2
      refine .line _ (fun q hq => ?_) ⟨_, one_chunk (L := L) hr1, e1.symm⟩ ⟨_, one_chunk (L := L) hr2, e2.symm⟩
        (fun hpre hpost => ?_)
      · exact chunk_in_hull hq
      · -- a post-origin chunk is first for the sort key, a pre-origin chunk starts more than half the record later
        apply Int.not_lt.1
        intro hgt
        apply hw
        have hne' : rs.map (RLoc.toLoc L) ≠ [] := by simpa using hne
        have hnb : (rs.map (RLoc.toLoc L)).any bridgesOrigin = false := by
          rw [any_bridges_toLoc L rs hok]; simpa using htwo
        have hpos : ∀ l ∈ rs.map (RLoc.toLoc L), l.start ≤ l.end := by
          intro l hl
          obtain ⟨r, hr, rfl⟩ := List.mem_map.1 hl
          obtain ⟨p, rfl⟩ := one_of r hr
          have : (RLoc.one p).OK L := hok _ hr
          simp only [RLoc.OK] at this
          simp only [RLoc.toLoc, Loc.start, Loc.end]; omega
        obtain ⟨f, rest, _, hf, hmin, _⟩ := sortLocs_head _ hne'
        rw [isWrappingShorter_iff _ L (by omega) hnb hpos f hf hmin]
        obtain ⟨rf, hrf, rfl⟩ := List.mem_map.1 hf
        obtain ⟨pf, rfl⟩ := one_of rf hrf
        obtain ⟨⟨q1, hq1, e1'⟩, _⟩ := hullP_attained _ hpre
        obtain ⟨_, ⟨q4, hq4, e4⟩⟩ := hullP_attained _ hpost
        -- `q1 = s`, `q4 = t` are inputs
        obtain ⟨s, hs, hqs⟩ := chunk_src (Or.inl hq1 : Chunk L rs q1)
        obtain ⟨ps, rfl⟩ := one_of s hs
        obtain ⟨t, ht, hqt⟩ := chunk_src (Or.inr hq4 : Chunk L rs q4)
        obtain ⟨pt, rfl⟩ := one_of t ht
        have es := chunk_one hqs
        have et := chunk_one hqt
        subst es; subst et
        have hk := hmin _ (List.mem_map.2 ⟨_, ht, rfl⟩)
        have a4 := mem_postOf hok hq4
        simp only [KeyLe, RLoc.toLoc, Loc.start, Loc.end] at hk
        simp only [fl] at e1' e4 a4
        -- `pf` starts no later than the post-origin chunk `pt`, so it is not a pre-origin chunk: it ends by `v`
        have hfv : pf.hi ≤ (hullP (postOf L rs)).hi := by
          rcases one_chunk (L := L) hrf with hc | hc
          · have b := (hullP_bounds _ _ hc).1
            simp only [fl] at b; omega
          · have b := (hullP_bounds _ _ hc).2
            simp only [fl] at b; omega
        refine ⟨_, List.mem_map.2 ⟨_, hs, rfl⟩, ?_⟩
        simp only [RLoc.toLoc, Loc.start, Loc.end]
        omega

/-! ### what follows for any lists `pre`, `post` of parts inside the record -/

namespace ConnSpec
variable {L : Int} {pre post : List Part} {c : Loc}

theorem shape (h : ConnSpec L pre post c) :
    (∃ p, c = .simple p) ∨ (∃ a b, c = .compound [⟨a, L, .fwd⟩, ⟨0, b, .fwd⟩]) := by
  cases h with
  | line p => exact Or.inl ⟨p, rfl⟩
  | wrap => exact Or.inr ⟨_, _, rfl⟩

theorem covers (h : ConnSpec L pre post c) (hin : ∀ q, q ∈ pre ∨ q ∈ post → 0 ≤ q.lo ∧ q.lo < q.hi ∧ q.hi ≤ L)
    {q : Part} (hq : q ∈ pre ∨ q ∈ post) (i : Int) (h1 : q.lo ≤ i) (h2 : i < q.hi) : c.mem i = true := by
  cases h with
  | line p hb _ _ _ => have := hb q hq; rw [mem_simple]; omega
  | wrap hpre hpost hvu hlen =>
    rw [mem_two]; dsimp only
    have := hin q hq
    rcases hq with hq | hq
    · have := hullP_bounds _ _ hq; left; omega
    · have := hullP_bounds _ _ hq; right; omega

theorem wf (h : ConnSpec L pre post c) (hin : ∀ q, q ∈ pre ∨ q ∈ post → 0 ≤ q.lo ∧ q.lo < q.hi ∧ q.hi ≤ L) :
    areaWF L L c = true := by
  cases h with
  | line p hb hlo hhi _ =>
    obtain ⟨q1, hq1, e1⟩ := hlo
    obtain ⟨q2, hq2, e2⟩ := hhi
    have := hin q1 hq1; have := hin q2 hq2; have := hb q1 hq1
    simp only [areaWF, Loc.parts, Bool.and_eq_true, decide_eq_true_eq]; omega
  | wrap hpre hpost hvu hlen =>
    obtain ⟨⟨q1, hq1, e1⟩, _⟩ := hullP_attained _ hpre
    obtain ⟨_, ⟨q2, hq2, e2⟩⟩ := hullP_attained _ hpost
    have := hin q1 (Or.inl hq1); have := hin q2 (Or.inr hq2)
    simp only [areaWF, Loc.parts, Bool.and_eq_true, decide_eq_true_eq, and_true]
    omega

/-- not longer than any interval `[a, b)` holding all the parts -/
theorem len_le (h : ConnSpec L pre post c) (a b : Int) (hab : ∀ q, q ∈ pre ∨ q ∈ post → a ≤ q.lo ∧ q.hi ≤ b) :
    c.len ≤ b - a := by
  cases h with
  | line p hb hlo hhi _ =>
    obtain ⟨q1, hq1, e1⟩ := hlo
    obtain ⟨q2, hq2, e2⟩ := hhi
    have := hab q1 hq1; have := hab q2 hq2
    rw [len_simple]; omega
  | wrap hpre hpost hvu hlen =>
    obtain ⟨_, ⟨q2, hq2, e2⟩⟩ := hullP_attained _ hpre
    obtain ⟨⟨q3, hq3, e3⟩, _⟩ := hullP_attained _ hpost
    have := hab q2 (Or.inl hq2); have := hab q3 (Or.inr hq3)
    rw [len_two]; dsimp only; omega

end ConnSpec

/-- a covering span shorter than half the record is one arc, given by its two ends -/
theorem arc_cases (c : Loc) (L : Int) (hwf : areaWF L L c = true) (hlen : 2 * c.len < L) :
    (∃ a b, 0 ≤ a ∧ a < b ∧ b ≤ L ∧ c.len = b - a ∧ ∀ i, c.mem i = true ↔ (a ≤ i ∧ i < b)) ∨
    (∃ a b, 0 < b ∧ b < a ∧ a < L ∧ c.len = L - a + b ∧
      ∀ i, c.mem i = true ↔ ((a ≤ i ∧ i < L) ∨ (0 ≤ i ∧ i < b))) := by
  rcases areaWF_cases hwf with ⟨p, hp, h0, h1, h2⟩ | ⟨p, q, hp, _, h0, h1, h2, h3, h4, h5⟩
  · left
    refine ⟨p.lo, p.hi, h0, h1, h2, ?_, ?_⟩
    · simp [Loc.len, hp, Part.len]
    · intro i; simp [Loc.mem, hp, Part.mem_iff]
  · have hl : c.len = (p.hi - p.lo) + (q.hi - q.lo) := by simp [Loc.len, hp, Part.len]
    right
    refine ⟨p.lo, q.hi, by omega, by omega, by omega, by omega, ?_⟩
    intro i
    simp only [Loc.mem, hp, List.any_cons, List.any_nil, Bool.or_false, Bool.or_eq_true, Part.mem_iff]
    omega

/-- of the two candidate arcs, `ConnSpec` picks the one that lies inside any covering span shorter than half the
    record.  `pre`: parts inside `[0, L]` nearer to the record end; `post`: nearer to the origin. -/
theorem ConnSpec.shortest {L : Int} {pre post : List Part} {r : Loc} (hspec : ConnSpec L pre post r)
    (hP : ∀ q ∈ pre, 0 ≤ q.lo ∧ q.lo < q.hi ∧ q.hi ≤ L ∧ L ≤ q.lo + q.hi)
    (hQ : ∀ q ∈ post, 0 ≤ q.lo ∧ q.lo < q.hi ∧ q.hi ≤ L ∧ q.lo + q.hi < L)
    (c : Loc) (hwf : areaWF L L c = true) (hlen : 2 * c.len < L)
    (hcov : ∀ q, q ∈ pre ∨ q ∈ post → ∀ i, q.lo ≤ i → i < q.hi → c.mem i = true) :
    r.len ≤ c.len ∧ ∀ i, r.mem i = true → c.mem i = true := by
  have bounds : ∀ q, q ∈ pre ∨ q ∈ post → 0 ≤ q.lo ∧ q.lo < q.hi ∧ q.hi ≤ L := fun q hq => by
    rcases hq with h | h
    · have := hP q h; omega
    · have := hQ q h; omega
  -- both ends of every chunk are in `c`
  have ends : ∀ q, q ∈ pre ∨ q ∈ post → c.mem q.lo = true ∧ c.mem (q.hi - 1) = true := fun q hq => by
    have := bounds q hq
    exact ⟨hcov q hq q.lo (by omega) (by omega), hcov q hq (q.hi - 1) (by omega) (by omega)⟩
  rcases arc_cases c L hwf hlen with ⟨a, b, ha0, hab, hbL, hcl, hmem⟩ | ⟨a, b, hb0, hba, haL, hcl, hmem⟩
  · have hch : ∀ q, q ∈ pre ∨ q ∈ post → a ≤ q.lo ∧ q.hi ≤ b := fun q hq => by
      have m1 := (hmem _).1 (ends q hq).1
      have m2 := (hmem _).1 (ends q hq).2
      omega
    cases hspec with
    | line p hb hlo hhi _ =>
      obtain ⟨q1, hq1, e1⟩ := hlo
      obtain ⟨q2, hq2, e2⟩ := hhi
      have := hch q1 hq1; have := hch q2 hq2
      refine ⟨by rw [len_simple]; omega, fun i hi => ?_⟩
      rw [mem_simple] at hi
      exact (hmem i).2 (by omega)
    | wrap hpre hpost hvu hlen' =>
      -- the line hull is longer than half the record
      exfalso
      obtain ⟨⟨q1, hq1, e1⟩, ⟨q2, hq2, e2⟩⟩ := hullP_attained _ hpre
      obtain ⟨⟨q3, hq3, e3⟩, ⟨q4, hq4, e4⟩⟩ := hullP_attained _ hpost
      have := hch q2 (Or.inl hq2); have := hch q3 (Or.inr hq3)
      have := hP q1 hq1; have := hQ q4 hq4
      have := (hullP_bounds _ _ hq1).2; have := (hullP_bounds _ _ hq4).1
      omega
  · have hside : ∀ q, q ∈ pre ∨ q ∈ post → (a ≤ q.lo ∧ q.hi ≤ L) ∨ (0 ≤ q.lo ∧ q.hi ≤ b) := fun q hq => by
      have hb' := bounds q hq
      have m1 := (hmem _).1 (ends q hq).1
      have m2 := (hmem _).1 (ends q hq).2
      by_cases hx : q.lo < b ∧ a ≤ q.hi - 1
      · have m3 := (hmem _).1 (hcov q hq b (by omega) (by omega))
        omega
      · omega
    have hpreC : ∀ q ∈ pre, a ≤ q.lo ∧ q.hi ≤ L := fun q hq => by
      have := hP q hq
      have := hside q (Or.inl hq)
      omega
    have hpostC : ∀ q ∈ post, 0 ≤ q.lo ∧ q.hi ≤ b := fun q hq => by
      have := hQ q hq
      have := hside q (Or.inr hq)
      omega
    cases hspec with
    | line p hb hlo hhi hw =>
      obtain ⟨q1, hq1, e1⟩ := hlo
      obtain ⟨q2, hq2, e2⟩ := hhi
      have side : (a ≤ p.lo ∧ p.hi ≤ L) ∨ (0 ≤ p.lo ∧ p.hi ≤ b) := by
        by_cases hpre : pre = []
        · right
          have h1 : q1 ∈ post := by rcases hq1 with h | h; (rw [hpre] at h; cases h); exact h
          have h2 : q2 ∈ post := by rcases hq2 with h | h; (rw [hpre] at h; cases h); exact h
          have := hpostC q1 h1; have := hpostC q2 h2; omega
        · by_cases hpost : post = []
          · left
            have h1 : q1 ∈ pre := by rcases hq1 with h | h; exact h; (rw [hpost] at h; cases h)
            have h2 : q2 ∈ pre := by rcases hq2 with h | h; exact h; (rw [hpost] at h; cases h)
            have := hpreC q1 h1; have := hpreC q2 h2; omega
          · exfalso
            have := hw hpre hpost
            obtain ⟨⟨q5, hq5, e5⟩, _⟩ := hullP_attained _ hpre
            obtain ⟨_, ⟨q6, hq6, e6⟩⟩ := hullP_attained _ hpost
            have := hpreC q5 hq5; have := hpostC q6 hq6
            omega
      refine ⟨by rw [len_simple]; omega, fun i hi => ?_⟩
      rw [mem_simple] at hi
      exact (hmem i).2 (by omega)
    | wrap hpre hpost hvu hlen' =>
      obtain ⟨⟨q5, hq5, e5⟩, _⟩ := hullP_attained _ hpre
      obtain ⟨_, ⟨q6, hq6, e6⟩⟩ := hullP_attained _ hpost
      have := hpreC q5 hq5; have := hpostC q6 hq6
      refine ⟨by rw [len_two]; dsimp only; omega, fun i hi => ?_⟩
      rw [mem_two] at hi; dsimp only at hi
      exact (hmem i).2 (by omega)

/-! ### the closed form -/

/-- the closed form covers every base of every reduced location -/
theorem connR_covers (rs : List RLoc) (L : Int) (hL : 0 < L) (hok : ∀ r ∈ rs, r.OK L)
    (r : RLoc) (hr : r ∈ rs) (i : Int) (hi : (r.toLoc L).mem i = true) : (connR rs L).mem i = true := by
  obtain ⟨q, hq, hq1, hq2⟩ := chunk_of_mem hr hi
  exact (connR_spec rs L hL (List.ne_nil_of_mem hr) hok).covers (fun _ => chunk_bounds hok) hq i hq1 hq2

/-- the closed form is a well-formed span -/
theorem connR_wf (rs : List RLoc) (L : Int) (hL : 0 < L) (hne : rs ≠ []) (hok : ∀ r ∈ rs, r.OK L) :
    areaWF L L (connR rs L) = true :=
  (connR_spec rs L hL hne hok).wf (fun _ => chunk_bounds hok)

/-- never longer than the line hull -/
theorem connR_le_hull (rs : List RLoc) (L : Int) (hL : 0 < L) (hne : rs ≠ []) (hok : ∀ r ∈ rs, r.OK L) :
    (connR rs L).len ≤ maxList ((rs.map (RLoc.toLoc L)).map (·.end)) - minList ((rs.map (RLoc.toLoc L)).map (·.start)) :=
  (connR_spec rs L hL hne hok).len_le _ _ (fun _ => chunk_in_hull)

/-- one part, or a forward two-part span `[a, L) + [0, b)` -/
theorem connR_shape (rs : List RLoc) (L : Int) (hL : 0 < L) (hne : rs ≠ []) (hok : ∀ r ∈ rs, r.OK L) :
    (∃ p, connR rs L = .simple p) ∨ (∃ a b, connR rs L = .compound [⟨a, L, .fwd⟩, ⟨0, b, .fwd⟩]) :=
  (connR_spec rs L hL hne hok).shape

/-- the closed form lies inside every well-formed span `c` that covers all the locations and is shorter than half
    the record -/
theorem connR_shortest (rs : List RLoc) (L : Int) (hL : 0 < L) (hne : rs ≠ []) (hok : ∀ r ∈ rs, r.OK L)
    (c : Loc) (hwf : areaWF L L c = true) (hlen : 2 * c.len < L)
    (hcov : ∀ r ∈ rs, ∀ i, (r.toLoc L).mem i = true → c.mem i = true) :
    (connR rs L).len ≤ c.len ∧ ∀ i, (connR rs L).mem i = true → c.mem i = true :=
  (connR_spec rs L hL hne hok).shortest
    (fun q hq => by have := mem_preOf hok hq; omega) (fun q hq => by have := mem_postOf hok hq; omega)
    c hwf hlen (fun _ hq => chunk_covered hcov hq)

end ASV
