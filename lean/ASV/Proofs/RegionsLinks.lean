/-
  C06: parent links.  `ParentsLive` and the parent fields of `Inv` are one statement, `LinksOn K`, for two sets of keys;
  what an elementary write does to the parent dictionary is said once (`Prim.linkEff`) and carried over by `LinksOn.write`.
-/
import ASV.Proofs.RegionsInv0
namespace ASV.Regions
open ASV

/-- `p` is a live parent of object `k`: a region of the record listing `k`, or a candidate cluster (of the record, or
    constructed) listing it -/
def LiveLink (s : State) (k p : Nat) : Prop :=
  (∃ r ∈ s.regions, r.id = p ∧ k ∈ r.kids ++ r.subs) ∨ (∃ c ∈ s.cands ++ s.pool, c.id = p ∧ k ∈ c.kids)

/-- every parent link of an object in `K` is live -/
def LinksOn (K : Nat → Prop) (s : State) : Prop := ∀ k, K k → ∀ p, s.parentOf k = some p → LiveLink s k p

/-- ids of the objects the record holds -/
def held (s : State) (k : Nat) : Prop := k ∈ ids s.protos ∨ k ∈ ids s.cands ∨ k ∈ ids s.subs ∨ k ∈ ids s.pool

theorem mem_ids_of_perm {l l' : List Feat} (h : l.Perm l') {k : Nat} (hk : k ∈ ids l) : k ∈ ids l' :=
  (h.map (fun f : Feat => f.id)).mem_iff.1 hk

/-- What a write does to the parent links: the keys in `W` get the value `v`, every other key keeps its value; a link
    written is live, a live link not overwritten stays live; only objects that exist get a parent. -/
structure LinkEff (s t : State) (W : Nat → Prop) (v : Option Nat) : Prop where
  hit : ∀ k, W k → t.parentOf k = v
  miss : ∀ k, ¬ W k → t.parentOf k = s.parentOf k
  new : ∀ k, W k → ∀ p, v = some p → LiveLink t k p
  keep : ∀ k p, ¬ W k → LiveLink s k p → LiveLink t k p
  below : ∀ k, W k → v = none ∨ k < s.nextId
  next : s.nextId ≤ t.nextId

/-- The links on `K'` are live after the write if those on `K` were before: a key of `K'` was written, or was in `K`, or
    had no parent. -/
theorem LinksOn.write {K K' : Nat → Prop} {s t : State} {W : Nat → Prop} {v : Option Nat} (e : LinkEff s t W v)
    (hK : ∀ k, K' k → K k ∨ s.parentOf k = none) (h : LinksOn K s) : LinksOn K' t := by
  intro k hk p hp
  by_cases hw : W k
  · exact e.new k hw p ((e.hit k hw).symm.trans hp)
  · rw [e.miss k hw] at hp
    rcases hK k hk with h1 | h1
    · exact e.keep k p hw (h k h1 p hp)
    · rw [h1] at hp; cases hp

theorem LinkEff.fresh {s t : State} {W : Nat → Prop} {v : Option Nat} (e : LinkEff s t W v)
    (h : ∀ k, s.nextId ≤ k → s.parentOf k = none) : ∀ k, t.nextId ≤ k → t.parentOf k = none := by
  intro k hk
  have := e.next
  by_cases hw : W k
  · rcases e.below k hw with h1 | h1
    · rw [e.hit k hw, h1]
    · omega
  · rw [e.miss k hw]
    exact h k (by omega)

/-- a write that leaves the parent dictionary, the regions and the candidate clusters (up to order) alone -/
theorem LinkEff.none {s t : State} (hpar : t.parent = s.parent) (hr : t.regions = s.regions)
    (hc : ∀ c, c ∈ s.cands ++ s.pool → c ∈ t.cands ++ t.pool) (hn : s.nextId ≤ t.nextId) :
    LinkEff s t (fun _ => False) none :=
  ⟨fun _ h => h.elim, fun k _ => by simp only [State.parentOf, hpar], fun _ h => h.elim,
    fun k p _ h => h.imp (by rw [hr]; exact id) (fun ⟨c, h1, h2⟩ => ⟨c, hc c h1, h2⟩), fun _ h => h.elim, hn⟩

/-- the parent fields of `Inv` say that the links of the held objects are live -/
theorem Inv.linksOn {s : State} (hi : Inv s) : LinksOn (held s) s := by
  intro k hk p hp
  rcases hk with hk | hk | hk | hk <;> obtain ⟨f, hf, rfl⟩ := mem_ids.1 hk
  · exact Or.inr (hi.parentP f hf p hp)
  · exact Or.inl (hi.parentA f (List.mem_append.2 (Or.inl hf)) p hp)
  · exact Or.inl (hi.parentA f (List.mem_append.2 (Or.inr hf)) p hp)
  · exact Or.inl (hi.parentPool f hf p hp)

/-- … and back: which kind of parent an object has follows from what the lists of children may name -/
theorem parents_of_linksOn {s : State} (h : LinksOn (held s) s)
    (kidsCand : ∀ c ∈ s.cands ++ s.pool, ∀ k ∈ c.kids, k < s.nextId ∧ k ∉ ids (s.cands ++ s.subs ++ s.pool))
    (kidsReg : ∀ r ∈ s.regions, ∀ k ∈ r.kids ++ r.subs, k < s.nextId ∧ k ∉ ids s.protos) :
    (∀ f ∈ s.cands ++ s.subs, ∀ p, s.parentOf f.id = some p → ∃ r ∈ s.regions, r.id = p ∧ f.id ∈ r.kids ++ r.subs) ∧
    (∀ f ∈ s.protos, ∀ c, s.parentOf f.id = some c → ∃ c' ∈ s.cands ++ s.pool, c'.id = c ∧ f.id ∈ c'.kids) ∧
    (∀ c ∈ s.pool, ∀ p, s.parentOf c.id = some p → ∃ r ∈ s.regions, r.id = p ∧ c.id ∈ r.kids ++ r.subs) := by
  -- a candidate cluster lists no area, so the live parent of an area is a region
  have area : ∀ f, held s f.id → f ∈ s.cands ++ s.subs ++ s.pool → ∀ p, s.parentOf f.id = some p →
      ∃ r ∈ s.regions, r.id = p ∧ f.id ∈ r.kids ++ r.subs := by
    intro f hh hf p hp
    rcases h f.id hh p hp with h1 | ⟨c, hc, _, e⟩
    · exact h1
    · exact absurd (mem_ids.2 ⟨f, hf, rfl⟩) (kidsCand c hc _ e).2
  refine ⟨fun f hf => ?_, fun f hf p hp => ?_, fun f hf => ?_⟩
  · rcases List.mem_append.1 hf with h1 | h1
    · exact area f (Or.inr (Or.inl (mem_ids.2 ⟨f, h1, rfl⟩))) (List.mem_append.2 (Or.inl hf))
    · exact area f (Or.inr (Or.inr (Or.inl (mem_ids.2 ⟨f, h1, rfl⟩)))) (List.mem_append.2 (Or.inl hf))
  · -- a region lists no protocluster
    rcases h f.id (Or.inl (mem_ids.2 ⟨f, hf, rfl⟩)) p hp with ⟨r, hr, _, e⟩ | h1
    · exact absurd (mem_ids.2 ⟨f, hf, rfl⟩) (kidsReg r hr _ e).2
    · exact h1
  · exact area f (Or.inr (Or.inr (Or.inr (mem_ids.2 ⟨f, hf, rfl⟩)))) (List.mem_append.2 (Or.inr hf))

/-- the only object an elementary write can make the record hold is a new one, with the next id -/
theorem Prim.held_next {A : Loc → Prop} {s t : State} (h : Prim A s t) (k : Nat) (hk : held t k) : held s k ∨ k = s.nextId := by
  cases h with
  | addProto _ hins =>
    rcases hk with hk | hk
    · exact (List.mem_cons.1 (mem_ids_of_perm (insertSortedWith_perm hins) hk)).elim Or.inr fun h => Or.inl (Or.inl h)
    · exact Or.inl (Or.inr hk)
  | addSub _ hins =>
    rcases hk with hk | hk | hk | hk
    · exact Or.inl (Or.inl hk)
    · exact Or.inl (Or.inr (Or.inl hk))
    · exact (List.mem_cons.1 (mem_ids_of_perm (insertSortedWith_perm hins) hk)).elim Or.inr
        fun h => Or.inl (Or.inr (Or.inr (Or.inl h)))
    · exact Or.inl (Or.inr (Or.inr (Or.inr hk)))
  | poolAdd hid _ _ _ _ _ =>
    rcases hk with hk | hk | hk | hk
    · exact Or.inl (Or.inl hk)
    · exact Or.inl (Or.inr (Or.inl hk))
    · exact Or.inl (Or.inr (Or.inr (Or.inl hk)))
    · rw [ids_append] at hk
      rcases List.mem_append.1 hk with hk | hk
      · exact Or.inl (Or.inr (Or.inr (Or.inr hk)))
      · exact Or.inr ((List.mem_singleton.1 hk).trans hid)
  | link _ _ _ => exact Or.inl hk
  | addCand h =>
    obtain ⟨x, l, d, hx, hins, rfl⟩ := addCandidate_ok h
    refine Or.inl ?_
    rcases hk with hk | hk | hk | hk
    · exact Or.inl hk
    · rcases List.mem_cons.1 (mem_ids_of_perm (insertSortedWith_perm hins) hk) with rfl | hk
      · exact Or.inr (Or.inr (Or.inr (mem_ids.2 ⟨x, (findId_some hx).1, rfl⟩)))
      · exact Or.inr (Or.inl hk)
    · exact Or.inr (Or.inr (Or.inl hk))
    · obtain ⟨f, hf, e⟩ := mem_ids.1 hk
      exact Or.inr (Or.inr (Or.inr (mem_ids.2 ⟨f, (List.mem_filter.1 hf).1, e⟩)))
  | region _ _ hmk hadd =>
    obtain ⟨_, _, _, _, _, _, rfl⟩ := mkRegion_ok hmk
    obtain ⟨_, _, _, _, rfl⟩ := addRegion_ok hadd
    exact Or.inl hk
  | clearRegions => exact Or.inl hk
  | dropProtos => exact Or.inl (Or.inr (hk.resolve_left (fun h => nomatch h)))
  | dropCands => exact Or.inl (hk.imp_right fun h => Or.inr (h.resolve_left (fun h => nomatch h)))
  | dropSubs =>
    exact Or.inl (hk.imp_right fun h => h.imp_right fun h => Or.inr (h.resolve_left (fun h => nomatch h)))

/-- What each elementary write does to the parent links.  Four of them write: `link` and `region` point the listed
    children at their new parent, `clearRegions` and `dropCands` reset the children of what they remove. -/
theorem Prim.linkEff {A : Loc → Prop} {s t : State} (hi : Inv s) (h : Prim A s t) : ∃ W v, LinkEff s t W v := by
  cases h with
  | addProto _ _ => exact ⟨_, _, .none rfl rfl (fun _ h => h) (Nat.le_succ _)⟩
  | addSub _ _ => exact ⟨_, _, .none rfl rfl (fun _ h => h) (Nat.le_succ _)⟩
  | poolAdd _ _ _ _ _ _ =>
    refine ⟨_, _, .none rfl rfl (fun c' h => ?_) (Nat.le_succ _)⟩
    rw [← List.append_assoc]
    exact List.mem_append.2 (Or.inl h)
  | @link c ps hcm hps hkids =>
    refine ⟨(· ∈ ids ps), some c.id, fun k hk => ?_, fun k hk => ?_, fun k hk p e => ?_, fun _ _ _ h => h,
      fun k hk => Or.inr ?_, Nat.le_refl _⟩
    · exact (parentOf_foldl s ps c.id k).trans (if_pos hk)
    · exact (parentOf_foldl s ps c.id k).trans (if_neg hk)
    · exact Or.inr ⟨c, hcm, Option.some.inj e, hkids k hk⟩
    · obtain ⟨p, hp, rfl⟩ := mem_ids.1 hk
      exact hi.fresh p (by simp [hps p hp])
  | @addCand _ id h =>
    obtain ⟨x, l, d, hx, hins, rfl⟩ := addCandidate_ok h
    have hpool := pool_split (nodup_parts hi).2.2.2.1 hx
    refine ⟨_, _, .none rfl rfl (fun f hf => ?_) (Nat.le_refl _)⟩
    simp only [List.mem_append, (insertSortedWith_perm hins).mem_iff, hpool.mem_iff (a := f), List.mem_cons] at hf ⊢
    rcases hf with hf | hf | hf <;> simp only [hf, true_or, or_true]
  | @region s1 _ cands subs r hc hs hmk hadd =>
    obtain ⟨_, _, hrid, hrk, hrs, _, rfl⟩ := mkRegion_ok hmk
    obtain ⟨index, _, _, _, rfl⟩ := addRegion_ok hadd
    have hpar := fun k => parentOf_foldl s (subs ++ cands) s.nextRid k
    refine ⟨(· ∈ ids (subs ++ cands)), some s.nextRid, fun k hk => (hpar k).trans (if_pos hk),
      fun k hk => (hpar k).trans (if_neg hk),
      fun k hk p e => Or.inl ⟨{ r with cdses := cdsWithin s.cds r.loc }, mem_insertAt.2 (Or.inl rfl), ?_, ?_⟩,
      fun k p _ h => h.imp (fun ⟨x, h1, h2⟩ => ⟨x, mem_insertAt.2 (Or.inr h1), h2⟩) id, fun k hk => Or.inr ?_, Nat.le_refl _⟩
    · exact hrid.trans (Option.some.inj e)
    · simp only [hrk, hrs]
      simp only [ids_append, List.mem_append] at hk ⊢
      exact hk.symm
    · obtain ⟨f, hf, rfl⟩ := mem_ids.1 hk
      refine hi.fresh f ?_
      simp only [List.mem_append] at hf ⊢
      rcases hf with hf | hf
      · exact Or.inl (Or.inr (hs f hf))
      · rcases List.mem_append.1 (hc f hf) with h | h
        · exact Or.inl (Or.inl (Or.inr h))
        · exact Or.inr h
  | clearRegions =>
    refine ⟨fun k => ∃ r ∈ s.regions, k ∈ r.kids ++ r.subs, none, fun k hk => ?_, fun k hk => ?_, fun _ _ _ e => (nomatch e),
      fun k p hk h => ?_, fun _ _ => Or.inl rfl, Nat.le_refl _⟩
    · rw [clearRegions_parentOf, if_pos hk]
    · rw [clearRegions_parentOf, if_neg hk]
    · rcases h with ⟨r, hr, _, e⟩ | h
      · exact absurd ⟨r, hr, e⟩ hk
      · exact Or.inr h
  | dropProtos => exact ⟨_, _, .none rfl rfl (fun _ h => h) (Nat.le_refl _)⟩
  | dropSubs => exact ⟨_, _, .none rfl rfl (fun _ h => h) (Nat.le_refl _)⟩
  | dropCands =>
    have hpar := parentOf_clearKids s s.cands
    refine ⟨fun k => ∃ c ∈ s.cands, k ∈ c.kids, none, fun k hk => (hpar k).trans (if_pos hk),
      fun k hk => (hpar k).trans (if_neg hk), fun _ _ _ e => (nomatch e), fun k p hk h => ?_, fun _ _ => Or.inl rfl, Nat.le_refl _⟩
    rcases h with h | ⟨c, hc, e1, e2⟩
    · exact Or.inl h
    · rcases List.mem_append.1 hc with h1 | h1
      · exact absurd ⟨c, h1, e2⟩ hk
      · exact Or.inr ⟨c, by simp [h1], e1, e2⟩

/-- the four parent fields of `Inv` after an elementary write, given the fields about the lists of children -/
theorem Prim.parents {A : Loc → Prop} {s t : State} (hi : Inv s) (h : Prim A s t)
    (kidsCand : ∀ c ∈ t.cands ++ t.pool, ∀ k ∈ c.kids, k < t.nextId ∧ k ∉ ids (t.cands ++ t.subs ++ t.pool))
    (kidsReg : ∀ r ∈ t.regions, ∀ k ∈ r.kids ++ r.subs, k < t.nextId ∧ k ∉ ids t.protos) :
    (∀ f ∈ t.cands ++ t.subs, ∀ p, t.parentOf f.id = some p → ∃ r ∈ t.regions, r.id = p ∧ f.id ∈ r.kids ++ r.subs) ∧
    (∀ f ∈ t.protos, ∀ c, t.parentOf f.id = some c → ∃ c' ∈ t.cands ++ t.pool, c'.id = c ∧ f.id ∈ c'.kids) ∧
    (∀ c ∈ t.pool, ∀ p, t.parentOf c.id = some p → ∃ r ∈ t.regions, r.id = p ∧ c.id ∈ r.kids ++ r.subs) ∧
    (∀ k, t.nextId ≤ k → t.parentOf k = none) := by
  obtain ⟨W, v, e⟩ := h.linkEff hi
  -- an object that came in has the next id, and nothing is written under that id yet
  have hK : ∀ k, held t k → held s k ∨ s.parentOf k = none := fun k hk =>
    (h.held_next k hk).imp_right fun (e : k = s.nextId) => e ▸ hi.parentFresh _ (Nat.le_refl _)
  obtain ⟨h1, h2, h3⟩ := parents_of_linksOn (hi.linksOn.write e hK) kidsCand kidsReg
  exact ⟨h1, h2, h3, e.fresh hi.parentFresh⟩

end ASV.Regions
