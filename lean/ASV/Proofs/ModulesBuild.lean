/-
  C14 helper lemmas: `build_modules_for_cds`.
  `sound_iff`: a module reloads from its JSON form exactly if it is the fold of `Module.next` over
  its components and these satisfy the documented layout.  The loop invariant `BInv` carries: the
  consistency of the module under construction with the upcoming components (`Ready`), that it is
  such a fold, the layout of its components with the upcoming ones visible behind them, soundness
  of the finished modules, the partition equation and the first-in-gene flags.
-/
import ASV.Proofs.ModulesReplay
namespace ASV.Modules
open T Spec

/-- `Module.from_json(m.to_json())` on the component level -/
def Reloadable (m : Module) : Prop := replayGo (Module.new m.firstInCds) m.components = .ok m

/-- a module as `build`/`combine` produce them -/
structure Sound (m : Module) : Prop where
  reload : Reloadable m
  noIgn : ∀ c ∈ m.components, c.isIgnored = false

/-- `Module.from_json` rebuilds exactly the folds of `next` over a component list of the documented
    layout -/
theorem sound_iff (m : Module) :
    Sound m ↔ m = m.components.foldl Module.next (Module.new m.firstInCds)
              ∧ layout m.components = true ∧ ∀ c ∈ m.components, c.isIgnored = false := by
  constructor
  · intro h
    have hr := h.reload
    unfold Reloadable at hr
    rw [(replay_new _ h.noIgn).1] at hr
    split at hr
    · injection hr with hr; exact ⟨hr.symm, ‹_›, h.noIgn⟩
    · cases hr
  · intro ⟨hf, hl, hn⟩
    refine ⟨?_, hn⟩
    unfold Reloadable
    rw [(replay_new _ hn).1, if_pos hl, ← hf]

theorem Sound.ready {m : Module} (h : Sound m) (nxt : List Comp) : Ready m nxt := by
  obtain ⟨hf, hl, hn⟩ := (sound_iff m).mp h
  have := (replay_new m.firstInCds hn).2 hl
  rw [← hf] at this
  exact this.idle this.pend.nil nxt

theorem Sound.facts {m : Module} (h : Sound m) :
    StateInv m ∧ m.unambiguous = 0 ∧ layout m.components = true :=
  ⟨(h.ready []).inv, (h.ready []).pend.nil, ((sound_iff m).mp h).2.1⟩

/-- nothing is pending in a sound module, so its layout does not depend on what follows it -/
theorem Sound.layoutX {m : Module} (h : Sound m) (ext : List Comp) :
    layoutFromX [] ext m.components = true :=
  layoutFromX_idle ext ((layoutFromX_nil _ _).trans h.facts.2.2) ((h.ready []).exact.idle h.facts.2.1)

def notIgnored (c : Comp) : Bool := !c.isIgnored

/-- only the first module of a gene is flagged first-in-gene -/
def FirstFlags (ms : List Module) : Prop :=
  match ms with
  | [] => True
  | m :: rest => m.firstInCds = true ∧ ∀ x ∈ rest, x.firstInCds = false

theorem FirstFlags.snoc {l : List Module} {x : Module} (h : FirstFlags l) (hne : l ≠ [])
    (hx : x.firstInCds = false) : FirstFlags (l ++ [x]) := by
  cases l with
  | nil => exact absurd rfl hne
  | cons m ms => exact ⟨h.1, List.forall_mem_append.mpr ⟨h.2, List.forall_mem_singleton.mpr hx⟩⟩

theorem FirstFlags.replace_last {done : List Module} {cur cur2 : Module} (h : FirstFlags (done ++ [cur]))
    (hx : cur2.firstInCds = cur.firstInCds) : FirstFlags (done ++ [cur2]) := by
  cases done with
  | nil => exact ⟨hx.trans h.1, h.2⟩
  | cons d ds =>
    exact ⟨h.1, List.forall_mem_append.mpr ⟨fun x hm => h.2 x (List.mem_append_left _ hm),
      List.forall_mem_singleton.mpr (hx.trans (h.2 cur (List.mem_append_right _ (List.mem_singleton.mpr rfl))))⟩⟩

theorem FirstFlags.init {l : List Module} {x : Module} (h : FirstFlags (l ++ [x])) : FirstFlags l := by
  cases l with
  | nil => trivial
  | cons m ms => exact ⟨h.1, fun y hy => h.2 y (List.mem_append_left _ hy)⟩

structure BInv (all : List Comp) (done : List Module) (cur : Module) (nxt : List Comp) : Prop where
  ready : Ready cur nxt
  fold : cur = cur.components.foldl Module.next (Module.new cur.firstInCds)
  lay : layoutFromX [] nxt cur.components = true
  doneSound : ∀ m ∈ done, Sound m ∧ m.components ≠ []
  part : (done ++ [cur]).flatMap (·.components) ++ nxt.filter notIgnored = all.filter notIgnored
  firsts : FirstFlags (done ++ [cur])

theorem BInv.init (all : List Comp) : BInv all [] (Module.new true) all := by
  constructor
  · exact Ready.new _ _
  · rfl
  · rfl
  · intro m hm; cases hm
  · simp [Module.new]
  · exact ⟨rfl, fun _ h => nomatch h⟩

/-- with no acceptance pending the layout of the module under construction does not depend on what
    is still to come -/
theorem BInv.lay_idle {all done cur nxt} (h : BInv all done cur nxt) (h0 : cur.unambiguous = 0)
    (ext : List Comp) : layoutFromX [] ext cur.components = true :=
  layoutFromX_idle ext h.lay (h.ready.exact.idle h0)

/-- closing the module under construction (no acceptance pending) -/
theorem BInv.close {all done cur nxt} (h : BInv all done cur nxt) (h0 : cur.unambiguous = 0) : Sound cur :=
  (sound_iff cur).mpr ⟨h.fold, (layoutFromX_nil _ _).symm.trans (h.lay_idle h0 []), h.ready.inv.noIgn⟩

/-- an explicit starter closes the current (non-empty) module and opens a fresh one -/
theorem BInv.fresh {all done cur c rest} (h : BInv all done cur (c :: rest))
    (hs : c.isStarter = true) (hne : cur.components ≠ []) :
    BInv all (done ++ [cur]) (Module.new false) (c :: rest) := by
  have h0 : cur.unambiguous = 0 := by
    by_cases h0 : cur.unambiguous > 0
    · have := h.ready.pend.head h0
      rw [isStarter_eq, this] at hs; cases hs
    · omega
  constructor
  · exact Ready.new _ _
  · rfl
  · rfl
  · exact List.forall_mem_append.mpr ⟨h.doneSound, List.forall_mem_singleton.mpr ⟨h.close h0, hne⟩⟩
  · have := h.part
    simp only [List.flatMap_append, List.flatMap_cons, List.flatMap_nil, List.append_nil, Module.new] at this ⊢
    exact this
  · exact h.firsts.snoc (List.append_ne_nil_of_right_ne_nil _ (List.cons_ne_nil _ _)) rfl

theorem filter_notIgnored_cons_ign {c : Comp} (rest : List Comp) (h : c.isIgnored = true) :
    (c :: rest).filter notIgnored = rest.filter notIgnored := by
  simp [notIgnored, h]

theorem filter_notIgnored_cons {c : Comp} (rest : List Comp) (h : c.isIgnored = false) :
    (c :: rest).filter notIgnored = c :: rest.filter notIgnored := by
  simp [notIgnored, h]

/-- the `try: add_component(...) except IncompatibleComponentError: new module` part of one
    iteration -/
theorem BInv.step {all done cur c rest} (h : BInv all done cur (c :: rest)) :
    (∃ cur2, addComponent cur c (rest.take 2) = .ok cur2 ∧ BInv all done cur2 rest)
    ∨ (addComponent cur c (rest.take 2) = .error .incompatible ∧
        ∃ cur2, addComponent (Module.new false) c [] = .ok cur2 ∧ BInv all (done ++ [cur]) cur2 rest) := by
  -- the look-ahead `rest.take 2` tests the same pair as all of `rest`
  have hla : ∀ {pre : List Comp} {la : List Comp}, positionOK pre c la = true →
      (dtPair la = true → dtPair rest = true) → positionOK pre c ([] ++ rest) = true :=
    fun hpos hd => positionOK_la hpos fun _ _ => hd
  rcases add_cases (rest.take 2) h.ready.inv h.ready.pend.head with ⟨hk, h1⟩ | ⟨hk, hr⟩
  · -- a docking domain: nothing happens
    left
    have hci : c.isIgnored = true := by rw [isIgnored_eq, hk]; rfl
    have h0 : cur.unambiguous = 0 := by
      by_cases h0 : cur.unambiguous > 0
      · have := h.ready.pend.head h0; rw [hk] at this; cases this
      · omega
    exact ⟨cur, h1, h.ready.idle h0 _, h.fold, h.lay_idle h0 _, h.doneSound,
      by rw [← h.part, filter_notIgnored_cons_ign rest hci], h.firsts⟩
  · have hci : c.isIgnored = false := by
      rw [isIgnored_eq]
      exact Kind.forall_of_allKinds (P := fun k => k ≠ .ignored → k.bits.ign = false) (by decide) _ hk
    rcases hr with ⟨he, h0, hne⟩ | ⟨h1, hpos, _⟩
    · -- refused: the component starts a new module
      right
      refine ⟨he, ?_⟩
      rcases add_cases (c := c) [] (StateInv.new false) (fun h => by simp [Module.new] at h) with ⟨hk2, _⟩ | ⟨_, hr2⟩
      · exact absurd hk2 hk
      · rcases hr2 with ⟨_, _, hne2⟩ | ⟨h2, hpos2, _⟩
        · exact absurd rfl hne2
        · refine ⟨_, h2, ?_⟩
          constructor
          · exact (Ready.new false (c :: rest)).next hci hpos2 (fun hc => by simp [Module.new] at hc)
          · rfl
          · exact (Bool.and_true _).trans (hla (pre := []) hpos2 fun hd =>
              absurd (dtValid_next [] ((dtPair_eq []).symm.trans hd)).1 (by decide))
          · exact List.forall_mem_append.mpr ⟨h.doneSound, List.forall_mem_singleton.mpr ⟨h.close h0, hne⟩⟩
          · have := h.part
            rw [filter_notIgnored_cons rest hci] at this
            rw [← this]
            simp [List.flatMap_append, Module.new]
          · exact h.firsts.snoc (List.append_ne_nil_of_right_ne_nil _ (List.cons_ne_nil _ _)) rfl
    · -- accepted
      left
      refine ⟨_, h1, ?_⟩
      constructor
      · exact h.ready.next hci hpos (fun _ => by rw [List.take_take]; simp)
      · show cur.next c = (cur.components ++ [c]).foldl Module.next (Module.new cur.firstInCds)
        rw [List.foldl_append, ← h.fold]; rfl
      · show layoutFromX [] rest (cur.components ++ [c]) = true
        rw [layoutFromX_append, Bool.and_eq_true]
        exact ⟨h.lay, (Bool.and_true _).trans (hla hpos fun hd => by rwa [dtPair, List.take_take] at hd)⟩
      · exact h.doneSound
      · have := h.part
        rw [filter_notIgnored_cons rest hci] at this
        rw [← this]
        simp [List.flatMap_append]
      · exact h.firsts.replace_last rfl

theorem buildGo_spec (all : List Comp) : ∀ (nxt : List Comp) (done : List Module) (cur : Module),
    BInv all done cur nxt →
    ∃ done' cur', buildGo nxt done cur = .ok (done', cur') ∧ BInv all done' cur' [] := by
  intro nxt
  induction nxt with
  | nil => intro done cur h; exact ⟨done, cur, rfl, h⟩
  | cons c rest ih =>
    intro done cur h
    simp only [buildGo]
    cases hf : (c.isStarter && !c.isLoader && !cur.isEmpty) with
    | false =>
      simp only [Bool.false_eq_true, if_false]
      rcases h.step with ⟨cur2, h1, h2⟩ | ⟨he, cur2, h1, h2⟩
      · rw [h1]; exact ih done cur2 h2
      · rw [he]; simp only [h1]; exact ih _ cur2 h2
    | true =>
      simp only [if_true]
      simp at hf
      have hne : cur.components ≠ [] := by
        intro hc; have := hf.2; simp [Module.isEmpty, hc] at this
      have h' := h.fresh hf.1.1 hne
      rcases h'.step with ⟨cur2, h1, h2⟩ | ⟨he, cur2, h1, h2⟩
      · rw [h1]; exact ih _ cur2 h2
      · rw [he]; simp only [h1]; exact ih _ cur2 h2

end ASV.Modules
