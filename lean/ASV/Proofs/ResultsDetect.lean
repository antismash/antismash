/-
  C11: rule-based detection — round trips (sets as sorted lists, integers as text, protoclusters as
  features, RuleDetectionResults, HMMDetectionResults), the multipliers a run stores, and the genes
  `annotate_cds_features` reaches.
-/
import ASV.Proofs.Results
import ASV.Proofs.SerialString
namespace ASV.Results
open ASV

@[simp] theorem strInt_intStr (i : Int) : strInt (intStr i) = some i := by
  simp [strInt, intStr, parseInt_intChars]

theorem setOf_of_strictAsc : ∀ l : List String, strictAsc l = true → setOf l = l
  | [], _ => rfl
  | [x], _ => rfl
  | x :: y :: rest, h => by
    simp only [strictAsc, Bool.and_eq_true, decide_eq_true_eq] at h
    have ih := setOf_of_strictAsc (y :: rest) h.2
    show insertS x (setOf (y :: rest)) = x :: y :: rest
    rw [ih]
    simp [insertS, h.1]

@[simp] theorem SDomain.fromJson_toJson (d : SDomain) : SDomain.fromJson d.toJson = .reuse d := by
  cases d; rfl

theorem CdsRes.defItem_roundtrip (p : String × List String) (h : strictAsc p.2 = true) :
    CdsRes.defItem (p.1, jStrs (setOf p.2)) = .reuse p := by
  simp [CdsRes.defItem, setOf_of_strictAsc p.2 h]

theorem CdsRes.fromJson_toJson (ctx : Ctx) (c : CdsRes) (hv : c.valid ctx = true) :
    CdsRes.fromJson ctx c.toJson = .reuse c := by
  simp only [CdsRes.valid, Bool.and_eq_true, List.all_eq_true, Bool.not_eq_true'] at hv
  obtain ⟨⟨hname, hdom⟩, hdefs⟩ := hv
  have h1 := mapO_map SDomain.toJson SDomain.fromJson c.domains (fun d _ => SDomain.fromJson_toJson d)
  have h2 := mapO_map (fun p : String × List String => (p.1, jStrs (setOf p.2))) CdsRes.defItem c.defDomains
    (fun p hp => CdsRes.defItem_roundtrip p (hdefs p hp))
  have hname' : c.cdsName ∈ ctx.cdsNames := by simpa using hname
  have hdom' : ¬ c.domains = [] := by
    intro h; rw [h] at hdom; simp at hdom
  simp [results_json, CdsRes.toJson, CdsRes.fromJson, h1, h2, hname', hdom']

/-! ### protoclusters as serialised features -/

namespace Proto

/-- an optional qualifier: written when there is a value -/
def optQ (k : String) : Option String → List (String × J)
  | some v => [q1 k v]
  | none => []

/-- the qualifiers `toJson` writes, every optional one as an `optQ` segment -/
def quals (p : Proto) : List (String × J) :=
  q1 "aStool" p.tool ::
    (optQ "category" (if p.category.isEmpty then none else some p.category) ++
      (optQ "contig_edge" (p.contigEdge.map boolStr) ++
        (q1 "core_location" (locToString p.core) :: q1 "cutoff" (intStr p.cutoff) ::
          q1 "detection_rule" p.rule :: q1 "neighbourhood" (intStr p.neighbourhood) ::
          q1 "product" p.product ::
          (optQ "protocluster_number" (p.number.map intStr) ++ [q1 "tool" "antismash"]))))

theorem toJson_eq (p : Proto) :
    p.toJson = .obj [("location", .str (locToString p.loc)), ("type", .str "protocluster"),
      ("qualifiers", .obj p.quals)] := by
  cases p with
  | mk loc core tool product cutoff nbh rule category number edge =>
    simp only [toJson, quals]
    cases number <;> cases edge <;> split <;> rfl

theorem qual_nil (k : String) : qual [] k = none := rfl

/- The two lookup lemmas carry an `if` on the keys instead of a side condition `k' ≠ k`: for literal keys `simp`
   decides the `if` in place (`String.reduceBEq`), whereas a side condition would have to be discharged by
   unfolding string equality down to the bytes. -/
theorem qual_q1_cons (k k' v : String) (rest : List (String × J)) :
    qual (q1 k' v :: rest) k = if k' == k then some v else qual rest k := by
  cases h : k' == k <;> simp [qual, q1, lookup, h]

theorem qual_optQ_append (k k' : String) (o : Option String) (rest : List (String × J)) :
    qual (optQ k' o ++ rest) k = if k' == k then o.or (qual rest k) else qual rest k := by
  cases o with
  | none => simp only [optQ, List.nil_append, Option.none_or, ite_self]
  | some v => exact qual_q1_cons k k' v rest

theorem fromJson_toJson (p : Proto) (hv : p.valid = true) :
    fromJson p.toJson = .reuse p.detach := by
  simp only [valid, Bool.and_eq_true, Bool.not_eq_true'] at hv
  obtain ⟨⟨hl, hc⟩, hctor⟩ := hv
  have hloc : locFromString (locToString p.loc) = some p.loc :=
    locFromString_locToString p.loc (by intro h; rw [h] at hl; simp at hl)
  have hcore : locFromString (locToString p.core) = some p.core :=
    locFromString_locToString p.core (by intro h; rw [h] at hc; simp at hc)
  obtain ⟨u, hctor'⟩ := isReuse_elim hctor
  have hcat : ((if p.category.isEmpty then none else some p.category).or none).getD "" = p.category := by
    split
    · rename_i he
      exact (String.isEmpty_iff.mp he).symm
    · rfl
  rw [toJson_eq]
  -- every qualifier is looked up by walking `quals`; the keys are literals and are compared in place
  simp only [fromJson, reqStr, reqObj, lookup, quals, qual_q1_cons, qual_optQ_append, qual_nil, String.reduceBEq,
    Bool.false_eq_true, ↓reduceIte, bind_reuse, hloc, hcat, strInt_intStr, hcore, hctor', pure_eq_reuse,
    bne_self_eq_false]
  rfl

end Proto

/-- once the record has numbered the regenerated protocluster again, it writes the same feature -/
theorem Proto.toJson_attach_detach (p : Proto) (n : Int) (e : Bool)
    (hn : p.number = some n) (he : p.contigEdge = some e) :
    (p.detach.attach n e).toJson = p.toJson := by
  cases p; simp_all [Proto.detach, Proto.attach]

theorem Proto.detach_valid (p : Proto) (h : p.valid = true) : p.detach.valid = true := by
  simpa [Proto.valid, Proto.detach] using h

theorem Proto.detach_detach (p : Proto) : p.detach.detach = p.detach := rfl

theorem RuleRes.pair_roundtrip (ctx : Ctx) (p : Proto × List CdsRes)
    (h1 : p.1.valid = true) (h2 : ∀ c ∈ p.2, CdsRes.valid ctx c = true) :
    RuleRes.pairFromJson ctx (.arr [p.1.toJson, .arr (p.2.map CdsRes.toJson)]) = .reuse (p.1.detach, p.2) := by
  have hc := mapO_roundtrips (CdsRes.fromJson_toJson ctx) p.2 h2
  simp [RuleRes.pairFromJson, Proto.fromJson_toJson p.1 h1, hc]

theorem RuleRes.fromJson_toJson (ctx : Ctx) (x : RuleRes) (hv : x.valid ctx = true) :
    RuleRes.fromJson ctx x.toJson = .reuse x.detach := by
  simp only [RuleRes.valid, Bool.and_eq_true, List.all_eq_true] at hv
  obtain ⟨⟨⟨hcl, hout⟩, hc⟩, hn⟩ := hv
  have h1 := mapO_map' (fun p : Proto × List CdsRes => J.arr [p.1.toJson, .arr (p.2.map CdsRes.toJson)])
    (RuleRes.pairFromJson ctx) (fun p => (p.1.detach, p.2)) x.byCluster
    (fun p hp => RuleRes.pair_roundtrip ctx p (hcl p hp).1 (hcl p hp).2)
  have h2 := mapO_roundtrips (CdsRes.fromJson_toJson ctx) x.outside hout
  have hc' : Dec.le x.cutoffMult Dec.zero = false := by rw [Dec.le_eq_not_lt, hc]; rfl
  have hn' : Dec.le x.neighMult Dec.zero = false := by rw [Dec.le_eq_not_lt, hn]; rfl
  simp [results_json, RuleRes.toJson, RuleRes.fromJson, RuleRes.multFromJson, RuleRes.detach, RuleRes.schemaVersion,
    h1, h2, hc', hn']

theorem RuleRes.detach_valid (ctx : Ctx) (x : RuleRes) (h : x.valid ctx = true) : x.detach.valid ctx = true := by
  simp only [RuleRes.valid, RuleRes.detach, Bool.and_eq_true, List.all_eq_true] at h ⊢
  refine ⟨⟨⟨?_, h.1.1.2⟩, h.1.2⟩, h.2⟩
  intro p hp
  simp only [List.mem_map] at hp
  obtain ⟨q, hq, rfl⟩ := hp
  exact ⟨Proto.detach_valid q.1 (h.1.1.1 q hq).1, (h.1.1.1 q hq).2⟩

theorem RuleRes.detach_detach (x : RuleRes) : x.detach.detach = x.detach := by
  simp [RuleRes.detach, Proto.detach_detach]

theorem HmmDet.fromJson_toJson (ctx : Ctx) (x : HmmDet) (hv : x.valid ctx = true) :
    HmmDet.fromJson ctx x.toJson = .reuse { x with rules := x.rules.detach } := by
  simp only [HmmDet.valid, Bool.and_eq_true, beq_iff_eq] at hv
  obtain ⟨⟨hid, hrules⟩, hstrict⟩ := hv
  have hr := RuleRes.fromJson_toJson ctx x.rules hrules
  have hs : x.strictness ∈ strictnessLevels := by simpa using hstrict
  simp [results_json, HmmDet.toJson, HmmDet.fromJson, HmmDet.enabledOf, HmmDet.strictnessOf, HmmDet.schemaVersion, hr,
    hs, ← hid]

theorem rulesetMultipliers_pos (o : HmmOpts) (ho : o.ok = true) :
    Dec.lt Dec.zero (rulesetMultipliers o).1 = true ∧ Dec.lt Dec.zero (rulesetMultipliers o).2 = true := by
  simp only [HmmOpts.ok, Bool.and_eq_true] at ho
  unfold rulesetMultipliers
  split
  · exact ⟨ho.1.2, ho.2⟩
  · exact ⟨by decide, by decide⟩

/-! ### annotate_cds_features reaches every stored CDSResults, inside or outside protoclusters -/

theorem updState_keys (m : List (String × CdsState)) (name : String) (f : CdsState → CdsState) :
    name ∈ (updState m name f).map (·.1) ∧ ∀ k ∈ m.map (·.1), k ∈ (updState m name f).map (·.1) := by
  unfold updState
  split
  · rename_i h
    have hkeys : (m.map fun p => if p.1 == name then (p.1, f p.2) else p).map (·.1) = m.map (·.1) := by
      rw [List.map_map]
      apply List.map_congr_left
      intro p _
      simp only [Function.comp]
      split <;> rfl
    rw [hkeys]
    refine ⟨?_, fun k hk => hk⟩
    simp only [List.any_eq_true, beq_iff_eq] at h
    obtain ⟨p, hp, hn⟩ := h
    exact List.mem_map.mpr ⟨p, hp, hn⟩
  · refine ⟨by simp, fun k hk => ?_⟩
    rw [List.map_append]
    exact List.mem_append_left _ hk

theorem foldl_updState_keys (tool : String) : ∀ (l : List CdsRes) (m : List (String × CdsState)),
    (∀ k ∈ m.map (·.1), k ∈ (l.foldl (fun m c => updState m c.cdsName (fun st => c.annotate tool st)) m).map (·.1))
    ∧ ∀ c ∈ l, c.cdsName ∈ (l.foldl (fun m c => updState m c.cdsName (fun st => c.annotate tool st)) m).map (·.1)
  | [], m => ⟨fun k hk => hk, fun c hc => by cases hc⟩
  | c :: rest, m => by
    have h1 := updState_keys m c.cdsName (fun st => c.annotate tool st)
    have ih := foldl_updState_keys tool rest (updState m c.cdsName (fun st => c.annotate tool st))
    simp only [List.foldl_cons]
    refine ⟨fun k hk => ih.1 k (h1.2 k hk), fun c' hc' => ?_⟩
    rcases List.mem_cons.mp hc' with rfl | hr
    · exact ih.1 _ h1.1
    · exact ih.2 c' hr

end ASV.Results
