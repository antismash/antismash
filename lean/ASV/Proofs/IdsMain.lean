/-
  C16, record level assembled: the uniqueness block, `preProcessIds` with everything it guarantees
  (`Post`) and its rejections, the bridge to the executable spec of `ASV/Spec/Ids.lean`, and the
  option handling around it (`preProcess`, the name filter, `Record.has_name`).
-/
import ASV.Proofs.IdsFix
namespace ASV.Ids
open ASV.Generated.Ids

theorem hasDup_false_iff {l : List Str} : hasDup l = false ↔ l.Nodup := by
  induction l with
  | nil => exact ⟨fun _ => List.nodup_nil, fun _ => rfl⟩
  | cons x xs ih =>
    rw [hasDup, Bool.or_eq_false_iff, List.nodup_cons, ih]
    exact and_congr_left' ⟨fun h hm => Bool.false_ne_true (h.symm.trans (contains_iff.mpr hm)),
      fun h => Bool.eq_false_iff.mpr fun hc => h (contains_iff.mp hc)⟩

/-- what the uniqueness block guarantees for its records and id set -/
structure UniquePost (recs recs1 : List Rec) (taken : List Str) : Prop where
  distinct : (recs1.map (·.id)).Nodup
  mem : ∀ r ∈ recs1, r.id ∈ taken
  rel : List.Forall₂ (DupRel taken) recs recs1
  keepsNil : (∃ r ∈ recs, r.id = []) → ∃ o ∈ recs1, o.id = []

/-- the uniqueness block cannot fail (the `assert len(all_record_ids) == len(sequences)` holds), and
    what it returns satisfies `UniquePost` -/
theorem uniquePass_ok (recs : List Rec) : ∃ recs1 taken, uniquePass recs = .ok (recs1, taken) ∧ UniquePost recs recs1 taken := by
  unfold uniquePass
  by_cases hd : hasDup (recs.map (·.id)) = true
  · obtain ⟨out, t, h, p⟩ := dupPass_ok recs []
    have hl : (t.length != recs.length) = false := by
      rw [p.length, List.length_nil, Nat.zero_add]
      exact bne_self_eq_false _
    simp only [if_pos hd, h, hl]
    exact ⟨out, t, rfl, p.distinct, fun r hr => (p.mem _).mpr (Or.inr (List.mem_map.mpr ⟨r, hr, rfl⟩)), p.rel,
      p.keeps_nil List.not_mem_nil⟩
  · simp only [if_neg hd]
    exact ⟨_, _, rfl, hasDup_false_iff.mp (Bool.eq_false_iff.mpr hd), fun r hr => List.mem_map.mpr ⟨r, hr, rfl⟩,
      List.forall₂_same.mpr fun _ _ => Or.inl rfl, id⟩

theorem mkRecs_forall₂ : ∀ (k : Nat) (inp : List (Str × Str × Option Str)),
    List.Forall₂ (fun p r => r.id = p.1 ∧ r.name = p.2.1 ∧ r.orig = none) inp (mkRecs k inp)
  | _, [] => List.Forall₂.nil
  | k, _ :: rest => List.Forall₂.cons ⟨rfl, rfl, rfl⟩ (mkRecs_forall₂ (k + 1) rest)

theorem checkNames_outcome {recs : List Rec} {res : Except Err (List Rec)} (h : checkNames recs = res) :
    match res with
    | .ok out => out = recs ∧ ∀ r ∈ recs, r.id ≠ []
    | .error e => e = .noName := by
  unfold checkNames at h
  split at h
  · subst h
    rfl
  · rename_i hn
    subst h
    refine ⟨rfl, fun r hr hid => hn ?_⟩
    exact List.any_eq_true.mpr ⟨r, hr, by simp [hid]⟩

/-- everything a successful run of the identifier handling guarantees, in one place -/
structure Post (al : Bool) (inp : List (Str × Str × Option Str)) (recs : List Rec) : Prop where
  distinct : (recs.map (·.id)).Nodup
  each : ∀ r ∈ recs, Clean r.id ∧ Clean r.name ∧ (al = false → r.id.length ≤ 16 ∧ r.name.length ≤ 16) ∧ r.id ≠ [] ∧
    ∀ a, r.acc = some a → a.length ≤ 16
  remembers : List.Forall₂ (fun p r => r.orig = if r.id = p.1 then none else some p.1) inp recs
  inputsNamed : ∀ p ∈ inp, p.1 ≠ []

theorem Post.cleanId {al inp recs} (p : Post al inp recs) : ∀ r ∈ recs, Clean r.id := fun r hr => (p.each r hr).1
theorem Post.cleanName {al inp recs} (p : Post al inp recs) : ∀ r ∈ recs, Clean r.name := fun r hr => (p.each r hr).2.1
theorem Post.short {al inp recs} (p : Post al inp recs) (hal : al = false) :
    ∀ r ∈ recs, r.id.length ≤ 16 ∧ r.name.length ≤ 16 := fun r hr => (p.each r hr).2.2.1 hal
theorem Post.named {al inp recs} (p : Post al inp recs) : ∀ r ∈ recs, r.id ≠ [] := fun r hr => (p.each r hr).2.2.2.1
theorem Post.accShort {al inp recs} (p : Post al inp recs) : ∀ r ∈ recs, ∀ a, r.acc = some a → a.length ≤ 16 :=
  fun r hr => (p.each r hr).2.2.2.2

theorem origSet_some {s : Str} (h : s ≠ []) : origSet (some s) = true := by
  cases s with
  | nil => exact absurd rfl h
  | cons _ _ => rfl

/-- one record through both passes: the remembered id is the input id exactly when the id changed -/
theorem remembers_pointwise {al : Bool} {taken : List Str} {pid : Str} {r0 r1 r2 : Rec}
    (hp : pid ≠ []) (h0 : r0.id = pid ∧ r0.orig = none) (h1 : DupRel taken r0 r1)
    (h2 : ∃ t t', (∀ y ∈ taken, y ∈ t) ∧ FixPost al t r1 r2 t') :
    r2.orig = if r2.id = pid then none else some pid := by
  obtain ⟨t, t', hsub, p⟩ := h2
  rw [p.orig]
  unfold fixOrig
  rcases h1 with rfl | ⟨hne, ho, _, _, hmem⟩
  · rw [h0.2, h0.1]
    by_cases he : r2.id = pid
    · simp [origSet, he]
    · have : pid ≠ r2.id := fun h => he h.symm
      simp [origSet, he, this]
  · rw [ho, h0.1, origSet_some hp]
    have : r2.id ≠ pid := by
      rcases p.fresh with heq | hfresh
      · exact heq ▸ (h0.1 ▸ hne)
      · exact fun h => hfresh (h ▸ hsub _ (h0.1 ▸ hmem))
    simp [this]

/-- every outcome of the identifier handling: `Post`, or one of the two documented rejections — no
    16-character id left (RuntimeError, only when long headers are not allowed) or a record
    without id; never the assertion, never an endless loop -/
theorem preProcessIds_outcome {al : Bool} {inp : List (Str × Str × Option Str)} {res : Except Err (List Rec)}
    (h : preProcessIds al inp = res) :
    match res with
    | .ok recs => Post al inp recs
    | .error e => e = .runtime ∧ al = false ∨ e = .noName := by
  obtain ⟨recs1, taken, hu, u⟩ := uniquePass_ok (mkRecs 1 inp)
  unfold preProcessIds at h
  rw [hu] at h
  dsimp only at h
  split at h
  · rename_i e hf
    subst h
    exact Or.inl (fixAll_outcome hf)
  · rename_i recs2 hf
    have c := checkNames_outcome h
    cases res with
    | error e => exact Or.inr c
    | ok recs =>
      obtain ⟨rfl, hne⟩ := c
      have f1 := fixAll_distinct hf u.mem u.distinct
      have f2 := fixAll_outcome hf
      have hm := mkRecs_forall₂ 1 inp
      -- no input id is empty: it would survive both passes and fail the final check
      have hin : ∀ p ∈ inp, p.1 ≠ [] := by
        intro p hp hnil
        obtain ⟨r, hr, hpr⟩ := List.Forall₂.mem_left hm p hp
        obtain ⟨o', ho', hoid'⟩ := fixAll_keeps_nil hf (u.keepsNil ⟨r, hr, hpr.1.trans hnil⟩)
        exact hne o' ho' hoid'
      refine ⟨f1.1, ?_, ?_, hin⟩
      · intro r hr
        obtain ⟨a, _, t, t', _, p⟩ := List.Forall₂.mem_right f2 r hr
        exact ⟨p.cleanId, p.cleanName, fun hal => ⟨p.shortId hal, p.shortName hal⟩, hne r hr, p.acc⟩
      · -- compose the three pointwise relations
        have hm' := (List.forall₂_and_left _ _).mpr ⟨hin, hm⟩
        refine ((hm'.comp u.rel).comp f2).imp ?_
        rintro p r2 ⟨r1, ⟨r0, ⟨hp, h0⟩, h1⟩, h2⟩
        exact remembers_pointwise hp ⟨h0.1, h0.2.2⟩ h1 h2

/-- the fields the executable spec looks at -/
def toOut (r : Rec) : IdSpec.Out := ⟨r.id, r.name, r.orig⟩

theorem remembers_iff {i : Str} {r : Rec} :
    IdSpec.remembers i (toOut r) = true ↔ r.orig = if r.id = i then none else some i := by
  unfold IdSpec.remembers toOut
  by_cases he : r.id = i
  · rw [if_pos he, if_pos (beq_iff_eq.mpr he)]
    exact beq_iff_eq
  · rw [if_neg he, if_neg fun h => he (beq_iff_eq.mp h)]
    exact beq_iff_eq

theorem remembersAll_of_forall₂ {ids : List Str} {recs : List Rec}
    (h : List.Forall₂ (fun i r => r.orig = if r.id = i then none else some i) ids recs) :
    IdSpec.remembersAll ids (recs.map toOut) = true := by
  induction h with
  | nil => rfl
  | cons h _ ih =>
    rw [List.map_cons, IdSpec.remembersAll, Bool.and_eq_true]
    exact ⟨remembers_iff.mpr h, ih⟩

theorem shortEnough_iff {al : Bool} {s : Str} : IdSpec.shortEnough al s = true ↔ (al = false → s.length ≤ 16) := by
  unfold IdSpec.shortEnough
  cases al with
  | true => exact ⟨fun _ h => (nomatch h), fun _ => rfl⟩
  | false => exact ⟨fun h _ => of_decide_eq_true h, fun h => decide_eq_true (h rfl)⟩

theorem post_recordsOk {al : Bool} {inp : List (Str × Str × Option Str)} {recs : List Rec} (p : Post al inp recs) :
    IdSpec.recordsOk al (inp.map (·.1)) (recs.map toOut) = true := by
  unfold IdSpec.recordsOk
  simp only [Bool.and_eq_true, List.map_map]
  refine ⟨⟨⟨?_, ?_⟩, ?_⟩, ?_⟩
  · exact pairwiseDistinct_iff.mpr (by simpa [Function.comp_def, toOut] using p.distinct)
  · simp only [List.all_eq_true, List.mem_map, Bool.and_eq_true]
    rintro o ⟨r, hr, rfl⟩
    exact ⟨(clean_iff_fileSafe _).mp (p.cleanId r hr), (clean_iff_fileSafe _).mp (p.cleanName r hr)⟩
  · simp only [List.all_eq_true, List.mem_map, Bool.and_eq_true]
    rintro o ⟨r, hr, rfl⟩
    exact ⟨shortEnough_iff.mpr fun hal => (p.short hal r hr).1, shortEnough_iff.mpr fun hal => (p.short hal r hr).2⟩
  · exact remembersAll_of_forall₂ (List.forall₂_map_left_iff.mpr p.remembers)

theorem uniqueOk_of_ok {pre : Str} {taken : List Str} {start : Nat} {maxLength : Int} {n : Str} {k : Nat}
    (h : generateUniqueId pre taken start maxLength = .ok (n, k)) : IdSpec.uniqueOk taken maxLength n = true := by
  obtain ⟨_, h2, h3⟩ := generateUniqueId_ok h
  unfold IdSpec.uniqueOk
  simp only [Bool.and_eq_true, Bool.not_eq_true', Bool.or_eq_true, decide_eq_true_eq]
  refine ⟨by simpa using h2, ?_⟩
  by_cases hm : maxLength ≤ 0
  · exact Or.inl hm
  · exact Or.inr (h3 (by omega))

theorem falsy_eq (o : Option Str) : IdSpec.falsy o = !origSet o := by
  cases o with
  | none => rfl
  | some s => cases s <;> rfl

theorem fixOk_of_post {al : Bool} {taken : List Str} {r r' : Rec} {t' : List Str} (p : FixPost al taken r r' t') :
    IdSpec.fixOk al taken r.id r.orig (toOut r') t' = true := by
  unfold IdSpec.fixOk toOut
  simp only [Bool.and_eq_true]
  refine ⟨⟨⟨⟨⟨⟨⟨?_, ?_⟩, ?_⟩, ?_⟩, ?_⟩, ?_⟩, ?_⟩, ?_⟩
  · exact (clean_iff_fileSafe _).mp p.cleanId
  · exact (clean_iff_fileSafe _).mp p.cleanName
  · exact shortEnough_iff.mpr p.shortId
  · exact shortEnough_iff.mpr p.shortName
  · rcases p.fresh with h | h
    · simp [h]
    · simp [h]
  · simp only [List.all_eq_true]
    intro y hy
    simpa using p.sub y hy
  · by_cases hm : r.id ∈ taken
    · have := p.mem hm
      simp [this]
    · simp [hm]
  · rw [p.orig, falsy_eq, fixOrig, bne_comm (a := r.id)]
    simp only [Bool.and_eq_true, beq_self_eq_true]

theorem countP_le_one_of_nodup {t : Str} {l : List Rec} (h : (l.map (·.id)).Nodup) : l.countP (·.id == t) ≤ 1 := by
  have := List.nodup_iff_count_le_one.mp h t
  rwa [List.count, List.countP_map] at this

theorem filterByName_outcome {recs : List Rec} {t : Str} {res : Except Err (List Bool)} (h : filterByName recs t = res) :
    match res with
    | .ok skips => skips.length = recs.length ∧ (t = [] → skips = recs.map fun _ => false) ∧
        (t ≠ [] → skips = recs.map (fun r => r.id != t) ∧ 1 ≤ recs.countP (·.id == t))
    | .error e => e = .noMatch ∧ t ≠ [] ∧ ∀ r ∈ recs, r.id ≠ t := by
  unfold filterByName at h
  cases t with
  | nil =>
    subst h
    exact ⟨List.length_map _, fun _ => rfl, fun hne => absurd rfl hne⟩
  | cons c cs =>
    rw [List.isEmpty_cons, if_neg Bool.false_ne_true] at h
    by_cases hc : recs.countP (·.id == c :: cs) = 0
    · rw [if_pos (beq_iff_eq.mpr hc)] at h
      subst h
      exact ⟨rfl, List.cons_ne_nil c cs, fun r hr heq => List.countP_eq_zero.mp hc r hr (beq_iff_eq.mpr heq)⟩
    · rw [if_neg fun hb => hc (beq_iff_eq.mp hb)] at h
      subst h
      exact ⟨List.length_map _, fun h0 => absurd h0 (List.cons_ne_nil c cs), fun _ => ⟨rfl, Nat.pos_of_ne_zero hc⟩⟩

theorem hasName_iff {r : Rec} {t : Str} : hasName r t = true ↔ t = r.id ∨ r.orig = some t := by
  unfold hasName
  by_cases ht : t = r.id
  · rw [if_pos (beq_iff_eq.mpr ht)]
    exact ⟨fun _ => Or.inl ht, fun _ => rfl⟩
  · rw [if_neg fun h => ht (beq_iff_eq.mp h)]
    cases r.orig with
    | none => exact ⟨fun h => (nomatch h), fun h => h.elim (fun e => absurd e ht) fun e => (nomatch e)⟩
    | some o =>
      exact ⟨fun h => Or.inr (congrArg some (beq_iff_eq.mp h).symm),
        fun h => h.elim (fun e => absurd e ht) fun e => beq_iff_eq.mpr (Option.some.inj e).symm⟩

theorem hasName_of_remembers {r : Rec} {i : Str} (h : r.orig = if r.id = i then none else some i) :
    hasName r i = true ∧ ∀ t, hasName r t = true → t = r.id ∨ t = i := by
  by_cases he : r.id = i
  · rw [if_pos he] at h
    exact ⟨hasName_iff.mpr (Or.inl he.symm), fun t ht => (hasName_iff.mp ht).imp_right fun e => absurd (h.symm.trans e) (Option.some_ne_none t).symm⟩
  · rw [if_neg he] at h
    exact ⟨hasName_iff.mpr (Or.inr h), fun t ht => (hasName_iff.mp ht).imp_right fun e => Option.some.inj (e.symm.trans h)⟩

theorem preProcess_outcome {o : Options} {inp : List (Str × Str × Option Str)} {res : Except Err (List Rec × List Bool)}
    (h : preProcess o inp = res) :
    match res with
    | .ok (recs, skips) =>
      (if checkingRequired o.reuse o.skip then preProcessIds o.allowLong inp else checkNames (mkRecs 1 inp)) = .ok recs ∧
      filterByName recs o.limitTo = .ok skips
    | .error e =>
      (if checkingRequired o.reuse o.skip then preProcessIds o.allowLong inp else checkNames (mkRecs 1 inp)) = .error e ∨
      ∃ recs, (if checkingRequired o.reuse o.skip then preProcessIds o.allowLong inp else checkNames (mkRecs 1 inp)) = .ok recs ∧
        filterByName recs o.limitTo = .error e := by
  unfold preProcess at h
  split at h
  · rename_i e hp
    subst h
    exact Or.inl hp
  · rename_i recs hp
    split at h
    · rename_i e hf
      subst h
      exact Or.inr ⟨recs, hp, hf⟩
    · rename_i skips hf
      subst h
      exact ⟨hp, hf⟩

end ASV.Ids
