/-
  Successful runs in `Except ε` (the model's `E` is `Except String`): a block returned `.ok v` iff each of its
  statements returned `.ok` of something; `mapM`, `foldlM`, `forM` and `filterMapM` over lists likewise.
  Imports no model file.
-/
import ASV.Proofs.Base.Attr
namespace ASV.Base
variable {ε : Type u} {α β γ : Type v}

/-! ### one statement of a block -/

@[ok_inv] theorem bind_eq_ok {x : Except ε α} {f : α → Except ε β} {b : β} :
    x >>= f = .ok b ↔ ∃ a, x = .ok a ∧ f a = .ok b := by
  cases x with
  | error e => exact ⟨fun h => (nomatch h), fun ⟨_, h, _⟩ => nomatch h⟩
  | ok a => exact ⟨fun h => ⟨a, rfl, h⟩, fun ⟨_, h, hf⟩ => by cases h; exact hf⟩

@[ok_inv] theorem pure_eq_ok {a b : α} : (pure a : Except ε α) = .ok b ↔ a = b :=
  ⟨fun h => Except.ok.inj h, fun h => h ▸ rfl⟩

@[ok_inv] theorem ok_eq_ok {a b : α} : (Except.ok a : Except ε α) = .ok b ↔ a = b :=
  ⟨fun h => Except.ok.inj h, fun h => h ▸ rfl⟩

@[ok_inv] theorem error_eq_ok {e : ε} {b : α} : (Except.error e : Except ε α) = .ok b ↔ False :=
  ⟨fun h => (nomatch h), False.elim⟩

@[ok_inv] theorem throw_eq_ok {e : ε} {b : α} : (throw e : Except ε α) = .ok b ↔ False :=
  ⟨fun h => (nomatch h), False.elim⟩

@[ok_inv] theorem map_eq_ok {f : α → β} {x : Except ε α} {b : β} :
    f <$> x = .ok b ↔ ∃ a, x = .ok a ∧ f a = b := by
  cases x with
  | error e => exact ⟨fun h => (nomatch h), fun ⟨_, h, _⟩ => nomatch h⟩
  | ok a => exact ⟨fun h => ⟨a, rfl, Except.ok.inj h⟩, fun ⟨_, h, hf⟩ => by cases h; exact hf ▸ rfl⟩

/-- a guard `if c then raise else x` that let the value through -/
@[ok_inv] theorem ite_error_eq_ok {c : Prop} [Decidable c] {e : ε} {x : Except ε α} {a : α} :
    (if c then .error e else x) = .ok a ↔ ¬ c ∧ x = .ok a := by
  by_cases hc : c
  · rw [if_pos hc]; exact ⟨fun h => (nomatch h), fun h => absurd hc h.1⟩
  · rw [if_neg hc]; exact ⟨fun h => ⟨hc, h⟩, fun h => h.2⟩

@[ok_inv] theorem ite_throw_eq_ok {c : Prop} [Decidable c] {e : ε} {x : Except ε α} {a : α} :
    (if c then throw e else x) = .ok a ↔ ¬ c ∧ x = .ok a :=
  ite_error_eq_ok

@[ok_inv] theorem ite_else_error_eq_ok {c : Prop} [Decidable c] {e : ε} {x : Except ε α} {a : α} :
    (if c then x else .error e) = .ok a ↔ c ∧ x = .ok a := by
  by_cases hc : c
  · rw [if_pos hc]; exact ⟨fun h => ⟨hc, h⟩, fun h => h.2⟩
  · rw [if_neg hc]; exact ⟨fun h => (nomatch h), fun h => absurd h.1 hc⟩

/-- a statement without a result (`checkX …`, `if c then throw e`): nothing to name -/
@[ok_inv high] theorem bind_unit_eq_ok {x : Except ε PUnit} {f : PUnit → Except ε β} {b : β} :
    x >>= f = .ok b ↔ x = .ok ⟨⟩ ∧ f ⟨⟩ = .ok b :=
  bind_eq_ok.trans ⟨fun ⟨_, h, hf⟩ => ⟨h, hf⟩, fun ⟨h, hf⟩ => ⟨_, h, hf⟩⟩

@[ok_inv] theorem guard_eq_ok {c : Prop} [Decidable c] {e : ε} {u : PUnit} :
    (if c then throw e else pure ⟨⟩ : Except ε PUnit) = .ok u ↔ ¬ c := by
  by_cases hc : c
  · rw [if_pos hc]; exact ⟨fun h => (nomatch h), fun h => absurd hc h⟩
  · rw [if_neg hc]; exact ⟨fun _ => hc, fun _ => rfl⟩

/-- `if c then throw e` in the middle of a block: the elaborator copies the rest of the block into both branches -/
@[ok_inv] theorem ite_throw_bind_eq_ok {c : Prop} [Decidable c] {e : ε} {f : γ → Except ε α} {x : Except ε α} {a : α} :
    (if c then (throw e : Except ε γ) >>= f else x) = .ok a ↔ ¬ c ∧ x = .ok a :=
  ite_error_eq_ok

/-! ### running a block forward -/

@[simp] theorem ok_bind (a : α) (f : α → Except ε β) : Except.ok a >>= f = f a := rfl
@[simp] theorem error_bind (e : ε) (f : α → Except ε β) : Except.error e >>= f = .error e := rfl
@[simp] theorem pure_def (a : α) : (pure a : Except ε α) = .ok a := rfl
@[simp] theorem throw_def (e : ε) : (throw e : Except ε α) = .error e := rfl

theorem eq_ok_of_toOption {e : Except ε α} {a : α} (h : e.toOption = some a) : e = .ok a := by
  cases e with
  | error _ => cases h
  | ok b => cases h; rfl

theorem ok_or_error (x : Except ε α) : (∃ a, x = .ok a) ∨ ∃ e, x = .error e := by
  cases x with
  | error e => exact .inr ⟨e, rfl⟩
  | ok a => exact .inl ⟨a, rfl⟩

/-! ### `mapM` -/

theorem mapM_nil_eq_ok {f : α → Except ε β} {out : List β} : ([] : List α).mapM f = .ok out ↔ out = [] :=
  ⟨fun h => (Except.ok.inj h).symm, fun h => h ▸ rfl⟩

theorem mapM_cons_eq_ok {f : α → Except ε β} {a : α} {l : List α} {out : List β} :
    (a :: l).mapM f = .ok out ↔ ∃ b bs, f a = .ok b ∧ l.mapM f = .ok bs ∧ out = b :: bs := by
  rw [List.mapM_cons]
  simp only [bind_eq_ok, pure_eq_ok]
  exact ⟨fun ⟨b, hb, bs, hbs, h⟩ => ⟨b, bs, hb, hbs, h.symm⟩, fun ⟨b, bs, hb, hbs, h⟩ => ⟨b, hb, bs, hbs, h.symm⟩⟩

/-- the one characterisation: a `mapM` returned `out` iff `f` returned the entries of `out`, in order -/
theorem mapM_eq_ok {f : α → Except ε β} : ∀ {l : List α} {out : List β},
    l.mapM f = .ok out ↔ l.map f = out.map .ok
  | [], out => by
    rw [mapM_nil_eq_ok, List.map_nil, eq_comm (a := ([] : List (Except ε β))), List.map_eq_nil_iff]
  | a :: l, out => by
    rw [mapM_cons_eq_ok, List.map_cons, eq_comm, List.map_eq_cons_iff]
    constructor
    · rintro ⟨b, bs, hb, hbs, rfl⟩; exact ⟨b, bs, rfl, hb.symm, (mapM_eq_ok.1 hbs).symm⟩
    · rintro ⟨b, bs, rfl, hb, hbs⟩; exact ⟨b, bs, hb.symm, mapM_eq_ok.2 hbs.symm, rfl⟩

theorem mapM_ok_length {f : α → Except ε β} {l : List α} {out : List β} (h : l.mapM f = .ok out) :
    out.length = l.length := by
  have := congrArg List.length (mapM_eq_ok.1 h)
  rwa [List.length_map, List.length_map, eq_comm] at this

theorem mapM_ok_getElem {f : α → Except ε β} {l : List α} {out : List β} (h : l.mapM f = .ok out) (i : Nat)
    (hi : i < l.length) : f l[i] = .ok (out[i]'(mapM_ok_length h ▸ hi)) := by
  have := List.getElem_of_eq (mapM_eq_ok.1 h) (i := i) (by rwa [List.length_map])
  rwa [List.getElem_map, List.getElem_map] at this

/-- every output came from an input -/
theorem mapM_ok_mem {f : α → Except ε β} {l : List α} {out : List β} (h : l.mapM f = .ok out) {y : β} :
    y ∈ out ↔ ∃ a ∈ l, f a = .ok y := by
  have h := mapM_eq_ok.1 h
  constructor
  · intro hy
    have : (Except.ok y : Except ε β) ∈ l.map f := h ▸ List.mem_map_of_mem hy
    exact List.mem_map.1 this
  · rintro ⟨a, ha, hfa⟩
    have : (Except.ok y : Except ε β) ∈ out.map Except.ok := by rw [← h, ← hfa]; exact List.mem_map_of_mem ha
    obtain ⟨y', hy', e⟩ := List.mem_map.1 this
    exact Except.ok.inj e ▸ hy'

/-- every input went through -/
theorem mapM_ok_mem' {f : α → Except ε β} {l : List α} {out : List β} (h : l.mapM f = .ok out) {a : α}
    (ha : a ∈ l) : ∃ y ∈ out, f a = .ok y := by
  have : f a ∈ out.map Except.ok := mapM_eq_ok.1 h ▸ List.mem_map_of_mem ha
  obtain ⟨y, hy, e⟩ := List.mem_map.1 this
  exact ⟨y, hy, e.symm⟩

theorem mapM_ok_of_forall {f : α → Except ε β} (g : α → β) {l : List α} (h : ∀ a ∈ l, f a = .ok (g a)) :
    l.mapM f = .ok (l.map g) :=
  mapM_eq_ok.2 (by rw [List.map_map]; exact List.map_congr_left h)

theorem mapM_ok_iff_forall {f : α → Except ε β} {l : List α} :
    (∃ out, l.mapM f = .ok out) ↔ ∀ a ∈ l, ∃ b, f a = .ok b := by
  constructor
  · rintro ⟨out, h⟩ a ha
    obtain ⟨y, _, hy⟩ := mapM_ok_mem' h ha
    exact ⟨y, hy⟩
  · intro h
    induction l with
    | nil => exact ⟨[], rfl⟩
    | cons a l ih =>
      obtain ⟨b, hb⟩ := h a List.mem_cons_self
      obtain ⟨bs, hbs⟩ := ih fun x hx => h x (List.mem_cons_of_mem _ hx)
      exact ⟨b :: bs, mapM_cons_eq_ok.2 ⟨b, bs, hb, hbs, rfl⟩⟩

theorem mapM_congr {f g : α → Except ε β} {l : List α} (h : ∀ a ∈ l, f a = g a) : l.mapM f = l.mapM g := by
  induction l with
  | nil => rfl
  | cons a l ih =>
    rw [List.mapM_cons, List.mapM_cons, h a List.mem_cons_self, ih fun x hx => h x (List.mem_cons_of_mem _ hx)]

theorem mapM_append_eq_ok {f : α → Except ε β} {l₁ l₂ : List α} {out : List β} :
    (l₁ ++ l₂).mapM f = .ok out ↔ ∃ o₁ o₂, l₁.mapM f = .ok o₁ ∧ l₂.mapM f = .ok o₂ ∧ out = o₁ ++ o₂ := by
  simp only [mapM_eq_ok, List.map_append]
  constructor
  · intro h
    obtain ⟨o₁, o₂, rfl, h₁, h₂⟩ := List.append_eq_map_iff.1 h
    exact ⟨o₁, o₂, h₁.symm, h₂.symm, rfl⟩
  · rintro ⟨o₁, o₂, h₁, h₂, rfl⟩
    rw [h₁, h₂, List.map_append]

theorem mapM_perm {f : α → Except ε β} {l l' : List α} (hp : l.Perm l') {out : List β}
    (h : l.mapM f = .ok out) : ∃ out', l'.mapM f = .ok out' ∧ out.Perm out' := by
  induction hp generalizing out with
  | nil => exact ⟨out, h, .refl _⟩
  | cons a _ ih =>
    obtain ⟨b, bs, h1, h2, rfl⟩ := mapM_cons_eq_ok.1 h
    obtain ⟨bs', h3, hp'⟩ := ih h2
    exact ⟨b :: bs', mapM_cons_eq_ok.2 ⟨b, bs', h1, h3, rfl⟩, hp'.cons b⟩
  | swap a c l =>
    obtain ⟨b, bs, h1, h2, rfl⟩ := mapM_cons_eq_ok.1 h
    obtain ⟨d, ds, h3, h4, rfl⟩ := mapM_cons_eq_ok.1 h2
    exact ⟨d :: b :: ds, mapM_cons_eq_ok.2 ⟨d, _, h3, mapM_cons_eq_ok.2 ⟨b, ds, h1, h4, rfl⟩, rfl⟩, .swap d b ds⟩
  | trans _ _ ih1 ih2 =>
    obtain ⟨o1, h1, p1⟩ := ih1 h
    obtain ⟨o2, h2, p2⟩ := ih2 h1
    exact ⟨o2, h2, p1.trans p2⟩

/-! ### `foldlM` -/

theorem foldlM_cons_eq_ok {f : β → α → Except ε β} {a : α} {l : List α} {b b' : β} :
    (a :: l).foldlM f b = .ok b' ↔ ∃ b₁, f b a = .ok b₁ ∧ l.foldlM f b₁ = .ok b' := by
  rw [List.foldlM_cons, bind_eq_ok]

theorem foldlM_append_eq_ok {f : β → α → Except ε β} {l₁ l₂ : List α} {b b' : β} :
    (l₁ ++ l₂).foldlM f b = .ok b' ↔ ∃ b₁, l₁.foldlM f b = .ok b₁ ∧ l₂.foldlM f b₁ = .ok b' := by
  rw [List.foldlM_append, bind_eq_ok]

theorem foldlM_snoc_eq_ok {f : β → α → Except ε β} {l : List α} {a : α} {b b' : β} :
    (l ++ [a]).foldlM f b = .ok b' ↔ ∃ b₁, l.foldlM f b = .ok b₁ ∧ f b₁ a = .ok b' := by
  rw [foldlM_append_eq_ok]
  simp only [List.foldlM_cons, List.foldlM_nil, bind_pure]

/-- what holds of the elements seen so far and the state they led to, and is kept by every successful step, holds
    at the end of a successful fold -/
theorem foldlM_invariant {f : β → α → Except ε β} {P : α → Prop} {I : List α → β → Prop}
    (step : ∀ seen b a b', P a → I seen b → f b a = .ok b' → I (seen ++ [a]) b') :
    ∀ (l seen : List α) (b b' : β), (∀ a ∈ l, P a) → I seen b → l.foldlM f b = .ok b' → I (seen ++ l) b'
  | [], seen, b, b', _, h, hrun => by
    obtain rfl := Except.ok.inj hrun
    rwa [List.append_nil]
  | a :: l, seen, b, b', hP, h, hrun => by
    obtain ⟨b₁, hs, hrun⟩ := foldlM_cons_eq_ok.1 hrun
    have := foldlM_invariant step l (seen ++ [a]) b₁ b' (fun x hx => hP x (List.mem_cons_of_mem _ hx))
      (step seen b a b₁ (hP a List.mem_cons_self) h hs) hrun
    rwa [List.append_assoc] at this

/-- a fold that succeeds with `f` succeeds with every `g` that agrees with `f` where `f` succeeds -/
theorem foldlM_ok_mono {f g : β → α → Except ε β} (hfg : ∀ b a b', f b a = .ok b' → g b a = .ok b') :
    ∀ (l : List α) (b b' : β), l.foldlM f b = .ok b' → l.foldlM g b = .ok b'
  | [], _, _, h => h
  | a :: l, b, b', h => by
    obtain ⟨b₁, hs, h⟩ := foldlM_cons_eq_ok.1 h
    exact foldlM_cons_eq_ok.2 ⟨b₁, hfg _ _ _ hs, foldlM_ok_mono hfg l b₁ b' h⟩

/-- the plain form: a predicate of the state kept by every successful step on a member -/
theorem foldlM_preserves {f : β → α → Except ε β} {P : β → Prop} {l : List α} {b b' : β}
    (step : ∀ a ∈ l, ∀ b b', P b → f b a = .ok b' → P b') (h : P b) (hrun : l.foldlM f b = .ok b') : P b' := by
  induction l generalizing b with
  | nil => exact Except.ok.inj hrun ▸ h
  | cons a l ih =>
    obtain ⟨b₁, hs, hrun⟩ := foldlM_cons_eq_ok.1 hrun
    exact ih (fun x hx => step x (List.mem_cons_of_mem _ hx)) (step a List.mem_cons_self b b₁ h hs) hrun

end ASV.Base
