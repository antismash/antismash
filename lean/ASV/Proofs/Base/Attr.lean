/-
  The simp set `ok_inv`: what it means that a block written in `Except` returned `.ok v`.
  (Declared here because an attribute cannot be used in the module that registers it.)
-/
import Lean.Meta.Tactic.Simp.RegisterCommand

/-- `simp only [ok_inv] at h` turns `h : (do let a ← x; let b ← g a; pure (k a b)) = .ok v` into
    `∃ a, x = .ok a ∧ ∃ b, g a = .ok b ∧ k a b = v`, one bind at a time, and closes `h` when the block raised. -/
register_simp_attr ok_inv
