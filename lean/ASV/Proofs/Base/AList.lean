/-
  Association lists as the model's dictionaries: `get` (first entry with the key), `put` (replace the value in place,
  or append a new entry — the order of a Python `dict`), `del` (drop the key).  Each dictionary of the model
  (`Serial.Q`, `HitFilter.setScore`/`getScore`, `CC.getGo`/`setGo`, `Regions.Dict`, `Results.lookup`, `Packing.jLookup`)
  is one of these up to a bridge equation.  Imports no model file.
-/
namespace ASV.Base.AList
variable {κ : Type u} {β : Type v} [DecidableEq κ]

def keys (l : List (κ × β)) : List κ := l.map (·.1)

def get : List (κ × β) → κ → Option β
  | [], _ => none
  | (k', v) :: l, k => if k' = k then some v else get l k

def put : List (κ × β) → κ → β → List (κ × β)
  | [], k, v => [(k, v)]
  | (k', v') :: l, k, v => if k' = k then (k, v) :: l else (k', v') :: put l k v

def del (l : List (κ × β)) (k : κ) : List (κ × β) := l.filter fun e => e.1 ≠ k

/-! ### `get` -/

theorem get_eq_lookup (l : List (κ × β)) (k : κ) : get l k = l.lookup k := by
  induction l with
  | nil => rfl
  | cons e l ih =>
    obtain ⟨k', v⟩ := e
    by_cases h : k' = k
    · subst h; simp [get, List.lookup]
    · have : (k == k') = false := by simpa using fun e => h e.symm
      simp [get, List.lookup, h, this, ih]

theorem get_eq_find? (l : List (κ × β)) (k : κ) : get l k = (l.find? fun e => e.1 == k).map (·.2) := by
  induction l with
  | nil => rfl
  | cons e l ih =>
    obtain ⟨k', v⟩ := e
    by_cases h : k' = k <;> simp [get, h, ih]

theorem get_eq_none {l : List (κ × β)} {k : κ} : get l k = none ↔ k ∉ keys l := by
  induction l with
  | nil => simp [get, keys]
  | cons e l ih =>
    obtain ⟨k', v⟩ := e
    by_cases h : k' = k
    · simp [get, keys, h]
    · simp only [get, if_neg h, ih, keys, List.map_cons, List.mem_cons, not_or]
      exact ⟨fun h' => ⟨fun e => h e.symm, h'⟩, fun h' => h'.2⟩

theorem mem_of_get {l : List (κ × β)} {k : κ} {v : β} (h : get l k = some v) : (k, v) ∈ l := by
  induction l with
  | nil => cases h
  | cons e l ih =>
    obtain ⟨k', v'⟩ := e
    by_cases hk : k' = k
    · simp only [get, if_pos hk, Option.some.injEq] at h; subst hk h; exact List.mem_cons_self
    · simp only [get, if_neg hk] at h; exact List.mem_cons_of_mem _ (ih h)

/-- with distinct keys the dictionary is its set of entries -/
theorem get_eq_some {l : List (κ × β)} (hn : (keys l).Nodup) {k : κ} {v : β} : get l k = some v ↔ (k, v) ∈ l := by
  refine ⟨mem_of_get, fun h => ?_⟩
  induction l with
  | nil => cases h
  | cons e l ih =>
    obtain ⟨k', v'⟩ := e
    simp only [keys, List.map_cons, List.nodup_cons] at hn
    rcases List.mem_cons.1 h with e | h
    · cases e; simp [get]
    · have : k' ≠ k := fun e => hn.1 (e ▸ List.mem_map.2 ⟨_, h, rfl⟩)
      simp only [get, if_neg this]; exact ih hn.2 h

theorem get_append (l₁ l₂ : List (κ × β)) (k : κ) : get (l₁ ++ l₂) k = (get l₁ k).or (get l₂ k) := by
  induction l₁ with
  | nil => simp [get]
  | cons e l ih => obtain ⟨k', v⟩ := e; by_cases h : k' = k <;> simp [get, h, ih]

theorem get_perm {l l' : List (κ × β)} (hp : l.Perm l') (hn : (keys l).Nodup) (k : κ) : get l k = get l' k := by
  have hn' : (keys l').Nodup := (hp.map _).nodup_iff.1 hn
  cases h : get l k with
  | none => exact (get_eq_none.2 fun hk => get_eq_none.1 h ((hp.map _).mem_iff.2 hk)).symm
  | some v => exact ((get_eq_some hn').2 (hp.mem_iff.1 ((get_eq_some hn).1 h))).symm

/-! ### `put` -/

theorem get_put (l : List (κ × β)) (k k' : κ) (v : β) : get (put l k v) k' = if k' = k then some v else get l k' := by
  induction l with
  | nil => simp only [put, get, eq_comm]
  | cons e l ih =>
    obtain ⟨k₀, v₀⟩ := e
    by_cases h0 : k₀ = k
    · subst h0
      simp only [put, if_true, get, eq_comm (a := k')]
      split <;> rfl
    · simp only [put, if_neg h0, get, ih]
      split
      · rename_i h; rw [if_neg fun e => h0 (h.trans e)]
      · rfl

theorem keys_put (l : List (κ × β)) (k : κ) (v : β) :
    keys (put l k v) = if k ∈ keys l then keys l else keys l ++ [k] := by
  induction l with
  | nil => simp [put, keys]
  | cons e l ih =>
    obtain ⟨k₀, v₀⟩ := e
    by_cases h0 : k₀ = k
    · simp [put, keys, h0]
    · have e1 : keys (put ((k₀, v₀) :: l) k v) = k₀ :: keys (put l k v) := by simp only [put, if_neg h0]; rfl
      have e2 : k ∈ keys ((k₀, v₀) :: l) ↔ k ∈ keys l :=
        ⟨fun h => (List.mem_cons.1 h).resolve_left fun e => h0 e.symm, List.mem_cons_of_mem _⟩
      rw [e1, ih]
      by_cases hk : k ∈ keys l
      · rw [if_pos hk, if_pos (e2.2 hk)]; rfl
      · rw [if_neg hk, if_neg fun h => hk (e2.1 h)]; rfl

theorem put_of_not_mem {l : List (κ × β)} {k : κ} (h : k ∉ keys l) (v : β) : put l k v = l ++ [(k, v)] := by
  induction l with
  | nil => rfl
  | cons e l ih =>
    obtain ⟨k₀, v₀⟩ := e
    simp only [keys, List.map_cons, List.mem_cons, not_or] at h
    simp only [put, if_neg fun (e : k₀ = k) => h.1 e.symm, List.cons_append, ih h.2]

theorem nodup_put {l : List (κ × β)} (hn : (keys l).Nodup) (k : κ) (v : β) : (keys (put l k v)).Nodup := by
  rw [keys_put]
  split
  · exact hn
  · rename_i h; exact List.nodup_append.2 ⟨hn, List.nodup_cons.2 ⟨List.not_mem_nil, List.nodup_nil⟩, fun a ha b hb => by
      rw [List.mem_singleton.1 hb]; exact fun e => h (e ▸ ha)⟩

theorem mem_keys_put {l : List (κ × β)} {k k' : κ} {v : β} : k' ∈ keys (put l k v) ↔ k' = k ∨ k' ∈ keys l := by
  rw [keys_put]
  split
  · rename_i h; exact ⟨Or.inr, fun h' => h'.elim (fun e => e ▸ h) id⟩
  · simp [or_comm]

/-- with distinct keys: the entries after `put` are the new one and the old ones under other keys -/
theorem mem_put {l : List (κ × β)} (hn : (keys l).Nodup) {k : κ} {v : β} {e : κ × β} :
    e ∈ put l k v ↔ e = (k, v) ∨ e ∈ l ∧ e.1 ≠ k := by
  obtain ⟨k', v'⟩ := e
  rw [← get_eq_some (nodup_put hn k v), get_put]
  by_cases h : k' = k
  · subst h; simp [eq_comm]
  · simp [h, get_eq_some hn]

/-! ### `del` -/

theorem get_del (l : List (κ × β)) (k k' : κ) : get (del l k) k' = if k' = k then none else get l k' := by
  induction l with
  | nil => simp [del, get]
  | cons e l ih =>
    obtain ⟨k₀, v₀⟩ := e
    unfold del at ih ⊢
    by_cases h0 : k₀ = k
    · subst h0
      rw [List.filter_cons_of_neg (by simp), ih, get]
      split
      · rfl
      · rename_i h; rw [if_neg fun e => h e.symm]
    · rw [List.filter_cons_of_pos (by simpa using h0), get, get, ih]
      split
      · rename_i h; rw [if_neg fun e => h0 (h.trans e)]
      · rfl

theorem keys_del_sublist (l : List (κ × β)) (k : κ) : (keys (del l k)).Sublist (keys l) :=
  List.Sublist.map _ List.filter_sublist

theorem del_of_not_mem {l : List (κ × β)} {k : κ} (h : k ∉ keys l) : del l k = l :=
  List.filter_eq_self.2 fun e he => by simpa using fun (hk : e.1 = k) => h (hk ▸ List.mem_map.2 ⟨e, he, rfl⟩)

end ASV.Base.AList
