namespace ASV.Sweep

structure Iv where
  lo : Nat
  hi : Nat
deriving Repr, DecidableEq

/-- gap smaller than `c` (c = 0: plain overlap) -/
def reach (c : Nat) (a b : Iv) : Prop := a.lo < b.hi + c ∧ b.lo < a.hi + c

structure Grp where
  hull : Iv
  members : List Iv
deriving Repr

def go (c : Nat) (cur : Grp) : List Iv → List Grp
  | [] => [cur]
  | y :: ys =>
    if y.lo < cur.hull.hi + c then
      go c ⟨⟨cur.hull.lo, max cur.hull.hi y.hi⟩, cur.members ++ [y]⟩ ys
    else cur :: go c ⟨y, [y]⟩ ys

def sweep (c : Nat) : List Iv → List Grp
  | [] => []
  | x :: xs => go c ⟨x, [x]⟩ xs

/-- sorted by lo -/
def Sorted : List Iv → Prop
  | [] => True
  | [_] => True
  | a :: b :: r => a.lo ≤ b.lo ∧ Sorted (b :: r)

theorem Sorted.tail {a : Iv} {l : List Iv} (h : Sorted (a :: l)) : Sorted l := by
  cases l with
  | nil => trivial
  | cons b r => exact h.2

theorem Sorted.head_le {a : Iv} {l : List Iv} (h : Sorted (a :: l)) : ∀ x ∈ l, a.lo ≤ x.lo := by
  induction l generalizing a with
  | nil => intro x hx; cases hx
  | cons b r ih =>
    intro x hx
    cases hx with
    | head => exact h.1
    | tail _ hx' => exact Nat.le_trans h.1 (ih h.2 x hx')

/-- the groups, concatenated, are the input (nothing lost, duplicated or reordered) -/
theorem go_flatten (c : Nat) (cur : Grp) (ys : List Iv) :
    ((go c cur ys).map Grp.members).flatten = cur.members ++ ys := by
  induction ys generalizing cur with
  | nil => simp [go]
  | cons y ys ih =>
    simp only [go]
    split
    · rw [ih]; simp
    · simp [ih]

theorem sweep_flatten (c : Nat) (xs : List Iv) :
    ((sweep c xs).map Grp.members).flatten = xs := by
  cases xs with
  | nil => rfl
  | cons x xs => simp [sweep, go_flatten]

/-- invariant of the group under construction -/
structure GInv (c : Nat) (g : Grp) : Prop where
  ne : g.members ≠ []
  hiMax : ∀ m ∈ g.members, m.hi ≤ g.hull.hi
  hiAtt : ∃ m ∈ g.members, m.hi = g.hull.hi
  loMin : ∀ m ∈ g.members, g.hull.lo ≤ m.lo
  wf : ∀ m ∈ g.members, m.lo < m.hi

/-- the whole of separation: a closed group ends at least `c` before anything later starts.  Needs of the
    running group only that its hull bounds its members' ends. -/
theorem go_apart (c : Nat) (cur : Grp) (ys : List Iv)
    (hmax : ∀ m ∈ cur.members, m.hi ≤ cur.hull.hi) (hsorted : Sorted ys) :
    (go c cur ys).Pairwise fun g g' => ∀ a ∈ g.members, ∀ b ∈ g'.members, a.hi + c ≤ b.lo := by
  induction ys generalizing cur with
  | nil => simp [go]
  | cons y ys ih =>
    simp only [go]
    split
    · refine ih _ ?_ hsorted.tail
      intro m hm
      rcases List.mem_append.1 hm with hm | hm
      · exact Nat.le_trans (hmax m hm) (Nat.le_max_left _ _)
      · rw [List.mem_singleton.1 hm]; exact Nat.le_max_right _ _
    · next hge =>
      refine List.pairwise_cons.2 ⟨?_, ih _ (by simp) hsorted.tail⟩
      intro g' hg' a ha b hb
      -- every member b of a later group is y or comes after y, so b.lo ≥ y.lo ≥ hull.hi + c
      have hb' : b ∈ y :: ys := by
        have : b ∈ ((go c ⟨y, [y]⟩ ys).map Grp.members).flatten :=
          List.mem_flatten.2 ⟨_, List.mem_map_of_mem hg', hb⟩
        simpa [go_flatten] using this
      have hylo : y.lo ≤ b.lo := by
        rcases List.mem_cons.1 hb' with rfl | hb2
        · exact Nat.le_refl _
        · exact hsorted.head_le b hb2
      have := hmax a ha
      omega

/-- no edge between different groups: anything after a closed group is out of reach of
    all its members -/
theorem go_separated (c : Nat) (cur : Grp) (ys : List Iv)
    (hinv : GInv c cur) (hs : ∀ y ∈ ys, cur.hull.lo ≤ y.lo) (hsorted : Sorted ys)
    (hwf : ∀ y ∈ ys, y.lo < y.hi) :
    ∀ gs₁ g gs₂, go c cur ys = gs₁ ++ g :: gs₂ →
      ∀ a ∈ g.members, ∀ g' ∈ gs₂, ∀ b ∈ g'.members, ¬ reach c a b := by
  intro gs₁ g gs₂ h a ha g' hg' b hb hr
  have hp := go_apart c cur ys hinv.hiMax hsorted
  rw [h, List.pairwise_append] at hp
  have := (List.pairwise_cons.1 hp.2.1).1 g' hg' a ha b hb
  have := hr.2
  omega

#print axioms go_separated
#print axioms sweep_flatten
end ASV.Sweep
