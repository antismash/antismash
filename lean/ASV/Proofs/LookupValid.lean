/-
  Which histories of adding calls succeed.  Such a history runs without an
  exception exactly when its calls are pairwise compatible (distinct gene locations and names, non-overlapping
  regions) and every area lies inside the record — a condition that does not depend on the order of the calls.
-/
import ASV.Proofs.LookupOk
namespace ASV.Lookup
open ASV

/-- two calls that do not exclude each other -/
def Compatible : Op → Op → Prop
  | .cds g, .cds h => g.loc ≠ h.loc ∧ g.id ≠ h.id
  | .area a, .area b => a.kind = .region → b.kind = .region → overlapsWith a.loc b.loc = false
  | _, _ => True

theorem Compatible.symm {x y : Op} (h : Compatible x y) : Compatible y x := by
  unfold Compatible
  split
  · exact ⟨fun e => h.1 e.symm, fun e => h.2 e.symm⟩
  · exact fun hb ha => (overlapsWith_comm _ _).trans (h ha hb)
  · trivial

/-- the bounds assertions of the `add_<area>` methods -/
def InBounds (len : Int) : Op → Prop
  | .area a => 0 ≤ a.loc.start ∧ a.loc.end ≤ len
  | _ => True

theorem step_len {S : Prop} {L : Live} {ever : List AreaT} {r r' : Rec} (inv : InvCore S L ever r) {op : Op} (hadd : op.isAdd = true)
    (hop : OpOK op) (h : step r op = .ok r') : r'.len = r.len := by
  cases op with
  | cds g => exact (addCds_eff h).len
  | area a => exact (addArea_eff inv.sorted inv.ok hop.1 h).len
  | _ => simp [Op.isAdd] at hadd

/-- a call succeeds exactly when it is compatible with every earlier call and inside the record -/
theorem step_ok_iff {S : Prop} {seen : List Op} {r : Rec} (hseen : AddsOnly seen)
    (inv : InvCore S (liveAfter seen) (opsAreas seen) r) (op : Op) (hadd : op.isAdd = true) (hop : OpOK op) :
    (∃ r', step r op = .ok r') ↔ (∀ o ∈ seen, Compatible o op) ∧ InBounds r.len op := by
  obtain ⟨hgenes, hregions, _⟩ := adds_state_of_inv hseen inv
  cases op with
  | cds g =>
    have hk : keyExists g.loc = true := by
      obtain ⟨k, hk⟩ := hop.2.2
      simp [keyExists, hk]
    have : (∃ r', step r (.cds g) = .ok r') ↔ ∀ f ∈ r.genes, f.loc ≠ g.loc ∧ f.id ≠ g.id := by
      rw [← inv.dict_free g]
      exact ⟨fun ⟨r', h⟩ => ⟨(addCds_ok_iff.1 h).2.1, (addCds_ok_iff.1 h).2.2.1⟩,
        fun h => ⟨_, addCds_ok_iff.2 ⟨hk, h.1, h.2, rfl⟩⟩⟩
    rw [this]
    refine ⟨fun h => ⟨fun o ho => ?_, trivial⟩, fun h f hf => h.1 _ ((hgenes f).1 hf)⟩
    cases o with
    | cds f => exact h f ((hgenes f).2 ho)
    | _ => trivial
  | area a =>
    -- the regions of the record are the region-class collections among the earlier calls
    have : (a.kind = .region → ∀ x ∈ r.regions, overlapsWith a.loc x.loc = false) ↔ ∀ o ∈ seen, Compatible o (.area a) := by
      constructor
      · intro h o ho
        cases o with
        | area b => exact fun hb hka => (overlapsWith_comm _ _).trans (h hka b ((hregions b).2 ⟨ho, hb⟩))
        | _ => trivial
      · intro h hk x hx
        obtain ⟨hs, hkx⟩ := (hregions x).1 hx
        exact (overlapsWith_comm _ _).trans (h _ hs hkx hk)
    rw [← this]
    constructor
    · rintro ⟨r', h⟩
      exact ⟨(addArea_ok_iff.1 h).2.1, (addArea_ok_iff.1 h).1⟩
    · rintro ⟨h3, hb⟩
      obtain ⟨r', hr', _⟩ := addFound_eff inv.sorted inv.ok a hop.1
      exact ⟨r', addArea_ok_iff.2 ⟨hb, h3, hr'⟩⟩
  | _ => simp [Op.isAdd] at hadd

/-- the calls of a history that runs through, and those of any history that would -/
def Valid (len : Int) (ops : List Op) : Prop := ops.Pairwise Compatible ∧ ∀ op ∈ ops, InBounds len op

theorem AddsOnly.snoc {seen : List Op} {op : Op} (h : AddsOnly seen) (ho : op.isAdd = true) : AddsOnly (seen ++ [op]) := by
  intro o hm
  rcases List.mem_append.1 hm with hm | hm
  · exact h o hm
  · simp only [List.mem_singleton] at hm; subst hm; exact ho

/-- the condition on the calls still to come, given those seen: its first call against the calls seen, the rest
    against the calls seen and the first -/
theorem valid_after_cons (len : Int) (seen : List Op) (op : Op) (ops : List Op) :
    ((∀ o ∈ seen, ∀ p ∈ op :: ops, Compatible o p) ∧ (op :: ops).Pairwise Compatible ∧ ∀ p ∈ op :: ops, InBounds len p) ↔
    ((∀ o ∈ seen, Compatible o op) ∧ InBounds len op) ∧
      (∀ o ∈ seen ++ [op], ∀ p ∈ ops, Compatible o p) ∧ ops.Pairwise Compatible ∧ ∀ p ∈ ops, InBounds len p := by
  simp only [List.forall_mem_cons, List.pairwise_cons, List.forall_mem_append]
  constructor
  · rintro ⟨h1, ⟨h2, h3⟩, h4, h5⟩
    exact ⟨⟨fun o ho => (h1 o ho).1, h4⟩, ⟨fun o ho => (h1 o ho).2, h2, fun _ h => nomatch h⟩, h3, h5⟩
  · rintro ⟨⟨h1, h4⟩, ⟨h6, h2, _⟩, h3, h5⟩
    exact ⟨fun o ho => ⟨h1 o ho, h6 o ho⟩, ⟨h2, h3⟩, h4, h5⟩

theorem foldlM_ok_iff {S : Prop} (len : Int) : ∀ (ops seen : List Op) (r0 : Rec), AddsOnly seen → AddsOnly ops →
    Inv S (liveAfter seen) (opsAreas seen) r0 → r0.len = len → (∀ op ∈ ops, OpOK op) →
    ((∃ r, ops.foldlM step r0 = .ok r) ↔
      (∀ o ∈ seen, ∀ p ∈ ops, Compatible o p) ∧ ops.Pairwise Compatible ∧ ∀ op ∈ ops, InBounds len op)
  | [], seen, r0, _, _, _, _, _ => by simp [pure, Except.pure]
  | op :: ops, seen, r0, hseen, hadd, inv, hlen, hok => by
    have hop := hok op List.mem_cons_self
    have hopadd := hadd op List.mem_cons_self
    have hstep := step_ok_iff hseen inv.core op hopadd hop
    rw [hlen] at hstep
    -- after a successful first call the rest runs from a state that satisfies the invariant again
    have next : ∀ r1, step r0 op = .ok r1 → ((∃ r, ops.foldlM step r1 = .ok r) ↔ _) := fun r1 hs =>
      foldlM_ok_iff len ops (seen ++ [op]) r1 (hseen.snoc hopadd) (fun o ho => hadd o (List.mem_cons_of_mem _ ho))
        (by rw [liveAfter_append, opsAreas_append]; exact inv.step op hop hs)
        (by rw [step_len inv.core hopadd hop hs, hlen]) (fun o ho => hok o (List.mem_cons_of_mem _ ho))
    rw [valid_after_cons, ← hstep]
    simp only [Base.foldlM_cons_eq_ok]
    exact ⟨fun ⟨r, r1, hs, hr⟩ => ⟨⟨r1, hs⟩, (next r1 hs).1 ⟨r, hr⟩⟩,
      fun ⟨⟨r1, hs⟩, hq⟩ => ((next r1 hs).2 hq).imp fun r hr => ⟨r1, hs, hr⟩⟩

theorem Valid.perm {len : Int} {ops₁ ops₂ : List Op} (hp : ops₁.Perm ops₂) (h : Valid len ops₁) : Valid len ops₂ :=
  ⟨(hp.pairwise_iff (fun h => Compatible.symm h)).1 h.1, fun op hop => h.2 op (hp.mem_iff.2 hop)⟩

end ASV.Lookup
