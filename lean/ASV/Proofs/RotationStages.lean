/-
  C07 helper lemmas: the relations the detection stages are built on ("closer than the cutoff",
  "share a base") do not change when every location is re-indexed by the same rotation, and a
  partition into chains / connected components is transported by any map that keeps the relation.
-/
import ASV.Proofs.Rotation
import ASV.Proofs.Components
import ASV.Proofs.RegionsComponents
namespace ASV

theorem sharesPts_rot {L k : Int} {a b a' b' : Loc} (hL : 0 < L) (ha : a.OK L) (hb : b.OK L)
    (ra : IsRot L k a a') (rb : IsRot L k b b') : sharesPts a' b' = sharesPts a b := by
  rw [Bool.eq_iff_iff, sharesPts_iff, sharesPts_iff]
  exact (SharesBase_rot hL ha hb ra rb).symm

theorem locationsOverlap_rot {L k : Int} {a b a' b' : Loc} (hL : 0 < L) (ha : a.OK L) (hb : b.OK L)
    (ha' : a'.OK L) (hb' : b'.OK L) (ra : IsRot L k a a') (rb : IsRot L k b b') :
    locationsOverlap a' b' = locationsOverlap a b := by
  rw [← sharesPts_eq_overlap a b ha.nonEmpty hb.nonEmpty, ← sharesPts_eq_overlap a' b' ha'.nonEmpty hb'.nonEmpty]
  exact sharesPts_rot hL ha hb ra rb

theorem specDistFull_rot {L k : Int} {a b a' b' : Loc} (hL : 0 < L) (ha : a.OK L) (hb : b.OK L)
    (ha' : a'.OK L) (hb' : b'.OK L) (ra : IsRot L k a a') (rb : IsRot L k b b') :
    specDistFull L a' b' = specDistFull L a b := by
  rw [← getDistance_eq_specFull a b L ha hb, ← getDistance_eq_specFull a' b' L ha' hb']
  exact (getDistance_isDist a' b' L ha' hb').unique (IsDist_rot hL ha hb ra rb (getDistance_isDist a b L ha hb))

theorem perm_filter_map_map {α β : Type} (fg : α → α) (loc : α → β) (f : β → β) (P : α → Bool) {l l' : List α}
    (hperm : l'.Perm (l.map fg)) (hP : ∀ a, P (fg a) = P a) (hloc : ∀ a, loc (fg a) = f (loc a)) :
    ((l'.filter P).map loc).Perm (((l.filter P).map loc).map f) := by
  refine ((hperm.filter P).map loc).trans (List.Perm.of_eq ?_)
  simp only [List.filter_map, List.map_map, Function.comp_def, hP, hloc]

namespace Chains

/-- the chain relation of C03's spec ("the two genes, as spans, share a base or have fewer than `c`
    bases strictly between them, the shorter way round") is the same before and after the rotation -/
theorem nearB_rot {L k c : Int} {a b a' b' : Loc} (hL : 0 < L)
    (ha : (spanLoc L a).OK L) (hb : (spanLoc L b).OK L) (ha' : (spanLoc L a').OK L) (hb' : (spanLoc L b').OK L)
    (ra : IsRot L k (spanLoc L a) (spanLoc L a')) (rb : IsRot L k (spanLoc L b) (spanLoc L b')) :
    nearB L c a' b' = nearB L c a b := by
  simp only [nearB, sharesPts_rot hL ha hb ra rb, specDistFull_rot hL ha hb ha' hb' ra rb]

theorem IsChainPartition.images_of_rot {γ : Type} (loc : γ → Loc) {L k c : Int} (hL : 0 < L) (f : γ → γ)
    {xs xs' : List γ} {G G' : List (List γ)}
    (h : IsChainPartition (fun x y => nearB L c (loc x) (loc y) = true) xs G)
    (h' : IsChainPartition (fun x y => nearB L c (loc x) (loc y) = true) xs' G')
    (hperm : xs'.Perm (xs.map f))
    (hok : ∀ x ∈ xs, (spanLoc L (loc x)).OK L ∧ (spanLoc L (loc (f x))).OK L)
    (hrot : ∀ x ∈ xs, IsRot L k (spanLoc L (loc x)) (spanLoc L (loc (f x)))) :
    (∀ g ∈ G, ∃ g' ∈ G', ∀ y, y ∈ g' ↔ ∃ x ∈ g, f x = y) ∧
    (∀ g' ∈ G', ∃ g ∈ G, ∀ y, y ∈ g' ↔ ∃ x ∈ g, f x = y) :=
  h.images f h' hperm fun a ha b hb => by
    rw [nearB_rot hL (hok a ha).1 (hok b hb).1 (hok a ha).2 (hok b hb).2 (hrot a ha) (hrot b hb)]

end Chains

namespace Components

theorem IsComponents.map (f : Area → Area) {areas : List Area} {G : List (List Area)} (h : IsComponents areas G)
    (hrel : ∀ a ∈ areas, ∀ b ∈ areas, ((f a).2.SharesBase (f b).2 ↔ a.2.SharesBase b.2)) :
    IsComponents (areas.map f) (G.map (·.map f)) :=
  isComponents_iff.2 ((isComponents_iff.1 h).map f hrel)

theorem mem_map_fst_of_images {ι β : Type} (f : ι × β → ι × β) (hid : ∀ a, (f a).1 = a.1) {A A' : List (ι × β)}
    (h : ∀ y, y ∈ A' ↔ ∃ x ∈ A, f x = y) (i : ι) : i ∈ A'.map Prod.fst ↔ i ∈ A.map Prod.fst := by
  simp only [List.mem_map]
  constructor
  · rintro ⟨y, hy, rfl⟩
    obtain ⟨x, hx, rfl⟩ := (h y).1 hy
    exact ⟨x, hx, (hid x).symm⟩
  · rintro ⟨x, hx, rfl⟩
    exact ⟨f x, (h _).2 ⟨x, hx, rfl⟩, hid x⟩

/-- connected components are unique: two families that are `IsComponents` of the same areas have the
    same groups (as sets of members) -/
theorem IsComponents.unique {areas : List Area} {G G' : List (List Area)} (h : IsComponents areas G)
    (h' : IsComponents areas G') : ∀ g ∈ G, ∃ g' ∈ G', ∀ x, x ∈ g ↔ x ∈ g' :=
  Chains.chain_partition_unique (isComponents_iff.1 h) (isComponents_iff.1 h')

/-- the counterpart of `IsChainPartition.images` for connected components -/
theorem IsComponents.images (f : Area → Area) {areas areas' : List Area} {G G' : List (List Area)}
    (h : IsComponents areas G) (h' : IsComponents areas' G') (hperm : areas'.Perm (areas.map f))
    (hrel : ∀ a ∈ areas, ∀ b ∈ areas, ((f a).2.SharesBase (f b).2 ↔ a.2.SharesBase b.2)) :
    ∀ g ∈ G, ∃ g' ∈ G', ∀ y, y ∈ g' ↔ ∃ x ∈ g, f x = y :=
  ((isComponents_iff.1 h).images f (isComponents_iff.1 h') hperm hrel).1

end Components
end ASV
