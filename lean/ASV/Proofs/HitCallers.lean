/-
  Helper lemmas for C13: the callers (`find_hmmer_hits`, `run_hmmer`, `find_domains`, `find_subtypes`,
  `refine_hmmscan_results` on a whole record) over the filters of the other modules.
-/
import ASV.Proofs.HitFilterEquiv
import ASV.Proofs.HitFilterMultiple
import ASV.Proofs.RefineOverlap
import ASV.Model.HitCallers
namespace ASV.HitCallers
open ASV.Refine ASV.HitFilter

/-- with distinct hits and no score ties, "earliest best of its profile" is "the best of its profile" -/
theorem firstBest_iff_of_noTies {hits : List FHit} (hd : hits.Nodup) (hn : NoTies hits) (x : FHit) :
    (∃ l1 l2, FirstBest hits l1 x l2) ↔
      x ∈ hits ∧ -10 < x.sc ∧ ∀ g ∈ hits, g.prof = x.prof → g ≠ x → g.sc < x.sc := by
  constructor
  · rintro ⟨l1, l2, e, hpos, h1, h2⟩
    have hx : x ∈ hits := by rw [e]; simp
    refine ⟨hx, hpos, ?_⟩
    intro g hg hp hne
    rw [e] at hg
    rcases List.mem_append.mp hg with h | h
    · exact h1 g h hp
    · rcases List.mem_cons.mp h with rfl | h
      · exact absurd rfl hne
      · have hle := h2 g h hp
        have : g.sc ≠ x.sc := fun es => hne (hn g (by rw [e]; simp [h]) x hx es)
        omega
  · rintro ⟨hx, hpos, hall⟩
    obtain ⟨l1, l2, e⟩ := List.append_of_mem hx
    have hnd := hd
    rw [e] at hnd
    have hx1 : x ∉ l1 := fun h => (List.nodup_append.mp hnd).2.2 x h x (by simp) rfl
    have hx2 : x ∉ l2 := (List.nodup_cons.mp (List.nodup_append.mp hnd).2.1).1
    refine ⟨l1, l2, e, hpos, ?_, ?_⟩
    · intro g hg hp
      exact hall g (by rw [e]; simp [hg]) hp (fun h => hx1 (h ▸ hg))
    · intro g hg hp
      have := hall g (by rw [e]; simp [hg]) hp (fun h => hx2 (h ▸ hg))
      omega

theorem filterMultiple_prof_nodup (hits : List FHit) : ((filterMultiple hits).map (·.prof)).Nodup := by
  have inv := scanMultiple_inv_all hits
  have hperm : ((filterMultiple hits).map (·.prof)).Perm ((scanMultiple [] 0 hits).map (·.1)) := by
    simp only [filterMultiple, List.map_map]
    have h1 := (sortBy_perm (fun (a b : Nat × FHit) => decide (a.1 ≤ b.1)) ((scanMultiple [] 0 hits).map (·.2))).map
      (fun e => e.2.prof)
    refine h1.trans ?_
    rw [List.map_map]
    apply List.Perm.of_eq
    apply List.map_congr_left
    intro e he
    obtain ⟨_, _, _, _, hp⟩ := inv.sound e he
    exact hp
  exact hperm.nodup_iff.mpr inv.keys

theorem filterMultiple_nodup (hits : List FHit) : (filterMultiple hits).Nodup := by
  have := filterMultiple_prof_nodup hits
  rw [List.Nodup, List.pairwise_map] at this
  exact this.imp (fun hne e => hne (by rw [e]))

theorem filterMultiple_perm {l₁ l₂ : List FHit} (h : l₁.Perm l₂) (hd : l₁.Nodup) (hn : NoTies l₁) :
    (filterMultiple l₁).Perm (filterMultiple l₂) := by
  have hd2 : l₂.Nodup := h.nodup_iff.mp hd
  have hn2 : NoTies l₂ := fun a ha b hb => hn a (h.mem_iff.mpr ha) b (h.mem_iff.mpr hb)
  rw [List.perm_ext_iff_of_nodup (filterMultiple_nodup l₁) (filterMultiple_nodup l₂)]
  intro x
  rw [mem_filterMultiple, mem_filterMultiple, firstBest_iff_of_noTies hd hn, firstBest_iff_of_noTies hd2 hn2]
  constructor
  · rintro ⟨hx, hp, hall⟩
    exact ⟨h.mem_iff.mp hx, hp, fun g hg => hall g (h.mem_iff.mpr hg)⟩
  · rintro ⟨hx, hp, hall⟩
    exact ⟨h.mem_iff.mpr hx, hp, fun g hg => hall g (h.mem_iff.mp hg)⟩

theorem findHmmerHitsGene_eq (cut : Int → Int) (eqs : List (List Int)) (raw : List FHit) (hu : UidNodup raw) :
    findHmmerHitsGene cut eqs raw =
      some (sortBy leHs (filterMultiple (eqs.foldl filterPass (raw.filter (aboveCutoff cut))))) := by
  simp only [findHmmerHitsGene, filterResults_eq_some eqs _ (hu.sublist List.filter_sublist)]

/-- a hit that competes with no hit of the gene survives every competition: its overlapping group is itself -/
theorem foldl_filterPass_keeps_uncontested (eqs : List (List Int)) (hits : List FHit) (hu : UidNodup hits)
    (h : FHit) (hh : h ∈ hits) (hno : ∀ o ∈ hits, competes h o = false) : h ∈ eqs.foldl filterPass hits := by
  refine foldl_filterPass_keeps eqs hits hu h hh fun o _ hl => ?_
  have : o = h := by
    cases hl with
    | refl _ => rfl
    | step _ hb hc _ => rw [hno _ hb] at hc; exact absurd hc (by simp)
  subst this
  rw [prefers_false_iff]
  exact ⟨by omega, Or.inr fun hs => by simpa using hu.nodup.sublist hs⟩

/-- every hit that survives the competition (and scores above −1) has its profile represented in
    what `find_hmmer_hits` returns for the gene, by a hit scoring at least as high -/
theorem findHmmerHitsGene_represents_survivors (cut : Int → Int) (eqs : List (List Int)) (raw : List FHit)
    (hu : UidNodup raw) : ∃ out, findHmmerHitsGene cut eqs raw = some out ∧
      ∀ h ∈ eqs.foldl filterPass (raw.filter (aboveCutoff cut)), -10 < h.sc →
        ∃ x ∈ out, x.prof = h.prof ∧ h.sc ≤ x.sc := by
  refine ⟨_, findHmmerHitsGene_eq cut eqs raw hu, ?_⟩
  intro h hh hs
  obtain ⟨x, hx, hp, hsc⟩ := filterMultiple_represents _ h hh hs
  exact ⟨x, (mem_sortBy _).mpr hx, hp, hsc⟩

theorem runHmmer_foldl_ok (cut : Int → Option Int) (minScore maxEvalue : Int) (raw : List (Int × RawHmm))
    (outOf : Int → List HHit) : ∀ (loci : List Int) (acc : List (Int × HHit)),
    (∀ g ∈ loci, runHmmerGene cut minScore maxEvalue ((raw.filter fun r => r.1 == g).map (·.2)) = .ok (outOf g)) →
    loci.foldl (runHmmerStep cut minScore maxEvalue raw) (Except.ok acc : Except HErr (List (Int × HHit))) =
      .ok (acc ++ loci.flatMap fun g => (outOf g).map fun h => (g, h))
  | [], acc, _ => by simp
  | g :: loci, acc, h => by
    simp only [List.foldl_cons, runHmmerStep, h g (by simp), List.flatMap_cons]
    rw [runHmmer_foldl_ok cut minScore maxEvalue raw outOf loci _ (fun g' hg' => h g' (List.mem_cons_of_mem _ hg'))]
    simp

theorem findDomainsGene_same_set (env : Env) (L : Int) {r₁ r₂ : List Hit} (h : ∀ x, x ∈ r₁ ↔ x ∈ r₂) :
    findDomainsGene env L r₁ = findDomainsGene env L r₂ := by
  simp only [findDomainsGene, refine_eq_of_same_set env true h]

theorem findDomainsGene_keeps (env : Env) (L : Int) (raw : List Hit) (x : Hit) (hx : x ∈ raw)
    (hcx : complete env x = true) (hnd : env.dock x.prof = false)
    (hun : ∀ k ∈ raw, k ≠ x → x.sc ≤ k.sc → collide env k x = false) :
    ∃ m ∈ findDomainsGene env L raw, Covers m x := by
  obtain ⟨m, hm, hc⟩ := refine_neighbour_keeps env raw x hx hcx hun
  refine ⟨m, ?_, hc⟩
  simp only [findDomainsGene, dockingFilter, List.mem_filter]
  refine ⟨hm, ?_⟩
  simp [dockKeep, hc.prof, hnd]

theorem subtypeHits_keeps (env : Env) (strip : Int → Int) (raw : List Hit) (d x : Hit) (hx : x ∈ raw)
    (hcx : complete env x = true) (hov : overlapsWith x d = true)
    (hun : ∀ k ∈ raw, k ≠ x → x.sc ≤ k.sc → collide env k x = false) :
    ∃ m, Covers m x ∧ ({ m with prof := strip m.prof } : Hit) ∈ subtypeHits env strip raw d := by
  obtain ⟨m, hm, hc⟩ := refine_neighbour_keeps env raw x hx hcx hun
  refine ⟨m, hc, ?_⟩
  simp only [subtypeHits, List.mem_map, List.mem_filter]
  refine ⟨m, ⟨hm, ?_⟩, rfl⟩
  simp only [overlapsWith, Bool.and_eq_true, decide_eq_true_eq] at hov ⊢
  have h1 := hc.lo
  have h2 := hc.hi
  omega

theorem refine_nil (env : Env) (nb : Bool) : refine env nb [] = [] :=
  List.eq_nil_iff_forall_not_mem.mpr fun o ho =>
    have ⟨_, hf, _⟩ := beforeIncomplete_prof env nb [] o ((removeIncomplete_sublist env _).subset ho)
    absurd hf List.not_mem_nil

/-- looking a key up in a dict built key by key, entries with an empty value left out -/
theorem lookup_filterMap (f : List Hit → List Hit) (hitsOf : Int → List Hit) (g : Int) : ∀ ks : List Int,
    lookupGene ((ks.map fun k => (k, hitsOf k)).filterMap fun e =>
        let refined := f e.2
        if refined.isEmpty then none else some (e.1, refined)) g =
      if g ∈ ks then f (hitsOf g) else []
  | [] => rfl
  | k :: ks => by
    have ih := lookup_filterMap f hitsOf g ks
    simp only [List.map_cons, List.filterMap_cons, List.mem_cons]
    by_cases hk : k = g
    · subst hk
      simp only [true_or, if_true]
      by_cases he : (f (hitsOf k)).isEmpty = true
      · simp only [he, if_true]
        rw [ih, List.isEmpty_iff.mp he, ite_self]
      · simp only [he, Bool.false_eq_true, if_false, lookupGene, List.find?_cons, beq_self_eq_true]
    · have hgk : ¬ g = k := fun e => hk e.symm
      simp only [hgk, false_or]
      rw [← ih]
      by_cases he : (f (hitsOf k)).isEmpty = true
      · simp only [he, if_true]
      · simp only [he, Bool.false_eq_true, if_false, lookupGene, List.find?_cons, beq_eq_false_iff_ne.mpr hk]

/-- the entry of a gene in the result of `refine_hmmscan_results` is the refinement of that gene's
    own hits — whatever else is in the hmmscan output and however the genes are interleaved -/
theorem refineRecord_lookup (env : Env) (nb : Bool) (raw : List (Int × Hit)) (g : Int) :
    lookupGene (refineRecord env nb raw) g = refine env nb ((raw.filter fun r => r.1 == g).map (·.2)) := by
  unfold refineRecord gatherByQuery
  rw [lookup_filterMap (refine env nb) (fun g => (raw.filter fun r => r.1 == g).map (·.2)) g]
  split
  · rfl
  · rename_i hg
    rw [mem_firstOcc] at hg
    have : (raw.filter fun r => r.1 == g) = [] := by
      rw [List.filter_eq_nil_iff]
      intro r hr hk
      apply hg
      exact List.mem_map.mpr ⟨r, hr, by simpa using hk⟩
    rw [this]
    simp [refine_nil]

end ASV.HitCallers
