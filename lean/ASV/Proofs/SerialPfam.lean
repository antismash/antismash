/-
  C10: a `PFAMDomain` feature read back from its Biopython form — the `Domain` layers (`Proofs/SerialDom.lean`)
  composed with the Pfam qualifiers (`Proofs/SerialQual.lean`).  The gene ontology ids that stay behind in
  `db_xref` become a free qualifier of the re-read feature; the statement says so explicitly.
-/
import ASV.Proofs.SerialDom
import ASV.Proofs.SerialQual
namespace ASV.Serial
open ASV

/-- the three qualifiers `PFAMDomain` writes itself -/
def pfamOwn : List String := ["description", "db_xref", "gene_ontologies"]
/-- … together with those of the `Domain` layers below it -/
def pfamKeys : List String := domKeys ++ pfamOwn

theorem nodup_xquals (x : PfamX) : Q.Nodup x.quals := by
  unfold PfamX.quals
  cases x.go <;> simp [Q.Nodup, Q.keys]

theorem get?_xquals_other (x : PfamX) (k : String) (h : k ∉ pfamOwn) : Q.get? x.quals k = none := by
  simp only [pfamOwn, List.mem_cons, List.mem_nil_iff, or_false, not_or] at h
  unfold PfamX.quals
  have h1 : ¬ "description" = k := fun e => h.1 e.symm
  have h2 : ¬ "db_xref" = k := fun e => h.2.1 e.symm
  have h3 : ¬ "gene_ontologies" = k := fun e => h.2.2 e.symm
  cases x.go <;> simp [Q.get?, h1, h2, h3]

theorem get?_pfam_mine (p : Pfam) (k : String) :
    Q.get? p.mine k = match Q.get? p.x.quals k with | some v => some v | none => Q.get? p.dom.mine k := by
  unfold Pfam.mine
  rw [Q.get?_update _ _ (Q.nodup_update (nodup_mineDomain p.dom) _), Q.get?_update _ _ (nodup_xquals p.x),
    Dom.mine_eq, Q.get?_update _ _ (nodup_mineDomain p.dom)]
  cases Q.get? p.x.quals k <;> rfl

theorem nodup_pfam_mine (p : Pfam) : Q.Nodup p.mine :=
  Q.nodup_update (nodup_mineAF p.dom) _

theorem PfamX.read_congr (q q' : Quals) (h : ∀ k ∈ pfamOwn, Q.get? q k = Q.get? q' k) : PfamX.read q = PfamX.read q' := by
  unfold PfamX.read
  rw [h "description" (by simp [pfamOwn]), h "db_xref" (by simp [pfamOwn]), h "gene_ontologies" (by simp [pfamOwn])]

/-- `Dom.WF` for the `Domain` layers, `PfamX.wf` for the Pfam data, free qualifiers that use none of the three Pfam keys -/
structure Pfam.WF (p : Pfam) : Prop where
  dom : p.dom.WF .pfam
  x : p.x.wf = true
  reserved : ∀ k ∈ pfamOwn, Q.get? p.dom.feat.quals k = none

theorem mem_pfamKeys (k : String) : k ∈ pfamKeys ↔ k ∈ domKeys ∨ k ∈ pfamOwn := by simp [pfamKeys]

theorem domKeys_not_own (k : String) (h : k ∈ domKeys) : k ∉ pfamOwn :=
  (by decide +kernel : ∀ k ∈ domKeys, k ∉ pfamOwn) k h

/-- the reader rewrites `db_xref` to the ids it does not take, leaves it among the leftovers and then runs the `Domain` reader -/
theorem pfamClass : ClassDesc (ok := Pfam.WF) (type := DomKind.pfam.type) (keys := pfamKeys) (stay := ["db_xref"]) (by0 := true)
    (feat := (·.dom.feat)) (own := Pfam.mine)
    (left := fun p W => domLeft (Q.set (Q.erase (Q.erase W "description") "gene_ontologies") "db_xref" p.x.leftXref))
    (rebuild := fun p f => ⟨{ p.dom with feat := f }, { p.x with go := p.x.go.map sortGo }⟩) (read := Pfam.fromBio) where
  base := fun _ h => ⟨h.dom.feat, h.dom.byAS, h.dom.codon, h.dom.type,
    fun k hk => ((mem_pfamKeys k).1 hk).elim (h.dom.reserved k) (h.reserved k)⟩
  base_keys := by simp [pfamKeys, domKeys, pfamOwn]
  stay_sub := by simp [pfamKeys, pfamOwn]
  own_nodup := nodup_pfam_mine
  own_keys := fun p h k hk => by
    rw [mem_pfamKeys, not_or] at hk
    rw [get?_pfam_mine, get?_xquals_other p.x k hk.2]
    exact get?_mine_other p.dom h.dom.byAS k hk.1
  left_nodup := fun _ _ h => nodup_domLeft (Q.nodup_set (Q.nodup_erase (Q.nodup_erase h _) _) _ _)
  left_get := fun p W _ k hk => by
    rw [get?_domLeft, Q.get?_set, Q.get?_erase, Q.get?_erase]
    simp only [List.mem_singleton] at hk
    simp only [pfamKeys, pfamOwn, List.mem_append, List.mem_cons, List.mem_nil_iff, or_false, hk, false_or, if_false]
    by_cases a1 : k ∈ domKeys <;> by_cases a2 : k = "gene_ontologies" <;> by_cases a3 : k = "description" <;> simp [a1, a2, a3]
  read_written := fun p h W _ hW _ => by
    have hread : PfamX.read W = PfamX.read p.x.quals := by
      apply PfamX.read_congr
      intro k hk
      rw [hW k ((mem_pfamKeys k).2 (Or.inr hk)), get?_pfam_mine]
      cases hq : Q.get? p.x.quals k with
      | some v => rfl
      | none =>
        -- the Domain layers write none of the three keys
        simp only
        rw [get?_mine p.dom h.dom.byAS]
        simp only [pfamOwn, List.mem_cons, List.mem_nil_iff, or_false] at hk
        rcases hk with e | e | e <;> subst e <;> simp
    -- what the Domain layers get to see
    have hlook : ∀ k ∈ domKeys, Q.get? (Q.set (Q.erase (Q.erase W "description") "gene_ontologies") "db_xref" p.x.leftXref) k
        = Q.get? p.dom.mine k := by
      intro k hk
      have hno := domKeys_not_own k hk
      simp only [pfamOwn, List.mem_cons, List.mem_nil_iff, or_false, not_or] at hno
      simp only [Q.get?_set, Q.get?_erase, hno.1, hno.2.1, hno.2.2, if_false]
      rw [hW k ((mem_pfamKeys k).2 (Or.inl hk)), get?_pfam_mine, get?_xquals_other p.x k (domKeys_not_own k hk)]
    unfold Pfam.fromBio
    simp only [hread, pfam_read_quals p.x h.x, bind, Except.bind]
    rw [domFromBio_spec .pfam p.dom h.dom _ _ hlook]
    cases applyLeftovers _ _ <;> rfl

theorem pfam_roundtrip (t : Bool) (p : Pfam) (h : p.WF) (b : Bio) (hb : p.toBio = .ok b) :
    ∃ p', Pfam.fromBio b = .ok p' ∧ p'.x = { p.x with go := p.x.go.map sortGo } ∧ p'.dom = { p.dom with feat := p'.dom.feat } ∧
      Q.get? p'.dom.feat.quals "db_xref" = some p.x.leftXref ∧
      ({ p'.dom.feat with quals := Q.erase p'.dom.feat.quals "db_xref" } : Feat).view t = p.dom.feat.view t ∧
      p'.dom.feat.loc = p.dom.feat.loc := by
  obtain ⟨-, hr, R⟩ := pfamClass.roundtrip t p h b hb
  have hxref : Q.get? (domLeft (Q.set (Q.erase (Q.erase b.quals "description") "gene_ontologies") "db_xref" p.x.leftXref)) "db_xref"
      = some p.x.leftXref := by
    rw [get?_domLeft, Q.get?_set]; simp [domKeys]
  generalize domLeft _ = L at hr R hxref
  exact ⟨_, hr, rfl, rfl, hxref, R.view, rfl⟩

end ASV.Serial
