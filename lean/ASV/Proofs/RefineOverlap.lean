/-
  Helper lemmas for C13: the overlap pass (`_remove_overlapping`, fix D61) as a greedy selection — no two kept
  results collide, every dropped result collides with a kept one that outranks it — and, with the merge stages,
  the 20 % rule and the account of every missing hit for `refine`.
-/
import ASV.Proofs.RefineMerge
namespace ASV.Refine

/-- one margin `m5` (fifths of a residue) for every pair -/
def ClearBy (m5 : Int) (a b : Hit) : Prop := 5 * a.qe - m5 ≤ 5 * b.qs

theorem allStartClearBy_iff (m5 : Int) (l : List Hit) : allStartClearBy m5 l = true ↔ l.Pairwise (ClearBy m5) := by
  simp only [allStartClearBy, pairwiseB_iff, decide_eq_true_eq]
  exact Iff.rfl

theorem conflict_eq (env : Env) (p r : Hit) : conflict env p r = !startsClear env p r := by
  simp only [conflict, startsClear, margin5]
  rw [Int.max_comm (env.len r.prof)]
  by_cases h : 5 * r.qs < 5 * p.qe - max (env.len p.prof) (env.len r.prof)
  · have h' : ¬ (5 * p.qe - max (env.len p.prof) (env.len r.prof) ≤ 5 * r.qs) := by omega
    simp [h, h']
  · have h' : 5 * p.qe - max (env.len p.prof) (env.len r.prof) ≤ 5 * r.qs := by omega
    simp [h, h']

/-- the earlier-indexed of the two does not collide with the later one -/
def Apart (env : Env) (x y : Nat × Hit) : Prop :=
  (x.1 < y.1 → conflict env x.2 y.2 = false) ∧ (y.1 < x.1 → conflict env y.2 x.2 = false)

theorem Apart.symm {env : Env} {x y : Nat × Hit} (h : Apart env x y) : Apart env y x := ⟨h.2, h.1⟩

theorem apart_of_not_clash {env : Env} {x k : Nat × Hit} (h : clashIdx env x k = false) : Apart env k x := by
  simp only [clashIdx] at h
  constructor
  · intro hlt
    have : ¬ x.1 ≤ k.1 := by omega
    simpa [this] using h
  · intro hlt
    have : x.1 ≤ k.1 := by omega
    simpa [this] using h

theorem keepBest_apart (env : Env) (l : List (Nat × Hit)) : (keepBest env [] l).Pairwise (Apart env) := by
  rw [keepBest_eq_greedy]
  exact greedy_pairwise (fun _ _ h => apart_of_not_clash h) [] l .nil

theorem keptIdx_no_conflict (env : Env) (l : List Hit) :
    (keptIdx env l).Pairwise (fun a b => conflict env a.2 b.2 = false) := by
  have h1 : (keptIdx env l).Pairwise (Apart env) := by
    rw [keptIdx, List.Perm.pairwise_iff (fun {x y} h => Apart.symm h) (sortBy_perm leIdx _)]
    exact keepBest_apart env _
  exact ((keptIdx_idx_lt env l).and h1).imp (fun h => h.2.1 h.1)

/-- in the order they are returned, no result collides with a later one (any input) -/
theorem removeOverlapping_no_conflict (env : Env) (l : List Hit) :
    (removeOverlapping env l).Pairwise (fun a b => startsClear env a b = true) := by
  rw [removeOverlapping_eq, List.pairwise_map]
  exact (keptIdx_no_conflict env l).imp (fun h => by rwa [conflict_eq, Bool.not_eq_eq_eq_not, Bool.not_false] at h)

theorem withinMargin_of_startsClear (env : Env) (a b : Hit) (h : startsClear env a b = true) :
    withinMargin env a b = true := by
  simp only [startsClear, decide_eq_true_eq] at h
  simp only [withinMargin, decide_eq_true_eq]
  simp only [overlapLen]
  omega

theorem keepBest_justified (env : Env) (l : List (Nat × Hit)) (hl : l.Pairwise (fun a b => rankBefore a b = true)) :
    ∀ d ∈ l, d ∈ keepBest env [] l ∨ ∃ k ∈ keepBest env [] l, clashIdx env d k = true ∧ rankBefore k d = true := by
  intro d hd
  rw [keepBest_eq_greedy]
  rcases greedy_justified [] l hl d hd with h | ⟨k, hk, hc, hr⟩
  · exact Or.inl h
  · exact Or.inr ⟨k, hk, hc, hr.resolve_left List.not_mem_nil⟩

/-- index form: the result at position `j` is kept, or a kept result at another position collides
    with it and has the higher score — or the same score and the earlier position -/
theorem keptIdx_justified (env : Env) (l : List Hit) : ∀ x ∈ enumFrom 0 l,
    x ∈ keptIdx env l ∨ ∃ k ∈ keptIdx env l, clashIdx env x k = true ∧
      (x.2.sc < k.2.sc ∨ (k.2.sc = x.2.sc ∧ k.1 < x.1)) := by
  intro x hx
  have hsorted := sortBy_pairwise rankBefore_total rankBefore_trans (enumFrom 0 l)
  rcases keepBest_justified env _ hsorted x ((mem_sortBy _).mpr hx) with h | ⟨k, hk, hc, hr⟩
  · exact Or.inl ((mem_sortBy _).mpr h)
  · by_cases hkx : x ∈ keepBest env [] (sortBy rankBefore (enumFrom 0 l))
    · exact Or.inl ((mem_sortBy _).mpr hkx)
    · refine Or.inr ⟨k, (mem_sortBy _).mpr hk, hc, ?_⟩
      have hk_enum : k ∈ enumFrom 0 l := mem_keptIdx ((mem_sortBy _).mpr hk)
      -- different entries of the enumeration have different indices
      have hne : k.1 ≠ x.1 := by
        intro e
        have h1 := (mem_enumFrom_iff.mp hk_enum).2
        have h2 := (mem_enumFrom_iff.mp hx).2
        rw [e, h2] at h1
        simp only [Option.some.injEq] at h1
        exact hkx (by rw [show x = k from Prod.ext e.symm h1]; exact hk)
      simp only [rankBefore, decide_eq_true_eq] at hr
      omega

theorem sorted_getElem? {l : List Hit} (hs : Sorted l) {i j : Nat} {a b : Hit} (hij : i < j)
    (ha : l[i]? = some a) (hb : l[j]? = some b) : a.qs ≤ b.qs := by
  obtain ⟨hi, rfl⟩ := List.getElem?_eq_some_iff.mp ha
  obtain ⟨hj, rfl⟩ := List.getElem?_eq_some_iff.mp hb
  exact (List.pairwise_iff_getElem.mp hs) i j hi hj hij

theorem collide_of_clashIdx (env : Env) {l : List Hit} (hs : Sorted l) {x k : Nat × Hit}
    (hx : x ∈ enumFrom 0 l) (hk : k ∈ enumFrom 0 l) (hne : k.1 ≠ x.1) (hc : clashIdx env x k = true) :
    collide env k.2 x.2 = true := by
  have hx' := mem_enumFrom_zero.mp hx
  have hk' := mem_enumFrom_zero.mp hk
  simp only [clashIdx] at hc
  simp only [collide]
  by_cases hle : x.1 ≤ k.1
  · -- `x` comes first
    simp only [hle, if_true] at hc
    have hq : x.2.qs ≤ k.2.qs := sorted_getElem? hs (by omega) hx' hk'
    rw [conflict_eq] at hc
    have hc' : startsClear env x.2 k.2 = false := by simpa using hc
    by_cases hq2 : k.2.qs ≤ x.2.qs
    · have : k.2.qs = x.2.qs := by omega
      simp [hq2, this, hc']
    · simp [hq2, hc']
  · simp only [hle, if_false] at hc
    have hq : k.2.qs ≤ x.2.qs := sorted_getElem? hs (by omega) hk' hx'
    rw [conflict_eq] at hc
    have hc' : startsClear env k.2 x.2 = false := by simpa using hc
    simp [hq, hc']

/-- the overlap pass on *any* list (no position order assumed): a result missing from the output
    collides — earlier list position first — with a returned one that outranks it -/
theorem removeOverlapping_justified_any (env : Env) (l : List Hit) (j : Nat) (d : Hit) (hj : l[j]? = some d) :
    d ∈ removeOverlapping env l ∨
      ∃ i k, l[i]? = some k ∧ k ∈ removeOverlapping env l ∧ i ≠ j ∧
        (if j ≤ i then conflict env d k else conflict env k d) = true ∧
        (d.sc < k.sc ∨ (k.sc = d.sc ∧ i < j)) := by
  have hx : (j, d) ∈ enumFrom 0 l := mem_enumFrom_zero.mpr hj
  rcases keptIdx_justified env l (j, d) hx with h | ⟨k, hk, hc, hr⟩
  · left
    rw [removeOverlapping_eq]
    exact List.mem_map.mpr ⟨(j, d), h, rfl⟩
  · right
    have hk' := mem_enumFrom_zero.mp (mem_keptIdx hk)
    have hne : k.1 ≠ j := by
      intro e
      rcases hr with hr | hr
      · rw [e, hj] at hk'
        simp only [Option.some.injEq] at hk'
        simp only at hr; rw [hk'] at hr; omega
      · simp only at hr; omega
    refine ⟨k.1, k.2, hk', ?_, hne, ?_, hr⟩
    · rw [removeOverlapping_eq]; exact List.mem_map.mpr ⟨k, hk, rfl⟩
    · simpa [clashIdx] using hc

/-- a result missing from the output of the pass collides with a returned result that has the
    higher score — or the same score and the earlier position -/
theorem removeOverlapping_justified (env : Env) {l : List Hit} (hs : Sorted l) : ∀ d ∈ l,
    d ∈ removeOverlapping env l ∨
      ∃ k ∈ removeOverlapping env l, collide env k d = true ∧ RanksAbove l k d := by
  intro d hd
  obtain ⟨j, hj⟩ := List.mem_iff_getElem?.mp hd
  rcases removeOverlapping_justified_any env l j d hj with h | ⟨i, k, hk, hko, hne, hc, hr⟩
  · exact Or.inl h
  · refine Or.inr ⟨k, hko,
      collide_of_clashIdx env hs (x := (j, d)) (k := (i, k)) (mem_enumFrom_zero.mpr hj) (mem_enumFrom_zero.mpr hk) hne hc, ?_⟩
    rcases hr with hr | hr
    · exact Or.inl hr
    · exact Or.inr ⟨hr.1, i, j, hr.2, hk, hj⟩

theorem droppedJustified_removeOverlapping (env : Env) {l : List Hit} (hs : Sorted l) :
    droppedJustified env l (removeOverlapping env l) = true := by
  simp only [droppedJustified, List.all_eq_true, Bool.or_eq_true, List.contains_eq_mem, decide_eq_true_eq,
    List.any_eq_true, Bool.and_eq_true]
  intro d hd
  rcases removeOverlapping_justified env hs d hd with h | ⟨k, hk, hc, hr⟩
  · exact Or.inl h
  · refine Or.inr ⟨k, hk, hc, ?_⟩
    simp only [outranks, decide_eq_true_eq]
    rcases hr with hr | hr
    · omega
    · omega

/-- the exact 20 % rule between any two returned hits, both modes, every input -/
theorem refine_startClear (env : Env) (nb : Bool) (l : List Hit) :
    (refine env nb l).Pairwise (fun a b => startsClear env a b = true) := by
  simp only [refine, beforeIncomplete]
  apply List.Pairwise.sublist (removeIncomplete_sublist env _)
  cases nb with
  | true =>
    simp only [if_true]
    exact (neighbour_blocks env l).clear
      (removeOverlapping_no_conflict env _)
  | false =>
    simp only [Bool.false_eq_true, if_false]
    exact removeOverlapping_no_conflict env _

/-- corollary: one margin for all pairs, the longest profile among the input hits -/
theorem refine_clearBy (env : Env) (nb : Bool) (m5 : Int) (l : List Hit)
    (hl : ∀ h ∈ l, env.len h.prof ≤ m5) : (refine env nb l).Pairwise (ClearBy m5) := by
  have hprof : ∀ o ∈ refine env nb l, env.len o.prof ≤ m5 := by
    intro o ho
    obtain ⟨f, hf, e⟩ := beforeIncomplete_prof env nb l o ((removeIncomplete_sublist env _).subset ho)
    rw [← e]; exact hl f hf
  have aux : ∀ (out : List Hit), (∀ o ∈ out, env.len o.prof ≤ m5) →
      out.Pairwise (fun a b => startsClear env a b = true) → out.Pairwise (ClearBy m5) := by
    intro out
    induction out with
    | nil => intro _ _; exact List.Pairwise.nil
    | cons a t ih =>
      intro hp hpw
      have hpw' := List.pairwise_cons.mp hpw
      refine List.Pairwise.cons ?_ (ih (fun o ho => hp o (List.mem_cons_of_mem _ ho)) hpw'.2)
      intro b hb
      have h1 := hpw'.1 b hb
      have ha := hp a (by simp)
      have hb' := hp b (List.mem_cons_of_mem _ hb)
      rw [startsClear_le] at h1
      simp only [ClearBy]
      omega
  exact aux _ hprof (refine_startClear env nb l)

/-- why an input hit may be missing before the incomplete-fragment rule is applied (default mode):
    it is inside a same-profile hit `m` (itself, or the merge it went into) that is still there or
    collides with one that is still there and outranks it; (neighbour mode) it is itself inside a
    merged hit that is still there, or collides with a better raw hit that is -/
theorem beforeIncomplete_accounts (env : Env) (nb : Bool) (l : List Hit) : ∀ x ∈ l,
    (∃ m ∈ beforeIncomplete env nb l, Covers m x) ∨
    (∃ m k, Covers m x ∧ collide env k m = true ∧ m.sc ≤ k.sc ∧ ∃ o ∈ beforeIncomplete env nb l, Covers o k) := by
  intro x hx
  have hx' : x ∈ sortHits l := mem_sortHits.mpr hx
  cases nb with
  | true =>
    simp only [beforeIncomplete, if_true]
    have hb := neighbour_blocks env l
    rcases removeOverlapping_justified env (sortHits_sorted l) x hx' with h | ⟨k, hk, hc, hr⟩
    · left
      exact hb.covers x h
    · right
      obtain ⟨o, ho, hco⟩ := hb.covers k hk
      refine ⟨x, k, Covers.refl x, hc, ?_, o, ho, hco⟩
      rcases hr with hr | hr <;> omega
  | false =>
    simp only [beforeIncomplete, Bool.false_eq_true, if_false]
    obtain ⟨m, hm, hc⟩ := mergeDomainList_covers env (sortHits_sorted l) x hx'
    rcases removeOverlapping_justified env (mergeDomainList_sorted env _) m hm with h | ⟨k, hk, hcl, hr⟩
    · left; exact ⟨m, h, hc⟩
    · right
      refine ⟨m, k, hc, hcl, ?_, k, hk, Covers.refl k⟩
      rcases hr with hr | hr <;> omega

theorem removeIncomplete_keeps_complete (env : Env) (l : List Hit) (m : Hit) (hm : m ∈ l)
    (hc : complete env m = true) : m ∈ removeIncomplete env l := by
  have hci : isComplete env m = true := by
    rw [isComplete_eq]
    exact hc
  have hmem : m ∈ l.filter (isComplete env) := List.mem_filter.mpr ⟨hm, hci⟩
  simp only [removeIncomplete]
  have : (l.filter (isComplete env)).isEmpty = false := by
    cases h : l.filter (isComplete env) with
    | nil => rw [h] at hmem; simp at hmem
    | cons a t => rfl
  simp only [this, Bool.not_false, if_true]
  exact hmem

theorem refine_neighbour_keeps (env : Env) (l : List Hit) (x : Hit) (hx : x ∈ l) (hcx : complete env x = true)
    (hun : ∀ k ∈ l, k ≠ x → x.sc ≤ k.sc → collide env k x = false) :
    ∃ m ∈ refine env true l, Covers m x := by
  have hxs : x ∈ sortHits l := mem_sortHits.mpr hx
  have hkept : x ∈ removeOverlapping env (sortHits l) := by
    rcases removeOverlapping_justified env (sortHits_sorted l) x hxs with h | ⟨k, hk, hc, hr⟩
    · exact h
    · exfalso
      have hkS : k ∈ sortHits l := (removeOverlapping_sublist env _).subset hk
      have hkl : k ∈ l := mem_sortHits.mp hkS
      have hne : k ≠ x := by
        rcases hr with hr | ⟨_, i, j, hij, hi, hj⟩
        · intro e; rw [e] at hr; omega
        · intro e
          subst e
          have hnd := sortHits_nodup l
          obtain ⟨hi', ei⟩ := List.getElem?_eq_some_iff.mp hi
          obtain ⟨hj', ej⟩ := List.getElem?_eq_some_iff.mp hj
          have := (List.pairwise_iff_getElem.mp hnd) i j hi' hj' hij
          exact this (ei.trans ej.symm)
      have hsc : x.sc ≤ k.sc := by
        rcases hr with hr | hr <;> omega
      rw [hun k hkl hne hsc] at hc
      exact absurd hc (by simp)
  obtain ⟨m, hm, hcov⟩ := (neighbour_blocks env l).covers x hkept
  refine ⟨m, ?_, hcov⟩
  simp only [refine, beforeIncomplete, if_true]
  exact removeIncomplete_keeps_complete env _ m hm (complete_of_covers env hcov hcx)

end ASV.Refine
