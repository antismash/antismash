/-
  Helper lemmas for C09 (protein → nucleotide coordinates).

  Both strands are handled at once wherever the code does: `ray a d n` is the common form of `upRange`
  (`d = 1`) and `downRange` (`d = -1`), and slices of lists are always written `sliceL`.
-/
import ASV.Model.ProtDna
import ASV.Spec.ProtDna
namespace ASV.ProtDna
open ASV

/-! ### slices of lists -/

theorem sliceL_length {α} (l : List α) (a b : Nat) (h : b ≤ l.length) : (sliceL l a b).length = b - a := by
  simp only [sliceL, List.length_take, List.length_drop]
  omega

theorem sliceL_zero {α} (l : List α) (b : Nat) : sliceL l 0 b = l.take b := rfl

theorem sliceL_append {α} (l : List α) (a b c : Nat) (hab : a ≤ b) (hbc : b ≤ c) :
    sliceL l a b ++ sliceL l b c = sliceL l a c := by
  unfold sliceL
  have h1 : c - a = (b - a) + (c - b) := by omega
  have h2 : b = a + (b - a) := by omega
  rw [h1, List.take_add, List.drop_drop, ← h2]

theorem sliceL_three {α} (l : List α) (a b c : Nat) (hab : a ≤ b) (hbc : b ≤ c) :
    sliceL l 0 a ++ sliceL l a b ++ sliceL l b c = l.take c := by
  rw [sliceL_append _ _ _ _ (Nat.zero_le a) hab, sliceL_append _ _ _ _ (Nat.zero_le b) hbc, sliceL_zero]

theorem sliceL_eq_nil {α} (l : List α) (a b : Nat) (h : b ≤ a ∨ l.length ≤ a) : sliceL l a b = [] := by
  unfold sliceL
  rcases h with h | h
  · rw [Nat.sub_eq_zero_of_le h, List.take_zero]
  · rw [List.drop_eq_nil_of_le h, List.take_nil]

theorem sliceL_min {α} (l : List α) (a b : Nat) : sliceL l a (min b l.length) = sliceL l a b := by
  rcases Nat.le_total b l.length with h | h
  · rw [Nat.min_eq_left h]
  · rw [Nat.min_eq_right h, sliceL, sliceL, List.take_of_length_le (by rw [List.length_drop]; exact Nat.le_refl _),
      List.take_of_length_le (by rw [List.length_drop]; exact Nat.sub_le_sub_right h a)]

theorem sliceL_append_list {α} (xs ys : List α) (a b : Nat) :
    sliceL (xs ++ ys) a b = sliceL xs a b ++ sliceL ys (a - xs.length) (b - xs.length) := by
  unfold sliceL
  rw [List.drop_append, List.take_append, List.length_drop]
  congr 2
  omega

theorem sliceL_take {α} (l : List α) (n a b : Nat) (h : b ≤ n) : sliceL (l.take n) a b = sliceL l a b := by
  unfold sliceL
  rw [List.drop_take, List.take_take]
  congr 1; omega

theorem sliceL_of_take_eq {α} (x y : List α) (s e : Nat) (h : x.take e = y.take e) : sliceL x s e = sliceL y s e := by
  unfold sliceL
  have hx : (x.drop s).take (e - s) = (x.take e).drop s := by rw [List.drop_take]
  have hy : (y.drop s).take (e - s) = (y.take e).drop s := by rw [List.drop_take]
  rw [hx, hy, h]

/-! ### ranges -/

/-- `a, a+d, a+2d, …` (`n` values) -/
def ray (a d : Int) : Nat → List Int
  | 0 => []
  | n + 1 => a :: ray (a + d) d n

theorem upRange_eq_ray (lo : Int) (n : Nat) : upRange lo n = ray lo 1 n := by
  induction n generalizing lo with
  | zero => rfl
  | succ n ih => simp only [upRange, ray, ih]

theorem downRange_eq_ray (hi : Int) (n : Nat) : downRange hi n = ray (hi - 1) (-1) n := by
  induction n generalizing hi with
  | zero => rfl
  | succ n ih => simp only [downRange, ray, ih, Int.sub_eq_add_neg]

theorem ray_length (a d : Int) (n : Nat) : (ray a d n).length = n := by
  induction n generalizing a with
  | zero => rfl
  | succ n ih => simp only [ray, List.length_cons, ih]

theorem ray_step (a d : Int) (k : Nat) : a + d + d * (k : Int) = a + d * ((k + 1 : Nat) : Int) := by
  rw [Int.natCast_succ, Int.mul_add, Int.mul_one]
  omega

theorem ray_drop (a d : Int) (n k : Nat) : (ray a d n).drop k = ray (a + d * k) d (n - k) := by
  induction k generalizing a n with
  | zero => simp
  | succ k ih =>
    cases n with
    | zero => simp [ray]
    | succ n => rw [ray, List.drop_succ_cons, ih, ray_step, Nat.add_sub_add_right]

theorem ray_take (a d : Int) (n k : Nat) : (ray a d n).take k = ray a d (min k n) := by
  induction k generalizing a n with
  | zero => simp [ray]
  | succ k ih =>
    cases n with
    | zero => simp [ray]
    | succ n => rw [ray, List.take_succ_cons, ih, Nat.succ_min_succ, ray]

theorem ray_append (a d : Int) (n m : Nat) : ray a d (n + m) = ray a d n ++ ray (a + d * n) d m := by
  rw [← List.take_append_drop n (ray a d (n + m)), ray_take, ray_drop, Nat.min_eq_left (Nat.le_add_right n m),
    Nat.add_sub_cancel_left]

theorem ray_getElem? (a d : Int) (n k : Nat) : (ray a d n)[k]? = if k < n then some (a + d * k) else none := by
  induction n generalizing a k with
  | zero => simp [ray]
  | succ n ih =>
    cases k with
    | zero => simp [ray]
    | succ k => simp only [ray, List.getElem?_cons_succ, ih, ray_step, Nat.add_lt_add_iff_right]

theorem sliceL_ray (a d : Int) (n i j : Nat) (hj : j ≤ n) : sliceL (ray a d n) i j = ray (a + d * i) d (j - i) := by
  rw [sliceL, ray_drop, ray_take]
  congr 1
  omega

theorem ray_head? (a d : Int) (n : Nat) (h : 0 < n) : (ray a d n).head? = some a := by
  rw [List.head?_eq_getElem?, ray_getElem?, if_pos h, Int.natCast_zero, Int.mul_zero, Int.add_zero]

theorem ray_getLast? (a d : Int) (n : Nat) (h : 0 < n) : (ray a d n).getLast? = some (a + d * ((n - 1 : Nat) : Int)) := by
  rw [List.getLast?_eq_getElem?, ray_length, ray_getElem?, if_pos (by omega)]

theorem upRange_length (lo : Int) (n : Nat) : (upRange lo n).length = n := by
  rw [upRange_eq_ray, ray_length]

theorem downRange_length (hi : Int) (n : Nat) : (downRange hi n).length = n := by
  rw [downRange_eq_ray, ray_length]

theorem upRange_append (lo : Int) (n m : Nat) : upRange lo (n + m) = upRange lo n ++ upRange (lo + n) m := by
  rw [upRange_eq_ray, ray_append, Int.one_mul, upRange_eq_ray, upRange_eq_ray]

theorem downRange_append (hi : Int) (n m : Nat) : downRange hi (n + m) = downRange hi n ++ downRange (hi - n) m := by
  rw [downRange_eq_ray, ray_append, downRange_eq_ray, downRange_eq_ray]
  congr 2
  omega

theorem downRange_eq_reverse (hi : Int) (n : Nat) : downRange hi n = (upRange (hi - n) n).reverse := by
  induction n generalizing hi with
  | zero => rfl
  | succ n ih =>
    rw [upRange_append _ n 1, List.reverse_append, downRange, ih]
    simp only [upRange, List.reverse_cons, List.reverse_nil, List.nil_append, List.singleton_append]
    rw [show hi - ((n + 1 : Nat) : Int) = hi - 1 - n by omega, show hi - 1 - (n : Int) + n = hi - 1 by omega]

theorem upRange_getElem? (lo : Int) (n k : Nat) : (upRange lo n)[k]? = if k < n then some (lo + k) else none := by
  rw [upRange_eq_ray, ray_getElem?, Int.one_mul]

theorem downRange_getElem? (hi : Int) (n k : Nat) : (downRange hi n)[k]? = if k < n then some (hi - 1 - k) else none := by
  rw [downRange_eq_ray, ray_getElem?, Int.neg_mul, Int.one_mul, ← Int.sub_eq_add_neg]

/-! ### one part -/

/-- the bases of an exon, with its strand as a variable: from the first transcribed base in steps of ±1 -/
theorem partBases_eq_ray (rev : Bool) (p : Part) (hrev : (p.strand == .rev) = rev) :
    partBases p = ray (if rev then p.hi - 1 else p.lo) (if rev then -1 else 1) (p.hi - p.lo).toNat := by
  subst hrev
  unfold partBases
  split
  · exact downRange_eq_ray _ _
  · exact upRange_eq_ray _ _

theorem partBases_length (p : Part) : (partBases p).length = (p.hi - p.lo).toNat := by
  rw [partBases_eq_ray _ p rfl, ray_length]

/-- the new part built for `[first,last)` of an exon lists exactly that slice of the exon's bases; the bounds come
    as integers with their `Nat` values beside them (`hi`, `hj`), so that callers choose the cast that suits them -/
theorem slicePart_bases (rev : Bool) (st : Strand) (p : Part) (first last : Int) (i j : Nat)
    (hrev : (p.strand == .rev) = rev) (hst : (st == .rev) = rev) (hi : first = i) (hj : last = j)
    (h : last ≤ p.hi - p.lo) :
    partBases (slicePart rev st p first last) = sliceL (partBases p) i j := by
  subst hi hj
  rw [partBases_eq_ray rev p hrev, sliceL_ray _ _ _ _ _ (Int.le_toNat (Int.le_trans (Int.natCast_nonneg j) h) |>.mpr h)]
  cases rev with
  | false =>
    have e : p.lo + (j : Int) - (p.lo + i) = (j : Int) - i := by omega
    rw [partBases_eq_ray false _ hst]
    simp only [slicePart, Bool.false_eq_true, if_false, Int.one_mul, e, Int.toNat_sub]
  | true =>
    have e : p.hi - (i : Int) - (p.hi - j) = (j : Int) - i := by omega
    rw [partBases_eq_ray true _ hst]
    simp only [slicePart, if_true, e, Int.toNat_sub]
    congr 1
    omega

theorem slicePart_drop (p : Part) (k : Int) (h0 : 0 ≤ k) (hk : k ≤ p.hi - p.lo) :
    partBases (slicePart (p.strand == .rev) p.strand p k (p.hi - p.lo)) = (partBases p).drop k.toNat := by
  rw [slicePart_bases _ _ p k (p.hi - p.lo) k.toNat (partBases p).length rfl rfl (by omega)
    (by rw [partBases_length]; omega) (Int.le_refl _)]
  exact List.take_of_length_le (by rw [List.length_drop]; omega)

/-! ### the exon walk of `get_sub_location_from_offsets` -/

/-- what one exon contributes to the walk for the offsets `[x,y)` relative to its first base: that slice of its
    bases (all of them, or none, when the offsets lie outside the exon) -/
theorem piece_bases (rev : Bool) (st : Strand) (p : Part) (hrev : (p.strand == .rev) = rev)
    (hst : (st == .rev) = rev) (hp : p.lo ≤ p.hi) (x y : Int) :
    (if max x 0 < min y p.len then [slicePart rev st p (max x 0) (min y p.len)] else []).flatMap partBases
      = sliceL (partBases p) x.toNat y.toNat := by
  unfold Part.len
  have e1 : (max x 0).toNat = x.toNat := by rw [← Int.ofNat_toNat, Int.toNat_natCast]
  have e2 : (min y (p.hi - p.lo)).toNat = min y.toNat (partBases p).length := by
    rw [partBases_length]
    rcases Int.le_total y (p.hi - p.lo) with hy | hy
    · rw [Int.min_eq_left hy, Nat.min_eq_left (Int.toNat_le_toNat hy)]
    · rw [Int.min_eq_right hy, Nat.min_eq_right (Int.toNat_le_toNat hy)]
  split
  · rename_i h
    have h0 : 0 ≤ min y (p.hi - p.lo) := Int.le_of_lt (Int.lt_of_le_of_lt (Int.le_max_right x 0) h)
    rw [List.flatMap_singleton,
      slicePart_bases rev st p _ _ _ _ hrev hst (Int.toNat_of_nonneg (Int.le_max_right x 0)).symm
        (Int.toNat_of_nonneg h0).symm (Int.min_le_right _ _),
      e1, e2, sliceL_min]
  · rename_i h
    have hle := Int.toNat_le_toNat (Int.not_lt.mp h)
    rw [e1, e2] at hle
    rw [List.flatMap_nil, sliceL_eq_nil]
    omega

theorem toNat_sub_add (x off n : Int) (hn : 0 ≤ n) : (x - (off + n)).toNat = (x - off).toNat - n.toNat := by
  rw [← Int.sub_sub, ← Int.toNat_sub' (x - off) n.toNat, Int.toNat_of_nonneg hn]

/-- the walk lists exactly the bases `[s-off, e-off)` of the remaining exons (for all offsets, even
    outside the gene) -/
theorem subParts_bases (rev : Bool) (st : Strand) (hst : (st == .rev) = rev) :
    ∀ (ps : List Part) (off s e : Int),
      (∀ p ∈ ps, p.lo ≤ p.hi ∧ (p.strand == .rev) = rev) →
      (subParts rev st ps off s e).flatMap partBases
        = sliceL (ps.flatMap partBases) (s - off).toNat (e - off).toNat := by
  intro ps
  induction ps with
  | nil =>
    intro off s e _
    simp [subParts, sliceL]
  | cons p ps ih =>
    intro off s e hps
    have hp := hps p List.mem_cons_self
    have hlen : 0 ≤ p.len := Int.sub_nonneg_of_le hp.1
    rw [List.flatMap_cons, sliceL_append_list, ← piece_bases rev st p hp.2 hst hp.1, partBases_length]
    simp only [subParts]
    split
    · rename_i hbreak
      have hle : e - off ≤ p.hi - p.lo := by
        unfold Part.len at hbreak
        omega
      rw [sliceL_eq_nil _ _ _ (Or.inl ?_), List.append_nil]
      rw [Nat.sub_eq_zero_of_le (Int.toNat_le_toNat hle)]
      exact Nat.zero_le _
    · rw [List.flatMap_append, ih (off + p.len) s e (fun q hq => hps q (List.mem_cons_of_mem _ hq)),
        toNat_sub_add s off p.len hlen, toNat_sub_add e off p.len hlen]
      rfl

/-- every new part is a non-empty sub-interval of the exon it was cut from, on the location's strand -/
theorem slicePart_inside (rev : Bool) (st : Strand) (p : Part) (first last : Int) (h0 : 0 ≤ first)
    (h1 : first < last) (h2 : last ≤ p.hi - p.lo) :
    p.lo ≤ (slicePart rev st p first last).lo ∧ (slicePart rev st p first last).lo < (slicePart rev st p first last).hi ∧
      (slicePart rev st p first last).hi ≤ p.hi ∧ (slicePart rev st p first last).strand = st := by
  cases rev
  · simp only [slicePart, Bool.false_eq_true, if_false]
    exact ⟨by omega, by omega, by omega, trivial⟩
  · simp only [slicePart, if_true]
    exact ⟨by omega, by omega, by omega, trivial⟩

theorem subParts_inside (rev : Bool) (st : Strand) :
    ∀ (ps : List Part) (off s e : Int), ∀ q ∈ subParts rev st ps off s e,
      ∃ p ∈ ps, p.lo ≤ q.lo ∧ q.lo < q.hi ∧ q.hi ≤ p.hi ∧ q.strand = st := by
  intro ps
  induction ps with
  | nil => intro off s e q hq; cases hq
  | cons p ps ih =>
    intro off s e q hq
    have hnew : ∀ q ∈ (if max (s - off) 0 < min (e - off) p.len
        then [slicePart rev st p (max (s - off) 0) (min (e - off) p.len)] else []),
        p.lo ≤ q.lo ∧ q.lo < q.hi ∧ q.hi ≤ p.hi ∧ q.strand = st := by
      intro q hq
      split at hq
      · rename_i hlt
        rw [List.mem_singleton.mp hq]
        exact slicePart_inside rev st p _ _ (Int.le_max_right _ _) hlt (Int.min_le_right _ _)
      · cases hq
    simp only [subParts] at hq
    split at hq
    · exact ⟨p, List.mem_cons_self, hnew q hq⟩
    · rcases List.mem_append.mp hq with h | h
      · exact ⟨p, List.mem_cons_self, hnew q h⟩
      · obtain ⟨p', hp', h'⟩ := ih _ s e q h
        exact ⟨p', List.mem_cons_of_mem _ hp', h'⟩

theorem locOfNewParts_ok (ps : List Part) (h : ps ≠ []) :
    ∃ r, locOfNewParts ps = .ok r ∧ r.parts = ps := by
  match ps, h with
  | [p], _ => exact ⟨.simple p, rfl, rfl⟩
  | p :: q :: rest, _ => exact ⟨.compound (p :: q :: rest), rfl, rfl⟩

theorem locOfNewParts_parts (ps : List Part) (r : Loc) (h : locOfNewParts ps = .ok r) : r.parts = ps := by
  match ps, h with
  | [p], h => cases h; rfl
  | p :: q :: rest, h => cases h; rfl

theorem geneWF_iff (l : Loc) :
    geneWF l = true ↔ l.parts ≠ [] ∧ ∀ p ∈ l.parts, p.lo < p.hi ∧ p.strand = l.strand := by
  simp [geneWF, List.all_eq_true]

theorem len_eq_bases_length (l : Loc) (h : ∀ p ∈ l.parts, p.lo ≤ p.hi) :
    l.len = ((bases l).length : Int) := by
  unfold Loc.len bases
  generalize l.parts = ps at h
  induction ps with
  | nil => rfl
  | cons p ps ih =>
    have hp := h p List.mem_cons_self
    simp only [List.map_cons, List.sum_cons, List.flatMap_cons, List.length_append, partBases_length,
      ih (fun x hx => h x (List.mem_cons_of_mem _ hx)), Part.len]
    omega

theorem geneWF_len (l : Loc) (hwf : geneWF l = true) : l.len = ((bases l).length : Int) :=
  len_eq_bases_length l fun p hp => Int.le_of_lt (((geneWF_iff l).mp hwf).2 p hp).1

theorem bases_of_parts (r : Loc) (ps : List Part) (h : r.parts = ps) : bases r = ps.flatMap partBases := by
  simp [bases, h]

/-- every part of `r` is a non-empty piece of one exon of `l`, on that exon's strand (the Prop form of the Spec's
    `partsInside`; the statements other files use spell it out) -/
def CutFrom (l r : Loc) : Prop :=
  ∀ q ∈ r.parts, ∃ p ∈ l.parts, p.lo ≤ q.lo ∧ q.lo < q.hi ∧ q.hi ≤ p.hi ∧ q.strand = p.strand

theorem partsInside_of (l r : Loc) (h : CutFrom l r) : partsInside l r = true := by
  simp only [partsInside, List.all_eq_true, List.any_eq_true, Bool.and_eq_true, decide_eq_true_eq, beq_iff_eq]
  intro q hq
  obtain ⟨p, hp, h1, h2, h3, h4⟩ := h q hq
  exact ⟨p, hp, ⟨⟨⟨h1, h2⟩, h3⟩, h4⟩⟩

/-- `get_sub_location_from_offsets` on a well-formed gene, offsets inside the gene -/
theorem subLocationFromOffsets_ok (l : Loc) (hwf : geneWF l = true) (s e : Int) (h0 : 0 ≤ s) (hse : s < e)
    (he : e ≤ l.len) :
    ∃ r, subLocationFromOffsets l s e = .ok r ∧ bases r = sliceL (bases l) s.toNat e.toNat ∧ CutFrom l r := by
  obtain ⟨_, hparts⟩ := (geneWF_iff l).mp hwf
  have hlen := geneWF_len l hwf
  have hslice : (subParts (isRev l) l.strand l.parts 0 s e).flatMap partBases = sliceL (bases l) s.toNat e.toNat := by
    rw [subParts_bases (isRev l) l.strand rfl l.parts 0 s e
      (fun p hp => ⟨Int.le_of_lt (hparts p hp).1, by rw [isRev, (hparts p hp).2]⟩), Int.sub_zero, Int.sub_zero]
    rfl
  have hne : subParts (isRev l) l.strand l.parts 0 s e ≠ [] := by
    intro h
    have := congrArg List.length hslice
    rw [h, sliceL_length _ _ _ (by omega)] at this
    simp only [List.flatMap_nil, List.length_nil] at this
    omega
  obtain ⟨r, hr, hrp⟩ := locOfNewParts_ok _ hne
  have hg : (decide (0 ≤ s) && decide (s < e) && decide (e ≤ l.len)) = true := by
    simp only [Bool.and_eq_true, decide_eq_true_eq]
    exact ⟨⟨h0, hse⟩, he⟩
  refine ⟨r, ?_, by rw [bases_of_parts r _ hrp, hslice], fun q hq => ?_⟩
  · simp only [subLocationFromOffsets, hg, Bool.not_true, Bool.false_eq_true, if_false, hr]
  · obtain ⟨p, hp, h1, h2, h3, h4⟩ := subParts_inside _ _ l.parts 0 s e q (hrp ▸ hq)
    exact ⟨p, hp, h1, h2, h3, by rw [h4, (hparts p hp).2]⟩

theorem subLocationFromOffsets_slice (l : Loc) (hwf : geneWF l = true) (s e : Nat) (hse : s < e)
    (he : (e : Int) ≤ l.len) :
    ∃ r, subLocationFromOffsets l s e = .ok r ∧ bases r = sliceL (bases l) s e ∧
      (∀ q ∈ r.parts, ∃ p ∈ l.parts, p.lo ≤ q.lo ∧ q.lo < q.hi ∧ q.hi ≤ p.hi ∧ q.strand = p.strand) :=
  subLocationFromOffsets_ok l hwf s e (Int.natCast_nonneg s) (Int.ofNat_lt.mpr hse) he

/-! ### `Feature.get_sub_location_from_protein_coordinates` -/

theorem simple_len (p : Part) : (Loc.simple p).len = p.hi - p.lo := by
  simp [Loc.len, Loc.parts, Part.len]

/-- on a simple location the pair is the two ends of the part cut for nucleotides `[3s,3e)` -/
theorem convert_simple_ends (p : Part) (s e : Int) (h0 : 0 ≤ s) (hse : s < e) (he : e ≤ (p.hi - p.lo) / 3) :
    convertProteinToDna s e (.simple p)
      = .ok ((slicePart (p.strand == .rev) p.strand p (s * 3) (e * 3)).lo,
             (slicePart (p.strand == .rev) p.strand p (s * 3) (e * 3)).hi) := by
  have g1 : (decide (0 ≤ s) && decide (s < e) && decide (e ≤ (p.hi - p.lo) / 3)) = true := by
    simp only [Bool.and_eq_true, decide_eq_true_eq]
    exact ⟨⟨h0, hse⟩, he⟩
  obtain ⟨i1, i2, i3, _⟩ :=
    slicePart_inside (p.strand == .rev) p.strand p (s * 3) (e * 3) (by omega) (by omega) (by omega)
  simp only [convertProteinToDna, g1, Bool.not_true, Bool.false_eq_true, if_false, isRev, Loc.strand, Loc.start,
    Loc.end, simple_len]
  cases hrev : (p.strand == Strand.rev)
  · simp only [hrev, slicePart, Bool.false_eq_true, if_false] at i1 i2 i3 ⊢
    simp only [decide_eq_true i1, decide_eq_true i2, decide_eq_true i3, Bool.and_self, Bool.not_true,
      Bool.false_eq_true, if_false]
  · have e1 : p.lo + (p.hi - p.lo) - e * 3 = p.hi - e * 3 := by omega
    have e2 : p.lo + (p.hi - p.lo) - s * 3 = p.hi - s * 3 := by omega
    simp only [hrev, slicePart, if_true] at i1 i2 i3 ⊢
    simp only [e1, e2, decide_eq_true i1, decide_eq_true i2, decide_eq_true i3, Bool.and_self, Bool.not_true,
      Bool.false_eq_true, if_false]

/-- the range checks at the head of `get_sub_location_from_protein_coordinates`, for a product of `n` residues -/
theorem range_guards (n s e : Int) (h : 0 ≤ s ∧ s < e ∧ e ≤ n) :
    (decide (0 ≤ s) && decide (s ≤ n - 1)) = true ∧ (decide (1 ≤ e) && decide (e ≤ n)) = true ∧ ¬ s ≥ e := by
  simp only [Bool.and_eq_true, decide_eq_true_eq]
  omega

theorem subLocation_compound (ps : List Part) (s e : Int) (h : 0 ≤ s ∧ s < e ∧ e ≤ (Loc.compound ps).len / 3) :
    subLocation (.compound ps) s e = subLocationFromOffsets (.compound ps) (s * 3) (e * 3) := by
  obtain ⟨c1, c2, c3⟩ := range_guards _ s e h
  simp only [subLocation, c1, c2, c3, Bool.not_true, Bool.false_eq_true, if_false]

/-- the simple-location branch of `get_sub_location_from_protein_coordinates` (through
    `convert_protein_position_to_dna` and the containment checks): the part cut for nucleotides `[3s,3e)` -/
theorem subLocation_simple (p : Part) (s e : Int) (h : 0 ≤ s ∧ s < e ∧ e ≤ (p.hi - p.lo) / 3) :
    subLocation (.simple p) s e = .ok (.simple (slicePart (p.strand == .rev) p.strand p (s * 3) (e * 3))) := by
  obtain ⟨c1, c2, c3⟩ := range_guards ((Loc.simple p).len / 3) s e (by rw [simple_len]; exact h)
  obtain ⟨i1, i2, i3, i4⟩ :=
    slicePart_inside (p.strand == .rev) p.strand p (s * 3) (e * 3) (by omega) (by omega) (by omega)
  simp only [subLocation, c1, c2, c3, Bool.not_true, Bool.false_eq_true, if_false,
    convert_simple_ends p s e h.1 h.2.1 h.2.2, Res.bind]
  generalize slicePart (p.strand == .rev) p.strand p (s * 3) (e * 3) = q at i1 i2 i3 i4 ⊢
  have m1 : (Loc.simple p).mem q.lo = true := by
    simp only [Loc.mem, Loc.parts, List.any_cons, List.any_nil, Bool.or_false, Part.mem, Bool.and_eq_true,
      decide_eq_true_eq]
    omega
  have m3 : ((Loc.simple p).mem q.hi || decide (q.hi = (Loc.simple p).end) || (p.mem q.hi || decide (q.hi = p.hi)))
      = true := by
    simp only [Loc.mem, Loc.parts, List.any_cons, List.any_nil, Bool.or_false, Part.mem, Loc.end, Bool.or_eq_true,
      Bool.and_eq_true, decide_eq_true_eq]
    omega
  simp only [decide_eq_true i2, m1, m3, Bool.not_true, Bool.false_eq_true, if_false, Loc.strand, ← i4]

/-- residues `[s,e)` inside the gene: the sub-location lists exactly nucleotides `[3s,3e)` of the gene
    in transcription order, and each of its parts lies inside an exon -/
theorem subLocation_slice (l : Loc) (hwf : geneWF l = true) (s e : Nat) (hse : s < e)
    (he : (e : Int) ≤ l.len / 3) :
    ∃ r, subLocation l s e = .ok r ∧ bases r = sliceL (bases l) (3 * s) (3 * e) ∧
      (∀ q ∈ r.parts, ∃ p ∈ l.parts, p.lo ≤ q.lo ∧ q.lo < q.hi ∧ q.hi ≤ p.hi ∧ q.strand = p.strand) := by
  have e1 : (s : Int) * 3 = ((3 * s : Nat) : Int) := by omega
  have e2 : (e : Int) * 3 = ((3 * e : Nat) : Int) := by omega
  have hs0 : (0 : Int) ≤ s := Int.natCast_nonneg s
  have hse' : (s : Int) < e := Int.ofNat_lt.mpr hse
  cases l with
  | compound ps =>
    rw [subLocation_compound ps s e ⟨hs0, hse', he⟩, e1, e2]
    exact subLocationFromOffsets_ok (.compound ps) hwf _ _ (Int.natCast_nonneg _) (by omega) (by omega)
  | simple p =>
    rw [simple_len] at he
    have h3 : (e : Int) * 3 ≤ p.hi - p.lo := by omega
    refine ⟨_, subLocation_simple p s e ⟨hs0, hse', he⟩, ?_, ?_⟩
    · simp only [bases, Loc.parts, List.flatMap_singleton]
      exact slicePart_bases _ _ p _ _ (3 * s) (3 * e) rfl rfl e1 e2 h3
    · intro q hq
      rw [List.mem_singleton.mp hq]
      exact ⟨p, List.mem_singleton_self p, slicePart_inside _ _ p _ _ (by omega) (by omega) h3⟩

/-! ### extraction and translation -/

/-- on a one-strand location `extract` is `bases` mapped through the sequence (complemented on −) -/
theorem extract_uniform {β} (seq : Int → β) (compl : β → β) (l : Loc) (st : Strand)
    (h : ∀ p ∈ l.parts, p.strand = st) :
    extract seq compl l = (bases l).map (fun i => if st == .rev then compl (seq i) else seq i) := by
  unfold extract bases
  generalize l.parts = ps at h
  induction ps with
  | nil => simp
  | cons p ps ih =>
    have hp := h p List.mem_cons_self
    simp only [List.flatMap_cons, List.map_append, ih (fun q hq => h q (List.mem_cons_of_mem _ hq)), hp]
    cases hs : (st == Strand.rev) <;> simp

theorem codons_drop {β} (k : Nat) (l : List β) : codons (l.drop (3 * k)) = (codons l).drop k := by
  induction k generalizing l with
  | zero => simp
  | succ k ih =>
    rw [show 3 * (k + 1) = 3 * k + 1 + 1 + 1 by omega]
    match l with
    | [] => simp [codons]
    | [_] => simp [codons]
    | [_, _] => simp [codons]
    | a :: b :: c :: rest => simp only [List.drop_succ_cons, codons, ih]

theorem codons_take {β} (k : Nat) (l : List β) : codons (l.take (3 * k)) = (codons l).take k := by
  induction k generalizing l with
  | zero => simp [codons]
  | succ k ih =>
    rw [show 3 * (k + 1) = 3 * k + 1 + 1 + 1 by omega]
    match l with
    | [] => simp [codons]
    | [_] => simp [codons]
    | [_, _] => simp [codons]
    | a :: b :: c :: rest => simp only [List.take_succ_cons, codons, ih]

theorem codons_length {β} (l : List β) : (codons l).length = l.length / 3 := by
  induction l using codons.induct with
  | case1 a b c rest ih => simp only [codons, List.length_cons, ih]; omega
  | case2 l h =>
    match l, h with
    | [], _ => simp [codons]
    | [_], _ => simp [codons]
    | [_, _], _ => simp [codons]
    | a :: b :: c :: r, h => exact absurd rfl (h a b c r)

/-- translating nucleotides `[3s,3e)` gives residues `[s,e)` of the translation (any genetic code) -/
theorem translate_slice {β γ} (code : β × β × β → γ) (dna : List β) (s e : Nat) :
    translate code (sliceL dna (3 * s) (3 * e)) = sliceL (translate code dna) s e := by
  have : 3 * e - 3 * s = 3 * (e - s) := by omega
  simp only [translate, sliceL, this, codons_take, codons_drop, List.map_take, List.map_drop]

theorem extract_length {β} (seq : Int → β) (compl : β → β) (l : Loc) (hwf : geneWF l = true) :
    ((extract seq compl l).length : Int) = l.len := by
  rw [extract_uniform seq compl l l.strand (fun p hp => (((geneWF_iff l).mp hwf).2 p hp).2), List.length_map,
    geneWF_len l hwf]

/-- two locations on one strand: if the bases of `r` are a slice of those of `l`, so is what `r` extracts -/
theorem extract_of_slice {β} (seq : Int → β) (compl : β → β) (l r : Loc) (st : Strand)
    (hl : ∀ p ∈ l.parts, p.strand = st) (hr : ∀ q ∈ r.parts, q.strand = st) (a b : Nat)
    (hb : bases r = sliceL (bases l) a b) :
    extract seq compl r = sliceL (extract seq compl l) a b := by
  rw [extract_uniform seq compl l st hl, extract_uniform seq compl r st hr, hb]
  simp only [sliceL, List.map_take, List.map_drop]

/-- a sub-location (or any location cut from `l`'s exons on `l`'s strand) extracts to the slice -/
theorem extract_slice {β} (seq : Int → β) (compl : β → β) (l r : Loc) (hwf : geneWF l = true) (a b : Nat)
    (hb : bases r = sliceL (bases l) a b)
    (hi : ∀ q ∈ r.parts, ∃ p ∈ l.parts, p.lo ≤ q.lo ∧ q.lo < q.hi ∧ q.hi ≤ p.hi ∧ q.strand = p.strand) :
    extract seq compl r = sliceL (extract seq compl l) a b := by
  obtain ⟨_, hparts⟩ := (geneWF_iff l).mp hwf
  refine extract_of_slice seq compl l r l.strand (fun p hp => (hparts p hp).2) (fun q hq => ?_) a b hb
  obtain ⟨p, hp, _, _, _, hs⟩ := hi q hq
  rw [hs, (hparts p hp).2]

/-! ### TTA markers -/

theorem tta_marker (l : Loc) (hwf : geneWF l = true) (off : Nat) (h : (off : Int) + 3 ≤ l.len) :
    ∃ r, subLocationFromOffsets l off (off + 3) = .ok r ∧ bases r = sliceL (bases l) off (off + 3) ∧ CutFrom l r ∧
      ttaLocation l off = (if containsOverlappingExons r then .valueError else .ok r) ∧
      ttaDetectMarker l off = .ok (if containsOverlappingExons r then none else some r) := by
  obtain ⟨r, hr, hb, hi⟩ := subLocationFromOffsets_ok l hwf off (off + 3) (Int.natCast_nonneg off) (by omega) h
  refine ⟨r, hr, hb, hi, ?_, ?_⟩
  · simp only [ttaLocation, hr, featureAt, Res.bind]
  · simp only [ttaDetectMarker, hr, Res.bind]

/-! ### prepeptide sections -/

/-- the bases of a section that may be absent (leader and tail of a prepeptide) -/
def optBases : Option Loc → List Int
  | none => []
  | some r => bases r

/-- leader `a`, core `c`, tail `b` are the sections of gene `l` for a product of `T` residues, leader `ld`, tail `tl`:
    present exactly when the peptide has them, and consecutive slices of the gene's bases -/
def SectionsAt (l : Loc) (T ld tl : Nat) (a : Option Loc) (c : Loc) (b : Option Loc) : Prop :=
  (a = none ↔ ld = 0) ∧ (b = none ↔ tl = 0) ∧
    optBases a = sliceL (bases l) 0 (3 * ld) ∧
    bases c = sliceL (bases l) (3 * ld) (3 * (T - tl)) ∧
    optBases b = sliceL (bases l) (3 * (T - tl)) (3 * T)

theorem len_nonneg (l : Loc) (hwf : geneWF l = true) : 0 ≤ l.len := by
  rw [geneWF_len l hwf]
  omega

/-- parts: all non-empty, all on strand `st` -/
def PartsOK (st : Strand) (ps : List Part) : Prop := ∀ q ∈ ps, q.lo < q.hi ∧ q.strand = st

theorem PartsOK.append {st ps qs} (h1 : PartsOK st ps) (h2 : PartsOK st qs) : PartsOK st (ps ++ qs) := by
  intro q hq
  rcases List.mem_append.mp hq with h | h
  · exact h1 q h
  · exact h2 q h

/-- a section (sub-location) of a gene: non-empty parts, all non-empty, all on the gene's strand -/
def SectionOK (st : Strand) (r : Loc) : Prop := r.parts ≠ [] ∧ PartsOK st r.parts

theorem subLocation_section (l : Loc) (hwf : geneWF l = true) (s e : Nat) (hse : s < e)
    (he : (e : Int) ≤ l.len / 3) :
    ∃ r, subLocation l s e = .ok r ∧ bases r = sliceL (bases l) (3 * s) (3 * e) ∧ SectionOK l.strand r := by
  obtain ⟨r, hr, hb, hi⟩ := subLocation_slice l hwf s e hse he
  obtain ⟨_, hparts⟩ := (geneWF_iff l).mp hwf
  have hlen := geneWF_len l hwf
  refine ⟨r, hr, hb, ?_, ?_⟩
  · intro h0
    have : (bases r).length = 3 * e - 3 * s := by rw [hb, sliceL_length _ _ _ (by omega)]
    simp [bases, h0] at this
    omega
  · intro q hq
    obtain ⟨p, hp, _, h2, _, h4⟩ := hi q hq
    exact ⟨h2, by rw [h4, (hparts p hp).2]⟩

/-- a section that `to_biopython` writes only when the peptide has it (`n` residues, `[s,e)` of the product) -/
theorem optional_section (l : Loc) (hwf : geneWF l = true) (n s e : Nat) (hn : n = 0 ↔ s = e) (hse : s ≤ e)
    (he : (e : Int) ≤ l.len / 3) :
    ∃ a, (if (n : Int) ≠ 0 then (subLocation l s e).bind fun r => Res.ok (some r) else Res.ok none) = .ok a ∧
      (a = none ↔ n = 0) ∧ optBases a = sliceL (bases l) (3 * s) (3 * e) ∧
      (∀ r, a = some r → SectionOK l.strand r) := by
  by_cases h0 : n = 0
  · have hes : s = e := hn.mp h0
    subst h0 hes
    exact ⟨none, rfl, by simp, (sliceL_eq_nil _ _ _ (Or.inl (Nat.le_refl _))).symm, fun r hr => by cases hr⟩
  · obtain ⟨r, hr, hrb, hrok⟩ := subLocation_section l hwf s e (by omega) he
    refine ⟨some r, ?_, by simp [h0], hrb, fun r' hr' => by cases hr'; exact hrok⟩
    rw [if_pos (by omega), hr]
    rfl

theorem prepeptide_sections (l : Loc) (hwf : geneWF l = true) (ld tl : Nat)
    (h : (ld : Int) + tl < l.len / 3) :
    ∃ a c b, prepeptideSections l ld tl = .ok (a, c, b) ∧
      (a = none ↔ ld = 0) ∧ (b = none ↔ tl = 0) ∧
      optBases a = sliceL (bases l) 0 (3 * ld) ∧
      bases c = sliceL (bases l) (3 * ld) (3 * ((l.len / 3).toNat - tl)) ∧
      optBases b = sliceL (bases l) (3 * ((l.len / 3).toNat - tl)) (3 * (l.len / 3).toNat) ∧
      (∀ r, (a = some r ∨ c = r ∨ b = some r) → SectionOK l.strand r) := by
  generalize hT : (l.len / 3).toNat = T
  have hTi : l.len / 3 = (T : Int) := by omega
  have e1 : (T : Int) - (tl : Int) = ((T - tl : Nat) : Int) := by omega
  obtain ⟨a, ha, ha0, hab, haok⟩ := optional_section l hwf ld 0 ld (by omega) (by omega) (by omega)
  obtain ⟨c, hc, hcb, hcok⟩ := subLocation_section l hwf ld (T - tl) (by omega) (by omega)
  obtain ⟨b, hb, hb0, hbb, hbok⟩ := optional_section l hwf tl (T - tl) T (by omega) (by omega) (by omega)
  refine ⟨a, c, b, ?_, ha0, hb0, hab, hcb, hbb, ?_⟩
  · simp only [prepeptideSections]
    rw [hTi, e1, hc, hb]
    exact congrArg (fun x => Res.bind x _) ha
  · rintro r (h | h | h)
    · exact haok r h
    · exact h ▸ hcok
    · exact hbok r h

/-! ### codon_start frameshift -/

theorem frameshift_refuses (l : Loc) (c : Int) (undo : Bool) (h : ¬ (1 ≤ c ∧ c ≤ 3)) :
    frameshift l c undo = .valueError := by
  have : (decide (0 ≤ c - 1) && decide (c - 1 ≤ 2)) = false := by
    simp only [Bool.and_eq_false_iff, decide_eq_false_iff_not]; omega
  simp only [frameshift, this, Bool.not_false, if_true]

theorem frameshift_eq (l : Loc) (c : Int) (undo : Bool) (hc : 1 ≤ c ∧ c ≤ 3) :
    frameshift l c undo = adjustByOffset l (if isRev l != undo then -(c - 1) else c - 1) := by
  have hrange : (decide (0 ≤ c - 1) && decide (c - 1 ≤ 2)) = true := by simp; omega
  simp only [frameshift, hrange, Bool.not_true, Bool.false_eq_true, if_false]
  cases isRev l <;> cases undo <;> simp

theorem frameshift_one (l : Loc) (undo : Bool) : frameshift l 1 undo = .ok l := by
  simp [frameshift, adjustByOffset]

theorem frameGuard_shift (l : Loc) (c : Int) :
    frameGuard l c false = true ↔
      (1 ≤ c ∧ c ≤ 3) ∧ (c = 1 ∨ (c - 1 ≤ firstLen l ∧ firstExonNotOuter l = false)) := by
  simp only [frameGuard, Bool.and_eq_true, Bool.or_eq_true, decide_eq_true_eq, Bool.false_or,
    Bool.not_eq_true']

/-- the location with its first exon replaced: all that `_adjust_location_by_offset` ever changes -/
def setFirst (l : Loc) (q : Part) : Loc :=
  match l with
  | .simple _ => .simple q
  | .compound ps => .compound (q :: ps.drop 1)

theorem setFirst_parts (l : Loc) (p q : Part) (rest : List Part) (h : l.parts = p :: rest) :
    (setFirst l q).parts = q :: rest := by
  cases l with
  | simple _ => cases h; rfl
  | compound ps => cases h; rfl

theorem setFirst_setFirst (l : Loc) (p q : Part) (rest : List Part) (h : l.parts = p :: rest) :
    setFirst (setFirst l q) p = l := by
  cases l with
  | simple _ => cases h; rfl
  | compound ps => cases h; rfl

theorem setFirst_self (l : Loc) (p : Part) (rest : List Part) (h : l.parts = p :: rest) : setFirst l p = l := by
  cases l with
  | simple _ => cases h; rfl
  | compound ps => cases h; rfl

theorem setFirst_strand (l : Loc) (p q : Part) (rest : List Part) (h : l.parts = p :: rest)
    (hq : q.strand = p.strand) : (setFirst l q).strand = l.strand := by
  cases l with
  | simple _ => cases h; exact hq
  | compound ps => cases h; simp only [setFirst, List.drop_succ_cons, List.drop_zero, Loc.strand, hq]

theorem setFirst_wf (l : Loc) (hwf : geneWF l = true) (p q : Part) (rest : List Part) (h : l.parts = p :: rest)
    (hq : q.lo < q.hi) (hs : q.strand = p.strand) : geneWF (setFirst l q) = true := by
  obtain ⟨_, hparts⟩ := (geneWF_iff l).mp hwf
  rw [geneWF_iff, setFirst_parts l p q rest h, setFirst_strand l p q rest h hs]
  refine ⟨List.cons_ne_nil _ _, fun x hx => ?_⟩
  rcases List.mem_cons.mp hx with rfl | hx
  · exact ⟨hq, by rw [hs]; exact (hparts p (by rw [h]; exact List.mem_cons_self)).2⟩
  · exact hparts x (by rw [h]; exact List.mem_cons_of_mem _ hx)

theorem firstLen_eq (l : Loc) (p : Part) (rest : List Part) (h : l.parts = p :: rest) : firstLen l = p.hi - p.lo := by
  simp [firstLen, h, Part.len]

theorem isRev_first (l : Loc) (hwf : geneWF l = true) (p : Part) (rest : List Part) (h : l.parts = p :: rest) :
    isRev l = (p.strand == .rev) := by
  obtain ⟨_, hparts⟩ := (geneWF_iff l).mp hwf
  rw [isRev, (hparts p (by rw [h]; exact List.mem_cons_self)).2]

/-- `_adjust_location_by_offset` for a real offset: the sanity assertion, then the first exon alone is moved -/
theorem adjustByOffset_eq (l : Loc) (p : Part) (rest : List Part) (h : l.parts = p :: rest) (off : Int)
    (h0 : off ≠ 0) (hr : -2 ≤ off ∧ off ≤ 2) :
    adjustByOffset l off
      = if firstExonNotOuter l then .assertion else (adjustSingle p off).bind fun q => .ok (setFirst l q) := by
  have hg : (decide (-2 ≤ off) && decide (off ≤ 2)) = true := by
    simp only [Bool.and_eq_true, decide_eq_true_eq]
    exact hr
  cases l with
  | simple _ =>
    cases h
    simp only [adjustByOffset, if_neg h0, hg, Bool.not_true, Bool.false_eq_true, if_false, firstExonNotOuter, setFirst]
  | compound ps =>
    cases h
    simp only [adjustByOffset, if_neg h0, hg, Bool.not_true, Bool.false_eq_true, if_false, firstExonNotOuter, setFirst,
      isRev, List.drop_succ_cons, List.drop_zero]
    rfl

/-- moving the start of one exon by `k ≤ len` bases into it cuts off its first `k` transcribed bases -/
theorem adjustSingle_shift (p : Part) (k : Int) (hk : k ≤ p.hi - p.lo) :
    adjustSingle p (if p.strand == .rev then -k else k)
      = .ok (slicePart (p.strand == .rev) p.strand p k (p.hi - p.lo)) := by
  cases hrev : (p.strand == Strand.rev)
  · simp only [adjustSingle, slicePart, hrev, Bool.false_eq_true, if_false]
    rw [if_neg (by omega)]
    congr 2
    omega
  · simp only [adjustSingle, slicePart, hrev, if_true]
    rw [if_neg (by omega)]
    congr 2
    omega

theorem adjustSingle_too_far (p : Part) (k : Int) (hk : p.hi - p.lo < k) :
    adjustSingle p (if p.strand == .rev then -k else k) = .valueError := by
  cases hr : (p.strand == Strand.rev) <;> simp only [adjustSingle, hr, Bool.false_eq_true, if_false, if_true]
  · rw [if_pos (by omega)]
  · rw [if_pos (by omega)]

theorem adjustSingle_unshift (p : Part) (k : Int) (hp : p.lo ≤ p.hi) :
    adjustSingle (slicePart (p.strand == .rev) p.strand p k (p.hi - p.lo))
      (if !(p.strand == .rev) then -k else k) = .ok p := by
  cases hrev : (p.strand == Strand.rev)
  · simp only [slicePart, adjustSingle, hrev, Bool.false_eq_true, if_false, Bool.not_false, if_true]
    rw [if_neg (by omega)]
    have : p.lo + k + -k = p.lo := by omega
    simp only [this]
    have : p.lo + (p.hi - p.lo) = p.hi := by omega
    simp only [this]
  · simp only [slicePart, adjustSingle, hrev, if_true, Bool.not_true, Bool.false_eq_true, if_false]
    have e1 : p.hi - (p.hi - p.lo) = p.lo := by omega
    have e2 : p.hi - k + k = p.hi := by omega
    simp only [e1, e2]
    rw [if_neg (by omega)]

/-- `frameshift_location_by_qualifier(location, c, undo)` for `c` = 2 or 3, completely: the sanity assertion, the
    refusal of a first exon shorter than the shift, else the first exon loses its first `k = c-1` bases — or, on
    undo (`k = -(c-1)`), gains them back; `k` is a variable with its value as a hypothesis so that the result is
    stated once for both directions and callers fix the direction by `rfl` -/
theorem frameshift_value (l : Loc) (hwf : geneWF l = true) (p : Part) (rest : List Part) (h : l.parts = p :: rest)
    (c : Int) (hc : 1 < c ∧ c ≤ 3) (undo : Bool) (k : Int) (hk : k = if undo then -(c - 1) else c - 1) :
    frameshift l c undo =
      if firstExonNotOuter l then .assertion
      else if p.hi - p.lo < k then .valueError
      else .ok (setFirst l (slicePart (p.strand == .rev) p.strand p k (p.hi - p.lo))) := by
  have hoff : (if ((p.strand == .rev) != undo) then -(c - 1) else c - 1) = if p.strand == .rev then -k else k := by
    subst hk
    cases (p.strand == Strand.rev) <;> cases undo <;> simp
  have hk2 : -2 ≤ k ∧ k ≤ 2 ∧ k ≠ 0 := by
    subst hk
    split <;> omega
  rw [frameshift_eq l c undo ⟨by omega, hc.2⟩, isRev_first l hwf p rest h, hoff,
    adjustByOffset_eq l p rest h _ (by split <;> omega) (by split <;> omega)]
  cases firstExonNotOuter l
  · simp only [Bool.false_eq_true, if_false]
    by_cases hfar : p.hi - p.lo < k
    · rw [if_pos hfar, adjustSingle_too_far p k hfar]
      rfl
    · rw [if_neg hfar, adjustSingle_shift p k (by omega)]
      rfl
  · rfl

/-- `frameshift_location_by_qualifier(location, c)` under its guard: the first `c-1` transcribed
    bases are dropped, nothing else changes; and `to_biopython` after `from_biopython`: undoing the shift restores
    the location, provided the undo's own sanity assertion passes on the shifted location -/
theorem frameshift_shift (l : Loc) (hwf : geneWF l = true) (p : Part) (rest : List Part) (h : l.parts = p :: rest)
    (c : Int) (hg : frameGuard l c false = true) :
    ∃ q, q.strand = p.strand ∧ (c - 1 < firstLen l → q.lo < q.hi) ∧
      frameshift l c false = .ok (setFirst l q) ∧
      bases (setFirst l q) = (bases l).drop (c - 1).toNat ∧
      (firstExonNotOuter (setFirst l q) = false → frameshift (setFirst l q) c true = .ok l) := by
  obtain ⟨hc, hg⟩ := (frameGuard_shift l c).mp hg
  have hpp := ((geneWF_iff l).mp hwf).2 p (by rw [h]; exact List.mem_cons_self)
  by_cases hone : c = 1
  · subst hone
    refine ⟨p, rfl, fun _ => hpp.1, ?_, ?_, fun _ => ?_⟩
    · rw [setFirst_self l p rest h, frameshift_one]
    · rw [setFirst_self l p rest h]
      rfl
    · rw [setFirst_self l p rest h, frameshift_one]
  · obtain ⟨hlen, hout⟩ := hg.resolve_left hone
    rw [firstLen_eq l p rest h] at hlen ⊢
    have hq := slicePart_drop p (c - 1) (by omega) hlen
    generalize hqd : slicePart (p.strand == .rev) p.strand p (c - 1) (p.hi - p.lo) = q at hq
    have hqs : q.strand = p.strand := by
      rw [← hqd]
      cases (p.strand == Strand.rev) <;> rfl
    have hparts' := setFirst_parts l p q rest h
    refine ⟨q, hqs, fun hlt => ?_, ?_, ?_, fun hn => ?_⟩
    · rw [← hqd]
      exact (slicePart_inside _ _ p _ _ (by omega) hlt (Int.le_refl _)).2.1
    · rw [frameshift_value l hwf p rest h c ⟨by omega, hc.2⟩ false (c - 1) rfl, hout, hqd]
      simp only [Bool.false_eq_true, if_false]
      rw [if_neg (by omega)]
    · rw [bases, hparts', bases, h, List.flatMap_cons, List.flatMap_cons, hq,
        List.drop_append_of_le_length (by rw [partBases_length]; omega)]
    · have hrev : isRev (setFirst l q) = (p.strand == .rev) := by
        rw [isRev, setFirst_strand l p q rest h hqs, ← isRev, isRev_first l hwf p rest h]
      have hun := adjustSingle_unshift p (c - 1) (Int.le_of_lt hpp.1)
      rw [hqd] at hun
      rw [frameshift_eq _ c true hc, hrev, Bool.bne_true,
        adjustByOffset_eq _ q rest hparts' _ (by split <;> omega) (by split <;> omega), hn, hun]
      simp only [Bool.false_eq_true, if_false, Res.bind, setFirst_setFirst l p q rest h]

end ASV.ProtDna
