/-
  C15 helper lemmas: the chunk `find_all_orfs` cuts for an intergenic area is read off the ring
  (`ringRead`), so it — and its reverse complement — is a window of the record in the sense of
  `WindowFwd` / `WindowRev`; every ORF reported for a chunk lies inside the area it was cut from.
-/
import ASV.Proofs.OrfExtract
import ASV.Proofs.OrfScan
namespace ASV.Orf
open ASV

/-- the location of `m` bases from `b` upward, inside an area `[o, en)` (around the origin when
    `o < 0`), lies in the area -/
theorem ringLoc_in_area (fwd : Bool) {L o en b m : Int} (hm : 0 < m) (ho : -L ≤ o)
    (hen : en ≤ L) (hb1 : o ≤ b) (hb2 : b + m ≤ en) :
    locInArea L (o, en) (ringLoc fwd L (b % L) m) = true := by
  have ha : (0 ≤ b ∧ b % L = b) ∨ (b < 0 ∧ b % L = b + L) := by
    by_cases hb0 : 0 ≤ b
    · exact Or.inl ⟨hb0, Int.emod_eq_of_lt hb0 (by omega)⟩
    · exact Or.inr ⟨by omega, emod_of_decomp _ _ _ (-1) (by omega) (by omega) (by omega)⟩
  generalize b % L = a at ha ⊢
  rw [locInArea, List.all_eq_true]
  intro p hp
  simp only [Bool.and_eq_true, decide_eq_true_eq]
  by_cases hc : a + m ≤ L
  · rw [ringLoc, if_pos hc] at hp
    obtain rfl := List.mem_singleton.1 hp
    refine ⟨by simp only; omega, ?_⟩
    split
    · simp only [Bool.and_eq_true, decide_eq_true_eq]; omega
    · simp only [Bool.or_eq_true, Bool.and_eq_true, decide_eq_true_eq]; omega
  · have ho' : ¬ o ≥ 0 := by omega
    rw [if_neg ho']
    simp only [Bool.or_eq_true, Bool.and_eq_true, decide_eq_true_eq]
    rcases (mem_ringLoc_parts fwd L a m hc p).1 hp with rfl | rfl
    · exact ⟨by simp only; omega, Or.inl ⟨by simp only; omega, Int.le_refl _⟩⟩
    · exact ⟨by simp only; omega, Or.inr ⟨Int.le_refl _, by simp only; omega⟩⟩

theorem upper_length (s : Seq) : (upper s).length = s.length := by
  simp only [upper, List.length_map]

theorem mem_scanOrfs {seq : Seq} {fwd : Bool} {offset minLen : Int} {recLen : Option Int} {l : Loc} :
    l ∈ scanOrfs seq fwd offset minLen recLen ↔
      ∃ s e, IsOrf (upper seq) s e ∧ minLen < orfLen s e ∧
        l = orfLoc fwd (upper seq).length offset recLen s e := by
  unfold scanOrfs
  rw [(sortByKey_perm _).mem_iff, List.mem_map]
  constructor
  · rintro ⟨⟨s, e⟩, hm, rfl⟩
    exact ⟨s, e, (mem_scanMatches.1 hm).1, (mem_scanMatches.1 hm).2, rfl⟩
  · rintro ⟨s, e, h1, h2, rfl⟩
    exact ⟨(s, e), mem_scanMatches.2 ⟨h1, h2⟩, rfl⟩

/-- what `locInArea` says of one part: inside the area, or — for an area reaching back over the
    origin — inside one of the two stretches it stands for -/
theorem locInArea_part {L : Int} {x : Int × Int} {l : Loc} (h : locInArea L x l = true) {q : Part}
    (hq : q ∈ l.parts) :
    if x.1 ≥ 0 then x.1 ≤ q.lo ∧ q.hi ≤ x.2 else (x.1 + L ≤ q.lo ∧ q.hi ≤ L) ∨ (0 ≤ q.lo ∧ q.hi ≤ x.2) := by
  simp only [locInArea, List.all_eq_true, Bool.and_eq_true, decide_eq_true_eq] at h
  have h2 := (h q hq).2
  by_cases hx : x.1 ≥ 0
  · rw [if_pos hx] at h2 ⊢
    simpa using h2
  · rw [if_neg hx] at h2 ⊢
    simpa using h2

/-- everything `scan_orfs` reports for a chunk as long as the area `[st, en)` (around the origin
    when `st < 0`) and cut at `st` lies in the area -/
theorem scanOrfs_in_area {chunk : Seq} {fwd : Bool} {st en minLen L : Int} {l : Loc} (hL : 0 < L)
    (hst : -L ≤ st) (hen : en ≤ L) (hc : (chunk.length : Int) = en - st) (hcL : en - st ≤ L)
    (hl : l ∈ scanOrfs chunk fwd st minLen (some L)) : locInArea L (st, en) l = true := by
  obtain ⟨s, e, horf, _, rfl⟩ := mem_scanOrfs.1 hl
  have hin := horf.inside
  have hlt := horf.lt
  rw [upper_length] at hin ⊢
  rw [orfLoc_ring hL hlt (by simp only [orfLen]; omega)]
  apply ringLoc_in_area fwd (by simp only [orfLen]; omega) hst hen
  · cases fwd
    · simp only [orfBase, Bool.false_eq_true, if_false]; omega
    · simp only [orfBase, if_true]; omega
  · cases fwd
    · simp only [orfBase, orfLen, Bool.false_eq_true, if_false]; omega
    · simp only [orfBase, orfLen, if_true]; omega

theorem revComp_length (s : Seq) : (revComp s).length = s.length := by
  simp only [revComp, List.length_reverse, List.length_map]

/-- the chunk cut for a well-formed area is read off the ring from an index congruent to the
    area's start -/
theorem chunkOf_ringRead {rec : Seq} {st en : Int} (hok : AreaOk rec.length (st, en))
    (hen : en ≤ rec.length) :
    ∃ a : Nat, a ≤ rec.length ∧ st % (rec.length : Int) = (a : Int) % rec.length ∧
      chunkOf rec st en = ringRead rec a (en - st).toNat := by
  obtain ⟨h1, h2, h3, h4⟩ := hok
  simp only at h1 h2 h3 h4
  unfold chunkOf ringRead
  split
  · rename_i hst
    obtain ⟨a, rfl⟩ := Int.eq_ofNat_of_zero_le hst
    obtain ⟨b, rfl⟩ := Int.eq_ofNat_of_zero_le (Int.le_trans hst h2)
    refine ⟨a, by omega, rfl, ?_⟩
    rw [slice, Int.toNat_natCast, Int.toNat_natCast, show ((b : Int) - a).toNat = b - a by omega,
      List.take_append_of_le_length (by rw [List.length_drop]; omega)]
  · rename_i hst
    obtain ⟨d, hd⟩ := Int.eq_ofNat_of_zero_le (show 0 ≤ (rec.length : Int) + st by omega)
    obtain ⟨b, rfl⟩ := Int.eq_ofNat_of_zero_le (h4 (by omega))
    refine ⟨d, by omega, by rw [← hd, Int.add_emod_left], ?_⟩
    rw [hd, Int.toNat_natCast, slice, Int.toNat_natCast, Int.toNat_zero, Nat.sub_zero, List.drop_zero,
      show ((b : Int) - st).toNat = (rec.drop d).length + b by rw [List.length_drop]; omega,
      List.take_length_add_append]

theorem chunkOf_length {rec : Seq} {st en : Int} (hok : AreaOk rec.length (st, en))
    (hen : en ≤ rec.length) : ((chunkOf rec st en).length : Int) = en - st := by
  obtain ⟨a, _, _, hc⟩ := chunkOf_ringRead hok hen
  have h2 := hok.2.1
  have h3 := hok.2.2.1
  simp only at h2 h3
  rw [hc, ringRead_length rec a _ (by omega)]
  omega

theorem chunkOf_window {rec : Seq} {st en : Int} (hok : AreaOk rec.length (st, en))
    (hen : en ≤ rec.length) : WindowFwd rec (chunkOf rec st en) st rec.length := by
  obtain ⟨a, ha, hx, hc⟩ := chunkOf_ringRead hok hen
  have h3 := hok.2.2.1
  simp only at h3
  rw [hc]
  exact ringRead_window rec st a _ ha (by omega) hx

theorem complement_upper_keys :
    ∀ p ∈ Gen.complementPairs, (complement p.1).toUpper = complement p.1.toUpper := by decide +kernel

/-- the 26 lower-case letters `'a'` (97) … `'z'` (122) -/
theorem complement_upper_lower :
    ∀ n : Fin 26, (complement (Char.ofNat (97 + n.val))).toUpper
      = complement (Char.ofNat (97 + n.val)).toUpper := by decide +kernel

theorem complement_of_not_key (c : Char) (h : ∀ p ∈ Gen.complementPairs, p.1 ≠ c) : complement c = c := by
  unfold complement
  have : Gen.complementPairs.find? (fun p => p.1 == c) = none := by
    rw [List.find?_eq_none]
    intro p hp
    simpa using h p hp
  rw [this]

/-- Biopython's complement table (regenerated) commutes with ASCII upper-casing, so the
    reverse-strand extraction needs no assumption about the record's case -/
theorem complement_upper (c : Char) : (complement c).toUpper = complement c.toUpper := by
  by_cases hkey : ∃ p ∈ Gen.complementPairs, p.1 = c
  · obtain ⟨p, hp, rfl⟩ := hkey
    exact complement_upper_keys p hp
  · have hnk : ∀ p ∈ Gen.complementPairs, p.1 ≠ c := fun p hp he => hkey ⟨p, hp, he⟩
    by_cases hl : 'a'.val ≤ c.val ∧ c.val ≤ 'z'.val
    · -- a lower-case letter: one of 26 characters
      have h1 : 97 ≤ c.toNat := by
        have := hl.1; rw [UInt32.le_iff_toNat_le] at this; exact this
      have h2 : c.toNat ≤ 122 := by
        have := hl.2; rw [UInt32.le_iff_toNat_le] at this; exact this
      have := complement_upper_lower ⟨c.toNat - 97, by omega⟩
      simp only at this
      rw [show 97 + (c.toNat - 97) = c.toNat by omega, Char.ofNat_toNat] at this
      exact this
    · have hup : c.toUpper = c := by unfold Char.toUpper; rw [dif_neg hl]
      rw [hup, complement_of_not_key c hnk, hup]

theorem windowRev_of_fwd {rec chunk : Seq} {o L : Int} (h : WindowFwd rec chunk o L) :
    WindowRev complement rec (revComp chunk) o L := by
  intro k hk
  rw [revComp_length] at hk
  rw [revComp_length, revComp, getElem?_map_reverse, if_pos hk, h (chunk.length - 1 - k) (by omega)]
  congr 4
  omega

end ASV.Orf
namespace ASV.C15
open ASV ASV.Orf

/-- the window scanned on strand `fwd` for a chunk -/
def strandWindow (fwd : Bool) (chunk : Seq) : Seq := if fwd then chunk else revComp chunk

theorem strandWindow_length (fwd : Bool) (chunk : Seq) : (strandWindow fwd chunk).length = chunk.length := by
  cases fwd
  · exact revComp_length chunk
  · rfl

end ASV.C15
namespace ASV.Orf
open ASV C15

/-- upper-casing record and window keeps a window, when the strand's per-base map commutes with it -/
theorem Window.upper {fwd : Bool} {comp : Char → Char}
    (hcomm : ∀ c, (strandComp fwd comp c).toUpper = strandComp fwd comp c.toUpper)
    {rec w : Seq} {o : Int} {rl : Option Int} (h : Window fwd comp rec w o rl) :
    Window fwd comp (upper rec) (upper w) o rl := by
  intro k hk
  rw [upper_length] at hk
  rw [upper_length]
  simp only [Orf.upper, List.getElem?_map, h k hk, Option.map_map]
  congr 1
  funext c
  exact hcomm c

/-- the window scanned on either strand for an area is a window of the record -/
theorem chunkOf_strandWindow (fwd : Bool) {rec : Seq} {st en : Int} (hok : AreaOk rec.length (st, en))
    (hen : en ≤ rec.length) :
    Window fwd complement rec (strandWindow fwd (chunkOf rec st en)) st (some (rec.length : Int)) := by
  cases fwd
  · exact windowRev_of_fwd (chunkOf_window hok hen)
  · exact windowFwd_iff.mp (chunkOf_window hok hen)

/-- every location reported for an area's window, on either strand, extracts from the upper-cased record to an ORF of
    the upper-cased window -/
theorem scanOrfs_extract (fwd : Bool) {comp : Char → Char}
    (hcomm : ∀ c, (strandComp fwd comp c).toUpper = strandComp fwd comp c.toUpper) {rec : Seq} {st en minLen : Int}
    (hL : 0 < rec.length) (hok : AreaOk rec.length (st, en)) (hen : en ≤ rec.length)
    (hwin : Window fwd comp rec (strandWindow fwd (chunkOf rec st en)) st (some (rec.length : Int))) {l : Loc}
    (hl : l ∈ scanOrfs (strandWindow fwd (chunkOf rec st en)) fwd st minLen (some (rec.length : Int))) :
    ∃ s e, IsOrf (upper (strandWindow fwd (chunkOf rec st en))) s e ∧
      extract comp (upper rec) l = orfSeq (upper (strandWindow fwd (chunkOf rec st en))) s e := by
  obtain ⟨s, e, horf, _, rfl⟩ := mem_scanOrfs.1 hl
  have hin := horf.inside
  have hlenC := chunkOf_length hok hen
  have h3 := hok.2.2.1
  rw [upper_length, strandWindow_length] at hin
  exact ⟨s, e, horf, extract_ring fwd comp (upper_length rec) hL (hwin.upper hcomm) horf.lt horf.inside
    (by simp only [orfLen]; omega)⟩

/-- what the scanning loop of `find_all_orfs` returns when no `assert end <= len(record)` fails:
    for every area, the forward scan of its chunk and the reverse scan of the chunk's reverse
    complement — nothing else, nothing less -/
theorem scanAreas_mem {rec : Seq} {minLen : Int} :
    ∀ {areas : List (Int × Int)} {locs : List Loc}, scanAreas rec minLen areas = some locs →
      (∀ a ∈ areas, a.2 ≤ (rec.length : Int)) ∧
      ∀ l, l ∈ locs ↔ ∃ a ∈ areas, ∃ fwd,
        l ∈ scanOrfs (strandWindow fwd (chunkOf rec a.1 a.2)) fwd a.1 minLen (some (rec.length : Int)) := by
  intro areas
  induction areas with
  | nil =>
    intro locs h
    simp only [scanAreas, Option.some.injEq] at h
    subst h
    exact ⟨fun a ha => absurd ha List.not_mem_nil, fun l => by
      simp only [List.not_mem_nil, false_and, exists_false]⟩
  | cons a rest ih =>
    intro locs h
    obtain ⟨st, en⟩ := a
    unfold scanAreas at h
    split at h
    · rename_i hen
      cases hrest : scanAreas rec minLen rest with
      | none => rw [hrest] at h; simp only [Option.map_none, reduceCtorEq] at h
      | some restLocs =>
        rw [hrest] at h
        simp only [Option.map_some, Option.some.injEq] at h
        subst h
        obtain ⟨hall, hmem⟩ := ih hrest
        refine ⟨fun a ha => ?_, fun l => ?_⟩
        · rcases List.mem_cons.1 ha with rfl | ha
          · exact hen
          · exact hall a ha
        · simp only [List.mem_append, hmem l, List.mem_cons, exists_eq_or_imp, Bool.exists_bool,
            strandWindow, Bool.false_eq_true, if_false, if_true]
          exact or_congr Or.comm Iff.rfl
    · simp only [reduceCtorEq] at h

theorem scanAreas_in_areas {rec : Seq} {minLen : Int} (hL : 0 < rec.length) {areas : List (Int × Int)}
    {locs : List Loc} (hok : ∀ a ∈ areas, AreaOk rec.length a)
    (h : scanAreas rec minLen areas = some locs) :
    ∀ l ∈ locs, ∃ a ∈ areas, locInArea rec.length a l = true := by
  intro l hl
  obtain ⟨hen, hmem⟩ := scanAreas_mem h
  obtain ⟨a, ha, fwd, hl⟩ := (hmem l).1 hl
  have he := hen a ha
  obtain ⟨h1, _, h3, _⟩ := hok a ha
  exact ⟨a, ha, scanOrfs_in_area (by omega) h1 he
    (by rw [strandWindow_length]; exact chunkOf_length (hok a ha) he) h3 hl⟩

/-- the loop fails only on `assert end <= len(record)` -/
theorem scanAreas_isSome (rec : Seq) (minLen : Int) :
    ∀ (areas : List (Int × Int)), (∀ a ∈ areas, a.2 ≤ (rec.length : Int)) →
      ∃ locs, scanAreas rec minLen areas = some locs := by
  intro areas
  induction areas with
  | nil => intro _; exact ⟨[], rfl⟩
  | cons a rest ih =>
    intro h
    obtain ⟨st, en⟩ := a
    obtain ⟨locs, hl⟩ := ih (fun a ha => h a (List.mem_cons_of_mem _ ha))
    have := h (st, en) List.mem_cons_self
    simp only at this
    unfold scanAreas
    rw [if_pos this, hl]
    exact ⟨_, rfl⟩

end ASV.Orf
