/-
  C17 helper lemmas, per stage: each modelled stage gives the same result for every enumeration of
  the hash-ordered containers it reads.
-/
import ASV.Proofs.DeterminismSort
import ASV.Proofs.RefineOrder
import ASV.Proofs.HitFilterEquiv
namespace ASV.Determinism
open ASV.Refine ASV.HitFilter

theorem isPermB_iff {α : Type} [DecidableEq α] (a b : List α) : isPermB a b = true ↔ a.Perm b := by
  rw [List.perm_iff_count]
  simp only [isPermB, Bool.and_eq_true, List.all_eq_true, beq_iff_eq]
  constructor
  · rintro ⟨h1, h2⟩ x
    by_cases ha : x ∈ a
    · exact h1 x ha
    · by_cases hb : x ∈ b
      · exact h2 x hb
      · rw [List.count_eq_zero_of_not_mem ha, List.count_eq_zero_of_not_mem hb]
  · intro h
    exact ⟨fun x _ => h x, fun x _ => h x⟩

theorem pairwiseAll_iff {α : Type} (r : α → α → Bool) : ∀ l : List α,
    pairwiseAll r l = true ↔ l.Pairwise (fun a b => r a b = true)
  | [] => by simp [pairwiseAll]
  | a :: l => by simp [pairwiseAll, pairwiseAll_iff r l, List.all_eq_true]

theorem hasKeyTie_false_iff {α κ : Type} [DecidableEq α] [DecidableEq κ] (key : α → κ) : ∀ l : List α,
    l.Nodup → (hasKeyTie key l = false ↔ ∀ a ∈ l, ∀ b ∈ l, key a = key b → a = b)
  | [], _ => by simp [hasKeyTie]
  | a :: l, hn => by
    rw [List.nodup_cons] at hn
    simp only [hasKeyTie, Bool.or_eq_false_iff, hasKeyTie_false_iff key l hn.2, List.any_eq_false,
      Bool.and_eq_true, decide_eq_true_eq, not_and, List.mem_cons]
    constructor
    · rintro ⟨h1, h2⟩ x hx y hy hk
      rcases hx with rfl | hx <;> rcases hy with rfl | hy
      · rfl
      · exact absurd hk (h1 y hy (fun e => hn.1 (e ▸ hy)))
      · exact absurd hk.symm (h1 x hx (fun e => hn.1 (e ▸ hx)))
      · exact h2 x hx y hy hk
    · intro h
      refine ⟨fun b hb hne hk => hne (h _ (Or.inl rfl) b (Or.inr hb) hk), fun x hx y hy hk => h x (Or.inr hx) y (Or.inr hy) hk⟩

theorem tripleLt_false_iff (a b : Int × Int × Int × Int × Int) : tripleLt b a = false ↔ keyLe a b = true := by
  simp only [tripleLt, keyLe, ← Bool.not_eq_true, Bool.or_eq_true, Bool.and_eq_true, decide_eq_true_eq]
  exact lex_not_lt (lex_not_lt (lex_not_lt (lex_not_lt Int.not_lt)))

/-- a listing that meets `canonicalBy` is the keyed sort of any enumeration of the members -/
theorem canonical_unique {α κ : Type} [DecidableEq α] (key : α → κ) (ltK leK : κ → κ → Bool)
    (hlt : ∀ a b, ltK b a = false ↔ leK a b = true)
    (total : ∀ a b, leK a b = true ∨ leK b a = true)
    (trans : ∀ a b c, leK a b = true → leK b c = true → leK a c = true)
    (antisymm : ∀ a b, leK a b = true → leK b a = true → a = b) {members out : List α}
    (inj : ∀ a ∈ members, ∀ b ∈ members, key a = key b → a = b)
    (h : canonicalBy key ltK members out = true) :
    out = sortBy (fun a b => leK (key a) (key b)) members := by
  simp only [canonicalBy, Bool.and_eq_true, isPermB_iff, pairwiseAll_iff] at h
  obtain ⟨hp, hs⟩ := h
  -- a sorted list is its own sort, and the sort is a function of the members
  rw [← sortBy_of_pairwise (le := fun a b => leK (key a) (key b))
    (hs.imp fun {a b} hab => (hlt (key a) (key b)).mp (by simpa using hab))]
  exact (sortBy_key_eq_of_perm key total trans antisymm inj hp).symm

theorem sortBy_canonical {α κ : Type} [DecidableEq α] (key : α → κ) (ltK leK : κ → κ → Bool)
    (hlt : ∀ a b, ltK b a = false ↔ leK a b = true)
    (total : ∀ a b, leK a b = true ∨ leK b a = true)
    (trans : ∀ a b c, leK a b = true → leK b c = true → leK a c = true) (members : List α) :
    canonicalBy key ltK members (sortBy (fun a b => leK (key a) (key b)) members) = true := by
  simp only [canonicalBy, Bool.and_eq_true, isPermB_iff, pairwiseAll_iff]
  refine ⟨(sortBy_perm _ members).symm, ?_⟩
  exact (sortBy_pairwise (fun a b => total (key a) (key b)) (fun a b c => trans (key a) (key b) (key c)) members).imp
    (fun {a b} hab => by simpa using (hlt (key a) (key b)).mpr hab)

/-- no two members of the container agree on the sort key -/
def KeyInj (cross : Bool) (L : Int) (l : List Proto) : Prop :=
  ∀ a ∈ l, ∀ b ∈ l, protoKey cross L a = protoKey cross L b → a = b

theorem uniqueProtoclusters_perm {cross : Bool} {L : Int} {l₁ l₂ : List Proto} (inj : KeyInj cross L l₁)
    (h : l₁.Perm l₂) : uniqueProtoclusters cross L l₁ = uniqueProtoclusters cross L l₂ :=
  sortBy_key_eq_of_perm (protoKey cross L) keyLe_total keyLe_trans keyLe_antisymm inj h

theorem flatMap_perm_of_sameDict {κ α : Type} : ∀ {d₁ d₂ : List (κ × List α)}, SameDictOfSets d₁ d₂ →
    (d₁.flatMap (·.2)).Perm (d₂.flatMap (·.2))
  | _, _, .nil => List.Perm.refl _
  | _, _, .cons h t => by
    simp only [List.flatMap_cons]
    exact h.2.append (flatMap_perm_of_sameDict t)

theorem foldSorted_perm {α β : Type} {le : α → α → Bool} (total : ∀ a b, le a b = true ∨ le b a = true)
    (trans : ∀ a b c, le a b = true → le b c = true → le a c = true) (f : β → α → β) (init : β) {l₁ l₂ : List α}
    (antisymm : ∀ a ∈ l₁, ∀ b ∈ l₁, le a b = true → le b a = true → a = b) (h : l₁.Perm l₂) :
    foldSorted le f init l₁ = foldSorted le f init l₂ := by
  simp only [foldSorted, sortBy_eq_of_perm_on total trans antisymm h]

theorem annotate_core_same (existing : List GeneFn) : ∀ {d₁ d₂ : List (Int × List Int)}, SameDictOfSets d₁ d₂ →
    d₁.foldl (fun acc kv => foldSorted leInt (fun acc d => addNew acc ⟨true, d, some kv.1⟩) acc kv.2) existing =
    d₂.foldl (fun acc kv => foldSorted leInt (fun acc d => addNew acc ⟨true, d, some kv.1⟩) acc kv.2) existing
  | _, _, .nil => rfl
  | _, _, .cons (a := a) (b := b) h t => by
    simp only [List.foldl_cons]
    have : foldSorted leInt (fun acc d => addNew acc ⟨true, d, some a.1⟩) existing a.2 =
        foldSorted leInt (fun acc d => addNew acc ⟨true, d, some b.1⟩) existing b.2 := by
      rw [h.1]
      exact foldSorted_perm leInt_total leInt_trans _ _ (fun x _ y _ => leInt_antisymm x y) h.2
    rw [this]
    exact annotate_core_same _ t

theorem annotate_same (existing : List GeneFn) (prevIds domains : List Int) {d₁ d₂ : List (Int × List Int)}
    (h : SameDictOfSets d₁ d₂) : annotate existing prevIds d₁ domains = annotate existing prevIds d₂ domains := by
  simp only [annotate, annotate_core_same existing h]
  have hc : ∀ d, (prevIds ++ d₁.flatMap (·.2)).contains d = (prevIds ++ d₂.flatMap (·.2)).contains d :=
    fun d => ((List.Perm.refl prevIds).append (flatMap_perm_of_sameDict h)).contains_eq
  have : (fun (acc : List GeneFn) (d : Int) =>
        if (prevIds ++ d₁.flatMap (·.2)).contains d then acc else addNew acc ⟨false, d, none⟩) =
      (fun acc d => if (prevIds ++ d₂.flatMap (·.2)).contains d then acc else addNew acc ⟨false, d, none⟩) := by
    funext acc d; rw [hc d]
  rw [this]

theorem leNat_total (a b : Nat) : leNat a b = true ∨ leNat b a = true := by
  simp only [leNat, decide_eq_true_eq]; omega
theorem leNat_trans (a b c : Nat) : leNat a b = true → leNat b c = true → leNat a c = true := by
  simp only [leNat, decide_eq_true_eq]; omega
theorem leNat_antisymm (a b : Nat) : leNat a b = true → leNat b a = true → a = b := by
  simp only [leNat, decide_eq_true_eq]; omega

theorem bestOfGroup_perm {l₁ l₂ : List FHit} (inj : ∀ a ∈ l₁, ∀ b ∈ l₁, a.uid = b.uid → a = b) (h : l₁.Perm l₂) :
    bestOfGroup l₁ = bestOfGroup l₂ := by
  simp only [bestOfGroup, sortBy_key_eq_of_perm (fun x : FHit => x.uid) leNat_total leNat_trans leNat_antisymm inj h]

/-- `enum` iterates each group set in some order -/
def Enumerates (enum : List FHit → List FHit) : Prop := ∀ g, (enum g).Perm g

theorem removedByE_mem_iff {e₁ e₂ : List FHit → List FHit} (h₁ : Enumerates e₁) (h₂ : Enumerates e₂)
    {gs : List (List FHit)} (inj : ∀ g ∈ gs, ∀ a ∈ g, ∀ b ∈ g, a.uid = b.uid → a = b) (u : Nat) :
    u ∈ removedByE e₁ gs ↔ u ∈ removedByE e₂ gs := by
  simp only [removedByE, List.mem_flatMap]
  have key : ∀ g ∈ gs, (u ∈ (match bestOfGroup (e₁ g) with
        | none => []
        | some best => ((e₁ g).filter (fun (h : FHit) => h.uid != best.uid)).map FHit.uid)) ↔
      (u ∈ (match bestOfGroup (e₂ g) with
        | none => []
        | some best => ((e₂ g).filter (fun (h : FHit) => h.uid != best.uid)).map FHit.uid)) := by
    intro g hg
    have hp : (e₁ g).Perm (e₂ g) := (h₁ g).trans (h₂ g).symm
    have hb : bestOfGroup (e₁ g) = bestOfGroup (e₂ g) :=
      bestOfGroup_perm (fun a ha b hb => inj g hg a ((h₁ g).mem_iff.mp ha) b ((h₁ g).mem_iff.mp hb)) hp
    rw [hb]
    cases bestOfGroup (e₂ g) with
    | none => exact Iff.rfl
    | some best => exact ((hp.filter _).map _).mem_iff
  constructor
  · rintro ⟨g, hg, hu⟩; exact ⟨g, hg, (key g hg).mp hu⟩
  · rintro ⟨g, hg, hu⟩; exact ⟨g, hg, (key g hg).mpr hu⟩

theorem filterPassE_same {e₁ e₂ : List FHit → List FHit} (h₁ : Enumerates e₁) (h₂ : Enumerates e₂)
    (hits : List FHit) (hu : UidInj hits) (eq : List Int) : filterPassE e₁ hits eq = filterPassE e₂ hits eq := by
  simp only [filterPassE]
  split
  · rfl
  · apply List.filter_congr
    intro h _
    have inj : ∀ g ∈ overlappingGroups hits, ∀ a ∈ g, ∀ b ∈ g, a.uid = b.uid → a = b :=
      fun g hg a ha b hb => hu a (overlappingGroups_within hits g hg a ha) b (overlappingGroups_within hits g hg b hb)
    congr 1
    rw [Bool.eq_iff_iff]
    simp only [List.contains_iff_mem]
    exact removedByE_mem_iff h₁ h₂ inj h.uid

theorem filterPassE_sublist (e : List FHit → List FHit) (hits : List FHit) (eq : List Int) :
    (filterPassE e hits eq).Sublist hits := by
  simp only [filterPassE]
  split
  · exact List.Sublist.refl _
  · exact List.filter_sublist

theorem foldl_filterPassE_same {e₁ e₂ : List FHit → List FHit} (h₁ : Enumerates e₁) (h₂ : Enumerates e₂) :
    ∀ (eqs : List (List Int)) (hits : List FHit), UidInj hits →
      eqs.foldl (filterPassE e₁) hits = eqs.foldl (filterPassE e₂) hits
  | [], _, _ => rfl
  | eq :: eqs, hits, hu => by
    simp only [List.foldl_cons, filterPassE_same h₁ h₂ hits hu eq]
    exact foldl_filterPassE_same h₁ h₂ eqs _ (hu.sublist (filterPassE_sublist e₂ hits eq))

/-- qualifier keys are unique (a dict) and the notes are kept outside the dict -/
def QualsWF (f : Feat) : Prop := (f.quals.map (·.1)).Nodup ∧ noteKey ∉ f.quals.map (·.1)

/-- the same feature with its qualifier dict filled in another order and its notes collected in
    another order -/
def SameFeature (f f' : Feat) : Prop :=
  f.start = f'.start ∧ f.len = f'.len ∧ f.source = f'.source ∧ f.quals.Perm f'.quals ∧ f.notes.Perm f'.notes ∧
  QualsWF f

theorem emitQuals_same {q q' : List (Int × List Int)} {n n' : List Int} (hq : q.Perm q') (hn : n.Perm n')
    (hk : (q.map (·.1)).Nodup) (hnote : noteKey ∉ q.map (·.1)) : emitQuals q n = emitQuals q' n' := by
  have he : n.isEmpty = n'.isEmpty := isEmpty_eq_of_same_members fun _ => hn.mem_iff
  simp only [emitQuals, ← he, sortedNames_perm hn.symm]
  split
  · exact sortBy_key_eq_of_perm (fun x : Int × List Int => x.1) leInt_total leInt_trans leInt_antisymm (inj_of_nodup_map _ hk) hq
  · apply sortBy_key_eq_of_perm (fun x : Int × List Int => x.1) leInt_total leInt_trans leInt_antisymm
    · exact inj_of_nodup_map _ (List.nodup_cons.mpr ⟨hnote, hk⟩)
    · exact hq.cons _

theorem emitFeature_same {f f' : Feat} (h : SameFeature f f') : emitFeature f = emitFeature f' := by
  obtain ⟨h1, h2, h3, h4, h5, h6, h7⟩ := h
  simp only [emitFeature, h1, h2, h3, emitQuals_same h4 h5 h6 h7]

theorem featBefore_same {a a' b b' : Feat} (ha : SameFeature a a') (hb : SameFeature b b') :
    featBefore a b = featBefore a' b' := by
  obtain ⟨a1, a2, a3, _⟩ := ha
  obtain ⟨b1, b2, b3, _⟩ := hb
  simp only [featBefore, featLt, a1, a2, b1, b2, b3]

/-- no two members agree on start, length, product and core -/
def FieldsInj (l : List Proto) : Prop :=
  ∀ a ∈ l, ∀ b ∈ l, a.start = b.start → a.len = b.len → a.product = b.product → a.coreStart = b.coreStart →
    a.coreEnd = b.coreEnd → a = b

theorem protoKey_eq (cross : Bool) (L : Int) (p : Proto) : protoKey cross L p =
    (if (cross && decide (2 * p.start < L)) = true then p.start + L else p.start, -p.len, p.product, p.coreStart,
      p.coreEnd) := by
  unfold protoKey
  split <;> rfl

theorem keyInj_of_fieldsInj {cross : Bool} {L : Int} {l : List Proto} (h : FieldsInj l)
    (hr : cross = true → ∀ p ∈ l, 0 ≤ p.start ∧ p.start < L) : KeyInj cross L l := by
  intro a ha b hb hk
  rw [protoKey_eq, protoKey_eq] at hk
  simp only [Prod.mk.injEq] at hk
  obtain ⟨h0, h1, h2, h3, h4⟩ := hk
  refine h a ha b hb ?_ (Int.neg_inj.mp h1) h2 h3 h4
  cases cross with
  | false => exact h0
  | true =>
    -- a start shifted by `L` cannot meet an unshifted one, both lying in `[0, L)`
    have ra := hr rfl a ha
    have rb := hr rfl b hb
    split at h0 <;> split at h0 <;> omega

theorem outsideGo_congr (hasDomains : Int → Bool) : ∀ (sub a₁ a₂ acc : List Int), (∀ x, x ∈ a₁ ↔ x ∈ a₂) →
    (outsideGo hasDomains a₁ acc sub).2 = (outsideGo hasDomains a₂ acc sub).2 ∧
    (∀ x, x ∈ (outsideGo hasDomains a₁ acc sub).1 ↔ x ∈ (outsideGo hasDomains a₂ acc sub).1)
  | [], a₁, a₂, acc, h => ⟨rfl, h⟩
  | cds :: rest, a₁, a₂, acc, h => by
    have hc : a₁.contains cds = a₂.contains cds := by
      rw [Bool.eq_iff_iff]; simp only [List.contains_iff_mem]; exact h cds
    simp only [outsideGo, hc]
    split
    · exact outsideGo_congr hasDomains rest a₁ a₂ acc h
    · split
      · apply outsideGo_congr hasDomains rest
        intro x
        simp only [List.mem_append, h x]
      · exact outsideGo_congr hasDomains rest a₁ a₂ acc h

theorem byCdsArea_label (circular : Bool) (L pad : Int) (g : Int × Int) (n : Int) : (byCdsArea circular L pad g n).2.2 = n := by
  unfold byCdsArea; split <;> rfl

theorem restrictRules_congr (rules : List (Int × Int)) {n₁ n₂ c₁ c₂ : List Int} (hn : ∀ x, x ∈ n₁ ↔ x ∈ n₂)
    (hc : ∀ x, x ∈ c₁ ↔ x ∈ c₂) : restrictRules rules n₁ c₁ = restrictRules rules n₂ c₂ := by
  have e1 : ∀ x, n₁.contains x = n₂.contains x := fun x => by
    rw [Bool.eq_iff_iff]; simp only [List.contains_iff_mem]; exact hn x
  have e2 : ∀ x, c₁.contains x = c₂.contains x := fun x => by
    rw [Bool.eq_iff_iff]; simp only [List.contains_iff_mem]; exact hc x
  simp only [restrictRules, isEmpty_eq_of_same_members hn, isEmpty_eq_of_same_members hc, e1, e2]

/-- no two different members of the group have the same bitscore -/
def NoScoreTies (l : List FHit) : Prop := ∀ a ∈ l, ∀ b ∈ l, a.sc = b.sc → a = b

end ASV.Determinism
