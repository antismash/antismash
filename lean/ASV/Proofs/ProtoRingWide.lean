/-
  C03, circular records, single-part cores: the arcs `[A, B)` of a ring (`InnerArc`, `WideArc`) inside which
  `connect_locations` never goes over the origin and the ring distance of two genes is their line distance;
  `_extend_area_location` of a single-part core in closed form on any ring (capped distance, window wrapping over
  the origin or covering the whole record) and from it `ArcOps` for a `WideArc`; `merge_over_origin` leaves
  single-part cores of a wide arc alone when they are at least the cutoff apart.
-/
import ASV.Proofs.ProtoRingSep
namespace ASV.Proto
open ASV ASV.ChainSweep ASV.Chains

theorem connect_ring_nowrap (ls : List Loc) (L : Int) (hne : ls ≠ []) (hL : 0 < L)
    (h : ∀ l ∈ ls, l.parts ≠ [] ∧ bridgesOrigin l = false) (hpos : ∀ l ∈ ls, l.start < l.end)
    (hno : ∀ f ∈ ls, ∀ s ∈ ls, ¬ (s.start - f.end > L / 2)) :
    connect ls (some L) = .ok (.simple ⟨minList (ls.map (·.start)), maxList (ls.map (·.end)), commonStrand ls⟩) := by
  have hany : ls.any bridgesOrigin = false := by
    rw [List.any_eq_false]; intro l hl; simp [(h l hl).2]
  have hred := mapM_reduce ls (some L) h
  have hmap : ls.map Loc.span = (ls.map fun l => (⟨l.start, l.end, l.strand⟩ : Part)).map Loc.simple := by
    rw [List.map_map]; rfl
  rw [hmap] at hred
  have hw : isWrappingShorter ((ls.map fun l => (⟨l.start, l.end, l.strand⟩ : Part)).map Loc.simple) L = false := by
    apply nowrap_simples _ L hL
    · intro q hq
      obtain ⟨l, hl, rfl⟩ := List.mem_map.1 hq
      exact hpos l hl
    · intro f hf s hs _
      obtain ⟨lf, hlf, rfl⟩ := List.mem_map.1 hf
      obtain ⟨l2, hl2, rfl⟩ := List.mem_map.1 hs
      exact hno lf hlf l2 hl2
  have := connectLocations_A_nowrap 3 ls L _ hne (by simpa using hne) hL hred hany hw
  show connectLocations 4 ls (some L) = _
  rw [this, ← hmap]
  have e1 : (ls.map Loc.span).map (·.start) = ls.map (·.start) := by rw [List.map_map]; rfl
  have e2 : (ls.map Loc.span).map (·.end) = ls.map (·.end) := by rw [List.map_map]; rfl
  simp only [hullOf, commonStrand_span, e1, e2]

/-- the arc: `d` away from both ends of the coordinate range and at most half of the record -/
structure InnerArc (L d A B : Int) : Prop where
  dpos : 0 ≤ d
  left : d ≤ A
  right : B + d ≤ L
  half : 2 * (B - A) ≤ L

theorem InnerArc.Lpos {L d A B : Int} (h : InnerArc L d A B) (hab : A < B) : 0 < L := by
  have := h.dpos; have := h.left; have := h.right; omega

/-- the arc `[A, B)` lies in the record, the arc and the distance `c` together fit into the record
    (so nothing reaches a gene of the arc the other way round), and the arc is at most half of it -/
structure WideArc (L c A B : Int) : Prop where
  cpos : 0 ≤ c
  lo : 0 ≤ A
  hi : B ≤ L
  room : (B - A) + c ≤ L
  half : 2 * (B - A) ≤ L

theorem InnerArc.wide {L c A B : Int} (h : InnerArc L c A B) (hA : 0 ≤ A) : WideArc L c A B :=
  ⟨h.dpos, hA, by have := h.right; have := h.dpos; omega, by have := h.left; have := h.right; omega, h.half⟩

theorem WideArc.Lpos {L c A B : Int} (h : WideArc L c A B) (hab : A < B) : 0 < L := by
  have := h.lo; have := h.hi; omega

/-! ### `connect_locations` and the ring relation inside an arc of at most half the ring -/

/-- locations that do not bridge the origin and lie in an arc `[A, B)` of at most half the ring are joined
    as on a line: the way over the origin is never shorter -/
theorem connect_ring_arc (ls : List Loc) (L A B : Int) (hne : ls ≠ []) (hhalf : 2 * (B - A) ≤ L)
    (h : ∀ l ∈ ls, (l.parts ≠ [] ∧ bridgesOrigin l = false) ∧ A ≤ l.start ∧ l.start < l.end ∧ l.end ≤ B) :
    connect ls (some L) = .ok (.simple ⟨minList (ls.map (·.start)), maxList (ls.map (·.end)), commonStrand ls⟩) := by
  obtain ⟨l0, hl0⟩ := List.exists_mem_of_ne_nil ls hne
  have hL : 0 < L := by have := (h l0 hl0).2; omega
  refine connect_ring_nowrap ls L hne hL (fun l hl => (h l hl).1) (fun l hl => (h l hl).2.2.1) ?_
  intro f hf s hs
  have := (h f hf).2
  have := (h s hs).2
  omega

theorem GeneIn.inArc {L A B : Int} {l : Loc} (h : GeneIn L A B l) :
    (l.parts ≠ [] ∧ bridgesOrigin l = false) ∧ A ≤ l.start ∧ l.start < l.end ∧ l.end ≤ B :=
  ⟨⟨h.ok.ne, h.ok.nb⟩, h.lo, h.ok.start_lt_end, h.hi⟩

theorem simple_inArc {A B : Int} {p : Part} (hp0 : A ≤ p.lo) (hp1 : p.lo < p.hi) (hp2 : p.hi ≤ B) :
    ((Loc.simple p).parts ≠ [] ∧ bridgesOrigin (Loc.simple p) = false) ∧
      A ≤ (Loc.simple p).start ∧ (Loc.simple p).start < (Loc.simple p).end ∧ (Loc.simple p).end ≤ B :=
  ⟨⟨by simp [Loc.parts], rfl⟩, hp0, hp1, hp2⟩

theorem connect_gene_ring (L A B : Int) (hhalf : 2 * (B - A) ≤ L) (cds : Loc) (h : GeneIn L A B cds) :
    connect [cds] (some L) = .ok (.simple ⟨cds.start, cds.end, cds.strand⟩) := by
  rw [connect_ring_arc [cds] L A B (by simp) hhalf (List.forall_mem_singleton.2 h.inArc)]
  simp [minList, maxList, commonStrand]

/-- two locations of the arc are joined into the span from the lesser start to the greater end -/
theorem connect_two_ring (L A B : Int) (hhalf : 2 * (B - A) ≤ L) (a b : Loc)
    (ha : (a.parts ≠ [] ∧ bridgesOrigin a = false) ∧ A ≤ a.start ∧ a.start < a.end ∧ a.end ≤ B)
    (hb : (b.parts ≠ [] ∧ bridgesOrigin b = false) ∧ A ≤ b.start ∧ b.start < b.end ∧ b.end ≤ B) :
    ∃ s, connect [a, b] (some L) = .ok (.simple ⟨min a.start b.start, max a.end b.end, s⟩) := by
  rw [connect_ring_arc [a, b] L A B (by simp) hhalf (forall_mem_pair ha hb)]
  exact ⟨commonStrand [a, b], by simp [minList, maxList]⟩

/-- the ring relation of two genes of a wide arc is `reach` on their spans -/
theorem nearB_ring_wide_iff (L c A B : Int) (harc : WideArc L c A B) (a b : Loc)
    (ha : GeneIn L A B a) (hb : GeneIn L A B b) :
    nearB L c a b = true ↔ reach Loc.start Loc.end c a b := by
  have hlt := ha.ok.start_lt_end
  have hL : L ≠ 0 := by have := harc.Lpos (by have := ha.lo; have := ha.hi; omega); omega
  exact nearB_iff_reach L c harc.cpos a b ha.ok.nb hb.ok.nb hlt hb.ok.start_lt_end
    (specPartDist_arc L A B hL harc.half _ _ hlt hb.ok.start_lt_end ha.lo ha.hi hb.lo hb.hi)

/-! ### `_extend_area_location` of a single-part core on any ring -/

/-- the distance `_extend_area_location` really uses on a ring: the asked one, capped at half of what a
    location of length `n` leaves free, plus one -/
theorem cap_bounds (c L n : Int) (hc : 0 ≤ c) (hn : 0 < n) (hnL : n ≤ L) :
    0 ≤ min c ((L - n) / 2 + 1) ∧ min c ((L - n) / 2 + 1) ≤ L := by
  omega

/-- the capped distance without the division: all that linear arithmetic needs to know of it -/
theorem cap_linear (c L n : Int) :
    min c ((L - n) / 2 + 1) ≤ c ∧ 2 * min c ((L - n) / 2 + 1) ≤ L - n + 2 ∧
      (min c ((L - n) / 2 + 1) = c ∨ L - n < 2 * min c ((L - n) / 2 + 1)) := by
  omega

/-- the widened single-part core on a ring is an area at least as long as the core -/
theorem extSimpleRing_area (lo hi d L : Int) (hL : 0 < L) (h0 : 0 ≤ lo) (h1 : lo < hi) (h2 : hi ≤ L)
    (hd : 0 ≤ d) :
    RingArea L (extSimpleRing ⟨lo, hi, .fwd⟩ d L) ∧ hi - lo ≤ (extSimpleRing ⟨lo, hi, .fwd⟩ d L).len := by
  unfold extSimpleRing
  simp only [beq_iff_eq, reduceCtorEq, if_false]
  by_cases hW : lo - d < 0 ∧ lo - d + L ≤ hi + d
  · rw [if_pos hW]
    refine ⟨RingArea.simple (by simp only; omega) (by simp only; omega) (by simp only; omega), by simp [Loc.len, Loc.parts, Part.len]; omega⟩
  · rw [if_neg hW]
    by_cases hA : lo - d < 0
    · rw [if_pos hA]
      refine ⟨RingArea.two (by omega) (by omega) (by omega), by simp [Loc.len, Loc.parts, Part.len]; omega⟩
    · rw [if_neg hA]
      by_cases hB : hi + d > L
      · rw [if_pos hB]
        by_cases hC : hi + d - L > lo - d
        · rw [if_pos hC]
          refine ⟨RingArea.simple (by simp only; omega) (by simp only; omega) (by simp only; omega), by simp [Loc.len, Loc.parts, Part.len]; omega⟩
        · rw [if_neg hC]
          refine ⟨RingArea.two (by omega) (by omega) (by omega), by simp [Loc.len, Loc.parts, Part.len]; omega⟩
      · rw [if_neg hB]
        refine ⟨RingArea.simple (by simp only; omega) (by simp only; omega) (by simp only; omega), by simp [Loc.len, Loc.parts, Part.len]; omega⟩

/-- `_extend_area_location` of a single-part core on any circular record, in closed form: the capped
    distance, then `extend_location`'s closed form; the result is an area -/
theorem extendArea_ring_simple (r : Rec) (hcirc : r.circular = true) (hL : 0 < r.len) (p : Part) (c : Int)
    (h0 : 0 ≤ p.lo) (h1 : p.lo < p.hi) (h2 : p.hi ≤ r.len) (hc : 0 ≤ c) (force : Bool) :
    extendArea r (.simple p) c force =
      .ok (extSimpleRing ⟨p.lo, p.hi, .fwd⟩ (min c ((r.len - (p.hi - p.lo)) / 2 + 1)) r.len) := by
  obtain ⟨hd0, hdL⟩ := cap_bounds c r.len (p.hi - p.lo) hc (by omega) (by omega)
  obtain ⟨⟨hwf, hshape⟩, _⟩ := extSimpleRing_area p.lo p.hi _ r.len hL h0 h1 h2 hd0
  have hext := extend_simple_ring_eq ⟨p.lo, p.hi, .fwd⟩ (min c ((r.len - (p.hi - p.lo)) / 2 + 1)) r.len h0 h1 h2 hd0 hdL
  have hconn := connect_self _ r.len hL hwf hshape
  have hlen : (Loc.simple p).len = p.hi - p.lo := by simp [Loc.len, Loc.parts, Part.len]
  have hnb : bridgesOrigin (Loc.simple p) = false := rfl
  have hparts : ¬ ((extSimpleRing ⟨p.lo, p.hi, .fwd⟩ (min c ((r.len - (p.hi - p.lo)) / 2 + 1)) r.len).parts.length > 2) := by
    rcases hshape with ⟨q, hq⟩ | ⟨a, b, hq⟩ <;> rw [hq] <;> simp [Loc.parts]
  obtain ⟨lo, hi, st⟩ := p
  simp only at hext hconn hlen hparts ⊢
  cases st <;>
  simp [extendArea, hcirc, Rec.wrap, Loc.parts, hnb, Loc.strand, makeForwards_simple, hlen,
    hext, hconn, hparts, bind, Except.bind, pure, Except.pure] <;>
  (simp only [Loc.parts] at hparts; omega)

/-- the cutoff / neighbourhood window of a single-part area inside an inner arc: no wrap, no cap -/
theorem extendArea_ring_inner (r : Rec) (hcirc : r.circular = true) (A B d : Int) (harc : InnerArc r.len d A B)
    (p : Part) (hp0 : A ≤ p.lo) (hp1 : p.lo < p.hi) (hp2 : p.hi ≤ B) (force : Bool) :
    extendArea r (.simple p) d force = .ok (.simple ⟨p.lo - d, p.hi + d, .fwd⟩) := by
  have hd := harc.dpos; have hl := harc.left; have hr := harc.right; have hh := harc.half
  rw [extendArea_ring_simple r hcirc (by omega) p d (by omega) hp1 (by omega) hd force]
  have hcap : min d ((r.len - (p.hi - p.lo)) / 2 + 1) = d := by omega
  have c1 : ¬ (p.lo - d < 0) := by omega
  have c2 : ¬ (p.hi + d > r.len) := by omega
  rw [hcap]
  simp [extSimpleRing, c1, c2]

/-- inside a wide arc, a position at or after the start of a core lies in the core's (possibly wrapped or
    capped) cutoff window exactly when it is fewer than `c` positions after the core's end: the way round the
    ring is at least `c` long, and the cap only bites when the window is the whole arc anyway -/
theorem window_mem_arc (L c A B : Int) (harc : WideArc L c A B) (p : Part) (hp0 : A ≤ p.lo) (hp1 : p.lo < p.hi)
    (hp2 : p.hi ≤ B) (i : Int) (hi0 : p.lo ≤ i) (hiB : i < B) :
    (extSimpleRing ⟨p.lo, p.hi, .fwd⟩ (min c ((L - (p.hi - p.lo)) / 2 + 1)) L).mem i = true ↔ i < p.hi + c := by
  have hc := harc.cpos; have hlo := harc.lo; have hhi := harc.hi; have hroom := harc.room; have hhalf := harc.half
  obtain ⟨hd0, _⟩ := cap_bounds c L (p.hi - p.lo) hc (by omega) (by omega)
  obtain ⟨hdc, _, hcap⟩ := cap_linear c L (p.hi - p.lo)
  generalize min c ((L - (p.hi - p.lo)) / 2 + 1) = d at hd0 hdc hcap ⊢
  rw [extSimpleRing_mem ⟨p.lo, p.hi, .fwd⟩ d L (by simp only; omega) hp1 (by simp only; omega) hd0 i]
  constructor
  · rintro ⟨_, _, j, hj, hr⟩
    simp only [Part.mem_iff] at hj
    simp only [ringAbs, iabs_def] at hr
    split at hr <;> omega
  · intro hlt
    refine ⟨by omega, by omega, ?_⟩
    -- the nearest base of the core is near already on the line; the way round is not needed
    by_cases hin : i < p.hi
    · refine ⟨i, by simp only [Part.mem_iff]; omega, Int.le_trans (Int.min_le_left _ _) ?_⟩
      rw [Int.sub_self]
      exact hd0
    · refine ⟨p.hi - 1, by simp only [Part.mem_iff]; omega, Int.le_trans (Int.min_le_left _ _) ?_⟩
      rw [iabs_def, if_neg (by omega)]
      omega

/-- … hence the window meets a gene of the arc that starts at or after the core exactly when the gene starts
    fewer than `c` positions after the core's end -/
theorem overlap_ring_window_iff (L c A B : Int) (harc : WideArc L c A B) (p : Part) (hp0 : A ≤ p.lo) (hp1 : p.lo < p.hi)
    (hp2 : p.hi ≤ B) (y : Loc) (hy : GeneIn L A B y) (hge : p.lo ≤ y.start) :
    locationsOverlap y (extSimpleRing ⟨p.lo, p.hi, .fwd⟩ (min c ((L - (p.hi - p.lo)) / 2 + 1)) L) = true ↔
      y.start < p.hi + c := by
  have hlo := harc.lo; have hhi := harc.hi
  obtain ⟨hd0, _⟩ := cap_bounds c L (p.hi - p.lo) harc.cpos (by omega) (by omega)
  have hWne := (extSimpleRing_area p.lo p.hi _ L (harc.Lpos (by omega)) (by omega) hp1 (by omega) hd0).1.partsNonEmpty
  have hyne : y.PartsNonEmpty := fun q hq => (hy.ok.parts q hq).2.1
  rw [locationsOverlap_iff y _ hyne hWne]
  constructor
  · rintro ⟨i, hi, hW⟩
    simp only [Loc.mem, List.any_eq_true, Part.mem_iff] at hi
    obtain ⟨q, hq, hq1, hq2⟩ := hi
    have hs := start_le_part y q hq
    have hyhi := hy.hi
    have := (window_mem_arc L c A B harc p hp0 hp1 hp2 i (by omega) (by omega)).1 hW
    omega
  · intro hlt
    obtain ⟨q, hq, e⟩ := start_attained y hy.ok.ne
    have hqq := hy.ok.parts q hq
    have hyhi := hy.hi
    have hqe := (start_le_part y q hq).2
    refine ⟨y.start, ?_, (window_mem_arc L c A B harc p hp0 hp1 hp2 y.start hge (by omega)).2 hlt⟩
    simp only [Loc.mem, List.any_eq_true, Part.mem_iff]
    exact ⟨q, hq, by omega, by omega⟩

theorem arcOps_ring_wide (r : Rec) (hcirc : r.circular = true) (c A B : Int) (harc : WideArc r.len c A B) :
    ArcOps r c A B := by
  have hw : r.wrap = some r.len := by simp [Rec.wrap, hcirc]
  refine ⟨?_, ?_, ?_⟩
  · intro p h0 h1 h2
    have hlo := harc.lo; have hhi := harc.hi
    have hL : 0 < r.len := harc.Lpos (by omega)
    obtain ⟨hd0, hdL⟩ := cap_bounds c r.len (p.hi - p.lo) harc.cpos (by omega) (by omega)
    refine ⟨_, extendArea_ring_simple r hcirc hL p c (by omega) h1 (by omega) harc.cpos false, ?_, ?_⟩
    · have := (extSimpleRing_area p.lo p.hi _ r.len hL (by omega) h1 (by omega) hd0).2
      simp only [Loc.len, Loc.parts, List.map_cons, List.map_nil, List.sum_cons, List.sum_nil, Part.len] at this ⊢
      omega
    · intro y hy hge
      exact overlap_ring_window_iff r.len c A B harc p h0 h1 h2 y hy hge
  · intro cds h; rw [hw]; exact connect_gene_ring r.len A B harc.half cds h
  · intro p cds h0 h1 h2 h; rw [hw]; exact connect_two_ring r.len A B harc.half _ cds (simple_inArc h0 h1 h2) h.inArc

/-- `Protocluster(core, surrounds)` succeeds for a single-part core and an area around it -/
theorem mkPC_simple_area (rule : String) (p : Part) (L : Int) (s : Loc) (hs : RingArea L s) :
    mkPC rule (.simple p) s = .ok ⟨rule, .simple p, s⟩ := by
  obtain ⟨q, rfl, h0, h1, h2⟩ | ⟨a, b, rfl, hb0, hba, haL⟩ := hs.shape
  · exact mkPC_simple rule p q h0 (by omega)
  · have h1 : ¬ (L = b) := by omega
    have h2 : ¬ (minList [a, 0] > maxList [L, b]) := by simp [minList, maxList]; omega
    have h3 : ¬ (minList [a, 0] < 0) := by simp [minList]; omega
    have h1' : ¬ (b = L) := by omega
    simp [mkPC, bridgesOrigin, Loc.parts, Loc.start, Loc.end, Loc.strand, dupEnds, h1', h2, h3, pure, Except.pure]

/-- inside an inner arc for the neighbourhood, the neighbourhood of a single-part core is the core widened
    on both sides, and the constructor accepts it -/
theorem protocluster_ring_inner (r : Rec) (hcirc : r.circular = true) (A B n : Int) (harc : InnerArc r.len n A B)
    (rule : String) (p : Part) (hp0 : A ≤ p.lo) (hp1 : p.lo < p.hi) (hp2 : p.hi ≤ B) :
    extendArea r (.simple p) n true = .ok (.simple ⟨p.lo - n, p.hi + n, .fwd⟩) ∧
    mkPC rule (.simple p) (.simple ⟨p.lo - n, p.hi + n, .fwd⟩) = .ok ⟨rule, .simple p, .simple ⟨p.lo - n, p.hi + n, .fwd⟩⟩ := by
  have hd := harc.dpos; have hl := harc.left
  exact ⟨extendArea_ring_inner r hcirc A B n harc p hp0 hp1 hp2 true,
    mkPC_simple _ _ _ (by simp only; omega) (by simp only; omega)⟩

/-- on any ring the neighbourhood of a single-part core is `extend_location`'s closed form for the capped
    distance: an area, accepted by the constructor, holding exactly the bases within that distance of the core -/
theorem protocluster_ring_simple (r : Rec) (hcirc : r.circular = true) (rule : String) (p : Part) (n : Int)
    (h0 : 0 ≤ p.lo) (h1 : p.lo < p.hi) (h2 : p.hi ≤ r.len) (hn : 0 ≤ n) :
    ∃ W, extendArea r (.simple p) n true = .ok W ∧ mkPC rule (.simple p) W = .ok ⟨rule, .simple p, W⟩ ∧
      RingArea r.len W ∧
      ∀ i, W.mem i = true ↔ (0 ≤ i ∧ i < r.len ∧ ∃ j, p.mem j = true ∧
        ringAbs r.len i j ≤ min n ((r.len - (p.hi - p.lo)) / 2 + 1)) := by
  have hL : 0 < r.len := by omega
  obtain ⟨hd0, hdL⟩ := cap_bounds n r.len (p.hi - p.lo) hn (by omega) (by omega)
  have harea := (extSimpleRing_area p.lo p.hi _ r.len hL h0 h1 h2 hd0).1
  refine ⟨_, extendArea_ring_simple r hcirc hL p n h0 h1 h2 hn true, mkPC_simple_area _ _ r.len _ harea, harea, ?_⟩
  intro i
  rw [extSimpleRing_mem ⟨p.lo, p.hi, .fwd⟩ _ r.len h0 h1 h2 hd0 i]
  simp only [Part.mem_iff]

/-! ### `merge_over_origin` on separated single-part cores of a wide arc -/

/-- every part of the widened single-part core is non-empty (any strand) -/
theorem extSimpleRing_partsNonEmpty (p : Part) (d L : Int) (h0 : 0 ≤ p.lo) (h1 : p.lo < p.hi) (h2 : p.hi ≤ L)
    (hd : 0 ≤ d) (hdL : d ≤ L) : (extSimpleRing p d L).PartsNonEmpty := by
  intro q hq
  unfold extSimpleRing at hq
  by_cases hW : p.lo - d < 0 ∧ p.lo - d + L ≤ p.hi + d
  · rw [if_pos hW] at hq; simp [Loc.parts] at hq; subst hq; simp only; omega
  · rw [if_neg hW] at hq
    by_cases hA : p.lo - d < 0
    · rw [if_pos hA] at hq
      by_cases hr : (p.strand == Strand.rev) = true
      · simp [hr, Loc.parts] at hq; rcases hq with rfl | rfl <;> simp only <;> omega
      · simp [hr, Loc.parts] at hq; rcases hq with rfl | rfl <;> simp only <;> omega
    · rw [if_neg hA] at hq
      by_cases hB : p.hi + d > L
      · rw [if_pos hB] at hq
        by_cases hC : p.hi + d - L > p.lo - d
        · rw [if_pos hC] at hq; simp [Loc.parts] at hq; subst hq; simp only; omega
        · rw [if_neg hC] at hq
          by_cases hr : (p.strand == Strand.rev) = true
          · simp [hr, Loc.parts] at hq; rcases hq with rfl | rfl <;> simp only <;> omega
          · simp [hr, Loc.parts] at hq; rcases hq with rfl | rfl <;> simp only <;> omega
      · rw [if_neg hB] at hq; simp [Loc.parts] at hq; subst hq; simp only; omega

/-- two single-part cores of a wide arc that are at least `c` apart: neither shares a base with the other
    widened by `c` -/
theorem noOverlap_of_apart (L c A B : Int) (harc : WideArc L c A B) (p q : Part)
    (hp0 : A ≤ p.lo) (hp1 : p.lo < p.hi) (hp2 : p.hi ≤ B) (hq0 : A ≤ q.lo) (hq1 : q.lo < q.hi) (hq2 : q.hi ≤ B)
    (hapart : p.hi + c ≤ q.lo ∨ q.hi + c ≤ p.lo) :
    locationsOverlap (.simple q) (extSimpleRing p c L) = false := by
  have hc := harc.cpos; have hlo := harc.lo; have hhi := harc.hi; have hroom := harc.room
  cases hov : locationsOverlap (.simple q) (extSimpleRing p c L) with
  | false => rfl
  | true =>
    exfalso
    have hne := extSimpleRing_partsNonEmpty p c L (by omega) hp1 (by omega) hc (by omega)
    have hqne : (Loc.simple q).PartsNonEmpty := by intro x hx; simp [Loc.parts] at hx; subst hx; exact hq1
    obtain ⟨i, hi, hW⟩ := (locationsOverlap_iff _ _ hqne hne).1 hov
    rw [extSimpleRing_mem p c L (by omega) hp1 (by omega) hc i] at hW
    obtain ⟨_, _, j, hj, hr⟩ := hW
    simp only [Part.mem_iff] at hj
    simp only [Loc.mem, Loc.parts, List.any_cons, List.any_nil, Bool.or_false, Part.mem_iff] at hi
    simp only [ringAbs, iabs_def] at hr
    split at hr <;> omega

theorem mergeFix_id (r : Rec) (rules : List RuleM) (c : Int) (fuel : Nat) (group : List (PC × Loc))
    (h : group.Pairwise (fun a b => locationsOverlap b.1.core a.2 = false)) :
    mergeFix r rules c fuel group = .ok group := by
  cases fuel with
  | zero => rfl
  | succ n => simp only [mergeFix, (mergeStep_none_iff r rules c group).2 h, bind, Except.bind, pure, Except.pure]

theorem eraseDups_const (a : String) : ∀ (l : List String), (∀ x ∈ l, x = a) → (a :: l).eraseDups = [a] := by
  intro l h
  rw [List.eraseDups_cons]
  have : l.filter (fun b => !b == a) = [] := by
    rw [List.filter_eq_nil_iff]
    intro x hx; simp [h x hx]
  rw [this]
  simp [List.eraseDups, List.eraseDupsBy, List.eraseDupsBy.loop]

/-- a protocluster of rule `name` whose core is a single span inside `[A, B)` -/
def CoreIn (A B : Int) (name : String) (pc : PC) : Prop :=
  pc.rule = name ∧ ∃ p, pc.core = .simple p ∧ A ≤ p.lo ∧ p.lo < p.hi ∧ p.hi ≤ B

/-- **`merge_over_origin` is the identity (up to its sorting) on separated single-span cores of a wide arc** -/
theorem mergeOverOrigin_id_wide (r : Rec) (hcirc : r.circular = true) (rules : List RuleM) (rule : RuleM)
    (hfind : findRule rules rule.name = .ok rule) (A B : Int) (harc : WideArc r.len rule.cutoff A B)
    (pcs : List PC) (hin : ∀ pc ∈ pcs, CoreIn A B rule.name pc)
    (hapart : pcs.Pairwise (fun a b => a.core.end + rule.cutoff ≤ b.core.start ∨ b.core.end + rule.cutoff ≤ a.core.start)) :
    ∃ merged, mergeOverOrigin r rules pcs = .ok merged ∧ merged.Perm pcs := by
  -- plan: compute the run.  All clusters belong to the one product `rule.name`, so there is a single group, all
  -- of `pcs` with their widened cores (`hw`, `hprod`, `hfilter`); cores at least the cutoff apart do not meet
  -- each other's widened core (`noOverlap_of_apart`, both ways round, so sorting keeps it: `hsorted`), hence the
  -- loop stops at once (`mergeFix_id`) and what comes out is the sorted group.
  -- `ext` is the widened core; under `hin` every core is `.simple`, the other branch only makes `ext` total
  have hc := harc.cpos; have hlo := harc.lo; have hhi := harc.hi; have hroom := harc.room
  let ext : PC → Loc := fun pc => match pc.core with
    | .simple p => extSimpleRing p rule.cutoff r.len
    | c => c
  have hw : pcs.mapM (fun pc => do
      let rule' ← findRule rules pc.rule
      let e ← extendLocation pc.core rule'.cutoff r.len r.circular
      pure (pc, e)) = .ok (pcs.map fun pc => (pc, ext pc)) := by
    apply mapM_ok_map_of_forall
    intro pc hpc
    obtain ⟨hr, p, hp, h0, h1, h2⟩ := hin pc hpc
    have hL : 0 < r.len := harc.Lpos (by omega)
    simp only [hr, hfind, hp, hcirc, extend_simple_ring_eq p rule.cutoff r.len (by omega) h1 (by omega) hc (by omega),
      bind, Except.bind, pure, Except.pure, ext]
  have hsym : (pcs.map fun pc => (pc, ext pc)).Pairwise
      (fun a b => locationsOverlap b.1.core a.2 = false ∧ locationsOverlap a.1.core b.2 = false) := by
    rw [List.pairwise_map]
    refine List.Pairwise.imp_of_mem ?_ hapart
    intro a b ha hb hab
    obtain ⟨_, p, hp, p0, p1, p2⟩ := hin a ha
    obtain ⟨_, q, hq, q0, q1, q2⟩ := hin b hb
    simp only [hp, hq, Loc.start, Loc.end] at hab
    simp only [ext, hp, hq]
    exact ⟨noOverlap_of_apart r.len rule.cutoff A B harc p q p0 p1 p2 q0 q1 q2 hab,
           noOverlap_of_apart r.len rule.cutoff A B harc q p q0 q1 q2 p0 p1 p2 (by omega)⟩
  cases pcs with
  | nil => exact ⟨[], by simp [mergeOverOrigin, List.eraseDups, List.eraseDupsBy, List.eraseDupsBy.loop, pure, Except.pure, bind, Except.bind], List.Perm.refl _⟩
  | cons pc0 rest =>
    have hprod : ((pc0 :: rest).map (·.rule)).eraseDups = [rule.name] := by
      have h0 := (hin pc0 (by simp)).1
      simp only [List.map_cons, h0]
      apply eraseDups_const
      intro x hx
      obtain ⟨pc, hpc, rfl⟩ := List.mem_map.1 hx
      exact (hin pc (by simp [hpc])).1
    have hfilter : ((pc0 :: rest).map fun pc => (pc, ext pc)).filter (fun x => x.1.rule == rule.name) =
        (pc0 :: rest).map fun pc => (pc, ext pc) := by
      refine List.filter_eq_self.2 ?_
      intro x hx
      obtain ⟨pc, hpc, rfl⟩ := List.mem_map.1 hx
      simp [(hin pc hpc).1]
    have hsorted : (sortByStart ((pc0 :: rest).map fun pc => (pc, ext pc))).Pairwise
        (fun a b => locationsOverlap b.1.core a.2 = false) := by
      have := (List.Perm.pairwise_iff (R := fun (a b : PC × Loc) =>
          locationsOverlap b.1.core a.2 = false ∧ locationsOverlap a.1.core b.2 = false)
        (fun {x y} h => ⟨h.2, h.1⟩) (sortByStart_perm ((pc0 :: rest).map fun pc => (pc, ext pc)))).2 hsym
      exact this.imp (fun h => h.1)
    unfold mergeOverOrigin
    rw [hw]
    simp only [bind, Except.bind, hprod, List.mapM_cons, List.mapM_nil, hfilter, hfind, pure, Except.pure]
    by_cases hlen : ((pc0 :: rest).map fun pc => (pc, ext pc)).length < 2
    · simp only [hlen, if_true]
      refine ⟨_, rfl, ?_⟩
      simp [List.map_map, Function.comp_def]
    · simp only [hlen, if_false, mergeFix_id r rules rule.cutoff _ _ hsorted]
      refine ⟨_, rfl, ?_⟩
      simp only [List.flatten_cons, List.flatten_nil, List.append_nil]
      have := (sortByStart_perm ((pc0 :: rest).map fun pc => (pc, ext pc))).map (·.1)
      simpa [List.map_map, Function.comp_def] using this

end ASV.Proto
