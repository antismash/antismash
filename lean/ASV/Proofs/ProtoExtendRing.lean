/-
  C03: `apply_extenders` on a circular record meets the EXTENDERS spec with the walk going on round
  the ring and distances measured the shorter way round; and it always returns when all genes lie in a
  wide arc and the core is a single span of it.
-/
import ASV.Proofs.ProtoRingWide
namespace ASV.Proto
open ASV ASV.Rules ASV.Chains

theorem foldlM_connect_joinRing (r : Rec) (hcirc : r.circular = true) : ∀ (l : List GeneInfo) (core out : Loc),
    l.foldlM (fun core cds => connect [cds.loc, core] r.wrap) core = .ok out → joinRing r core l = some out := by
  have hw : r.wrap = some r.len := by simp [Rec.wrap, hcirc]
  intro l
  induction l with
  | nil => intro core out h; simp only [List.foldlM_nil, pure, Except.pure, Except.ok.injEq] at h; subst h; rfl
  | cons g rest ih =>
    intro core out h
    simp only [List.foldlM_cons, bind, Except.bind, hw] at h
    cases hc : connect [g.loc, core] (some r.len) with
    | error e => simp [hc] at h
    | ok c1 =>
      simp only [hc] at h
      have := ih c1 out (by simpa [hw] using h)
      simp only [joinRing, List.foldlM_cons, hc, Except.toOption, bind, Option.bind] at this ⊢
      exact this

theorem ringIn_locOK {L : Int} {l : Loc} (h : RingIn L l) : l.OK L :=
  ⟨h.1, fun p hp => ⟨(h.2.1 p hp).1, (h.2.1 p hp).2.1, fun _ => (h.2.1 p hp).2.2⟩⟩

/-- **`apply_extenders` on one protocluster of a circular record**, whenever it returns -/
theorem extendCluster_ring (within : Lookup) (r : Rec) (hcirc : r.circular = true) (hL : 0 < r.len)
    (rules : List RuleM) (hgenes : ∀ g ∈ r.genes, RingIn r.len g.loc) (pc pc' : PC) (d : Doms)
    (harea : RingArea r.len pc.core) (hsub : ∀ g ∈ within pc.core false, g ∈ r.genes)
    (rule : RuleM) (hrule : findRule rules pc.rule = .ok rule) (hext : ∀ c, rule.extenders = some c → c.WF = true)
    (h : extendCluster within r rules pc = .ok (pc', d)) :
    ∃ first last back forw core1,
      (within pc.core false).head? = some first ∧ (within pc.core false).getLast? = some last ∧
      ExtWalk rule.cutoff (fun a b => specDistFull r.len a.loc b.loc) (extOK rule)
        (fun g => locationContainsOther pc.core g.loc) first (walkBackRing r pc.core) back ∧
      joinRing r pc.core back = some core1 ∧
      ExtWalk rule.cutoff (fun a b => specDistFull r.len a.loc b.loc) (extOK rule)
        (fun g => locationContainsOther core1 g.loc) last (walkForwardRing r pc.core) forw ∧
      joinRing r core1 forw = some pc'.core ∧
      RingArea r.len pc'.core ∧ Covers pc'.core pc.core ∧ ∀ g ∈ back ++ forw, Covers pc'.core g.loc := by
  have hwrapI : r.wrapI = r.len := by simp [Rec.wrapI, hcirc]
  obtain ⟨rule', idx, firstC, lastC, core1, s, hr, hb, hf, hl, h1, h2, _, _, _⟩ := extendCluster_ok within r rules pc pc' d h
  rw [hrule] at hr
  cases hr
  have hidx := bisectLeft_ok_idx r.genes pc.core idx hb
  have hfm : firstC ∈ r.genes := hsub firstC (List.mem_of_head? hf)
  have hlm : lastC ∈ r.genes := hsub lastC (List.mem_of_getLast? hl)
  have hdist : ∀ a ∈ r.genes, ∀ b ∈ r.genes,
      getDistance a.loc b.loc r.wrapI = specDistFull r.len a.loc b.loc := by
    intro a ha b hb'
    rw [hwrapI]
    exact getDistance_eq_specFull a.loc b.loc r.len (ringIn_locOK (hgenes a ha)) (ringIn_locOK (hgenes b hb'))
  have hwalk := markExt_eq_specWalk r rule r.len hdist hext
  have hcb : cycle r r.genes idx false = walkBackRing r pc.core := by
    simp [cycle, hcirc, walkBackRing, hidx]
  have hcf : cycle r r.genes idx true = walkForwardRing r pc.core := by
    simp [cycle, hcirc, walkForwardRing, hidx]
  have hwb : ∀ x ∈ walkBackRing r pc.core, x ∈ r.genes := by
    rw [← hcb]; exact cycle_sub r r.genes idx false
  have hwf : ∀ x ∈ walkForwardRing r pc.core, x ∈ r.genes := by
    rw [← hcf]; exact cycle_sub r r.genes idx true
  rw [hcb, hwalk pc.core firstC _ hwb hfm] at h1
  rw [hcf, hwalk core1 lastC _ hwf hlm] at h2
  have hbin : ∀ g ∈ specWalk rule.cutoff (fun a b => specDistFull r.len a.loc b.loc) (extOK rule)
      (fun g => locationContainsOther pc.core g.loc) firstC (walkBackRing r pc.core), RingIn r.len g.loc :=
    fun g hg => hgenes g (hwb g (specWalk_sub _ _ _ _ _ _ g hg))
  obtain ⟨a1, c1, g1⟩ := foldlM_connect_ring_area r hcirc hL _ pc.core core1 hbin harea h1
  have hfin : ∀ g ∈ specWalk rule.cutoff (fun a b => specDistFull r.len a.loc b.loc) (extOK rule)
      (fun g => locationContainsOther core1 g.loc) lastC (walkForwardRing r pc.core), RingIn r.len g.loc :=
    fun g hg => hgenes g (hwf g (specWalk_sub _ _ _ _ _ _ g hg))
  obtain ⟨a2, c2, g2⟩ := foldlM_connect_ring_area r hcirc hL _ core1 pc'.core hfin a1 h2
  refine ⟨firstC, lastC, _, _, core1, hf, hl, specWalk_sound _ _ _ _ _ _,
    foldlM_connect_joinRing r hcirc _ _ _ h1, specWalk_sound _ _ _ _ _ _,
    foldlM_connect_joinRing r hcirc _ _ _ h2, a2, c2.trans c1, ?_⟩
  intro g hg
  simp only [List.mem_append] at hg
  rcases hg with hg | hg
  · exact c2.trans (g1 g hg)
  · exact g2 g hg

theorem fold_connect_wide (r : Rec) (hcirc : r.circular = true) (c A B : Int) (harc : WideArc r.len c A B) :
    ∀ (l : List GeneInfo) (p : Part), (∀ g ∈ l, GeneIn r.len A B g.loc) → A ≤ p.lo → p.lo < p.hi → p.hi ≤ B →
    ∃ q, l.foldlM (fun core cds => connect [cds.loc, core] r.wrap) (Loc.simple p) = .ok (.simple q) ∧
      A ≤ q.lo ∧ q.lo ≤ p.lo ∧ p.hi ≤ q.hi ∧ q.hi ≤ B := by
  have hw : r.wrap = some r.len := by simp [Rec.wrap, hcirc]
  intro l
  induction l with
  | nil => intro p _ h0 h1 h2; exact ⟨p, rfl, h0, Int.le_refl _, Int.le_refl _, h2⟩
  | cons g rest ih =>
    intro p hok h0 h1 h2
    have hg := hok g (by simp)
    obtain ⟨s, hc⟩ : ∃ s, connect [g.loc, Loc.simple p] (some r.len) =
        .ok (.simple ⟨min g.loc.start p.lo, max g.loc.end p.hi, s⟩) :=
      connect_two_ring r.len A B harc.half g.loc _ hg.inArc (simple_inArc h0 h1 h2)
    obtain ⟨q, hq, b1, b2, b3, b4⟩ := ih ⟨min g.loc.start p.lo, max g.loc.end p.hi, s⟩
      (fun x hx => hok x (List.mem_cons_of_mem _ hx)) (Int.le_min.2 ⟨hg.lo, h0⟩)
      (Int.lt_of_le_of_lt (Int.min_le_right _ _) (Int.lt_of_lt_of_le h1 (Int.le_max_right _ _)))
      (Int.max_le.2 ⟨hg.hi, h2⟩)
    refine ⟨q, ?_, b1, Int.le_trans b2 (Int.min_le_right _ _), Int.le_trans (Int.le_max_right _ _) b3, b4⟩
    simp only [List.foldlM_cons, hw, hc, bind, Except.bind]
    simpa [hw] using hq

/-- **totality**: all genes of the circular record in a wide arc, single-span core in it, lookup answering with
    genes of the record and at least one: `apply_extenders` returns for this protocluster -/
theorem extendCluster_total_wide (within : Lookup) (r : Rec) (hcirc : r.circular = true) (rules : List RuleM)
    (pc : PC) (rule : RuleM) (hrule : findRule rules pc.rule = .ok rule) (hn : 0 ≤ rule.nbhd) (A B : Int)
    (harc : WideArc r.len rule.cutoff A B) (hgenes : ∀ g ∈ r.genes, GeneIn r.len A B g.loc)
    (p : Part) (hcore : pc.core = .simple p) (h0 : A ≤ p.lo) (h1 : p.lo < p.hi) (h2 : p.hi ≤ B)
    (hne : within pc.core false ≠ []) :
    ∃ pc' d, extendCluster within r rules pc = .ok (pc', d) := by
  have hlo := harc.lo; have hhi := harc.hi
  have hL : 0 < r.len := harc.Lpos (by omega)
  have hidx := bisectLeft_nb r.genes pc.core (by rw [hcore]; simp [bridgesOrigin]) (fun g hg => (hgenes g hg).ok.nb)
  obtain ⟨firstC, hf⟩ : ∃ x, (within pc.core false).head? = some x := by
    cases hw : within pc.core false with
    | nil => exact absurd hw hne
    | cons a t => exact ⟨a, rfl⟩
  obtain ⟨lastC, hl⟩ : ∃ x, (within pc.core false).getLast? = some x := by
    cases hw : within pc.core false with
    | nil => exact absurd hw hne
    | cons a t => exact ⟨_, List.getLast?_eq_getLast (by simp)⟩
  simp only [extendCluster, hrule, hidx, hf, hl, bind, Except.bind]
  rw [hcore]
  have hback : ∀ g ∈ markExt r rule (Loc.simple p) firstC (cycle r r.genes (List.takeWhile (fun g => ltLoc' g.loc (Loc.simple p)) r.genes).length false),
      GeneIn r.len A B g.loc := fun g hg => hgenes g (cycle_sub r r.genes _ false g (markExt_sub r rule _ firstC _ g hg))
  obtain ⟨q1, hq1, a1, a2, a3, a4⟩ := fold_connect_wide r hcirc rule.cutoff A B harc _ p hback h0 h1 h2
  rw [hq1]
  simp only []
  have hforw : ∀ g ∈ markExt r rule (Loc.simple q1) lastC (cycle r r.genes (List.takeWhile (fun g => ltLoc' g.loc (Loc.simple p)) r.genes).length true),
      GeneIn r.len A B g.loc := fun g hg => hgenes g (cycle_sub r r.genes _ true g (markExt_sub r rule _ lastC _ g hg))
  obtain ⟨q2, hq2, b1, b2, b3, b4⟩ := fold_connect_wide r hcirc rule.cutoff A B harc _ q1 hforw a1 (by omega) a4
  rw [hq2]
  have hcontains : locationContainsOther (Loc.simple q2) (Loc.simple p) = true := by
    simp only [locationContainsOther, Loc.parts, List.all_cons, List.all_nil, List.any_cons, List.any_nil,
      Bool.or_false, Bool.and_true, partContains, Bool.and_eq_true, decide_eq_true_eq]
    omega
  obtain ⟨W, hW, hm, _⟩ := protocluster_ring_simple r hcirc rule.name q2 rule.nbhd (by omega) (by omega) (by omega) hn
  simp only [hcontains, Bool.not_true, Bool.false_eq_true, if_false, hW, hm, pure, Except.pure]
  exact ⟨_, _, rfl⟩

end ASV.Proto
