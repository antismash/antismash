/-
  C10 helper lemmas: the location of a prepeptide survives being written as leader / core / tail and
  rebuilt (`_combine_sections`, fixes/D107): the rebuilt location has exactly the gene's translated
  bases, in transcription order.  Uses C09's `bases` spec and its `subLocation_slice`.
-/
import ASV.Proofs.ProtDna
import ASV.Proofs.SerialString
import ASV.Proofs.Loc
import ASV.Spec.Serial
namespace ASV.Serial
open ASV ASV.ProtDna

/-- a valid part: not inverted -/
def validPart (p : Part) : Prop := p.lo ≤ p.hi

theorem merge_rev (prev part : Part) (hs : prev.strand = .rev) (hp : part.strand = .rev)
    (h : part.hi = prev.lo) (v1 : validPart prev) (v2 : validPart part) :
    partBases ⟨part.lo, prev.hi, .rev⟩ = partBases prev ++ partBases part := by
  unfold validPart at v1 v2
  simp only [partBases, hs, hp, beq_self_eq_true, if_true]
  have : (prev.hi - part.lo).toNat = (prev.hi - prev.lo).toNat + (part.hi - part.lo).toNat := by omega
  rw [this, downRange_append]
  congr 2
  omega

theorem merge_fwd (prev part : Part) (hs : prev.strand = part.strand) (hp : part.strand ≠ .rev)
    (h : part.lo = prev.hi) (v1 : validPart prev) (v2 : validPart part) :
    partBases ⟨prev.lo, part.hi, part.strand⟩ = partBases prev ++ partBases part := by
  unfold validPart at v1 v2
  have h1 : (part.strand == Strand.rev) = false := beq_eq_false_iff_ne.2 hp
  have h2 : (prev.strand == Strand.rev) = false := by rw [hs]; exact h1
  simp only [partBases, h1, h2, Bool.false_eq_true, if_false]
  have : (part.hi - prev.lo).toNat = (prev.hi - prev.lo).toNat + (part.hi - part.lo).toNat := by omega
  rw [this, upRange_append]
  congr 2
  omega

/-- appending a section, its first part possibly merged into the last kept part, appends its bases -/
theorem combineSection_bases (accRev ps : List Part) (hv : ∀ p ∈ accRev, validPart p) (hp : ∀ p ∈ ps, validPart p) :
    (combineSection accRev ps).reverse.flatMap partBases = accRev.reverse.flatMap partBases ++ ps.flatMap partBases ∧
    ∀ p ∈ combineSection accRev ps, validPart p := by
  have plain : (ps.reverse ++ accRev).reverse.flatMap partBases = accRev.reverse.flatMap partBases ++ ps.flatMap partBases ∧
      ∀ p ∈ ps.reverse ++ accRev, validPart p := by
    constructor
    · simp [List.reverse_append, List.flatMap_append]
    · intro p hm
      rcases List.mem_append.1 hm with hm | hm
      · exact hp p (List.mem_reverse.1 hm)
      · exact hv p hm
  cases accRev with
  | nil => cases ps <;> simpa [combineSection] using plain
  | cons prev rest =>
    cases ps with
    | nil => simpa [combineSection] using plain
    | cons first more =>
      have hprev := hv prev (by simp)
      have hfirst := hp first (by simp)
      have hrest : ∀ p ∈ rest, validPart p := fun p h => hv p (List.mem_cons_of_mem _ h)
      have hmore : ∀ p ∈ more, validPart p := fun p h => hp p (List.mem_cons_of_mem _ h)
      unfold combineSection
      by_cases c1 : (prev.strand == first.strand && first.strand == .rev && first.hi == prev.lo) = true
      · simp only [c1, if_true]
        simp only [Bool.and_eq_true, beq_iff_eq] at c1
        obtain ⟨⟨e1, e2⟩, e3⟩ := c1
        constructor
        · rw [e2]
          simp only [List.reverse_append, List.reverse_reverse, List.reverse_cons, List.flatMap_append, List.flatMap_cons,
            List.flatMap_nil, List.append_nil, List.append_assoc]
          rw [merge_rev prev first (e1.trans e2) e2 e3 hprev hfirst]
          simp [List.append_assoc]
        · intro p hm
          rcases List.mem_append.1 hm with hm | hm
          · exact hmore p (List.mem_reverse.1 hm)
          · rcases List.mem_cons.1 hm with rfl | hm
            · unfold validPart at *; simp only; omega
            · exact hrest p hm
      · simp only [c1, Bool.false_eq_true, if_false]
        by_cases c2 : (prev.strand == first.strand && first.strand != .rev && first.lo == prev.hi) = true
        · simp only [c2, if_true]
          simp only [Bool.and_eq_true, beq_iff_eq, bne_iff_ne] at c2
          obtain ⟨⟨e1, e2⟩, e3⟩ := c2
          constructor
          · simp only [List.reverse_append, List.reverse_reverse, List.reverse_cons, List.flatMap_append, List.flatMap_cons,
              List.flatMap_nil, List.append_nil, List.append_assoc]
            rw [merge_fwd prev first e1 e2 e3 hprev hfirst]
            simp [List.append_assoc]
          · intro p hm
            rcases List.mem_append.1 hm with hm | hm
            · exact hmore p (List.mem_reverse.1 hm)
            · rcases List.mem_cons.1 hm with rfl | hm
              · unfold validPart at *; simp only; omega
              · exact hrest p hm
        · simp only [c2, Bool.false_eq_true, if_false]
          exact plain

/-- one step of the normal form is the combination with a one-part section -/
theorem mergeStep_eq (accRev : List Part) (part : Part) : mergeStep accRev part = combineSection accRev [part] := by
  cases accRev with
  | nil => rfl
  | cons prev rest =>
    simp only [mergeStep, combineSection, List.reverse_nil, List.reverse_cons, List.nil_append, List.cons_append]

theorem mergeStep_bases (accRev : List Part) (part : Part) (hv : ∀ p ∈ accRev, validPart p) (hp : validPart part) :
    (mergeStep accRev part).reverse.flatMap partBases = accRev.reverse.flatMap partBases ++ partBases part ∧
    ∀ p ∈ mergeStep accRev part, validPart p := by
  rw [mergeStep_eq]
  simpa using combineSection_bases accRev [part] hv (by simpa using hp)

theorem foldl_merge_bases : ∀ (ps accRev : List Part), (∀ p ∈ accRev, validPart p) → (∀ p ∈ ps, validPart p) →
    (ps.foldl mergeStep accRev).reverse.flatMap partBases = accRev.reverse.flatMap partBases ++ ps.flatMap partBases := by
  intro ps
  induction ps with
  | nil => intro accRev _ _; simp
  | cons p ps ih =>
    intro accRev hv hps
    obtain ⟨h1, h2⟩ := mergeStep_bases accRev p hv (hps p (by simp))
    rw [List.foldl_cons, ih _ h2 (fun q hq => hps q (List.mem_cons_of_mem _ hq)), h1]
    simp [List.flatMap_cons]

/-- the normal form has the same bases in the same order -/
theorem mergeAdjoining_bases (l : Loc) (hv : ∀ p ∈ l.parts, validPart p) : bases (mergeAdjoining l) = bases l := by
  unfold mergeAdjoining
  rw [bases_of_parts _ _ (ofParts_parts _)]
  have := foldl_merge_bases l.parts [] (by simp) hv
  simpa [bases] using this

theorem foldl_combine_bases : ∀ (sections : List Loc) (accRev : List Part), (∀ p ∈ accRev, validPart p) →
    (∀ s ∈ sections, ∀ p ∈ s.parts, validPart p) →
    (sections.foldl (fun acc s => combineSection acc s.parts) accRev).reverse.flatMap partBases
      = accRev.reverse.flatMap partBases ++ sections.flatMap bases := by
  intro sections
  induction sections with
  | nil => intro accRev _ _; simp
  | cons s rest ih =>
    intro accRev hv hs
    obtain ⟨h1, h2⟩ := combineSection_bases accRev s.parts hv (hs s (by simp))
    rw [List.foldl_cons, ih _ h2 (fun t ht => hs t (List.mem_cons_of_mem _ ht)), h1]
    simp [List.flatMap_cons, bases, List.append_assoc]

theorem combineSections_bases (sections : List Loc) (hv : ∀ s ∈ sections, ∀ p ∈ s.parts, validPart p) :
    bases (combineSections sections) = sections.flatMap bases := by
  unfold combineSections
  rw [bases_of_parts _ _ (ofParts_parts _)]
  have := foldl_combine_bases sections [] (by simp) hv
  simpa using this

/-- the three sections exist, are slices of the gene, and consist of valid non-empty parts: each is a `subLocation`
    result for its residue range, to which C09's facts about slices apply (three times the same argument) -/
theorem sections_with_parts (l : Loc) (hwf : geneWF l = true) (ld tl : Nat) (h : (ld : Int) + tl < l.len / 3) :
    ∃ a c b, prepeptideSections l ld tl = .ok (a, c, b) ∧
      optBases a ++ bases c ++ optBases b = (bases l).take (3 * (l.len / 3).toNat) ∧
      (∀ s ∈ optList a ++ [c] ++ optList b, s.parts ≠ [] ∧ ∀ p ∈ s.parts, validPart p) := by
  have hpos := len_nonneg l hwf
  generalize hT : (l.len / 3).toNat = T
  have hTi : l.len / 3 = (T : Int) := by omega
  obtain ⟨a, c, b, hsec, ha0, hb0, hab, hcb, hbb, _⟩ := prepeptide_sections l hwf ld tl h
  rw [hT] at hcb hbb
  refine ⟨a, c, b, hsec, ?_, ?_⟩
  · rw [hab, hcb, hbb, sliceL_append _ _ _ _ (by omega) (by omega), sliceL_append _ _ _ _ (by omega) (by omega),
      sliceL_zero]
  · -- each section is what `subLocation` returns for its residue range
    have part_ok : ∀ (s e : Nat) (r : Loc), s < e → (e : Int) ≤ l.len / 3 → subLocation l s e = .ok r →
        r.parts ≠ [] ∧ ∀ p ∈ r.parts, validPart p := by
      intro s e r hse he hr
      obtain ⟨r', hr', hb', hp'⟩ := subLocation_slice l hwf s e hse he
      rw [hr] at hr'; cases hr'
      refine ⟨?_, fun p hp => ?_⟩
      · intro hnil
        have hlen : (bases r).length = 3 * e - 3 * s := by
          rw [hb']; unfold sliceL
          rw [List.length_take, List.length_drop]
          have := len_eq_bases_length l (fun p hp => Int.le_of_lt (((geneWF_iff l).mp hwf).2 p hp).1)
          omega
        rw [bases, hnil] at hlen
        simp at hlen; omega
      · obtain ⟨_, _, _, hlt, _, _⟩ := hp' p hp
        unfold validPart; omega
    unfold prepeptideSections at hsec
    rw [hTi] at hsec
    intro s hs
    simp only [List.mem_append, List.mem_singleton] at hs
    have e1 : (T : Int) - (tl : Int) = ((T - tl : Nat) : Int) := by omega
    simp only [e1] at hsec
    have hA : ∀ a', (if (ld : Int) ≠ 0 then (subLocation l 0 ld).bind fun r => Res.ok (some r) else Res.ok none) = .ok a' →
        ∀ s ∈ optList a', s.parts ≠ [] ∧ ∀ p ∈ s.parts, validPart p := by
      intro a' ha' s hs
      by_cases h0 : (ld : Int) ≠ 0
      · rw [if_pos h0] at ha'
        cases hsub : subLocation l 0 (ld : Int) with
        | ok r =>
          rw [hsub] at ha'; simp only [Res.bind] at ha'; cases ha'
          simp only [optList, List.mem_singleton] at hs; subst hs
          exact part_ok 0 ld _ (by omega) (by omega) (by simpa using hsub)
        | valueError => rw [hsub] at ha'; simp [Res.bind] at ha'
        | assertion => rw [hsub] at ha'; simp [Res.bind] at ha'
      · rw [if_neg h0] at ha'; cases ha'; simp [optList] at hs
    have hB : ∀ b', (if (tl : Int) ≠ 0 then (subLocation l ((T - tl : Nat) : Int) T).bind fun r => Res.ok (some r) else Res.ok none) = .ok b' →
        ∀ s ∈ optList b', s.parts ≠ [] ∧ ∀ p ∈ s.parts, validPart p := by
      intro b' hb' s hs
      by_cases h0 : (tl : Int) ≠ 0
      · rw [if_pos h0] at hb'
        cases hsub : subLocation l ((T - tl : Nat) : Int) (T : Int) with
        | ok r =>
          rw [hsub] at hb'; simp only [Res.bind] at hb'; cases hb'
          simp only [optList, List.mem_singleton] at hs; subst hs
          exact part_ok (T - tl) T _ (by omega) (by omega) hsub
        | valueError => rw [hsub] at hb'; simp [Res.bind] at hb'
        | assertion => rw [hsub] at hb'; simp [Res.bind] at hb'
      · rw [if_neg h0] at hb'; cases hb'; simp [optList] at hs
    have bok : ∀ {α β : Type} (x : α) (f : α → Res β), (Res.ok x).bind f = f x := fun _ _ => rfl
    cases hla : (if (ld : Int) ≠ 0 then (subLocation l 0 ld).bind fun r => Res.ok (some r) else Res.ok none) with
    | ok a' =>
      rw [hla] at hsec; simp only [bok] at hsec
      cases hc : subLocation l (ld : Int) ((T - tl : Nat) : Int) with
      | ok c' =>
        rw [hc] at hsec; simp only [bok] at hsec
        cases hlb : (if (tl : Int) ≠ 0 then (subLocation l ((T - tl : Nat) : Int) T).bind fun r => Res.ok (some r) else Res.ok none) with
        | ok b' =>
          rw [hlb] at hsec; simp only [bok] at hsec; cases hsec
          rcases hs with (hs | hs) | hs
          · exact hA _ hla s hs
          · subst hs; exact part_ok ld (T - tl) _ (by omega) (by omega) hc
          · exact hB _ hlb s hs
        | valueError => rw [hlb] at hsec; simp [Res.bind] at hsec
        | assertion => rw [hlb] at hsec; simp [Res.bind] at hsec
      | valueError => rw [hc] at hsec; simp [Res.bind] at hsec
      | assertion => rw [hc] at hsec; simp [Res.bind] at hsec
    | valueError => rw [hla] at hsec; simp [Res.bind] at hsec
    | assertion => rw [hla] at hsec; simp [Res.bind] at hsec

theorem flatMap_bases_sections (a : Option Loc) (c : Loc) (b : Option Loc) :
    (optList a ++ [c] ++ optList b).flatMap bases = optBases a ++ bases c ++ optBases b := by
  cases a <;> cases b <;> simp [optList, optBases]

/-- the written location of a prepeptide (core location, leader and tail as text) is read back as a
    location with exactly the translated bases of the gene, in transcription order -/
theorem preRead_preWrite (l : Loc) (hwf : geneWF l = true) (ld tl : Nat) (h : (ld : Int) + tl < l.len / 3) :
    ∃ w, preWrite l ld tl = .ok w ∧ ∃ r, preRead w = some r ∧
      bases r = (bases l).take (3 * (l.len / 3).toNat) := by
  obtain ⟨a, c, b, hsec, hb, hparts⟩ := sections_with_parts l hwf ld tl h
  refine ⟨⟨c, a.map locToString, b.map locToString⟩, by simp [preWrite, hsec, Res.bind], ?_⟩
  refine ⟨combineSections (optList a ++ [c] ++ optList b), ?_, ?_⟩
  · unfold preRead
    cases a with
    | none =>
      cases b with
      | none => rfl
      | some y =>
        have hy := (hparts y (by simp [optList])).1
        simp [locFromString_locToString y hy, bind, pure]
    | some x =>
      have hx := (hparts x (by simp [optList])).1
      cases b with
      | none => simp [locFromString_locToString x hx, bind, pure]
      | some y =>
        have hy := (hparts y (by simp [optList])).1
        simp [locFromString_locToString x hx, locFromString_locToString y hy, bind, pure]
  · rw [combineSections_bases _ (fun s hs => (hparts s hs).2), flatMap_bases_sections, hb]

end ASV.Serial
