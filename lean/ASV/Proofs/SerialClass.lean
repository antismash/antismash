/-
  C10: a feature class on top of `Feature`, said once.  `ClassDesc` describes such a class (the qualifiers it writes itself,
  the keys it pops on reading, its reader) and `ClassDesc.roundtrip` is the round trip of every class so described.
-/
import ASV.Proofs.SerialFeat
namespace ASV.Serial
open ASV

/-- lookups in a written collection feature: a key the class supplies itself (`extra`) wins -/
theorem get?_FQ_extra (f : Feat) (X : Quals) (hX : Q.Nodup X) (k : String) (v : List String)
    (hc : f.codon = none) (h2 : k ≠ "tool") (h3 : k ≠ "note") (hk : Q.get? X k = some v) :
    Q.get? (finalQuals f X) k = some v := by
  rw [get?_finalQuals f X hX]
  simp [hc, h2, h3, hk]

theorem get?_FQ_rest (f : Feat) (X : Quals) (hX : Q.Nodup X) (k : String)
    (hc : f.codon = none) (h2 : k ≠ "tool") (h3 : k ≠ "note") (hk : Q.get? X k = none) :
    Q.get? (finalQuals f X) k = Q.get? f.quals k := by
  rw [get?_finalQuals f X hX]
  simp [hc, h2, h3, hk]

theorem get?_FQ_toolX (f : Feat) (X : Quals) (hX : Q.Nodup X) (hb : f.byAS = true) :
    Q.get? (finalQuals f X) "tool" = some ["antismash"] := by
  rw [get?_finalQuals f X hX]
  simp [hb]

theorem get?_FQ_noteX (f : Feat) (X : Quals) (hX : Q.Nodup X) (hn : Q.get? X "note" = none) :
    (Q.get? (finalQuals f X) "note").getD [] = sortStrs (allNotes f []) := by
  have ha : allNotes f X = allNotes f [] := by simp [allNotes, hn, Q.get?]
  rw [get?_finalQuals f X hX, ha]
  cases he : (allNotes f []).isEmpty
  · simp
  · have hnil : allNotes f [] = [] := List.isEmpty_iff.1 he
    have hs : (Q.get? f.quals "note").getD [] = [] := by
      rw [allNotes_nil] at hnil; exact (List.append_eq_nil_iff.1 hnil).1
    simp [hnil, sortStrs, hs]

/-- a key the class writes itself and the free qualifiers do not use: the written value is the class's own -/
theorem get?_written_own (f : Feat) (X : Quals) (hf : Q.Nodup f.quals) (hX : Q.Nodup X) (hcod : f.codon = none) (k : String)
    (h2 : k ≠ "tool") (h3 : k ≠ "note") (hres : Q.get? f.quals k = none) :
    Q.get? (Q.sortKeys (finalQuals f X)) k = Q.get? X k := by
  rw [Q.get?_sortKeys (nodup_finalQuals f X hf)]
  cases hm : Q.get? X k with
  | none => rw [get?_FQ_rest f X hX k hcod h2 h3 hm]; exact hres
  | some v => exact get?_FQ_extra f X hX k v hcod h2 h3 hm

/-! ### the base-class part, for any class that writes qualifiers of its own and pops them on reading -/

/-- the base feature `Feature.from_biopython` builds for a class that made the feature itself, from leftovers `L` that
    carry the `tool` marker and no codon start -/
def Feat.reread (f : Feat) (L : Quals) : Feat := ⟨f.loc, f.type, [], L, true, none⟩

/-- what a class round trip needs to know of the re-read base feature -/
structure Reread (t : Bool) (f : Feat) (K : List String) (L : Quals) : Prop where
  run : applyLeftovers ⟨f.loc, f.type, [], [], true, none⟩ L = .ok (f.reread L)
  view : (f.reread L).view t = f.view t
  wf : (f.reread L).WF
  reserved : ∀ k ∈ K, Q.get? L k = none
  free : ∀ k, k ≠ "codon_start" → k ≠ "note" → k ≠ "tool" → Q.get? L k = Q.get? f.quals k
  notes : sortStrs (allNotes (f.reread L) []) = sortStrs (allNotes f [])
  tool : Q.get? L "tool" = some ["antismash"]

/-- `K`: the keys the class writes and pops itself; `hKX`: the class's dictionary `X` writes only keys in `K`;
    `hres`: the feature's free qualifiers use none of them; `hL`: the leftovers `L` handed to `Feature.from_biopython` are
    the written dictionary without `K`.  Then the re-read base feature has the same view, is well-formed again, and has
    the free qualifiers of the original. -/
theorem class_leftovers_roundtrip (t : Bool) (f : Feat) (X : Quals) (K : List String) (L : Quals)
    (hf : f.WF) (hby : f.byAS = true) (hcod : f.codon = none) (hX : Q.Nodup X)
    (hKX : ∀ k, k ∉ K → Q.get? X k = none)
    (hK : "note" ∉ K ∧ "tool" ∉ K ∧ "codon_start" ∉ K)
    (hres : ∀ k ∈ K, Q.get? f.quals k = none)
    (hLn : Q.Nodup L)
    (hL : ∀ k, Q.get? L k = if k ∈ K then none else Q.get? (Q.sortKeys (finalQuals f X)) k) :
    Reread t f K L := by
  have hFQ := nodup_finalQuals f X hf.quals
  have look : ∀ k, Q.get? (Q.sortKeys (finalQuals f X)) k = Q.get? (finalQuals f X) k := fun k => Q.get?_sortKeys hFQ k
  have hnoteX : Q.get? X "note" = none := hKX _ hK.1
  have hcodL : Q.get? L "codon_start" = none := by
    rw [hL, look, get?_FQ_rest f X hX _ hcod (by decide) (by decide) (hKX _ hK.2.2)]
    simp [hK.2.2, hf.noCodonKey]
  have htoolL : Q.get? L "tool" = some ["antismash"] := by
    rw [hL, look, get?_FQ_toolX f X hX hby]
    simp [hK.2.1]
  have hnoteL : Q.get? L "note" = Q.get? (finalQuals f X) "note" := by
    rw [hL, look]; simp [hK.1]
  have hrun : applyLeftovers ⟨f.loc, f.type, [], [], true, none⟩ L = .ok (f.reread L) := by
    have hbyAS : (!L.isEmpty && (Q.get? L "tool" == some ["antismash"])) = true := by
      simp [htoolL, Q.isEmpty_of_get? htoolL]
    rw [applyLeftovers_plain _ L rfl hLn hcodL, hbyAS]
    rfl
  have hwf' : (f.reread L).WF := by
    refine ⟨hLn, hcodL, ?_, fun _ => rfl, hf.parts, fun c l' hc _ => by cases hc⟩
    show Q.get? L "note" ≠ some []
    rw [hnoteL]
    have := get?_FQ_noteX f X hX hnoteX
    intro e
    rw [e] at this
    have hemp : (sortStrs (allNotes f [])).isEmpty = true := by rw [← this]; rfl
    rw [sortStrs_isEmpty] at hemp
    have hax : allNotes f X = allNotes f [] := by simp [allNotes, hnoteX, Q.get?]
    rw [get?_finalQuals f X hX, hax] at e
    simp only [hcod, hemp, hnoteX] at e
    simp at e
    exact hf.noEmptyNote e
  have hnotes : sortStrs (allNotes (f.reread L) []) = sortStrs (allNotes f []) := by
    rw [allNotes_nil]
    show sortStrs ((Q.get? L "note").getD [] ++ []) = _
    rw [hnoteL, List.append_nil, get?_FQ_noteX f X hX hnoteX, sortStrs_idem]
  have hq : ∀ k, k ≠ "codon_start" → k ≠ "note" → k ≠ "tool" → Q.get? L k = Q.get? f.quals k := by
    intro k h1 h3 h2
    rw [hL]
    by_cases hk : k ∈ K
    · simp only [hk, if_true]; exact (hres k hk).symm
    · simp only [hk, if_false]
      rw [look, get?_FQ_rest f X hX k hcod h2 h3 (hKX k hk)]
  exact ⟨hrun, view_congr t f _ hf hwf' rfl rfl hby.symm hcod.symm hnotes hq, hwf', fun k hk => by rw [hL]; simp [hk], hq, hnotes, htoolL⟩

/-- the re-read base feature is written like the original, whatever dictionary `X` without notes the class adds -/
theorem Reread.toBio {t : Bool} {f : Feat} {K : List String} {L : Quals} (R : Reread t f K L) (hf : f.WF) (hby : f.byAS = true)
    (hcod : f.codon = none) (X : Quals) (hX : Q.Nodup X) (hn : Q.get? X "note" = none) : (f.reread L).toBio X = f.toBio X := by
  rw [toBio_eq, toBio_eq, hcod]
  simp only [Feat.reread, Except.ok.injEq, Bio.mk.injEq, true_and]
  exact finalQuals_congr f (f.reread L) X hX hn hf R.wf hby.symm hcod.symm R.notes
    (fun k h1 h3 h2 => R.free k h1 h3 (fun e => by have := h2 e; rw [hby] at this; cases this))

/-! ### the schema of a class -/

/-- what every class asks of the base feature of an object in its scope: made by antiSMASH, no codon start, the class's
    feature type, and free qualifiers that use none of the class's keys -/
structure FeatBase (type : String) (keys : List String) (f : Feat) : Prop where
  wf : f.WF
  byAS : f.byAS = true
  codon : f.codon = none
  type : f.type = type
  reserved : ∀ k ∈ keys, Q.get? f.quals k = none

/-- A feature class on top of `Feature`, for the objects `ok` of its scope.  It writes qualifiers of its own (`own`) under
    `keys` and hands them to `Feature.to_biopython`; `read` takes the attributes from those keys, pops them and hands the rest
    (`left`) to `Feature.from_biopython`.
    `stay`: the keys the reader does not pop (`gene_kind` of a CDS, `db_xref` of a Pfam domain); `by0`: `created_by_antismash`
    as the constructor leaves it before the leftovers are looked at; `rebuild x f`: the object read for a written `x` whose
    base feature was re-read as `f`.
    The description is the parameter list and not a record of data: a class instantiates the parameters, so its laws and
    the conclusion of `roundtrip` mention its own functions literally and nothing has to be unfolded to use them. -/
structure ClassDesc {α : Type} (ok : α → Prop) (type : String) (keys stay : List String) (by0 : Bool) (feat : α → Feat)
    (own : α → Quals) (left : α → Quals → Quals) (rebuild : α → Feat → α) (read : Bio → E α) : Prop where
  base : ∀ x, ok x → FeatBase type keys (feat x)
  base_keys : "note" ∉ keys ∧ "tool" ∉ keys ∧ "codon_start" ∉ keys
  stay_sub : ∀ k ∈ stay, k ∈ keys
  own_nodup : ∀ x, Q.Nodup (own x)
  own_keys : ∀ x, ok x → ∀ k, k ∉ keys → Q.get? (own x) k = none
  left_nodup : ∀ x W, Q.Nodup W → Q.Nodup (left x W)
  /-- on what was written for `x` the pops remove exactly `keys` (a subregion with a label does not pop `anchor`, which it did
      not write either) -/
  left_get : ∀ x W, (∀ k ∈ keys, Q.get? W k = Q.get? (own x) k) → ∀ k, k ∉ stay →
    Q.get? (left x W) k = if k ∈ keys then none else Q.get? W k
  /-- the reader on any feature whose lookups at the class's keys are those of what the class wrote for `x` -/
  read_written : ∀ x, ok x → ∀ W, Q.Nodup W → (∀ k ∈ keys, Q.get? W k = Q.get? (own x) k) → Q.get? W "codon_start" = none →
    read ⟨(feat x).loc, type, W⟩ = (applyLeftovers ⟨(feat x).loc, type, [], [], by0, none⟩ (left x W)).map (rebuild x)

/-- at the class's keys the written feature carries the class's own values -/
theorem ClassDesc.get?_written {α : Type} {ok : α → Prop} {type : String} {keys stay : List String} {by0 : Bool} {feat : α → Feat}
    {own : α → Quals} {left : α → Quals → Quals} {rebuild : α → Feat → α} {read : Bio → E α}
    (H : ClassDesc ok type keys stay by0 feat own left rebuild read) (x : α) (hx : ok x) (k : String) (hk : k ∈ keys) :
    Q.get? (Q.sortKeys (finalQuals (feat x) (own x))) k = Q.get? (own x) k :=
  have hB := H.base x hx
  have ne_of : ∀ {s}, s ∉ keys → k ≠ s := fun hs e => hs (e ▸ hk)
  get?_written_own _ _ hB.wf.quals (H.own_nodup x) hB.codon k (ne_of H.base_keys.2.1) (ne_of H.base_keys.1) (hB.reserved k hk)

/-- the written feature is read back as `rebuild x` of the re-read base feature, which — apart from the keys that stay —
    has the view, the free qualifiers and the notes of the original and is well-formed again -/
theorem ClassDesc.roundtrip {α : Type} {ok : α → Prop} {type : String} {keys stay : List String} {by0 : Bool} {feat : α → Feat}
    {own : α → Quals} {left : α → Quals → Quals} {rebuild : α → Feat → α} {read : Bio → E α}
    (H : ClassDesc ok type keys stay by0 feat own left rebuild read) (t : Bool) (x : α) (hx : ok x) (b : Bio)
    (hb : (feat x).toBio (own x) = .ok b) :
    b = ⟨(feat x).loc, type, Q.sortKeys (finalQuals (feat x) (own x))⟩ ∧
    read b = .ok (rebuild x ((feat x).reread (left x b.quals))) ∧
    Reread t (feat x) keys (stay.foldl Q.erase (left x b.quals)) := by
  have hB := H.base x hx
  have hf := hB.wf
  have hX := H.own_nodup x
  have hFQ := nodup_finalQuals (feat x) (own x) hf.quals
  rw [toBio_eq, hB.codon, hB.type] at hb
  cases hb
  generalize hW : Q.sortKeys (finalQuals (feat x) (own x)) = W
  have hWn : Q.Nodup W := hW ▸ Q.nodup_sortKeys hFQ
  have hown : ∀ k ∈ keys, Q.get? W k = Q.get? (own x) k := fun k hk => hW ▸ H.get?_written x hx k hk
  have look : ∀ k, Q.get? W k = Q.get? (finalQuals (feat x) (own x)) k := fun k => hW ▸ Q.get?_sortKeys hFQ k
  have hcodW : Q.get? W "codon_start" = none := by
    rw [look, get?_FQ_rest _ _ hX _ hB.codon (by decide) (by decide) (H.own_keys x hx _ H.base_keys.2.2)]
    exact hf.noCodonKey
  have htoolW : Q.get? W "tool" = some ["antismash"] := by rw [look, get?_FQ_toolX _ _ hX hB.byAS]
  have notStay : ∀ {s}, s ∉ keys → s ∉ stay := fun hs h => hs (H.stay_sub _ h)
  -- with the keys that stay erased as well, the leftovers are the written dictionary without `keys`
  have hL : ∀ k, Q.get? (stay.foldl Q.erase (left x W)) k = if k ∈ keys then none else Q.get? W k := by
    intro k
    rw [get?_eraseAll]
    by_cases hk : k ∈ stay
    · rw [if_pos hk, if_pos (H.stay_sub k hk)]
    · rw [if_neg hk, H.left_get x W hown k hk]
  refine ⟨rfl, ?_, by
    subst hW
    exact class_leftovers_roundtrip t (feat x) (own x) keys _ hf hB.byAS hB.codon hX (H.own_keys x hx) H.base_keys
      hB.reserved (nodup_eraseAll _ (H.left_nodup x _ hWn)) hL⟩
  -- `codon_start` and `tool` are not among the keys that stay: the run of the base-class tail does not see those
  have hcodL : Q.get? (left x W) "codon_start" = none := by
    rw [H.left_get _ _ hown _ (notStay H.base_keys.2.2), if_neg H.base_keys.2.2, hcodW]
  have htoolL : Q.get? (left x W) "tool" = some ["antismash"] := by
    rw [H.left_get _ _ hown _ (notStay H.base_keys.2.1), if_neg H.base_keys.2.1, htoolW]
  rw [H.read_written x hx W hWn hown hcodW, applyLeftovers_plain _ _ rfl (H.left_nodup x W hWn) hcodL]
  simp only [htoolL, Q.isEmpty_of_get? htoolL, Bool.not_false, beq_self_eq_true, Bool.and_true, Feat.reread, Except.map, hB.type]

end ASV.Serial
