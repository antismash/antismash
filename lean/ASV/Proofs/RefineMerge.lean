/-
  Helper lemmas for C13: the merge stages.  `Blocks`: the input is cut into consecutive blocks and each is replaced by
  its `IsMerge`; position order, provenance, the 20 % rule and "no fragment is lost" are read off that relation.
-/
import ASV.Proofs.RefineOrder
namespace ASV.Refine

/-- the conjuncts of `isMergeOf` as a `Prop`; sufficient for it (`isMergeOf_of`) -/
structure IsMerge (env : Env) (F : List Hit) (o : Hit) : Prop where
  prof : ∀ f ∈ F, f.prof = o.prof
  lo : ∀ f ∈ F, o.qs ≤ f.qs
  hi : ∀ f ∈ F, f.qe ≤ o.qe
  ev : ∀ f ∈ F, o.ev ≤ f.ev
  sc : ∀ f ∈ F, f.sc ≤ o.sc
  hiAtt : ∃ f ∈ F, f.qe = o.qe
  evAtt : ∃ f ∈ F, f.ev = o.ev
  scAtt : ∃ f ∈ F, f.sc = o.sc
  first : ∃ f₀ rest, F = f₀ :: rest ∧ f₀.qs = o.qs ∧
    ∀ f ∈ rest, 2 * (f.qe - o.qs) < 3 * env.len o.prof

theorem isMergeOf_of (env : Env) {F : List Hit} {o : Hit} (h : IsMerge env F o) : isMergeOf env F o = true := by
  obtain ⟨f₀, rest, hF, hq, hc⟩ := h.first
  obtain ⟨f1, hf1, e1⟩ := h.hiAtt
  obtain ⟨f2, hf2, e2⟩ := h.evAtt
  obtain ⟨f3, hf3, e3⟩ := h.scAtt
  have hall : ∀ f ∈ F, (f.prof == o.prof && decide (o.qs ≤ f.qs) && decide (f.qe ≤ o.qe)
      && decide (o.ev ≤ f.ev) && decide (f.sc ≤ o.sc)) = true := by
    intro f hf
    simp [h.prof f hf, h.lo f hf, h.hi f hf, h.ev f hf, h.sc f hf]
  have hne : F.isEmpty = false := by rw [hF]; rfl
  have a0 : (F.any fun f => f.qs == o.qs) = true :=
    List.any_eq_true.mpr ⟨f₀, by rw [hF]; simp, by simp [hq]⟩
  have a1 : (F.any fun f => f.qe == o.qe) = true := List.any_eq_true.mpr ⟨f1, hf1, by simp [e1]⟩
  have a2 : (F.any fun f => f.ev == o.ev) = true := List.any_eq_true.mpr ⟨f2, hf2, by simp [e2]⟩
  have a3 : (F.any fun f => f.sc == o.sc) = true := List.any_eq_true.mpr ⟨f3, hf3, by simp [e3]⟩
  have hc' : closeEnough env F o = true := by
    rw [hF]
    simp only [closeEnough, Bool.and_eq_true, beq_iff_eq, List.all_eq_true, decide_eq_true_eq]
    exact ⟨hq, hc⟩
  simp only [isMergeOf, isSpanOf, hne, Bool.not_false, List.all_eq_true.mpr hall, a0, a1, a2, a3, hc',
    Bool.and_self]

theorem mem_sublistsOf {α} : ∀ {l' l : List α}, l'.Sublist l → l' ∈ sublistsOf l
  | _, _, .slnil => by simp [sublistsOf]
  | _, _, .cons a h => by
    simp only [sublistsOf, List.mem_append]
    exact Or.inl (mem_sublistsOf h)
  | _, _, .cons_cons a h => by
    simp only [sublistsOf, List.mem_append, List.mem_map]
    exact Or.inr ⟨_, mem_sublistsOf h, rfl⟩

theorem provenanceOK_of (env : Env) {S F : List Hit} {o : Hit} (hsub : F.Sublist S) (hm : IsMerge env F o) :
    provenanceOK env S o = true := by
  simp only [provenanceOK, Bool.or_eq_true, List.any_eq_true]
  right
  refine ⟨F, ?_, isMergeOf_of env hm⟩
  apply mem_sublistsOf
  have hall : ∀ f ∈ F, (f.prof == o.prof && decide (o.qs ≤ f.qs) && decide (f.qe ≤ o.qe)) = true := by
    intro f hf
    simp [hm.prof f hf, hm.lo f hf, hm.hi f hf]
  have := hsub.filter (fun f => f.prof == o.prof && decide (o.qs ≤ f.qs) && decide (f.qe ≤ o.qe))
  rwa [List.filter_eq_self.mpr hall] at this

theorem IsMerge.single (env : Env) (o : Hit) : IsMerge env [o] o := by
  refine ⟨?_, ?_, ?_, ?_, ?_, ⟨o, by simp, rfl⟩, ⟨o, by simp, rfl⟩, ⟨o, by simp, rfl⟩, ⟨o, [], rfl, rfl, by simp⟩⟩ <;>
    intro f hf <;> simp at hf <;> subst hf <;> simp

theorem IsMerge.snoc {env : Env} {F : List Hit} {m o : Hit} (h : IsMerge env F m)
    (hq : m.qs ≤ o.qs) (hp : o.prof = m.prof) (hc : 2 * (o.qe - m.qs) < 3 * env.len m.prof) :
    IsMerge env (F ++ [o]) (m.merge o) := by
  have eqs : (m.merge o).qs = m.qs := merge_qs_of_le hq
  obtain ⟨f₀, rest, hF, hq0, hcl⟩ := h.first
  obtain ⟨f1, hf1, e1⟩ := h.hiAtt
  obtain ⟨f2, hf2, e2⟩ := h.evAtt
  obtain ⟨f3, hf3, e3⟩ := h.scAtt
  have last : o ∈ F ++ [o] := List.mem_append_right F List.mem_cons_self
  refine ⟨forall_mem_snoc h.prof hp, eqs ▸ forall_mem_snoc h.lo hq,
    forall_mem_snoc (fun f hf => Int.le_trans (h.hi f hf) (Int.le_max_left _ _)) (Int.le_max_right _ _),
    forall_mem_snoc (fun f hf => Int.le_trans (Int.min_le_left _ _) (h.ev f hf)) (Int.min_le_right _ _),
    forall_mem_snoc (fun f hf => Int.le_trans (h.sc f hf) (Int.le_max_left _ _)) (Int.le_max_right _ _),
    ?_, ?_, ?_, ?_⟩
  · rcases Int.le_total o.qe m.qe with hle | hle
    · exact ⟨f1, List.mem_append_left _ hf1, e1.trans (Int.max_eq_left hle).symm⟩
    · exact ⟨o, last, (Int.max_eq_right hle).symm⟩
  · rcases Int.le_total m.ev o.ev with hle | hle
    · exact ⟨f2, List.mem_append_left _ hf2, e2.trans (Int.min_eq_left hle).symm⟩
    · exact ⟨o, last, (Int.min_eq_right hle).symm⟩
  · rcases Int.le_total o.sc m.sc with hle | hle
    · exact ⟨f3, List.mem_append_left _ hf3, e3.trans (Int.max_eq_left hle).symm⟩
    · exact ⟨o, last, (Int.max_eq_right hle).symm⟩
  · refine ⟨f₀, rest ++ [o], by rw [hF]; rfl, hq0.trans eqs.symm, ?_⟩
    rw [eqs]
    exact forall_mem_snoc hcl hc

theorem IsMerge.loAtt {env : Env} {F : List Hit} {o : Hit} (h : IsMerge env F o) : ∃ f ∈ F, f.qs = o.qs := by
  obtain ⟨f₀, _, e, hq, _⟩ := h.first
  exact ⟨f₀, e ▸ List.mem_cons_self, hq⟩

structure Covers (m x : Hit) : Prop where
  prof : m.prof = x.prof
  lo : m.qs ≤ x.qs
  hi : x.qe ≤ m.qe
  sc : x.sc ≤ m.sc
  ev : m.ev ≤ x.ev

theorem covers_iff (m x : Hit) : covers m x = true ↔ Covers m x := by
  simp only [covers, Bool.and_eq_true, beq_iff_eq, decide_eq_true_eq]
  constructor
  · rintro ⟨⟨⟨⟨a, b⟩, c⟩, d⟩, e⟩; exact ⟨a, b, c, d, e⟩
  · rintro ⟨a, b, c, d, e⟩; exact ⟨⟨⟨⟨a, b⟩, c⟩, d⟩, e⟩

theorem Covers.refl (x : Hit) : Covers x x := ⟨rfl, Int.le_refl _, Int.le_refl _, Int.le_refl _, Int.le_refl _⟩

theorem IsMerge.covers {env : Env} {F : List Hit} {o f : Hit} (h : IsMerge env F o) (hf : f ∈ F) : Covers o f :=
  ⟨(h.prof f hf).symm, h.lo f hf, h.hi f hf, h.sc f hf, h.ev f hf⟩

theorem complete_of_covers (env : Env) {m x : Hit} (hc : Covers m x) (hx : complete env x = true) :
    complete env m = true := by
  simp only [complete, decide_eq_true_eq] at hx ⊢
  simp only [Hit.length] at hx ⊢
  have h1 := hc.lo
  have h2 := hc.hi
  rw [hc.prof]
  omega

theorem startsClear_le (env : Env) (a b : Hit) :
    startsClear env a b = true ↔ 5 * a.qe - max (env.len a.prof) (env.len b.prof) ≤ 5 * b.qs := by
  simp only [startsClear, decide_eq_true_eq]
  simp only [margin5]

/-- what a merge stage does to its input `l`: `l` splits into consecutive blocks and `out` lists their merges in
    order.  Order, provenance, the 20 % rule and "nothing is lost" are read off this (the lemmas of `Blocks`). -/
inductive Blocks (env : Env) : List Hit → List Hit → Prop
  | nil : Blocks env [] []
  | cons {F l out : List Hit} {o : Hit} : IsMerge env F o → Blocks env l out → Blocks env (F ++ l) (o :: out)

namespace Blocks
variable {env : Env} {l out : List Hit}

theorem isInfix (h : Blocks env l out) : ∀ o ∈ out, ∃ F, F <:+: l ∧ IsMerge env F o := by
  induction h with
  | nil => intro o ho; cases ho
  | cons hm _ ih =>
    intro o ho
    rcases List.mem_cons.mp ho with rfl | ho
    · exact ⟨_, (List.prefix_append _ _).isInfix, hm⟩
    · obtain ⟨F', hin, hm'⟩ := ih o ho
      exact ⟨F', hin.trans (List.suffix_append _ _).isInfix, hm'⟩

theorem covers (h : Blocks env l out) : ∀ x ∈ l, ∃ o ∈ out, Covers o x := by
  induction h with
  | nil => intro x hx; cases hx
  | cons hm _ ih =>
    intro x hx
    rcases List.mem_append.mp hx with hx | hx
    · exact ⟨_, List.mem_cons_self, hm.covers hx⟩
    · obtain ⟨o, ho, hc⟩ := ih x hx
      exact ⟨o, List.mem_cons_of_mem _ ho, hc⟩

/-- a relation between all members of an earlier and of a later block passes to their merges -/
theorem pairwise {R T : Hit → Hit → Prop} (h : Blocks env l out)
    (hT : ∀ {F F' : List Hit} {o o' : Hit}, IsMerge env F o → IsMerge env F' o' → (∀ a ∈ F, ∀ b ∈ F', R a b) → T o o')
    (hl : l.Pairwise R) : out.Pairwise T := by
  induction h with
  | nil => exact .nil
  | cons hm hb ih =>
    have hp := List.pairwise_append.mp hl
    refine .cons ?_ (ih hp.2.1)
    intro o' ho'
    obtain ⟨F', hin, hm'⟩ := hb.isInfix o' ho'
    exact hT hm hm' (fun a ha b hb => hp.2.2 a ha b (hin.subset hb))

/-- a merged hit starts where its first fragment starts -/
theorem sorted (h : Blocks env l out) (hl : Sorted l) : Sorted out :=
  h.pairwise (fun hm hm' hR => by
    obtain ⟨a, ha, ea⟩ := hm.loAtt
    obtain ⟨b, hb, eb⟩ := hm'.loAtt
    rw [← ea, ← eb]
    exact hR a ha b hb) hl

/-- … and ends where one of its fragments ends, with their profile: the 20 % rule survives a merge -/
theorem clear (h : Blocks env l out) (hl : l.Pairwise (fun a b => startsClear env a b = true)) :
    out.Pairwise (fun a b => startsClear env a b = true) :=
  h.pairwise (fun hm hm' hR => by
    obtain ⟨a, ha, ea⟩ := hm.hiAtt
    obtain ⟨b, hb, eb⟩ := hm'.loAtt
    have := hR a ha b hb
    rw [startsClear_le] at this ⊢
    rw [← hm.prof a ha, ← hm'.prof b hb, ← ea, ← eb]
    exact this) hl

end Blocks

/-- the neighbour merge, started with `last` = the merge of the fragments `F` read so far -/
theorem mergeImmFrom_blocks (env : Env) : ∀ (last : Hit) (rest F : List Hit),
    IsMerge env F last → Sorted (last :: rest) → Blocks env (F ++ rest) (mergeImmFrom env last rest)
  | last, [], F, hm, _ => by
    simpa [mergeImmFrom] using Blocks.cons hm Blocks.nil
  | last, d :: rest, F, hm, hs => by
    have hsp := List.pairwise_cons.mp hs
    rcases mergeImmFrom_cons env last d rest with ⟨hpe, hc, e⟩ | e
    · rw [e]
      have := mergeImmFrom_blocks env (last.merge d) rest (F ++ [d])
        (hm.snoc (hsp.1 d List.mem_cons_self) hpe hc) hs.merge_head
      simpa using this
    · rw [e]
      exact Blocks.cons hm (mergeImmFrom_blocks env d rest [d] (IsMerge.single env d) hsp.2)

theorem mergeImmediate_blocks (env : Env) {l : List Hit} (hs : Sorted l) : Blocks env l (mergeImmediate env l) := by
  cases l with
  | nil => exact Blocks.nil
  | cons a t => exact mergeImmFrom_blocks env a t [a] (IsMerge.single env a) hs

/-- provenance of one hit relative to the stage input `l` -/
def FromInput (env : Env) (l : List Hit) (o : Hit) : Prop :=
  ∃ F, (∀ f ∈ F, f ∈ l) ∧ IsMerge env F o

theorem FromInput.of_mem (env : Env) {l : List Hit} {o : Hit} (h : o ∈ l) : FromInput env l o :=
  ⟨[o], by intro f hf; simp at hf; subst hf; exact h, IsMerge.single env o⟩

/-- on the fragments of one profile `_merge_domain_list`'s inner loop is the neighbour merge -/
theorem mergeCat_eq_mergeImmFrom (env : Env) (p : Int) : ∀ (m : Hit) (rest : List Hit),
    m.prof = p → (∀ r ∈ rest, r.prof = p) → mergeCat (3 * env.len p) m rest = mergeImmFrom env m rest
  | m, [], _, _ => by simp [mergeCat, mergeImmFrom]
  | m, o :: rest, hm, hr => by
    have ho : o.prof = p := hr o (by simp)
    have hrest : ∀ r ∈ rest, r.prof = p := fun r h => hr r (List.mem_cons_of_mem _ h)
    have hne : (o.prof != m.prof) = false := by simp [ho, hm]
    simp only [mergeCat, mergeImmFrom, hne, Bool.false_eq_true, if_false]
    rw [ho]
    split
    · exact mergeCat_eq_mergeImmFrom env p (m.merge o) rest hm hrest
    · rw [mergeCat_eq_mergeImmFrom env p o rest ho hrest]

/-- a hit of `_merge_domain_list` comes from the neighbour merge of the fragments of one profile -/
theorem mem_mergeDomainList {env : Env} {l : List Hit} {o : Hit} :
    o ∈ mergeDomainList env l ↔ ∃ h t, (∃ p, l.filter (fun d => d.prof == p) = h :: t) ∧ o ∈ mergeImmFrom env h t := by
  unfold mergeDomainList
  rw [mem_sortBy, List.mem_flatMap]
  constructor
  · rintro ⟨p, _, hp⟩
    split at hp
    · simp at hp
    · rename_i h t hfil
      have hmem : ∀ x ∈ h :: t, x.prof = p := by
        intro x hx
        rw [← hfil, List.mem_filter] at hx
        simpa using hx.2
      rw [mergeCat_eq_mergeImmFrom env h.prof h t rfl
        (fun r hr => by rw [hmem r (List.mem_cons_of_mem _ hr), hmem h (by simp)])] at hp
      exact ⟨h, t, ⟨p, hfil⟩, hp⟩
  · rintro ⟨h, t, ⟨p, hfil⟩, ho⟩
    have hmem : ∀ x ∈ h :: t, x ∈ l ∧ x.prof = p := by
      intro x hx
      rw [← hfil, List.mem_filter] at hx
      exact ⟨hx.1, by simpa using hx.2⟩
    have hh := hmem h (by simp)
    refine ⟨p, ?_, ?_⟩
    · rw [mem_firstOcc, List.mem_map]; exact ⟨h, hh.1, hh.2⟩
    · rw [hfil]
      simp only
      rw [mergeCat_eq_mergeImmFrom env h.prof h t rfl
        (fun r hr => by rw [(hmem r (List.mem_cons_of_mem _ hr)).2, hh.2])]
      exact ho

/-- `_merge_domain_list` on position-sorted hits: per profile, the neighbour merge of that profile's fragments -/
theorem mergeDomainList_blocks {env : Env} {l : List Hit} (hs : Sorted l) {p : Int} {h : Hit} {t : List Hit}
    (hfil : l.filter (fun d => d.prof == p) = h :: t) :
    Blocks env (h :: t) (mergeImmFrom env h t) ∧ (h :: t).Sublist l := by
  have hsub : (h :: t).Sublist l := hfil ▸ List.filter_sublist
  exact ⟨mergeImmFrom_blocks env h t [h] (IsMerge.single env h) (hs.sublist hsub), hsub⟩

theorem mergeDomainList_covers (env : Env) {l : List Hit} (hs : Sorted l) :
    ∀ x ∈ l, ∃ o ∈ mergeDomainList env l, Covers o x := by
  intro x hx
  have hxf : x ∈ l.filter (fun d => d.prof == x.prof) := by simp [List.mem_filter, hx]
  cases hfil : l.filter (fun d => d.prof == x.prof) with
  | nil => rw [hfil] at hxf; simp at hxf
  | cons h t =>
    obtain ⟨o, ho, hc⟩ := (mergeDomainList_blocks (env := env) hs hfil).1.covers x (hfil ▸ hxf)
    exact ⟨o, mem_mergeDomainList.mpr ⟨h, t, ⟨x.prof, hfil⟩, ho⟩, hc⟩

/-- neighbour mode: what reaches the incomplete rule are the merges of consecutive survivors of the overlap pass -/
theorem neighbour_blocks (env : Env) (l : List Hit) :
    Blocks env (removeOverlapping env (sortHits l)) (mergeImmediate env (removeOverlapping env (sortHits l))) :=
  mergeImmediate_blocks env ((sortHits_sorted l).sublist (removeOverlapping_sublist env _))

theorem refine_eq (env : Env) (nb : Bool) (l : List Hit) :
    refine env nb l = removeIncomplete env (beforeIncomplete env nb l) := rfl

theorem refine_positionSorted (env : Env) (nb : Bool) (l : List Hit) : Sorted (refine env nb l) := by
  simp only [refine, beforeIncomplete]
  apply Sorted.sublist _ (removeIncomplete_sublist env _)
  split
  · exact (neighbour_blocks env l).sorted ((sortHits_sorted l).sublist (removeOverlapping_sublist env _))
  · exact (mergeDomainList_sorted env _).sublist (removeOverlapping_sublist env _)

/-- every hit handed to the incomplete rule is the merge of a sub-list (order kept) of the sorted raw hits -/
theorem beforeIncomplete_sub (env : Env) (nb : Bool) (l : List Hit) : ∀ o ∈ beforeIncomplete env nb l,
    ∃ F, F.Sublist (sortHits l) ∧ IsMerge env F o := by
  intro o ho
  cases nb with
  | true =>
    simp only [beforeIncomplete, if_true] at ho
    obtain ⟨F, hin, hm⟩ := (neighbour_blocks env l).isInfix o ho
    exact ⟨F, hin.sublist.trans (removeOverlapping_sublist env _), hm⟩
  | false =>
    simp only [beforeIncomplete, Bool.false_eq_true, if_false] at ho
    obtain ⟨h, t, ⟨p, hfil⟩, hmem⟩ := mem_mergeDomainList.mp ((removeOverlapping_sublist env _).subset ho)
    obtain ⟨hb, hsub⟩ := mergeDomainList_blocks (env := env) (sortHits_sorted l) hfil
    obtain ⟨F, hin, hm⟩ := hb.isInfix o hmem
    exact ⟨F, hin.sublist.trans hsub, hm⟩

theorem refine_from (env : Env) (nb : Bool) (l : List Hit) : ∀ o ∈ refine env nb l, FromInput env l o := by
  intro o ho
  obtain ⟨F, hsub, hm⟩ := beforeIncomplete_sub env nb l o ((removeIncomplete_sublist env _).subset ho)
  exact ⟨F, fun f hf => mem_sortHits.mp (hsub.subset hf), hm⟩

theorem beforeIncomplete_prof (env : Env) (nb : Bool) (l : List Hit) : ∀ o ∈ beforeIncomplete env nb l,
    ∃ f ∈ l, f.prof = o.prof := by
  intro o ho
  obtain ⟨F, hsub, hm⟩ := beforeIncomplete_sub env nb l o ho
  obtain ⟨f, hf, _⟩ := hm.loAtt
  exact ⟨f, mem_sortHits.mp (hsub.subset hf), hm.prof f hf⟩

/-- neighbour mode: a returned hit merges immediately neighbouring survivors of the overlap pass -/
theorem refine_neighbour_infix (env : Env) (l : List Hit) : ∀ o ∈ refine env true l,
    ∃ F, F <:+: removeOverlapping env (sortHits l) ∧ IsMerge env F o := by
  intro o ho
  simp only [refine, beforeIncomplete, if_true] at ho
  have ho' := (removeIncomplete_sublist env _).subset ho
  exact (neighbour_blocks env l).isInfix o ho'

end ASV.Refine
