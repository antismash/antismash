/-
  C07: the executable re-indexing `Rot.rotateLoc` (the harness' `rotate_loc`) is a rotation of the set
  of bases: `IsRot L (-k) l (rotateLoc l k L)` for every well-formed location and every cut `0 ≤ k < L`.
-/
import ASV.Model.Rotate
import ASV.Proofs.Rotation
namespace ASV.Rot
open ASV

def anyMem (ps : List Part) (i : Int) : Bool := ps.any (·.mem i)

theorem mem_ofParts (ps : List Part) (i : Int) : (Loc.ofParts ps).mem i = anyMem ps i := by
  unfold Loc.ofParts anyMem
  split <;> simp [Loc.mem, Loc.parts]

theorem anyMem_cons (p : Part) (ps : List Part) (i : Int) : anyMem (p :: ps) i = (p.mem i || anyMem ps i) := by
  simp [anyMem]

theorem Part.mem_join (a b : Part) (s : Strand) (ha : a.lo ≤ a.hi) (hb : b.lo ≤ b.hi) (h : a.hi = b.lo) (i : Int) :
    (⟨a.lo, b.hi, s⟩ : Part).mem i = (a.mem i || b.mem i) := by
  rw [Bool.eq_iff_iff]
  simp only [Part.mem_iff, Bool.or_eq_true]
  omega

/-- also carries the invariant the join needs: every piece kept so far has `lo ≤ hi` -/
theorem pushPiece_mem (out : List Part) (p : Part) (hout : ∀ q ∈ out, q.lo ≤ q.hi) (hp : p.lo ≤ p.hi) (i : Int) :
    anyMem (pushPiece out p) i = (anyMem out i || p.mem i) ∧ ∀ q ∈ pushPiece out p, q.lo ≤ q.hi := by
  cases out with
  | nil => simp [pushPiece, anyMem, hp]
  | cons q rest =>
    have hq := hout q List.mem_cons_self
    have hrest : ∀ x ∈ rest, x.lo ≤ x.hi := fun x hx => hout x (List.mem_cons_of_mem q hx)
    simp only [pushPiece]
    by_cases h1 : (p.strand != Strand.rev && q.hi == p.lo) = true
    · rw [if_pos h1]
      simp only [Bool.and_eq_true, beq_iff_eq] at h1
      refine ⟨?_, List.forall_mem_cons.2 ⟨Int.le_trans hq (h1.2 ▸ hp), hrest⟩⟩
      rw [anyMem_cons, anyMem_cons, Part.mem_join q p q.strand hq hp h1.2, Bool.or_assoc, Bool.or_comm (p.mem i),
        ← Bool.or_assoc]
    · rw [if_neg h1]
      by_cases h2 : (p.strand == Strand.rev && q.lo == p.hi) = true
      · rw [if_pos h2]
        simp only [Bool.and_eq_true, beq_iff_eq] at h2
        refine ⟨?_, List.forall_mem_cons.2 ⟨Int.le_trans hp (h2.2 ▸ hq), hrest⟩⟩
        rw [anyMem_cons, anyMem_cons, Part.mem_join p q q.strand hp hq h2.2.symm, Bool.or_comm (p.mem i), Bool.or_assoc,
          Bool.or_comm (p.mem i), ← Bool.or_assoc]
      · rw [if_neg h2]
        refine ⟨?_, List.forall_mem_cons.2 ⟨hp, hout⟩⟩
        rw [anyMem_cons, Bool.or_comm]

theorem foldl_pushPiece_mem (ps : List Part) (hps : ∀ p ∈ ps, p.lo ≤ p.hi) (i : Int) :
    ∀ (out : List Part), (∀ q ∈ out, q.lo ≤ q.hi) →
      anyMem (ps.foldl pushPiece out) i = (anyMem out i || anyMem ps i) := by
  induction ps with
  | nil => intro out _; simp [anyMem]
  | cons p rest ih =>
    intro out hout
    obtain ⟨h1, h2⟩ := pushPiece_mem out p hout (hps p (by simp)) i
    rw [List.foldl_cons, ih (fun x hx => hps x (by simp [hx])) _ h2, h1, anyMem_cons, Bool.or_assoc]

theorem anyMem_reverse (ps : List Part) (i : Int) : anyMem ps.reverse i = anyMem ps i := by
  simp [anyMem]

/-- the positions of `[0, L)` that are a base of `[lo, hi)` re-indexed by `-k`: the interval moved down by `k`,
    and what that puts below the origin moved up by `L` (the one source of `i` inside the ring is `i + k` or
    `i + k - L`) -/
theorem rot_range_iff (k L lo hi i : Int) (hk : 0 ≤ k ∧ k < L) (h0 : 0 ≤ lo) (h2 : hi ≤ L) :
    (0 ≤ i ∧ i < L ∧ ∃ j, (lo ≤ j ∧ j < hi) ∧ RotOf L (-k) i j) ↔
      (0 ≤ i ∧ lo - k ≤ i ∧ i < hi - k) ∨ (i < L ∧ lo - k + L ≤ i ∧ i < hi - k + L) := by
  constructor
  · rintro ⟨i0, i1, j, hj, r⟩
    have hjL : 0 ≤ j ∧ j < L := ⟨Int.le_trans h0 hj.1, Int.lt_of_lt_of_le hj.2 h2⟩
    by_cases hik : i + k < L
    · have e := rot_unique_src L (-k) i j (i + k) hjL ⟨Int.add_nonneg i0 hk.1, hik⟩ r
        ⟨0, by rw [Int.zero_mul, Int.add_zero, Int.add_neg_cancel_right]⟩
      subst e
      exact Or.inl ⟨i0, Int.sub_right_le_of_le_add hj.1, Int.lt_sub_right_of_add_lt hj.2⟩
    · have e := rot_unique_src L (-k) i j (i + k - L) hjL (by omega) r ⟨1, by omega⟩
      subst e
      right
      omega
  · rintro (h | h)
    · exact ⟨h.1, by omega, i + k, ⟨Int.le_add_of_sub_right_le h.2.1, Int.add_lt_of_lt_sub_right h.2.2⟩, 0,
        by rw [Int.zero_mul, Int.add_zero, Int.add_neg_cancel_right]⟩
    · have b : 0 ≤ i ∧ i < L ∧ (lo ≤ i + k - L ∧ i + k - L < hi) ∧ i = i + k - L + -k + 1 * L := by omega
      exact ⟨b.1, b.2.1, i + k - L, b.2.2.1, 1, b.2.2.2⟩
/-- with `a = lo - k`, `b = hi - k`: `b ≤ 0` moves the part up by `L`; `a < 0 < b` splits it at the new origin,
    the strand deciding the order of the two pieces; `0 ≤ a` leaves it where the shift put it -/
theorem rotPieces_spec (k L : Int) (hk : 0 ≤ k ∧ k < L) (p : Part) (h0 : 0 ≤ p.lo) (h1 : p.lo ≤ p.hi) (h2 : p.hi ≤ L) :
    (∀ q ∈ rotPieces k L p, q.lo ≤ q.hi) ∧ ∀ i, anyMem (rotPieces k L p) i = true ↔
      (0 ≤ i ∧ p.lo - k ≤ i ∧ i < p.hi - k) ∨ (i < L ∧ p.lo - k + L ≤ i ∧ i < p.hi - k + L) := by
  have hab : -L < p.lo - k ∧ p.lo - k ≤ p.hi - k ∧ p.hi - k ≤ L := by omega
  simp only [rotPieces, anyMem]
  generalize p.lo - k = a at *
  generalize p.hi - k = b at *
  by_cases hA : b ≤ 0
  · have hn : ¬ a + L < 0 := by omega
    simp only [hA, if_true, hn, if_false, List.any_cons, List.any_nil, Bool.or_false, Part.mem_iff, List.mem_singleton, forall_eq]
    refine ⟨Int.add_le_add_right hab.2.1 L, fun i => ⟨fun h => Or.inr ⟨by omega, h.1, h.2⟩, ?_⟩⟩
    rintro (h | h)
    · exact absurd (Int.lt_of_le_of_lt h.1 h.2.2) (Int.not_lt.2 hA)
    · exact h.2
  · have w1 : (0 : Int) ≤ b := Int.le_of_lt (Int.not_le.1 hA)
    by_cases hB : a < 0
    · have key : ∀ i, ((a + L ≤ i ∧ i < L) ∨ (0 ≤ i ∧ i < b)) ↔
          (0 ≤ i ∧ a ≤ i ∧ i < b) ∨ (i < L ∧ a + L ≤ i ∧ i < b + L) := by
        intro i
        constructor
        · rintro (h | h)
          · exact Or.inr ⟨h.2, h.1, Int.lt_of_lt_of_le h.2 (Int.le_add_of_nonneg_left w1)⟩
          · exact Or.inl ⟨h.1, Int.le_trans (Int.le_of_lt hB) h.1, h.2⟩
        · rintro (h | h)
          · exact Or.inr ⟨h.1, h.2.2⟩
          · exact Or.inl ⟨h.2.1, h.1⟩
      have w2 : a + L ≤ L := by omega
      by_cases hs : (p.strand == Strand.rev) = true
      · simp only [hA, if_false, hB, hs, if_true, List.any_cons, List.any_nil, Bool.or_false, Part.mem_iff,
          Bool.or_eq_true, List.forall_mem_cons]
        exact ⟨⟨w1, w2, fun _ h => absurd h List.not_mem_nil⟩, fun i => Or.comm.trans (key i)⟩
      · simp only [hA, if_false, hB, hs, Bool.false_eq_true, if_true, List.any_cons, List.any_nil, Bool.or_false,
          Part.mem_iff, Bool.or_eq_true, List.forall_mem_cons]
        exact ⟨⟨w2, w1, fun _ h => absurd h List.not_mem_nil⟩, key⟩
    · simp only [hA, if_false, hB, List.any_cons, List.any_nil, Bool.or_false, Part.mem_iff, List.mem_singleton, forall_eq]
      have w3 : 0 ≤ a := Int.not_lt.1 hB
      refine ⟨hab.2.1, fun i => ⟨fun h => Or.inl ⟨Int.le_trans w3 h.1, h.1, h.2⟩, ?_⟩⟩
      rintro (h | h)
      · exact h.2
      · exact absurd (Int.lt_of_le_of_lt h.2.1 h.1) (Int.not_lt.2 (Int.le_add_of_nonneg_left w3))
theorem rotPieces_mem (k L : Int) (hk : 0 ≤ k ∧ k < L) (p : Part)
    (h0 : 0 ≤ p.lo) (h1 : p.lo ≤ p.hi) (h2 : p.hi ≤ L) (i : Int) :
    anyMem (rotPieces k L p) i = true ↔ 0 ≤ i ∧ i < L ∧ ∃ j, p.mem j = true ∧ RotOf L (-k) i j := by
  simp only [Part.mem_iff]
  rw [(rotPieces_spec k L hk p h0 h1 h2).2 i, rot_range_iff k L p.lo p.hi i hk h0 h2]

theorem anyMem_flatMap (ps : List Part) (f : Part → List Part) (i : Int) :
    anyMem (ps.flatMap f) i = ps.any fun p => anyMem (f p) i := by
  simp [anyMem, List.any_flatMap]

/-- **Re-indexing is a rotation of the bases**: for every location with non-empty parts inside the ring
    and every cut point, `rotateLoc` holds exactly the bases of the location re-indexed by `-k` -/
theorem rotateLoc_isRot (l : Loc) (k L : Int) (hk0 : 0 ≤ k) (hkL : k < L) (hok : l.OK L) :
    IsRot L (-k) l (rotateLoc l k L) := by
  have hk : 0 ≤ k ∧ k < L := ⟨hk0, hkL⟩
  have hL : 0 < L := Int.lt_of_le_of_lt hk0 hkL
  have hpart : ∀ p ∈ l.parts, 0 ≤ p.lo ∧ p.lo < p.hi ∧ p.hi ≤ L := by
    intro p hp
    obtain ⟨a, b, c⟩ := hok.2 p hp
    exact ⟨a, b, c (Int.ne_of_gt hL)⟩
  have hwf : ∀ q ∈ l.parts.flatMap (rotPieces k L), q.lo ≤ q.hi := by
    intro q hq
    obtain ⟨p, hp, hqp⟩ := List.mem_flatMap.1 hq
    obtain ⟨a, b, c⟩ := hpart p hp
    exact (rotPieces_spec k L hk p a (Int.le_of_lt b) c).1 q hqp
  intro i
  rw [rotateLoc, mem_ofParts, rotateParts, anyMem_reverse,
    foldl_pushPiece_mem _ hwf i [] (by intro q hq; cases hq), anyMem_flatMap]
  rw [show anyMem [] i = false from rfl, Bool.false_or]
  simp only [List.any_eq_true, Loc.mem]
  constructor
  · rintro ⟨p, hp, hm⟩
    obtain ⟨a, b, c⟩ := hpart p hp
    obtain ⟨i0, i1, j, hj, hr⟩ := (rotPieces_mem k L hk p a (Int.le_of_lt b) c i).1 hm
    exact ⟨i0, i1, j, ⟨p, hp, hj⟩, hr⟩
  · rintro ⟨i0, i1, j, ⟨p, hp, hpj⟩, hr⟩
    obtain ⟨a, b, c⟩ := hpart p hp
    exact ⟨p, hp, (rotPieces_mem k L hk p a (Int.le_of_lt b) c i).2 ⟨i0, i1, j, hpj, hr⟩⟩

end ASV.Rot
