/-
  C15 helper lemmas: `get_trimmed_orf` — the search returns the latest admissible in-frame start
  codon, and the new location (C09's exon walk) is the suffix of the ORF from that codon.
-/
import ASV.Spec.Orf
import ASV.Proofs.ProtDnaRebuild
namespace ASV.Orf
open ASV

/-- `len(range(lo, hi, 3))`, as `trimSearch` computes it -/
def range3Count (lo hi : Int) : Nat := if hi > lo then ((hi - lo + 2) / 3).toNat else 0

/-- the positions `range(lo, hi, 3)` visits: `lo + 3j` for `j` below the iteration count -/
theorem range3_mem (lo hi : Int) (hlo : 0 ≤ lo) (k : Nat) :
    (∃ j, j < range3Count lo hi ∧ k = lo.toNat + 3 * j) ↔
      lo ≤ k ∧ (k : Int) < hi ∧ ((k : Int) - lo) % 3 = 0 := by
  unfold range3Count
  constructor
  · rintro ⟨j, hj, rfl⟩
    split at hj
    · omega
    · omega
  · rintro ⟨h1, h2, h3⟩
    refine ⟨(((k : Int) - lo) / 3).toNat, ?_, ?_⟩
    · rw [if_pos (by omega)]; omega
    · omega

/-- the lower end leaves at most `maxLen` bases and, for a whole number of codons, keeps the frame -/
theorem trimLo_facts (n maxLen : Int) :
    n - maxLen ≤ trimLo n maxLen ∧ (n % 3 = 0 → trimLo n maxLen % 3 = 0) := by
  unfold trimLo
  omega

theorem trimHi_le (n minLen incl : Int) : trimHi n minLen incl ≤ n - minLen ∧ trimHi n minLen incl ≤ incl :=
  ⟨Int.min_le_left _ _, Int.min_le_right _ _⟩

theorem lastStart_spec (seq : Seq) :
    ∀ (cnt i : Nat) (acc : Option Nat) (k : Nat), lastStart seq cnt i acc = some k →
      (acc = some k ∧ ∀ j, j < cnt → isStart (codonAt seq (i + 3 * j)) = false) ∨
      (∃ j, j < cnt ∧ k = i + 3 * j ∧ isStart (codonAt seq k) = true ∧
        ∀ j', j < j' → j' < cnt → isStart (codonAt seq (i + 3 * j')) = false) := by
  intro cnt
  induction cnt with
  | zero =>
    intro i acc k h
    exact Or.inl ⟨h, fun j hj => absurd hj (Nat.not_lt_zero j)⟩
  | succ cnt ih =>
    intro i acc k h
    rw [lastStart] at h
    -- positions `i + 3 + 3j` of the remaining iterations are positions `i + 3(j + 1)` of these
    have shift : ∀ j, i + 3 + 3 * j = i + 3 * (j + 1) := fun j => by omega
    rcases ih (i + 3) _ k h with ⟨hacc, hno⟩ | ⟨j, hj, hk, hs, hno⟩
    · by_cases hst : isStart (codonAt seq i) = true
      · rw [if_pos hst, Option.some.injEq] at hacc
        subst hacc
        refine Or.inr ⟨0, Nat.succ_pos _, rfl, hst, ?_⟩
        intro j' h1 h2
        obtain ⟨j, rfl⟩ := Nat.exists_eq_succ_of_ne_zero (Nat.ne_of_gt h1)
        rw [← shift]
        exact hno j (Nat.lt_of_succ_lt_succ h2)
      · rw [if_neg hst] at hacc
        refine Or.inl ⟨hacc, ?_⟩
        intro j hj
        cases j with
        | zero => simpa using hst
        | succ j => rw [← shift]; exact hno j (Nat.lt_of_succ_lt_succ hj)
    · refine Or.inr ⟨j + 1, Nat.succ_lt_succ hj, by rw [hk, shift], hs, ?_⟩
      intro j' h1 h2
      obtain ⟨j'', rfl⟩ := Nat.exists_eq_succ_of_ne_zero (Nat.ne_of_gt (Nat.lt_of_le_of_lt (Nat.zero_le _) h1))
      rw [← shift]
      exact hno j'' (Nat.lt_of_succ_lt_succ h1) (Nat.lt_of_succ_lt_succ h2)

/-- what `starts[-1]` is: a start codon inside the search range `[lo, hi)`, in the range's frame,
    and the last such -/
theorem trimSearch_spec {seq : Seq} {incl : Option Int} {minLen : Int} {maxLen : Option Int} {k : Nat}
    (h : trimSearch seq incl minLen maxLen = .start k) :
    isStart (codonAt seq k) = true ∧
    trimLo seq.length (maxLen.getD seq.length) ≤ k ∧
    (k : Int) < trimHi seq.length minLen (incl.getD seq.length) ∧
    ((k : Int) - trimLo seq.length (maxLen.getD seq.length)) % 3 = 0 ∧
    ∀ k' : Nat, k < k' → (k' : Int) < trimHi seq.length minLen (incl.getD seq.length) →
      ((k' : Int) - trimLo seq.length (maxLen.getD seq.length)) % 3 = 0 →
      isStart (codonAt seq k') = false := by
  have hlo0 : 0 ≤ trimLo seq.length (maxLen.getD seq.length) := Int.le_max_left 0 _
  unfold trimSearch at h
  simp only at h
  generalize trimLo (seq.length : Int) (maxLen.getD seq.length) = lo at h hlo0 ⊢
  generalize trimHi (seq.length : Int) minLen (incl.getD seq.length) = hi at h ⊢
  have hk : lastStart seq (range3Count lo hi) lo.toNat none = some k := by
    by_cases g1 : minLen > maxLen.getD seq.length
    · rw [if_pos g1] at h; nomatch h
    · by_cases g2 : minLen > seq.length
      · rw [if_neg g1, if_pos g2] at h; nomatch h
      · by_cases g3 : maxLen.getD seq.length < seq.length - incl.getD seq.length
        · rw [if_neg g1, if_neg g2, if_pos g3] at h; nomatch h
        · rw [if_neg g1, if_neg g2, if_neg g3] at h
          rw [show (if hi > lo then ((hi - lo + 2) / 3).toNat else 0) = range3Count lo hi from rfl] at h
          cases hl : lastStart seq (range3Count lo hi) lo.toNat none with
          | none => rw [hl] at h; nomatch h
          | some k0 => rw [hl] at h; exact congrArg some (TrimSearch.start.inj h)
  rcases lastStart_spec seq _ _ _ _ hk with ⟨hacc, _⟩ | ⟨j, hj, hkj, hs, hno⟩
  · nomatch hacc
  · obtain ⟨r1, r2, r3⟩ := (range3_mem lo hi hlo0 k).1 ⟨j, hj, hkj⟩
    refine ⟨hs, r1, r2, r3, ?_⟩
    intro k' h1 h2 h3
    obtain ⟨j', hj', hk'⟩ := (range3_mem lo hi hlo0 k').2 ⟨by omega, h2, h3⟩
    rw [hk']
    exact hno j' (by omega) hj'

theorem startCodons_length : ∀ c ∈ Gen.startCodons, c.length = 3 := by decide +kernel

/-- a start codon is three characters, so it lies inside the sequence -/
theorem isStart_inside {seq : Seq} {k : Nat} (h : isStart (codonAt seq k) = true) : k + 3 ≤ seq.length := by
  simp only [isStart, List.contains_eq_mem, decide_eq_true_eq] at h
  have := startCodons_length _ h
  simp only [codonAt, List.length_take, List.length_drop] at this
  omega

/-- once a start is found the call succeeds, and the new location is the suffix of the ORF from
    that start, each of its parts a non-empty piece of one of the ORF's parts on the same strand -/
theorem trimmedOrf_suffix (recf : Int → Char) (compl : Char → Char) {l : Loc}
    (hwf : ProtDna.geneWF l = true) {incl : Option Int} {minLen : Int} {maxLen : Option Int} {k : Nat}
    (h : trimSearch (ProtDna.extract recf compl l) incl minLen maxLen = .start k) :
    ∃ r, trimmedOrf (ProtDna.extract recf compl l) l incl minLen maxLen = .found r ∧
      ProtDna.extract recf compl r = (ProtDna.extract recf compl l).drop k ∧
      (∀ q ∈ r.parts, ∃ p ∈ l.parts, p.lo ≤ q.lo ∧ q.lo < q.hi ∧ q.hi ≤ p.hi ∧ q.strand = p.strand) := by
  have hspec := trimSearch_spec h
  have hin := isStart_inside hspec.1
  have hlen := ProtDna.extract_length recf compl l hwf
  obtain ⟨r, hr, hb, hi⟩ := ProtDna.subLocationFromOffsets_slice l hwf k
    (ProtDna.extract recf compl l).length (by omega) (by omega)
  refine ⟨r, ?_, ?_, hi⟩
  · unfold trimmedOrf
    rw [h]
    simp only
    rw [hr]
  · rw [ProtDna.extract_slice recf compl l r hwf k _ hb hi]
    unfold ProtDna.sliceL
    exact List.take_of_length_le (by simp only [List.length_drop]; omega)

/-- a location is found exactly when the search finds a start and the exon walk succeeds -/
theorem trimmedOrf_eq_found_iff {seq : Seq} {l : Loc} {incl : Option Int} {minLen : Int} {maxLen : Option Int}
    {r : Loc} : trimmedOrf seq l incl minLen maxLen = .found r ↔
      ∃ k, trimSearch seq incl minLen maxLen = .start k ∧
        ProtDna.subLocationFromOffsets l k seq.length = .ok r := by
  unfold trimmedOrf
  constructor
  · intro h
    split at h
    · nomatch h
    · nomatch h
    · rename_i k hk
      split at h
      · rename_i r' hr
        exact ⟨k, hk, hr.trans (congrArg _ (Trim.found.inj h))⟩
      · nomatch h
  · rintro ⟨k, hk, hr⟩
    rw [hk]
    simp only [hr]

/-- the other two outcomes are passed through -/
theorem trimmedOrf_none (seq : Seq) (l : Loc) (incl : Option Int) (minLen : Int) (maxLen : Option Int) :
    (trimSearch seq incl minLen maxLen = .none → trimmedOrf seq l incl minLen maxLen = .none) ∧
    (trimSearch seq incl minLen maxLen = .valueError → trimmedOrf seq l incl minLen maxLen = .valueError) := by
  constructor <;> intro h <;> unfold trimmedOrf <;> rw [h]

end ASV.Orf
