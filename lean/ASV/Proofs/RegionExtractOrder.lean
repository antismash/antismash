/-
  C12: the numbers written for the areas of a region follow the order in which a record that loads the
  file numbers them (`CDSCollection.__lt__`: start — an area still over the origin counting from before
  it — then larger first).  The link is: the load key of the written location of an area is the pair the
  position key of `_number_by_position` starts with.
-/
import ASV.Proofs.RegionExtractMain
namespace ASV.RegionExtract
open ASV

theorem comparatorStart_simple (p : Part) : comparatorStart (.simple p) = .ok p.lo := by
  simp [comparatorStart, bridgesOrigin, Loc.start, pure, Except.pure]

theorem comparatorStart_two_fwd (x y L : Int) (hy0 : 0 < y) (hyx : y ≤ x) (hxL : x < L) :
    comparatorStart (.compound [⟨x, L, .fwd⟩, ⟨0, y, .fwd⟩]) = .ok (x - L) := by
  have hx0 : 0 < x := by omega
  have h1 : ¬ (0 : Int) > x := by omega
  have hb : bridgesOrigin (.compound [⟨x, L, .fwd⟩, ⟨0, y, .fwd⟩]) = true := by
    simp [bridgesOrigin, Loc.strand, orderInvalid, hx0]
  have hov : locationsOverlap (partsHull [⟨0, y, .fwd⟩]) (partsHull [⟨x, L, .fwd⟩]) = false := by
    simp [locationsOverlap, partsHull, hullOf, Loc.parts, partsOverlap, Part.mem, minList, maxList, Loc.start, Loc.end]
    omega
  simp [comparatorStart, hb, splitBridging, strandsUsed, Loc.strand, splitFwd, h1, isValidSplit, hov, sortInts,
    insertInt, minList, maxList, bind, Except.bind, pure, Except.pure]

theorem strand_two (a b : Part) (h : a.strand = b.strand) : (Loc.compound [a, b]).strand = a.strand := by
  simp [Loc.strand, h]

/-- what `offset_location` with `-st` makes of a pair of parts `[x, L)`, `[0, y)`: one part when the pair lies
    between `st` and `st` again (`st ≤ x`, `y ≤ st`), the pair itself when it covers the record, a pair over the
    origin otherwise -/
theorem cross_two_fwd_exact (x y st L : Int) (s : Strand) (hy0 : 0 < y) (hyx : y ≤ x) (hxL : x < L)
    (hst0 : 0 < st) (hstL : st < L) :
    ∃ r, offsetLocation (.compound [⟨x, L, s⟩, ⟨0, y, s⟩]) (-st) L = .ok r ∧
      ((y < x ∧ st ≤ x ∧ y ≤ st ∧ r = .simple ⟨x + -st, y + -st + L, s⟩ ∧ wholeFix L r = r) ∨
       (y = x ∧ r = .compound [⟨x, L, s⟩, ⟨0, y, s⟩] ∧ wholeFix L r = .simple ⟨0, L, s⟩) ∨
       (¬ (st ≤ x ∧ y ≤ st) ∧ ∃ a b, 0 < a ∧ wholeFix L r = .compound [⟨a, L, s⟩, ⟨0, b, s⟩])) := by
  by_cases hwhole : y = x
  · subst hwhole
    have hlen : (Loc.compound [⟨y, L, s⟩, ⟨0, y, s⟩]).len = L := by rw [len_two]; simp
    refine ⟨_, offsetLocation_whole _ (-st) L (by omega) (by omega) hlen, .inr (.inl ⟨rfl, rfl, ?_⟩)⟩
    simp [wholeFix, hlen, strand_two]
  · have hyx' : y < x := by omega
    have hgen := offsetLocation_general (.compound [⟨x, L, s⟩, ⟨0, y, s⟩]) (-st) L _ (by omega) (by omega)
      (by rw [len_two]; simp only; omega) (by rw [start_two, end_two]; simp only; omega)
      (shiftedParts_two _ _ _ (by simp only; omega) (by simp only; omega))
    have e : (0 : Int) + -st + L = L + -st := by omega
    simp only [List.flatMap_cons, List.flatMap_nil, List.append_nil] at hgen
    by_cases h1 : st ≤ x
    · rw [wrapPart_inside L (x + -st) (L + -st) s (by omega) (by omega) (by omega)] at hgen
      by_cases h2 : y ≤ st
      · rw [wrapPart_below L (0 + -st) (y + -st) s (by omega) (by omega) (by omega), e] at hgen
        simp only [List.cons_append, List.nil_append] at hgen
        rw [finishOffset_two_adj L _ _ _ s (by omega) (by omega) (by omega) (by omega)] at hgen
        refine ⟨_, hgen, .inl ⟨hyx', h1, h2, rfl, ?_⟩⟩
        have hl : ¬ (Loc.simple ⟨x + -st, y + -st + L, s⟩).len = L := by simp [Loc.len, Loc.parts, Part.len]; omega
        simp [wholeFix, hl]
      · rw [wrapPart_straddle L (0 + -st) (y + -st) s (by omega) (by omega) (by omega) (by omega), e] at hgen
        simp only [List.cons_append, List.nil_append] at hgen
        rw [finishOffset_three_first L _ _ _ _ _ s (by omega) (by omega) (by omega) (by omega) (by omega) (by omega)
          (by omega) (by omega)] at hgen
        refine ⟨_, hgen, .inr (.inr ⟨by omega, x + -st, y + -st, by omega, ?_⟩)⟩
        have hl : ¬ (Loc.compound [⟨x + -st, L, s⟩, ⟨0, y + -st, s⟩]).len = L := by rw [len_two]; simp only; omega
        simp only [wholeFix, hl, if_false]
    · rw [wrapPart_straddle L (x + -st) (L + -st) s (by omega) (by omega) (by omega) (by omega),
        wrapPart_below L (0 + -st) (y + -st) s (by omega) (by omega) (by omega), e] at hgen
      simp only [List.cons_append, List.nil_append] at hgen
      rw [finishOffset_three_last L _ _ _ _ _ s (by omega) (by omega) (by omega) (by omega) (by omega) (by omega)
        (by omega) (by omega)] at hgen
      refine ⟨_, hgen, .inr (.inr ⟨by omega, x + -st + L, y + -st + L, by omega, ?_⟩)⟩
      have hl : ¬ (Loc.compound [⟨x + -st + L, L, s⟩, ⟨0, y + -st + L, s⟩]).len = L := by rw [len_two]; simp only; omega
      simp only [wholeFix, hl, if_false]

/-- the first two components of the position key -/
def posPair (rd : RegionData) (L : Int) (l : Loc) : Int × Int :=
  ((positionKey rd L 0 l).1, (positionKey rd L 0 l).2.1)

theorem positionKey_pair (rd : RegionData) (L n : Int) (l : Loc) :
    ((positionKey rd L n l).1, (positionKey rd L n l).2.1) = posPair rd L l := rfl

theorem loadKey_simple (p : Part) : loadKey (.simple p) = (p.lo, -(p.hi - p.lo)) := by
  simp [loadKey, comparatorStart_simple, Loc.len, Loc.parts, Part.len]

/-- the part order `[x, L)`, `[0, y)` runs over the origin unless the strand is the reverse one: `orderInvalid false`
    sees the start `x > 0` before the start `0`; without a strand the starts `[x, 0]` are not sorted -/
theorem bridges_two_fwd (x y L : Int) (s : Strand) (hs : s ≠ .rev) (hx0 : 0 < x) :
    bridgesOrigin (.compound [⟨x, L, s⟩, ⟨0, y, s⟩]) = true := by
  cases s <;> simp_all [bridgesOrigin, Loc.strand, orderInvalid, sortInts, insertInt]
  all_goals omega

theorem posPair_simple (rd : RegionData) (L lo hi : Int) :
    posPair rd L (.simple ⟨lo, hi, .fwd⟩) = ((if lo - rd.start < 0 then lo - rd.start + L else lo - rd.start), -(hi - lo)) := by
  simp [posPair, positionKey, areaStart, Loc.strand, Loc.parts, Loc.len, Part.len, bridgesOrigin]

theorem posPair_pair (rd : RegionData) (L x y : Int) (hc : rd.crossesOrigin = true) :
    posPair rd L (.compound [⟨x, L, .fwd⟩, ⟨0, y, .fwd⟩]) =
      ((if x - rd.start < 0 then x - rd.start + L else x - rd.start), -((L - x) + (y - 0))) := by
  simp [posPair, positionKey, areaStart, Loc.strand, Loc.parts, Loc.len, Part.len, hc]

/-- a forward part moved into the file: behind the region's start by `-start`, before it by `L - start` -/
theorem loadKey_moved (rd : RegionData) (L a b k : Int)
    (h : (k = -rd.start ∧ rd.start ≤ a) ∨ (k = L - rd.start ∧ a < rd.start)) :
    loadKey (.simple ⟨a + k, b + k, .fwd⟩) = posPair rd L (.simple ⟨a, b, .fwd⟩) := by
  rw [loadKey_simple, posPair_simple]
  rcases h with ⟨rfl, h⟩ | ⟨rfl, h⟩
  · rw [if_neg (by omega)]
    simp only [Prod.mk.injEq]
    omega
  · rw [if_pos (by omega)]
    simp only [Prod.mk.injEq]
    omega

/-- the load key of a written area is the pair its position key starts with -/
theorem origin_loadKey (rd : RegionData) (rec : BioRecord) (hwf : wfInput rd rec = true) (gloc floc : Loc)
    (hshape : areaShape rec.length rd floc = true)
    (ho : MovedLoc rd rec floc gloc) :
    loadKey gloc = posPair rd rec.length floc := by
  obtain ⟨hL, hcross, hplain, _⟩ := wf_unpack rd rec hwf
  rcases areaShape_unpack rec.length rd floc hshape with ⟨a, b, rfl⟩ | ⟨x, y, rfl, h3, h4, h5, h6⟩
  · -- one forward part
    rcases ho with ⟨hc, h1, h2, hg⟩ | ⟨hc, h1, h2, hg⟩ | ⟨hc, h1, h2, hg⟩ | ⟨hc, hb, _, _, _, _, _⟩
    · rw [hg]
      exact loadKey_moved rd _ a b _ (.inl ⟨rfl, h1⟩)
    · rw [hg]
      exact loadKey_moved rd _ a b _ (.inl ⟨rfl, h1⟩)
    · obtain ⟨he0, hes, hsL⟩ := hcross hc
      simp only [Loc.start, Loc.end] at h1 h2
      have hab : a < b := by
        by_cases hab : a < b
        · exact hab
        · exfalso
          -- an empty part: `offset_location` raises, so the feature is not written
          have : shiftedParts (.simple ⟨a, b, .fwd⟩) (rec.length - rd.start) true = .error "assertion" := by
            have : b ≤ a := by omega
            simp [shiftedParts, Loc.parts, this, throw, throwThe, MonadExceptOf.throw, bind, Except.bind]
          have hk : rec.length - rd.start ≠ 0 := by omega
          have hL0 : rec.length ≠ 0 := by omega
          have hlt : ¬ rec.length < 1 := by omega
          have hlen : ¬ (Loc.simple ⟨a, b, .fwd⟩).len = rec.length := by simp [Loc.len, Loc.parts, Part.len]; omega
          simp [offsetLocation, hk, hL0, hlt, hlen, this, bind, Except.bind] at hg
      have hoff : offsetLocation (.simple ⟨a, b, .fwd⟩) (rec.length - rd.start) rec.length
          = .ok (.simple (shiftPart (rec.length - rd.start) ⟨a, b, .fwd⟩)) :=
        offset_simple_shift _ _ _ (by omega) hL hab (by simp only; omega) (by simp only; omega) (by simp only; omega)
      rw [hoff] at hg
      injection hg with hg
      rw [← hg]
      exact loadKey_moved rd _ a b _ (.inr ⟨rfl, by omega⟩)
    · cases hb
  · -- a forward pair over the origin
    have hx0 : 0 < x := by omega
    have hbr := bridges_two_fwd x y rec.length .fwd (by decide) hx0
    rcases ho with ⟨hc, hs1, hs2, hg⟩ | ⟨hc, hs1, hs2, hg⟩ | ⟨hc, hs1, hs2, hg⟩ | ⟨hc, hb, l, hl, hk, hnb, hg⟩
    · -- the region is the whole record from the origin: the area stays as it is
      rw [start_two] at hs1
      simp only at hs1
      obtain ⟨h0, hE⟩ := hplain hc
      have hst : rd.start = 0 := by omega
      rw [hg, hst, Int.neg_zero, shiftLoc_zero]
      have hn : ¬ (x < 0) := by omega
      simp [loadKey, comparatorStart_two_fwd x y rec.length h3 h4 h5, posPair, positionKey, areaStart, Loc.strand,
        Loc.parts, hst, hn, hbr, hc]
    · exfalso
      obtain ⟨he0, hes, hsL⟩ := hcross hc
      rw [start_two] at hs1
      simp only at hs1
      omega
    · exfalso
      obtain ⟨he0, hes, hsL⟩ := hcross hc
      rw [end_two] at hs2
      simp only at hs2
      omega
    · obtain ⟨he0, hes, hsL⟩ := hcross hc
      rw [cross_len rd rec he0 hes hsL] at hk
      obtain ⟨r, hr, hcase⟩ := cross_two_fwd_exact x y rd.start rec.length .fwd h3 h4 h5 (by omega) hsL
      rw [hr] at hl
      injection hl with hl
      subst hl
      rw [hg, posPair_pair rd _ x y hc]
      rcases hcase with ⟨hyx, hsx, hys, hr', hw⟩ | ⟨hyx, _, hw⟩ | ⟨_, a', b', ha', hw⟩
      · rw [hw, hr', loadKey_simple, if_neg (by omega)]
        simp only [Prod.mk.injEq]
        omega
      · -- all the way round: starts where the region starts
        have hxs : x = rd.start := by
          rcases h6 with (h6 | h6) | h6
          · omega
          · rw [hc] at h6; cases h6
          · exact h6
        rw [hw, loadKey_simple, if_neg (by omega)]
        simp only [Prod.mk.injEq]
        omega
      · exfalso
        rw [hw, bridges_two_fwd a' b' rec.length .fwd (by decide) ha'] at hnb
        cases hnb

/-- the source feature of a feature of the region record, with tag and load key -/
theorem origin_source (rd : RegionData) (rec : BioRecord) (hwf : wfInput rd rec = true) (g0 : BioFeature)
    (ho : Origin rd rec g0) :
    ∃ f ∈ rec.features, g0.tag = f.tag ∧ g0.type = f.type ∧ g0.q = f.q ∧
      (areaShape rec.length rd f.loc = true → loadKey g0.loc = posPair rd rec.length f.loc) := by
  obtain ⟨f, hf, h1, h2, h3, hm⟩ := origin_from rd rec g0 ho
  exact ⟨f, hf, h1, h2, h3, fun hs => origin_loadKey rd rec hwf g0.loc f.loc hs hm⟩

theorem linkedKind_loc (type : String) (num : BioFeature → Option Int) (areas : List (Int × Loc)) (rec : BioRecord)
    (h : linkedKind type num areas rec = true) (f : BioFeature) (hf : f ∈ rec.features) (ht : f.type = type)
    (n : Int) (hn : num f = some n) (la : Loc) (hla : (n, la) ∈ areas) : la = f.loc := by
  unfold linkedKind at h
  have := List.all_eq_true.1 h f hf
  simp only [ht, bne_self_eq_false, Bool.false_or, hn] at this
  have := List.all_eq_true.1 this (n, la) hla
  simpa using this

/-- what is assumed about one kind of area -/
structure KindOK (rd : RegionData) (rec : BioRecord) (type : String) (num : BioFeature → Option Int)
    (areas : List (Int × Loc)) : Prop where
  nodupKeys : (areas.map (·.1)).Nodup
  shape : ∀ a ∈ areas, areaShape rec.length rd a.2 = true
  link : linkedKind type num areas rec = true
  present : ∀ a ∈ areas, ∃ f ∈ rec.features, f.type = type ∧ num f = some a.1
  distinct : ((ofType type rec.features).filterMap num).Nodup
  inside : ∀ a ∈ areas, insideRegion rec.length rd a.2 = true
  /-- how `_adjust_features` renumbers a feature of the kind -/
  renum : ∀ g0 g, adjustFeature rd rec.length (renumbering rd rec.length) g0 = .ok g → g0.type = type →
    ∃ n m, num g0 = some n ∧ num g = some m ∧ dictGet (numberByPosition areas rd rec.length) n = .ok m
  ofQ : ∀ a b : BioFeature, a.q = b.q → num a = num b

/-- the generic argument: if numbers of one kind are assigned by `_number_by_position` over `areas`, the written
    numbers follow the order in which a loaded record orders the written locations -/
theorem follows_generic (rd : RegionData) (rec : BioRecord) (w : Written) (h : writeToGenbank rd rec = .ok w)
    (hwf : wfInput rd rec = true) (type : String) (num : BioFeature → Option Int) (areas : List (Int × Loc))
    (ok : KindOK rd rec type num areas) :
    FollowsLoadOrder type num w.extract.features := by
  obtain ⟨_, hrange, hmono⟩ := numberByPosition_spec areas rd rec.length ok.nodupKeys
  -- everything known about one written feature of the kind
  have key : ∀ g ∈ w.extract.features, g.type = type → ∀ m, num g = some m →
      ∃ n l, (n, l) ∈ areas ∧ dictGet (numberByPosition areas rd rec.length) n = .ok m ∧
        loadKey g.loc = posPair rd rec.length l := by
    intro g hg ht m hm
    obtain ⟨g0, ho, hadj⟩ := written_origin rd rec w h g hg
    obtain ⟨_, hty, hloc⟩ := adjustFeature_same rd _ _ g0 g hadj
    obtain ⟨f, hf, _, hft, hfq, hkey⟩ := origin_source rd rec hwf g0 ho
    obtain ⟨n, m', hn0, hm', hd⟩ := ok.renum g0 g hadj (by rw [← hty]; exact ht)
    rw [hm'] at hm
    injection hm with hm
    subst hm
    obtain ⟨_, _, la, hla⟩ := hrange n m' hd
    have hnf : num f = some n := by rw [← ok.ofQ g0 f hfq]; exact hn0
    have hl := linkedKind_loc type num areas rec ok.link f hf (by rw [← hft, ← hty]; exact ht) n hnf la hla
    subst hl
    exact ⟨n, f.loc, hla, hd, by rw [hloc]; exact hkey (ok.shape _ hla)⟩
  intro g1 hg1 g2 hg2 ht1 ht2 m1 m2 hm1 hm2 hlt
  obtain ⟨n1, l1, ha1, hd1, hk1⟩ := key g1 hg1 ht1 m1 hm1
  obtain ⟨n2, l2, ha2, hd2, hk2⟩ := key g2 hg2 ht2 m2 hm2
  have h21 := (hmono n2 n1 l2 l1 m2 m1 ha2 ha1 hd2 hd1).1
  by_cases hlt' : m1 < m2
  · exact hlt'
  · exfalso
    have hle : m2 ≤ m1 := by omega
    have hk := h21.1 hle
    rw [keyLe_iff] at hk
    rw [hk1, hk2] at hlt
    have hlt2 : (positionKey rd rec.length 0 l1).1 < (positionKey rd rec.length 0 l2).1 ∨
        ((positionKey rd rec.length 0 l1).1 = (positionKey rd rec.length 0 l2).1 ∧
          (positionKey rd rec.length 0 l1).2.1 < (positionKey rd rec.length 0 l2).2.1) := by
      simp only [pairLt, posPair, Bool.or_eq_true, Bool.and_eq_true, beq_iff_eq] at hlt
      rcases hlt with h | ⟨h, h'⟩
      · exact .inl (of_decide_eq_true h)
      · exact .inr ⟨h, of_decide_eq_true h'⟩
    have e1 : (positionKey rd rec.length n1 l1).1 = (positionKey rd rec.length 0 l1).1 := rfl
    have e2 : (positionKey rd rec.length n1 l1).2.1 = (positionKey rd rec.length 0 l1).2.1 := rfl
    have e3 : (positionKey rd rec.length n2 l2).1 = (positionKey rd rec.length 0 l2).1 := rfl
    have e4 : (positionKey rd rec.length n2 l2).2.1 = (positionKey rd rec.length 0 l2).2.1 := rfl
    rw [e1, e2, e3, e4] at hk
    omega

end ASV.RegionExtract
