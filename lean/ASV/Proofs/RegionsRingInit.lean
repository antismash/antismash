/-
  C06: on a ring `Region(candidates, subregions)` never raises for the areas of a joined family (the containment
  check of the `parent` setter passes for every child, also of a two-part region), and forming the sections of
  `create_regions` never raises.
-/
import ASV.Proofs.RegionsRingOrder
import ASV.Proofs.RegionsRingUnion
namespace ASV.Regions
open ASV ASV.Components

/-- a well-formed span shorter than half the record misses a base of the record -/
theorem short_span_misses {L : Int} (hL : 0 < L) (c : Loc) (hwf : areaWF L L c = true) (hlen : 2 * c.len < L) :
    ∃ i, 0 ≤ i ∧ i < L ∧ c.mem i = false := by
  unfold areaWF at hwf
  split at hwf
  · next p hp =>
    simp only [Bool.and_eq_true, decide_eq_true_eq] at hwf
    have hl : c.len = p.hi - p.lo := by simp [Loc.len, hp, Part.len]
    by_cases h0 : 0 < p.lo
    · refine ⟨0, by omega, hL, ?_⟩
      simp only [Loc.mem, hp, List.any_cons, List.any_nil, Bool.or_false]
      rw [← Bool.not_eq_true, Part.mem_iff]; omega
    · refine ⟨L - 1, by omega, by omega, ?_⟩
      simp only [Loc.mem, hp, List.any_cons, List.any_nil, Bool.or_false]
      rw [← Bool.not_eq_true, Part.mem_iff]; omega
  · next p q hp =>
    simp only [Bool.and_eq_true, decide_eq_true_eq] at hwf
    have hl : c.len = (p.hi - p.lo) + (q.hi - q.lo) := by simp [Loc.len, hp, Part.len]
    refine ⟨q.hi, by omega, by omega, ?_⟩
    simp only [Loc.mem, hp, List.any_cons, List.any_nil, Bool.or_false, Bool.or_eq_false_iff]
    constructor <;> (rw [← Bool.not_eq_true, Part.mem_iff]; omega)
  · cases hwf

/-- the check of the `parent` setter: a well-formed area whose bases all lie in a well-formed span that does not
    cover the whole record is contained in it part by part -/
theorem parent_check_passes {L : Int} {r child : Loc} (hr : RingArea L r) (hc : RingArea L child)
    (hsub : ∀ i, child.mem i = true → r.mem i = true) (hmiss : ∃ i, 0 ≤ i ∧ i < L ∧ r.mem i = false) :
    locationContainsOther r child = true := by
  obtain ⟨m, hm0, hmL, hmr⟩ := hmiss
  have hmc : ¬ child.mem m = true := fun h => by rw [hsub m h] at hmr; cases hmr
  rw [← Bool.not_eq_true] at hmr
  rcases hr with ⟨p, rfl, hp0, hp1, hp2⟩ | ⟨a, b, rfl, hb0, hba, haL⟩ <;>
    rcases hc with ⟨q, rfl, hq0, hq1, hq2⟩ | ⟨x, y, rfl, hy0, hyx, hxL⟩
  · have h1 := hsub q.lo (by rw [mem_simple]; omega)
    have h2 := hsub (q.hi - 1) (by rw [mem_simple]; omega)
    rw [mem_simple] at h1 h2
    simp only [locationContainsOther, Loc.parts, List.all_cons, List.all_nil, List.any_cons, List.any_nil, partContains,
      Bool.or_false, Bool.and_true, Bool.and_eq_true, decide_eq_true_eq]
    omega
  · -- a single part holding both ends of an origin-spanning child is the whole record
    have h1 := hsub 0 (by rw [mem_areaTwo]; omega)
    have h2 := hsub (L - 1) (by rw [mem_areaTwo]; omega)
    rw [mem_simple] at h1 h2 hmr
    omega
  · -- the missed base lies between the two parts, so a single part cannot straddle it
    have hgap : b ≤ m ∧ m < a := by rw [mem_areaTwo] at hmr; omega
    have h1 := hsub q.lo (by rw [mem_simple]; omega)
    have h2 := hsub (q.hi - 1) (by rw [mem_simple]; omega)
    rw [mem_simple] at hmc
    rw [mem_areaTwo] at h1 h2
    clear hmr hsub
    simp only [locationContainsOther, areaTwo, Loc.parts, List.all_cons, List.all_nil, List.any_cons, List.any_nil,
      partContains, Bool.or_false, Bool.and_true, Bool.and_eq_true, Bool.or_eq_true, decide_eq_true_eq]
    omega
  · -- the missed base lies in the gap of both
    have hgap : b ≤ m ∧ m < a := by rw [mem_areaTwo] at hmr; omega
    have hgap' : y ≤ m ∧ m < x := by rw [mem_areaTwo] at hmc; omega
    have h1 := hsub x (by rw [mem_areaTwo]; omega)
    have h2 := hsub (y - 1) (by rw [mem_areaTwo]; omega)
    rw [mem_areaTwo] at h1 h2
    clear hmr hsub hmc
    simp only [locationContainsOther, areaTwo, Loc.parts, List.all_cons, List.all_nil, List.any_cons, List.any_nil,
      partContains, Bool.or_false, Bool.and_true, Bool.and_eq_true, Bool.or_eq_true, decide_eq_true_eq]
    omega


theorem collectionInitCheck_ringArea {L : Int} {l : Loc} (h : RingArea L l) : collectionInitCheck l = .ok () := by
  rcases h with ⟨p, rfl, h0, h1, h2⟩ | ⟨x, y, rfl, hy0, hyx, hxL⟩
  · exact collectionInitCheck_simple p h0 (by omega)
  · have hov : partsOverlap (⟨x, L, .fwd⟩ : Part) ⟨0, y, .fwd⟩ = false := by
      rw [← Bool.not_eq_true, partsOverlap_iff _ _ (by simp only; omega) (by simp only; omega)]
      rintro ⟨i, h1, h2⟩
      rw [Part.mem_iff] at h1 h2
      simp only at h1 h2
      omega
    have hs : (areaTwo x y L .fwd).start = 0 := by
      simp only [areaTwo, Loc.start, List.map, minList, List.foldl]; omega
    have he : (areaTwo x y L .fwd).end = L := by
      simp only [areaTwo, Loc.end, List.map, maxList, List.foldl]; omega
    have hstr : (areaTwo x y L .fwd).strand = .fwd := by simp [areaTwo, Loc.strand]
    simp only [collectionInitCheck, hs, he, hstr]
    simp [areaTwo, Loc.parts, strandsUsed, hov, pure, Except.pure, bind, Except.bind]
    omega

/-- **`Region(candidates, subregions)` never raises** for the areas of a joined family on a ring: the wrap point is
    inferred, `connect_locations` succeeds, the constructor checks pass and so does the containment check of the
    `parent` setter for every child — and the new region's location has exactly the children's bases -/
theorem mkRegion_ring_ok {L : Int} (hL : 0 < L) {all : List Feat} (hring : ∀ f ∈ all, RingArea L f.loc)
    (harc : ArcUnions L all) (s : State) (cands subs fam : List Feat) (hj : Joined all fam)
    (hmem : ∀ f, f ∈ subs ++ cands ↔ f ∈ fam) :
    ∃ s1 r, mkRegion s cands subs = .ok (s1, r) ∧ RingArea L r.loc ∧
      ∀ i, r.loc.mem i = true ↔ ∃ f ∈ fam, f.loc.mem i = true := by
  have hsub : ∀ f ∈ fam, f ∈ all := hj.sub
  have hch : ∀ f ∈ subs ++ cands, RingArea L f.loc := fun f hf => hring f (hsub f ((hmem f).1 hf))
  have hne : subs ++ cands ≠ [] := by
    obtain ⟨x, hx⟩ := List.exists_mem_of_ne_nil _ hj.ne
    exact List.ne_nil_of_mem ((hmem x).2 hx)
  have hemp : (cands.isEmpty && subs.isEmpty) = false := by
    cases cands <;> cases subs <;> simp_all
  have hlocs : ∀ l ∈ (subs ++ cands).map (·.loc), RingArea L l := by
    intro l hl
    obtain ⟨f, hf, rfl⟩ := List.mem_map.1 hl
    exact hch f hf
  -- which computation runs depends on whether a child spans the origin; what it returns does not
  have hrun : ∃ s1 r, mkRegion s cands subs = .ok (s1, r) := by
    cases hany : ((subs ++ cands).map (·.loc)).any bridgesOrigin with
    | true =>
      obtain ⟨c, hwf, hlen, hc⟩ := harc fam hj
      have hunion : ∀ j, c.mem j = true ↔ ∃ l ∈ (subs ++ cands).map (·.loc), l.mem j = true := fun j => by
        rw [hc j, exists_mem_listing hmem]
      obtain ⟨r, hr, hra, hrm⟩ := connect_ring_exact hL _ (by simpa using hne) hlocs c hwf hlen hunion
      have hmiss : ∃ i, 0 ≤ i ∧ i < L ∧ r.mem i = false := by
        obtain ⟨i, h0, h1, h2⟩ := short_span_misses hL c hwf hlen
        refine ⟨i, h0, h1, ?_⟩
        rw [← Bool.not_eq_true] at h2 ⊢
        intro h
        exact h2 ((hunion i).2 ((hrm i).1 h))
      have hpar : ∀ ch ∈ subs ++ cands, locationContainsOther r ch.loc = true := by
        intro ch hch'
        apply parent_check_passes hra (hch ch hch') _ hmiss
        intro i hi
        exact (hrm i).2 ⟨ch.loc, List.mem_map.2 ⟨ch, hch', rfl⟩, hi⟩
      refine ⟨afterMk s (subs ++ cands), ⟨s.nextRid, .region, r, cands.map (·.id), subs.map (·.id), []⟩, ?_⟩
      simp only [mkRegion, hemp, Bool.false_eq_true, if_false, regionWrap_ring _ hlocs hany, hr,
        collectionInitCheck_ringArea hra, bind, Except.bind, pure, Except.pure]
      rw [setParents_ok _ _ _ hpar]
      rfl
    | false =>
      have hline : ∀ f ∈ subs ++ cands, LineArea L f.loc := by
        intro f hf
        refine (hch f hf).line_of_not_bridging ?_
        have := List.any_eq_false.1 hany f.loc (List.mem_map.2 ⟨f, hf, rfl⟩)
        simpa using this
      exact ⟨_, _, mkRegion_line (len := L) s cands subs hne hline⟩
  obtain ⟨s1, r, hmk⟩ := hrun
  obtain ⟨⟨w, hw, hconn⟩, _⟩ := mkRegion_ok hmk
  exact ⟨s1, r, hmk, region_ringArea hL hne hch hw hconn, region_loc_joined hL hring harc hj hmem hne hw hconn⟩

/-- **forming the sections never raises on a ring** (under `ArcUnions`, no single part covering the whole record):
    `areas.sort()`, the sweep with its `connect_locations` calls and the first/last merge loop all return, and every
    section is a joined family of linked areas located exactly at their union -/
theorem sectionsOf_total {L : Int} (hL : 0 < L) {cands subs : List Feat} (hring : ∀ f ∈ cands ++ subs, RingArea L f.loc)
    (hfull : ∀ f ∈ cands ++ subs, ∀ p, f.loc = .simple p → ¬ (p.lo = 0 ∧ p.hi = L))
    (harc : ArcUnions L (cands ++ subs)) (hnd : (ids (cands ++ subs)).Nodup) :
    ∃ secs, sectionsOf (some L) cands subs = .ok secs ∧ (∀ sec ∈ secs, SecOK L (cands ++ subs) sec) ∧
      ((secs.map (·.2)).flatten).Perm (cands ++ subs) := by
  obtain ⟨secs, h, hok⟩ := sectionsOf_sorted hL hring harc hnd
    (sortAreas_eq _ _ (fun x hx y hy => collectionLt_ring (hring y hy) (hring x hx) (hfull y hy)))
  exact ⟨secs, h, hok, sectionsOf_perm hnd h⟩

end ASV.Regions
