/-
  C06: re-adding areas the way `Record.from_biopython` does (written order with
  `bisect_right`; candidate clusters last-to-first with `bisect_left`) reproduces the written order.
-/
import ASV.Proofs.RegionsOrder
namespace ASV.Regions
open ASV

/-- `bisect_right` puts an area whose key is not smaller than any key of the list at the end -/
theorem insertSortedRight_append {len : Int} {l : List Feat} {d : Dict Nat} {x : Feat}
    (hs : SortedBy lkey (l ++ [x])) (hl : ∀ y ∈ l, LineArea len y.loc) (hx : LineArea len x.loc) :
    ∃ d', insertSortedRight l d x = .ok (l ++ [x], d') := by
  have hp := List.pairwise_append.1 hs
  obtain ⟨r, hle, _, h2, e⟩ := insertSortedRight_split d hp.1 hl hx
  -- nothing is left after the insertion point: such an element would be larger than `x`
  have hdrop : l.drop r = [] := List.eq_nil_iff_forall_not_mem.2 fun y hy => by
    have := h2 y hy
    rw [hp.2.2 y (List.mem_of_mem_drop hy) x (by simp)] at this
    cases this
  have hr : r = l.length := Nat.le_antisymm hle (List.drop_eq_nil_iff.1 hdrop)
  subst hr
  rw [insertAt_end] at e
  exact ⟨_, e⟩

/-- `bisect_left` puts an area whose key is not larger than any key of the list at the front -/
theorem insertSorted_front {len : Int} {l : List Feat} {d : Dict Nat} {x : Feat}
    (hs : SortedBy lkey (x :: l)) (hl : ∀ y ∈ l, LineArea len y.loc) (hx : LineArea len x.loc) :
    ∃ d', insertSorted l d x = .ok (x :: l, d') := by
  have hs' := List.pairwise_cons.1 hs
  obtain ⟨r, hle, h1, _, e⟩ := insertSorted_split d hs'.2 hl hx
  -- nothing stands before the insertion point: such an element would be smaller than `x`
  have htake : l.take r = [] := List.eq_nil_iff_forall_not_mem.2 fun y hy => by
    have := h1 y hy
    rw [hs'.1 y (List.mem_of_mem_take hy)] at this
    cases this
  have hr : r = 0 := by
    rcases List.take_eq_nil_iff.1 htake with h | h
    · exact h
    · subst h; exact Nat.le_zero.1 hle
  subst hr
  exact ⟨_, e⟩

/-- `Record.from_biopython`: protoclusters and subregions are added again in the order they were written -/
def readdInOrder : List Feat → List Feat → E (List Feat)
  | acc, [] => pure acc
  | acc, x :: rest => do
    let (l, _) ← insertSortedRight acc [] x
    readdInOrder l rest

/-- … candidate clusters from the last written to the first (`add_candidate_cluster` uses `bisect_left`) -/
def readdFromLast : List Feat → List Feat → E (List Feat)
  | acc, [] => pure acc
  | acc, x :: rest => do
    let (l, _) ← insertSorted acc [] x
    readdFromLast l rest

theorem readdInOrder_same {len : Int} (acc rest : List Feat) (hs : SortedBy lkey (acc ++ rest))
    (hl : ∀ y ∈ acc ++ rest, LineArea len y.loc) : readdInOrder acc rest = .ok (acc ++ rest) := by
  induction rest generalizing acc with
  | nil => simp [readdInOrder, pure, Except.pure]
  | cons x rest ih =>
    have hs1 : SortedBy lkey (acc ++ [x]) := by
      have : SortedBy lkey ((acc ++ [x]) ++ rest) := by simpa using hs
      exact (List.pairwise_append.1 this).1
    obtain ⟨d', hd⟩ := insertSortedRight_append (d := []) hs1 (fun y hy => hl y (by simp [hy])) (hl x (by simp))
    simp only [readdInOrder, hd, bind, Except.bind]
    rw [ih (acc ++ [x]) (by simpa using hs) (by intro y hy; exact hl y (by simpa using hy))]
    simp

theorem readdFromLast_same {len : Int} (acc rest : List Feat) (hs : SortedBy lkey (rest.reverse ++ acc))
    (hl : ∀ y ∈ rest.reverse ++ acc, LineArea len y.loc) : readdFromLast acc rest = .ok (rest.reverse ++ acc) := by
  induction rest generalizing acc with
  | nil => simp [readdFromLast, pure, Except.pure]
  | cons x rest ih =>
    have hs' : SortedBy lkey (rest.reverse ++ (x :: acc)) := by simpa using hs
    have hs1 : SortedBy lkey (x :: acc) := (List.pairwise_append.1 hs').2.1
    obtain ⟨d', hd⟩ := insertSorted_front (d := []) hs1 (fun y hy => hl y (by simp [hy])) (hl x (by simp))
    simp only [readdFromLast, hd, bind, Except.bind]
    rw [ih (x :: acc) hs' (by intro y hy; exact hl y (by simpa using hy))]
    simp

end ASV.Regions
