/-
  The sorted sweep against the running hull (`create_regions`, reach distance 0), generic in the
  member type, over `Int` coordinates.  Same algorithm as `ASV.Sweep.go` (Appendix B of DESIGN.md,
  `Proofs/Sweep.lean`, imported here only so that its two audited theorems are built) with `c = 0`; here the
  members keep their identity
  and all three halves are proved in one induction:
    * the groups, concatenated, are the input                           (`GoSpec.flat`)
    * a closed group ends before any later group starts                 (`GoSpec.sep`)
    * every non-first member of a group overlaps an earlier member      (`GInv.chained`, through `GoSpec.inv`)
    * each group's hull is exactly [lo of its first member, max hi)     (`GoSpec.inv`)
-/
import ASV.Proofs.Sweep
import ASV.Proofs.ChainSweep
namespace ASV.SweepG

structure Grp (α : Type) where
  lo : Int
  hi : Int
  members : List α

variable {α : Type}

def go (lo hi : α → Int) (cur : Grp α) : List α → List (Grp α)
  | [] => [cur]
  | y :: ys =>
    if lo y < cur.hi then go lo hi ⟨cur.lo, max cur.hi (hi y), cur.members ++ [y]⟩ ys
    else cur :: go lo hi ⟨lo y, hi y, [y]⟩ ys

def sweep (lo hi : α → Int) : List α → List (Grp α)
  | [] => []
  | x :: xs => go lo hi ⟨lo x, hi x, [x]⟩ xs

/-- every member but the first starts before the end of some earlier member (and not before its start) -/
def Chained (lo hi : α → Int) : List α → Prop
  | [] => True
  | m :: rest => ∀ pre x post, rest = pre ++ x :: post → ∃ e ∈ m :: pre, lo e ≤ lo x ∧ lo x < hi e

/-- invariant of a group (under construction or closed) -/
structure GInv (lo hi : α → Int) (g : Grp α) : Prop where
  ne : g.members ≠ []
  hiMax : ∀ m ∈ g.members, hi m ≤ g.hi
  hiAtt : ∃ m ∈ g.members, hi m = g.hi
  loMin : ∀ m ∈ g.members, g.lo ≤ lo m
  loAtt : ∃ m ∈ g.members, lo m = g.lo
  wf : ∀ m ∈ g.members, lo m < hi m
  sorted : g.members.Pairwise (fun a b => lo a ≤ lo b)
  chained : Chained lo hi g.members

structure GoSpec (lo hi : α → Int) (cur : Grp α) (ys : List α) (gs : List (Grp α)) : Prop where
  flat : (gs.map Grp.members).flatten = cur.members ++ ys
  inv : ∀ g ∈ gs, GInv lo hi g
  sep : gs.Pairwise (fun g g' => g.hi ≤ g'.lo)
  lo_ge : ∀ g ∈ gs, cur.lo ≤ g.lo
  ne : gs ≠ []

theorem chained_snoc {lo hi : α → Int} {ms : List α} {y : α} (hne : ms ≠ [])
    (hc : Chained lo hi ms) (he : ∃ e ∈ ms, lo e ≤ lo y ∧ lo y < hi e) : Chained lo hi (ms ++ [y]) := by
  cases ms with
  | nil => exact absurd rfl hne
  | cons m rest =>
    simp only [List.cons_append, Chained]
    intro pre x post hsplit
    by_cases hpost : post = []
    · subst hpost
      have h1 : rest ++ [y] = pre ++ [x] := hsplit
      have h2 := List.append_inj' h1 rfl
      obtain ⟨rfl, h3⟩ := h2
      simp only [List.cons.injEq, and_true] at h3
      subst h3
      exact he
    · obtain ⟨post', z, rfl⟩ : ∃ post' z, post = post' ++ [z] := by
        rcases List.eq_nil_or_concat post with h | ⟨l, a, h⟩
        · exact absurd h hpost
        · exact ⟨l, a, by simpa using h⟩
      have h1 : rest ++ [y] = (pre ++ x :: post') ++ [z] := by simpa using hsplit
      have h2 := List.append_inj' h1 rfl
      exact hc pre x post' h2.1

theorem GInv.single (lo hi : α → Int) {y : α} (h : lo y < hi y) : GInv lo hi ⟨lo y, hi y, [y]⟩ :=
  ⟨by simp, by simp, ⟨y, by simp, rfl⟩, by simp, ⟨y, by simp, rfl⟩,
    by intro m hm; rw [List.mem_singleton.1 hm]; exact h, by simp, by intro pre x post h; simp at h⟩

/-- the group under construction takes in `y`, which starts inside its hull and after all its members -/
theorem GInv.snoc {lo hi : α → Int} {cur : Grp α} {y : α} (hinv : GInv lo hi cur) (hlo : cur.lo ≤ lo y)
    (hlt : lo y < cur.hi) (hwf : lo y < hi y) (hlast : ∀ m ∈ cur.members, lo m ≤ lo y) :
    GInv lo hi ⟨cur.lo, max cur.hi (hi y), cur.members ++ [y]⟩ := by
  refine ⟨by simp, ?_, ?_, ?_, ?_, ?_, ?_, ?_⟩
  · intro m hm
    rcases List.mem_append.1 hm with hm | hm
    · exact Int.le_trans (hinv.hiMax m hm) (Int.le_max_left _ _)
    · rw [List.mem_singleton.1 hm]; exact Int.le_max_right _ _
  · obtain ⟨m, hm, hmhi⟩ := hinv.hiAtt
    by_cases hc : cur.hi ≤ hi y
    · exact ⟨y, by simp, (Int.max_eq_right hc).symm⟩
    · exact ⟨m, by simp [hm], hmhi.trans (Int.max_eq_left (Int.le_of_lt (Int.not_le.1 hc))).symm⟩
  · intro m hm
    rcases List.mem_append.1 hm with hm | hm
    · exact hinv.loMin m hm
    · rw [List.mem_singleton.1 hm]; exact hlo
  · obtain ⟨m, hm, hmlo⟩ := hinv.loAtt
    exact ⟨m, by simp [hm], hmlo⟩
  · intro m hm
    rcases List.mem_append.1 hm with hm | hm
    · exact hinv.wf m hm
    · rw [List.mem_singleton.1 hm]; exact hwf
  · simp only [List.pairwise_append, List.pairwise_cons, List.mem_singleton]
    refine ⟨hinv.sorted, ⟨by simp, by simp⟩, ?_⟩
    intro a ha b hb; subst hb
    exact hlast a ha
  · apply chained_snoc hinv.ne hinv.chained
    obtain ⟨m, hm, hmhi⟩ := hinv.hiAtt
    exact ⟨m, hm, hlast m hm, by rw [hmhi]; exact hlt⟩

theorem go_spec (lo hi : α → Int) (cur : Grp α) (ys : List α)
    (hinv : GInv lo hi cur) (hs : ∀ y ∈ ys, cur.lo ≤ lo y)
    (hlast : ∀ m ∈ cur.members, ∀ y ∈ ys, lo m ≤ lo y)
    (hsorted : ys.Pairwise (fun a b => lo a ≤ lo b))
    (hwf : ∀ y ∈ ys, lo y < hi y) :
    GoSpec lo hi cur ys (go lo hi cur ys) := by
  induction ys generalizing cur with
  | nil =>
    simp only [go]
    exact ⟨by simp, by simpa using hinv, by simp, by simp, by simp⟩
  | cons y ys ih =>
    simp only [go]
    have hsorted' := (List.pairwise_cons.1 hsorted)
    split
    · next hlt =>
      have hinv' := hinv.snoc (hs y (by simp)) hlt (hwf y (by simp)) (fun m hm => hlast m hm y (by simp))
      have := ih _ hinv' (fun z hz => hs z (by simp [hz]))
        (by
          intro m hm z hz
          simp only [List.mem_append, List.mem_singleton] at hm
          rcases hm with hm | rfl
          · exact hlast m hm z (by simp [hz])
          · exact hsorted'.1 z hz)
        hsorted'.2 (fun z hz => hwf z (by simp [hz]))
      exact ⟨by rw [this.flat]; simp, this.inv, this.sep, this.lo_ge, this.ne⟩
    · next hge =>
      have hinvy := GInv.single lo hi (hwf y (by simp))
      have := ih _ hinvy (fun z hz => by simpa using hsorted'.1 z hz)
        (by intro m hm z hz; simp at hm; subst hm; exact hsorted'.1 z hz)
        hsorted'.2 (fun z hz => hwf z (by simp [hz]))
      refine ⟨by simp [this.flat], ?_, ?_, ?_, by simp⟩
      · intro g hg
        simp only [List.mem_cons] at hg
        rcases hg with rfl | hg
        · exact hinv
        · exact this.inv g hg
      · refine List.pairwise_cons.2 ⟨?_, this.sep⟩
        intro g' hg'
        have := this.lo_ge g' hg'
        simp only at this
        omega
      · intro g hg
        simp only [List.mem_cons] at hg
        rcases hg with rfl | hg
        · exact Int.le_refl _
        · have h1 := this.lo_ge g hg
          have h2 := hs y (by simp)
          simp only at h1
          omega

theorem sweep_spec (lo hi : α → Int) (x : α) (xs : List α)
    (hsorted : (x :: xs).Pairwise (fun a b => lo a ≤ lo b)) (hwf : ∀ y ∈ x :: xs, lo y < hi y) :
    GoSpec lo hi ⟨lo x, hi x, [x]⟩ xs (sweep lo hi (x :: xs)) := by
  have hs := List.pairwise_cons.1 hsorted
  exact go_spec lo hi _ xs (GInv.single lo hi (hwf x (by simp)))
    (fun y hy => hs.1 y hy) (by intro m hm z hz; rw [List.mem_singleton.1 hm]; exact hs.1 z hz) hs.2
    (fun y hy => hwf y (by simp [hy]))

/-! ### the same sweep as `ChainSweep` with `c = 0`: same member lists -/

theorem go_members (lo hi : α → Int) (cur : Grp α) (ys : List α) (glo : Int) :
    (go lo hi cur ys).map Grp.members =
      (ChainSweep.go lo hi 0 ⟨glo, cur.hi, cur.members⟩ ys).map ChainSweep.Grp.members := by
  induction ys generalizing cur glo with
  | nil => rfl
  | cons y ys ih =>
    simp only [go, ChainSweep.go, Int.add_zero]
    split
    · exact ih _ _
    · rw [List.map_cons, List.map_cons, ih]

theorem sweep_members (lo hi : α → Int) (xs : List α) :
    (sweep lo hi xs).map Grp.members = (ChainSweep.sweep lo hi 0 xs).map ChainSweep.Grp.members := by
  cases xs with
  | nil => rfl
  | cons x xs => exact go_members lo hi _ xs (lo x)

end ASV.SweepG
