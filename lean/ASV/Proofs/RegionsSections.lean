/-
  C06: whatever the locations, the sections `create_regions` forms (sort, sweep, first/last merge) hold every area
  exactly once.
-/
import ASV.Proofs.RegionsCalls
import ASV.Proofs.Base.Except
namespace ASV.Regions
open ASV

theorem insertArea_perm {x : Feat} {l l' : List Feat} (h : insertArea x l = .ok l') : l'.Perm (x :: l) := by
  induction l generalizing l' with
  | nil => cases h; exact List.Perm.refl _
  | cons y ys ih =>
    simp only [insertArea, ok_inv] at h
    obtain ⟨b, -, h⟩ := h
    cases b
    · cases h; exact List.Perm.refl _
    · simp only [if_true, ok_inv] at h
      obtain ⟨r, hr, rfl⟩ := h
      exact (List.Perm.cons y (ih hr)).trans (List.Perm.swap x y ys)

theorem sortAreas_perm {l l' : List Feat} (h : sortAreas l = .ok l') : l'.Perm l := by
  induction l generalizing l' with
  | nil => cases h; exact List.Perm.refl _
  | cons x xs ih =>
    simp only [sortAreas, ok_inv] at h
    obtain ⟨r, hr, h⟩ := h
    exact (insertArea_perm h).trans (List.Perm.cons x (ih hr))

theorem sweepAreas_flat {w : Option Int} {loc : Loc} {inc rest : List Feat} {secs : List Sec}
    (h : sweepAreas w loc inc rest = .ok secs) : (secs.map (·.2)).flatten = inc ++ rest := by
  induction rest generalizing loc inc secs with
  | nil => cases h; simp
  | cons a rest ih =>
    simp only [sweepAreas] at h
    split at h
    · simp only [ok_inv] at h
      obtain ⟨tail, ht, rfl⟩ := h
      simp [ih ht]
    · simp only [ok_inv] at h
      obtain ⟨loc', -, h⟩ := h
      rw [ih h]; simp

theorem sweepAreas_ne {w : Option Int} {loc : Loc} {inc rest : List Feat} {secs : List Sec}
    (h : sweepAreas w loc inc rest = .ok secs) : secs ≠ [] := by
  induction rest generalizing loc inc secs with
  | nil => cases h; simp
  | cons a rest ih =>
    simp only [sweepAreas] at h
    split at h
    · simp only [ok_inv] at h
      obtain ⟨tail, -, rfl⟩ := h
      simp
    · simp only [ok_inv] at h
      obtain ⟨loc', -, h⟩ := h
      exact ih h

theorem appendNew_disjoint (first last : List Feat) (hd : ∀ a ∈ last, a.id ∉ ids first) (hn : (ids last).Nodup) :
    appendNew first last = first ++ last := by
  induction last generalizing first with
  | nil => simp [appendNew]
  | cons a last ih =>
    simp only [ids, List.map_cons, List.nodup_cons] at hn
    have ha : first.any (fun x => x.id == a.id) = false := by
      rw [List.any_eq_false]
      intro x hx
      have := hd a (by simp)
      simp only [beq_iff_eq]
      intro e
      exact this (mem_ids.2 ⟨x, hx, e⟩)
    simp only [appendNew, List.foldl_cons, ha, Bool.false_eq_true, if_false]
    have := ih (first ++ [a]) (by
      intro b hb
      rw [ids_append, List.mem_append]
      rintro (hm | hm)
      · exact hd b (by simp [hb]) hm
      · simp only [ids, List.map_cons, List.map_nil, List.mem_singleton] at hm
        exact hn.1 (List.mem_map.2 ⟨b, hb, hm⟩)) hn.2
    simp only [appendNew] at this
    rw [this]; simp

/-- One round of the first/last merge on sections whose members have distinct ids: `last` is a section after the
    first, `appendNew` finds nothing to skip, and the sections after the round hold the same areas as before. -/
theorem mergeRound {first second last : Sec} {more : List Sec} (hlast : (second :: more).getLast? = some last)
    (hnd : (ids ((first :: second :: more).map (·.2)).flatten).Nodup) (loc : Loc) :
    last ∈ second :: more ∧ appendNew first.2 last.2 = first.2 ++ last.2 ∧
    (((loc, first.2 ++ last.2) :: (second :: more).dropLast).map (·.2)).flatten.Perm
      (((first :: second :: more).map (·.2)).flatten) := by
  have hsplit : second :: more = (second :: more).dropLast ++ [last] := by
    have hne : second :: more ≠ [] := by simp
    have := List.dropLast_concat_getLast hne
    rw [List.getLast?_eq_some_getLast hne] at hlast
    simp only [Option.some.injEq] at hlast
    rw [hlast] at this
    exact this.symm
  have hflat : ((first :: second :: more).map (·.2)).flatten =
      first.2 ++ (((second :: more).dropLast).map (·.2)).flatten ++ last.2 := by
    rw [List.map_cons, List.flatten_cons, hsplit]
    simp [List.append_assoc]
  rw [hflat, ids_append, ids_append] at hnd
  have hdis : ∀ a ∈ last.2, a.id ∉ ids first.2 := by
    intro a ha hm
    exact (List.nodup_append.1 hnd).2.2 a.id (List.mem_append.2 (Or.inl hm)) a.id (mem_ids.2 ⟨a, ha, rfl⟩) rfl
  refine ⟨by rw [hsplit]; simp, appendNew_disjoint first.2 last.2 hdis (List.nodup_append.1 hnd).2.1, ?_⟩
  rw [hflat, List.map_cons, List.flatten_cons]
  simp only [List.append_assoc]
  exact List.Perm.append_left _ List.perm_append_comm

/-- the first/last merge loop, when it returns, keeps every area exactly once -/
theorem mergeFirstLast_perm {w : Option Int} (n : Nat) {secs secs' : List Sec}
    (hnd : (ids (secs.map (·.2)).flatten).Nodup)
    (h : mergeFirstLast w n secs = .ok secs') :
    ((secs'.map (·.2)).flatten).Perm ((secs.map (·.2)).flatten) := by
  induction n generalizing secs secs' with
  | zero => cases h; exact List.Perm.refl _
  | succ n ih =>
    simp only [mergeFirstLast] at h
    split at h
    · next first second more =>
      split at h
      · cases h; exact List.Perm.refl _
      · next last hlast =>
        split at h
        · cases h; exact List.Perm.refl _
        · simp only [ok_inv] at h
          obtain ⟨location, -, h⟩ := h
          obtain ⟨_, happ, hperm1⟩ := mergeRound hlast hnd location
          rw [happ] at h
          exact (ih ((hperm1.map (fun f : Feat => f.id)).nodup_iff.2 hnd) h).trans hperm1
    · cases h; exact List.Perm.refl _

/-- the sections of `create_regions`, when they can be computed, hold every area exactly once -/
theorem sectionsOf_perm {w : Option Int} {cands subs : List Feat} {secs : List Sec} (hnd : (ids (cands ++ subs)).Nodup)
    (h : sectionsOf w cands subs = .ok secs) : ((secs.map (·.2)).flatten).Perm (cands ++ subs) := by
  simp only [sectionsOf, ok_inv] at h
  obtain ⟨areas, hareas, h⟩ := h
  have hp := sortAreas_perm hareas
  cases areas with
  | nil => cases h; simpa using hp
  | cons first rest =>
    simp only [ok_inv] at h
    obtain ⟨secs0, hsw, h⟩ := h
    have hflat := sweepAreas_flat hsw
    have := mergeFirstLast_perm _ (by rw [hflat]; exact ((hp.map (fun f : Feat => f.id)).nodup_iff).2 hnd) h
    rw [hflat] at this
    exact this.trans hp

/-- … so every member of a section is one of the areas -/
theorem sectionsOf_mem {w : Option Int} {cands subs : List Feat} {secs : List Sec} (hnd : (ids (cands ++ subs)).Nodup)
    (h : sectionsOf w cands subs = .ok secs) : ∀ sec ∈ secs, ∀ a ∈ sec.2, a ∈ cands ++ subs :=
  fun sec hsec a ha =>
    (sectionsOf_perm hnd h).mem_iff.1 (List.mem_flatten.2 ⟨sec.2, List.mem_map.2 ⟨sec, hsec, rfl⟩, ha⟩)

end ASV.Regions
