/-
  C05: on a linear record with well-formed protoclusters, candidate formation raises nothing
  (no constructor guard, no `assert`, no `ValueError`), so it always returns candidates.
-/
import ASV.Proofs.Passes
namespace ASV.CC
open ASV.CC.Spec ASV.Base

/-- extent and core are single parts, the extent not negative -/
def SimpleProto (p : Proto) : Prop :=
  (∃ q, p.loc = .simple q ∧ 0 ≤ q.lo ∧ q.lo ≤ q.hi) ∧ ∃ r, p.core = .simple r

theorem simple_line {l : Loc} (h : ∃ q, l = .simple q) : l.parts ≠ [] ∧ bridgesOrigin l = false := by
  obtain ⟨q, rfl⟩ := h
  simp [Loc.parts, bridgesOrigin]

/-- `SimpleProto` is the strongest of the "one part on a line" hypotheses: it gives `Linear` -/
theorem linear_of_simpleProto {ps : List Proto} (h : ∀ p, p ∈ ps → SimpleProto p) : Linear ps :=
  fun p hp => simple_line ((h p hp).1.imp fun _ hq => hq.1)

theorem connect_simple_ok {ls : List Loc} (hne : ls ≠ []) (h : ∀ l, l ∈ ls → ∃ q, l = .simple q) :
    connect ls none = .ok (.simple ⟨minList (ls.map (·.start)), maxList (ls.map (·.end)), commonStrand ls⟩) :=
  connect_line ls hne (fun l hl => simple_line (h l hl))

theorem mkCand_simple {k : Kind} {ms : List Proto} (hne : ms ≠ []) (h : ∀ m, m ∈ ms → SimpleProto m) :
    ∃ c, mkCand none k ms = .ok c := by
  have hls : ∀ l, l ∈ ms.map (·.loc) → ∃ q, l = .simple q := by
    intro l hl
    obtain ⟨m, hm, e⟩ := List.mem_map.1 hl
    obtain ⟨⟨q, hq, _⟩, _⟩ := h m hm
    exact ⟨q, by rw [← e, hq]⟩
  have hc := connect_simple_ok (by simpa using hne) hls
  have hemp : ms.isEmpty = false := by cases ms <;> simp_all
  unfold mkCand
  rw [if_neg (by rw [hemp]; exact Bool.false_ne_true), hc]
  dsimp only
  -- the guards on a one-part location
  have hstart : ¬ minList (List.map (fun x => x.start) (List.map (fun x => x.loc) ms)) < 0 := by
    have hmem := minList_mem (l := (List.map (fun x => x.start) (List.map (fun x => x.loc) ms))) (by simpa using hne)
    obtain ⟨l, hl, e⟩ := List.mem_map.1 hmem
    obtain ⟨m, hm, e2⟩ := List.mem_map.1 hl
    obtain ⟨⟨q, hq, h0, _⟩, _⟩ := h m hm
    rw [← e, ← e2, hq]
    simp only [Loc.start]; omega
  have hcont : (ms.all fun m => locationContainsOther
      (.simple ⟨minList (List.map (fun x => x.start) (List.map (fun x => x.loc) ms)),
                maxList (List.map (fun x => x.end) (List.map (fun x => x.loc) ms)),
                commonStrand (List.map (fun x => x.loc) ms)⟩) m.loc) = true := by
    rw [List.all_eq_true]
    intro m hm
    obtain ⟨⟨q, hq, _, hqq⟩, _⟩ := h m hm
    have h1 : minList (List.map (fun x => x.start) (List.map (fun x => x.loc) ms)) ≤ q.lo := by
      apply minList_le_of_mem
      exact List.mem_map.2 ⟨m.loc, List.mem_map.2 ⟨m, hm, rfl⟩, by rw [hq]; rfl⟩
    have h2 : q.hi ≤ maxList (List.map (fun x => x.end) (List.map (fun x => x.loc) ms)) := by
      apply le_maxList_of_mem
      exact List.mem_map.2 ⟨m.loc, List.mem_map.2 ⟨m, hm, rfl⟩, by rw [hq]; rfl⟩
    rw [hq]
    simp only [locationContainsOther, Loc.parts, List.all_cons, List.all_nil, List.any_cons, List.any_nil,
      Bool.or_false, Bool.and_true, partContains, Bool.and_eq_true, decide_eq_true_eq]
    exact ⟨⟨h1, hqq⟩, h2⟩
  generalize minList (List.map (fun x => x.start) (List.map (fun x => x.loc) ms)) = lo at hstart hcont ⊢
  generalize maxList (List.map (fun x => x.end) (List.map (fun x => x.loc) ms)) = hi at hcont ⊢
  generalize commonStrand (List.map (fun x => x.loc) ms) = st at hcont ⊢
  simp only [Loc.parts, Loc.start, List.length_singleton, hcont]
  simp [hstart]

theorem candCore_simple {c : Cand} (hne : c.members ≠ []) (h : ∀ m, m ∈ c.members → SimpleProto m) :
    ∃ k, candCore none c = .ok k ∧ twoParts k = false := by
  have hls : ∀ l, l ∈ c.members.map (·.core) → ∃ q, l = .simple q := by
    intro l hl
    obtain ⟨m, hm, e⟩ := List.mem_map.1 hl
    obtain ⟨_, r, hr⟩ := h m hm
    exact ⟨r, by rw [← e, hr]⟩
  refine ⟨_, connect_simple_ok (by simpa using hne) hls, ?_⟩
  simp [twoParts, Loc.parts]

theorem withCores_simple {cands : List Cand} (h : ∀ c, c ∈ cands → c.members ≠ [] ∧ ∀ m, m ∈ c.members → SimpleProto m) :
    ∃ cc, withCores none cands = .ok cc := by
  rw [withCores_eq_mapM, mapM_ok_iff_forall]
  intro c hc
  obtain ⟨k, hk, _⟩ := candCore_simple (h c hc).1 (h c hc).2
  exact ⟨(c, k), by rw [hk]; rfl⟩

theorem extendGroups_simple {byCore : List Proto} {gs : List (List Proto)}
    (h : ∀ g, g ∈ gs → g ≠ [] ∧ ∀ m, m ∈ g → SimpleProto m) : ∃ gs', extendGroups none byCore gs = .ok gs' := by
  rw [extendGroups_eq_mapM, mapM_ok_iff_forall]
  intro g hg
  have hls : ∀ l, l ∈ g.map (·.core) → ∃ q, l = .simple q := by
    intro l hl
    obtain ⟨m, hm, e⟩ := List.mem_map.1 hl
    obtain ⟨_, r, hr⟩ := (h g hg).2 m hm
    exact ⟨r, by rw [← e, hr]⟩
  unfold extendGroup
  rw [connect_simple_ok (by simpa using (h g hg).1) hls]
  exact ⟨_, rfl⟩

theorem findHybrids_simple {clusters : List Proto} (hne : clusters ≠ []) (hn : clusters.Nodup)
    (h : ∀ p, p ∈ clusters → SimpleProto p) : ∃ r, findHybrids clusters none = .ok r := by
  have hmerged : ∀ m, m ∈ mergeSets (hybridPairs clusters) → m ≠ [] ∧ ∀ p, p ∈ m → SimpleProto p := fun m hm =>
    ⟨fun em => by have := (hybridClasses_wf hn m hm).2.1; rw [em] at this; exact absurd this (by decide),
      fun p hp => h p ((hybridClasses_wf hn m hm).2.2 p hp)⟩
  obtain ⟨ext, hext⟩ := extendGroups_simple (byCore := sortBy coreStartLt
    (clusters.filter fun c => !(hybridPairs clusters).flatten.contains c)) hmerged
  unfold findHybrids
  cases clusters with
  | nil => exact absurd rfl hne
  | cons c0 rest =>
    dsimp only
    generalize hr : extendGroups none _ _ = r
    rw [show r = .ok ext from hr.symm.trans hext]
    exact ⟨_, rfl⟩

theorem findInterleaved_simple {clusters : List Proto} {cands : List Cand}
    (h : ∀ c, c ∈ cands → c.members ≠ [] ∧ ∀ m, m ∈ c.members → SimpleProto m) :
    ∃ r, findInterleaved clusters cands none = .ok r := by
  obtain ⟨cc, hcc⟩ := withCores_simple h
  have hno := withCores_none_simple hcc
  unfold findInterleaved
  dsimp only
  by_cases hneed : (decide (cands.length > 1) || (!clusters.isEmpty && !cands.isEmpty)) = true
  · rw [if_pos hneed, hcc]
    dsimp only
    rw [findCross_noSpan _ _ _ hno]
    exact ⟨_, rfl⟩
  · rw [if_neg hneed]
    dsimp only
    rw [findCross_noSpan (cc := []) _ _ _ (fun x hx => nomatch hx)]
    exact ⟨_, rfl⟩

theorem buildOne_simple {ps : List Proto} (hps : ∀ p, p ∈ ps → SimpleProto p) {kind : Kind} {t : Table} {g : List Proto}
    (hlen : 2 ≤ g.length) (hgp : ∀ p, p ∈ g → p ∈ ps) (ht : TableWF none ps t) :
    ∃ t', buildOne none kind t g = .ok t' := by
  unfold buildOne
  have h1 : (!(kind == Kind.single || decide (g.length > 1))) = false := by
    have : g.length > 1 := by omega
    simp [this]
  rw [if_neg (by rw [h1]; exact Bool.false_ne_true)]
  have hgne : sortProtos g ≠ [] := by
    intro e
    have : (sortProtos g).length = 0 := by rw [e]; rfl
    simp only [length_sortProtos] at this
    omega
  obtain ⟨cand, hcand⟩ := mkCand_simple (k := kind) hgne (fun m hm => hps m (hgp m (mem_sortProtos.1 hm)))
  rw [hcand]
  dsimp only
  cases hget : t.get (locKey cand.loc) with
  | none => exact ⟨_, rfl⟩
  | some ex =>
    dsimp only
    have hexwf : CandWF none ps ex := ht.1 ex (mem_values.2 ⟨_, getGo_mem hget⟩)
    by_cases hextras : (diffL (dedup g) ex.members).isEmpty = true
    · -- nothing new: every protocluster of the group is a member of the kept candidate, which contains it
      rw [if_pos hextras]
      have hall : (g.all fun m => locationContainsOther ex.loc m.loc) = true := by
        rw [List.all_eq_true]
        intro m hm
        apply hexwf.ok.contains
        refine Classical.byContradiction fun hin => ?_
        have : m ∈ diffL (dedup g) ex.members := mem_diffL.2 ⟨mem_dedup.2 hm, hin⟩
        rw [List.isEmpty_iff.1 hextras] at this; cases this
      rw [hall]
      exact ⟨_, rfl⟩
    · rw [if_neg hextras]
      have hne2 : sortProtos (dedup ex.members ++ diffL (dedup g) ex.members) ≠ [] := by
        intro e
        obtain ⟨x, hx⟩ := List.exists_mem_of_ne_nil _ hexwf.ok.nonempty
        have : x ∈ sortProtos (dedup ex.members ++ diffL (dedup g) ex.members) :=
          mem_sortProtos.2 (List.mem_append.2 (Or.inl (mem_dedup.2 hx)))
        rw [e] at this; cases this
      obtain ⟨repl, hrepl⟩ := mkCand_simple (k := ex.kind) hne2 (fun m hm => by
        rcases List.mem_append.1 (mem_sortProtos.1 hm) with h1 | h1
        · exact hps m (hexwf.fromInput m (mem_dedup.1 h1))
        · exact hps m (hgp m (mem_dedup.1 (mem_diffL.1 h1).1)))
      rw [hrepl]
      exact ⟨_, rfl⟩

theorem buildCandidates_simple {ps : List Proto} (hps : ∀ p, p ∈ ps → SimpleProto p) {kind : Kind} (hk : kind ≠ .single)
    {gs : List (List Proto)} {t : Table} (hg : GroupsWF ps gs) (ht : TableWF none ps t) :
    ∃ t', buildCandidates none kind t gs = .ok t' := by
  induction gs generalizing t with
  | nil => exact ⟨t, rfl⟩
  | cons g gs ih =>
    obtain ⟨a, b, c⟩ := hg g List.mem_cons_self
    obtain ⟨t1, h1⟩ := buildOne_simple hps (kind := kind) b c ht
    obtain ⟨t2, h2⟩ := ih (fun g' hg' => hg g' (List.mem_cons_of_mem _ hg')) (buildOne_wf h1 hk a c ht)
    exact ⟨t2, buildCandidates_cons.2 ⟨t1, h1, h2⟩⟩

theorem addSingles_simple {ps : List Proto} (hps : ∀ p, p ∈ ps → SimpleProto p) {t : Table} {l : List Proto}
    (hl : ∀ p, p ∈ l → p ∈ ps) : ∃ ss, addSingles none t l = .ok ss := by
  simp only [addSingles_eq_ok]
  refine mapM_ok_iff_forall.2 fun q hq => mkCand_simple (k := .single) (ms := [q]) (by simp) fun m hm => ?_
  rw [List.mem_singleton.1 hm]
  exact hps q (hl q (List.mem_filter.1 hq).1)

/-- on a linear record with well-formed protoclusters formation raises nothing -/
theorem formation_total_linear {ps : List Proto} (hn : ps.Nodup) (hps : ∀ p, p ∈ ps → SimpleProto p) :
    ∃ cs, formation ps none = .ok cs := by
  by_cases hne : ps = []
  · subst hne; exact ⟨[], rfl⟩
  have hne0 : sortProtos ps ≠ [] := by
    intro e
    have : (sortProtos ps).length = 0 := by rw [e]; rfl
    simp only [length_sortProtos] at this
    exact hne (List.eq_nil_of_length_eq_zero this)
  have hc : ∀ {t : Table}, TableWF none ps t →
      ∀ c, c ∈ sortCands t.values → c.members ≠ [] ∧ ∀ m, m ∈ c.members → SimpleProto m := fun ht c hc =>
    ⟨(ht.1 c (mem_sortCands.1 hc)).ok.nonempty, fun m hm => hps m ((ht.1 c (mem_sortCands.1 hc)).fromInput m hm)⟩
  -- each pass succeeds on a well-formed table, and its groups keep the table well-formed for the next
  obtain ⟨⟨hgroups, un1⟩, hH⟩ := findHybrids_simple hne0 (nodup_sortProtos hn) (fun p hp => hps p (mem_sortProtos.1 hp))
  obtain ⟨g1, hu1, hs1⟩ := hybrid_stage hH hn
  obtain ⟨t1, hB1⟩ := buildCandidates_simple hps (kind := .hybrid) (by decide) g1 (tableWF_empty none ps)
  have hr1 := reach_buildCandidates hB1 (by decide) g1 Reach.empty
  obtain ⟨⟨igroups, un2⟩, hI⟩ := findInterleaved_simple (clusters := un1) (hc (reach_wf hr1))
  obtain ⟨g2, hu2, hs2⟩ := interleaved_stage (reach_wf hr1) hu1 hs1 hI
  obtain ⟨t2, hB2⟩ := buildCandidates_simple hps (kind := .interleaved) (by decide) g2 (reach_wf hr1)
  have hr2 := reach_buildCandidates hB2 (by decide) g2 hr1
  have g3 := neighbouring_stage (reach_wf hr2) hu2 fun p hp => hs1 p (hs2 p hp)
  obtain ⟨t3, hB3⟩ := buildCandidates_simple hps (kind := .neighbouring) (by decide) g3 (reach_wf hr2)
  have hr3 := reach_buildCandidates hB3 (by decide) g3 hr2
  obtain ⟨singles, hS⟩ := addSingles_simple hps (t := t3) (l := sortProtos (dedup (un2 ++ t3.singles))) (fun p hp => by
    rcases List.mem_append.1 (mem_dedup.1 (mem_sortProtos.1 hp)) with h2 | h2
    · exact hs1 p (hs2 p h2)
    · exact (reach_wf hr3).2 p h2)
  have hcore : formationCore ps none = .ok (sortCands t3.values ++ singles) :=
    (formationCore_stages hne).2 ⟨_, _, _, _, _, _, _, _, hH, hB1, hI, hB2, hB3, hS, rfl⟩
  exact ⟨_, formation_eq_core hcore hn⟩

end ASV.CC
