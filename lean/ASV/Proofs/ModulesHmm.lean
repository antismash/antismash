/-
  C14 helper lemmas: HMMResult — the JSON round trip on well-formed trees, and the constructor and
  bottom-up validation against well-formedness (`Hmm.WF`).
-/
import ASV.Model.ModulesHmm
namespace ASV.Modules

theorem Hmm.allOverlap_eq_all (parent : Hmm) : ∀ l : List Hmm,
    Hmm.allOverlap parent l = l.all (fun h => h.overlapsWith parent)
  | [] => rfl
  | h :: t => by simp [Hmm.allOverlap, Hmm.allOverlap_eq_all parent t]

mutual
theorem Hmm.roundtrip : ∀ h : Hmm, h.WF = true → Hmm.fromJson h.toJson = .ok h
  | .mk i s e ev bs [], _ => by
    simp [Hmm.toJson, Hmm.fromJson, Hmm.construct]
  | .mk i s e ev bs (x :: xs), hw => by
    simp only [Hmm.WF, Bool.and_eq_true] at hw
    have ih := Hmm.roundtripL (x :: xs) hw.2
    simp only [Hmm.toJsonL] at ih
    simp only [Hmm.toJson, Hmm.fromJson, ih, Hmm.construct]
    rw [← Hmm.allOverlap_eq_all, hw.1]; rfl
theorem Hmm.roundtripL : ∀ l : List Hmm, Hmm.WFL l = true → Hmm.fromJsonL (Hmm.toJsonL l) = .ok l
  | [], _ => rfl
  | h :: t, hw => by
    simp only [Hmm.WFL, Bool.and_eq_true] at hw
    simp only [Hmm.toJsonL, Hmm.fromJsonL, Hmm.roundtrip h hw.1, Hmm.roundtripL t hw.2]
end

/-- the constructor accepts exactly well-formed trees built from well-formed parts -/
theorem Hmm.construct_ok (i : String) (s e ev bs : Int) (l : List Hmm) (hl : Hmm.WFL l = true) :
    (∃ h, Hmm.construct i s e ev bs l = .ok h ∧ h.WF = true ∧ h = .mk i s e ev bs l)
    ∨ (Hmm.construct i s e ev bs l = .error .valueError ∧ Hmm.allOverlap (.mk i s e ev bs []) l = false) := by
  unfold Hmm.construct
  cases hc : l.all (fun h => h.overlapsWith (.mk i s e ev bs [])) with
  | true =>
    left
    refine ⟨_, by rw [if_pos hc], ?_, rfl⟩
    simp only [Hmm.WF, Bool.and_eq_true]
    exact ⟨by rw [Hmm.allOverlap_eq_all]; exact hc, hl⟩
  | false =>
    right
    exact ⟨by rw [if_neg (by rw [hc]; simp)], by rw [Hmm.allOverlap_eq_all]; exact hc⟩

mutual
/-- whatever `from_json` returns is well-formed -/
theorem Hmm.fromJson_wf : ∀ (j : HmmJson) (h : Hmm), Hmm.fromJson j = .ok h → h.WF = true
  | .mk i s e ev bs none, h, hj => by
    simp only [Hmm.fromJson] at hj
    rcases Hmm.construct_ok i s e ev bs [] rfl with ⟨h', h1, h2, _⟩ | ⟨h1, _⟩
    · rw [h1] at hj; injection hj with hj; subst hj; exact h2
    · rw [h1] at hj; cases hj
  | .mk i s e ev bs (some l), h, hj => by
    simp only [Hmm.fromJson] at hj
    cases hl : Hmm.fromJsonL l with
    | error err => rw [hl] at hj; cases hj
    | ok hits =>
      rw [hl] at hj
      simp only at hj
      rcases Hmm.construct_ok i s e ev bs hits (Hmm.fromJsonL_wf l hits hl) with ⟨h', h1, h2, _⟩ | ⟨h1, _⟩
      · rw [h1] at hj; injection hj with hj; subst hj; exact h2
      · rw [h1] at hj; cases hj
theorem Hmm.fromJsonL_wf : ∀ (l : List HmmJson) (hs : List Hmm), Hmm.fromJsonL l = .ok hs → Hmm.WFL hs = true
  | [], hs, hl => by simp only [Hmm.fromJsonL] at hl; injection hl with hl; subst hl; rfl
  | j :: t, hs, hl => by
    simp only [Hmm.fromJsonL] at hl
    cases hj : Hmm.fromJson j with
    | error err => rw [hj] at hl; cases hl
    | ok h =>
      rw [hj] at hl
      simp only at hl
      cases ht : Hmm.fromJsonL t with
      | error err => rw [ht] at hl; cases hl
      | ok hs' =>
        rw [ht] at hl
        simp only at hl
        injection hl with hl; subst hl
        simp only [Hmm.WFL, Bool.and_eq_true]
        exact ⟨Hmm.fromJson_wf j h hj, Hmm.fromJsonL_wf t hs' ht⟩
end


mutual
/-- a tree that bottom-up construction accepts is returned unchanged and is well-formed (the
    converse is `validate_wf`) -/
theorem Hmm.validate_ok : ∀ (raw h : Hmm), Hmm.validate raw = .ok h → h = raw ∧ h.WF = true
  | .mk i s e ev bs l, h, hv => by
    simp only [Hmm.validate] at hv
    cases hl : Hmm.validateL l with
    | error err => rw [hl] at hv; cases hv
    | ok hits =>
      rw [hl] at hv
      simp only at hv
      obtain ⟨e1, e2⟩ := Hmm.validateL_ok l hits hl
      subst e1
      rcases Hmm.construct_ok i s e ev bs hits e2 with ⟨h', h1, h2, h3⟩ | ⟨h1, _⟩
      · rw [h1] at hv; injection hv with hv; subst hv; exact ⟨h3, h2⟩
      · rw [h1] at hv; cases hv
theorem Hmm.validateL_ok : ∀ (raw hs : List Hmm), Hmm.validateL raw = .ok hs → hs = raw ∧ Hmm.WFL hs = true
  | [], hs, hv => by simp only [Hmm.validateL] at hv; injection hv with hv; subst hv; exact ⟨rfl, rfl⟩
  | x :: t, hs, hv => by
    simp only [Hmm.validateL] at hv
    cases hx : Hmm.validate x with
    | error err => rw [hx] at hv; cases hv
    | ok x' =>
      rw [hx] at hv
      simp only at hv
      cases ht : Hmm.validateL t with
      | error err => rw [ht] at hv; cases hv
      | ok t' =>
        rw [ht] at hv
        simp only at hv
        injection hv with hv; subst hv
        obtain ⟨a1, a2⟩ := Hmm.validate_ok x x' hx
        obtain ⟨b1, b2⟩ := Hmm.validateL_ok t t' ht
        subst a1; subst b1
        exact ⟨rfl, by simp only [Hmm.WFL, a2, b2]; rfl⟩
end

mutual
theorem Hmm.validate_wf : ∀ (h : Hmm), h.WF = true → Hmm.validate h = .ok h
  | .mk i s e ev bs l, hw => by
    simp only [Hmm.WF, Bool.and_eq_true] at hw
    simp only [Hmm.validate, Hmm.validateL_wf l hw.2, Hmm.construct]
    rw [← Hmm.allOverlap_eq_all, hw.1]; rfl
theorem Hmm.validateL_wf : ∀ (l : List Hmm), Hmm.WFL l = true → Hmm.validateL l = .ok l
  | [], _ => rfl
  | x :: t, hw => by
    simp only [Hmm.WFL, Bool.and_eq_true] at hw
    simp only [Hmm.validateL, Hmm.validate_wf x hw.1, Hmm.validateL_wf t hw.2]
end

end ASV.Modules
