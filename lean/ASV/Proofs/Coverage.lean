/-
  C05: the stages of each pass and of the whole run (what a successful call has computed on the
  way), and from them: every protocluster ends up in a candidate.
-/
import ASV.Proofs.TableDesc
namespace ASV.CC
open ASV.CC.Spec ASV.Base

/-! ### `_merge_sets` on protoclusters -/

theorem mem_mergeSets {G : List (List Proto)} {r : List Proto} :
    r ∈ mergeSets G ↔ ∃ r0, r0 ∈ mergeSetsCore groupKey G ∧ r = sortProtos r0 := by
  simp only [mergeSets, List.mem_map]
  constructor
  · rintro ⟨r0, h, e⟩; exact ⟨r0, h, e.symm⟩
  · rintro ⟨r0, h, e⟩; exact ⟨r0, h, e.symm⟩

theorem mergeSets_union (G : List (List Proto)) (x : Proto) :
    (∃ r, r ∈ mergeSets G ∧ x ∈ r) ↔ ∃ g, g ∈ G ∧ x ∈ g := by
  rw [← mergeSetsCore_union groupKey G x]
  constructor
  · rintro ⟨r, hr, hx⟩
    obtain ⟨r0, h0, e⟩ := mem_mergeSets.1 hr
    subst e
    exact ⟨r0, h0, mem_sortProtos.1 hx⟩
  · rintro ⟨r0, h0, hx⟩
    exact ⟨sortProtos r0, mem_mergeSets.2 ⟨r0, h0, rfl⟩, mem_sortProtos.2 hx⟩

theorem mergeSets_linked (G : List (List Proto)) (a b : Proto) :
    (∃ r, r ∈ mergeSets G ∧ a ∈ r ∧ b ∈ r) ↔ Linked G a b := by
  rw [← (mergeSetsCore_spec groupKey G).2.2 a b]
  constructor
  · rintro ⟨r, hr, ha, hb⟩
    obtain ⟨r0, h0, e⟩ := mem_mergeSets.1 hr
    subst e
    exact ⟨r0, h0, mem_sortProtos.1 ha, mem_sortProtos.1 hb⟩
  · rintro ⟨r0, h0, ha, hb⟩
    exact ⟨sortProtos r0, mem_mergeSets.2 ⟨r0, h0, rfl⟩, mem_sortProtos.2 ha, mem_sortProtos.2 hb⟩

/-! ### `_find_hybrids` -/

/-- append, in order, the elements of `l` that pass `q` and are not there yet -/
def collectNew {α : Type} [DecidableEq α] (q : α → Bool) (g l : List α) : List α :=
  l.foldl (fun g c => if !g.contains c && q c then g ++ [c] else g) g

theorem mem_collectNew {α : Type} [DecidableEq α] (q : α → Bool) (g l : List α) (p : α) :
    p ∈ collectNew q g l ↔ p ∈ g ∨ (p ∈ l ∧ q p = true) := by
  induction l generalizing g with
  | nil => simp [collectNew]
  | cons c rest ih =>
    rw [collectNew, List.foldl_cons, ← collectNew, ih]
    by_cases hq : q c = true <;> by_cases hc : c ∈ g <;> by_cases hp : p = c <;> simp [hq, hc, hp]

theorem nodup_collectNew {α : Type} [DecidableEq α] (q : α → Bool) (g l : List α) (hg : g.Nodup) :
    (collectNew q g l).Nodup := by
  induction l generalizing g with
  | nil => exact hg
  | cons c rest ih =>
    rw [collectNew, List.foldl_cons, ← collectNew]
    refine ih _ ?_
    split
    · rename_i hc
      rw [Bool.and_eq_true] at hc
      have hnew : c ∉ g := by simpa using hc.1
      exact List.nodup_append.2 ⟨hg, by simp, fun x hx y hy e => hnew (by rw [← List.mem_singleton.1 hy, ← e]; exact hx)⟩
    · exact hg

/-- the containment scan: up to its `break`, append the protoclusters whose core lies inside `core` -/
theorem scanContained_eq (core : Loc) (limit : Int) (g l : List Proto) :
    scanContained core limit g l =
      collectNew (fun c => locationContainsOther core c.core) g (l.takeWhile fun c => !decide (c.loc.start > limit)) := by
  induction l generalizing g with
  | nil => rfl
  | cons c rest ih =>
    rw [scanContained, List.takeWhile_cons]
    by_cases hlim : c.loc.start > limit
    · rw [if_pos hlim, decide_eq_true hlim]; rfl
    · rw [if_neg hlim, decide_eq_false hlim]
      simp only [Bool.not_false, if_true, collectNew, List.foldl_cons]
      split <;> exact ih _

theorem mem_scanContained {core : Loc} {limit : Int} {g l : List Proto} {p : Proto} :
    p ∈ scanContained core limit g l ↔
      p ∈ g ∨ (p ∈ l.takeWhile (fun c => !decide (c.loc.start > limit)) ∧ locationContainsOther core p.core = true) := by
  rw [scanContained_eq, mem_collectNew]

theorem scanContained_from (core : Loc) (limit : Int) (group cs : List Proto) :
    ∀ p, p ∈ scanContained core limit group cs → p ∈ group ∨ (p ∈ cs ∧ locationContainsOther core p.core = true) :=
  fun _ hp => (mem_scanContained.1 hp).imp_right fun h => ⟨(List.takeWhile_sublist _).subset h.1, h.2⟩

theorem scanContained_nodup (core : Loc) (limit : Int) (group cs : List Proto) (hg : group.Nodup) :
    (scanContained core limit group cs).Nodup := by
  rw [scanContained_eq]; exact nodup_collectNew _ _ _ hg

theorem extendGroup_sub {wrap : Option Int} {byCore g g' : List Proto} (h : extendGroup wrap byCore g = .ok g') :
    ∀ p, p ∈ g → p ∈ g' := by
  unfold extendGroup at h
  split at h
  · cases h
  · dsimp only at h
    injection h with h
    subst h
    intro p hp
    split
    · exact mem_scanContained.2 (Or.inl (mem_scanContained.2 (Or.inl hp)))
    · exact mem_scanContained.2 (Or.inl hp)

theorem extendGroups_eq_mapM (wrap : Option Int) (byCore : List Proto) (gs : List (List Proto)) :
    extendGroups wrap byCore gs = gs.mapM (extendGroup wrap byCore) := by
  induction gs with
  | nil => rfl
  | cons g gs ih =>
    rw [List.mapM_cons, extendGroups, ih]
    cases extendGroup wrap byCore g with
    | error e => rfl
    | ok g' => cases gs.mapM (extendGroup wrap byCore) <;> rfl

theorem extendGroups_sub {wrap : Option Int} {byCore : List Proto} {gs gs' : List (List Proto)}
    (h : extendGroups wrap byCore gs = .ok gs') :
    ∀ g, g ∈ gs → ∃ g', g' ∈ gs' ∧ ∀ p, p ∈ g → p ∈ g' := fun _ hg =>
  let ⟨g', hg', hx⟩ := mapM_ok_mem' (extendGroups_eq_mapM wrap byCore gs ▸ h) hg
  ⟨g', hg', extendGroup_sub hx⟩

theorem extendGroups_rel {wrap : Option Int} {byCore : List Proto} {gs gs' : List (List Proto)}
    (h : extendGroups wrap byCore gs = .ok gs') :
    ∀ g', g' ∈ gs' → ∃ g, g ∈ gs ∧ extendGroup wrap byCore g = .ok g' := fun _ hg' =>
  (mapM_ok_mem (extendGroups_eq_mapM wrap byCore gs ▸ h)).1 hg'

/-- the pairs `_find_hybrids` hands to `_merge_sets` -/
def hybridPairs (clusters : List Proto) : List (List Proto) :=
  pairsWhere shares (fun a b => [a, b]) (sortBy coreKeyLt clusters) ++
    match (sortBy coreKeyLt clusters).head?, (sortBy coreKeyLt clusters).getLast? with
    | some f, some l => if (f != l && shares f l) = true then [[f, l]] else []
    | _, _ => []

theorem findHybrids_stages {clusters : List Proto} {wrap : Option Int} {hg : List (List Proto)} {un : List Proto}
    (h : findHybrids clusters wrap = .ok (hg, un)) :
    ∃ extended,
      extendGroups wrap (sortBy coreStartLt (clusters.filter fun c => !(hybridPairs clusters).flatten.contains c))
        (mergeSets (hybridPairs clusters)) = .ok extended ∧
      hg = extended.map sortProtos ∧
      un = sortProtos ((clusters.filter fun c => !(hybridPairs clusters).flatten.contains c).filter
        fun c => !extended.flatten.contains c) := by
  unfold findHybrids at h
  cases clusters with
  | nil => cases h
  | cons c0 rest =>
    dsimp only at h
    generalize hext : extendGroups wrap _ _ = r at h
    cases r with
    | error e => cases h
    | ok extended => cases h; exact ⟨extended, hext, rfl, rfl⟩
theorem findHybrids_cover {clusters : List Proto} {wrap : Option Int} {hg : List (List Proto)} {un : List Proto}
    (h : findHybrids clusters wrap = .ok (hg, un)) :
    ∀ p, p ∈ clusters → (∃ g, g ∈ hg ∧ p ∈ g) ∨ p ∈ un := by
  obtain ⟨extended, hext, rfl, rfl⟩ := findHybrids_stages h
  intro p hp
  by_cases hpaired : p ∈ (hybridPairs clusters).flatten
  · left
    obtain ⟨g, hg, hpg⟩ := List.mem_flatten.1 hpaired
    obtain ⟨m, hm, hpm⟩ := (mergeSets_union _ p).2 ⟨g, hg, hpg⟩
    obtain ⟨e, he, hsub⟩ := extendGroups_sub hext m hm
    exact ⟨sortProtos e, List.mem_map.2 ⟨e, he, rfl⟩, mem_sortProtos.2 (hsub p hpm)⟩
  · by_cases habs : p ∈ extended.flatten
    · left
      obtain ⟨e, he, hpe⟩ := List.mem_flatten.1 habs
      exact ⟨sortProtos e, List.mem_map.2 ⟨e, he, rfl⟩, mem_sortProtos.2 hpe⟩
    · right
      apply mem_sortProtos.2
      simp only [List.mem_filter, Bool.not_eq_true', List.contains_eq_mem, decide_eq_false_iff_not]
      exact ⟨⟨hp, hpaired⟩, habs⟩

/-! ### `_find_interleaved` -/

theorem withCores_eq_mapM (wrap : Option Int) (cands : List Cand) :
    withCores wrap cands = cands.mapM fun c => (fun k => (c, k)) <$> candCore wrap c := by
  induction cands with
  | nil => rfl
  | cons c cs ih =>
    rw [List.mapM_cons, withCores, ih]
    cases candCore wrap c with
    | error e => rfl
    | ok k => cases cs.mapM (fun c => (fun k => (c, k)) <$> candCore wrap c) <;> rfl

theorem withCores_length {wrap : Option Int} {cands : List Cand} {cc : List CandC} (h : withCores wrap cands = .ok cc) :
    cc.length = cands.length := mapM_ok_length (withCores_eq_mapM wrap cands ▸ h)

theorem withCores_mem {wrap : Option Int} {cands : List Cand} {cc : List CandC} (h : withCores wrap cands = .ok cc)
    {x : CandC} : x ∈ cc ↔ x.1 ∈ cands ∧ candCore wrap x.1 = .ok x.2 := by
  rw [mapM_ok_mem (withCores_eq_mapM wrap cands ▸ h)]
  simp only [map_eq_ok]
  constructor
  · rintro ⟨c, hc, k, hk, rfl⟩; exact ⟨hc, hk⟩
  · rintro ⟨hc, hk⟩; exact ⟨x.1, hc, x.2, hk, rfl⟩

theorem withCores_fst {wrap : Option Int} {cands : List Cand} {cc : List CandC} (h : withCores wrap cands = .ok cc) :
    ∀ x, x ∈ cc → x.1 ∈ cands := fun _ hx => ((withCores_mem h).1 hx).1

theorem withCores_snd {wrap : Option Int} {cands : List Cand} {cc : List CandC} (h : withCores wrap cands = .ok cc) :
    ∀ x, x ∈ cc → candCore wrap x.1 = .ok x.2 := fun _ hx => ((withCores_mem h).1 hx).2

theorem mem_addNew {c p : Proto} {g : List Proto} :
    p ∈ (if g.contains c = true then g else g ++ [c]) ↔ p ∈ g ∨ p = c := by
  split
  · rename_i hc
    have hc : c ∈ g := by simpa using hc
    exact ⟨Or.inl, fun h => h.elim id (fun e => e ▸ hc)⟩
  · simp

theorem nodup_addNew {c : Proto} {g : List Proto} (h : g.Nodup) :
    (if g.contains c = true then g else g ++ [c]).Nodup := by
  split
  · exact h
  · rename_i hc
    have hc : c ∉ g := by simpa using hc
    exact List.nodup_append.2 ⟨h, by simp, fun x hx y hy e => hc (by
      rw [List.mem_singleton.1 hy] at e; exact e ▸ hx)⟩

/-- what both walks of `_find_cross_origin_interleaved` keep true, from the starting group `cg0`:
    `cg` is the group so far, `f` the protoclusters found so far -/
structure WalkInv (core : Loc) (un cg0 cg f : List Proto) : Prop where
  nodup : cg.Nodup
  start : ∀ p, p ∈ cg0 → p ∈ cg
  found_in : ∀ p, p ∈ f → p ∈ cg
  found : ∀ p, p ∈ f → p ∈ un ∧ locationsOverlap p.core core = true
  group : ∀ p, p ∈ cg → p ∈ cg0 ∨ (p ∈ un ∧ locationsOverlap p.core core = true)

theorem walk_inv {core : Loc} {un cg0 : List Proto} (total : Nat) (l cg f : List Proto)
    (hl : ∀ p, p ∈ l → p ∈ un) (h : WalkInv core un cg0 cg f) :
    WalkInv core un cg0 (walk core total l cg f).1 (walk core total l cg f).2 := by
  induction l generalizing cg f with
  | nil => exact h
  | cons c rest ih =>
    rw [walk]
    by_cases h1 : (!decide (f.length < total)) = true
    · rw [if_pos h1]; exact h
    rw [if_neg h1]
    by_cases hov : (!locationsOverlap c.core core) = true
    · rw [if_pos hov]; exact h
    rw [if_neg hov]
    have hc : c ∈ un ∧ locationsOverlap c.core core = true := ⟨hl c List.mem_cons_self, by simpa using hov⟩
    refine ih _ _ (fun p hp => hl p (List.mem_cons_of_mem _ hp)) ⟨nodup_addNew h.nodup, ?_, ?_, ?_, ?_⟩
    · exact fun p hp => mem_addNew.2 (Or.inl (h.start p hp))
    · exact fun p hp => mem_addNew.2 ((mem_addNew.1 hp).imp_left (h.found_in p))
    · exact fun p hp => (mem_addNew.1 hp).elim (h.found p) (fun e => e ▸ hc)
    · exact fun p hp => (mem_addNew.1 hp).elim (h.group p) (fun e => Or.inr (e ▸ hc))

/-- the last three tests of `_find_cross_origin_interleaved`, on the outcome of the walks -/
theorem crossTail {cc : List CandC} {groups groups' : List (List Proto)} {cg f found : List Proto}
    (h : (if f.isEmpty = true then Except.ok ([], groups)
      else if (cc.any fun c => sameSet cg c.1.members) = true then Except.ok ([], groups)
      else if cg.length > 1 then Except.ok (f, groups ++ [cg]) else Except.ok (f, groups)) =
      (Except.ok (found, groups') : E (List Proto × List (List Proto)))) :
    (found = [] ∧ groups' = groups) ∨ (found = f ∧ f ≠ [] ∧
      ((cg.length > 1 ∧ groups' = groups ++ [cg]) ∨ (¬ cg.length > 1 ∧ groups' = groups))) := by
  by_cases h1 : f.isEmpty = true
  · rw [if_pos h1] at h; cases h; exact Or.inl ⟨rfl, rfl⟩
  rw [if_neg h1] at h
  by_cases h2 : (cc.any fun c => sameSet cg c.1.members) = true
  · rw [if_pos h2] at h; cases h; exact Or.inl ⟨rfl, rfl⟩
  rw [if_neg h2] at h
  have hne : f ≠ [] := by simpa using h1
  by_cases h3 : cg.length > 1
  · rw [if_pos h3] at h; cases h; exact Or.inr ⟨rfl, hne, Or.inl ⟨h3, rfl⟩⟩
  · rw [if_neg h3] at h; cases h; exact Or.inr ⟨rfl, hne, Or.inr ⟨h3, rfl⟩⟩

/-- `_find_cross_origin_interleaved` either changes nothing, or it has walked from the group `cg0`
    taken from the origin-spanning candidates to a group `g`, which it appends when it has more
    than one element -/
theorem findCross_cases {cc : List CandC} {un : List Proto} {groups groups' : List (List Proto)} {wrap : Option Int}
    {found : List Proto} (h : findCrossOriginInterleaved cc un groups wrap = .ok (found, groups')) :
    (found = [] ∧ groups' = groups) ∨
    ∃ core cg0 g, connect ((cc.filter fun c => twoParts c.2).map (·.2)) wrap = .ok core ∧
      cg0 ≠ [] ∧ (∀ q, q ∈ cg0 → ∃ c, c ∈ cc ∧ twoParts c.2 = true ∧ q ∈ c.1.members) ∧
      WalkInv core un cg0 g found ∧ found ≠ [] ∧
      ((g.length > 1 ∧ groups' = groups ++ [g]) ∨ (¬ g.length > 1 ∧ groups' = groups)) := by
  unfold findCrossOriginInterleaved at h
  by_cases h1 : (un.isEmpty || cc.isEmpty) = true
  · rw [if_pos h1] at h
    cases h; exact Or.inl ⟨rfl, rfl⟩
  rw [if_neg h1] at h
  by_cases h2 : (!cc.any fun c => twoParts c.2) = true
  · rw [if_pos h2] at h
    cases h; exact Or.inl ⟨rfl, rfl⟩
  rw [if_neg h2] at h
  dsimp only at h
  cases hcore : connect ((cc.filter fun c => twoParts c.2).map (·.2)) wrap with
  | error e => rw [hcore] at h; cases h
  | ok core =>
    rw [hcore] at h
    dsimp only at h
    generalize hcg0 : dedup ((cc.filter fun c => twoParts c.2).flatMap fun c =>
        if (c.1.members.filter fun p => bridgesOrigin p.core).isEmpty = true then c.1.members
        else c.1.members.filter fun p => bridgesOrigin p.core) = cg0 at h
    by_cases h3 : cg0.isEmpty = true
    · rw [if_pos h3] at h; cases h
    rw [if_neg h3] at h
    have hfrom : ∀ q, q ∈ cg0 → ∃ c, c ∈ cc ∧ twoParts c.2 = true ∧ q ∈ c.1.members := by
      intro q hq
      rw [← hcg0] at hq
      obtain ⟨c, hc, hqc⟩ := List.mem_flatMap.1 (mem_dedup.1 hq)
      obtain ⟨hc1, hc2⟩ := List.mem_filter.1 hc
      refine ⟨c, hc1, hc2, ?_⟩
      split at hqc
      · exact hqc
      · exact (List.mem_filter.1 hqc).1
    have hb : WalkInv core un cg0 _ _ := walk_inv un.length (un.drop 1).reverse cg0 []
      (fun p hp => List.mem_of_mem_drop (List.mem_reverse.1 hp))
      ⟨by rw [← hcg0]; exact nodup_dedup _, fun p hp => hp, fun p hp => (nomatch hp), fun p hp => (nomatch hp), fun p hp => Or.inl hp⟩
    have hf := walk_inv un.length un _ _ (fun p hp => hp) hb
    refine (crossTail h).imp id ?_
    rintro ⟨e, hne, hc⟩
    subst e
    exact ⟨core, cg0, _, rfl, by simpa using h3, hfrom, hf, hne, hc⟩
theorem length_le_one_eq {α : Type} {l : List α} (h : ¬ l.length > 1) {a b : α} (ha : a ∈ l) (hb : b ∈ l) : a = b := by
  match l, h with
  | [], _ => cases ha
  | [x], _ =>
    have h1 : a = x := by simpa using ha
    have h2 : b = x := by simpa using hb
    rw [h1, h2]
  | x :: y :: r, h => simp at h

theorem findCross_spec {cc : List CandC} {un : List Proto} {groups groups' : List (List Proto)} {wrap : Option Int}
    {found : List Proto} (h : findCrossOriginInterleaved cc un groups wrap = .ok (found, groups')) :
    (∀ g, g ∈ groups → g ∈ groups') ∧
    ∀ p, p ∈ found → (∃ g, g ∈ groups' ∧ p ∈ g) ∨ ∃ c, c ∈ cc ∧ p ∈ c.1.members := by
  rcases findCross_cases h with ⟨rfl, rfl⟩ | ⟨core, cg0, g, _, hne, hfrom, hw, _, ⟨_, rfl⟩ | ⟨hlen, rfl⟩⟩
  · exact ⟨fun g hg => hg, fun p hp => nomatch hp⟩
  · exact ⟨fun g' hg => List.mem_append.2 (Or.inl hg),
      fun p hp => Or.inl ⟨g, List.mem_append.2 (Or.inr List.mem_cons_self), hw.found_in p hp⟩⟩
  · -- a group of one element is an element of `cg0`, which comes from a candidate
    refine ⟨fun g hg => hg, fun p hp => Or.inr ?_⟩
    obtain ⟨q, hq⟩ := List.exists_mem_of_ne_nil cg0 hne
    obtain ⟨c, hc, _, hqc⟩ := hfrom q hq
    rw [length_le_one_eq hlen (hw.found_in p hp) (hw.start q hq)]
    exact ⟨c, hc, hqc⟩

/-- the groups `_find_interleaved` collects before the origin-crossing step: every two candidates with
    overlapping cores, the pairs of the sorted scan, every candidate with every protocluster overlapping its core -/
def interleavedGroups (clusters : List Proto) (cc : List CandC) : List (List Proto) :=
  findInterleavedCandidates cc ++ interleavedPairs (sortBy coreStartLt clusters) ++
    (sortBy coreStartLt clusters).flatMap fun cluster =>
      (cc.filter fun c => locationsOverlap c.2 cluster.core).map fun c => dedup (c.1.members ++ [cluster])

/-- the stages of `_find_interleaved`; the combined cores `cc` are those of the candidates, or
    none at all when no comparison needs them -/
theorem findInterleaved_stages {clusters : List Proto} {cands : List Cand} {wrap : Option Int}
    {ig : List (List Proto)} {un : List Proto} (h : findInterleaved clusters cands wrap = .ok (ig, un)) :
    ∃ cc found1 groups,
      (withCores wrap cands = .ok cc ∨
        (cc = [] ∧ (decide (cands.length > 1) || (!clusters.isEmpty && !cands.isEmpty)) = false)) ∧
      findCrossOriginInterleaved cc (sortBy coreStartLt clusters) (interleavedGroups clusters cc) wrap =
        .ok (found1, groups) ∧
      ig = mergeSets groups ∧
      un = sortProtos (clusters.filter fun c =>
        !(((interleavedPairs (sortBy coreStartLt clusters)).flatten ++
            (sortBy coreStartLt clusters).filter fun cluster => cc.any fun c => locationsOverlap c.2 cluster.core) ++
          found1).contains c) := by
  unfold findInterleaved at h
  dsimp only at h
  generalize hcc : (if (decide (cands.length > 1) || (!clusters.isEmpty && !cands.isEmpty)) = true
    then withCores wrap cands else Except.ok []) = r at h
  cases r with
  | error e => cases h
  | ok cc =>
    dsimp only at h
    have hcc' : withCores wrap cands = .ok cc ∨
        (cc = [] ∧ (decide (cands.length > 1) || (!clusters.isEmpty && !cands.isEmpty)) = false) := by
      by_cases hneed : (decide (cands.length > 1) || (!clusters.isEmpty && !cands.isEmpty)) = true
      · rw [if_pos hneed] at hcc; exact Or.inl hcc
      · rw [if_neg hneed] at hcc; cases hcc; exact Or.inr ⟨rfl, by simpa using hneed⟩
    generalize hx : findCrossOriginInterleaved cc _ _ wrap = x at h
    cases x with
    | error e => cases h
    | ok fg =>
      obtain ⟨found1, groups⟩ := fg
      cases h
      exact ⟨cc, found1, groups, hcc', hx, rfl, rfl⟩

theorem findInterleaved_cover {clusters : List Proto} {cands : List Cand} {wrap : Option Int}
    {ig : List (List Proto)} {un : List Proto} (h : findInterleaved clusters cands wrap = .ok (ig, un)) :
    ∀ p, p ∈ clusters → (∃ g, g ∈ ig ∧ p ∈ g) ∨ p ∈ un ∨ ∃ c, c ∈ cands ∧ p ∈ c.members := by
  obtain ⟨cc, found1, groups, hcc, hx, rfl, rfl⟩ := findInterleaved_stages h
  have hccfst : ∀ x, x ∈ cc → x.1 ∈ cands :=
    hcc.elim withCores_fst (fun e x hx => by rw [e.1] at hx; cases hx)
  obtain ⟨hgsub, hf1⟩ := findCross_spec hx
  intro p hp
  by_cases hfound : p ∈ ((interleavedPairs (sortBy coreStartLt clusters)).flatten ++
      List.filter (fun cluster => cc.any fun c => locationsOverlap c.2 cluster.core) (sortBy coreStartLt clusters)) ++ found1
  · rcases List.mem_append.1 hfound with h0 | h1
    · rcases List.mem_append.1 h0 with ha | hb
      · left
        obtain ⟨g, hg, hpg⟩ := List.mem_flatten.1 ha
        apply (mergeSets_union groups p).2
        exact ⟨g, hgsub g (List.mem_append.2 (Or.inl (List.mem_append.2 (Or.inr hg)))), hpg⟩
      · left
        obtain ⟨hpc, hany⟩ := List.mem_filter.1 hb
        obtain ⟨c, hc, hov⟩ := List.any_eq_true.1 hany
        apply (mergeSets_union groups p).2
        refine ⟨dedup (c.1.members ++ [p]), hgsub _ (List.mem_append.2 (Or.inr ?_)), mem_dedup.2 (by simp)⟩
        apply List.mem_flatMap.2
        exact ⟨p, hpc, List.mem_map.2 ⟨c, List.mem_filter.2 ⟨hc, hov⟩, rfl⟩⟩
    · rcases hf1 p h1 with ⟨g, hg, hpg⟩ | ⟨c, hc, hpc⟩
      · left; exact (mergeSets_union groups p).2 ⟨g, hg, hpg⟩
      · right; right; exact ⟨c.1, hccfst c hc, hpc⟩
  · right; left
    apply mem_sortProtos.2
    simp only [List.mem_filter, Bool.not_eq_true', List.contains_eq_mem, decide_eq_false_iff_not]
    exact ⟨hp, hfound⟩

/-! ### the singles pass -/

/-- the final loop skips a protocluster that the candidate with its coordinates already has -/
def skipped (t : Table) (p : Proto) : Bool :=
  match t.get (locKey p.loc) with
  | some ex => ex.members.contains p
  | none => false

theorem skipped_iff {t : Table} {p : Proto} :
    skipped t p = true ↔ ∃ ex, t.get (locKey p.loc) = some ex ∧ p ∈ ex.members := by
  unfold skipped
  cases t.get (locKey p.loc) with
  | none => simp
  | some ex => simp

/-- the final loop, where it succeeds: a SINGLE for every protocluster that is not skipped (the loop builds
    the later singles first, so as functions the two differ in which error they report) -/
theorem addSingles_eq_ok {wrap : Option Int} {t : Table} {l : List Proto} {ss : List Cand} :
    addSingles wrap t l = .ok ss ↔
      (l.filter fun p => !skipped t p).mapM (fun p => mkCand wrap .single [p]) = .ok ss := by
  induction l generalizing ss with
  | nil => exact Iff.rfl
  | cons p rest ih =>
    have hstep : addSingles wrap t (p :: rest) = (match addSingles wrap t rest with
        | .error e => .error e
        | .ok cs => if skipped t p = true then .ok cs else
          match mkCand wrap .single [p] with
          | .error e => .error e
          | .ok c => .ok (c :: cs)) := rfl
    rw [hstep, List.filter_cons]
    by_cases hs : skipped t p = true
    · simp only [hs, Bool.not_true, Bool.false_eq_true, if_false, if_true, ← ih]
      cases addSingles wrap t rest <;> simp
    · simp only [hs, Bool.not_false, if_true, if_false, mapM_cons_eq_ok, ← ih]
      cases addSingles wrap t rest with
      | error e => simp
      | ok cs =>
        cases mkCand wrap .single [p] with
        | error e => simp
        | ok c => simp [eq_comm]

theorem addSingles_cover {wrap : Option Int} {t : Table} {l : List Proto} {ss : List Cand}
    (h : addSingles wrap t l = .ok ss) :
    ∀ p, p ∈ l → (∃ c, c ∈ ss ∧ c.members = [p]) ∨ Covers t p := by
  intro p hp
  by_cases hs : skipped t p = true
  · obtain ⟨ex, hget, hm⟩ := skipped_iff.1 hs
    exact Or.inr ⟨ex, mem_values.2 ⟨_, getGo_mem hget⟩, hm⟩
  · obtain ⟨c, hc, hpc⟩ := mapM_ok_mem' (addSingles_eq_ok.1 h) (List.mem_filter.2 ⟨hp, by simpa using hs⟩)
    exact Or.inl ⟨c, hc, (mkCand_ok hpc).2.1⟩

/-! ### the whole formation -/

theorem formationCore_stages {ps : List Proto} {wrap : Option Int} {cs : List Cand} (hne : ps ≠ []) :
    formationCore ps wrap = .ok cs ↔
    ∃ hg un1 t1 ig un2 t2 t3 singles,
      findHybrids (sortProtos ps) wrap = .ok (hg, un1) ∧
      buildCandidates wrap .hybrid ⟨[], []⟩ hg = .ok t1 ∧
      findInterleaved un1 (sortCands t1.values) wrap = .ok (ig, un2) ∧
      buildCandidates wrap .interleaved t1 ig = .ok t2 ∧
      buildCandidates wrap .neighbouring t2 (findNeighbouring un2 (sortCands t2.values)) = .ok t3 ∧
      addSingles wrap t3 (sortProtos (dedup (un2 ++ t3.singles))) = .ok singles ∧
      cs = sortCands t3.values ++ singles := by
  unfold formationCore
  rw [if_neg (by simpa using hne)]
  dsimp only
  constructor
  · intro h
    cases hH : findHybrids (sortProtos ps) wrap with
    | error e => rw [hH] at h; cases h
    | ok r =>
      obtain ⟨hg, un1⟩ := r
      rw [hH] at h; dsimp only at h
      cases hB1 : buildCandidates wrap .hybrid ⟨[], []⟩ hg with
      | error e => rw [hB1] at h; cases h
      | ok t1 =>
        rw [hB1] at h; dsimp only at h
        cases hI : findInterleaved un1 (sortCands t1.values) wrap with
        | error e => rw [hI] at h; cases h
        | ok r =>
          obtain ⟨ig, un2⟩ := r
          rw [hI] at h; dsimp only at h
          cases hB2 : buildCandidates wrap .interleaved t1 ig with
          | error e => rw [hB2] at h; cases h
          | ok t2 =>
            rw [hB2] at h; dsimp only at h
            cases hB3 : buildCandidates wrap .neighbouring t2 (findNeighbouring un2 (sortCands t2.values)) with
            | error e => rw [hB3] at h; cases h
            | ok t3 =>
              rw [hB3] at h; dsimp only at h
              cases hS : addSingles wrap t3 (sortProtos (dedup (un2 ++ t3.singles))) with
              | error e => rw [hS] at h; cases h
              | ok singles =>
                rw [hS] at h; cases h
                exact ⟨hg, un1, t1, ig, un2, t2, t3, singles, rfl, hB1, hI, hB2, hB3, hS, rfl⟩
  · rintro ⟨hg, un1, t1, ig, un2, t2, t3, singles, hH, hB1, hI, hB2, hB3, hS, rfl⟩
    rw [hH]; dsimp only
    rw [hB1]; dsimp only
    rw [hI]; dsimp only
    rw [hB2]; dsimp only
    rw [hB3]; dsimp only
    rw [hS]

theorem formationCore_cover {ps : List Proto} {wrap : Option Int} {cs : List Cand}
    (h : formationCore ps wrap = .ok cs) : ∀ p, p ∈ ps → ∃ c, c ∈ cs ∧ p ∈ c.members := by
  intro p hp
  obtain ⟨hgroups, un1, t1, igroups, un2, t2, t3, singles, hH, hB1, hI, hB2, hB3, hS, rfl⟩ :=
    (formationCore_stages (List.ne_nil_of_mem hp)).1 h
  have d1 := buildCandidates_desc hB1 List.nodup_nil
  have d2 := buildCandidates_desc hB2 d1.keysNodup
  obtain ⟨a1, _⟩ := buildCandidates_cover hB1 List.nodup_nil
  obtain ⟨a2, b2⟩ := buildCandidates_cover hB2 d1.keysNodup
  obtain ⟨_, b3⟩ := buildCandidates_cover hB3 d2.keysNodup
  have fin : ∀ p, Covers t3 p → ∃ c, c ∈ sortCands t3.values ++ singles ∧ p ∈ c.members := by
    rintro p ⟨c, hc, hpc⟩
    exact ⟨c, List.mem_append.2 (Or.inl (mem_sortCands.2 hc)), hpc⟩
  rcases findHybrids_cover hH p (mem_sortProtos.2 hp) with ⟨g, hg, hpg⟩ | hun1
  · exact fin p (b3 p (b2 p (a1 g hg p hpg)))
  · rcases findInterleaved_cover hI p hun1 with ⟨g, hg, hpg⟩ | hun2 | ⟨c, hc, hpc⟩
    · exact fin p (b3 p (a2 g hg p hpg))
    · have hl : p ∈ sortProtos (dedup (un2 ++ t3.singles)) :=
        mem_sortProtos.2 (mem_dedup.2 (List.mem_append.2 (Or.inl hun2)))
      rcases addSingles_cover hS p hl with ⟨c, hc, hpc⟩ | hcov
      · exact ⟨c, List.mem_append.2 (Or.inr hc), by rw [hpc]; exact List.mem_singleton.2 rfl⟩
      · exact fin p hcov
    · exact fin p (b3 p (b2 p ⟨c, mem_sortCands.1 hc, hpc⟩))

end ASV.CC
