/-
  C12: `write_to_genbank` does not raise — under `wfInput` every call of `offset_location` succeeds (the base
  record is built), under `consistent` the core locations can be moved, and under `writable` every dictionary
  lookup of `_adjust_features` finds its key and the motif texts read back.
-/
import ASV.Proofs.RegionExtractFinal
namespace ASV.RegionExtract
open ASV

theorem dictGet_ok_of_key {α} (d : List (Int × α)) (k : Int) (h : hasKey d k = true) : ∃ v, dictGet d k = .ok v := by
  unfold hasKey at h
  simp only [List.contains_iff_mem, List.mem_map] at h
  obtain ⟨kv, hkv, hk⟩ := h
  unfold dictGet
  cases hf : d.find? (·.1 == k) with
  | some x => exact ⟨x.2, rfl⟩
  | none =>
    exfalso
    have := List.find?_eq_none.1 hf kv hkv
    simp [hk] at this

/-- a key of the areas is a key of their renumbering -/
theorem renumber_ok (areas : List (Int × Loc)) (rd : RegionData) (L : Int) (hnd : (areas.map (·.1)).Nodup)
    (k : Int) (h : hasKey areas k = true) : ∃ m, dictGet (numberByPosition areas rd L) k = .ok m := by
  unfold hasKey at h
  simp only [List.contains_iff_mem, List.mem_map] at h
  obtain ⟨⟨a, la⟩, hkv, hk⟩ := h
  simp only at hk
  subst hk
  exact (numberByPosition_spec areas rd L hnd).1 a la hkv

theorem hasKey_protoAreas (rd : RegionData) (k : Int) : hasKey (protoAreas rd) k = hasKey (protoDict rd) k := by
  unfold hasKey protoAreas
  rw [List.map_map]; rfl

theorem renumberList_ok (areas : List (Int × Loc)) (rd : RegionData) (L : Int) (hnd : (areas.map (·.1)).Nodup)
    (xs : List Int) (h : xs.all (hasKey areas) = true) : ∃ ys, renumberList (numberByPosition areas rd L) xs = .ok ys := by
  unfold renumberList
  split
  · exact ⟨xs, rfl⟩
  · exact mapE_ok_of_forall _ xs (fun x hx => renumber_ok areas rd L hnd x (List.all_eq_true.1 h x hx))

theorem adjustMotifLoc_ok (t : String) (rd : RegionData) (L : Int) (h : textOK (some t) = true) :
    ∃ u, adjustMotifLoc t rd L = .ok u := by
  unfold textOK at h
  unfold adjustMotifLoc
  cases hl : locFromString t with
  | none => simp [hl] at h
  | some loc =>
    simp only [hl] at h ⊢
    have hne : loc.parts ≠ [] := by simpa using h
    obtain ⟨p, ps, hps⟩ := List.exists_cons_of_ne_nil hne
    simp only [hps, List.map_cons, buildLocationFromOthers, bind, Except.bind, pure, Except.pure]
    exact ⟨_, rfl⟩

theorem adjustMotif_ok (q : Quals) (rd : RegionData) (L : Int) (h1 : textOK q.leaderLoc = true) (h2 : textOK q.tailLoc = true) :
    ∃ q', adjustMotif q rd L = .ok q' := by
  unfold adjustMotif
  cases hle : q.leaderLoc with
  | none =>
    cases hta : q.tailLoc with
    | none => simp only [bind, Except.bind, pure, Except.pure]; exact ⟨_, rfl⟩
    | some t =>
      rw [hta] at h2
      obtain ⟨u, hu⟩ := adjustMotifLoc_ok t rd L h2
      simp only [bind, Except.bind, pure, Except.pure, hu]; exact ⟨_, rfl⟩
  | some t1 =>
    rw [hle] at h1
    obtain ⟨u1, hu1⟩ := adjustMotifLoc_ok t1 rd L h1
    cases hta : q.tailLoc with
    | none => simp only [bind, Except.bind, pure, Except.pure, hu1]; exact ⟨_, rfl⟩
    | some t =>
      rw [hta] at h2
      obtain ⟨u, hu⟩ := adjustMotifLoc_ok t rd L h2
      simp only [bind, Except.bind, pure, Except.pure, hu, hu1]; exact ⟨_, rfl⟩

theorem adjustFeature_ok (rd : RegionData) (L : Int) (g0 : BioFeature) (hadj : adjustable rd g0 = true)
    (hcore : ∀ p, p ∈ (protoDict rd).map (·.2) → ∃ newLoc, offsetLocation p.core (-rd.start) L = .ok newLoc) :
    ∃ g, adjustFeature rd L (renumbering rd L) g0 = .ok g := by
  have hndP : ((protoAreas rd).map (·.1)).Nodup := by unfold protoAreas; rw [List.map_map]; exact protoDict_nodup rd
  unfold adjustable at hadj
  unfold adjustFeature
  by_cases h1 : (g0.type == "region") = true
  · simp only [h1, if_true, Bool.and_eq_true] at hadj ⊢
    obtain ⟨c, hc⟩ := renumberList_ok (candDict rd) rd L (candDict_nodup rd) _ hadj.1
    obtain ⟨s', hs'⟩ := renumberList_ok (subDict rd) rd L (subDict_nodup rd) _ hadj.2
    have hc' : renumberList (renumbering rd L).cands g0.q.candNumbers = .ok c := hc
    have hs'' : renumberList (renumbering rd L).subs g0.q.subNumbers = .ok s' := hs'
    rw [hc', hs'']
    exact ⟨_, rfl⟩
  · simp only [h1, Bool.false_eq_true, if_false] at hadj ⊢
    by_cases h2 : (g0.type == "cand_cluster") = true
    · simp only [h2, if_true, Bool.and_eq_true] at hadj ⊢
      obtain ⟨ha, hb⟩ := hadj
      cases hn : g0.q.candNumber with
      | none => rw [hn] at ha; cases ha
      | some n =>
        rw [hn] at ha
        obtain ⟨m, hm⟩ := renumber_ok (candDict rd) rd L (candDict_nodup rd) n ha
        have hm' : dictGet (renumbering rd L).cands n = .ok m := hm
        cases hps : g0.q.protoNumbers with
        | none => rw [hps] at hb; cases hb
        | some ps =>
          rw [hps] at hb
          have hb' : ps.all (hasKey (protoAreas rd)) = true := by
            simp only [List.all_eq_true] at hb ⊢
            intro x hx; rw [hasKey_protoAreas]; exact hb x hx
          obtain ⟨ps', hps'⟩ := mapE_ok_of_forall (dictGet (numberByPosition (protoAreas rd) rd L)) ps
            (fun x hx => renumber_ok (protoAreas rd) rd L hndP x (List.all_eq_true.1 hb' x hx))
          have hps'' : mapE (dictGet (renumbering rd L).protos) ps = .ok ps' := hps'
          simp only [hm', hps'']
          exact ⟨_, rfl⟩
    · simp only [h2, Bool.false_eq_true, if_false] at hadj ⊢
      by_cases h3 : (g0.type == "protocluster" || g0.type == "proto_core") = true
      · simp only [h3, if_true] at hadj ⊢
        cases hn : g0.q.protoNumber with
        | none => rw [hn] at hadj; cases hadj
        | some n =>
          rw [hn] at hadj
          simp only at hadj ⊢
          obtain ⟨p, hp⟩ := dictGet_ok_of_key (protoDict rd) n hadj
          obtain ⟨m, hm⟩ := renumber_ok (protoAreas rd) rd L hndP n (by rw [hasKey_protoAreas]; exact hadj)
          have hm' : dictGet (renumbering rd L).protos n = .ok m := hm
          simp only [hp, hm']
          unfold adjustProtocluster
          split
          · obtain ⟨newLoc, hnl⟩ := hcore p (List.mem_map.2 ⟨(n, p), dictGet_mem _ n p hp, rfl⟩)
            simp only [hnl]
            exact ⟨_, rfl⟩
          · exact ⟨_, rfl⟩
      · simp only [h3, Bool.false_eq_true, if_false] at hadj ⊢
        by_cases h4 : (g0.type == "subregion") = true
        · simp only [h4, if_true] at hadj ⊢
          cases hn : g0.q.subNumber with
          | none => rw [hn] at hadj; cases hadj
          | some n =>
            rw [hn] at hadj
            simp only at hadj ⊢
            obtain ⟨m, hm⟩ := renumber_ok (subDict rd) rd L (subDict_nodup rd) n hadj
            have hm' : dictGet (renumbering rd L).subs n = .ok m := hm
            simp only [hm']
            exact ⟨_, rfl⟩
        · simp only [h4, Bool.false_eq_true, if_false] at hadj ⊢
          by_cases h5 : (g0.type == "CDS_motif") = true
          · simp only [h5, if_true, Bool.and_eq_true] at hadj ⊢
            obtain ⟨q', hq'⟩ := adjustMotif_ok g0.q rd L hadj.1 hadj.2
            simp only [hq']
            exact ⟨_, rfl⟩
          · simp only [h5, Bool.false_eq_true, if_false]
            exact ⟨_, rfl⟩

theorem adjustable_congr (rd : RegionData) (a b : BioFeature) (h1 : a.type = b.type) (h2 : a.q = b.q) :
    adjustable rd a = adjustable rd b := by
  unfold adjustable; rw [h1, h2]

/-- the source of a feature of the region record passes one of the tests that put features there -/
theorem origin_written (rd : RegionData) (rec : BioRecord) (g0 : BioFeature) (ho : Origin rd rec g0) :
    ∃ f ∈ rec.features, g0.type = f.type ∧ g0.q = f.q ∧ mayBeWritten rd rec.length f = true := by
  obtain ⟨f, hf, _, h2, h3, hm⟩ := origin_from rd rec g0 ho
  refine ⟨f, hf, h2, h3, ?_⟩
  rcases hm with ⟨hc, h1, h2, _⟩ | ⟨hc, h1, h2, _⟩ | ⟨hc, h1, h2, _⟩ | ⟨hc, hb, _, _, _, _, _⟩
  · simp [mayBeWritten, hc, h1, h2]
  · simp [mayBeWritten, hc, h1, h2]
  · simp [mayBeWritten, hc, h1, h2]
  · simp [mayBeWritten, hc, hb]


/-- under `wfInput` the base record is built without an exception -/
theorem base_ok (rd : RegionData) (rec : BioRecord) (hwf : wfInput rd rec = true) :
    ∃ v, buildBaseRecord rd rec = .ok v := by
  obtain ⟨hL, hcross, _, hfeat⟩ := wf_unpack rd rec hwf
  cases hres : buildBaseRecord rd rec with
  | ok v => exact ⟨v, rfl⟩
  | error e =>
    exfalso
    unfold buildBaseRecord at hres
    split at hres
    · rename_i hc
      obtain ⟨he0, hes, hsL⟩ := hcross hc
      -- the two loops succeed
      have hpostok : ∃ post, mapE (postStep rd rec.length) (sliceFeatures rec.features 0 rd.end) = .ok post := by
        apply mapE_ok_of_forall
        intro g hg
        obtain ⟨f, hf, h1, h2, hgf⟩ := slice_from _ _ _ g hg
        obtain ⟨⟨hne, hparts⟩, hok⟩ := hfeat f hf
        obtain ⟨r, hr, _⟩ := post_rotated rd rec.length f.loc (by omega) hsL hne hparts (by omega) (hok hc)
        refine ⟨{ g with loc := r }, ?_⟩
        unfold postStep
        rw [hgf]
        simp only [Int.neg_zero, shiftLoc_zero, hr]
      have hstepok : ∀ n, ∃ steps, mapE (crossStep rd rec.length n) rec.features = .ok steps := by
        intro n
        apply mapE_ok_of_forall
        intro f hf
        obtain ⟨⟨hne, hparts⟩, hok⟩ := hfeat f hf
        unfold crossStep
        cases hb : bridgesOrigin f.loc with
        | false => exact ⟨_, rfl⟩
        | true =>
          obtain ⟨r, hr, _⟩ := cross_rotated rd rec.length f.loc (by omega) hsL hne hparts (hok hc)
          simp only [if_true, hr]
          split <;> exact ⟨_, rfl⟩
      unfold buildRecordFromCrossOrigin at hres
      simp only [bind, Except.bind, pure, Except.pure] at hres
      split at hres
      · rename_i hx
        simp [hc] at hx
      · split at hres
        · rename_i e' he'
          obtain ⟨post, hpost⟩ := hpostok
          have : mapE (postStep rd rec.length) (sliceFeatures rec.features 0 rd.end) = .error e' := he'
          rw [hpost] at this; cases this
        · split at hres
          · rename_i e' he'
            unfold gatherCrossOrigin at he'
            split at he'
            · rename_i e'' he''
              obtain ⟨steps, hsteps⟩ := hstepok _
              rw [hsteps] at he''; cases he''
            · cases he'
          · cases hres
    · cases hres

/-- Under `wfInput`, `consistent` and `writable` `write_to_genbank` does not raise -/
theorem write_ok (rd : RegionData) (rec : BioRecord) (hwf : wfInput rd rec = true) (hcons : consistent rd rec = true)
    (hwr : writable rd rec = true) : ∃ w, writeToGenbank rd rec = .ok w := by
  obtain ⟨hL, hcross, hplain, hfeat⟩ := wf_unpack rd rec hwf
  obtain ⟨_, _, _, _, _, hlcore, hpcore, hincore, hshcore⟩ := consistent_unpack rd rec hcons
  obtain ⟨⟨seq, ws, parent⟩, hb⟩ := base_ok rd rec hwf
  -- core locations can be moved
  have hcore : ∀ p, p ∈ (protoDict rd).map (·.2) → ∃ newLoc, offsetLocation p.core (-rd.start) rec.length = .ok newLoc := by
    intro p hp
    obtain ⟨⟨n, p'⟩, hmem, rfl⟩ := List.mem_map.1 hp
    have hcoreA : (n, p'.core) ∈ coreAreas rd := List.mem_map.2 ⟨(n, p'), hmem, rfl⟩
    obtain ⟨f', hf', hf't, hf'n⟩ := hpcore _ hcoreA
    have hf'loc : p'.core = f'.loc := linkedKind_loc _ _ _ rec hlcore f' hf' hf't n hf'n p'.core hcoreA
    have hparts : ∀ q ∈ p'.core.parts, PartIn rec.length q := by rw [hf'loc]; exact (hfeat f' hf').1.2
    obtain ⟨newLoc, hoff, _⟩ := core_offset rd rec.length p'.core hplain hcross (hshcore _ hcoreA) hparts (hincore _ hcoreA)
    exact ⟨newLoc, hoff⟩
  have hadj : ∃ adjusted, adjustFeatures rd rec.length ws = .ok adjusted := by
    unfold adjustFeatures
    apply mapE_ok_of_forall
    intro w0 hw0
    obtain ⟨f, hf, hty, hq, hmay⟩ := origin_written rd rec w0.f (base_origin rd rec seq ws parent hb w0 hw0)
    have hwrf := List.all_eq_true.1 hwr f hf
    simp only [hmay, Bool.not_true, Bool.false_or] at hwrf
    obtain ⟨g, hg⟩ := adjustFeature_ok rd rec.length w0.f (by rw [adjustable_congr rd w0.f f hty hq]; exact hwrf) hcore
    exact ⟨{ w0 with f := g }, by simp only [hg]⟩
  obtain ⟨adjusted, hadj⟩ := hadj
  unfold writeToGenbank
  simp only [bind, Except.bind, pure, Except.pure, hb, hadj]
  exact ⟨_, rfl⟩

end ASV.RegionExtract
