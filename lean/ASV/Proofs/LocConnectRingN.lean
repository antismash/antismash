/-
  `connect_locations` on a circular record for any number of reduced locations, in closed form (C04).
  Case A: no origin-spanning input (`connA`);  Case B: at least one (`connB`).
-/
import ASV.Proofs.LocRing
namespace ASV

/-! ### closed forms -/

/-- the result of `connect_locations` when no input spans the origin: the line hull unless going over the origin is
    judged shorter; then the hull of the side that has chunks, or of both sides joined over the origin when that way
    is strictly shorter, else their common hull -/
def connA (rs : List RLoc) (L : Int) : Loc :=
  if isWrappingShorter (rs.map (RLoc.toLoc L)) L = true then
    if postOf L rs = [] then .simple (hullP (preOf L rs))
    else if preOf L rs = [] then .simple (hullP (postOf L rs))
    else if (hullP (postOf L rs)).hi ≤ (hullP (preOf L rs)).lo ∧
        (hullP (postOf L rs)).lo + L - (hullP (preOf L rs)).hi < (hullP (preOf L rs)).lo - (hullP (postOf L rs)).hi then
      .compound [fl (hullP (preOf L rs)).lo L, fl 0 (hullP (postOf L rs)).hi]
    else .simple ⟨min (hullP (preOf L rs)).lo (hullP (postOf L rs)).lo,
                  max (hullP (preOf L rs)).hi (hullP (postOf L rs)).hi, .fwd⟩
  else hullOf (rs.map (RLoc.toLoc L))

/-- the shapes of `connA`, each with what is known about the two sides in that case -/
theorem connA_cases {rs : List RLoc} {L : Int} {P : Loc → Prop}
    (hpre : isWrappingShorter (rs.map (RLoc.toLoc L)) L = true → postOf L rs = [] → P (.simple (hullP (preOf L rs))))
    (hpost : isWrappingShorter (rs.map (RLoc.toLoc L)) L = true → ¬ postOf L rs = [] → preOf L rs = [] →
      P (.simple (hullP (postOf L rs))))
    (hboth : isWrappingShorter (rs.map (RLoc.toLoc L)) L = true → ¬ postOf L rs = [] → ¬ preOf L rs = [] →
      P (if (hullP (postOf L rs)).hi ≤ (hullP (preOf L rs)).lo ∧
          (hullP (postOf L rs)).lo + L - (hullP (preOf L rs)).hi < (hullP (preOf L rs)).lo - (hullP (postOf L rs)).hi then
        .compound [fl (hullP (preOf L rs)).lo L, fl 0 (hullP (postOf L rs)).hi]
      else .simple ⟨min (hullP (preOf L rs)).lo (hullP (postOf L rs)).lo,
                    max (hullP (preOf L rs)).hi (hullP (postOf L rs)).hi, .fwd⟩))
    (hline : ¬ isWrappingShorter (rs.map (RLoc.toLoc L)) L = true → P (hullOf (rs.map (RLoc.toLoc L)))) :
    P (connA rs L) := by
  unfold connA
  split
  · next hw =>
    split
    · next h1 => exact hpre hw h1
    · next h1 =>
      split
      · next h2 => exact hpost hw h1 h2
      · next h2 => exact hboth hw h1 h2
  · next hw => exact hline hw

/-- the result when at least one input spans the origin: a single input as it is; otherwise the pre-origin hull up to
    the record end plus the post-origin hull from the origin, or the whole record when these two meet -/
def connB (rs : List RLoc) (L : Int) : Loc :=
  match rs with
  | [r] => r.toLoc L
  | _ =>
    if 0 < (hullP (preOf L rs)).lo ∧ (hullP (postOf L rs)).hi ≤ (hullP (preOf L rs)).lo then
      .compound [⟨(hullP (preOf L rs)).lo, L, .fwd⟩, ⟨0, (hullP (postOf L rs)).hi, .fwd⟩]
    else .simple ⟨0, L, .fwd⟩

/-- the shapes of `connB`: a single origin-spanning input is returned as it is; otherwise the two sides are joined
    over the origin, or the whole record results -/
theorem connB_cases {rs : List RLoc} {L : Int} {P : Loc → Prop} (htwo : rs.any RLoc.isTwo = true)
    (hone : ∀ x y, rs = [.two x y] → P ((RLoc.two x y).toLoc L))
    (hmany : (∀ r, rs ≠ [r]) →
      P (if 0 < (hullP (preOf L rs)).lo ∧ (hullP (postOf L rs)).hi ≤ (hullP (preOf L rs)).lo then
        .compound [⟨(hullP (preOf L rs)).lo, L, .fwd⟩, ⟨0, (hullP (postOf L rs)).hi, .fwd⟩]
      else .simple ⟨0, L, .fwd⟩)) : P (connB rs L) := by
  match rs, htwo, hone, hmany with
  | [], htwo, _, _ => simp at htwo
  | [.one p], htwo, _, _ => simp [RLoc.isTwo] at htwo
  | [.two x y], _, hone, _ => exact hone x y rfl
  | r1 :: r2 :: rest, _, _, hmany => exact hmany (fun r h => by cases h)

/-- the closed form of `connect_locations` on a ring of length `L` for the reduced locations `rs` -/
def connR (rs : List RLoc) (L : Int) : Loc :=
  if rs.any RLoc.isTwo = true then connB rs L else connA rs L

/-! ### reduced locations are fixed points of `_reduce_parts_to_location` -/

theorem reduce_two (x y L : Int) (hL : 0 < L) (hy0 : 0 < y) (hyx : y ≤ x) (hxL : x < L) :
    reduceParts [fl x L, fl 0 y] (some L) = .ok (.compound [fl x L, fl 0 y]) := by
  have hb := bridges_two x y L hy0 hyx
  have hsb := splitBridging_two x y L .fwd (by decide) hy0 hyx hxL
  have hL' : ¬ L ≤ 0 := by omega
  simp only [fl] at hb hsb
  simp only [reduceParts, fl, hb, if_true, hsb, hL', if_false, List.map, minList, maxList, List.foldl, bind, Except.bind,
    pure, Except.pure]

theorem reduce_toLoc (L : Int) (hL : 0 < L) (r : RLoc) (h : r.OK L) :
    reduceParts (r.toLoc L).parts (some L) = .ok (r.toLoc L) := by
  cases r with
  | one p => exact reduce_simple p _
  | two x y => exact reduce_two x y L hL h.1 h.2.1 h.2.2

theorem mapM_reduce_toLoc (L : Int) (hL : 0 < L) (rs : List RLoc) (h : ∀ r ∈ rs, r.OK L) :
    (rs.map (RLoc.toLoc L)).mapM (fun l => reduceParts l.parts (some L)) = .ok (rs.map (RLoc.toLoc L)) := by
  induction rs with
  | nil => rfl
  | cons r rs ih =>
    rw [List.map_cons, List.mapM_cons, reduce_toLoc L hL r (h r (by simp)),
      ih (fun x hx => h x (List.mem_cons_of_mem _ hx))]
    rfl

theorem any_bridges_toLoc (L : Int) (rs : List RLoc) (h : ∀ r ∈ rs, r.OK L) :
    (rs.map (RLoc.toLoc L)).any bridgesOrigin = rs.any RLoc.isTwo := by
  induction rs with
  | nil => rfl
  | cons r rs ih =>
    rw [List.map_cons, List.any_cons, List.any_cons, bridges_toLoc L r (h r (by simp)),
      ih (fun x hx => h x (List.mem_cons_of_mem _ hx))]

theorem map_one_toLoc (L : Int) (ps : List Part) : (ps.map RLoc.one).map (RLoc.toLoc L) = ps.map Loc.simple := by
  rw [List.map_map]; rfl

theorem all_one (rs : List RLoc) (h : rs.any RLoc.isTwo = false) : ∃ ps : List Part, rs = ps.map RLoc.one := by
  induction rs with
  | nil => exact ⟨[], rfl⟩
  | cons r rs ih =>
    rw [List.any_cons, Bool.or_eq_false_iff] at h
    obtain ⟨ps, rfl⟩ := ih h.2
    cases r with
    | one p => exact ⟨p :: ps, rfl⟩
    | two x y => exact absurd h.1 (by simp [RLoc.isTwo])

theorem one_ok {L : Int} {ps : List Part} (h : ∀ r ∈ ps.map RLoc.one, r.OK L) :
    ∀ p ∈ ps, 0 ≤ p.lo ∧ p.lo < p.hi ∧ p.hi ≤ L :=
  fun p hp => h (.one p) (List.mem_map.2 ⟨p, hp, rfl⟩)

/-! ### neither side on its own is ever judged shorter over the origin -/

theorem nowrap_simples (qs : List Part) (L : Int) (hL : 0 < L)
    (hq : ∀ q ∈ qs, q.lo < q.hi)
    (hno : ∀ f ∈ qs, ∀ s ∈ qs, f.lo ≤ s.lo → ¬ (s.lo - f.hi > L / 2)) :
    isWrappingShorter (qs.map .simple) L = false := by
  by_cases hne : qs = []
  · subst hne; rfl
  · have hne' : qs.map Loc.simple ≠ [] := by simpa using hne
    have hnb : (qs.map Loc.simple).any bridgesOrigin = false := by
      rw [List.any_eq_false]; intro l hl
      obtain ⟨q, _, rfl⟩ := List.mem_map.1 hl
      simp [bridgesOrigin]
    have hpos : ∀ l ∈ qs.map Loc.simple, l.start ≤ l.end := by
      intro l hl
      obtain ⟨q, hq', rfl⟩ := List.mem_map.1 hl
      have := hq q hq'
      simp only [Loc.start, Loc.end]; omega
    obtain ⟨f, rest, _, hf, hmin, _⟩ := sortLocs_head _ hne'
    cases hw : isWrappingShorter (qs.map .simple) L
    · rfl
    · exfalso
      obtain ⟨s, hs, hgt⟩ := (isWrappingShorter_iff _ L (by omega) hnb hpos f hf hmin).1 hw
      obtain ⟨qf, hqf, rfl⟩ := List.mem_map.1 hf
      obtain ⟨qs', hqs', rfl⟩ := List.mem_map.1 hs
      have hk := hmin _ hs
      simp only [KeyLe, Loc.start, Loc.end] at hk hgt
      exact hno qf hqf qs' hqs' (by omega) hgt

theorem nowrap_pre {L : Int} (hL : 0 < L) {rs : List RLoc} (h : ∀ r ∈ rs, r.OK L) :
    isWrappingShorter ((preOf L rs).map .simple) L = false := by
  apply nowrap_simples _ L hL (fun q hq => (mem_preOf h hq).2.2.1)
  intro f hf s hs hle
  have a := mem_preOf h hf
  have b := mem_preOf h hs
  omega

theorem nowrap_post {L : Int} (hL : 0 < L) {rs : List RLoc} (h : ∀ r ∈ rs, r.OK L) :
    isWrappingShorter ((postOf L rs).map .simple) L = false := by
  apply nowrap_simples _ L hL (fun q hq => (mem_postOf h hq).2.2.1)
  intro f hf s hs hle
  have a := mem_postOf h hf
  have b := mem_postOf h hs
  omega

/-! ### Case A: no origin-spanning input -/

theorem map_simple_ne {qs : List Part} (h : qs ≠ []) : qs.map Loc.simple ≠ [] :=
  fun e => h (List.map_eq_nil_iff.1 e)

theorem hullOf_two_fwd (u l : Part) (hu : u.strand = .fwd) (hl : l.strand = .fwd) :
    hullOf [.simple u, .simple l] = .simple ⟨min u.lo l.lo, max u.hi l.hi, .fwd⟩ := by
  simp [hullOf, minList, maxList, commonStrand, Loc.start, Loc.end, Loc.strand, hu, hl]

/-- not judged shorter over the origin: the hull, with a recursion budget of one -/
theorem connectLocations_A_nowrap (f : Nat) (ls : List Loc) (L : Int) (ps : List Part)
    (hne : ls ≠ []) (hps : ps ≠ []) (hL : 0 < L)
    (hred : ls.mapM (fun l => reduceParts l.parts (some L)) = .ok (ps.map .simple))
    (hany : ls.any bridgesOrigin = false)
    (hw : isWrappingShorter (ps.map .simple) L = false) :
    connectLocations (f + 1) ls (some L) = .ok (hullOf (ps.map .simple)) := by
  apply connectLocations_ring_one f ls L _ _ hne hL hred
  rw [hany]
  simp only [Bool.false_eq_true, if_false]
  exact mergeOverOrigin_upper _ L _ (splitSections_nowrap _ L hw) (map_simple_ne hps)

/-- the model computes `connA`.  Three ways to end with one location after merging over the origin (only pre-origin
    chunks, only post-origin chunks, both merged), else the unmerged pair goes through one more call without wrap
    point — hence a recursion budget of two -/
theorem connectLocations_A (f : Nat) (ls : List Loc) (L : Int) (ps : List Part)
    (hne : ls ≠ []) (hps : ps ≠ []) (hL : 0 < L)
    (hok : ∀ r ∈ ps.map RLoc.one, r.OK L)
    (hred : ls.mapM (fun l => reduceParts l.parts (some L)) = .ok (ps.map .simple))
    (hany : ls.any bridgesOrigin = false) :
    connectLocations (f + 2) ls (some L) = .ok (connA (ps.map .one) L) := by
  have hrs : ps.map RLoc.one ≠ [] := by simpa using hps
  unfold connA
  rw [map_one_toLoc]
  cases hw : isWrappingShorter (ps.map .simple) L
  · rw [if_neg (by simp)]
    exact connectLocations_A_nowrap (f + 1) ls L ps hne hps hL hred hany hw
  · rw [if_pos rfl]
    have hsp := splitSections_wrap L (ps.map .one) hok (by rw [map_one_toLoc]; exact hw)
    rw [map_one_toLoc] at hsp
    have hpf : ∀ q ∈ preOf L (ps.map .one), q.strand = .fwd := fun q hq => (mem_preOf hok hq).1
    have hqf : ∀ q ∈ postOf L (ps.map .one), q.strand = .fwd := fun q hq => (mem_postOf hok hq).1
    by_cases hpost : postOf L (ps.map .one) = []
    · rw [if_pos hpost]
      have hpre : preOf L (ps.map .one) ≠ [] := by
        intro h; exact chunks_ne L _ hrs h hpost
      apply connectLocations_ring_one (f + 1) ls L _ _ hne hL hred
      rw [hany]
      simp only [Bool.false_eq_true, if_false]
      rw [← hullOf_fwd _ hpre hpf]
      apply mergeOverOrigin_upper _ L _ _ (map_simple_ne hpre)
      rw [hsp, hpost]; rfl
    · rw [if_neg hpost]
      by_cases hpre : preOf L (ps.map .one) = []
      · rw [if_pos hpre]
        apply connectLocations_ring_one (f + 1) ls L _ _ hne hL hred
        rw [hany]
        simp only [Bool.false_eq_true, if_false]
        rw [← hullOf_fwd _ hpost hqf]
        apply mergeOverOrigin_lower _ L _ _ (map_simple_ne hpost)
        rw [hsp, hpre]; rfl
      · rw [if_neg hpre]
        obtain ⟨hu0, hu1, hu2, hu3⟩ := hull_pre hok hpre
        obtain ⟨hl0, hl1, hl2, hl3⟩ := hull_post hok hpost
        have hmg := mergeOverOrigin_both (ps.map .simple) L _ _ (hullP (preOf L (ps.map .one)))
          (hullP (postOf L (ps.map .one))) hsp (map_simple_ne hpre) (map_simple_ne hpost)
          (hullOf_fwd _ hpre hpf) (hullOf_fwd _ hpost hqf)
        have hiff := over_lt_standard (hullP (preOf L (ps.map .one))) (hullP (postOf L (ps.map .one))) L hL
          hu0 hu1 hu2 hu3 hl0 hl1 hl2 hl3
        by_cases hc : (hullP (postOf L (ps.map .one))).hi ≤ (hullP (preOf L (ps.map .one))).lo ∧
            (hullP (postOf L (ps.map .one))).lo + L - (hullP (preOf L (ps.map .one))).hi <
              (hullP (preOf L (ps.map .one))).lo - (hullP (postOf L (ps.map .one))).hi
        · rw [if_pos hc]
          rw [if_pos (hiff.2 hc), if_pos (by omega)] at hmg
          apply connectLocations_ring_one (f + 1) ls L _ _ hne hL hred
          rw [hany]
          simp only [Bool.false_eq_true, if_false]
          exact hmg
        · rw [if_neg hc]
          rw [if_neg (fun h => hc (hiff.1 h))] at hmg
          have hdiv : 2 * (L / 2) ≤ L ∧ L < 2 * (L / 2) + 2 := by omega
          have hw2 : isWrappingShorter [.simple (hullP (preOf L (ps.map .one))),
              .simple (hullP (postOf L (ps.map .one)))] L = false := by
            rw [isWrappingShorter_two]
            split
            · simp only [decide_eq_false_iff_not]; omega
            · simp only [decide_eq_false_iff_not]; omega
          rw [connectLocations_ring_pre (f + 1) ls L _ _ _ [] _ hne hL hred (by rw [hany]; exact hmg)
            (splitSections_nowrap _ L hw2) (by simp)]
          rw [connectLocations_line f _ (by simp) (by
            intro l hl
            simp only [List.mem_cons, List.mem_nil_iff, or_false] at hl
            rcases hl with rfl | rfl <;> simp [Loc.parts, bridgesOrigin])]
          rw [hullOf_two_fwd _ _ rfl rfl]

/-! ### Case B: at least one origin-spanning input -/

/-- the final combination when the pre-origin side ends at the record end and the post-origin
    side starts at the origin -/
theorem combineSides_eval (f : Nat) (a b L : Int) (ha0 : 0 ≤ a) (haL : a < L) (hb0 : 0 < b) (hbL : b < L) :
    combineSides (f + 1) ⟨a, L, .fwd⟩ ⟨0, b, .fwd⟩ =
      .ok (if 0 < a ∧ b ≤ a then .compound [⟨a, L, .fwd⟩, ⟨0, b, .fwd⟩] else .simple ⟨0, L, .fwd⟩) := by
  by_cases h0 : a = 0
  · subst h0
    have c1 : locationContainsOther (.simple (⟨0, L, .fwd⟩ : Part)) (.simple (⟨0, b, .fwd⟩ : Part)) = true := by
      simp [locationContainsOther, Loc.parts, partContains]; omega
    have c2 : (⟨0, L, .fwd⟩ : Part).len > (⟨0, b, .fwd⟩ : Part).len := by simp [Part.len]; omega
    simp only [combineSides, c1, Bool.true_or, if_true, c2, pure, Except.pure]
    rw [if_neg (by omega)]
  · have c1 : locationContainsOther (.simple (⟨a, L, .fwd⟩ : Part)) (.simple (⟨0, b, .fwd⟩ : Part)) = false := by
      simp [locationContainsOther, Loc.parts, partContains]; omega
    have c2 : locationContainsOther (.simple (⟨0, b, .fwd⟩ : Part)) (.simple (⟨a, L, .fwd⟩ : Part)) = false := by
      simp [locationContainsOther, Loc.parts, partContains]; omega
    by_cases hov : b ≤ a
    · have c3 : locationsOverlap (.simple (⟨a, L, .fwd⟩ : Part)) (.simple (⟨0, b, .fwd⟩ : Part)) = false := by
        simp [locationsOverlap, Loc.parts, partsOverlap, Part.mem]; omega
      simp only [combineSides, c1, c2, c3, Bool.or_self, Bool.false_eq_true, if_false, pure, Except.pure]
      rw [if_pos ⟨by omega, hov⟩]
    · have c3 : locationsOverlap (.simple (⟨a, L, .fwd⟩ : Part)) (.simple (⟨0, b, .fwd⟩ : Part)) = true := by
        simp [locationsOverlap, Loc.parts, partsOverlap, Part.mem]; omega
      have hline := connectLocations_line f [.simple (⟨a, L, .fwd⟩ : Part), .simple (⟨0, b, .fwd⟩ : Part)] (by simp) (by
        intro l hl
        simp only [List.mem_cons, List.mem_nil_iff, or_false] at hl
        rcases hl with rfl | rfl <;> simp [Loc.parts, bridgesOrigin])
      rw [hullOf_two_fwd _ _ rfl rfl] at hline
      simp only [combineSides, c1, c2, c3, Bool.or_self, Bool.false_eq_true, if_false, if_true, hline, bind, Except.bind,
        Loc.strand, bne_self_eq_false, pure, Except.pure]
      rw [if_neg (by omega)]
      have e1 : min a 0 = 0 := by omega
      have e2 : max L b = L := by omega
      rw [e1, e2]

theorem part_eq_hi (p : Part) (L : Int) (h : p.hi = L) (hs : p.strand = .fwd) : p = ⟨p.lo, L, .fwd⟩ := by
  cases p; simp_all
theorem part_eq_lo (p : Part) (h : p.lo = 0) (hs : p.strand = .fwd) : p = ⟨0, p.hi, .fwd⟩ := by
  cases p; simp_all

theorem isWrapping_of_two (L : Int) (rs : List RLoc) (h : ∀ r ∈ rs, r.OK L) (htwo : rs.any RLoc.isTwo = true) :
    isWrappingShorter (rs.map (RLoc.toLoc L)) L = true := by
  unfold isWrappingShorter
  rw [any_bridges_toLoc L rs h, htwo]; rfl

/-- with an origin-spanning input the pre-origin hull ends at the record end and the post-origin
    hull starts at the origin -/
theorem hull_two_ends (L : Int) (rs : List RLoc) (h : ∀ r ∈ rs, r.OK L) (htwo : rs.any RLoc.isTwo = true) :
    preOf L rs ≠ [] ∧ postOf L rs ≠ [] ∧ (hullP (preOf L rs)).hi = L ∧ (hullP (postOf L rs)).lo = 0 := by
  rw [List.any_eq_true] at htwo
  obtain ⟨r, hr, ht⟩ := htwo
  cases r with
  | one p => cases ht
  | two x y =>
    have m1 : fl x L ∈ preOf L rs := by
      simp only [preOf, List.mem_flatMap]; exact ⟨_, hr, by simp [RLoc.pre]⟩
    have m2 : fl 0 y ∈ postOf L rs := by
      simp only [postOf, List.mem_flatMap]; exact ⟨_, hr, by simp [RLoc.post]⟩
    have n1 := List.ne_nil_of_mem m1
    have n2 := List.ne_nil_of_mem m2
    refine ⟨n1, n2, ?_, ?_⟩
    · have a := (hullP_bounds _ _ m1).2
      have b := (hull_pre h n1).2.2.1
      simp only [fl] at a; omega
    · have a := (hullP_bounds _ _ m2).1
      have b := (hull_post h n2).1
      simp only [fl] at a; omega

/-- the model computes `connB`: both sides are connected by a call of case A each (budget two) and combined, so three
    levels suffice; `connect` starts with four -/
theorem connectLocations_B (f : Nat) (ls : List Loc) (L : Int) (rs : List RLoc)
    (hne : ls ≠ []) (hL : 0 < L) (hok : ∀ r ∈ rs, r.OK L)
    (hred : ls.mapM (fun l => reduceParts l.parts (some L)) = .ok (rs.map (RLoc.toLoc L)))
    (hany : ls.any bridgesOrigin = true) (htwo : rs.any RLoc.isTwo = true) :
    connectLocations (f + 3) ls (some L) = .ok (connB rs L) := by
  match rs, hok, hred, htwo with
  | [], _, _, htwo => simp at htwo
  | [r], _, hred, _ =>
    apply connectLocations_ring_one (f + 2) ls L _ _ hne hL hred
    rw [hany]; rfl
  | r1 :: r2 :: rest, hok, hred, htwo =>
    obtain ⟨hpre, hpost, hhi, hlo⟩ := hull_two_ends L _ hok htwo
    have hsp := splitSections_wrap L _ hok (isWrapping_of_two L _ hok htwo)
    have hpf : ∀ q ∈ preOf L (r1 :: r2 :: rest), q.strand = .fwd := fun q hq => (mem_preOf hok hq).1
    have hqf : ∀ q ∈ postOf L (r1 :: r2 :: rest), q.strand = .fwd := fun q hq => (mem_postOf hok hq).1
    have anyS : ∀ qs : List Part, (qs.map Loc.simple).any bridgesOrigin = false := by
      intro qs; rw [List.any_eq_false]; intro l hl
      obtain ⟨q, _, rfl⟩ := List.mem_map.1 hl
      simp [bridgesOrigin]
    have redS : ∀ qs : List Part, (qs.map Loc.simple).mapM (fun l => reduceParts l.parts (some L)) = .ok (qs.map .simple) := by
      intro qs
      induction qs with
      | nil => rfl
      | cons q qs ih => rw [List.map_cons, List.mapM_cons, reduce_simple, ih]; rfl
    have hp := connectLocations_A_nowrap (f + 1) _ L (preOf L (r1 :: r2 :: rest)) (map_simple_ne hpre) hpre hL
      (redS _) (anyS _) (nowrap_pre hL hok)
    have hq := connectLocations_A_nowrap (f + 1) _ L (postOf L (r1 :: r2 :: rest)) (map_simple_ne hpost) hpost hL
      (redS _) (anyS _) (nowrap_post hL hok)
    rw [hullOf_fwd _ hpre hpf] at hp
    rw [hullOf_fwd _ hpost hqf] at hq
    rw [connectLocations_ring_both (f + 2) ls L _ _ _ _ _ _ _ _ hne hL hred (by rw [hany]; rfl) hsp
      (map_simple_ne hpre) (map_simple_ne hpost) hp hq]
    obtain ⟨hu0, hu1, hu2, hu3⟩ := hull_pre hok hpre
    obtain ⟨hl0, hl1, hl2, hl3⟩ := hull_post hok hpost
    have e1 : hullP (preOf L (r1 :: r2 :: rest)) = ⟨(hullP (preOf L (r1 :: r2 :: rest))).lo, L, .fwd⟩ :=
      part_eq_hi _ L hhi rfl
    have e2 : hullP (postOf L (r1 :: r2 :: rest)) = ⟨0, (hullP (postOf L (r1 :: r2 :: rest))).hi, .fwd⟩ :=
      part_eq_lo _ hlo rfl
    rw [e1, e2, combineSides_eval (f + 1) _ _ L hu0 (by omega) (by omega) (by omega)]
    rfl

end ASV
