/-
  C07 helper lemmas for the composite rotation theorems over the code models of
  `find_protoclusters` / `merge_over_origin` (C03's ring theorems) and `create_regions` (C06's).
-/
import ASV.Proofs.RotationStages
import ASV.Proofs.ProtoRingSep
import ASV.Model.Pipeline
namespace ASV.Proto
open ASV ASV.Chains

theorem iabs_swap (x y : Int) : iabs (x - y) = iabs (y - x) := by
  simp only [iabs_def]; split <;> split <;> omega

theorem ringAbs_comm (L i j : Int) : ringAbs L i j = ringAbs L j i := by
  simp only [ringAbs, iabs_swap i j]

theorem not_farApart_of_close {L c : Int} {p q : Loc} {x y : Int} (hx : p.mem x = true) (hy : q.mem y = true)
    (hxy : ringAbs L y x ≤ c) : ¬ FarApart L c p q := by
  intro h
  have := h x y hx hy
  omega

/-- the span of a gene of a line or of an inner arc (no exon order across the origin) is well formed -/
theorem GeneOK.span_OK {len : Int} {l : Loc} (h : GeneOK len l) : (spanLoc len l).OK len := by
  rw [spanLoc_nb len l h.nb]
  exact Loc.OK_simple h.start_nonneg h.start_lt_end h.end_le

end ASV.Proto

theorem ASV.Regions.LineArea.OK {L : Int} {l : ASV.Loc} (h : ASV.Regions.LineArea L l) : l.OK L := by
  obtain ⟨p, rfl, h0, h1, h2⟩ := h
  exact ASV.Loc.OK_simple h0 h1 h2

theorem ASV.Pipe.stateOf_feat_loc {q : ASV.Proto.Rec} {cs : List ASV.CC.Cand} {f : ASV.Regions.Feat}
    (hf : f ∈ (stateOf q cs).cands ++ (stateOf q cs).subs) : ∃ c ∈ cs, f.loc = c.loc := by
  simp only [stateOf, List.append_nil, List.mem_map] at hf
  obtain ⟨x, hx, rfl⟩ := hf
  exact ⟨x.1, List.fst_mem_of_mem_zipIdx hx, rfl⟩

theorem ASV.Pipe.noSpanOK_stateOf {q : ASV.Proto.Rec} {cs : List ASV.CC.Cand}
    (h : ∀ c ∈ cs, ASV.Regions.LineArea q.len c.loc) : ASV.Regions.NoSpanOK (stateOf q cs) := by
  refine ⟨fun f hf => ?_, rfl⟩
  obtain ⟨c, hc, e⟩ := stateOf_feat_loc hf
  show ASV.Regions.LineArea q.len f.loc
  rw [e]
  exact h c hc
