/-
  C05: the whole run on a linear record, stage by stage, against the documented description
  (the relations and the table semantics the executable reference `Spec.reference` is built from).
-/
import ASV.Proofs.TableDesc
import ASV.Proofs.HybridWindow
namespace ASV.CC
open ASV.CC.Spec

/-- what `_find_hybrids` leaves unassigned: exactly the protoclusters in none of its groups -/
theorem findHybrids_un_exact {clusters : List Proto} {wrap : Option Int} {hg : List (List Proto)} {un : List Proto}
    (h : findHybrids clusters wrap = .ok (hg, un)) :
    ∀ p, p ∈ un ↔ p ∈ clusters ∧ ∀ g, g ∈ hg → p ∉ g := by
  have hcov := findHybrids_cover h
  obtain ⟨extended, hext, rfl, rfl⟩ := findHybrids_stages h
  intro p
  constructor
  · intro hp
    have hp' := mem_sortProtos.1 hp
    simp only [List.mem_filter, Bool.not_eq_true', List.contains_eq_mem, decide_eq_false_iff_not] at hp'
    refine ⟨hp'.1.1, fun g hg hpg => ?_⟩
    obtain ⟨e, he, rfl⟩ := List.mem_map.1 hg
    exact hp'.2 (List.mem_flatten.2 ⟨e, he, mem_sortProtos.1 hpg⟩)
  · rintro ⟨hpc, hno⟩
    rcases hcov p hpc with ⟨g, hg, hpg⟩ | hun
    · exact absurd hpg (hno g hg)
    · exact hun

theorem findInterleaved_un_linear {clusters : List Proto} {cands : List Cand} {ig : List (List Proto)} {un : List Proto}
    (h : findInterleaved clusters cands none = .ok (ig, un))
    (hdisj : ∀ p, p ∈ clusters → ∀ c, c ∈ cands → p ∉ c.members) :
    ∀ p, p ∈ un → ∀ g, g ∈ ig → p ∉ g := by
  obtain ⟨cc, found1, groups, hcc, hx, rfl, rfl⟩ := findInterleaved_stages h
  have hccfst : ∀ x, x ∈ cc → x.1 ∈ cands :=
    hcc.elim withCores_fst (fun e x hx => by rw [e.1] at hx; cases hx)
  have hno : ∀ x, x ∈ cc → twoParts x.2 = false :=
    hcc.elim withCores_none_simple (fun e x hx => by rw [e.1] at hx; cases hx)
  rw [findCross_noSpan _ _ _ hno] at hx
  cases hx
  intro p hp g hg hpg
  have hp' := mem_sortProtos.1 hp
  simp only [List.mem_filter, Bool.not_eq_true', List.contains_eq_mem, decide_eq_false_iff_not, List.append_nil,
    List.mem_append, not_or] at hp'
  obtain ⟨hpc, hn2, hn3⟩ := hp'
  obtain ⟨g0, hg0, hp0⟩ := mergeSets_from hg p hpg
  rcases List.mem_append.1 hg0 with h12 | h3
  · rcases List.mem_append.1 h12 with h1 | h2
    · obtain ⟨a, b, hbf, _, rfl⟩ := mem_findInterleavedCandidates.1 h1
      rcases List.mem_append.1 (mem_dedup.1 hp0) with hx | hx
      · exact hdisj p hpc a.1 (hccfst a (before_mem hbf).1) hx
      · exact hdisj p hpc b.1 (hccfst b (before_mem hbf).2) hx
    · exact hn2 (List.mem_flatten.2 ⟨g0, h2, hp0⟩)
  · obtain ⟨cl, hcl, hg3⟩ := List.mem_flatMap.1 h3
    obtain ⟨c, hcf, rfl⟩ := List.mem_map.1 hg3
    obtain ⟨hcin, ho⟩ := List.mem_filter.1 hcf
    rcases List.mem_append.1 (mem_dedup.1 hp0) with hx | hx
    · exact hdisj p hpc c.1 (hccfst c hcin) hx
    · rw [List.mem_singleton.1 hx] at hn3
      exact hn3 ⟨hcl, List.any_eq_true.2 ⟨c, hcin, ho⟩⟩

/-- The documented outcome on a linear record, stage by stage.  Every clause is stated with the
    notions the executable reference is made of: chain classes (`Linked`) of `shareGroups` /
    `overlapGroups`, containment in the connected core, the order-free table semantics `PassDesc`
    (per coordinate key: union of the groups, kind of the first owner, promoted singles), the singles rule. -/
structure RefinesLinear (ps : List Proto) (cs : List Cand) : Prop where
  stages : ∃ (hg : List (List Proto)) (un1 : List Proto) (t1 : Table) (cc : List CandC) (ig : List (List Proto))
      (un2 : List Proto) (t2 : Table) (ng : List (List Proto)) (t3 : Table) (l : List Proto) (singles : List Cand),
    -- chemical hybrids: one sharing class plus exactly the unshared protoclusters whose core lies inside its connected core
    (∀ g, g ∈ hg → ∃ (m : List Proto) (core : Loc), (∀ x, x ∈ m → x ∈ g) ∧ 2 ≤ m.length ∧
        (∀ a b, a ∈ m → b ∈ m → Linked (shareGroups (sortProtos ps)) a b) ∧
        connect (m.map (·.core)) none = .ok core ∧
        ∀ p, p ∈ sortProtos ps → (∀ q, q ∈ sortProtos ps → q ≠ p → shares p q = false) →
          (p ∈ g ↔ locationContainsOther core p.core = true)) ∧
    (∀ a b, Linked (shareGroups (sortProtos ps)) a b → ∃ g, g ∈ hg ∧ a ∈ g ∧ b ∈ g) ∧
    (∀ p, p ∈ un1 ↔ p ∈ ps ∧ ∀ g, g ∈ hg → p ∉ g) ∧
    PassDesc none .hybrid ⟨[], []⟩ t1 hg ∧
    -- interleaved: chain classes of "cores overlap" over hybrid candidates and unabsorbed protoclusters
    withCores none (sortCands t1.values) = .ok cc ∧
    (∀ a b, (∃ r, r ∈ ig ∧ a ∈ r ∧ b ∈ r) ↔ Linked (overlapGroups (interleaveUnits un1 cc)) a b) ∧
    (∀ p, p ∈ un2 ↔ p ∈ un1 ∧ ∀ g, g ∈ ig → p ∉ g) ∧
    PassDesc none .interleaved t1 t2 ig ∧
    -- neighbouring: chain classes of "extents overlap" over all candidates so far and the remaining protoclusters
    (∀ a b, (∃ r, r ∈ ng ∧ a ∈ r ∧ b ∈ r) ↔ Linked (overlapGroups (neighbourUnits un2 (sortCands t2.values))) a b) ∧
    PassDesc none .neighbouring t2 t3 ng ∧
    -- singles: for the protoclusters left over and the promoted ones, unless the candidate with the same coordinates contains it
    (∀ p, p ∈ l ↔ p ∈ un2 ∨ p ∈ t3.singles) ∧
    (∀ c, c ∈ singles → c.kind = .single ∧ ∃ p, p ∈ l ∧ c.members = [p] ∧
      ¬ ∃ ex, t3.get (locKey p.loc) = some ex ∧ p ∈ ex.members) ∧
    (∀ p, p ∈ l → (∃ c, c ∈ singles ∧ c.members = [p]) ∨ ∃ ex, ex ∈ t3.values ∧ p ∈ ex.members) ∧
    cs.Perm (t3.values ++ singles)

theorem formation_refines_linear {ps : List Proto} {cs : List Cand} (hn : ps.Nodup) (hne : ps ≠ [])
    (hv : ∀ p, p ∈ ps → SimpleProto p ∧ ValidCore p) (h : formation ps none = .ok cs) : RefinesLinear ps cs := by
  obtain ⟨cs0, h0, e⟩ := formation_ok_core h
  subst e
  obtain ⟨hg, un1, t1, ig, un2, t2, t3, singles, hH, hB1, hI, hB2, hB3, hS, e, hr1, _, _, hH2, _, hu1, hI3⟩ :=
    formationCore_stages_wf h0 hn hne
  subst e
  have hun0 : (sortProtos ps).Nodup := nodup_sortProtos hn
  have hps0 : ∀ p, p ∈ sortProtos ps → p ∈ ps := fun p hp => mem_sortProtos.1 hp
  have ht1 := reach_wf hr1
  have hc1 : ∀ c, c ∈ sortCands t1.values → c.members ≠ [] ∧ ∀ m, m ∈ c.members → SimpleProto m := fun c hc =>
    ⟨(ht1.1 c (mem_sortCands.1 hc)).ok.nonempty, fun m hm => (hv m ((ht1.1 c (mem_sortCands.1 hc)).fromInput m hm)).1⟩
  obtain ⟨cc, hcc⟩ := withCores_simple hc1
  have hne1 : ∀ p, p ∈ un1 → p.core.PartsNonEmpty := by
    intro p hp
    obtain ⟨r, hr, hlt, _⟩ := (hv p (hu1 p hp)).2
    intro q hq
    rw [hr] at hq
    simp only [Loc.parts, List.mem_singleton] at hq
    subst hq; exact hlt
  -- the three table steps
  have d1 := buildCandidates_desc hB1 (by simp [keys])
  have d2 := buildCandidates_desc hB2 d1.keysNodup
  have d3 := buildCandidates_desc hB3 d2.keysNodup
  -- interleaved classes (linear: no origin-crossing group)
  have hinter := findInterleaved_classes_linear hI hcc hH2 hne1
  have hvc : ∀ p, p ∈ sortProtos ps → ValidCore p := fun p hp => (hv p (hps0 p hp)).2
  refine ⟨hg, un1, t1, cc, ig, un2, t2, findNeighbouring un2 (sortCands t2.values), t3,
    sortProtos (dedup (un2 ++ t3.singles)), singles,
    findHybrids_complete_linear hH hun0 hvc, (findHybrids_classes hH hun0).1, ?_, d1,
    hcc, hinter, ?_, d2, fun a b => findNeighbouring_classes un2 (sortCands t2.values) a b, d3, ?_, ?_, ?_, ?_⟩
  · intro p
    rw [findHybrids_un_exact hH p, mem_sortProtos]
  · -- the members of the hybrid candidates are the members of the hybrid groups, which `un1` avoids
    have hdisj : ∀ p, p ∈ un1 → ∀ c, c ∈ sortCands t1.values → p ∉ c.members := by
      intro p hp c hc hpc
      obtain ⟨k, hk⟩ := mem_values.1 (mem_sortCands.1 hc)
      rcases (d1.members k p).1 ⟨c, hk, hpc⟩ with ⟨c0, hc0, _⟩ | ⟨g, hg', _, hpg⟩
      · cases hc0
      · exact ((findHybrids_un_exact hH p).1 hp).2 g hg' hpg
    intro p
    constructor
    · intro hp
      exact ⟨hI3 p hp, findInterleaved_un_linear hI hdisj p hp⟩
    · rintro ⟨hp, hno⟩
      rcases findInterleaved_cover hI p hp with ⟨g, hg', hpg⟩ | h1 | ⟨c, hc, hpc⟩
      · exact absurd hpg (hno g hg')
      · exact h1
      · exact absurd hpc (hdisj p hp c hc)
  · intro p
    rw [mem_sortProtos, mem_dedup, List.mem_append]
  · intro c hc
    obtain ⟨_, hk, p, hp, e, hno⟩ := addSingles_wf hS c hc
    exact ⟨hk, p, hp, e, hno⟩
  · intro p hp
    rcases addSingles_cover hS p hp with h1 | ⟨ex, hex, hpe⟩
    · exact Or.inl h1
    · exact Or.inr ⟨ex, hex, hpe⟩
  · exact (perm_sortCands _).trans (List.Perm.append_right singles (perm_sortCands t3.values))

end ASV.CC
