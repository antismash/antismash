/-
  Helper lemmas for C13: `filter_results` — the competition between the hits of one gene.
-/
import ASV.Proofs.HitFilterHmmer
namespace ASV.HitFilter
open ASV.Refine

theorem foldl_preserves {α β} (f : β → α → β) (R : β → Prop) (l : List α)
    (h : ∀ acc x, x ∈ l → R acc → R (f acc x)) : ∀ init, R init → R (l.foldl f init) := by
  induction l with
  | nil => intro init h0; exact h0
  | cons a t ih =>
    intro init h0
    simp only [List.foldl_cons]
    exact ih (fun acc x hx => h acc x (List.mem_cons_of_mem _ hx)) _ (h init a (by simp) h0)

theorem foldl_establishes {α β} (f : β → α → β) (Q : β → α → Prop) (l : List α)
    (mono : ∀ acc x y, Q acc y → Q (f acc x) y) (est : ∀ acc x, Q (f acc x) x) :
    ∀ init, ∀ x ∈ l, Q (l.foldl f init) x := by
  induction l with
  | nil => intro _ x hx; simp at hx
  | cons a t ih =>
    intro init x hx
    simp only [List.foldl_cons]
    rcases List.mem_cons.mp hx with rfl | hx
    · exact foldl_preserves f (fun acc => Q acc x) t (fun acc y _ h => mono acc y x h) _ (est init x)
    · exact ih _ x hx

/-- some group holds both hits -/
def Cov (gs : List (List FHit)) (a b : FHit) : Prop := ∃ g ∈ gs, a ∈ g ∧ b ∈ g

/-- every member of every group comes from `S` -/
def Within (S : List FHit) (gs : List (List FHit)) : Prop := ∀ g ∈ gs, ∀ x ∈ g, x ∈ S

theorem mem_unionNew {acc g : List FHit} {x : FHit} : x ∈ unionNew acc g ↔ x ∈ acc ∨ x ∈ g := by
  unfold unionNew
  induction g generalizing acc with
  | nil => simp
  | cons a t ih =>
    simp only [List.foldl_cons, ih, mem_addNew, List.mem_cons]
    exact or_assoc

theorem mem_foldl_unionNew {gs : List (List FHit)} {init : List FHit} {x : FHit} :
    x ∈ gs.foldl unionNew init ↔ x ∈ init ∨ ∃ g ∈ gs, x ∈ g := by
  induction gs generalizing init with
  | nil => simp
  | cons g t ih =>
    simp only [List.foldl_cons, ih, mem_unionNew, List.mem_cons, exists_eq_or_imp]
    exact or_assoc

/-- a pair that does not compete leaves the groups alone -/
theorem addPair_skip {gs : List (List FHit)} {a b : FHit} (h : competes a b = false) : addPair gs a b = gs := by
  have : (a.uid == b.uid || decide (overlapSize a b ≤ 20)) = true := by
    simp only [competes, overlaps20, Bool.and_eq_false_iff, bne_eq_false_iff_eq, decide_eq_false_iff_not] at h
    simp only [Bool.or_eq_true, beq_iff_eq, decide_eq_true_eq]
    rcases h with h | h
    · exact Or.inl h
    · exact Or.inr (by omega)
  simp [addPair, this]

/-- the pair is processed: different objects sharing more than 20 residues -/
theorem addPair_eq {gs : List (List FHit)} {a b : FHit} (h : competes a b = true) :
    addPair gs a b = gs.filter (fun g => !touches a b g) ++ [(gs.filter (touches a b)).foldl unionNew [a, b]] := by
  have : (a.uid == b.uid || decide (overlapSize a b ≤ 20)) = false := by
    simp only [competes, overlaps20, Bool.and_eq_true, bne_iff_ne, decide_eq_true_eq] at h
    simp only [Bool.or_eq_false_iff, beq_eq_false_iff_ne, decide_eq_false_iff_not]
    exact ⟨h.1, by omega⟩
  simp [addPair, this]

theorem mem_pairing {gs : List (List FHit)} {a b x : FHit} :
    x ∈ (gs.filter (touches a b)).foldl unionNew [a, b] ↔
      x = a ∨ x = b ∨ ∃ g ∈ gs, touches a b g = true ∧ x ∈ g := by
  rw [mem_foldl_unionNew]
  simp only [List.mem_cons, List.not_mem_nil, or_false, List.mem_filter, or_assoc, and_assoc]

theorem addPair_within (S : List FHit) (gs : List (List FHit)) (a b : FHit) (ha : a ∈ S) (hb : b ∈ S)
    (h : Within S gs) : Within S (addPair gs a b) := by
  cases hc : competes a b with
  | false => rw [addPair_skip hc]; exact h
  | true =>
    rw [addPair_eq hc]
    intro g hg x hx
    rcases List.mem_append.mp hg with hg | hg
    · exact h g (List.mem_filter.mp hg).1 x hx
    · simp only [List.mem_singleton] at hg
      subst hg
      rcases mem_pairing.mp hx with rfl | rfl | ⟨g', hg', _, hx'⟩
      · exact ha
      · exact hb
      · exact h g' hg' x hx'

theorem overlappingGroups_within (hits : List FHit) : Within hits (overlappingGroups hits) := by
  unfold overlappingGroups
  apply foldl_preserves _ (Within hits) hits _ [] (by intro g hg; simp at hg)
  intro acc a ha hacc
  apply foldl_preserves _ (Within hits) hits _ acc hacc
  intro acc' b hb hacc'
  exact addPair_within hits acc' a b ha hb hacc'

/-- equivalence closure of an edge relation -/
inductive Eqv (E : FHit → FHit → Prop) : FHit → FHit → Prop
  | refl (x : FHit) : Eqv E x x
  | edge {x y : FHit} : E x y → Eqv E x y
  | symm {x y : FHit} : Eqv E x y → Eqv E y x
  | trans {x y z : FHit} : Eqv E x y → Eqv E y z → Eqv E x z

theorem Eqv.mono {E E' : FHit → FHit → Prop} (h : ∀ x y, E x y → E' x y) {x y : FHit} (e : Eqv E x y) : Eqv E' x y := by
  induction e with
  | refl x => exact Eqv.refl x
  | edge hxy => exact Eqv.edge (h _ _ hxy)
  | symm _ ih => exact Eqv.symm ih
  | trans _ _ ih1 ih2 => exact Eqv.trans ih1 ih2

/-- no hit is in two groups -/
def Disj (g1 g2 : List FHit) : Prop := ∀ x ∈ g1, x ∉ g2

/-- invariant of the pair loop: the groups partition the hits touched so far into the classes
    of the edges `E` processed so far -/
structure GInv (E : FHit → FHit → Prop) (gs : List (List FHit)) : Prop where
  disj : gs.Pairwise Disj
  sound : ∀ g ∈ gs, ∀ x ∈ g, ∀ y ∈ g, Eqv E x y
  complete : ∀ a b, E a b → ∃ g ∈ gs, a ∈ g ∧ b ∈ g

theorem GInv.same_group {E : FHit → FHit → Prop} {gs : List (List FHit)} (inv : GInv E gs) {g g' : List FHit}
    (hg : g ∈ gs) (hg' : g' ∈ gs) {y : FHit} (hy : y ∈ g) (hy' : y ∈ g') : g = g' := by
  rcases pairwise_mem inv.disj g hg g' hg' with h | h | h
  · exact h
  · exact absurd hy' (h y hy)
  · exact absurd hy (h y hy')

/-- linked hits are equal or share a group -/
theorem GInv.of_eqv {E : FHit → FHit → Prop} {gs : List (List FHit)} (inv : GInv E gs) {x y : FHit}
    (e : Eqv E x y) : x = y ∨ ∃ g ∈ gs, x ∈ g ∧ y ∈ g := by
  induction e with
  | refl x => exact Or.inl rfl
  | edge h => exact Or.inr (inv.complete _ _ h)
  | symm _ ih =>
    rcases ih with h | ⟨g, hg, hx, hy⟩
    · exact Or.inl h.symm
    · exact Or.inr ⟨g, hg, hy, hx⟩
  | trans _ _ ih1 ih2 =>
    rcases ih1 with rfl | ⟨g, hg, hx, hy⟩
    · exact ih2
    · rcases ih2 with rfl | ⟨g', hg', hy', hz⟩
      · exact Or.inr ⟨g, hg, hx, hy⟩
      · have := inv.same_group hg hg' hy hy'
        subst this
        exact Or.inr ⟨g, hg, hx, hz⟩

theorem GInv.congr {E E' : FHit → FHit → Prop} {gs : List (List FHit)} (inv : GInv E gs)
    (h : ∀ x y, E x y ↔ E' x y) : GInv E' gs :=
  ⟨inv.disj, fun g hg x hx y hy => (inv.sound g hg x hx y hy).mono (fun a b => (h a b).mp),
   fun a b hab => inv.complete a b ((h a b).mpr hab)⟩

theorem touches_iff {a b : FHit} {g : List FHit} : touches a b g = true ↔ a ∈ g ∨ b ∈ g := by
  simp [touches]

/-- processing one competing pair keeps the invariant, for the edges plus that pair -/
theorem GInv.step {E : FHit → FHit → Prop} {gs : List (List FHit)} (inv : GInv E gs) (a b : FHit)
    (hc : competes a b = true) : GInv (fun x y => E x y ∨ (x = a ∧ y = b)) (addPair gs a b) := by
  rw [addPair_eq hc]
  have hsep : ∀ g ∈ gs.filter (fun g => !touches a b g), g ∈ gs ∧ a ∉ g ∧ b ∉ g := by
    intro g hg
    have := List.mem_filter.mp hg
    have ht : ¬ (a ∈ g ∨ b ∈ g) := by
      rw [← touches_iff]; simpa using this.2
    exact ⟨this.1, fun h => ht (Or.inl h), fun h => ht (Or.inr h)⟩
  -- every member of the united group is linked to `a`
  have toA : ∀ x ∈ (gs.filter (touches a b)).foldl unionNew [a, b],
      Eqv (fun x y => E x y ∨ (x = a ∧ y = b)) x a := by
    intro x hx
    have hab : Eqv (fun x y => E x y ∨ (x = a ∧ y = b)) a b := Eqv.edge (Or.inr ⟨rfl, rfl⟩)
    rcases mem_pairing.mp hx with rfl | rfl | ⟨g, hg, ht, hxg⟩
    · exact Eqv.refl _
    · exact Eqv.symm hab
    · rcases touches_iff.mp ht with h | h
      · exact (inv.sound g hg x hxg a h).mono (fun _ _ => Or.inl)
      · exact Eqv.trans ((inv.sound g hg x hxg b h).mono (fun _ _ => Or.inl)) (Eqv.symm hab)
  refine ⟨?_, ?_, ?_⟩
  · rw [List.pairwise_append]
    refine ⟨inv.disj.sublist List.filter_sublist, by simp, ?_⟩
    intro g hg p hp
    simp only [List.mem_singleton] at hp
    subst hp
    obtain ⟨hgs, ha, hb⟩ := hsep g hg
    intro x hx hxp
    rcases mem_pairing.mp hxp with rfl | rfl | ⟨g', hg', ht, hxg'⟩
    · exact ha hx
    · exact hb hx
    · have := inv.same_group hgs hg' hx hxg'
      subst this
      rcases touches_iff.mp ht with h | h
      · exact ha h
      · exact hb h
  · intro g hg x hx y hy
    rcases List.mem_append.mp hg with hg | hg
    · exact (inv.sound g (hsep g hg).1 x hx y hy).mono (fun _ _ => Or.inl)
    · simp only [List.mem_singleton] at hg
      subst hg
      exact Eqv.trans (toA x hx) (Eqv.symm (toA y hy))
  · intro x y hxy
    rcases hxy with hxy | ⟨rfl, rfl⟩
    · obtain ⟨g, hg, hx, hy⟩ := inv.complete x y hxy
      by_cases ht : touches a b g = true
      · exact ⟨_, List.mem_append_right _ (List.mem_singleton.mpr rfl),
          mem_pairing.mpr (Or.inr (Or.inr ⟨g, hg, ht, hx⟩)), mem_pairing.mpr (Or.inr (Or.inr ⟨g, hg, ht, hy⟩))⟩
      · exact ⟨g, List.mem_append_left _ (List.mem_filter.mpr ⟨hg, by simpa using ht⟩), hx, hy⟩
    · exact ⟨_, List.mem_append_right _ (List.mem_singleton.mpr rfl), mem_pairing.mpr (Or.inl rfl),
        mem_pairing.mpr (Or.inr (Or.inl rfl))⟩

/-- the edges of the whole gene: competing pairs of its hits -/
def GeneEdge (hits : List FHit) (x y : FHit) : Prop := x ∈ hits ∧ y ∈ hits ∧ competes x y = true

theorem foldl_pairs_inv : ∀ (ps done : List (FHit × FHit)) (gs : List (List FHit)),
    GInv (fun x y => (x, y) ∈ done ∧ competes x y = true) gs →
    GInv (fun x y => (x, y) ∈ done ++ ps ∧ competes x y = true) (ps.foldl (fun gs p => addPair gs p.1 p.2) gs)
  | [], done, gs, inv => by simpa using inv
  | p :: ps, done, gs, inv => by
    simp only [List.foldl_cons]
    have e : done ++ p :: ps = (done ++ [p]) ++ ps := by simp
    rw [e]
    apply foldl_pairs_inv ps (done ++ [p])
    cases hc : competes p.1 p.2 with
    | false =>
      rw [addPair_skip hc]
      refine inv.congr ?_
      intro x y
      simp only [List.mem_append, List.mem_singleton]
      constructor
      · rintro ⟨h, hxy⟩; exact ⟨Or.inl h, hxy⟩
      · rintro ⟨h | h, hxy⟩
        · exact ⟨h, hxy⟩
        · rw [← h] at hc; simp only at hc; rw [hc] at hxy; exact absurd hxy (by simp)
    | true =>
      refine (inv.step p.1 p.2 hc).congr ?_
      intro x y
      simp only [List.mem_append, List.mem_singleton]
      constructor
      · rintro (⟨h, hxy⟩ | ⟨rfl, rfl⟩)
        · exact ⟨Or.inl h, hxy⟩
        · exact ⟨Or.inr rfl, hc⟩
      · rintro ⟨h | h, hxy⟩
        · exact Or.inl ⟨h, hxy⟩
        · right; rw [← h]; exact ⟨rfl, rfl⟩

theorem overlappingGroups_eq_foldl (hits : List FHit) :
    overlappingGroups hits =
      (hits.flatMap fun a => hits.map fun b => (a, b)).foldl (fun gs p => addPair gs p.1 p.2) [] := by
  unfold overlappingGroups
  rw [List.foldl_flatMap]
  congr 1
  funext gs a
  rw [List.foldl_map]

/-- the groups of a gene are exactly the classes of its competition graph -/
theorem overlappingGroups_inv (hits : List FHit) : GInv (GeneEdge hits) (overlappingGroups hits) := by
  rw [overlappingGroups_eq_foldl]
  have := foldl_pairs_inv (hits.flatMap fun a => hits.map fun b => (a, b)) [] []
    ⟨List.Pairwise.nil, by intro g hg; simp at hg, by intro a b h; simp at h⟩
  refine this.congr ?_
  intro x y
  simp only [List.nil_append, List.mem_flatMap, List.mem_map, Prod.mk.injEq, GeneEdge]
  constructor
  · rintro ⟨⟨a, ha, b, hb, rfl, rfl⟩, hc⟩; exact ⟨ha, hb, hc⟩
  · rintro ⟨hx, hy, hc⟩; exact ⟨⟨x, hx, y, hy, rfl, rfl⟩, hc⟩

theorem overlappingGroups_covers (hits : List FHit) : ∀ a ∈ hits, ∀ b ∈ hits,
    a.uid ≠ b.uid → 20 < overlapSize a b → Cov (overlappingGroups hits) a b := by
  intro a ha b hb hu ho
  apply (overlappingGroups_inv hits).complete a b
  exact ⟨ha, hb, by simp [competes, overlaps20, hu, ho]⟩

theorem overlapSize_comm (a b : FHit) : overlapSize a b = overlapSize b a := by
  simp only [overlapSize, Int.min_comm, Int.max_comm]

theorem competes_symm {a b : FHit} (h : competes a b = true) : competes b a = true := by
  simp only [competes, overlaps20, Bool.and_eq_true, bne_iff_ne, decide_eq_true_eq] at h ⊢
  rw [overlapSize_comm b a]
  exact ⟨fun e => h.1 e.symm, h.2⟩

theorem Linked.trans {hits : List FHit} {x y z : FHit} (h1 : Linked hits x y) (h2 : Linked hits y z) : Linked hits x z := by
  induction h1 with
  | refl _ => exact h2
  | step ha hb hc _ ih => exact Linked.step ha hb hc (ih h2)

theorem Linked.symm {hits : List FHit} {x y : FHit} (h : Linked hits x y) : Linked hits y x := by
  induction h with
  | refl _ => exact Linked.refl _
  | step ha hb hc _ ih => exact ih.trans (Linked.step hb ha (competes_symm hc) (Linked.refl _))

theorem linked_iff_eqv {hits : List FHit} {x y : FHit} : Linked hits x y ↔ Eqv (GeneEdge hits) x y := by
  constructor
  · intro h
    induction h with
    | refl _ => exact Eqv.refl _
    | step ha hb hc _ ih => exact Eqv.trans (Eqv.edge ⟨ha, hb, hc⟩) ih
  · intro h
    induction h with
    | refl _ => exact Linked.refl _
    | edge h => exact Linked.step h.1 h.2.1 h.2.2 (Linked.refl _)
    | symm _ ih => exact ih.symm
    | trans _ _ ih1 ih2 => exact ih1.trans ih2

/-- `bestIn` is the first maximum: everything before it scores strictly less, nothing after it scores more -/
theorem bestIn_split : ∀ (b : FHit) (l : List FHit), ∃ l1 l2, b :: l = l1 ++ bestIn b l :: l2 ∧
    (∀ o ∈ l1, o.sc < (bestIn b l).sc) ∧ (∀ o ∈ l2, o.sc ≤ (bestIn b l).sc)
  | b, [] => ⟨[], [], rfl, fun _ h => absurd h List.not_mem_nil, fun _ h => absurd h List.not_mem_nil⟩
  | b, h :: t => by
    simp only [bestIn]
    split
    · rename_i hgt
      obtain ⟨l1, l2, e, h1, h2⟩ := bestIn_split h t
      refine ⟨b :: l1, l2, by rw [e]; rfl, ?_, h2⟩
      -- `h` heads `l1` or is the best itself
      have hh : h.sc ≤ (bestIn h t).sc := by
        cases l1 with
        | nil => rw [← (List.cons.inj e).1]; exact Int.le_refl _
        | cons x l1' =>
          obtain ⟨rfl, -⟩ := List.cons.inj e
          exact Int.le_of_lt (h1 h List.mem_cons_self)
      intro o ho
      rcases List.mem_cons.mp ho with rfl | ho
      · exact Int.lt_of_lt_of_le hgt hh
      · exact h1 o ho
    · rename_i hle
      obtain ⟨l1, l2, e, h1, h2⟩ := bestIn_split b t
      cases l1 with
      | nil =>
        obtain ⟨e1, e2⟩ := List.cons.inj e
        refine ⟨[], h :: l2, by rw [← e1, ← e2]; rfl, fun _ h => absurd h List.not_mem_nil, ?_⟩
        intro o ho
        rcases List.mem_cons.mp ho with rfl | ho
        · rw [← e1]; exact Int.not_lt.mp hle
        · exact h2 o ho
      | cons x l1' =>
        obtain ⟨rfl, e2⟩ := List.cons.inj e
        refine ⟨b :: h :: l1', l2, congrArg (fun z => b :: h :: z) e2, ?_, h2⟩
        intro o ho
        have hb := h1 b List.mem_cons_self
        rcases List.mem_cons.mp ho with rfl | ho
        · exact hb
        · rcases List.mem_cons.mp ho with rfl | ho
          · exact Int.lt_of_le_of_lt (Int.not_lt.mp hle) hb
          · exact h1 o (List.mem_cons_of_mem _ ho)

theorem bestIn_mem (b : FHit) (l : List FHit) : bestIn b l ∈ b :: l := by
  obtain ⟨l1, l2, e, _⟩ := bestIn_split b l
  rw [e]
  exact List.mem_append_right l1 List.mem_cons_self

theorem bestIn_max (b : FHit) (l : List FHit) (o : FHit) (ho : o ∈ b :: l) : o.sc ≤ (bestIn b l).sc := by
  obtain ⟨l1, l2, e, h1, h2⟩ := bestIn_split b l
  rw [e] at ho
  rcases List.mem_append.mp ho with h | h
  · exact Int.le_of_lt (h1 o h)
  · rcases List.mem_cons.mp h with rfl | h
    · exact Int.le_refl _
    · exact h2 o h

theorem bestIn_strict_max (t b : FHit) (l : List FHit) (ht : t ∈ b :: l)
    (hmax : ∀ o ∈ b :: l, o ≠ t → o.sc < t.sc) : bestIn b l = t := by
  by_cases h : bestIn b l = t
  · exact h
  · have h1 := hmax _ (bestIn_mem b l) h
    have h2 := bestIn_max b l t ht
    omega

/-- in a duplicate-free list, what stands before `x` (as a two-element sub-list) is in the prefix -/
theorem mem_prefix_of_pair_sublist {l1 l2 : List FHit} {o x : FHit} (hn : (l1 ++ x :: l2).Nodup)
    (hs : [o, x].Sublist (l1 ++ x :: l2)) : o ∈ l1 := by
  have hx1 : x ∉ l1 := by
    intro h
    have := List.nodup_append.mp hn
    exact this.2.2 x h x (by simp) rfl
  have hx2 : x ∉ l2 := by
    have := (List.nodup_append.mp hn).2.1
    exact (List.nodup_cons.mp this).1
  obtain ⟨s1, s2, e, hs1, hs2⟩ := List.sublist_append_iff.mp hs
  cases s1 with
  | nil =>
    simp only [List.nil_append] at e
    subst e
    exfalso
    cases hs2 with
    | cons _ h => exact hx2 (h.subset (by simp))
    | cons_cons _ h => exact hx2 (h.subset (by simp))
  | cons a s1' =>
    cases s1' with
    | nil =>
      simp only [List.cons_append, List.nil_append, List.cons.injEq] at e
      rw [e.1]; exact hs1.subset (by simp)
    | cons c s1'' =>
      simp only [List.cons_append, List.cons.injEq] at e
      exfalso
      apply hx1
      rw [e.2.1]
      exact hs1.subset (by simp)

theorem mem_removedBy {hits : List FHit} {groups : List (List FHit)} {u : Nat} :
    u ∈ removedBy hits groups ↔ ∃ g ∈ groups, ∃ best, groupBest (inHitOrder hits g) = some best ∧
      ∃ h ∈ inHitOrder hits g, h.uid ≠ best.uid ∧ h.uid = u := by
  simp only [removedBy, List.mem_flatMap]
  constructor
  · rintro ⟨g, hg, hu⟩
    split at hu
    · simp at hu
    · rename_i best hb
      simp only [List.mem_map, List.mem_filter, bne_iff_ne] at hu
      obtain ⟨h, ⟨hh, hne⟩, rfl⟩ := hu
      exact ⟨g, hg, best, hb, h, hh, hne, rfl⟩
  · rintro ⟨g, hg, best, hb, h, hh, hne, rfl⟩
    refine ⟨g, hg, ?_⟩
    rw [hb]
    simp only [List.mem_map, List.mem_filter, bne_iff_ne]
    exact ⟨h, ⟨hh, hne⟩, rfl⟩

theorem mem_inHitOrder {hits g : List FHit} {x : FHit} : x ∈ inHitOrder hits g ↔ x ∈ hits ∧ x ∈ g := by
  simp [inHitOrder, List.mem_filter]

/-- distinct objects -/
def UidInj (hits : List FHit) : Prop := ∀ a ∈ hits, ∀ b ∈ hits, a.uid = b.uid → a = b

theorem UidInj.sublist {l m : List FHit} (h : UidInj m) (s : l.Sublist m) : UidInj l :=
  fun a ha b hb e => h a (s.subset ha) b (s.subset hb) e

/-- … each listed once -/
def UidNodup (hits : List FHit) : Prop := (hits.map (·.uid)).Nodup

theorem UidNodup.nodup {hits : List FHit} (h : UidNodup hits) : hits.Nodup := by
  unfold UidNodup at h
  rw [List.Nodup, List.pairwise_map] at h
  exact h.imp (fun hne e => hne (by rw [e]))

theorem UidNodup.inj {hits : List FHit} (h : UidNodup hits) : UidInj hits :=
  inj_of_nodup_map _ h

theorem UidNodup.sublist {l m : List FHit} (h : UidNodup m) (s : l.Sublist m) : UidNodup l :=
  List.Nodup.sublist (s.map _) h

/-- the code's count (`len(hits & equivalence_group)`) -/
def presentCount (hits : List FHit) (eq : List Int) : Nat :=
  ((firstOcc (hits.map (·.prof))).filter (fun p => eq.contains p)).length

/-- the spec's count -/
def specCount (eq : List Int) (hits : List FHit) : Nat :=
  ((firstOcc eq).filter fun p => hits.any fun h => h.prof == p).length

theorem specCount_le_presentCount {out L : List FHit} (eq : List Int) (hsub : ∀ x ∈ out, x ∈ L) :
    specCount eq out ≤ presentCount L eq := by
  apply List.Nodup.length_le_of_subset ((firstOcc_nodup eq).sublist List.filter_sublist)
  intro p hp
  simp only [List.mem_filter, mem_firstOcc, List.any_eq_true, beq_iff_eq] at hp
  obtain ⟨hpe, h, hh, hhp⟩ := hp
  simp only [List.mem_filter, mem_firstOcc, List.mem_map, List.contains_eq_mem, decide_eq_true_eq]
  exact ⟨⟨h, hsub h hh, hhp⟩, hpe⟩

theorem presentCount_le_specCount (hits : List FHit) (eq : List Int) : presentCount hits eq ≤ specCount eq hits := by
  apply List.Nodup.length_le_of_subset ((firstOcc_nodup _).sublist List.filter_sublist)
  intro p hp
  simp only [List.mem_filter, mem_firstOcc, List.mem_map, List.contains_eq_mem, decide_eq_true_eq] at hp
  obtain ⟨⟨h, hh, hhp⟩, hpe⟩ := hp
  simp only [List.mem_filter, mem_firstOcc, List.any_eq_true, beq_iff_eq]
  exact ⟨hpe, h, hh, hhp⟩

theorem qualifies_iff (eq : List Int) (hits : List FHit) : qualifies eq hits = true ↔ 2 ≤ specCount eq hits := by
  simp [qualifies, specCount]

/-- a pass does nothing unless at least two profiles of the equivalence group hit the gene -/
theorem filterPass_of_lt {hits : List FHit} {eq : List Int} (h : presentCount hits eq < 2) : filterPass hits eq = hits := by
  unfold filterPass
  exact if_pos h

theorem filterPass_sublist (hits : List FHit) (eq : List Int) : (filterPass hits eq).Sublist hits := by
  simp only [filterPass]
  split
  · exact List.Sublist.refl _
  · exact List.filter_sublist

theorem mem_filterPass_ran {hits : List FHit} {eq : List Int}
    (hq : ¬ presentCount hits eq < 2) {h : FHit} :
    h ∈ filterPass hits eq ↔ h ∈ hits ∧ h.uid ∉ removedBy hits (overlappingGroups hits) := by
  have e : filterPass hits eq =
      hits.filter (fun h => !(removedBy hits (overlappingGroups hits)).contains h.uid) := by
    unfold filterPass
    exact if_neg hq
  simp [e, List.mem_filter]

theorem prefers_iff {hits : List FHit} {o h : FHit} :
    prefers hits o h = true ↔ h.sc < o.sc ∨ (o.sc = h.sc ∧ [o, h].Sublist hits) := by
  simp only [prefers, Bool.or_eq_true, decide_eq_true_eq, Bool.and_eq_true, beq_iff_eq, List.isSublist_iff_sublist]

theorem prefers_false_iff {hits : List FHit} {o h : FHit} :
    prefers hits o h = false ↔ ¬ h.sc < o.sc ∧ (o.sc ≠ h.sc ∨ ¬ [o, h].Sublist hits) := by
  rw [← Bool.not_eq_true, prefers_iff, not_or, Classical.not_and_iff_not_or_not]

/-- to the first of the best-scoring hits of the gene no hit is preferred -/
theorem prefers_false_of_first_best {hits : List FHit} (hn : hits.Nodup) {t : FHit} {l1 l2 : List FHit}
    (e : hits = l1 ++ t :: l2) (h1 : ∀ o ∈ l1, o.sc < t.sc) (h2 : ∀ o ∈ l2, o.sc ≤ t.sc) :
    ∀ o ∈ hits, prefers hits o t = false := by
  intro o ho
  rw [prefers_false_iff]
  have hsc : o.sc ≤ t.sc := by
    rw [e] at ho
    rcases List.mem_append.mp ho with h | h
    · have := h1 o h; omega
    · rcases List.mem_cons.mp h with rfl | h
      · omega
      · exact h2 o h
  refine ⟨by omega, ?_⟩
  by_cases hs : o.sc = t.sc
  · right
    intro hsub
    rw [e] at hsub hn
    have := h1 o (mem_prefix_of_pair_sublist hn hsub)
    omega
  · exact Or.inl hs

/-- of two different hits of a duplicate-free list one is preferred to the other -/
theorem prefers_total {hits : List FHit} (hn : hits.Nodup) {a b : FHit} (ha : a ∈ hits) (hb : b ∈ hits) (hne : a ≠ b) :
    prefers hits a b = true ∨ prefers hits b a = true := by
  simp only [prefers_iff]
  rcases Int.lt_trichotomy a.sc b.sc with h | h | h
  · exact Or.inr (Or.inl h)
  · obtain ⟨s, t, e⟩ := List.append_of_mem ha
    rw [e] at hb
    rcases List.mem_append.mp hb with hb | hb
    · right; right
      exact ⟨h.symm, e ▸ (List.singleton_sublist.mpr hb).append (List.singleton_sublist.mpr List.mem_cons_self)⟩
    · rcases List.mem_cons.mp hb with rfl | hb
      · exact absurd rfl hne
      · left; right
        exact ⟨h, e ▸ ((List.singleton_sublist.mpr hb).cons_cons a).trans (List.sublist_append_right _ _)⟩
  · exact Or.inl (Or.inl h)

/-- the winner of a group: a member to which no member is preferred -/
theorem groupBest_unbeaten {hits g : List FHit} (hn : hits.Nodup) {b : FHit}
    (h : groupBest (inHitOrder hits g) = some b) :
    b ∈ inHitOrder hits g ∧ ∀ o ∈ hits, o ∈ g → prefers hits o b = false := by
  cases hL : inHitOrder hits g with
  | nil => rw [hL] at h; cases h
  | cons b0 l =>
    rw [hL] at h
    obtain rfl : bestIn b0 l = b := Option.some.inj h
    obtain ⟨l1, l2, e, h1, h2⟩ := bestIn_split b0 l
    have hbL : bestIn b0 l ∈ inHitOrder hits g := hL ▸ bestIn_mem b0 l
    refine ⟨hL ▸ bestIn_mem b0 l, fun o ho hog => ?_⟩
    have hnd : (inHitOrder hits g).Nodup := hn.sublist List.filter_sublist
    have := prefers_false_of_first_best hnd (hL.trans e) h1 h2 o (mem_inHitOrder.mpr ⟨ho, hog⟩)
    -- a preference in the gene's list is one in the group's list: both hits are members
    cases hp : prefers hits o (bestIn b0 l) with
    | false => rfl
    | true =>
      rw [prefers_iff] at hp
      rw [prefers_false_iff] at this
      rcases hp with hp | ⟨hsc, hsub⟩
      · exact absurd hp this.1
      · have hsub' : [o, bestIn b0 l].Sublist (inHitOrder hits g) := by
          have := hsub.filter (fun x => g.contains x)
          simpa [inHitOrder, hog, (mem_inHitOrder.mp hbL).2] using this
        exact absurd hsub' (this.2.resolve_left (fun h => h hsc))

/-- **what one competition keeps**: a hit survives exactly when no hit of its overlapping group
    (`Linked`) is preferred to it (`prefers`: higher score, or equal score and earlier in the list) -/
theorem filterPass_mem_iff (hits : List FHit) (eq : List Int) (hu : UidNodup hits)
    (hq : ¬ presentCount hits eq < 2) (h : FHit) :
    h ∈ filterPass hits eq ↔ h ∈ hits ∧ ∀ o ∈ hits, Linked hits h o → prefers hits o h = false := by
  have inv := overlappingGroups_inv hits
  rw [mem_filterPass_ran hq]
  refine and_congr_right fun hh => ?_
  constructor
  · intro hnr o ho hl
    rcases inv.of_eqv (linked_iff_eqv.mp hl) with rfl | ⟨g, hg, hhg, hog⟩
    · cases hp : prefers hits h h with
      | false => rfl
      | true =>
        rcases prefers_iff.mp hp with hp | ⟨_, hp⟩
        · omega
        · simpa using hu.nodup.sublist hp
    · -- `h` was not removed, so it is the winner of its group
      cases hb : groupBest (inHitOrder hits g) with
      | none =>
        have : h ∈ inHitOrder hits g := mem_inHitOrder.mpr ⟨hh, hhg⟩
        cases hL : inHitOrder hits g with
        | nil => rw [hL] at this; cases this
        | cons x l => rw [hL] at hb; cases hb
      | some best =>
        obtain ⟨hbL, hbest⟩ := groupBest_unbeaten hu.nodup hb
        have : h = best := by
          by_cases e : h.uid = best.uid
          · exact hu.inj h hh _ (mem_inHitOrder.mp hbL).1 e
          · exact absurd (mem_removedBy.mpr ⟨g, hg, _, hb, h, mem_inHitOrder.mpr ⟨hh, hhg⟩, e, rfl⟩) hnr
        exact this ▸ hbest o ho hog
  · intro hall hrem
    obtain ⟨g, hg, best, hb, h', hh', hne, he⟩ := mem_removedBy.mp hrem
    obtain ⟨hh'1, hh'2⟩ := mem_inHitOrder.mp hh'
    obtain rfl : h' = h := hu.inj h' hh'1 h hh he
    obtain ⟨hbL, hbest⟩ := groupBest_unbeaten hu.nodup hb
    obtain ⟨hb1, hb2⟩ := mem_inHitOrder.mp hbL
    -- neither is preferred to the other, so they are the same hit
    have h1 := hall best hb1 (linked_iff_eqv.mpr (inv.sound g hg h' hh'2 best hb2))
    have h2 := hbest h' hh hh'2
    rcases prefers_total hu.nodup hb1 hh (fun e => hne (by rw [e])) with hp | hp
    · rw [h1] at hp; cases hp
    · rw [h2] at hp; cases hp

/-- after a pass that ran, no two different survivors overlap by more than 20 -/
theorem filterPass_separated (hits : List FHit) (eq : List Int) (hu : UidInj hits)
    (hq : ¬ presentCount hits eq < 2) :
    ∀ a ∈ filterPass hits eq, ∀ b ∈ filterPass hits eq, a ≠ b → overlaps20 a b = false := by
  intro a ha b hb hne
  rw [mem_filterPass_ran hq] at ha hb
  have huid : a.uid ≠ b.uid := fun e => hne (hu a ha.1 b hb.1 e)
  cases hov : overlaps20 a b with
  | false => rfl
  | true =>
    exfalso
    simp only [overlaps20, decide_eq_true_eq] at hov
    obtain ⟨g, hg, hag, hbg⟩ := overlappingGroups_covers hits a ha.1 b hb.1 huid hov
    have haL : a ∈ inHitOrder hits g := mem_inHitOrder.mpr ⟨ha.1, hag⟩
    have hbL : b ∈ inHitOrder hits g := mem_inHitOrder.mpr ⟨hb.1, hbg⟩
    cases hgb : groupBest (inHitOrder hits g) with
    | none =>
      cases hL : inHitOrder hits g with
      | nil => rw [hL] at haL; simp at haL
      | cons x l => rw [hL] at hgb; simp [groupBest] at hgb
    | some best =>
      by_cases h1 : a.uid = best.uid
      · have : b.uid ≠ best.uid := fun e => huid (h1.trans e.symm)
        exact hb.2 (mem_removedBy.mpr ⟨g, hg, best, hgb, b, hbL, this, rfl⟩)
      · exact ha.2 (mem_removedBy.mpr ⟨g, hg, best, hgb, a, haL, h1, rfl⟩)

theorem split_of_strict_max {hits : List FHit} (hn : hits.Nodup) {t : FHit} (ht : t ∈ hits)
    (hmax : ∀ o ∈ hits, o ≠ t → o.sc < t.sc) :
    ∃ l1 l2, hits = l1 ++ t :: l2 ∧ (∀ o ∈ l1, o.sc < t.sc) ∧ (∀ o ∈ l2, o.sc ≤ t.sc) := by
  obtain ⟨l1, l2, e⟩ := List.append_of_mem ht
  rw [e] at hn
  have hx1 : t ∉ l1 := fun h => (List.nodup_append.mp hn).2.2 t h t List.mem_cons_self rfl
  have hx2 : t ∉ l2 := (List.nodup_cons.mp (List.nodup_append.mp hn).2.1).1
  refine ⟨l1, l2, e, ?_, ?_⟩
  · intro o ho
    exact hmax o (e ▸ List.mem_append_left _ ho) (fun h => hx1 (h ▸ ho))
  · intro o ho
    exact Int.le_of_lt (hmax o (e ▸ List.mem_append_right _ (List.mem_cons_of_mem _ ho)) (fun h => hx2 (h ▸ ho)))

theorem foldl_filterPass_sublist : ∀ (eqs : List (List Int)) (hits : List FHit),
    (eqs.foldl filterPass hits).Sublist hits
  | [], hits => by simp
  | g :: eqs, hits => by
    simp only [List.foldl_cons]
    exact (foldl_filterPass_sublist eqs _).trans (filterPass_sublist hits g)

theorem foldl_filterPass_separated : ∀ (eqs : List (List Int)) (hits : List FHit), UidInj hits →
    ∀ g ∈ eqs, qualifies g (eqs.foldl filterPass hits) = true →
    ∀ a ∈ eqs.foldl filterPass hits, ∀ b ∈ eqs.foldl filterPass hits, a ≠ b → overlaps20 a b = false
  | [], hits, _, g, hg, _ => by simp at hg
  | g0 :: eqs, hits, hu, g, hg, hq => by
    simp only [List.foldl_cons] at hq ⊢
    have hs0 := filterPass_sublist hits g0
    rcases List.mem_cons.mp hg with rfl | hg'
    · -- the pass of `g` itself ran on `hits` and separated its survivors; later passes only remove
      have hsub := foldl_filterPass_sublist eqs (filterPass hits g)
      have hcount : ¬ presentCount hits g < 2 := by
        have h1 := (qualifies_iff g _).mp hq
        have h2 := specCount_le_presentCount g (out := eqs.foldl filterPass (filterPass hits g)) (L := hits)
          (fun x hx => hs0.subset (hsub.subset hx))
        omega
      intro a ha b hb hne
      exact filterPass_separated hits g hu hcount a (hsub.subset ha) b (hsub.subset hb) hne
    · exact foldl_filterPass_separated eqs _ (hu.sublist hs0) g hg' hq

theorem foldl_filterPass_untouched : ∀ (eqs : List (List Int)) (hits : List FHit),
    (∀ g ∈ eqs, qualifies g hits = false) → eqs.foldl filterPass hits = hits
  | [], hits, _ => by simp
  | g :: eqs, hits, hq => by
    simp only [List.foldl_cons]
    have hg : filterPass hits g = hits := by
      have h1 : ¬ 2 ≤ specCount g hits := by
        rw [← qualifies_iff]; simp [hq g (by simp)]
      have h2 := presentCount_le_specCount hits g
      exact filterPass_of_lt (by omega)
    rw [hg]
    exact foldl_filterPass_untouched eqs hits (fun g' hg' => hq g' (List.mem_cons_of_mem _ hg'))

theorem Linked.of_subset {l₁ l₂ : List FHit} (h : ∀ x ∈ l₁, x ∈ l₂) {x y : FHit} (hl : Linked l₁ x y) : Linked l₂ x y := by
  induction hl with
  | refl _ => exact Linked.refl _
  | step ha hb hc _ ih => exact Linked.step (h _ ha) (h _ hb) hc ih

theorem prefers_mono {l' l : List FHit} (hs : l'.Sublist l) {o h : FHit} (hp : prefers l' o h = true) :
    prefers l o h = true := by
  rw [prefers_iff] at hp ⊢
  exact hp.imp_right (And.imp_right fun h => h.trans hs)

/-- **who survives all competitions**: a hit to which no hit of its overlapping group is preferred.  Later passes see
    fewer hits, hence fewer links and fewer preferences, so the condition on the gene's list carries through. -/
theorem foldl_filterPass_keeps : ∀ (eqs : List (List Int)) (hits : List FHit), UidNodup hits → ∀ t ∈ hits,
    (∀ o ∈ hits, Linked hits t o → prefers hits o t = false) → t ∈ eqs.foldl filterPass hits
  | [], _, _, _, ht, _ => ht
  | g :: eqs, hits, hu, t, ht, hall => by
    simp only [List.foldl_cons]
    have hs := filterPass_sublist hits g
    refine foldl_filterPass_keeps eqs _ (hu.sublist hs) t ?_ ?_
    · by_cases hq : presentCount hits g < 2
      · rw [filterPass_of_lt hq]; exact ht
      · exact (filterPass_mem_iff hits g hu hq t).mpr ⟨ht, hall⟩
    · intro o ho hl
      have := hall o (hs.subset ho) (hl.of_subset fun _ hx => hs.subset hx)
      cases hp : prefers (filterPass hits g) o t with
      | false => rfl
      | true => rw [prefers_mono hs hp] at this; cases this

theorem foldl_filterPass_keeps_first_best (eqs : List (List Int)) (hits : List FHit) (hu : UidNodup hits)
    (t : FHit) (l1 l2 : List FHit) (e : hits = l1 ++ t :: l2) (h1 : ∀ o ∈ l1, o.sc < t.sc) (h2 : ∀ o ∈ l2, o.sc ≤ t.sc) :
    t ∈ eqs.foldl filterPass hits :=
  foldl_filterPass_keeps eqs hits hu t (by rw [e]; simp)
    fun o ho _ => prefers_false_of_first_best hu.nodup e h1 h2 o ho

theorem foldl_filterPass_ne_nil (eqs : List (List Int)) (hits : List FHit) (hu : UidNodup hits) (hne : hits ≠ []) :
    eqs.foldl filterPass hits ≠ [] := by
  cases hits with
  | nil => exact absurd rfl hne
  | cons b l =>
    obtain ⟨l1, l2, e, h1, h2⟩ := bestIn_split b l
    have := foldl_filterPass_keeps_first_best eqs (b :: l) hu (bestIn b l) l1 l2 e h1 h2
    intro hnil
    rw [hnil] at this
    simp at this

/-- no two different hits of the gene have the same bitscore -/
def NoTies (hits : List FHit) : Prop := ∀ a ∈ hits, ∀ b ∈ hits, a.sc = b.sc → a = b

theorem prefers_of_noTies {hits : List FHit} (hn : NoTies hits) (hd : hits.Nodup) {o h : FHit}
    (ho : o ∈ hits) (hh : h ∈ hits) : prefers hits o h = decide (h.sc < o.sc) := by
  simp only [prefers]
  by_cases e : o.sc = h.sc
  · have : o = h := hn o ho h hh e
    subst this
    have : [o, o].isSublist hits = false := by
      rw [← Bool.not_eq_true, List.isSublist_iff_sublist]
      intro hs
      have := hd.sublist hs
      simp at this
    simp [this]
  · simp [e]

theorem presentCount_perm {l₁ l₂ : List FHit} (h : l₁.Perm l₂) (eq : List Int) : presentCount l₁ eq = presentCount l₂ eq := by
  have aux : ∀ {a b : List FHit}, (∀ x ∈ a, x ∈ b) → presentCount a eq ≤ presentCount b eq := by
    intro a b hab
    apply List.Nodup.length_le_of_subset ((firstOcc_nodup _).sublist List.filter_sublist)
    intro p hp
    simp only [List.mem_filter, mem_firstOcc, List.mem_map] at hp ⊢
    obtain ⟨⟨x, hx, hxp⟩, hpe⟩ := hp
    exact ⟨⟨x, hab x hx, hxp⟩, hpe⟩
  exact Nat.le_antisymm (aux fun x hx => h.mem_iff.mp hx) (aux fun x hx => h.mem_iff.mpr hx)

theorem filterPass_perm {l₁ l₂ : List FHit} (h : l₁.Perm l₂) (hu : UidNodup l₁) (hn : NoTies l₁) (eq : List Int) :
    (filterPass l₁ eq).Perm (filterPass l₂ eq) := by
  have hu2 : UidNodup l₂ := (h.map _).nodup_iff.mp hu
  have hn2 : NoTies l₂ := fun a ha b hb => hn a (h.mem_iff.mpr ha) b (h.mem_iff.mpr hb)
  have hcount := presentCount_perm h eq
  by_cases hq : presentCount l₁ eq < 2
  · rw [filterPass_of_lt hq, filterPass_of_lt (hcount ▸ hq)]
    exact h
  · have hq2 : ¬ presentCount l₂ eq < 2 := hcount ▸ hq
    rw [List.perm_ext_iff_of_nodup (hu.nodup.sublist (filterPass_sublist l₁ eq))
      (hu2.nodup.sublist (filterPass_sublist l₂ eq))]
    intro x
    rw [filterPass_mem_iff l₁ eq hu hq, filterPass_mem_iff l₂ eq hu2 hq2]
    constructor
    · rintro ⟨hx, hall⟩
      refine ⟨h.mem_iff.mp hx, ?_⟩
      intro o ho hl
      have ho1 := h.mem_iff.mpr ho
      have := hall o ho1 (hl.of_subset fun y hy => h.mem_iff.mpr hy)
      rw [prefers_of_noTies hn hu.nodup ho1 hx] at this
      rw [prefers_of_noTies hn2 hu2.nodup ho (h.mem_iff.mp hx)]
      exact this
    · rintro ⟨hx, hall⟩
      refine ⟨h.mem_iff.mpr hx, ?_⟩
      intro o ho hl
      have ho2 := h.mem_iff.mp ho
      have := hall o ho2 (hl.of_subset fun y hy => h.mem_iff.mp hy)
      rw [prefers_of_noTies hn2 hu2.nodup ho2 hx] at this
      rw [prefers_of_noTies hn hu.nodup ho (h.mem_iff.mpr hx)]
      exact this

theorem NoTies.sublist {l m : List FHit} (h : NoTies m) (s : l.Sublist m) : NoTies l :=
  fun a ha b hb => h a (s.subset ha) b (s.subset hb)

theorem foldl_filterPass_perm : ∀ (eqs : List (List Int)) {l₁ l₂ : List FHit}, l₁.Perm l₂ → UidNodup l₁ → NoTies l₁ →
    (eqs.foldl filterPass l₁).Perm (eqs.foldl filterPass l₂)
  | [], _, _, h, _, _ => by simpa using h
  | g :: eqs, l₁, l₂, h, hu, hn => by
    simp only [List.foldl_cons]
    exact foldl_filterPass_perm eqs (filterPass_perm h hu hn g)
      (hu.sublist (filterPass_sublist l₁ g)) (hn.sublist (filterPass_sublist l₁ g))

/-- when `filter_results` answers, the answer is the result of the passes -/
theorem filterResults_some {eqs : List (List Int)} {hits out : List FHit} (h : filterResults eqs hits = some out) :
    out = eqs.foldl filterPass hits := by
  simp only [filterResults] at h
  split at h
  · cases h
  · exact (Option.some.inj h).symm

theorem filterResults_eq_some (eqs : List (List Int)) (hits : List FHit) (hu : UidNodup hits) :
    filterResults eqs hits = some (eqs.foldl filterPass hits) := by
  simp only [filterResults]
  cases hits with
  | nil => simp
  | cons b l =>
    have hne := foldl_filterPass_ne_nil eqs (b :: l) hu (by simp)
    have : (eqs.foldl filterPass (b :: l)).isEmpty = false := by
      cases hh : eqs.foldl filterPass (b :: l) with
      | nil => exact absurd hh hne
      | cons a t => rfl
    simp [this]

end ASV.HitFilter
