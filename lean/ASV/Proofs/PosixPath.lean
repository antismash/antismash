/-
  Lemmas about the `posixpath` model: when two absolute paths normalise to the same string, and what
  joining a plain name onto a directory does to the normalised components.
-/
import ASV.Model.PosixPath
namespace ASV.PosixPath

/-- a directory entry's name as `os.listdir` returns it -/
def Plain (n : Path) : Prop := n ≠ [] ∧ n ≠ dot ∧ n ≠ dotdot ∧ '/' ∉ n

/-- a component that `'/'.join` keeps recoverable: not empty, no slash -/
def Good (c : Path) : Prop := c ≠ [] ∧ '/' ∉ c

theorem splitSlash_ne_nil : ∀ p : Path, splitSlash p ≠ []
  | [] => by simp [splitSlash]
  | c :: cs => by
      unfold splitSlash
      split
      · simp
      · split <;> simp

theorem splitSlash_noSlash : ∀ (p : Path), ∀ c ∈ splitSlash p, '/' ∉ c
  | [] => by simp [splitSlash]
  | x :: xs => by
      have ih := splitSlash_noSlash xs
      unfold splitSlash
      by_cases hx : x = '/'
      · simp only [hx, if_true, List.mem_cons]
        rintro c (rfl | hc)
        · simp
        · exact ih c hc
      · simp only [hx, if_false]
        cases hs : splitSlash xs with
        | nil => exact absurd hs (splitSlash_ne_nil xs)
        | cons h t =>
          rw [hs] at ih
          simp only [List.mem_cons]
          rintro c (rfl | hc)
          · have := ih h (List.mem_cons_self ..)
            simp only [List.mem_cons, not_or]
            exact ⟨fun e => hx e.symm, this⟩
          · exact ih c (List.mem_cons_of_mem _ hc)

theorem splitSlash_single : ∀ (c : Path), '/' ∉ c → splitSlash c = [c]
  | [], _ => by simp [splitSlash]
  | x :: xs, h => by
      simp only [List.mem_cons, not_or] at h
      have hx : x ≠ '/' := fun e => h.1 e.symm
      rw [splitSlash]
      simp [hx, splitSlash_single xs h.2]

/-- `(a + '/' + b).split('/') == a.split('/') + b.split('/')` -/
theorem splitSlash_append : ∀ (a b : Path), splitSlash (a ++ '/' :: b) = splitSlash a ++ splitSlash b
  | [], b => by simp [splitSlash]
  | x :: xs, b => by
      have ih := splitSlash_append xs b
      simp only [List.cons_append]
      rw [splitSlash, splitSlash]
      by_cases hx : x = '/'
      · simp [hx, ih]
      · simp only [hx, if_false, ih]
        cases hs : splitSlash xs with
        | nil => exact absurd hs (splitSlash_ne_nil xs)
        | cons h t => simp

theorem splitSlash_joinSlash : ∀ (xs : List Path), xs ≠ [] → (∀ c ∈ xs, '/' ∉ c) →
    splitSlash (joinSlash xs) = xs
  | [], h, _ => absurd rfl h
  | [c], _, hc => by simpa [joinSlash] using splitSlash_single c (hc c (List.mem_cons_self ..))
  | c :: d :: cs, _, hc => by
      have ih := splitSlash_joinSlash (d :: cs) (by simp) fun x hx => hc x (List.mem_cons_of_mem _ hx)
      simp only [joinSlash]
      rw [splitSlash_append, splitSlash_single c (hc c (List.mem_cons_self ..)), ih]
      rfl

theorem joinSlash_head (xs : List Path) (h : ∀ c ∈ xs, Good c) : (joinSlash xs).head? ≠ some '/' := by
  match xs with
  | [] => simp [joinSlash]
  | [] :: _ => exact absurd rfl (h [] (List.mem_cons_self ..)).1
  | (x :: c) :: rest =>
    have hx : '/' ≠ x := fun e => (h _ (List.mem_cons_self ..)).2 (e ▸ List.mem_cons_self ..)
    cases rest <;> simpa [joinSlash] using hx.symm

theorem joinSlash_inj (xs ys : List Path) (hx : ∀ c ∈ xs, Good c) (hy : ∀ c ∈ ys, Good c)
    (h : joinSlash xs = joinSlash ys) : xs = ys := by
  have nonempty : ∀ zs : List Path, (∀ c ∈ zs, Good c) → joinSlash zs = [] → zs = [] := by
    intro zs hz hj
    match zs, hz, hj with
    | [], _, _ => rfl
    | [c], hz, hj => exact absurd (by simpa [joinSlash] using hj) (hz c (List.mem_cons_self ..)).1
    | c :: d :: cs, hz, hj =>
      have := (hz c (List.mem_cons_self ..)).1
      simp [joinSlash] at hj
  by_cases hxs : xs = []
  · subst hxs
    exact (nonempty ys hy (by simpa [joinSlash] using h.symm)).symm
  · by_cases hys : ys = []
    · subst hys
      exact nonempty xs hx (by simpa [joinSlash] using h)
    · rw [← splitSlash_joinSlash xs hxs fun c hc => (hx c hc).2,
          ← splitSlash_joinSlash ys hys fun c hc => (hy c hc).2, h]

theorem normStep_rooted_plain (acc : List Path) (comp : Path) (hacc : ∀ c ∈ acc, Plain c)
    (hcomp : '/' ∉ comp) : ∀ c ∈ normStep true acc comp, Plain c := by
  unfold normStep
  split
  · exact hacc
  · rename_i h1
    split
    · rename_i h2
      intro c hc
      rcases List.mem_cons.1 hc with rfl | hc
      · have hne : c ≠ [] ∧ c ≠ dot := by
          constructor <;> intro e <;> simp [e] at h1
        have hdd : c ≠ dotdot := by
          intro e
          subst e
          have : acc.head? = some dotdot := by simpa using h2
          cases acc with
          | nil => simp at this
          | cons a as =>
            have ha := hacc a (List.mem_cons_self ..)
            simp only [List.head?_cons, Option.some.injEq] at this
            exact ha.2.2.1 this
        exact ⟨hne.1, hne.2, hdd, hcomp⟩
      · exact hacc c hc
    · intro c hc
      exact hacc c (List.mem_of_mem_tail hc)

theorem foldl_normStep_rooted_plain : ∀ (comps : List Path) (acc : List Path),
    (∀ c ∈ acc, Plain c) → (∀ c ∈ comps, '/' ∉ c) → ∀ c ∈ comps.foldl (normStep true) acc, Plain c
  | [], acc, hacc, _ => hacc
  | x :: xs, acc, hacc, hc => by
      simp only [List.foldl_cons]
      exact foldl_normStep_rooted_plain xs _
        (normStep_rooted_plain acc x hacc (hc x (List.mem_cons_self ..)))
        fun c h => hc c (List.mem_cons_of_mem _ h)

/-- no `.`, no `..`, no empty component survives in an absolute path's normal form -/
theorem normComps_rooted_plain (p : Path) : ∀ c ∈ normComps true (splitSlash p), Plain c := by
  intro c hc
  simp only [normComps, List.mem_reverse] at hc
  exact foldl_normStep_rooted_plain _ [] (by simp) (splitSlash_noSlash p) c hc

theorem Plain.good {c : Path} (h : Plain c) : Good c := ⟨h.1, h.2.2.2⟩

theorem normComps_snoc_empty (rooted : Bool) (cs : List Path) :
    normComps rooted (cs ++ [[]]) = normComps rooted cs := by
  simp [normComps, List.foldl_append, normStep]

theorem normComps_snoc_plain (rooted : Bool) (cs : List Path) (n : Path) (hn : Plain n) :
    normComps rooted (cs ++ [n]) = normComps rooted cs ++ [n] := by
  obtain ⟨h1, h2, h3, _⟩ := hn
  simp [normComps, List.foldl_append, normStep, h1, h2, h3]

theorem slashes_cancel : ∀ (k k' : Nat) (b b' : Path), b.head? ≠ some '/' → b'.head? ≠ some '/' →
    List.replicate k '/' ++ b = List.replicate k' '/' ++ b' → k = k' ∧ b = b'
  | 0, 0, _, _, _, _, h => ⟨rfl, by simpa using h⟩
  | 0, k' + 1, b, _, hb, _, h => by
      simp only [List.replicate_zero, List.nil_append, List.replicate_succ, List.cons_append] at h
      exact absurd (by rw [h]; rfl) hb
  | k + 1, 0, _, b', _, hb', h => by
      simp only [List.replicate_zero, List.nil_append, List.replicate_succ, List.cons_append] at h
      exact absurd (by rw [← h]; rfl) hb'
  | k + 1, k' + 1, b, b', hb, hb', h => by
      simp only [List.replicate_succ, List.cons_append, List.cons.injEq, true_and] at h
      obtain ⟨h1, h2⟩ := slashes_cancel k k' b b' hb hb' h
      exact ⟨congrArg Nat.succ h1, h2⟩

/-! `leadSlashes` looks at the first three characters only; its equations, case by case -/

theorem leadSlashes_other (c : Char) (p : Path) (h : c ≠ '/') : leadSlashes (c :: p) = 0 := by
  simp [leadSlashes, h]

theorem leadSlashes_one_other (d : Char) (p : Path) (h : d ≠ '/') : leadSlashes ('/' :: d :: p) = 1 := by
  simp [leadSlashes, h]

theorem leadSlashes_two_other (e : Char) (p : Path) (h : e ≠ '/') : leadSlashes ('/' :: '/' :: e :: p) = 2 := by
  simp [leadSlashes, h]

theorem leadSlashes_pos (p : Path) (h : isabs p = true) : leadSlashes p ≠ 0 := by
  match p, h with
  | c :: q, h =>
    have : c = '/' := by simpa [isabs] using h
    subst this
    match q with
    | [] => exact Nat.succ_ne_zero 0
    | [d] =>
      by_cases hd : d = '/'
      · subst hd
        exact Nat.succ_ne_zero 1
      · rw [leadSlashes_one_other d [] hd]
        exact Nat.succ_ne_zero 0
    | d :: e :: q' =>
      by_cases hd : d = '/'
      · subst hd
        by_cases he : e = '/'
        · subst he
          exact Nat.succ_ne_zero 0
        · rw [leadSlashes_two_other e q' he]
          exact Nat.succ_ne_zero 1
      · rw [leadSlashes_one_other d _ hd]
        exact Nat.succ_ne_zero 0

theorem normpath_abs (p : Path) (h : isabs p = true) :
    normpath p = List.replicate (leadSlashes p) '/' ++ joinSlash (normComps true (splitSlash p)) := by
  have hk := leadSlashes_pos p h
  have hne : p ≠ [] := by intro e; simp [e, isabs] at h
  unfold normpath
  have h1 : p.isEmpty = false := by simpa using hne
  have h2 : (leadSlashes p != 0) = true := by simpa using hk
  simp only [h1, Bool.false_eq_true, if_false, h2]
  obtain ⟨k, hk'⟩ := Nat.exists_eq_succ_of_ne_zero hk
  simp [hk', List.replicate_succ]

/-- two absolute paths have the same `normpath` exactly when they have the same number of kept leading
    slashes and the same normalised components -/
theorem normpath_abs_eq_iff (p q : Path) (hp : isabs p = true) (hq : isabs q = true) :
    normpath p = normpath q ↔
      leadSlashes p = leadSlashes q ∧ normComps true (splitSlash p) = normComps true (splitSlash q) := by
  rw [normpath_abs p hp, normpath_abs q hq]
  constructor
  · intro h
    have gp := fun c hc => (normComps_rooted_plain p c hc).good
    have gq := fun c hc => (normComps_rooted_plain q c hc).good
    obtain ⟨h1, h2⟩ := slashes_cancel _ _ _ _ (joinSlash_head _ gp) (joinSlash_head _ gq) h
    exact ⟨h1, joinSlash_inj _ _ gp gq h2⟩
  · rintro ⟨h1, h2⟩
    rw [h1, h2]


theorem plain_head (n : Path) (hn : Plain n) : n.head? ≠ some '/' := by
  obtain ⟨h1, _, _, h4⟩ := hn
  cases n with
  | nil => exact absurd rfl h1
  | cons x xs =>
    simp only [List.mem_cons, not_or] at h4
    simpa using fun e : x = '/' => h4.1 e.symm

theorem join_plain (a n : Path) (ha : a ≠ []) (hn : Plain n) :
    join a n = if a.getLast? = some '/' then a ++ n else a ++ '/' :: n := by
  have h1 : (n.head? == some '/') = false := by simpa using plain_head n hn
  have h2 : a.isEmpty = false := by simpa using ha
  unfold join
  by_cases hl : a.getLast? = some '/' <;> simp [h1, h2, hl]

/-- the components of `join(a, n)` are those of `a` followed by `n` -/
theorem normComps_join_plain (rooted : Bool) (a n : Path) (ha : a ≠ []) (hn : Plain n) :
    normComps rooted (splitSlash (join a n)) = normComps rooted (splitSlash a) ++ [n] := by
  rw [join_plain a n ha hn]
  by_cases hl : a.getLast? = some '/'
  · simp only [hl, if_true]
    obtain ⟨a', rfl⟩ := List.getLast?_eq_some_iff.1 hl
    rw [List.append_assoc, List.singleton_append, splitSlash_append, splitSlash_single n hn.2.2.2,
      splitSlash_append a' [], normComps_snoc_plain rooted _ n hn]
    exact congrArg (· ++ [n]) (normComps_snoc_empty rooted _).symm
  · simp only [hl, if_false]
    rw [splitSlash_append, splitSlash_single n hn.2.2.2, normComps_snoc_plain rooted _ n hn]

theorem isabs_join_plain (a n : Path) (ha : isabs a = true) (hn : Plain n) : isabs (join a n) = true := by
  have hne : a ≠ [] := by intro e; simp [e, isabs] at ha
  rw [join_plain a n hne hn]
  cases a with
  | nil => exact absurd rfl hne
  | cons x xs => split <;> simpa [isabs] using ha

theorem leadSlashes_join_plain (a n : Path) (ha : isabs a = true) (hn : Plain n) :
    leadSlashes (join a n) = leadSlashes a := by
  obtain ⟨q, rfl⟩ : ∃ q, a = '/' :: q := by
    cases a with
    | nil => simp [isabs] at ha
    | cons c q => exact ⟨q, by simpa [isabs] using ha⟩
  rw [join_plain _ n (List.cons_ne_nil _ _) hn]
  obtain ⟨x, xs, rfl⟩ : ∃ x xs, n = x :: xs := by
    cases n with
    | nil => exact absurd rfl hn.1
    | cons x xs => exact ⟨x, xs, rfl⟩
  have hx : x ≠ '/' := fun e => hn.2.2.2 (e ▸ List.mem_cons_self ..)
  match q with
  | [] =>
    have hl : ['/'].getLast? = some '/' := rfl
    rw [if_pos hl]
    exact leadSlashes_one_other x xs hx
  | [d] =>
    by_cases hd : d = '/'
    · subst hd
      have hl : ['/', '/'].getLast? = some '/' := rfl
      rw [if_pos hl]
      exact leadSlashes_two_other x xs hx
    · rw [leadSlashes_one_other d [] hd]
      split <;> exact leadSlashes_one_other d _ hd
  | d :: e :: rest =>
    by_cases hd : d = '/'
    · subst hd
      by_cases he : e = '/'
      · subst he
        split <;> rfl
      · rw [leadSlashes_two_other e rest he]
        split <;> exact leadSlashes_two_other e _ he
    · rw [leadSlashes_one_other d (e :: rest) hd]
      split <;> exact leadSlashes_one_other d _ hd

theorem getLast?_append_ne_nil {α} (x y : List α) (hy : y ≠ []) : (x ++ y).getLast? = y.getLast? := by
  obtain ⟨z, hz⟩ := Option.isSome_iff_exists.1 (List.getLast?_isSome.2 hy)
  rw [List.getLast?_append, hz]
  rfl

/-- `abspath` of an entry of directory `name` is the entry's name joined onto `abspath`'s argument
    for `name` itself -/
theorem absArg_join_plain (cwd name n : Path) (hname : name ≠ []) (hn : Plain n) :
    absArg cwd (join name n) = join (absArg cwd name) n := by
  by_cases habs : isabs name = true
  · simp [absArg, habs, isabs_join_plain name n habs hn]
  · have hrel : isabs (join name n) = false := by
      rw [join_plain name n hname hn]
      cases name with
      | nil => exact absurd rfl hname
      | cons x xs => split <;> simpa [isabs] using habs
    have hnh : (name.head? == some '/') = false := by simpa [isabs] using habs
    have hjh : ((join name n).head? == some '/') = false := by simpa [isabs] using hrel
    simp only [absArg, hrel, habs, Bool.false_eq_true, if_false]
    have hcn : ∀ pre : Path, join (pre ++ name) n = pre ++ join name n := by
      intro pre
      have hne : pre ++ name ≠ [] := by simp [hname]
      rw [join_plain _ n hne hn, join_plain name n hname hn, getLast?_append_ne_nil pre name hname]
      split <;> simp
    have j1 : ∀ x : Path, (x.head? == some '/') = false →
        join cwd x = if cwd.isEmpty || cwd.getLast? == some '/' then cwd ++ x else cwd ++ '/' :: x := by
      intro x hx
      simp only [join, hx, Bool.false_eq_true, if_false]
    rw [j1 _ hjh, j1 _ hnh]
    split
    · exact (hcn cwd).symm
    · have := hcn (cwd ++ ['/'])
      simpa using this.symm

theorem isabs_absArg (cwd p : Path) (hcwd : isabs cwd = true) : isabs (absArg cwd p) = true := by
  unfold absArg
  by_cases h : isabs p = true
  · simp [h]
  · simp only [h, Bool.false_eq_true, if_false]
    have hp : (p.head? == some '/') = false := by simpa [isabs] using h
    unfold join
    simp only [hp, Bool.false_eq_true, if_false]
    cases cwd with
    | nil => simp [isabs] at hcwd
    | cons x xs => split <;> simpa [isabs] using hcwd

theorem join_plain_shape (a n : Path) (ha : a ≠ []) (hn : Plain n) : ∃ a', join a n = a' ++ '/' :: n := by
  rw [join_plain a n ha hn]
  by_cases hl : a.getLast? = some '/'
  · obtain ⟨a', rfl⟩ := List.getLast?_eq_some_iff.1 hl
    exact ⟨a', by simp [hl]⟩
  · exact ⟨a, by simp [hl]⟩

/-- `os.path.join(name, n).endswith('/' + m)` ⇔ `n == m`, for plain names -/
theorem join_endswith_iff (a n m : Path) (ha : a ≠ []) (hn : Plain n) (hm : '/' ∉ m) :
    ('/' :: m).isSuffixOf (join a n) = true ↔ n = m := by
  obtain ⟨a', ha'⟩ := join_plain_shape a n ha hn
  rw [ha', List.isSuffixOf_iff_suffix]
  constructor
  · rintro ⟨t, ht⟩
    have := congrArg splitSlash ht
    rw [splitSlash_append, splitSlash_append, splitSlash_single m hm, splitSlash_single n hn.2.2.2] at this
    have := congrArg List.getLast? this
    simpa using this.symm
  · rintro rfl
    exact ⟨a', rfl⟩

theorem basename_append_slash (a n : Path) (hn : '/' ∉ n) : basename (a ++ '/' :: n) = n := by
  simp [basename, splitSlash_append, splitSlash_single n hn]

theorem basename_single (n : Path) (hn : '/' ∉ n) : basename n = n := by
  simp [basename, splitSlash_single n hn]

/-- `basename(join(d, n)) == n` for a plain name -/
theorem basename_join_plain (d n : Path) (hn : Plain n) : basename (join d n) = n := by
  by_cases hd : d = []
  · subst hd
    have h1 : (n.head? == some '/') = false := by simpa using plain_head n hn
    simp [join, h1, basename_single n hn.2.2.2]
  · obtain ⟨a', ha'⟩ := join_plain_shape d n hd hn
    rw [ha', basename_append_slash a' n hn.2.2.2]

theorem normpath_abs_isabs (p : Path) (h : isabs p = true) :
    isabs (normpath p) = true := by
  rw [normpath_abs p h]
  obtain ⟨k, hk⟩ := Nat.exists_eq_succ_of_ne_zero (leadSlashes_pos p h)
  simp [hk, List.replicate_succ, isabs]

theorem normpath_abs_ne_nil (p : Path) (h : isabs p = true) : normpath p ≠ [] := by
  intro e
  have := normpath_abs_isabs p h
  rw [e] at this
  cases this

end ASV.PosixPath
