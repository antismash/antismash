/-
  C10: domains and motifs (`AntismashFeature` → `Domain` → `AntismashDomain` / `CDSMotif`) read back
  from their Biopython form with every attribute unchanged.
-/
import ASV.Proofs.SerialClass
import ASV.Spec.SerialQual
namespace ASV.Serial
open ASV

/-! ### what `Domain.to_biopython` and `AntismashFeature.to_biopython` write: distinct keys and a lookup table -/

/-- the entry `if value: mine[key] = [value]` makes -/
def optV (o : Option String) : Option (List String) :=
  match o with
  | some s => if s.isEmpty then none else some [s]
  | none => none

theorem setOpt_eq_setO (q : Quals) (k : String) (v : Option String) : setOpt q k v = Q.setO q k (optV v) := by
  cases v with
  | none => rfl
  | some s =>
    unfold setOpt optV
    simp only
    split <;> rfl

theorem setSome_eq_setO (q : Quals) (k : String) (v : Option String) : setSome q k v = Q.setO q k (v.map ([·])) := by
  cases v <;> rfl

theorem get?_setOpt (q : Quals) (k : String) (v : Option String) (k2 : String) :
    Q.get? (setOpt q k v) k2 = if k2 = k then (match optV v with | some x => some x | none => Q.get? q k2) else Q.get? q k2 := by
  rw [setOpt_eq_setO]
  exact Q.get?_setO _ _ _ _

theorem get?_setSome (q : Quals) (k : String) (v : Option String) (k2 : String) :
    Q.get? (setSome q k v) k2 = if k2 = k then (match v with | some x => some [x] | none => Q.get? q k2) else Q.get? q k2 := by
  rw [setSome_eq_setO, Q.get?_setO]
  cases v <;> rfl

theorem nodup_setOpt {q : Quals} (h : Q.Nodup q) (k : String) (v : Option String) : Q.Nodup (setOpt q k v) := by
  rw [setOpt_eq_setO]
  exact Q.nodup_setO h _ _

theorem nodup_setSome {q : Quals} (h : Q.Nodup q) (k : String) (v : Option String) : Q.Nodup (setSome q k v) := by
  rw [setSome_eq_setO]
  exact Q.nodup_setO h _ _

/-- `Domain.to_biopython`'s own qualifiers as a run of assignments -/
theorem Dom.mineDomain_assign (d : Dom) : d.mineDomain = Q.assign []
    [("protein_start", some [strOfInt d.pStart]), ("protein_end", some [strOfInt d.pEnd]), ("aSDomain", optV d.domain),
     ("ASF", listQ d.asf)] := by
  unfold Dom.mineDomain listQ
  simp only [Q.set_eq_setO]
  simp only [setOpt_eq_setO, Q.setO_unless]
  rfl

/-- `AntismashFeature.to_biopython`'s own qualifiers, for a feature made by antiSMASH -/
theorem Dom.mine_assign (d : Dom) (hb : d.feat.byAS = true) : d.mine = Q.update (Q.assign []
    [("label", optV d.label), ("score", d.score.map ([·])), ("evalue", d.evalue.map ([·])), ("locus_tag", optV (some d.locusTag)),
     ("translation", optV (some d.translation)), ("database", optV d.database), ("detection", optV d.detection),
     ("domain_id", optV d.domainId), ("aSTool", optV (some d.tool))]) d.mineDomain := by
  unfold Dom.mine
  simp only [hb, if_true, setOpt_eq_setO, setSome_eq_setO]
  rfl

theorem nodup_mineDomain (d : Dom) : Q.Nodup d.mineDomain := by
  rw [Dom.mineDomain_assign]
  exact Q.nodup_assign _ nodupNil

theorem Dom.mine_eq (d : Dom) : d.mine = Q.update d.mineAF d.mineDomain := rfl

theorem nodup_mineAF (d : Dom) : Q.Nodup d.mineAF := by
  have h := nodup_setOpt (nodup_setOpt (nodup_setOpt (nodup_setOpt (nodup_setSome (nodup_setSome (nodup_setOpt nodupNil "label" d.label)
    "score" d.score) "evalue" d.evalue) "locus_tag" (some d.locusTag)) "translation" (some d.translation)) "database" d.database)
    "detection" d.detection
  unfold Dom.mineAF
  apply nodup_setOpt
  split
  · exact nodup_setOpt h _ _
  · exact h

theorem nodup_mine (d : Dom) : Q.Nodup d.mine := by
  rw [Dom.mine_eq]
  exact Q.nodup_update (nodup_mineAF d) _

theorem get?_mineDomain (d : Dom) (k : String) :
    Q.get? d.mineDomain k =
      if k = "protein_start" then some [strOfInt d.pStart]
      else if k = "protein_end" then some [strOfInt d.pEnd]
      else if k = "aSDomain" then optV d.domain
      else if k = "ASF" then listQ d.asf
      else none := by
  rw [Dom.mineDomain_assign]
  exact Q.get?_assign_nil _ (by simp) k

theorem get?_mine (d : Dom) (hb : d.feat.byAS = true) (k : String) :
    Q.get? d.mine k =
      if k = "protein_start" then some [strOfInt d.pStart]
      else if k = "protein_end" then some [strOfInt d.pEnd]
      else if k = "aSDomain" then optV d.domain
      else if k = "ASF" then listQ d.asf
      else if k = "label" then optV d.label
      else if k = "score" then d.score.map ([·])
      else if k = "evalue" then d.evalue.map ([·])
      else if k = "locus_tag" then optV (some d.locusTag)
      else if k = "translation" then optV (some d.translation)
      else if k = "database" then optV d.database
      else if k = "detection" then optV d.detection
      else if k = "domain_id" then optV d.domainId
      else if k = "aSTool" then optV (some d.tool)
      else none := by
  rw [Dom.mine_assign d hb, Q.get?_update _ _ (nodup_mineDomain d), get?_mineDomain, Q.get?_assign_nil _ (by simp)]
  -- the `Domain` layer's four keys win; below them the lookup is the second list's
  by_cases a1 : k = "protein_start"
  · rw [if_pos a1, if_pos a1]
  rw [if_neg a1, if_neg a1]
  by_cases a2 : k = "protein_end"
  · rw [if_pos a2, if_pos a2]
  rw [if_neg a2, if_neg a2]
  by_cases a3 : k = "aSDomain"
  · subst a3
    rw [if_pos rfl, if_pos rfl]
    cases optV d.domain with
    | some v => rfl
    | none => exact Q.getO_of_not_mem (by simp)
  rw [if_neg a3, if_neg a3]
  by_cases a4 : k = "ASF"
  · subst a4
    rw [if_pos rfl, if_pos rfl]
    cases listQ d.asf with
    | some v => rfl
    | none => exact Q.getO_of_not_mem (by simp)
  rw [if_neg a4, if_neg a4]
  rfl

/-! ### the reader's steps (`firstOr`, `popNumber`, `protLoc`) on given lookups, and past a pop of another key -/

theorem firstOr_erase (q : Quals) (a k : String) (h : k ≠ a) : firstOr (Q.erase q a) k = firstOr q k := by
  unfold firstOr; rw [Q.get?_erase_other q a k h]

theorem popNumber_erase (q : Quals) (a k : String) (h : k ≠ a) : popNumber (Q.erase q a) k = popNumber q k := by
  unfold popNumber; rw [Q.get?_erase_other q a k h]

theorem protLoc_erase (q : Quals) (a : String) (h1 : "protein_start" ≠ a) (h2 : "protein_end" ≠ a) (h3 : "translation" ≠ a) :
    protLoc (Q.erase q a) = protLoc q := by
  unfold protLoc
  rw [firstOr_erase q a _ h1, firstOr_erase q a _ h2, Q.get?_erase_other q a _ h3]

theorem firstOr_of {q : Quals} {k : String} {o : Option String} (h : Q.get? q k = optV o) : firstOr q k = .ok (o.getD "") := by
  unfold firstOr
  rw [h]
  unfold optV
  cases o with
  | none => rfl
  | some s =>
    simp only
    cases hs : s.isEmpty
    · rfl
    · rw [String.isEmpty_iff] at hs
      subst hs
      rfl

theorem orNone_getD {o : Option String} (h : o ≠ some "") : orNone (o.getD "") = o := by
  unfold orNone
  cases o with
  | none => rfl
  | some s =>
    simp only [Option.getD_some]
    cases hs : s.isEmpty
    · rfl
    · rw [String.isEmpty_iff] at hs
      subst hs
      exact absurd rfl h

theorem popNumber_of {q : Quals} {k : String} {o : Option String} (h : Q.get? q k = o.map ([·])) : popNumber q k = .ok o := by
  unfold popNumber
  rw [h]
  cases o <;> rfl

theorem strOfInt_isEmpty (i : Int) : (strOfInt i).isEmpty = false := by
  rw [isEmpty_toList]
  unfold strOfInt
  rw [String.toList_ofList]
  cases h : intChars i with
  | nil => exact absurd h (intChars_ne_nil i)
  | cons _ _ => rfl

theorem protLoc_of {q : Quals} {s e : Int} (h1 : Q.get? q "protein_start" = some [strOfInt s])
    (h2 : Q.get? q "protein_end" = some [strOfInt e]) (hle : s ≤ e) : protLoc q = .ok (s, e) := by
  unfold protLoc firstOr
  simp only [h1, h2, bind, Except.bind, pure, Except.pure, strOfInt_isEmpty, Bool.false_eq_true, if_false, intOfStr_strOfInt]
  have : ¬ e < s := by omega
  simp [this]


def domKeys : List String :=
  ["aSTool", "locus_tag", "protein_start", "protein_end", "aSDomain", "ASF", "domain_id", "database", "detection", "label",
   "translation", "evalue", "score"]

/-- a domain / motif object as the constructors and setters leave it, made by antiSMASH, whose free
    qualifiers use none of the keys the classes write themselves -/
structure Dom.WF (kind : DomKind) (d : Dom) : Prop where
  feat : d.feat.WF
  byAS : d.feat.byAS = true
  codon : d.feat.codon = none
  type : d.feat.type = kind.type
  reserved : ∀ k ∈ domKeys, Q.get? d.feat.quals k = none
  tool : d.tool ≠ ""
  tag : d.locusTag ≠ "" ∧ noSpaces d.locusTag = d.locusTag
  prot : d.pStart ≤ d.pEnd
  domain : d.domain ≠ some ""
  asf : canonSet d.asf = d.asf
  domainId : d.domainId ≠ some "" ∧ d.domainId.map noSpaces = d.domainId ∧ (kind = .asDomain → d.domainId ≠ none)
  database : d.database ≠ some ""
  detection : d.detection ≠ some ""
  label : d.label ≠ some "" ∧ d.label.map noSpaces = d.label
  translation : '*' ∉ d.translation.toList

/-- what is left of the qualifiers when the classes have popped theirs: `domKeys.foldl Q.erase q`, written out as the
    reader produces it -/
def domLeft (q : Quals) : Quals :=
  Q.erase (Q.erase (Q.erase (Q.erase (Q.erase (Q.erase (Q.erase (Q.erase (Q.erase (Q.erase (Q.erase (Q.erase (Q.erase q
    "aSTool") "locus_tag") "protein_start") "protein_end") "aSDomain") "ASF") "domain_id") "database") "detection") "label")
    "translation") "evalue") "score"

theorem optV_some_ne {s : String} (h : s ≠ "") : optV (some s) = some [s] := by
  have hs : s.isEmpty = false := by
    cases hs : s.isEmpty
    · rfl
    · exact absurd (String.isEmpty_iff.1 hs) h
  simp [optV, hs]

theorem isEmpty_false_of_ne {s : String} (h : s ≠ "") : s.isEmpty = false := by
  cases hs : s.isEmpty
  · rfl
  · exact absurd (String.isEmpty_iff.1 hs) h

/-- reading a feature whose lookups are those of a written domain -/
theorem domFromBio_spec (kind : DomKind) (d : Dom) (h : d.WF kind) (loc : Loc) (W : Quals)
    (hlook : ∀ k ∈ domKeys, Q.get? W k = Q.get? d.mine k) :
    Dom.fromBio kind ⟨loc, kind.type, W⟩ =
      (applyLeftovers ⟨loc, kind.type, [], [], true, none⟩ (domLeft W)).map fun feat => { d with feat := feat } := by
  have lk : ∀ k, k ∈ domKeys → Q.get? W k = _ := fun k hk => (hlook k hk).trans (get?_mine d h.byAS k)
  have l1 : Q.get? W "aSTool" = some [d.tool] := by rw [lk _ (by simp [domKeys])]; simp [optV_some_ne h.tool]
  have l2 : Q.get? W "locus_tag" = optV (some d.locusTag) := by rw [lk _ (by simp [domKeys])]; simp
  have l3 : Q.get? W "protein_start" = some [strOfInt d.pStart] := by rw [lk _ (by simp [domKeys])]; simp
  have l4 : Q.get? W "protein_end" = some [strOfInt d.pEnd] := by rw [lk _ (by simp [domKeys])]; simp
  have l5 : Q.get? W "aSDomain" = optV d.domain := by rw [lk _ (by simp [domKeys])]; simp
  have l6 : Q.get? W "ASF" = listQ d.asf := by rw [lk _ (by simp [domKeys])]; simp
  have l7 : Q.get? W "domain_id" = optV d.domainId := by rw [lk _ (by simp [domKeys])]; simp
  have l8 : Q.get? W "database" = optV d.database := by rw [lk _ (by simp [domKeys])]; simp
  have l9 : Q.get? W "detection" = optV d.detection := by rw [lk _ (by simp [domKeys])]; simp
  have l10 : Q.get? W "label" = optV d.label := by rw [lk _ (by simp [domKeys])]; simp
  have l11 : Q.get? W "translation" = optV (some d.translation) := by rw [lk _ (by simp [domKeys])]; simp
  have l12 : Q.get? W "evalue" = d.evalue.map ([·]) := by rw [lk _ (by simp [domKeys])]; simp
  have l13 : Q.get? W "score" = d.score.map ([·]) := by rw [lk _ (by simp [domKeys])]; simp
  have l1' : Q.get? W "aSTool" = optV (some d.tool) := by rw [l1, optV_some_ne h.tool]
  have hasf : canonSet ((listQ d.asf).getD []) = d.asf := by
    unfold listQ
    cases he : d.asf.isEmpty
    · simpa using h.asf
    · rw [List.isEmpty_iff] at he
      rw [he]
      rfl
  have hstar : d.translation.toList.contains '*' = false := by
    simpa using h.translation
  have hdid : (orNone (d.domainId.getD "")).map noSpaces = d.domainId := by rw [orNone_getD h.domainId.1]; exact h.domainId.2.1
  have hassert : (kind == .asDomain && (d.domainId.getD "").isEmpty) = false := by
    cases kind
    · have := h.domainId.2.2 rfl
      cases hd : d.domainId with
      | none => exact absurd hd this
      | some s =>
        have : s ≠ "" := fun e => h.domainId.1 (by rw [hd, e])
        simp [isEmpty_false_of_ne this]
    · rfl
    · rfl
  unfold Dom.fromBio
  -- every read is moved past the pops before it (the keys differ), once for the three kinds
  simp only [firstOr_erase, popNumber_erase, protLoc_erase, Q.get?_erase_other, ne_eq, String.reduceEq, not_false_eq_true]
  -- everything but the tool is read the same way for the three kinds
  simp only [protLoc_of l3 l4 h.prot, firstOr_of l2, firstOr_of l5, firstOr_of l7, firstOr_of l8, firstOr_of l9, firstOr_of l10,
    firstOr_of l11, popNumber_of l12, popNumber_of l13, l6, bind, Except.bind, pure, Except.pure, Option.getD_some,
    isEmpty_false_of_ne h.tag.1, Bool.false_eq_true, if_false, h.tag.2, hstar, hasf, hdid, hassert,
    orNone_getD h.domain, orNone_getD h.database, orNone_getD h.detection, orNone_getD h.label.1, h.label.2]
  cases kind
  all_goals simp only [l1, firstOr_of l1', Option.getD_some, isEmpty_false_of_ne h.tool, Bool.false_eq_true, if_false]
  all_goals unfold domLeft
  all_goals (cases applyLeftovers _ _ <;> rfl)

theorem domLeft_eq (q : Quals) : domLeft q = domKeys.foldl Q.erase q := by
  simp only [domLeft, domKeys, List.foldl_cons, List.foldl_nil]

theorem get?_domLeft (q : Quals) (k : String) : Q.get? (domLeft q) k = if k ∈ domKeys then none else Q.get? q k := by
  rw [domLeft_eq]
  exact get?_eraseAll domKeys q k

theorem nodup_domLeft {q : Quals} (h : Q.Nodup q) : Q.Nodup (domLeft q) := by
  rw [domLeft_eq]
  exact nodup_eraseAll domKeys h

theorem get?_mine_other (d : Dom) (hb : d.feat.byAS = true) (k : String) (hk : k ∉ domKeys) : Q.get? d.mine k = none := by
  rw [get?_mine d hb]
  simp only [domKeys, List.mem_cons, List.mem_nil_iff, or_false, not_or] at hk
  simp [hk]

theorem domClass (kind : DomKind) : ClassDesc (ok := Dom.WF kind) (type := kind.type) (keys := domKeys) (stay := []) (by0 := true)
    (feat := (·.feat)) (own := Dom.mine) (left := fun _ => domLeft) (rebuild := fun d f => { d with feat := f })
    (read := Dom.fromBio kind) where
  base := fun _ h => ⟨h.feat, h.byAS, h.codon, h.type, h.reserved⟩
  base_keys := by simp [domKeys]
  stay_sub := fun _ h => nomatch h
  own_nodup := nodup_mine
  own_keys := fun d h => get?_mine_other d h.byAS
  left_nodup := fun _ _ => nodup_domLeft
  left_get := fun _ W _ k _ => get?_domLeft W k
  read_written := fun d h W _ hlook _ => domFromBio_spec kind d h _ W hlook

/-- a written domain / motif is read back with every attribute unchanged, the same base-feature view, and
    as an object the theorem applies to again -/
theorem dom_roundtrip (t : Bool) (kind : DomKind) (d : Dom) (h : d.WF kind) (b : Bio) (hb : d.toBio = .ok b) :
    ∃ d', Dom.fromBio kind b = .ok d' ∧ d' = { d with feat := d'.feat } ∧ d'.feat.view t = d.feat.view t ∧
      d'.feat.loc = d.feat.loc ∧ d'.WF kind ∧ d'.toBio = .ok b := by
  obtain ⟨-, hr, R⟩ := (domClass kind).roundtrip t d h b hb
  -- the witness is built over a variable: its `rfl`s must not look into `domLeft`
  generalize domLeft b.quals = L at hr R
  refine ⟨_, hr, rfl, R.view, rfl, ?_, ?_⟩
  · exact ⟨R.wf, rfl, rfl, h.type, R.reserved, h.tool, h.tag, h.prot, h.domain, h.asf, h.domainId, h.database, h.detection,
      h.label, h.translation⟩
  · -- the second write: the class's dictionary does not depend on what was re-read
    have hmine : ({ d with feat := d.feat.reread L } : Dom).mine = d.mine := by
      unfold Dom.mine Dom.mineDomain
      simp only [Feat.reread, h.byAS]
    unfold Dom.toBio at hb ⊢
    rw [hmine]
    exact (R.toBio h.feat h.byAS h.codon _ (nodup_mine d) (get?_mine_other d h.byAS "note" (by simp [domKeys]))).trans hb

/-- the Boolean form evaluated by the driver implies the hypotheses of the theorem -/
theorem Dom.WF_of_b (kind : DomKind) (d : Dom) (h : domWFb kind d = true) : d.WF kind := by
  unfold domWFb featWFb nodupKeys at h
  simp only [Bool.and_eq_true, decide_eq_true_eq, Option.isNone_iff_eq_none, bne_iff_ne, ne_eq, beq_iff_eq,
    Bool.or_eq_true, List.all_eq_true, Bool.not_eq_true', Option.isSome_iff_ne_none] at h
  obtain ⟨⟨⟨⟨⟨⟨⟨⟨⟨⟨⟨⟨⟨⟨⟨⟨⟨⟨⟨⟨⟨⟨f1, f2⟩, f3⟩, f4⟩, f5⟩, hby⟩, hcod⟩, hty⟩, hres⟩, htool⟩, htag1⟩, htag2⟩, hprot⟩, hdom⟩, hasf⟩, hid1⟩, hid2⟩,
    hid3⟩, hdb⟩, hdet⟩, hlab1⟩, hlab2⟩, htr⟩ := h
  refine ⟨⟨f1, f2, f3, ?_, fun p hp => f5 p hp, fun c l' hc _ => by rw [hcod] at hc; cases hc⟩, hby, hcod, hty,
    ?_, htool, ⟨htag1, htag2⟩, hprot, hdom, hasf, ⟨hid1, hid2, ?_⟩, hdb, hdet, ⟨hlab1, hlab2⟩, ?_⟩
  · intro ht
    rcases f4 with f4 | f4
    · exact absurd ht f4
    · exact f4
  · intro k hk
    exact hres k hk
  · intro hk
    rcases hid3 with e | e
    · exact absurd hk e
    · exact e
  · simpa using htr

end ASV.Serial
