/-
  C19: `add_area_from_feature` by the way the feature sits in the region: one part (drawn where it
  is or moved past the record end), origin-spanning in an origin-spanning region (one area
  continuing past `L`), origin-spanning in a whole-record region (two linked halves).
-/
import ASV.Proofs.PackingAreas
namespace ASV.Packing
open ASV ASV.Packing.Spec

/-- a feature of one part is moved past the record end: the region spans the origin (and so is drawn
    beyond `L`) and the feature lies in the region's last part, behind the origin -/
def shifted (c : Ctx) (f : Feat) : Bool :=
  c.extend && locationContainsOther (.simple c.lastPart) f.loc && c.regionCrosses

theorem areasOf_of_not_crosses (c : Ctx) {f : Feat} (h gid : Int) (hcr : f.crosses = false) :
    areasOf c f h gid =
      some [if shifted c f = true then (Area.fromFeature f h).offset c.L else Area.fromFeature f h] := by
  simp only [areasOf, shifted, hcr, Bool.and_false, Bool.false_eq_true, ↓reduceIte, Bool.and_eq_true]
  by_cases h1 : c.extend = true ∧ locationContainsOther (.simple c.lastPart) f.loc = true
  · by_cases h2 : c.regionCrosses = true <;> simp [h1, h2]
  · simp [h1]

/-- a feature running over the origin, by where its core lies (for every kind: a candidate cluster
    or subregion goes the way of a protocluster whose core is its whole extent): one area continuing
    past `L` in an origin-spanning region, else two linked halves.  `a` stands for
    `Area.from_feature(feature)`; callers pass `_ rfl`. -/
theorem areasOf_crossing {c : Ctx} {f : Feat} (h gid : Int) (a : Area) (ha : a = Area.fromFeature f h)
    (hcr : f.crosses = true) (hext : c.extend = true) (hx : f.end ≤ f.start) :
    areasOf c f h gid = some (
      if locEnd (shownCore f) ≤ locStart (shownCore f) then
        if c.regionCrosses then [{ a with «end» := a.end + c.L, nend := a.nend + c.L }]
        else [{ a with group := gid, «end» := c.L, nend := c.L }, { a with group := gid, start := 0, nstart := 0 }]
      else if f.start ≤ locStart (shownCore f) then
        if c.regionCrosses then [{ a with nend := a.nend + c.L }]
        else [{ a with group := gid, nend := c.L },
              { a with group := gid, start := 0, «end» := 0, nstart := 0, product := "" }]
      else
        if c.regionCrosses then [{ a with start := a.start + c.L, «end» := a.end + c.L, nend := a.nend + c.L }]
        else [{ a with group := gid, start := c.L, «end» := c.L, product := "", nend := c.L },
              { a with group := gid, nstart := 0 }]) := by
  subst ha
  have hco : (Area.fromFeature f h).crossesOrigin = true := by
    simp only [Area.crossesOrigin, (fromFeature_coords f h).1, (fromFeature_coords f h).2.1, decide_eq_true_eq]
    exact hx
  obtain ⟨loc, kind, core, single, labels⟩ := f
  cases kind
  · simp only [areasOf, hext, hcr, hco, adjustCrossOrigin, Bool.and_self, Bool.not_true, Bool.false_eq_true,
      ↓reduceIte, bne_self_eq_false, ge_iff_le, Feat.coreStart, Feat.coreEnd, Feat.start, shownCore]
    by_cases k1 : locEnd core ≤ locStart core
    · cases c.regionCrosses <;> simp only [k1, ↓reduceIte, Bool.false_eq_true]
    · by_cases k2 : locStart loc ≤ locStart core
      · cases c.regionCrosses <;> simp only [k1, k2, ↓reduceIte, Bool.false_eq_true]
      · cases c.regionCrosses <;> simp only [k1, k2, ↓reduceIte, Bool.false_eq_true]
  all_goals
    rw [if_pos]
    · cases hrc : c.regionCrosses
      all_goals
        simp only [areasOf, hext, hcr, hrc, hco, adjustCrossOrigin, Bool.and_self, Bool.not_true,
          Bool.false_eq_true, ↓reduceIte, reduceCtorEq, bne_iff_ne, ne_eq, not_false_eq_true]
        rfl
    · exact hx

theorem contains_self_of_parts {l : Loc} (h : ∀ p ∈ l.parts, p.lo ≤ p.hi) : locationContainsOther l l = true := by
  simp only [locationContainsOther, List.all_eq_true, List.any_eq_true]
  intro q hq
  exact ⟨q, hq, by simp [partContains, h q hq]⟩

theorem contains_self {L : Int} {l : Loc} (h : collOK L l = true) : locationContainsOther l l = true :=
  contains_self_of_parts fun p hp => Int.le_of_lt (collOK_parts h p hp).2.1

/-- `proto_core` for every kind: what is drawn as the core is well-formed and lies inside the extent -/
theorem shownCore_ok {c : Ctx} {f : Feat} (hf : featOK c f = true) :
    collOK c.L f.loc = true ∧ collOK c.L (shownCore f) = true ∧
    locationContainsOther f.loc (shownCore f) = true ∧
    ((shownCore f).parts.length > 1 → f.loc.parts.length > 1) := by
  have hl : collOK c.L f.loc = true := by
    simp only [featOK, Bool.and_eq_true] at hf
    exact hf.1.1.1
  obtain ⟨loc, kind, core, single, labels⟩ := f
  cases kind
  · obtain ⟨k0, k1, k2, k3⟩ := proto_core hf rfl
    simp only [Bool.or_eq_true, Bool.not_eq_true', decide_eq_false_iff_not, decide_eq_true_eq] at k3
    exact ⟨k0, k1, k2, fun h => k3.resolve_left (fun hn => hn h)⟩
  · exact ⟨hl, hl, contains_self hl, id⟩
  · exact ⟨hl, hl, contains_self hl, id⟩

/-- a feature of one part: drawn where it is, or, behind the origin of an origin-spanning region,
    moved past the record end as a whole -/
theorem areasOf_good_simple {c : Ctx} {f : Feat} (hc : regionOK c = true) (hf : featOK c f = true)
    (h gid : Int) {p : Part} (hp : f.loc = .simple p)
    (hd : (shifted c f = true ∧ (drawRange c).1 ≤ p.lo + c.L ∧ p.hi + c.L ≤ (drawRange c).2) ∨
      (shifted c f = false ∧ (drawRange c).1 ≤ p.lo ∧ p.hi ≤ (drawRange c).2)) :
    ∃ as, areasOf c f h gid = some as ∧ Good c f h gid as := by
  obtain ⟨hl, hs, hin, hx⟩ := shownCore_ok hf
  obtain ⟨hlo, hhi⟩ := drawRange_window hc
  obtain ⟨hns, hne, hst, hen, hk, hh, hg⟩ := fromFeature_coords f h
  have hcr : f.crosses = false := by rw [Feat.crosses, hp]; rfl
  have hfs : f.start = p.lo := by rw [Feat.start, hp]; rfl
  have hfe : f.end = p.hi := by rw [Feat.end, hp]; rfl
  rw [hp] at hin hx
  rcases core_cases (hp ▸ hl) hs hin hx with ⟨p', q, hp', hq, g1, g2, g3⟩ | ⟨s, e, q, hp', _⟩ |
    ⟨s, e, cs, ce, hp', _⟩
  · cases hp'
    rw [areasOf_of_not_crosses c h gid hcr]
    rcases hd with ⟨hb, d1, d2⟩ | ⟨hb, d1, d2⟩
    · rw [if_pos hb]
      refine ⟨_, rfl, good_whole (collOK_arc hl) (collOK_arc hs) hlo hhi hk hh hg
        (Or.inr (congrArg (· + c.L) hns)) (Or.inr (congrArg (· + c.L) hne))
        (Or.inr (congrArg (· + c.L) hst)) (Or.inr (congrArg (· + c.L) hen)) ?_⟩
      simp only [Area.offset, hns, hne, hst, hen, hfs, hfe, hq, locStart_simple, locEnd_simple]
      omega
    · rw [if_neg (by rw [hb]; exact Bool.false_ne_true)]
      refine ⟨_, rfl, good_whole (collOK_arc hl) (collOK_arc hs) hlo hhi hk hh hg (Or.inl hns) (Or.inl hne)
        (Or.inl hst) (Or.inl hen) ?_⟩
      rw [hns, hne, hst, hen, hfs, hfe, hq, locStart_simple, locEnd_simple]
      omega
  · cases hp'
  · cases hp'

/-- a feature running over the origin: one area continuing past `L` in an origin-spanning region,
    two linked halves in a region that is the whole record -/
theorem areasOf_good_crossing {c : Ctx} {f : Feat} (hc : regionOK c = true) (hf : featOK c f = true)
    (h gid : Int) {s e : Int} (hp : f.loc = .compound [⟨s, c.L, .fwd⟩, ⟨0, e, .fwd⟩])
    (he1 : 0 < e) (he2 : e ≤ s) (he3 : s < c.L) (hext : c.extend = true)
    (hreg : (c.regionCrosses = true ∧ (drawRange c).1 ≤ s ∧ e + c.L ≤ (drawRange c).2) ∨
      (c.regionCrosses = false ∧ (drawRange c).1 = 0 ∧ (drawRange c).2 = c.L)) :
    ∃ as, areasOf c f h gid = some as ∧ Good c f h gid as := by
  obtain ⟨hl, hs, hin, hx⟩ := shownCore_ok hf
  obtain ⟨hlo, hhi⟩ := drawRange_window hc
  obtain ⟨hns, hne, hst, hen, hk, hh, hg⟩ := fromFeature_coords f h
  have hcr : f.crosses = true := by rw [Feat.crosses, hp]; rfl
  have hfs : f.start = s := by rw [Feat.start, hp, locStart_cross]
  have hfe : f.end = e := by rw [Feat.end, hp, locEnd_cross]
  have hes : f.end ≤ f.start := by rw [hfs, hfe]; exact he2
  rw [areasOf_crossing h gid _ rfl hcr hext hes]
  rw [hp] at hin hx
  have whole := fun {a : Area} => good_whole (h := h) (gid := gid) (a := a) (collOK_arc hl) (collOK_arc hs)
    hlo hhi
  have halves := fun {a b : Area} r1 r2 => good_split (h := h) (gid := gid) (a := a) (b := b) (collOK_arc hl)
    r1 r2 hes
  rcases core_cases (hp ▸ hl) hs hin hx with ⟨p', q, hp', _⟩ | ⟨s', e', q, hp', hq, g1, g2⟩ |
    ⟨s', e', cs, ce, hp', hq, g1, g2, g3, g4, g5⟩
  · cases hp'
  · cases hp'
    rw [hq, locStart_simple, locEnd_simple, if_neg (Int.not_le.2 g1), hfs]
    rcases g2 with ⟨g2, g3⟩ | ⟨g2, g3⟩
    · -- the core lies before the origin
      rw [if_pos g2]
      rcases hreg with ⟨hrc, d1, d2⟩ | ⟨hrc, r1, r2⟩
      · simp only [hrc, ↓reduceIte]
        refine ⟨_, rfl, whole hk hh hg (Or.inl hns) (Or.inr (congrArg (· + c.L) hne)) (Or.inl hst) (Or.inl hen) ?_⟩
        simp only [hns, hne, hst, hen, hfs, hfe, hq, locStart_simple, locEnd_simple]
        omega
      · simp only [hrc, Bool.false_eq_true, ↓reduceIte]
        refine ⟨_, rfl, halves r1 r2 hk hk hh hh rfl rfl hns rfl rfl hne ?_⟩
        simp only [hst, hen, hfs, hfe, hq, locStart_simple, locEnd_simple, len_simple, g1, Int.lt_irrefl, ↓reduceIte, true_and]
        omega
    · -- the core lies behind the origin
      rw [if_neg (by omega)]
      rcases hreg with ⟨hrc, d1, d2⟩ | ⟨hrc, r1, r2⟩
      · simp only [hrc, ↓reduceIte]
        refine ⟨_, rfl, whole hk hh hg (Or.inl hns) (Or.inr (congrArg (· + c.L) hne))
          (Or.inr (congrArg (· + c.L) hst)) (Or.inr (congrArg (· + c.L) hen)) ?_⟩
        simp only [hns, hne, hst, hen, hfs, hfe, hq, locStart_simple, locEnd_simple]
        omega
      · simp only [hrc, Bool.false_eq_true, ↓reduceIte]
        refine ⟨_, rfl, halves r1 r2 hk hk hh hh rfl rfl hns rfl rfl hne ?_⟩
        simp only [hst, hen, hfs, hfe, hq, locStart_simple, locEnd_simple, len_simple, g1, Int.lt_irrefl, ↓reduceIte, true_and]
        omega
  · -- the core runs over the origin as well
    cases hp'
    rw [hq, locStart_cross, locEnd_cross, if_pos g5]
    rcases hreg with ⟨hrc, d1, d2⟩ | ⟨hrc, r1, r2⟩
    · simp only [hrc, ↓reduceIte]
      refine ⟨_, rfl, whole hk hh hg (Or.inl hns) (Or.inr (congrArg (· + c.L) hne)) (Or.inl hst)
        (Or.inr (congrArg (· + c.L) hen)) ?_⟩
      simp only [hns, hne, hst, hen, hfs, hfe, hq, locStart_cross, locEnd_cross]
      omega
    · simp only [hrc, Bool.false_eq_true, ↓reduceIte]
      refine ⟨_, rfl, halves r1 r2 hk hk hh hh rfl rfl hns rfl rfl hne ?_⟩
      simp only [hst, hen, hfs, hfe, hq, locStart_cross, locEnd_cross, len_two, g2, g3, ↓reduceIte, and_true]
      omega

/-- every well-formed feature of a well-formed region is converted without error into areas that
    are in range, at the requested height, cover only bases of the feature and read back as
    exactly that feature -/
theorem areasOf_good {c : Ctx} {f : Feat} (hc : regionOK c = true) (hf : featOK c f = true)
    (h gid : Int) : ∃ as, areasOf c f h gid = some as ∧ Good c f h gid as := by
  have hf' := hf
  simp only [featOK, Bool.and_eq_true] at hf'
  obtain ⟨⟨⟨hl, hin⟩, hcirc⟩, _⟩ := hf'
  rcases regionOK_cases hc with ⟨R, hreg, hR1, hR2, hR3, hrc, hd⟩ |
      ⟨S, E, hreg, hE1, hE2, hE3, _, hrc, hext, hlast, hd⟩ <;>
  rcases collOK_cases hl with ⟨p, hp, hp1, hp2, hp3⟩ | ⟨s, e, hp, he1, he2, he3⟩ <;>
  rw [hreg, hp] at hin <;>
  simp only [locationContainsOther, Loc.parts, partContains, List.all_cons, List.all_nil,
    List.any_cons, List.any_nil, Bool.or_false, Bool.and_true, Bool.and_eq_true, Bool.or_eq_true,
    decide_eq_true_eq] at hin
  · -- one part in an ordinary region
    refine areasOf_good_simple hc hf h gid hp (Or.inr ⟨by rw [shifted, hrc, Bool.and_false], ?_⟩)
    rw [hd]
    exact ⟨hin.1.1, hin.2⟩
  · -- over the origin in an ordinary region, which then is the whole circular record
    have hcr : f.crosses = true := by rw [Feat.crosses, hp]; rfl
    rw [hcr] at hcirc
    have h0 : R.lo = 0 := by omega
    have hL : R.hi = c.L := by omega
    refine areasOf_good_crossing hc hf h gid hp he1 he2 he3 ?_ (Or.inr ⟨hrc, by rw [hd]; exact h0, by rw [hd]; exact hL⟩)
    simpa [Ctx.extend, hreg, h0, hL] using hcirc
  · -- one part in an origin-spanning region: behind the origin it is moved past the record end
    refine areasOf_good_simple hc hf h gid hp ?_
    rw [shifted, hlast, hrc, hext, hp, hd]
    simp only [locationContainsOther, Loc.parts, partContains, List.all_cons, List.all_nil,
      List.any_cons, List.any_nil, Bool.or_false, Bool.and_true, Bool.true_and, Bool.and_eq_true,
      decide_eq_true_eq, Bool.and_eq_false_iff, decide_eq_false_iff_not]
    omega
  · -- over the origin in an origin-spanning region
    refine areasOf_good_crossing hc hf h gid hp he1 he2 he3 hext (Or.inl ⟨hrc, ?_⟩)
    rw [hd]
    exact ⟨by omega, by omega⟩

end ASV.Packing
