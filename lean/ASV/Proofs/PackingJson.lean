/-
  C19: `Area.to_minimal_json` drops only what a reader restores.  The written object is described by
  what `jLookup` finds in it under each key; the reader's defaults do the rest.
-/
import ASV.Spec.Layout
import ASV.Proofs.Base.AList

/-! for Base -/
namespace ASV.Base.AList
variable {κ : Type u} {β : Type v} [DecidableEq κ]

/-- filtering on the values commutes with `get` only when no key occurs twice: otherwise dropping the first entry of
    a key would uncover the second -/
theorem get_filter_val (P : β → Bool) (k : κ) : ∀ l : List (κ × β), (keys l).Nodup →
    get (l.filter fun e => P e.2) k = (get l k).bind fun v => if P v then some v else none
  | [], _ => rfl
  | (k1, v1) :: t, hn => by
    simp only [keys, List.map_cons, List.nodup_cons] at hn
    have ih := get_filter_val P k t hn.2
    by_cases h : k1 = k
    · subst h
      cases hP : P v1
      · simp [hP, get, ih, get_eq_none.2 hn.1]
      · simp [hP, get]
    · cases hP : P v1 <;> simp [hP, get, h, ih]

end ASV.Base.AList

namespace ASV.Packing
open ASV ASV.Packing.Spec ASV.Base

theorem jLookup_eq_get (k : String) : ∀ l : List (String × JVal), jLookup k l = AList.get l k
  | [] => rfl
  | (k1, v) :: t => by simp only [jLookup, AList.get, jLookup_eq_get k t, eq_comm (a := k)]

theorem popKey_eq_del (k : String) (l : List (String × JVal)) : popKey k l = AList.del l k := by
  unfold popKey AList.del
  exact List.filter_congr fun e _ => by rw [Bool.eq_iff_iff]; simp

theorem lookup_popKey (k k' : String) (l : List (String × JVal)) :
    jLookup k (popKey k' l) = if k = k' then none else jLookup k l := by
  rw [jLookup_eq_get, jLookup_eq_get, popKey_eq_del, AList.get_del]

theorem lookup_popKey_if (p : Prop) [Decidable p] (k k' : String) (l : List (String × JVal)) :
    jLookup k (if p then popKey k' l else l) = if k = k' ∧ p then none else jLookup k l := by
  by_cases hp : p <;> simp [hp, lookup_popKey]

theorem jLookup_none {k : String} {l : List (String × JVal)} (h : k ∉ l.map Prod.fst) : jLookup k l = none :=
  (jLookup_eq_get k l).trans (AList.get_eq_none.2 h)

theorem lookup_filter_val (P : JVal → Bool) (k : String) (l : List (String × JVal)) (hn : (l.map Prod.fst).Nodup) :
    jLookup k (l.filter fun kv => P kv.2) = (jLookup k l).bind fun v => if P v then some v else none := by
  rw [jLookup_eq_get, jLookup_eq_get, AList.get_filter_val P k l hn]

theorem jInt_some {j : List (String × JVal)} {k : String} {i : Int} (h : jLookup k j = some (.int i)) :
    jInt j k = some i := by
  simp only [jInt, h]

theorem jStr_some {j : List (String × JVal)} {k s : String} (h : jLookup k j = some (.str s)) :
    jStr j k = some s := by
  simp only [jStr, h]

/-- an integer left out exactly when it equals the reader's default is read back whatever it is -/
theorem jInt_getD {j : List (String × JVal)} {k : String} {i d : Int}
    (h : jLookup k j = if i = d then none else some (.int i)) : (jInt j k).getD d = i := by
  by_cases hd : i = d <;> simp [jInt, h, hd]

theorem jStr_getD {j : List (String × JVal)} {k s : String}
    (h : jLookup k j = if s = "" then none else some (.str s)) : (jStr j k).getD "" = s := by
  by_cases hd : s = "" <;> simp [jStr, h, hd]

theorem kindOfName_kindName (k : Kind) : kindOfName (kindName k) = some k := by
  cases k <;> simp [kindName, kindOfName]

theorem kindName_ne_empty (k : Kind) : kindName k ≠ "" := by
  cases k <;> simp [kindName]

theorem asdict_keys_nodup (a : Area) : (a.asdict.map Prod.fst).Nodup := by
  simp [Area.asdict]

/-- what is left under a key: nothing where one of the three `pop`s applied, else the entry of
    `asdict` unless it is the empty string -/
theorem jLookup_toMinimalJson (a : Area) (k : String) :
    jLookup k a.toMinimalJson =
      if k = "group" ∧ a.group = 0 then none
      else if k = "neighbouring_end" ∧ a.nend = a.end then none
      else if k = "neighbouring_start" ∧ a.nstart = a.start then none
      else (jLookup k a.asdict).bind fun v => if v != JVal.str "" then some v else none := by
  simp only [Area.toMinimalJson, lookup_popKey_if, beq_iff_eq,
    lookup_filter_val (fun v => v != JVal.str "") k a.asdict (asdict_keys_nodup a)]

/-- the eleven keys one by one: four always written, seven left out exactly at the reader's default -/
theorem toMinimalJson_fields (a : Area) :
    jLookup "start" a.toMinimalJson = some (.int a.start) ∧
    jLookup "end" a.toMinimalJson = some (.int a.end) ∧
    jLookup "kind" a.toMinimalJson = some (.str (kindName a.kind)) ∧
    jLookup "height" a.toMinimalJson = some (.int a.height) ∧
    jLookup "neighbouring_start" a.toMinimalJson = (if a.nstart = a.start then none else some (.int a.nstart)) ∧
    jLookup "neighbouring_end" a.toMinimalJson = (if a.nend = a.end then none else some (.int a.nend)) ∧
    jLookup "product" a.toMinimalJson = (if a.product = "" then none else some (.str a.product)) ∧
    jLookup "prefix" a.toMinimalJson = (if a.prefix = "" then none else some (.str a.prefix)) ∧
    jLookup "category" a.toMinimalJson = (if a.category = "" then none else some (.str a.category)) ∧
    jLookup "tool" a.toMinimalJson = (if a.tool = "" then none else some (.str a.tool)) ∧
    jLookup "group" a.toMinimalJson = (if a.group = 0 then none else some (.int a.group)) := by
  simp only [jLookup_toMinimalJson, String.reduceEq, false_and, true_and, ↓reduceIte, Area.asdict, jLookup,
    bne_iff_ne, ne_eq, ite_not, Option.bind_some, reduceCtorEq, JVal.str.injEq, kindName_ne_empty, and_self]

theorem minimal_json_lossless (a : Area) : readArea a.toMinimalJson = some a := by
  obtain ⟨hstart, hend, hkind, hheight, hnstart, hnend, hproduct, hprefix, hcategory, htool, hgroup⟩ :=
    toMinimalJson_fields a
  simp only [readArea, jInt_some hstart, jInt_some hend, jStr_some hkind, jInt_some hheight, jInt_getD hnstart,
    jInt_getD hnend, jStr_getD hproduct, jStr_getD hprefix, jStr_getD hcategory, jStr_getD htool, jInt_getD hgroup,
    kindOfName_kindName, Option.bind_some, bind, pure]

end ASV.Packing
