/-
  The textual round trip of locations (C04 / C10 / C12), with exact and with fuzzy positions (`<5`, `>9`).
-/
import ASV.Model.LocString
import ASV.Model.LocStringFuzzy
namespace ASV

theorem natChars_digits (n : Nat) : ∀ c ∈ natChars n, c.isDigit = true :=
  fun _ hc => Nat.isDigit_of_mem_toDigits (by omega) (by omega) hc

theorem natChars_ne_nil (n : Nat) : natChars n ≠ [] := Nat.toDigits_ne_nil

theorem natChars_all (n : Nat) : (natChars n).all Char.isDigit = true := by
  rw [List.all_eq_true]; exact natChars_digits n

theorem isDigit_ne {c d : Char} (h : c.isDigit = true) (hd : d.isDigit = false) : c ≠ d := by
  intro e; subst e; rw [h] at hd; cases hd

theorem parseInt_natChars (n : Nat) : parseInt (natChars n) = some (n : Int) := by
  have hne := natChars_ne_nil n
  have hall := natChars_all n
  unfold parseInt
  match hm : natChars n with
  | [] => exact absurd hm hne
  | c :: cs =>
    have hc : c.isDigit = true := natChars_digits n c (by rw [hm]; simp)
    have hcm : c ≠ '-' := isDigit_ne hc (by decide)
    split
    · next h => cases h
    · next ds h =>
      -- c = '-' impossible
      injection h with h1 h2; exact absurd h1 hcm
    · next h1 h2 =>
      rw [← hm, hall]
      simp only [if_true]
      rw [show Nat.ofDigitChars 10 (natChars n) 0 = n from Nat.ofDigitChars_ten_toDigits]

theorem parseInt_intChars (i : Int) : parseInt (intChars i) = some i := by
  unfold intChars
  split
  · next h =>
    have hne := natChars_ne_nil i.natAbs
    have hall := natChars_all i.natAbs
    simp only [parseInt]
    have : (natChars i.natAbs).isEmpty = false := by
      cases hh : natChars i.natAbs with
      | nil => exact absurd hh hne
      | cons _ _ => rfl
    simp only [this, hall, Bool.not_false, Bool.and_self, if_true]
    rw [show Nat.ofDigitChars 10 (natChars i.natAbs) 0 = i.natAbs from Nat.ofDigitChars_ten_toDigits]
    congr 1; omega
  · next h =>
    rw [parseInt_natChars]
    congr 1; omega
/-- characters an integer is printed with -/
def numChar (c : Char) : Bool := c.isDigit || c == '-'

theorem intChars_numChar (i : Int) : ∀ c ∈ intChars i, numChar c = true := by
  intro c hc
  unfold intChars at hc
  split at hc
  · rcases List.mem_cons.1 hc with rfl | h
    · decide
    · simp [numChar, natChars_digits _ c h]
  · simp [numChar, natChars_digits _ c hc]

theorem splitFirst_append (c : Char) (pre post : List Char) (h : ∀ x ∈ pre, x ≠ c) :
    splitFirst c (pre ++ c :: post) = some (pre, post) := by
  induction pre with
  | nil => simp [splitFirst]
  | cons x xs ih =>
    have hx : x ≠ c := h x (by simp)
    simp only [List.cons_append, splitFirst, hx, if_false]
    rw [ih (fun y hy => h y (List.mem_cons_of_mem _ hy))]

theorem numChar_ne {c d : Char} (h : numChar c = true) (hd : numChar d = false) : c ≠ d := by
  intro e; subst e; rw [h] at hd; cases hd

/-- the characters of one printed part -/
def partChar (c : Char) : Bool := numChar c || c == '[' || c == ':' || c == ']' || c == '(' || c == ')' || c == '+' || c == '?'

theorem strandChars_partChar (s : Strand) : ∀ c ∈ strandChars s, partChar c = true := by
  cases s <;> simp [strandChars] <;> decide

theorem intChars_ne_nil (i : Int) : intChars i ≠ [] := by
  unfold intChars; split
  · simp
  · exact natChars_ne_nil _

theorem natChars_reverse_head (n : Nat) : ∃ d rest, (natChars n).reverse = d :: rest ∧ d.isDigit = true := by
  cases h : (natChars n).reverse with
  | nil => exact absurd (List.reverse_eq_nil_iff.1 h) (natChars_ne_nil n)
  | cons d rest =>
    refine ⟨d, rest, rfl, natChars_digits n d ?_⟩
    have : d ∈ (natChars n).reverse := by rw [h]; simp
    simpa using this

theorem intChars_reverse_head (i : Int) : ∃ d rest, (intChars i).reverse = d :: rest ∧ d.isDigit = true := by
  unfold intChars
  split
  · obtain ⟨d, rest, h, hd⟩ := natChars_reverse_head i.natAbs
    exact ⟨d, rest ++ ['-'], by simp [h], hd⟩
  · exact natChars_reverse_head _

theorem splitCS_nil (acc : List Char) : splitCommaSpace acc [] = [acc.reverse] := by
  simp [splitCommaSpace]

theorem splitCS_sep (acc rest : List Char) :
    splitCommaSpace acc (',' :: ' ' :: rest) = acc.reverse :: splitCommaSpace [] rest := by
  simp [splitCommaSpace]

theorem splitCS_char (acc rest : List Char) (c : Char) (hc : c ≠ ',') :
    splitCommaSpace acc (c :: rest) = splitCommaSpace (c :: acc) rest := by
  rw [splitCommaSpace]
  · intro r h; exact absurd h hc

theorem splitCS_text (acc t rest : List Char) (ht : ∀ c ∈ t, c ≠ ',') :
    splitCommaSpace acc (t ++ rest) = splitCommaSpace (t.reverse ++ acc) rest := by
  induction t generalizing acc with
  | nil => rfl
  | cons c cs ih =>
    rw [List.cons_append, splitCS_char _ _ _ (ht c (by simp)), ih _ (fun x hx => ht x (List.mem_cons_of_mem _ hx))]
    simp

theorem splitCS_join (t : List Char) (ts : List (List Char)) (h : ∀ x ∈ t :: ts, ∀ c ∈ x, c ≠ ',') :
    splitCommaSpace [] (joinParts (t :: ts)) = t :: ts := by
  induction ts generalizing t with
  | nil =>
    have := splitCS_text [] t [] (h t (by simp))
    simp only [List.append_nil] at this
    rw [joinParts, this, splitCS_nil]; simp
  | cons u us ih =>
    rw [joinParts, splitCS_text [] t _ (h t (by simp)), splitCS_sep, ih u (fun x hx => h x (List.mem_cons_of_mem _ hx))]
    · simp
    · simp

/-- `locChars` is the `join` instance of `opLocChars` -/
theorem locChars_eq_op (l : Loc) : locChars l = opLocChars ['j', 'o', 'i', 'n'] l := by
  cases l <;> simp [locChars, opLocChars]

/-- `locFromChars` forgets the operator `locFromCharsOp` keeps -/
theorem locFromChars_eq_op (s : List Char) : locFromChars s = (locFromCharsOp s).map Prod.snd := by
  unfold locFromChars locFromCharsOp
  split
  · cases parseSingle s <;> simp
  · cases h1 : splitFirst '{' s.dropLast with
    | none => simp
    | some pr =>
      obtain ⟨a, b⟩ := pr
      cases h2 : (splitCommaSpace [] b).mapM parseSingle <;> simp [h2]

/-! ### fuzzy positions -/

theorem intChars_head (i : Int) : ∃ c rest, intChars i = c :: rest ∧ numChar c = true := by
  cases h : intChars i with
  | nil => exact absurd h (intChars_ne_nil i)
  | cons c rest => exact ⟨c, rest, rfl, intChars_numChar i c (by rw [h]; simp)⟩

theorem parsePos_fposChars (p : FPos) : parsePos (fposChars p) = some p := by
  obtain ⟨k, v⟩ := p
  cases k with
  | exact =>
    obtain ⟨c, rest, h, hc⟩ := intChars_head v
    have h1 : c ≠ '<' := numChar_ne hc (by decide)
    have h2 : c ≠ '>' := numChar_ne hc (by decide)
    simp only [fposChars, h, parsePos, h1, h2, if_false]
    rw [← h, parseInt_intChars]; rfl
  | before => simp [fposChars, parsePos, parseInt_intChars]
  | after =>
    have : ('>' : Char) ≠ '<' := by decide
    simp [fposChars, parsePos, parseInt_intChars, this]

/-- the characters a position is printed with -/
def posChar (c : Char) : Bool := numChar c || c == '<' || c == '>'

theorem fposChars_posChar (p : FPos) : ∀ c ∈ fposChars p, posChar c = true := by
  intro c hc
  obtain ⟨k, v⟩ := p
  cases k
  · simp [posChar, intChars_numChar v c (by simpa [fposChars] using hc)]
  · simp only [fposChars, List.mem_cons] at hc
    rcases hc with rfl | h
    · decide
    · simp [posChar, intChars_numChar v c h]
  · simp only [fposChars, List.mem_cons] at hc
    rcases hc with rfl | h
    · decide
    · simp [posChar, intChars_numChar v c h]

theorem posChar_ne {c d : Char} (h : posChar c = true) (hd : posChar d = false) : c ≠ d := by
  intro e; subst e; rw [h] at hd; cases hd

/-- the characters of one printed part -/
def fpartChar (c : Char) : Bool := partChar c || c == '<' || c == '>'

theorem fpartChar_ne {c d : Char} (h : fpartChar c = true) (hd : fpartChar d = false) : c ≠ d := by
  intro e; subst e; rw [h] at hd; cases hd

theorem posChar_fpartChar {c : Char} (h : posChar c = true) : fpartChar c = true := by
  simp only [posChar, Bool.or_eq_true] at h
  rcases h with (h | h) | h
  · simp [fpartChar, partChar, h]
  · simp [fpartChar, h]
  · simp [fpartChar, h]

theorem fpartChars_fpartChar (p : FPart) : ∀ c ∈ fpartChars p, fpartChar c = true := by
  intro c hc
  simp only [fpartChars, List.mem_cons, List.mem_append] at hc
  rcases hc with ((rfl | h) | rfl | h) | rfl | h
  · decide
  · exact posChar_fpartChar (fposChars_posChar _ c h)
  · decide
  · exact posChar_fpartChar (fposChars_posChar _ c h)
  · decide
  · have := strandChars_partChar _ c h
    simp [fpartChar, this]

theorem fpartChars_no (p : FPart) (d : Char) (hd : fpartChar d = false) : ∀ c ∈ fpartChars p, c ≠ d :=
  fun c hc => fpartChar_ne (fpartChars_fpartChar p c hc) hd

theorem fposChars_reverse_head (p : FPos) : ∃ d rest, (fposChars p).reverse = d :: rest ∧ d.isDigit = true := by
  obtain ⟨k, v⟩ := p
  obtain ⟨d, rest, h, hd⟩ := intChars_reverse_head v
  cases k
  · exact ⟨d, rest, by simpa [fposChars] using h, hd⟩
  · exact ⟨d, rest ++ ['<'], by simp [fposChars, h], hd⟩
  · exact ⟨d, rest ++ ['>'], by simp [fposChars, h], hd⟩

/-- the text of a part before its strand suffix -/
def fcorePart (p : FPart) : List Char := '[' :: fposChars p.lo ++ ':' :: fposChars p.hi ++ [']']

theorem fpartChars_eq (p : FPart) : fpartChars p = fcorePart p ++ strandChars p.strand := by
  simp [fpartChars, fcorePart]

theorem fcorePart_no_paren (p : FPart) : ∀ c ∈ fcorePart p, c ≠ '(' := by
  intro c hc
  simp only [fcorePart, List.mem_cons, List.mem_append] at hc
  rcases hc with ((rfl | h) | rfl | h) | rfl | h
  · decide
  · exact posChar_ne (fposChars_posChar _ c h) (by decide)
  · decide
  · exact posChar_ne (fposChars_posChar _ c h) (by decide)
  · decide
  · cases h

theorem parseSingleF_fpartChars (p : FPart) : parseSingleF (fpartChars p) = some p := by
  have hsplit1 : splitFirst ':' (fpartChars p)
      = some ('[' :: fposChars p.lo, fposChars p.hi ++ ']' :: strandChars p.strand) := by
    have : fpartChars p = ('[' :: fposChars p.lo) ++ ':' :: (fposChars p.hi ++ ']' :: strandChars p.strand) := by
      simp [fpartChars]
    rw [this]
    apply splitFirst_append
    intro x hx
    rcases List.mem_cons.1 hx with rfl | h
    · decide
    · exact posChar_ne (fposChars_posChar _ x h) (by decide)
  have hsplit2 : splitFirst ']' (fposChars p.hi ++ ']' :: strandChars p.strand)
      = some (fposChars p.hi, strandChars p.strand) := by
    apply splitFirst_append
    intro x hx
    exact posChar_ne (fposChars_posChar _ x hx) (by decide)
  have hstrand : parseStrand (fpartChars p) = some p.strand := by
    unfold parseStrand
    rw [fpartChars_eq]
    cases hs : p.strand
    · simp [strandChars]
    · simp [strandChars]
    · simp [strandChars]
    · simp only [strandChars, List.append_nil]
      have hrev : (fcorePart p).reverse.drop 1
          = (fposChars p.hi).reverse ++ (':' :: (fposChars p.lo).reverse ++ ['[']) := by
        simp [fcorePart]
      rw [hrev]
      obtain ⟨d, rest, hd, hdig⟩ := fposChars_reverse_head p.hi
      rw [hd]
      have h1 : d ≠ '-' := isDigit_ne hdig (by decide)
      have h2 : d ≠ '+' := isDigit_ne hdig (by decide)
      have h3 : d ≠ '?' := isDigit_ne hdig (by decide)
      have hnp : (fcorePart p).contains '(' = false := by
        cases hc : (fcorePart p).contains '('
        · rfl
        · rw [List.contains_iff_mem] at hc
          exact absurd rfl (fcorePart_no_paren p _ hc)
      simp only [List.cons_append, List.head?_cons, hnp]
      split
      · next h => injection h with h; exact absurd h h1
      · next h => injection h with h; exact absurd h h2
      · next h => injection h with h; exact absurd h h3
      · simp
  simp only [parseSingleF, hsplit1, hsplit2, hstrand, Option.bind_eq_bind, Option.bind_some, List.drop_succ_cons,
    List.drop_zero, parsePos_fposChars, Option.pure_def]

theorem mapM_parseSingleF (ps : List FPart) : (ps.map fpartChars).mapM parseSingleF = some ps := by
  induction ps with
  | nil => rfl
  | cons p ps ih =>
    simp only [List.map_cons, List.mapM_cons, parseSingleF_fpartChars, ih, Option.bind_eq_bind, Option.bind_some,
      Option.pure_def]

/-- the textual form of a location with fuzzy positions, with any operator free of `{`, reads back to the same
location — every position with the class it was written with — and the same operator -/
theorem flocFromChars_flocChars (op : List Char) (hop : ∀ c ∈ op, c ≠ '{') (l : FLoc) (hne : l.parts ≠ []) :
    flocFromChars (flocChars op l) = some (l.opOf op, l) := by
  cases l with
  | simple p =>
    have hnc : (fpartChars p).contains '{' = false := by
      cases hc : (fpartChars p).contains '{'
      · rfl
      · rw [List.contains_iff_mem] at hc
        exact absurd rfl (fpartChars_no p '{' (by decide) _ hc)
    simp only [flocFromChars, flocChars, hnc, Bool.not_false, if_true, parseSingleF_fpartChars, Option.map_some,
      FLoc.opOf]
  | compound ps =>
    match ps, hne with
    | p :: rest, _ =>
      have hc : (flocChars op (.compound (p :: rest))).contains '{' = true := by
        simp [flocChars]
      have hdrop : (flocChars op (.compound (p :: rest))).dropLast
          = op ++ '{' :: joinParts ((p :: rest).map fpartChars) := by
        simp only [flocChars]
        have : op ++ '{' :: joinParts (List.map fpartChars (p :: rest)) ++ ['}']
            = (op ++ '{' :: joinParts (List.map fpartChars (p :: rest))) ++ ['}'] := by simp
        rw [this, List.dropLast_concat]
      have hsplit : splitFirst '{' (op ++ '{' :: joinParts ((p :: rest).map fpartChars))
          = some (op, joinParts ((p :: rest).map fpartChars)) := splitFirst_append _ _ _ hop
      have hjoin : splitCommaSpace [] (joinParts ((p :: rest).map fpartChars)) = (p :: rest).map fpartChars := by
        rw [List.map_cons]
        apply splitCS_join
        intro x hx c hcx
        rw [← List.map_cons] at hx
        obtain ⟨q, _, rfl⟩ := List.mem_map.1 hx
        exact fpartChars_no q ',' (by decide) c hcx
      simp only [flocFromChars, hc, Bool.not_true, Bool.false_eq_true, if_false, hdrop, hsplit, hjoin,
        Option.bind_eq_bind, Option.bind_some, mapM_parseSingleF, Option.pure_def, FLoc.opOf]

/-- on exact positions the fuzzy text is the plain text -/
theorem fpartChars_ofPart (p : Part) : fpartChars (.ofPart p) = partChars p := by
  simp [fpartChars, partChars, FPart.ofPart, FPos.ofInt, fposChars]

theorem flocChars_ofLoc (op : List Char) (l : Loc) : flocChars op (.ofLoc l) = opLocChars op l := by
  cases l with
  | simple p => simp [flocChars, opLocChars, FLoc.ofLoc, fpartChars_ofPart]
  | compound ps =>
    have : (ps.map FPart.ofPart).map fpartChars = ps.map partChars := by
      simp [List.map_map, Function.comp_def, fpartChars_ofPart]
    simp [flocChars, opLocChars, FLoc.ofLoc, this]

/-! ### exact positions, from the fuzzy round trip -/

/-- a position read as exact was read by `parseInt` -/
theorem parseInt_of_parsePos {cs : List Char} {i : Int} (h : parsePos cs = some (.ofInt i)) : parseInt cs = some i := by
  match cs, h with
  | c :: r, h =>
    simp only [parsePos] at h
    by_cases h1 : c = '<'
    · rw [if_pos h1, Option.map_eq_some_iff] at h; obtain ⟨_, _, h⟩ := h; cases h
    · by_cases h2 : c = '>'
      · rw [if_neg h1, if_pos h2, Option.map_eq_some_iff] at h; obtain ⟨_, _, h⟩ := h; cases h
      · rw [if_neg h1, if_neg h2, Option.map_eq_some_iff] at h; obtain ⟨_, h, h'⟩ := h; cases h'; exact h

/-- a part read with two exact positions is what the exact reader gives -/
theorem parseSingle_of_F {s : List Char} {p : Part} (h : parseSingleF s = some (.ofPart p)) : parseSingle s = some p := by
  simp only [parseSingleF, Option.bind_eq_bind, Option.pure_def, Option.bind_eq_some_iff] at h
  obtain ⟨⟨a, b⟩, h1, lo, h2, ⟨e, r⟩, h3, hi, h4, st, h5, h6⟩ := h
  cases h6
  simp only [parseSingle, h1, parseInt_of_parsePos h2, h3, parseInt_of_parsePos h4, h5, Option.bind_eq_bind,
    Option.bind_some, Option.pure_def]

theorem parseSingle_partChars (p : Part) : parseSingle (partChars p) = some p :=
  parseSingle_of_F (fpartChars_ofPart p ▸ parseSingleF_fpartChars (.ofPart p))

theorem mapM_parseSingle_of_F (xs : List (List Char)) (ps : List Part)
    (h : xs.mapM parseSingleF = some (ps.map FPart.ofPart)) : xs.mapM parseSingle = some ps := by
  induction xs generalizing ps with
  | nil => cases ps <;> simp_all
  | cons x xs ih =>
    simp only [List.mapM_cons, Option.bind_eq_bind, Option.pure_def, Option.bind_eq_some_iff] at h
    obtain ⟨q, hq, qs, hqs, he⟩ := h
    cases ps with
    | nil => simp at he
    | cons p ps =>
      simp only [List.map_cons, Option.some.injEq, List.cons.injEq] at he
      obtain ⟨rfl, rfl⟩ := he
      simp only [List.mapM_cons, parseSingle_of_F hq, ih ps hqs, Option.bind_eq_bind, Option.bind_some, Option.pure_def]

/-- a location read with exact positions throughout is what the exact reader gives -/
theorem locFromCharsOp_of_F {s : List Char} {o : Option (List Char)} {l : Loc}
    (h : flocFromChars s = some (o, .ofLoc l)) : locFromCharsOp s = some (o, l) := by
  unfold flocFromChars at h; unfold locFromCharsOp
  by_cases hc : (!s.contains '{') = true
  · rw [if_pos hc] at h ⊢
    rw [Option.map_eq_some_iff] at h
    obtain ⟨q, hq, he⟩ := h
    cases l with
    | simple p => cases he; rw [parseSingle_of_F hq]; rfl
    | compound ps => cases he
  · rw [if_neg hc] at h ⊢
    simp only [Option.bind_eq_bind, Option.pure_def, Option.bind_eq_some_iff] at h
    obtain ⟨⟨op, comb⟩, h1, parts, h2, h3⟩ := h
    cases l with
    | simple p => cases h3
    | compound ps =>
      cases h3; rw [h1]
      simp only [Option.bind_eq_bind, Option.bind_some, mapM_parseSingle_of_F _ ps h2, Option.pure_def]

/-- the textual form of a location, with any operator free of `{`, reads back to the same location and operator -/
theorem locFromCharsOp_opLocChars (op : List Char) (hop : ∀ c ∈ op, c ≠ '{') (l : Loc) (hne : l.parts ≠ []) :
    locFromCharsOp (opLocChars op l) = some (l.opOf op, l) := by
  have hp : (FLoc.ofLoc l).parts ≠ [] := by
    cases l with
    | simple p => exact List.cons_ne_nil _ _
    | compound ps => exact fun h => hne (List.map_eq_nil_iff.1 h)
  have := flocFromChars_flocChars op hop _ hp
  rw [flocChars_ofLoc] at this
  cases l <;> exact locFromCharsOp_of_F this

/-- the textual form of a location reads back to the same location -/
theorem locFromChars_locChars (l : Loc) (hne : l.parts ≠ []) : locFromChars (locChars l) = some l := by
  rw [locChars_eq_op, locFromChars_eq_op, locFromCharsOp_opLocChars _ (by decide) l hne]
  rfl

end ASV
