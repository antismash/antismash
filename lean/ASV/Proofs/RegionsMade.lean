/-
  C06: what `add_sections` and `create_regions` leave, said once: one region per section (`addSections_built`), and for
  `create_regions` in terms of the record's own areas (`MadeFrom`, `createRegions_made`).
-/
import ASV.Proofs.RegionsInv
namespace ASV.Regions
open ASV

/-- ids of the areas of a section, as the region made from it lists them -/
def secIds (sec : Sec) : List Nat := ids (candsOf sec.2) ++ ids (subsOf sec.2)

theorem secIds_perm (sec : Sec) : (secIds sec).Perm (ids sec.2) := by
  rw [secIds, ← ids_append]
  exact (List.filter_append_perm (fun x : Feat => x.kind == Kind.cand) sec.2).map _

theorem secIds_flatten_perm : ∀ secs : List Sec, ((secs.map secIds).flatten).Perm (ids (secs.map (·.2)).flatten)
  | [] => List.Perm.refl _
  | sec :: secs => by
    simp only [List.map_cons, List.flatten_cons, ids_append]
    exact (secIds_perm sec).append (secIds_flatten_perm secs)

/-- `add_sections` adds one region per section: it lists the section's areas, its location is what `Region.__init__`
    computes from them, and every area of a section has a parent afterwards. -/
theorem addSections_built {s s' : State} {secs : List Sec} (h : addSections s secs = .ok s') :
    ∃ rs, s'.regions.Perm (rs ++ s.regions) ∧ rs.map memberIds = secs.map secIds ∧
      (∀ r ∈ rs, ∃ sec ∈ secs, memberIds r = secIds sec ∧ ∃ w, regionWrap ((childrenOf sec.2).map (·.loc)) = .ok w ∧
        connect ((childrenOf sec.2).map (·.loc)) w = .ok r.loc) ∧
      ∀ k, (s.parentOf k ≠ none ∨ k ∈ (secs.map secIds).flatten) → s'.parentOf k ≠ none := by
  induction secs generalizing s with
  | nil =>
    cases addSections_nil_ok h
    exact ⟨[], List.Perm.refl _, rfl, fun r hr => (nomatch hr), fun k hk => hk.resolve_right (by simp)⟩
  | cons sec secs ih =>
    obtain ⟨l, areas⟩ := sec
    obtain ⟨s1, r0, s2, hmk, hadd, h⟩ := addSections_cons_ok h
    obtain ⟨rs, hperm, hmap, hbuilt, hpar⟩ := ih h
    obtain ⟨hloc, _, _, hrk, hrs, _, rfl⟩ := mkRegion_ok hmk
    obtain ⟨index, _, _, _, rfl⟩ := addRegion_ok hadd
    have hm0 : memberIds ({ r0 with cdses := cdsWithin s.cds r0.loc } : Feat) = secIds (l, areas) := by
      simp only [memberIds, hrk, hrs]; rfl
    refine ⟨{ r0 with cdses := cdsWithin s.cds r0.loc } :: rs, ?_, by simp only [List.map_cons, hmap, hm0], ?_, ?_⟩
    · exact hperm.trans ((List.Perm.append_left rs (insertAt_perm _ _ _)).trans List.perm_middle)
    · intro r hr
      rcases List.mem_cons.1 hr with rfl | hr
      · exact ⟨(l, areas), by simp, hm0, hloc⟩
      · obtain ⟨sec, hsec, hk⟩ := hbuilt r hr
        exact ⟨sec, by simp [hsec], hk⟩
    · intro k hk
      apply hpar
      show ((((subsOf areas ++ candsOf areas).foldl (fun d c => d.set c.id (some s.nextRid)) s.parent).get k).join ≠ none) ∨ _
      rw [parentOf_foldl s _ s.nextRid k]
      by_cases hm : k ∈ ids (subsOf areas ++ candsOf areas)
      · left; rw [if_pos hm]; simp
      · rw [if_neg hm]
        rcases hk with hk | hk
        · exact Or.inl hk
        · simp only [List.map_cons, List.flatten_cons, List.mem_append] at hk
          rcases hk with hk | hk
          · exfalso
            apply hm
            simp only [secIds, List.mem_append] at hk
            simp only [ids_append, List.mem_append]
            exact hk.symm
          · exact Or.inr hk

theorem ids_inj {l : List Feat} (hnd : (ids l).Nodup) {f g : Feat} (hf : f ∈ l) (hg : g ∈ l) (e : f.id = g.id) : f = g := by
  induction l with
  | nil => cases hf
  | cons x xs ih =>
    simp only [ids, List.map_cons, List.nodup_cons] at hnd
    simp only [List.mem_cons] at hf hg
    rcases hf with rfl | hf <;> rcases hg with rfl | hg
    · rfl
    · exact absurd (List.mem_map.2 ⟨g, hg, e.symm⟩) hnd.1
    · exact absurd (List.mem_map.2 ⟨f, hf, e⟩) hnd.1
    · exact ih hnd.2 hf hg

/-- the areas of the record a region lists -/
def membersOf (s : State) (r : Feat) : List Feat := (s.cands ++ s.subs).filter fun f => (memberIds r).contains f.id

theorem mem_membersOf {s : State} {r f : Feat} : f ∈ membersOf s r ↔ f ∈ s.cands ++ s.subs ∧ f.id ∈ memberIds r := by
  simp only [membersOf, List.mem_filter, List.contains_iff_mem]

/-- region `r` is `Region(…)` of the areas `fs` of record `s` (in the order the constructor receives them, subregions
    first): it lists exactly them, and its location is what `Region.__init__` computes from theirs -/
structure MadeFrom (s : State) (fs : List Feat) (r : Feat) : Prop where
  sub : ∀ f ∈ fs, f ∈ s.cands ++ s.subs
  members : ∀ f, f ∈ membersOf s r ↔ f ∈ fs
  loc : ∃ w, regionWrap (fs.map (·.loc)) = .ok w ∧ connect (fs.map (·.loc)) w = .ok r.loc

theorem MadeFrom.ne {s : State} {fs : List Feat} {r : Feat} (m : MadeFrom s fs r) : fs ≠ [] := by
  obtain ⟨w, _, hconn⟩ := m.loc
  rintro rfl
  cases hconn

theorem MadeFrom.listed {s : State} {fs : List Feat} {r f : Feat} (m : MadeFrom s fs r) (hf : f ∈ s.cands ++ s.subs)
    (hm : f.id ∈ memberIds r) : f ∈ fs :=
  (m.members f).1 (mem_membersOf.2 ⟨hf, hm⟩)

theorem MadeFrom.lists {s : State} {fs : List Feat} {r f : Feat} (m : MadeFrom s fs r) (hf : f ∈ fs) : f.id ∈ memberIds r :=
  (mem_membersOf.1 ((m.members f).2 hf)).2

/-- After `create_regions` on a record without regions every region was made from the areas of one of the sections.
    What the ring theorems say of a region are then facts about `connect` on those areas, with no induction over
    `add_sections`. -/
theorem createRegions_made {s s' : State} (hi : Inv s) (hreg : s.regions = []) (h : createRegions s = .ok s') :
    ∀ r ∈ s'.regions, ∃ secs, sectionsOf s.wrap s.cands s.subs = .ok secs ∧
      ∃ sec ∈ secs, MadeFrom s (childrenOf sec.2) r := by
  intro r hr
  rcases createRegionsOf_ok h with ⟨_, _, rfl⟩ | ⟨secs, hsecs, h⟩
  · rw [hreg] at hr; cases hr
  · obtain ⟨rs, hperm, _, hbuilt, _⟩ := addSections_built h
    rw [hperm.mem_iff, hreg, List.append_nil] at hr
    obtain ⟨sec, hsec, hk, hloc⟩ := hbuilt r hr
    have hnd := nodup_areas hi
    have hsub := sectionsOf_mem hnd hsecs sec hsec
    refine ⟨secs, hsecs, sec, hsec, fun f hf => hsub f ((mem_childrenOf _ f).1 hf), fun f => ?_, hloc⟩
    rw [mem_membersOf, mem_childrenOf, hk, (secIds_perm sec).mem_iff]
    constructor
    · rintro ⟨hf, hm⟩
      obtain ⟨g, hg, e⟩ := mem_ids.1 hm
      rwa [← ids_inj hnd (hsub g hg) hf e]
    · exact fun hf => ⟨hsub f hf, mem_ids.2 ⟨f, hf, rfl⟩⟩

end ASV.Regions
