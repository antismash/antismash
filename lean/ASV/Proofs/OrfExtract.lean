/-
  C15 helper lemmas: the location reported for an ORF extracts (Biopython reading: slice,
  reverse-complement on strand −1, parts concatenated in order) to the ORF's own nucleotides.
  A ring location extracts to `ringRead` on the forward strand and to its reverse complement on
  the reverse strand; `ringRead` is indexed modulo the record length, as the windows are.
-/
import ASV.Proofs.OrfCoords
namespace ASV.Orf
open ASV

theorem getElem?_take_drop (rec : Seq) (a m t : Nat) :
    ((rec.drop a).take m)[t]? = if t < m then rec[a + t]? else none := by
  rw [List.getElem?_take, List.getElem?_drop]

theorem orfSeq_getElem? (w : Seq) (s e t : Nat) :
    (orfSeq w s e)[t]? = if t < e + 3 - s then w[s + t]? else none :=
  getElem?_take_drop w s (e + 3 - s) t

theorem getElem?_map_reverse (comp : Char → Char) (x : Seq) (t : Nat) :
    ((x.map comp).reverse)[t]? = if t < x.length then (x[x.length - 1 - t]?).map comp else none := by
  split
  · rename_i ht
    rw [List.getElem?_reverse (by rw [List.length_map]; exact ht), List.length_map, List.getElem?_map]
  · rename_i ht
    exact List.getElem?_eq_none (by rw [List.length_reverse, List.length_map]; omega)

theorem sliceI_nat (rec : Seq) (a m : Nat) (lo hi : Int) (hlo : lo = a) (hhi : hi = (a : Int) + m) :
    sliceI rec lo hi = (rec.drop a).take m := by
  subst hlo hhi
  unfold sliceI
  rw [Int.toNat_natCast, show ((a : Int) + m - a).toNat = m by omega]

theorem extract_simple (comp : Char → Char) (rec : Seq) (p : Part) :
    extract comp rec (.simple p) = extractPart comp rec p := by
  simp only [extract, Loc.parts, List.map_cons, List.map_nil, List.flatten_cons, List.flatten_nil,
    List.append_nil]

theorem extract_pair (comp : Char → Char) (rec : Seq) (p q : Part) :
    extract comp rec (.compound [p, q]) = extractPart comp rec p ++ extractPart comp rec q := by
  simp only [extract, Loc.parts, List.map_cons, List.map_nil, List.flatten_cons, List.flatten_nil,
    List.append_nil]

/-- a location on the reverse strand extracts to the reverse complement of what the same
    coordinates extract to on the forward strand (ring) -/
theorem extract_ringLoc_rev (comp : Char → Char) (rec : Seq) (L a m : Int) :
    extract comp rec (ringLoc false L a m) = ((extract comp rec (ringLoc true L a m)).map comp).reverse := by
  unfold ringLoc
  split
  · rw [extract_simple, extract_simple]
    rfl
  · rw [if_neg Bool.false_ne_true, if_pos rfl, extract_pair, extract_pair, List.map_append, List.reverse_append]
    rfl

/-- `m` bases read upward from index `a` of the ring `rec`: on to the end, then from the origin -/
def ringRead (rec : Seq) (a m : Nat) : Seq := (rec.drop a ++ rec).take m

theorem ringRead_length (rec : Seq) (a m : Nat) (hm : m ≤ rec.length) : (ringRead rec a m).length = m := by
  rw [ringRead, List.length_take, List.length_append]
  omega

theorem ringRead_getElem? (rec : Seq) (a m t : Nat) (ha : a ≤ rec.length) (hm : m ≤ rec.length) :
    (ringRead rec a m)[t]? = if t < m then rec[(a + t) % rec.length]? else none := by
  rw [ringRead, List.getElem?_take]
  split
  · rename_i ht
    rw [List.getElem?_append, List.length_drop, List.getElem?_drop]
    split
    · rename_i h1
      rw [Nat.mod_eq_of_lt (by omega)]
    · rename_i h1
      rw [Nat.mod_eq_sub_mod (by omega), Nat.mod_eq_of_lt (by omega)]
      congr 1
      omega
  · rfl

theorem extract_ringLoc_fwd (comp : Char → Char) (rec : Seq) (a m : Nat) (ha : a < rec.length) :
    extract comp rec (ringLoc true rec.length a m) = ringRead rec a m := by
  unfold ringLoc ringRead
  split
  · rw [extract_simple, List.take_append_of_le_length (by rw [List.length_drop]; omega)]
    exact sliceI_nat rec a m _ _ rfl rfl
  · rw [if_pos rfl, extract_pair]
    show sliceI rec a rec.length ++ sliceI rec 0 ((a : Int) + m - rec.length) = _
    rw [sliceI_nat rec a (rec.length - a) _ _ rfl (by omega),
      sliceI_nat rec 0 (a + m - rec.length) 0 _ rfl (by omega), List.drop_zero,
      List.take_of_length_le (l := rec.drop a) (by rw [List.length_drop]; omega),
      show m = (rec.drop a).length + (a + m - rec.length) by rw [List.length_drop]; omega,
      List.take_length_add_append]
    rw [List.length_drop]
    congr 2
    omega

/-- position on the ring of the `t`-th base above a base congruent to `a` -/
theorem ring_index (x : Int) (L a t : Nat) (ha : x % (L : Int) = (a : Int) % L) :
    ((x + (t : Int)) % (L : Int)).toNat = (a + t) % L := by
  rw [← Int.emod_add_emod, ha, Int.emod_add_emod, ← Int.natCast_add, ← Int.natCast_emod, Int.toNat_natCast]

/-- `ringRead` from an index congruent to `x` is the window of the record that starts at `x` -/
theorem ringRead_window (rec : Seq) (x : Int) (a m : Nat) (ha : a ≤ rec.length) (hm : m ≤ rec.length)
    (hx : x % (rec.length : Int) = (a : Int) % rec.length) :
    WindowFwd rec (ringRead rec a m) x rec.length := by
  intro k hk
  rw [ringRead_length rec a m hm] at hk
  rw [ringRead_getElem? rec a m k ha hm, if_pos hk, ring_index x rec.length a k hx]

/-! ### one window predicate, strand and line/ring as variables -/

/-- the per-base map of a strand: the complement on the reverse strand only -/
def strandComp (fwd : Bool) (comp : Char → Char) : Char → Char := if fwd then id else comp

/-- the window scanned on strand `fwd`: index `k` of the window is the record base at `recPos … k`
    (the Spec's coordinate of a window index), complemented on the reverse strand -/
def Window (fwd : Bool) (comp : Char → Char) (rec w : Seq) (offset : Int) (recLen : Option Int) : Prop :=
  ∀ k, k < w.length →
    w[k]? = (rec[(recPos fwd w.length offset recLen k).toNat]?).map (strandComp fwd comp)

theorem windowFwd_iff {comp : Char → Char} {rec w : Seq} {offset L : Int} :
    WindowFwd rec w offset L ↔ Window true comp rec w offset (some L) := by
  simp only [WindowFwd, Window, recPos, strandComp, if_true, Option.map_id, id_eq]

theorem windowRev_iff {comp : Char → Char} {rec w : Seq} {offset L : Int} :
    WindowRev comp rec w offset L ↔ Window false comp rec w offset (some L) := Iff.rfl

theorem windowFwdLin_iff {comp : Char → Char} {rec w : Seq} {offset : Int} :
    WindowFwdLin rec w offset ↔ 0 ≤ offset ∧ Window true comp rec w offset none := by
  simp only [WindowFwdLin, Window, recPos, strandComp, if_true, Option.map_id, id_eq]

theorem windowRevLin_iff {comp : Char → Char} {rec w : Seq} {offset : Int} :
    WindowRevLin comp rec w offset ↔ 0 ≤ offset ∧ Window false comp rec w offset none := Iff.rfl

/-- the `t`-th base a ring location extracts: `t` above the lowest coordinate on the forward strand, `t` below the
    highest on the reverse strand -/
theorem extract_ringLoc_getElem? (fwd : Bool) (comp : Char → Char) (rec : Seq) (a m t : Nat)
    (ha : a < rec.length) (hm : m ≤ rec.length) :
    (extract comp rec (ringLoc fwd rec.length a m))[t]? =
      if t < m then (rec[(a + (if fwd then t else m - 1 - t)) % rec.length]?).map (strandComp fwd comp)
      else none := by
  cases fwd
  · rw [extract_ringLoc_rev, extract_ringLoc_fwd comp rec a m ha, getElem?_map_reverse, ringRead_length rec a m hm,
      ringRead_getElem? rec a m _ (Nat.le_of_lt ha) hm]
    split
    · rw [if_pos (by omega)]
      rfl
    · rfl
  · rw [extract_ringLoc_fwd comp rec a m ha, ringRead_getElem? rec a m t (Nat.le_of_lt ha) hm]
    simp only [strandComp, if_true, Option.map_id, id_eq]

/-- a window of a line that holds an ORF fits the record, so it is a window of the ring of the record's length -/
theorem Window.ring_of_line {fwd : Bool} {comp : Char → Char} {rec w : Seq} {offset : Int} (h0 : 0 ≤ offset)
    (hne : 0 < w.length) (h : Window fwd comp rec w offset none) :
    offset + w.length ≤ rec.length ∧ Window fwd comp rec w offset (some (rec.length : Int)) := by
  -- the window's base nearest the record's end is there
  have hfit : offset + w.length ≤ rec.length := by
    have hk := h (if fwd then w.length - 1 else 0) (by split <;> omega)
    rw [List.getElem?_eq_getElem (by split <;> omega)] at hk
    obtain ⟨c, hc, _⟩ := Option.map_eq_some_iff.mp hk.symm
    have := (List.getElem?_eq_some_iff.mp hc).1
    cases fwd <;> simp only [recPos, Bool.false_eq_true, if_false, if_true] at this <;> omega
  refine ⟨hfit, fun k hk => ?_⟩
  rw [h k hk]
  congr 3
  cases fwd
  · simp only [recPos, Bool.false_eq_true, if_false]
    rw [Int.emod_eq_of_lt (by omega) (by omega)]
  · simp only [recPos, if_true]
    rw [Int.emod_eq_of_lt (by omega) (by omega)]

/-- without a record length the location is the one reported on any ring the window fits -/
theorem orfLoc_line_eq_ring {fwd : Bool} {n : Nat} {offset L : Int} {s e : Nat} (h0 : 0 ≤ offset)
    (hfit : offset + n ≤ L) (hs : s < e) (he : e + 3 ≤ n) :
    orfLoc fwd n offset none s e = orfLoc fwd n offset (some L) s e := by
  have hb : 0 ≤ orfBase fwd n offset s e ∧ orfBase fwd n offset s e + orfLen s e ≤ L := by
    cases fwd <;> simp only [orfBase, orfLen, Bool.false_eq_true, if_false, if_true] <;> omega
  have hm : 0 < orfLen s e := by simp only [orfLen]; omega
  rw [orfLoc_line hs, orfLoc_ring (by omega) hs (by omega), Int.emod_eq_of_lt hb.1 (by omega), ringLoc, if_pos hb.2]

/-- the location reported for an ORF of a window extracts to the ORF: either strand, ring -/
theorem extract_ring (fwd : Bool) (comp : Char → Char) {rec w : Seq} {L : Nat} (hrec : rec.length = L)
    {offset : Int} {s e : Nat} (hL : 0 < L) (hwin : Window fwd comp rec w offset (some (L : Int)))
    (hs : s < e) (he : e + 3 ≤ w.length) (hlen : orfLen s e ≤ L) :
    extract comp rec (orfLoc fwd w.length offset (some (L : Int)) s e) = orfSeq w s e := by
  subst hrec
  obtain ⟨a, hlt, hx, hm, hloc⟩ := orfLoc_ring_nat (fwd := fwd) (n := w.length) (offset := offset) hL hs hlen
  rw [hloc]
  apply List.ext_getElem?
  intro t
  rw [extract_ringLoc_getElem? fwd comp rec a _ t hlt hm, orfSeq_getElem?]
  split
  · rw [hwin (s + t) (by omega), ← ring_index _ _ a _ hx]
    congr 4
    cases fwd <;> simp only [orfBase, Bool.false_eq_true, if_false, if_true] <;> omega
  · rfl

/-- without a record length: the window fits the record, which is then a ring that the ORF does not wrap -/
theorem extract_line (fwd : Bool) (comp : Char → Char) {rec w : Seq} {offset : Int} {s e : Nat} (h0 : 0 ≤ offset)
    (hwin : Window fwd comp rec w offset none) (hs : s < e) (he : e + 3 ≤ w.length) :
    extract comp rec (orfLoc fwd w.length offset none s e) = orfSeq w s e := by
  obtain ⟨hfit, hring⟩ := hwin.ring_of_line h0 (by omega)
  rw [orfLoc_line_eq_ring h0 hfit hs he]
  exact extract_ring fwd comp rfl (by omega) hring hs he (by simp only [orfLen]; omega)
end ASV.Orf
