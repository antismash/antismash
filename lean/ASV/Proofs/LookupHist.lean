/-
  From the invariant to the property's statements about children, definition sets, region links and sections.
-/
import ASV.Proofs.LookupRun
namespace ASV.Lookup
open ASV

/-- what the property assumes of a history: well-formed arguments (genes, collections, regions only at the
    top of a collection tree); one id names one object; children lie inside their parents -/
structure HistoryOK (ops : List Op) : Prop where
  opOK : ∀ op ∈ ops, OpOK op
  ids : ∀ a ∈ opsAreas ops, ∀ b ∈ opsAreas ops, ∀ d ∈ nodes a, ∀ e ∈ nodes b, d.id = e.id →
    d.loc = e.loc ∧ d.core = e.core ∧ d.product = e.product ∧ d.kind = e.kind
  inside : ∀ a ∈ opsAreas ops, KidsInside a

/-- a gene linked to `d` is contained in it, and `d` is a node of one of the collections -/
theorem LinkedS.contained {areas : List AreaT} {g : Gene} {d : AreaT} {s : Section} (h : LinkedS areas g d s) :
    containedBy g.loc d.loc = true ∧ ∃ a ∈ areas, d ∈ nodes a := by
  obtain ⟨a, ha, hc, hd⟩ := h
  obtain ⟨h1, h2⟩ := downNodes_sound hc hd
  exact ⟨h1, a, ha, h2⟩

theorem registered_eq_live {S : Prop} {L : Live} {ever : List AreaT} {r : Rec} (c : InvCore S L ever r) : registered r = L.areas := by
  simp only [registered, Live.areas, c.regionsEq, c.protosEq, c.candsEq, c.subsEq]

/-- with distinct names, a gene's name is among the names of the genes passing a test iff the gene passes it -/
theorem mem_filter_ids {fs : List Gene} (hids : fs.Pairwise fun a b => a.id ≠ b.id) {g : Gene} (hg : g ∈ fs)
    (p : Gene → Bool) : g.id ∈ (fs.filter p).map (·.id) ↔ p g = true := by
  simp only [List.mem_map, List.mem_filter]
  constructor
  · rintro ⟨g', ⟨hg', hp⟩, hid⟩
    rwa [← gene_of_id hids hg hg' hid]
  · exact fun hp => ⟨g, ⟨hg, hp⟩, rfl⟩

/-- a collection handed to the record at some time — still in it or cleared — never lists a gene it does not contain -/
theorem children_sound_of_inv {S : Prop} {ops : List Op} {r : Rec} (inv : InvCore S (liveAfter ops) (opsAreas ops) r)
    (hok : HistoryOK ops) (a : AreaT) (ha : a ∈ opsAreas ops) (d : AreaT) (hd : d ∈ nodes a) (gid : Nat)
    (hm : gid ∈ r.children d.id) : gid ∈ specChildren r.genes d := by
  rw [mem_children] at hm
  obtain ⟨g, hg, d', ⟨s, hl⟩, hx⟩ := inv.membersSound _ hm
  injection hx with h1 h2
  obtain ⟨hc, a', ha', hd'⟩ := hl.contained
  have e := (hok.ids a' ha' a ha d' hd' d hd h1.symm).1
  simp only [specChildren, List.mem_map, List.mem_filter]
  refine ⟨g, ⟨hg, ?_⟩, h2.symm⟩
  rw [← containedBy_eq_spec (LocOK.parts_le (inv.ok g hg)), ← e]; exact hc

/-- every collection currently in the record, and every descendant of one, lists exactly the genes its
    location contains -/
theorem children_exact_of_inv {S : Prop} {ops : List Op} {r : Rec} (inv : InvCore S (liveAfter ops) (opsAreas ops) r)
    (hok : HistoryOK ops) (a : AreaT) (ha : a ∈ (liveAfter ops).areas) (d : AreaT) (hd : d ∈ nodes a) (gid : Nat) :
    gid ∈ r.children d.id ↔ gid ∈ specChildren r.genes d := by
  have har : a ∈ registered r := by rw [registered_eq_live inv]; exact ha
  have hae := inv.liveEver a har
  refine ⟨children_sound_of_inv inv hok a hae d hd gid, fun hm => ?_⟩
  simp only [specChildren, List.mem_map, List.mem_filter] at hm
  obtain ⟨g, ⟨hg, hc⟩, rfl⟩ := hm
  rw [← containedBy_eq_spec (LocOK.parts_le (inv.ok g hg))] at hc
  obtain ⟨h1, s, h2⟩ := downNodes_complete (hok.inside a hae) hd hc
  exact (mem_children r d.id g.id).2 (inv.membersComplete g hg d ⟨s, a, har, h1, h2⟩)

/-- where the definition-set part of the invariant holds (`hS`), a protocluster's defining genes are the genes inside it
    and inside its core that carry a core annotation for its product -/
theorem definition_exact_of_inv {S : Prop} (hS : S) {ops : List Op} {r : Rec}
    (inv : InvCore S (liveAfter ops) (opsAreas ops) r) (hok : HistoryOK ops) (a : AreaT) (ha : a ∈ (liveAfter ops).areas)
    (d : AreaT) (hd : d ∈ nodes a) (hk : d.kind = .proto) (gid : Nat) :
    gid ∈ r.definition d.id ↔ gid ∈ specDefinition r.genes d := by
  have har : a ∈ registered r := by rw [registered_eq_live inv]; exact ha
  have hae := inv.liveEver a har
  rw [mem_definition]
  simp only [specDefinition, List.mem_map, List.mem_filter, Bool.and_eq_true]
  constructor
  · intro hm
    obtain ⟨g, hg, d', ⟨s, hl⟩, hdef, hx⟩ := inv.defsSound hS _ hm
    injection hx with h1 h2
    obtain ⟨hc, a', ha', hd'⟩ := hl.contained
    obtain ⟨e1, e2, e3, _⟩ := hok.ids a' ha' a hae d' hd' d hd h1.symm
    simp only [defines, Bool.and_eq_true, beq_iff_eq] at hdef
    refine ⟨g, ⟨hg, ⟨?_, ?_⟩, ?_⟩, h2.symm⟩
    · rw [← containedBy_eq_spec (LocOK.parts_le (inv.ok g hg)), ← e1]; exact hc
    · rw [← containedBy_eq_spec (LocOK.parts_le (inv.ok g hg)), ← e2]; exact hdef.1.2
    · rw [← e3]; exact hdef.2
  · rintro ⟨g, ⟨hg, ⟨hc, hcore⟩, hprod⟩, rfl⟩
    rw [← containedBy_eq_spec (LocOK.parts_le (inv.ok g hg))] at hc hcore
    obtain ⟨h1, s, h2⟩ := downNodes_complete (hok.inside a hae) hd hc
    refine inv.defsComplete hS g hg d ⟨s, a, har, h1, h2⟩ ?_
    have hp : d.product ∈ g.cores := by simpa using hprod
    simp [defines, hk, hcore, hp]

/-- … in the spec's terms, with uniqueness: no two regions contain the same gene -/
theorem InvCore.region_unique {S : Prop} {L : Live} {ever : List AreaT} {r : Rec} (inv : InvCore S L ever r) {g : Gene}
    (hg : g ∈ r.genes) :
    (∀ a ∈ r.regions, specContained g.loc a.loc = true → r.regionOfGene g.id = some a.id) ∧
    ((∀ a ∈ r.regions, specContained g.loc a.loc = false) → r.regionOfGene g.id = none) ∧
    (∀ a ∈ r.regions, ∀ b ∈ r.regions, specContained g.loc a.loc = true → specContained g.loc b.loc = true → a = b) := by
  have hc : ∀ a : AreaT, containedBy g.loc a.loc = specContained g.loc a.loc :=
    fun a => containedBy_eq_spec (LocOK.parts_le (inv.ok g hg)) a.loc
  obtain ⟨h1, h2⟩ := inv.regionPtr g hg
  simp only [hc] at h1 h2
  exact ⟨h1, h2, fun a ha b hb hca hcb =>
    containing_unique inv.disjoint inv.lists.regionQ (inv.ok g hg) ha hb ((hc a).trans hca) ((hc b).trans hcb)⟩

/-- the three sections of a collection that is only ever reached as the root of a collection tree (`hroot`): the
    genes it contains, split by the rule of `specSection` -/
theorem root_sections_exact {S : Prop} {ops : List Op} {r : Rec} (inv : InvCore S (liveAfter ops) (opsAreas ops) r)
    (hok : HistoryOK ops) (a : AreaT) (har : a ∈ registered r)
    (hroot : ∀ a' ∈ opsAreas ops, ∀ g d s, LinkedS [a'] g d s → d.id = a.id → d = a') (s : Section) (gid : Nat) :
    gid ∈ r.section a.id s ↔
      ∃ g ∈ r.genes, g.id = gid ∧ specContained g.loc a.loc = true ∧ specSection a.loc g.loc = s := by
  have hae := inv.liveEver a har
  rw [mem_section]
  constructor
  · intro hm
    obtain ⟨g, hg, d, s', ⟨a', ha', hc, hd⟩, hx⟩ := inv.sectionsSound _ hm
    injection hx with h1 h2
    injection h1 with h1 h3
    obtain rfl := hroot a' ha' g d s' ⟨a', List.mem_singleton.2 rfl, hc, hd⟩ h1.symm
    have hs := down_root_section hd
    obtain ⟨e1, _, _, _⟩ := hok.ids d ha' a hae d (nodes_self d) a (nodes_self a) h1.symm
    refine ⟨g, hg, h2.symm, ?_, ?_⟩
    · rw [← containedBy_eq_spec (LocOK.parts_le (inv.ok g hg)), ← e1]; exact hc
    · rw [h3, hs, ownSection_eq_spec d g (inv.ok g hg), e1]
  · rintro ⟨g, hg, rfl, hc, hs⟩
    rw [← containedBy_eq_spec (LocOK.parts_le (inv.ok g hg))] at hc
    have := inv.sectionsComplete g hg a (ownSection a g none) ⟨a, har, hc, downNodes_self g none a⟩
    rw [ownSection_eq_spec a g (inv.ok g hg), hs] at this
    exact this

/-- a region's three sections (regions are nobody's children) -/
theorem region_sections_exact_of_inv {S : Prop} {ops : List Op} {r : Rec} (inv : InvCore S (liveAfter ops) (opsAreas ops) r)
    (hok : HistoryOK ops) (a : AreaT) (ha : a ∈ r.regions) (s : Section) (gid : Nat) :
    gid ∈ r.section a.id s ↔
      ∃ g ∈ r.genes, g.id = gid ∧ specContained g.loc a.loc = true ∧ specSection a.loc g.loc = s := by
  have har := regions_sub_registered r a ha
  refine root_sections_exact inv hok a har (fun a' ha' g d s' hl hid => ?_) s gid
  obtain ⟨_, b, hb, hn⟩ := hl.contained
  obtain rfl := List.mem_singleton.1 hb
  obtain ⟨_, _, _, e4⟩ := hok.ids b ha' a (inv.liveEver a har) d hn a (nodes_self a) hid
  exact (inv.areasOK b ha').2 d hn (by rw [e4]; exact inv.kindsR a ha)

end ASV.Lookup
