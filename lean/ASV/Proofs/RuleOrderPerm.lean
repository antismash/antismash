/-
  C07: stages of a detection run under a re-ordering of their input list — `mapM` under `List.Perm`,
  `apply_extenders`, the first loop of `find_protoclusters` (`foundOf`), and the decomposition of a run into
  its stages.
-/
import ASV.Proofs.RuleOrder
import ASV.Proofs.ProtoRingFinal
namespace ASV.Proto
open ASV ASV.Rules

theorem mapM_cons_ok {α β : Type} (f : α → E β) (a : α) (l : List α) (out : List β) :
    (a :: l).mapM f = .ok out ↔ ∃ b bs, f a = .ok b ∧ l.mapM f = .ok bs ∧ out = b :: bs := by
  rw [List.mapM_cons]
  constructor
  · intro h
    obtain ⟨b, hb, h⟩ := bind_ok h
    obtain ⟨bs, hbs, h⟩ := bind_ok h
    exact ⟨b, bs, hb, hbs, (Except.ok.inj h).symm⟩
  · rintro ⟨b, bs, hb, hbs, rfl⟩
    rw [hb, hbs]
    rfl

theorem mapM_perm {α β : Type} (f : α → E β) {l l' : List α} (hp : l.Perm l') :
    ∀ out, l.mapM f = .ok out → ∃ out', l'.mapM f = .ok out' ∧ out.Perm out' := by
  induction hp with
  | nil => intro out h; exact ⟨out, h, List.Perm.refl _⟩
  | cons a _ ih =>
    intro out h
    obtain ⟨b, bs, h1, h2, rfl⟩ := (mapM_cons_ok f a _ out).1 h
    obtain ⟨bs', h3, hp'⟩ := ih bs h2
    exact ⟨b :: bs', (mapM_cons_ok f a _ _).2 ⟨b, bs', h1, h3, rfl⟩, hp'.cons b⟩
  | swap a c l =>
    intro out h
    obtain ⟨b, bs, h1, h2, rfl⟩ := (mapM_cons_ok f c _ out).1 h
    obtain ⟨d, ds, h3, h4, rfl⟩ := (mapM_cons_ok f a _ bs).1 h2
    exact ⟨d :: b :: ds, (mapM_cons_ok f a _ _).2 ⟨d, b :: ds, h3, (mapM_cons_ok f c _ _).2 ⟨b, ds, h1, h4, rfl⟩, rfl⟩,
      List.Perm.swap d b ds⟩
  | trans _ _ ih1 ih2 =>
    intro out h
    obtain ⟨o1, h1, p1⟩ := ih1 out h
    obtain ⟨o2, h2, p2⟩ := ih2 o1 h1
    exact ⟨o2, h2, p1.trans p2⟩

theorem mapM_congr_mem {α β : Type} (f g : α → E β) : ∀ (l : List α), (∀ a ∈ l, f a = g a) → l.mapM f = l.mapM g := by
  intro l
  induction l with
  | nil => intro _; rfl
  | cons a l ih =>
    intro h
    simp only [List.mapM_cons, h a (by simp), ih (fun x hx => h x (by simp [hx]))]

theorem applyExtenders_perm (within : Lookup) (r : Rec) (rules rules' : List RuleM) (clusters clusters' : List PC)
    (hp : clusters.Perm clusters')
    (hrule : ∀ pc ∈ clusters, ∃ rule, findRule rules pc.rule = .ok rule ∧ findRule rules' pc.rule = .ok rule)
    (out : List PC) (doms : Doms) (h : applyExtenders within r rules clusters = .ok (out, doms)) :
    ∃ out' doms', applyExtenders within r rules' clusters' = .ok (out', doms') ∧ out.Perm out' ∧ doms.Perm doms' := by
  obtain ⟨res, hm, h⟩ := bind_ok h
  cases h
  have hcongr : clusters.mapM (extendCluster within r rules) = clusters.mapM (extendCluster within r rules') := by
    apply mapM_congr_mem
    intro pc hpc
    obtain ⟨rule, h1, h2⟩ := hrule pc hpc
    exact extendCluster_independent within r rules rules' pc rule h1 h2
  rw [hcongr] at hm
  obtain ⟨res', hm', hperm⟩ := mapM_perm (extendCluster within r rules') hp res hm
  refine ⟨res'.map (·.1), res'.flatMap (·.2), ?_, hperm.map _, hperm.flatMap_right _⟩
  rw [applyExtenders, hm']
  rfl

/-- one turn of the loop: `rule = rules_by_name[cluster_type]`, then the cores and neighbourhoods of that rule -/
def foundStep (r : Rec) (rules : List RuleM) (x : String × List Gene) : E (List PC) := do
  let rule ← findRule rules x.1
  clustersOfRule r rule x.2

/-- `cluster_type_hits.items()`: rule name and anchoring genes -/
def anchorEntry (res : RuleResults) (rule : RuleM) : String × List Gene := (rule.name, dedupIds (hitsFor res rule.name))

def hasAnchors (x : String × List Gene) : Bool := !x.2.isEmpty

/-- the protoclusters `find_protoclusters` forms rule by rule before anything is merged, extended or removed —
    the expression `detectStages` binds `found` to -/
def foundOf (r : Rec) (rules : List RuleM) (res : RuleResults) : E (List (List PC)) :=
  ((rules.map (anchorEntry res)).filter hasAnchors).mapM (foundStep r rules)

theorem isEmpty_congr {α : Type} {a b : List α} (h : ∀ g, g ∈ a ↔ g ∈ b) : a.isEmpty = b.isEmpty := by
  rw [Bool.eq_iff_iff, List.isEmpty_iff, List.isEmpty_iff, List.eq_nil_iff_forall_not_mem,
    List.eq_nil_iff_forall_not_mem]
  exact forall_congr' fun g => not_congr (h g)

/-- `clustersOfRule` on the anchoring genes `res` records for the rule -/
def clustersFrom (r : Rec) (res : RuleResults) (rule : RuleM) : E (List PC) :=
  clustersOfRule r rule (dedupIds (hitsFor res rule.name))

/-- the rule has anchoring genes in `res` -/
def keptRule (res : RuleResults) (rule : RuleM) : Bool := !(dedupIds (hitsFor res rule.name)).isEmpty

/-- distinct names make `findRule` return the rule it was asked for, so the loop over `cluster_type_hits` is a
    `mapM` over the rules themselves (those with anchoring genes) and `mapM_perm` applies to it -/
theorem foundOf_eq (r : Rec) (rules : List RuleM) (res : RuleResults) (hd : NamesDistinct rules) :
    foundOf r rules res = (rules.filter (keptRule res)).mapM (clustersFrom r res) := by
  unfold foundOf
  rw [List.filter_map, List.mapM_map]
  apply mapM_congr_mem
  intro a ha
  have hfa := findRule_of_distinct rules hd a (List.mem_filter.1 ha).1
  simp only [Function.comp, foundStep, anchorEntry, clustersFrom, hfa, bind, Except.bind]

theorem foundOf_perm (within : Lookup) (r : Rec) (rules rules' : List RuleM) (hp : rules.Perm rules')
    (hd : NamesDistinct rules) (res res' : RuleResults)
    (h : ruleResults within r rules = .ok res) (h' : ruleResults within r rules' = .ok res')
    (found : List (List PC)) (hf : foundOf r rules res = .ok found) :
    ∃ found', foundOf r rules' res' = .ok found' ∧ found.flatten.Perm found'.flatten := by
  have hd' : NamesDistinct rules' := hd.sub (fun x hx => hp.mem_iff.2 hx)
  have hmem : ∀ rule ∈ rules, ∀ g, g ∈ dedupIds (hitsFor res rule.name) ↔ g ∈ dedupIds (hitsFor res' rule.name) := by
    intro rule hr g
    rw [mem_dedupIds, mem_dedupIds, mem_hitsFor_iff within r rules res h hd rule hr g,
      mem_hitsFor_iff within r rules' res' h' hd' rule (hp.mem_iff.1 hr) g]
  rw [foundOf_eq r rules res hd] at hf
  rw [foundOf_eq r rules' res' hd']
  -- the same rules are kept and each gets the same protoclusters, whichever results are consulted
  have hfilter : rules'.filter (keptRule res') = rules'.filter (keptRule res) := by
    apply List.filter_congr
    intro rule hr
    simp only [keptRule]
    rw [isEmpty_congr (hmem rule (hp.mem_iff.2 hr))]
  have hmap : (rules'.filter (keptRule res)).mapM (clustersFrom r res') =
      (rules'.filter (keptRule res)).mapM (clustersFrom r res) := by
    apply mapM_congr_mem
    intro rule hr
    have hr' := (List.mem_filter.1 hr).1
    exact clustersOfRule_congr r rule _ _ (fun g => (hmem rule (hp.mem_iff.2 hr') g).symm)
  rw [hfilter, hmap]
  obtain ⟨found', h1, h2⟩ := mapM_perm (clustersFrom r res) (hp.filter (keptRule res)) found hf
  exact ⟨found', h1, h2.flatten⟩

theorem detectStages_stages (within : Lookup) (r : Rec) (rules : List RuleM) (s : Stages)
    (hne : r.genes.isEmpty = false) (hres : (r.genes.filter (·.hasRes)).isEmpty = false)
    (h : detectStages within r rules = .ok s) :
    ∃ (res : RuleResults) (found0 : List (List PC)) (found ext0 : List PC) (d : Doms) (ext kept : List PC),
      ruleResults within r rules = .ok res ∧ foundOf r rules res = .ok found0 ∧
      mergeOverOrigin r rules found0.flatten = .ok found ∧
      applyExtenders within r rules found = .ok (ext0, d) ∧
      mergeOverOrigin r rules ext0 = .ok ext ∧
      removeRedundant within rules ext = .ok kept ∧
      s.final.map (·.pc) = kept := by
  unfold detectStages at h
  simp only [hne, hres, Bool.false_eq_true, if_false] at h
  obtain ⟨res, hr, h⟩ := bind_ok h
  obtain ⟨found0, hf0, h⟩ := bind_ok h
  obtain ⟨found, hf, h⟩ := bind_ok h
  obtain ⟨⟨ext0, d⟩, hext, h⟩ := bind_ok h
  obtain ⟨ext, hm, h⟩ := bind_ok h
  obtain ⟨kept, hk, h⟩ := bind_ok h
  simp only [pure, Except.pure, Except.ok.injEq] at h
  subst h
  exact ⟨res, found0, found, ext0, d, ext, kept, hr, hf0, hf, hext, hm, hk, by simp [List.map_map, Function.comp_def]⟩

end ASV.Proto
