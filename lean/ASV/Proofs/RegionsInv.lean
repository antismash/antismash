/-
  C06: the invariant is preserved by every elementary write (`Prim.inv`), by `create_regions`, and every operation is
  a sequence of elementary writes (`step_steps`, `run_steps`): what the writes keep holds after every history.
-/
import ASV.Proofs.RegionsEff
namespace ASV.Regions
open ASV

/-- areas drawn from candidate clusters `C` and subregions `S` split by kind into members of `C` and of `S` -/
theorem split_by_kind {C S areas : List Feat} (hC : ∀ f ∈ C, f.kind = .cand) (hS : ∀ f ∈ S, f.kind = .sub)
    (hin : ∀ a ∈ areas, a ∈ C ++ S) :
    (∀ f ∈ areas.filter (·.kind == .cand), f ∈ C) ∧ (∀ f ∈ areas.filter (·.kind != .cand), f ∈ S) := by
  constructor
  · intro f hf
    obtain ⟨hfa, hk⟩ := List.mem_filter.1 hf
    rcases List.mem_append.1 (hin f hfa) with h | h
    · exact h
    · rw [hS f h] at hk; cases hk
  · intro f hf
    obtain ⟨hfa, hk⟩ := List.mem_filter.1 hf
    rcases List.mem_append.1 (hin f hfa) with h | h
    · rw [hC f h] at hk; cases hk
    · exact h

/-- Whatever `Region(…)` followed by `add_region` keeps for one section, `add_sections` keeps for all of them, along
    with the invariant.  The record's own lists do not change on the way (`SameAreas`), so where the sections' areas
    come from is said once, as a list `M` of areas of the start state `s0`. -/
theorem addSections_preserves {P : State → Prop} {s0 : State} {M : List Feat}
    (hM : ∀ a ∈ M, a ∈ (s0.cands ++ s0.pool) ++ s0.subs)
    (step : ∀ {t t1 t2 : State} {areas : List Feat} {r : Feat}, Inv t → SameAreas s0 t → P t → (∀ a ∈ areas, a ∈ M) →
      (∀ f ∈ areas.filter (·.kind == .cand), f ∈ t.cands ++ t.pool) → (∀ f ∈ areas.filter (·.kind != .cand), f ∈ t.subs) →
      mkRegion t (areas.filter (·.kind == .cand)) (areas.filter (·.kind != .cand)) = .ok (t1, r) →
      addRegion t1 r = .ok t2 → P t2)
    {s s' : State} {secs : List Sec} (hi : Inv s) (hsame : SameAreas s0 s) (hp : P s)
    (hsub : ∀ sec ∈ secs, ∀ a ∈ sec.2, a ∈ M) (h : addSections s secs = .ok s') :
    Inv s' ∧ SameAreas s0 s' ∧ P s' := by
  induction secs generalizing s with
  | nil =>
    cases addSections_nil_ok h
    exact ⟨hi, hsame, hp⟩
  | cons sec secs ih =>
    obtain ⟨l, areas⟩ := sec
    obtain ⟨s1, r, s2, hmk, hadd, h⟩ := addSections_cons_ok h
    have hin : ∀ a ∈ areas, a ∈ M := hsub (l, areas) (by simp)
    obtain ⟨hc, hs⟩ := split_by_kind hi.kindCP hi.kindS (areas := areas) (by
      rw [hsame.cands, hsame.subs, hsame.pool]
      exact fun a ha => hM a (hin a ha))
    obtain ⟨hi2, hsame2⟩ := mkAddRegion_inv hi hc hs hmk hadd
    exact ih hi2 (hsame.trans hsame2) (step hi hsame hp hin hc hs hmk hadd) (fun sec hsec => hsub sec (by simp [hsec])) h

theorem addSections_inv {s s' : State} {secs : List Sec} (hi : Inv s)
    (hsub : ∀ sec ∈ secs, ∀ a ∈ sec.2, a ∈ s.cands ++ s.pool ++ s.subs)
    (h : addSections s secs = .ok s') : Inv s' ∧ SameAreas s s' := by
  obtain ⟨hi', hsame, _⟩ := addSections_preserves (P := fun _ => True) (s0 := s) (fun a ha => ha)
    (fun _ _ _ _ _ _ _ _ => trivial) hi (SameAreas.refl s) trivial hsub h
  exact ⟨hi', hsame⟩

/-- `create_regions(candidate_clusters=cands, subregions=subs)` for candidate clusters of the record or
    constructed ones, and subregions of the record -/
theorem createRegionsOf_inv {s s' : State} {cands subs : List Feat} (hi : Inv s)
    (hc : ∀ f ∈ cands, f ∈ s.cands ++ s.pool) (hs : ∀ f ∈ subs, f ∈ s.subs)
    (hnd : (ids (cands ++ subs)).Nodup)
    (h : createRegionsOf s cands subs = .ok s') : Inv s' ∧ SameAreas s s' := by
  rcases createRegionsOf_ok h with ⟨hcn, hsn, rfl⟩ | ⟨secs, hsecs, h⟩
  · exact ⟨hi, SameAreas.refl _⟩
  · apply addSections_inv hi _ h
    intro sec hsec a ha
    rcases List.mem_append.1 (sectionsOf_mem hnd hsecs sec hsec a ha) with h1 | h1
    · exact List.mem_append.2 (Or.inl (hc a h1))
    · exact List.mem_append.2 (Or.inr (hs a h1))

theorem createRegions_inv {s s' : State} (hi : Inv s) (h : createRegions s = .ok s') : Inv s' ∧ SameAreas s s' :=
  createRegionsOf_inv hi (fun f hf => List.mem_append.2 (Or.inl hf)) (fun f hf => hf) (nodup_areas hi) h

theorem createRegionsOf_steps {A : Loc → Prop} {s s' : State} {cands subs : List Feat} (hi : Inv s)
    (hc : ∀ f ∈ cands, f ∈ s.cands ++ s.pool) (hs : ∀ f ∈ subs, f ∈ s.subs) (hnd : (ids (cands ++ subs)).Nodup)
    (h : createRegionsOf s cands subs = .ok s') : Steps A s s' := by
  rcases createRegionsOf_ok h with ⟨_, _, rfl⟩ | ⟨secs, hsecs, h⟩
  · exact .refl
  · refine (addSections_preserves (P := Steps A s) (s0 := s) (fun a ha => ha)
      (fun _ _ hst _ hc hs hmk hadd => .tail hst (.region hc hs hmk hadd)) hi (SameAreas.refl s) .refl ?_ h).2.2
    intro sec hsec a ha
    rcases List.mem_append.1 (sectionsOf_mem hnd hsecs sec hsec a ha) with h1 | h1
    · exact List.mem_append.2 (Or.inl (hc a h1))
    · exact List.mem_append.2 (Or.inr (hs a h1))

/-- the tail of `clear_candidate_clusters` / `clear_subregions`, after the elementary write `hd` that dropped the list -/
theorem clearThen_steps {A : Loc → Prop} {s t s' : State} (hi : Inv s) (hd : Steps A s t)
    (h : (if !t.regions.isEmpty then createRegions (clearRegions t) else pure t) = .ok s') : Steps A s s' := by
  rcases clearThen_ok h with h | rfl
  · have hi' := (hd.tail .clearRegions).inv hi
    exact (hd.tail .clearRegions).trans (createRegionsOf_steps hi' (fun f hf => List.mem_append.2 (Or.inl hf))
      (fun f hf => hf) (nodup_areas hi') h)
  · exact hd

theorem step_steps {A : Loc → Prop} {s s' : State} (op : Op) (hi : Inv s)
    (hA : ∀ loc, op = .addProto loc ∨ op = .addSub loc → A loc) (h : step s op = .ok s') : Steps A s s' := by
  cases op with
  | addProto loc =>
    obtain ⟨l, d, hins, rfl⟩ := addProtocluster_ok h
    exact .one (.addProto (hA loc (Or.inl rfl)) hins)
  | addSub loc =>
    obtain ⟨l, d, hins, rfl⟩ := addSubregion_ok h
    exact .one (.addSub (hA loc (Or.inr rfl)) hins)
  | mkCand pids =>
    obtain ⟨s1, c, hv, rfl⟩ := step_mkCand_ok h
    obtain ⟨ps, hps, hpm, hcid, hck, hckind, hne, hconn, rfl⟩ := mkCand_ok hv
    have h1 : Prim A s _ := .poolAdd (c := c) hcid hckind hpm (hck.trans hps.symm) hne hconn
    have h2 := Prim.link (A := A) (s := { s with nextId := s.nextId + 1, pool := s.pool ++ [c] }) (c := c) (ps := ps)
      (List.mem_append.2 (Or.inr (List.mem_append.2 (Or.inr (List.mem_singleton.2 rfl))))) hpm
      (by rw [hck, hps]; exact fun _ hk => hk)
    rw [hcid] at h2
    exact .tail (.one h1) h2
  | addCand id => exact .one (.addCand h)
  | reparent pids cid =>
    obtain ⟨c, ps, hcm, hpm, hkids, rfl⟩ := step_reparent_ok h
    exact .one (.link hcm hpm hkids)
  | addRegion cs ss =>
    obtain ⟨cands, subs, s1, r, hc, hs, hmk, h⟩ := step_addRegion_ok h
    exact .one (.region (fun f hf => List.mem_append.2 (Or.inl (hc f hf))) hs hmk h)
  | createRegionsWith cs ss =>
    -- a repeated area would be put into a region twice and the second `add_region` refused; the model (like the
    -- harness) only passes each area once (`hnd`)
    obtain ⟨cands, subs, e, hnd, hcm, hsm, h⟩ := step_createRegionsWith_ok h
    exact createRegionsOf_steps hi hcm hsm (by rw [e]; exact hnd) h
  | clearProtos =>
    have h0 : Steps A s { s with protos := [] } := .one .dropProtos
    exact clearThen_steps hi (h0.tail .dropCands) h
  | clearCands => exact clearThen_steps hi (.one .dropCands) h
  | clearSubs => exact clearThen_steps hi (.one .dropSubs) h
  | clearRegions =>
    cases h
    exact .one .clearRegions
  | createRegions =>
    exact createRegionsOf_steps hi (fun f hf => List.mem_append.2 (Or.inl hf)) (fun f hf => hf) (nodup_areas hi) h

theorem run_steps {A : Loc → Prop} {s s' : State} (ops : List Op) (hi : Inv s)
    (hA : ∀ op ∈ ops, ∀ loc, op = .addProto loc ∨ op = .addSub loc → A loc) (h : run s ops = .ok s') : Steps A s s' := by
  induction ops generalizing s with
  | nil =>
    cases h
    exact .refl
  | cons op ops ih =>
    obtain ⟨s1, hs1, h⟩ := run_cons_ok h
    have h1 := step_steps (A := A) op hi (hA op (by simp)) hs1
    exact h1.trans (ih (h1.inv hi) (fun o ho => hA o (by simp [ho])) h)

theorem init_inv (len : Int) (circ : Bool) (cds : List Loc) : Inv { len := len, circular := circ, cds := cds } := by
  refine ⟨by simp [ids], by simp, by simp [ids], by simp, ?_, ?_, ?_, ?_, by simp, by simp, by simp, by simp, by simp, ?_, ?_,
    by simp, by simp, by simp, by simp⟩
  all_goals first
    | (intro j f hf; simp at hf)
    | (intro i p hp; simp [State.regionOfCds, Dict.get] at hp)
    | (intro k _; simp [State.parentOf, Dict.get])

/-- ids of the children of a region -/
def memberIds (r : Feat) : List Nat := r.kids ++ r.subs

theorem mkAddRegion_facts {s s1 s2 : State} {cands subs : List Feat} {r : Feat}
    (hmk : mkRegion s cands subs = .ok (s1, r)) (hadd : addRegion s1 r = .ok s2) :
    (∃ r', s2.regions.Perm (r' :: s.regions) ∧ memberIds r' = ids cands ++ ids subs) ∧
    (∀ k, s2.parentOf k = if k ∈ ids (subs ++ cands) then some s.nextRid else s.parentOf k) := by
  obtain ⟨_, _, hrid, hrk, hrs, _, rfl⟩ := mkRegion_ok hmk
  obtain ⟨index, _, hle, hno, rfl⟩ := addRegion_ok hadd
  refine ⟨⟨_, insertAt_perm _ _ _, by simp only [memberIds, hrk, hrs]⟩, ?_⟩
  intro k
  exact parentOf_foldl s (subs ++ cands) s.nextRid k

/-- after the sections were added: the new regions hold exactly the sections' areas, and every such
    area has a parent -/
theorem addSections_facts {s s' : State} {secs : List Sec} (h : addSections s secs = .ok s') :
    ((s'.regions.map memberIds).flatten).Perm ((s.regions.map memberIds).flatten ++ ids (secs.map (·.2)).flatten) ∧
    (∀ k, (s.parentOf k ≠ none ∨ k ∈ ids (secs.map (·.2)).flatten) → s'.parentOf k ≠ none) := by
  induction secs generalizing s with
  | nil =>
    cases addSections_nil_ok h
    refine ⟨by simp [ids], ?_⟩
    intro k hk
    rcases hk with hk | hk
    · exact hk
    · simp [ids] at hk
  | cons sec secs ih =>
    obtain ⟨l, areas⟩ := sec
    obtain ⟨s1, r, s2, hmk, hadd, h⟩ := addSections_cons_ok h
    obtain ⟨⟨r', hperm, hmem⟩, hpar⟩ := mkAddRegion_facts hmk hadd
    obtain ⟨ih1, ih2⟩ := ih h
    have hareas : (ids (areas.filter (·.kind == .cand)) ++ ids (areas.filter (·.kind != .cand))).Perm (ids areas) := by
      rw [← ids_append]
      exact (List.filter_append_perm (fun x : Feat => x.kind == Kind.cand) areas).map _
    constructor
    · refine ih1.trans ?_
      have h1 : ((s2.regions.map memberIds).flatten).Perm (((r' :: s.regions).map memberIds).flatten) :=
        (hperm.map memberIds).flatten
      simp only [List.map_cons, List.flatten_cons, ids_append] at h1 ⊢
      refine (h1.append_right _).trans ?_
      rw [hmem]
      have h2 := hareas.append_right ((s.regions.map memberIds).flatten)
      refine (h2.append_right _).trans ?_
      simp only [List.append_assoc]
      exact (List.perm_append_comm_assoc _ _ _)
    · intro k hk
      apply ih2
      rw [hpar]
      by_cases hm : k ∈ ids (areas.filter (·.kind != .cand) ++ areas.filter (·.kind == .cand))
      · left; rw [if_pos hm]; simp
      · rw [if_neg hm]
        rcases hk with hk | hk
        · exact Or.inl hk
        · simp only [List.map_cons, List.flatten_cons, ids_append, List.mem_append] at hk
          rcases hk with hk | hk
          · exfalso
            apply hm
            have := hareas.mem_iff.2 hk
            simp only [ids_append, List.mem_append] at this ⊢
            exact this.symm
          · exact Or.inr hk



/-- the regions hold every area of the record exactly once, and every area's parent is the region holding it -/
def RegionsCoverAreas (s : State) : Prop :=
  ((s.regions.map memberIds).flatten).Perm (ids (s.cands ++ s.subs)) ∧
  ∀ f ∈ s.cands ++ s.subs, ∃ r ∈ s.regions, s.parentOf f.id = some r.id ∧ f.id ∈ memberIds r

theorem createRegions_covers {s s' : State} (hi : Inv s) (hreg : s.regions = []) (h : createRegions s = .ok s') :
    RegionsCoverAreas s' := by
  obtain ⟨hi', hsame⟩ := createRegions_inv hi h
  have hc : s'.cands = s.cands := hsame.cands
  have hs : s'.subs = s.subs := hsame.subs
  rcases createRegionsOf_ok h with ⟨hcn, hsn, rfl⟩ | ⟨secs, hsecs, h⟩
  · refine ⟨by simp [hreg, hcn, hsn, ids], ?_⟩
    intro f hf
    simp [hcn, hsn] at hf
  · have hp := sectionsOf_perm (nodup_areas hi) hsecs
    obtain ⟨f1, f2⟩ := addSections_facts h
    constructor
    · rw [hc, hs]
      refine f1.trans ?_
      simp only [hreg, List.map_nil, List.flatten_nil, List.nil_append]
      exact hp.map _
    · intro f hf
      rw [hc, hs] at hf
      have hne : s'.parentOf f.id ≠ none := by
        apply f2
        right
        exact mem_ids.2 ⟨f, hp.mem_iff.2 hf, rfl⟩
      obtain ⟨p, hp'⟩ := Option.ne_none_iff_exists'.1 hne
      obtain ⟨r, hr, e1, e2⟩ := hi'.parentA f (by rw [hc, hs]; exact hf) p hp'
      exact ⟨r, hr, by rw [hp', e1], e2⟩

/-- clearing protoclusters, candidate clusters or subregions while regions exist re-creates the
    regions for the remaining areas -/
theorem clear_recreates {s s' : State} (op : Op) (hop : op = .clearProtos ∨ op = .clearCands ∨ op = .clearSubs)
    (hi : Inv s) (hreg : s.regions ≠ []) (h : step s op = .ok s') : RegionsCoverAreas s' := by
  have hne : (!s.regions.isEmpty) = true := by
    cases hr : s.regions with
    | nil => exact absurd hr hreg
    | cons a b => rfl
  rcases hop with rfl | rfl | rfl
  · simp only [step, clearProtoclusters, clearCandidates, hne, if_true] at h
    exact createRegions_covers (clearRegions_inv (dropCands_inv (dropProtos_inv hi))) rfl h
  · simp only [step, clearCandidates, hne, if_true] at h
    exact createRegions_covers (clearRegions_inv (dropCands_inv hi)) rfl h
  · simp only [step, clearSubregions, hne, if_true] at h
    exact createRegions_covers (clearRegions_inv (dropSubs_inv hi)) rfl h

end ASV.Regions
