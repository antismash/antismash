/-
  C06: `CDSCollection.__lt__` on the well-formed areas of a ring never raises and is the
  strict order of (first base going round from the origin, longer first), outside the recorded full-record class.
-/
import ASV.Proofs.RegionsRing
namespace ASV.Regions
open ASV ASV.Components

theorem comparatorStart_areaTwo (x y L : Int) (hy0 : 0 < y) (hyx : y ≤ x) (hxL : x < L) :
    comparatorStart (areaTwo x y L .fwd) = .ok (x - L) :=
  comparatorStart_two x y L .fwd (by decide) hy0 hyx hxL

theorem comparatorStart_line {L : Int} {l : Loc} (h : LineArea L l) : comparatorStart l = .ok l.start := by
  obtain ⟨p, rfl, _⟩ := h
  exact comparatorStart_of_not_bridges rfl

/-- the sort key of a well-formed area of a ring: first base going round from the origin (an origin-spanning area
    starts before it), longer first -/
def ringKey (L : Int) (l : Loc) : Int × Int := orderKey L l

theorem ringKey_line {L : Int} {l : Loc} (h : LineArea L l) : ringKey L l = (l.start, -l.len) := by
  obtain ⟨p, rfl, _⟩ := h
  simp [ringKey, orderKey, firstBase, Loc.parts]

theorem ringKey_two (x y L : Int) (hy0 : 0 < y) (hyx : y ≤ x) :
    ringKey L (areaTwo x y L .fwd) = (x - L, -(L - x + y)) := by
  have hx : x > 0 := by omega
  simp [ringKey, orderKey, firstBase, areaTwo, Loc.parts, Loc.len, Part.len, hx]

theorem contains_areaTwo (x y x' y' L : Int) (h : 0 < y ∧ y ≤ x ∧ x < L) (h' : 0 < y' ∧ y' ≤ x' ∧ x' < L) :
    locationContainsOther (areaTwo x y L .fwd) (areaTwo x' y' L .fwd) = (decide (x ≤ x') && decide (y' ≤ y)) := by
  rw [Bool.eq_iff_iff]
  simp only [locationContainsOther, areaTwo, Loc.parts, List.all_cons, List.all_nil, List.any_cons, List.any_nil,
    partContains, Bool.or_false, Bool.and_true, Bool.and_eq_true, Bool.or_eq_true, decide_eq_true_eq]
  omega

/-- `CDSCollection.__lt__` on well-formed areas of a ring never raises and is the strict order of the key, unless
    the first is a single part covering the whole record (the recorded class `fullRecordClash`) -/
theorem collectionLt_ring {L : Int} {a b : Loc} (ha : RingArea L a) (hb : RingArea L b)
    (hfull : ∀ p, a = .simple p → ¬ (p.lo = 0 ∧ p.hi = L)) :
    collectionLt a b = .ok (keyLt (ringKey L a) (ringKey L b)) := by
  rcases ha with ha | ⟨x, y, rfl, hy0, hyx, hxL⟩ <;> rcases hb with hb | ⟨x', y', rfl, hy0', hyx', hxL'⟩
  · rw [collectionLt_line ha hb, ringKey_line ha, ringKey_line hb]; rfl
  · -- single part against an origin-spanning one
    obtain ⟨p, rfl, h0, h1, h2⟩ := ha
    have hnf := hfull p rfl
    have hc : locationContainsOther (.simple p) (areaTwo x' y' L .fwd) = false := by
      simp only [locationContainsOther, areaTwo, Loc.parts, List.all_cons, List.all_nil, List.any_cons, List.any_nil,
        partContains, Bool.or_false, Bool.and_true, Bool.and_eq_false_iff, decide_eq_false_iff_not]
      omega
    rw [ringKey_line ⟨p, rfl, h0, h1, h2⟩, ringKey_two x' y' L hy0' hyx']
    simp only [collectionLt, hc, Bool.false_and, Bool.false_eq_true, if_false, comparatorStart_line ⟨p, rfl, h0, h1, h2⟩,
      comparatorStart_areaTwo x' y' L hy0' hyx' hxL', bind, Except.bind, pure, Except.pure]
    have hk : keyLt ((Loc.simple p).start, -(Loc.simple p).len) (x' - L, -(L - x' + y')) = false := by
      rw [keyLt_false_iff]; simp only [Loc.start]; omega
    rw [hk]
    have h1 : ¬ p.lo < x' - L := by omega
    have h2 : ¬ p.lo = x' - L := by omega
    simp [Loc.start, h1, h2]
  · -- origin-spanning against a single part
    obtain ⟨q, rfl, h0, h1, h2⟩ := hb
    rw [ringKey_line ⟨q, rfl, h0, h1, h2⟩, ringKey_two x y L hy0 hyx]
    have hk : keyLt (x - L, -(L - x + y)) ((Loc.simple q).start, -(Loc.simple q).len) = true := by
      rw [keyLt_iff]; simp only [Loc.start]; omega
    rw [hk]
    simp only [collectionLt, comparatorStart_line ⟨q, rfl, h0, h1, h2⟩, comparatorStart_areaTwo x y L hy0 hyx hxL,
      bind, Except.bind, pure, Except.pure]
    split
    · rfl
    · have h1 : x - L < q.lo := by omega
      simp [Loc.start, h1]
  · -- two origin-spanning areas: containment is containment of both parts, and then the key is smaller
    rw [ringKey_two x y L hy0 hyx, ringKey_two x' y' L hy0' hyx']
    simp only [collectionLt, contains_areaTwo x y x' y' L ⟨hy0, hyx, hxL⟩ ⟨hy0', hyx', hxL'⟩,
      contains_areaTwo x' y' x y L ⟨hy0', hyx', hxL'⟩ ⟨hy0, hyx, hxL⟩, comparatorStart_areaTwo x y L hy0 hyx hxL,
      comparatorStart_areaTwo x' y' L hy0' hyx' hxL', bind, Except.bind, pure, Except.pure, len_areaTwo]
    split
    · next h =>
      simp only [Bool.and_eq_true, decide_eq_true_eq, Bool.not_eq_true', Bool.and_eq_false_iff, decide_eq_false_iff_not] at h
      congr 1
      symm
      rw [keyLt_iff]
      simp only
      omega
    · congr 1

end ASV.Regions
