/-
  C11: the results file (AntismashResults): the `modules` entry of a record, accepted schema numbers,
  round trip.
-/
import ASV.Proofs.Results
namespace ASV.Results
open ASV.Results.Spec

namespace ResultsFile

theorem lookup_append_absent (k : String) (v : J) : ∀ (l : List (String × J)), (lookup k l).isNone = true →
    lookup k (l ++ [(k, v)]) = some v
  | [], _ => by simp [lookup]
  | (k', v') :: rest, h => by
    simp only [lookup] at h
    split at h
    · simp at h
    · rename_i hne
      simp only [List.cons_append, lookup, hne]
      exact lookup_append_absent k v rest h

theorem eraseKey_append_absent (k : String) (v : J) : ∀ (l : List (String × J)), (lookup k l).isNone = true →
    eraseKey k (l ++ [(k, v)]) = l
  | [], _ => by simp [eraseKey]
  | (k', v') :: rest, h => by
    simp only [lookup] at h
    split at h
    · simp at h
    · rename_i hne
      simp only [List.cons_append, eraseKey, hne]
      rw [eraseKey_append_absent k v rest h]
      rfl

theorem recFromJson_recToJson (r : FileRec) (h : (lookup "modules" r.fields).isNone = true) :
    recFromJson (recToJson r) = .reuse r := by
  simp only [recToJson, recFromJson, lookup_append_absent "modules" (.obj r.modules) r.fields h,
    eraseKey_append_absent "modules" (.obj r.modules) r.fields h]

theorem fromJson_toJson (f : ResultsFile) (hv : f.valid = true) :
    fromJson f.toJson = .reuse { f with timings := .obj [] } := by
  simp only [valid, List.all_eq_true] at hv
  have hr := mapO_roundtrips recFromJson_recToJson f.records hv
  simp [results_json, toJson, fromJson, schemaAccepted, schemaVersion, hr]

theorem schemaAccepted_int (n : Int) : schemaAccepted (some (.int n)) = decide (1 ≤ n ∧ n ≤ 4) := by
  rw [Bool.eq_iff_iff]
  simp only [schemaAccepted, schemaVersion, compatibleSchemas, Bool.or_eq_true, beq_iff_eq, List.contains_eq_mem,
    List.mem_cons, List.not_mem_nil, or_false, decide_eq_true_eq]
  omega

theorem schemaAccepted_spec {kv : List (String × J)} (h : schemaAccepted (lookup "schema" kv) = true) :
    Spec.fileMayReuse (.obj kv) = true := by
  unfold Spec.fileMayReuse Spec.field
  simp only
  cases hl : lookup "schema" kv with
  | none => rfl
  | some v =>
    rw [hl] at h
    cases v with
    | int n => simpa [schemaAccepted_int] using h
    | bool b => cases b <;> simp_all [schemaAccepted, compatibleSchemas]
    | _ => simp [schemaAccepted] at h

end ResultsFile

end ASV.Results
