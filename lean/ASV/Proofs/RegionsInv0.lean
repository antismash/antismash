/-
  C06: the invariant `Inv` of the area bookkeeping with what it says about the ids of the record's objects, `SameAreas`
  (what `add_region(Region(…))` leaves alone), and the ten elementary writes `Prim` every operation is a sequence (`Steps`) of.
-/
import ASV.Proofs.RegionsSections
namespace ASV.Regions
open ASV

/-- the invariant of the record's area bookkeeping -/
structure Inv (s : State) : Prop where
  nodup : (ids (s.protos ++ s.cands ++ s.subs ++ s.pool)).Nodup
  fresh : ∀ f ∈ s.protos ++ s.cands ++ s.subs ++ s.pool, f.id < s.nextId
  nodupR : (ids s.regions).Nodup
  freshR : ∀ r ∈ s.regions, r.id < s.nextRid
  numP : Numbered s.numP s.protos
  numC : Numbered s.numC s.cands
  numS : Numbered s.numS s.subs
  numR : Numbered s.numR s.regions
  disjointR : s.regions.Pairwise (fun r r' => locationsOverlap r.loc r'.loc = false)
  kidsCand : ∀ c ∈ s.cands ++ s.pool, ∀ k ∈ c.kids, k < s.nextId ∧ k ∉ ids (s.cands ++ s.subs ++ s.pool)
  kidsReg : ∀ r ∈ s.regions, ∀ k ∈ r.kids ++ r.subs, k < s.nextId ∧ k ∉ ids s.protos
  parentA : ∀ f ∈ s.cands ++ s.subs, ∀ p, s.parentOf f.id = some p →
    ∃ r ∈ s.regions, r.id = p ∧ f.id ∈ r.kids ++ r.subs
  parentP : ∀ f ∈ s.protos, ∀ c, s.parentOf f.id = some c →
    ∃ c' ∈ s.cands ++ s.pool, c'.id = c ∧ f.id ∈ c'.kids
  cdsLink : ∀ i p, s.regionOfCds i = some p → ∃ r ∈ s.regions, r.id = p ∧ i ∈ r.cdses
  parentFresh : ∀ k, s.nextId ≤ k → s.parentOf k = none
  /-- a constructed candidate cluster that is not in the record may have been handed to
      `create_regions(candidate_clusters=[…])`: then its parent is a region of the record listing it -/
  parentPool : ∀ c ∈ s.pool, ∀ p, s.parentOf c.id = some p → ∃ r ∈ s.regions, r.id = p ∧ c.id ∈ r.kids ++ r.subs
  kindC : ∀ f ∈ s.cands, f.kind = .cand
  kindS : ∀ f ∈ s.subs, f.kind = .sub
  kindPool : ∀ f ∈ s.pool, f.kind = .cand

theorem insertSortedWith_numbered {lt : Feat → E Bool} {l : List Feat} {d : Dict Nat} {x : Feat} {l' : List Feat} {d' : Dict Nat}
    (hn : Numbered d l) (hnd : (ids (x :: l)).Nodup) (h : insertSortedWith lt l d x = .ok (l', d')) :
    Numbered d' l' ∧ l'.Perm (x :: l) := by
  obtain ⟨index, hle, rfl, rfl⟩ := insertSortedWith_ok h
  have hp := insertAt_perm l index x
  exact ⟨insertAt_numbered hn ((hp.map (fun f : Feat => f.id)).nodup_iff.2 hnd) hle, hp⟩

/-- one more object, carrying the next id, among the record's objects: the ids stay distinct and below the new next id -/
theorem Inv.ids_with_next {s : State} (hi : Inv s) {L : List Feat}
    (hp : (ids L).Perm (s.nextId :: ids (s.protos ++ s.cands ++ s.subs ++ s.pool))) :
    (ids L).Nodup ∧ ∀ f ∈ L, f.id < s.nextId + 1 := by
  have hnot : s.nextId ∉ ids (s.protos ++ s.cands ++ s.subs ++ s.pool) := by
    intro hm
    obtain ⟨f, hf, e⟩ := mem_ids.1 hm
    have := hi.fresh f hf
    omega
  refine ⟨hp.nodup_iff.2 (List.nodup_cons.2 ⟨hnot, hi.nodup⟩), fun f hf => ?_⟩
  rcases List.mem_cons.1 (hp.mem_iff.1 (mem_ids.2 ⟨f, hf, rfl⟩)) with e | hm
  · omega
  · obtain ⟨g, hg, e⟩ := mem_ids.1 hm
    have := hi.fresh g hg
    omega

theorem nodup_parts {s : State} (hi : Inv s) :
    (ids s.protos).Nodup ∧ (ids s.cands).Nodup ∧ (ids s.subs).Nodup ∧ (ids s.pool).Nodup ∧
    (∀ k, k ∈ ids s.protos → k ∉ ids (s.cands ++ s.subs ++ s.pool)) := by
  have := hi.nodup
  simp only [ids_append] at this
  have h1 := List.nodup_append.1 this
  have h2 := List.nodup_append.1 h1.1
  have h3 := List.nodup_append.1 h2.1
  refine ⟨h3.1, h3.2.1, h2.2.1, h1.2.1, ?_⟩
  intro k hk hm
  simp only [ids_append, List.mem_append] at hm
  rcases hm with (hm | hm) | hm
  · exact h3.2.2 k hk k hm rfl
  · exact h2.2.2 k (List.mem_append.2 (Or.inl hk)) k hm rfl
  · exact h1.2.2 k (List.mem_append.2 (Or.inl (List.mem_append.2 (Or.inl hk)))) k hm rfl

/-- the record's objects of one list together with one carrying the next id have distinct ids -/
theorem Inv.nodup_next_cons {s : State} (hi : Inv s) {x : Feat} (hx : x.id = s.nextId) {l : List Feat}
    (hl : ∀ f ∈ l, f ∈ s.protos ++ s.cands ++ s.subs ++ s.pool) (hnd : (ids l).Nodup) : (ids (x :: l)).Nodup := by
  refine List.nodup_cons.2 ⟨fun hm => ?_, hnd⟩
  obtain ⟨f, hf, e⟩ := mem_ids.1 hm
  have e' : f.id = s.nextId := e.trans hx
  have := hi.fresh f (hl f hf)
  omega

/-- the parts of the state `add_region(Region(...))` does not touch -/
structure SameAreas (s s' : State) : Prop where
  protos : s'.protos = s.protos
  cands : s'.cands = s.cands
  subs : s'.subs = s.subs
  pool : s'.pool = s.pool
  len : s'.len = s.len
  circular : s'.circular = s.circular
  cds : s'.cds = s.cds
  nextId : s'.nextId = s.nextId

theorem SameAreas.refl (s : State) : SameAreas s s := ⟨rfl, rfl, rfl, rfl, rfl, rfl, rfl, rfl⟩

theorem SameAreas.trans {a b c : State} (h1 : SameAreas a b) (h2 : SameAreas b c) : SameAreas a c :=
  ⟨h2.protos.trans h1.protos, h2.cands.trans h1.cands, h2.subs.trans h1.subs, h2.pool.trans h1.pool, h2.len.trans h1.len,
    h2.circular.trans h1.circular, h2.cds.trans h1.cds, h2.nextId.trans h1.nextId⟩

theorem Inv.kindCP {s : State} (hi : Inv s) : ∀ f ∈ s.cands ++ s.pool, f.kind = .cand := by
  intro f hf
  rcases List.mem_append.1 hf with h | h
  · exact hi.kindC f h
  · exact hi.kindPool f h

theorem nodup_areas {s : State} (hi : Inv s) : (ids (s.cands ++ s.subs)).Nodup := by
  have := hi.nodup
  simp only [ids_append] at this ⊢
  have h1 := (List.nodup_append.1 this).1
  rw [List.append_assoc] at h1
  exact (List.nodup_append.1 h1).2.1

theorem sublist_nodup {s : State} (hi : Inv s) (p c sb : Bool) :
    (ids ((if p then s.protos else []) ++ (if c then s.cands else []) ++ (if sb then s.subs else []) ++ s.pool)).Nodup := by
  refine List.Nodup.sublist ?_ hi.nodup
  apply List.Sublist.map
  refine List.Sublist.append (List.Sublist.append (List.Sublist.append ?_ ?_) ?_) (List.Sublist.refl _)
  · split
    · exact List.Sublist.refl _
    · exact List.nil_sublist _
  · split
    · exact List.Sublist.refl _
    · exact List.nil_sublist _
  · split
    · exact List.Sublist.refl _
    · exact List.nil_sublist _

/-- one elementary write of the area bookkeeping; `A` is what is known of the location of a new protocluster / subregion -/
inductive Prim (A : Loc → Prop) : State → State → Prop
  | addProto {s : State} {loc : Loc} {l : List Feat} {d : Dict Nat} (hA : A loc)
      (h : insertSortedRight s.protos s.numP ⟨s.nextId, .proto, loc, [], [], []⟩ = .ok (l, d)) :
      Prim A s { s with nextId := s.nextId + 1, protos := l, numP := d }
  | addSub {s : State} {loc : Loc} {l : List Feat} {d : Dict Nat} (hA : A loc)
      (h : insertSortedRight s.subs s.numS ⟨s.nextId, .sub, loc, [], [], []⟩ = .ok (l, d)) :
      Prim A s { s with nextId := s.nextId + 1, subs := l, numS := d }
  /-- a constructed candidate cluster with the next id, listing protoclusters `ps` of the record, enters the pool -/
  | poolAdd {s : State} {c : Feat} {ps : List Feat} (hid : c.id = s.nextId) (hkind : c.kind = .cand)
      (hps : ∀ p ∈ ps, p ∈ s.protos) (hkids : c.kids = ids ps) (hne : ps ≠ [])
      (hloc : connect (ps.map (·.loc)) s.wrap = .ok c.loc) :
      Prim A s { s with nextId := s.nextId + 1, pool := s.pool ++ [c] }
  /-- `p.parent = c` for protoclusters `ps` that the candidate cluster `c` lists -/
  | link {s : State} {c : Feat} {ps : List Feat} (hc : c ∈ s.cands ++ s.pool) (hps : ∀ p ∈ ps, p ∈ s.protos)
      (hkids : ∀ k ∈ ids ps, k ∈ c.kids) :
      Prim A s { s with parent := ps.foldl (fun d p => d.set p.id (some c.id)) s.parent }
  /-- `add_candidate_cluster(c)` for a constructed candidate cluster of the pool -/
  | addCand {s t : State} {id : Nat} (h : addCandidate s id = .ok t) : Prim A s t
  /-- `add_region(Region(cands, subs))` -/
  | region {s s1 s2 : State} {cands subs : List Feat} {r : Feat} (hc : ∀ f ∈ cands, f ∈ s.cands ++ s.pool)
      (hs : ∀ f ∈ subs, f ∈ s.subs) (hmk : mkRegion s cands subs = .ok (s1, r)) (hadd : addRegion s1 r = .ok s2) :
      Prim A s s2
  | clearRegions {s : State} : Prim A s (clearRegions s)
  | dropProtos {s : State} : Prim A s { s with protos := [] }
  | dropCands {s : State} :
      Prim A s { s with cands := [], parent := s.cands.foldl (fun acc c => setNone acc c.kids) s.parent }
  | dropSubs {s : State} : Prim A s { s with subs := [] }

/-- a sequence of elementary writes -/
inductive Steps (A : Loc → Prop) : State → State → Prop
  | refl {s : State} : Steps A s s
  | tail {s t u : State} : Steps A s t → Prim A t u → Steps A s u

theorem Steps.one {A : Loc → Prop} {s t : State} (h : Prim A s t) : Steps A s t := .tail .refl h

theorem Steps.trans {A : Loc → Prop} {s t u : State} (h1 : Steps A s t) (h2 : Steps A t u) : Steps A s u := by
  induction h2 with
  | refl => exact h1
  | tail _ hp ih => exact .tail ih hp

end ASV.Regions
