/-
  Rotation of a circular record (choosing another origin): distances between sets of bases do not change.
  Spec-level lemmas used by C07.
-/
import ASV.Proofs.LocOffset
namespace ASV


private theorem mul_between {L : Int} (a m b : Int) (hL : 0 < L) (h1 : a * L < m * L) (h2 : m * L < b * L) : a < m ∧ m < b :=
  ⟨Int.lt_of_mul_lt_mul_right h1 (Int.le_of_lt hL), Int.lt_of_mul_lt_mul_right h2 (Int.le_of_lt hL)⟩

private theorem sub_ring_bounds {L i j : Int} (hi : 0 ≤ i ∧ i < L) (hj : 0 ≤ j ∧ j < L) : -L < i - j ∧ i - j < L := by
  omega

theorem min_iabs_add_len (L d : Int) (h0 : -L < d) (h1 : d < 0) :
    min (iabs (d + L)) (L - iabs (d + L)) = min (iabs d) (L - iabs d) := by
  have a : iabs d = -d := if_pos h1
  have b : iabs (d + L) = d + L := if_neg (by omega)
  rw [a, b, Int.min_comm]
  congr 1
  · omega
  · omega

/-- the shorter way round depends only on the difference modulo the ring length -/
theorem min_iabs_congr (L d d' m : Int) (hL : 0 < L) (e : d' = d + m * L)
    (hd : -L < d ∧ d < L) (hd' : -L < d' ∧ d' < L) :
    min (iabs d') (L - iabs d') = min (iabs d) (L - iabs d) := by
  obtain ⟨a, b⟩ := mul_between (-2) m 2 hL (by omega) (by omega)
  have hm : m = -1 ∨ m = 0 ∨ m = 1 := by omega
  rcases hm with rfl | rfl | rfl
  · have e' : d = d' + L := by omega
    subst e'
    exact (min_iabs_add_len L d' hd'.1 (by omega)).symm
  · rw [e, Int.zero_mul, Int.add_zero]
  · rw [Int.one_mul] at e
    subst e
    exact min_iabs_add_len L d hd.1 (by omega)

theorem ringBetween_rot (L k i j i' j' : Int) (hL : 0 < L)
    (hi : 0 ≤ i ∧ i < L) (hj : 0 ≤ j ∧ j < L) (hi' : 0 ≤ i' ∧ i' < L) (hj' : 0 ≤ j' ∧ j' < L)
    (ri : RotOf L k i' i) (rj : RotOf L k j' j) : ringBetween L i' j' = ringBetween L i j := by
  obtain ⟨c1, h1⟩ := ri
  obtain ⟨c2, h2⟩ := rj
  have e : i' - j' = i - j + (c1 - c2) * L := by rw [Int.sub_mul]; omega
  unfold ringBetween
  rw [min_iabs_congr L (i - j) (i' - j') (c1 - c2) hL e (sub_ring_bounds hi hj) (sub_ring_bounds hi' hj')]

/-- `a'` holds exactly the bases of `a` rotated by `k` on the ring `[0, L)` -/
def IsRot (L k : Int) (a a' : Loc) : Prop :=
  ∀ i, a'.mem i = true ↔ (0 ≤ i ∧ i < L ∧ ∃ j, a.mem j = true ∧ RotOf L k i j)

theorem rot_exists (L k j : Int) (hL : 0 < L) : ∃ i, 0 ≤ i ∧ i < L ∧ RotOf L k i j := by
  obtain ⟨q, hq, h0, h1⟩ := emod_shift (j + k) L hL
  exact ⟨(j + k) % L, h0, h1, -q, by rw [Int.neg_mul]; omega⟩

/-- a position of the ring is the rotation of one position only: `(i - k) % L` -/
theorem RotOf.src_eq {L k i j : Int} (hj : 0 ≤ j ∧ j < L) (r : RotOf L k i j) : j = (i - k) % L := by
  obtain ⟨c, e⟩ := r
  have : i - k = j + c * L := by omega
  rw [this, Int.add_mul_emod_self_right, Int.emod_eq_of_lt hj.1 hj.2]

theorem rot_unique_src (L k i j1 j2 : Int) (h1 : 0 ≤ j1 ∧ j1 < L) (h2 : 0 ≤ j2 ∧ j2 < L)
    (r1 : RotOf L k i j1) (r2 : RotOf L k i j2) : j1 = j2 :=
  (r1.src_eq h1).trans (r2.src_eq h2).symm

theorem Loc.OK.mem_range {L : Int} {l : Loc} (h : l.OK L) (hL : L ≠ 0) {i : Int} (hi : l.mem i = true) : 0 ≤ i ∧ i < L := by
  simp only [Loc.mem, List.any_eq_true, Part.mem_iff] at hi
  obtain ⟨p, hp, h1, h2⟩ := hi
  obtain ⟨a, b, c⟩ := h.2 p hp
  have := c hL
  omega

theorem Loc.OK_simple {L : Int} {p : Part} (h0 : 0 ≤ p.lo) (h1 : p.lo < p.hi) (h2 : p.hi ≤ L) : (Loc.simple p).OK L :=
  ⟨List.cons_ne_nil _ _, fun q hq => by
    rw [List.mem_singleton.1 hq]
    exact ⟨h0, h1, fun _ => h2⟩⟩

theorem SharesBase_rot {L k : Int} {a b a' b' : Loc} (hL : 0 < L) (ha : a.OK L) (hb : b.OK L)
    (ra : IsRot L k a a') (rb : IsRot L k b b') : a.SharesBase b ↔ a'.SharesBase b' := by
  have hL0 : L ≠ 0 := by omega
  constructor
  · rintro ⟨j, hja, hjb⟩
    obtain ⟨i, h0, h1, hr⟩ := rot_exists L k j hL
    exact ⟨i, (ra i).2 ⟨h0, h1, j, hja, hr⟩, (rb i).2 ⟨h0, h1, j, hjb, hr⟩⟩
  · rintro ⟨i, hia, hib⟩
    obtain ⟨_, _, j1, hj1, r1⟩ := (ra i).1 hia
    obtain ⟨_, _, j2, hj2, r2⟩ := (rb i).1 hib
    have := rot_unique_src L k i j1 j2 (ha.mem_range hL0 hj1) (hb.mem_range hL0 hj2) r1 r2
    subst this
    exact ⟨j1, hj1, hj2⟩

theorem IsDist_rot {L k : Int} {a b a' b' : Loc} {d : Int} (hL : 0 < L) (ha : a.OK L) (hb : b.OK L)
    (ra : IsRot L k a a') (rb : IsRot L k b b') (h : IsDist L a b d) : IsDist L a' b' d := by
  have hL0 : L ≠ 0 := by omega
  have hbt : ∀ x y, between L x y = ringBetween L x y := by intro x y; simp [between, hL0]
  rcases h with ⟨hs, hd⟩ | ⟨hns, ⟨i, j, hi, hj, hbij⟩, hlow⟩
  · left; exact ⟨(SharesBase_rot hL ha hb ra rb).1 hs, hd⟩
  · right
    refine ⟨fun h => hns ((SharesBase_rot hL ha hb ra rb).2 h), ?_, ?_⟩
    · obtain ⟨i', hi0, hi1, hri⟩ := rot_exists L k i hL
      obtain ⟨j', hj0, hj1, hrj⟩ := rot_exists L k j hL
      refine ⟨i', j', (ra i').2 ⟨hi0, hi1, i, hi, hri⟩, (rb j').2 ⟨hj0, hj1, j, hj, hrj⟩, ?_⟩
      rw [hbt, ringBetween_rot L k i j i' j' hL (ha.mem_range hL0 hi) (hb.mem_range hL0 hj) ⟨hi0, hi1⟩ ⟨hj0, hj1⟩ hri hrj,
        ← hbt, hbij]
    · intro i' j' hi' hj'
      obtain ⟨hi0, hi1, i, hi, hri⟩ := (ra i').1 hi'
      obtain ⟨hj0, hj1, j, hj, hrj⟩ := (rb j').1 hj'
      rw [hbt, ringBetween_rot L k i j i' j' hL (ha.mem_range hL0 hi) (hb.mem_range hL0 hj) ⟨hi0, hi1⟩ ⟨hj0, hj1⟩ hri hrj, ← hbt]
      exact hlow i j hi hj


end ASV
