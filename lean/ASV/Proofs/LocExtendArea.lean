/-
  `Record.extend_location` on a circular record for an origin-spanning span `[x, L) + [0, y)`, forward and in
  the part order Biopython gives a reverse-strand feature over the origin, `[0, y)(−), [x, L)(−)` (C04).
-/
import ASV.Proofs.LocExtend
import ASV.Proofs.LocConnectRingIn
namespace ASV

/-- closed form of `extend_location` (the code with the repair D59) for the forward origin-spanning span `[x, L) + [0, y)`:
    the whole record as soon as the two extended ends pass each other, else both ends moved by `d` -/
def extAreaRing (x y d L : Int) : Loc :=
  if x - y < 2 * d then .simple ⟨0, L, .fwd⟩
  else .compound [⟨x - d, L, .fwd⟩, ⟨0, y + d, .fwd⟩]

theorem bridges_areaTwo_fwd (x y L : Int) (hy0 : 0 < y) (hyx : y ≤ x) : bridgesOrigin (areaTwo x y L .fwd) = true :=
  bridges_areaTwo x y L .fwd (by decide) hy0 hyx

/-- `extend_location` only looks at the strand, at whether the location bridges the origin, and at the parts in
    walking order; for the two parts `[x, L), [0, y)` in walking order the result does not depend on the strand -/
theorem extend_area_walk (l : Loc) (s : Strand) (x y d L : Int) (hy0 : 0 < y) (hyx : y ≤ x) (hxL : x < L)
    (hstr : l.strand = s) (hb : bridgesOrigin l = true)
    (hparts : (if s = .rev then l.parts.reverse else l.parts) = [⟨x, L, s⟩, ⟨0, y, s⟩]) :
    extendLocation l d L true = .ok (if x - y < 2 * d then .simple ⟨0, L, s⟩
      else .compound (if s == .rev then [⟨0, y + d, s⟩, ⟨x - d, L, s⟩] else [⟨x - d, L, s⟩, ⟨0, y + d, s⟩])) := by
  have hno : partsOverlap (⟨x, L, s⟩ : Part) (⟨0, y, s⟩ : Part) = false := by
    simp only [partsOverlap, Part.mem, Bool.or_eq_false_iff, Bool.and_eq_false_iff, decide_eq_false_iff_not]; omega
  by_cases hG : x - y < 2 * d
  · rw [if_pos hG]
    have h0 : ¬ x < y := by omega
    simp [extendLocation, hstr, hparts, hb, pure, Except.pure, h0, hG]
  · rw [if_neg hG]
    have hA : ¬ (x - d < 0) := by omega
    have hB : ¬ (y + d > L) := by omega
    have e1 : max 0 (x - d) = x - d := by omega
    have e2 : min (y + d) L = y + d := by omega
    have o5 : partsOverlap (⟨x - d, L, s⟩ : Part) (⟨0, y + d, s⟩ : Part) = false := by
      simp only [partsOverlap, Part.mem, Bool.or_eq_false_iff, Bool.and_eq_false_iff, decide_eq_false_iff_not]; omega
    simp [extendLocation, hstr, hparts, hb, setHead, setLast, pure, Except.pure, hG, hA, hB, mergeEnds, hno, e1, e2, o5]

theorem extend_area_ring_eq (x y d L : Int) (hL : 0 < L) (hy0 : 0 < y) (hyx : y ≤ x) (hxL : x < L) (hd : 0 ≤ d) :
    extendLocation (areaTwo x y L .fwd) d L true = .ok (extAreaRing x y d L) :=
  extend_area_walk _ .fwd x y d L hy0 hyx hxL rfl (bridges_areaTwo_fwd x y L hy0 hyx) rfl

/-- the bases of the closed form: the whole record except the part of the gap `[y, x)` that is
    further than `d` from both of its ends -/
theorem extAreaRing_mem_gap (x y d L : Int) (hy0 : 0 < y) (hyx : y ≤ x) (hxL : x < L) (i : Int) :
    (extAreaRing x y d L).mem i = true ↔ (0 ≤ i ∧ i < L ∧ ¬ (y + d ≤ i ∧ i < x - d)) := by
  unfold extAreaRing
  by_cases hG : x - y < 2 * d
  · rw [if_pos hG, mem_simple]; dsimp only; omega
  · rw [if_neg hG, mem_two]; dsimp only; omega

/-- … which are exactly the bases within ring distance `d` of the span -/
theorem extAreaRing_mem (x y d L : Int) (hL : 0 < L) (hy0 : 0 < y) (hyx : y ≤ x) (hxL : x < L) (hd : 0 ≤ d) (i : Int) :
    (extAreaRing x y d L).mem i = true ↔
      (0 ≤ i ∧ i < L ∧ ∃ j, (areaTwo x y L .fwd).mem j = true ∧ ringAbs L i j ≤ d) := by
  rw [extAreaRing_mem_gap x y d L hy0 hyx hxL, areaTwo, exists_mem_two_ringAbs_le _ _ L i d hxL hy0 hd]
  dsimp only
  omega

/-- the closed form is a well-formed span for every `d ≥ 0` -/
theorem extAreaRing_wf (x y d L : Int) (hL : 0 < L) (hy0 : 0 < y) (hyx : y ≤ x) (hxL : x < L) (hd : 0 ≤ d) :
    areaWF L L (extAreaRing x y d L) = true := by
  have hL0 : L ≠ 0 := by omega
  unfold extAreaRing
  by_cases hG : x - y < 2 * d
  · rw [if_pos hG]; simp [areaWF, Loc.parts]; omega
  · rw [if_neg hG]; simp [areaWF, Loc.parts, hL0]; omega

/-! ### reverse strand -/

/-- closed form: the whole record as soon as the two extended ends pass each other, else both ends moved by `d`
    (parts stay in the reverse-strand order) -/
def extAreaRingRev (x y d L : Int) : Loc :=
  if x - y < 2 * d then .simple ⟨0, L, .rev⟩
  else .compound [⟨0, y + d, .rev⟩, ⟨x - d, L, .rev⟩]

theorem extend_area_ring_rev_eq (x y d L : Int) (hy0 : 0 < y) (hyx : y ≤ x) (hxL : x < L) :
    extendLocation (areaTwoRev x y L) d L true = .ok (extAreaRingRev x y d L) :=
  extend_area_walk _ .rev x y d L hy0 hyx hxL rfl (bridges_areaTwoRev x y L hy0 hyx) rfl

/-- the reverse-strand forms list the same two parts in the other order -/
theorem areaTwoRev_mem (x y L i : Int) : (areaTwoRev x y L).mem i = (areaTwo x y L .fwd).mem i := by
  simp only [areaTwoRev, areaTwo, Loc.mem, Loc.parts, List.any_cons, List.any_nil, Bool.or_false, Part.mem]
  exact Bool.or_comm _ _

theorem extAreaRingRev_mem_eq (x y d L i : Int) : (extAreaRingRev x y d L).mem i = (extAreaRing x y d L).mem i := by
  unfold extAreaRingRev extAreaRing
  split
  · rfl
  · simp only [Loc.mem, Loc.parts, List.any_cons, List.any_nil, Bool.or_false, Part.mem]
    exact Bool.or_comm _ _

/-- the bases of the closed form are exactly those within ring distance `d` of the span -/
theorem extAreaRingRev_mem (x y d L : Int) (hL : 0 < L) (hy0 : 0 < y) (hyx : y ≤ x) (hxL : x < L) (hd : 0 ≤ d) (i : Int) :
    (extAreaRingRev x y d L).mem i = true ↔
      (0 ≤ i ∧ i < L ∧ ∃ j, (areaTwoRev x y L).mem j = true ∧ ringAbs L i j ≤ d) := by
  simp only [extAreaRingRev_mem_eq, areaTwoRev_mem]
  exact extAreaRing_mem x y d L hL hy0 hyx hxL hd i

end ASV
