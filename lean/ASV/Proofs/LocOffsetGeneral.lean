/-
  `offset_location` on a ring, any number of parts: the general rotation lemma of the C12 proofs
  (`offset_rotates_full`, Proofs/RegionExtractRotate.lean) in the vocabulary of C04 — `RotOf`, `partsDisjoint`,
  `Loc.strand`.
-/
import ASV.Proofs.RegionExtractRotate
namespace ASV
open ASV.RegionExtract

/-- in a list of mutually disjoint non-empty parts every base lies in at most one part -/
theorem cnt_le_one_of_disjoint : ∀ (ps : List Part), (∀ p ∈ ps, p.lo < p.hi) → partsDisjoint ps = true →
    ∀ j, cnt ps j ≤ 1
  | [], _, _, j => by simp [cnt]
  | p :: ps, hne, hd, j => by
    simp only [partsDisjoint, Bool.and_eq_true, List.all_eq_true, Bool.not_eq_true'] at hd
    have ih := cnt_le_one_of_disjoint ps (fun q hq => hne q (by simp [hq])) hd.2 j
    rw [cnt_cons]
    by_cases hp : p.mem j = true
    · have : cnt ps j = 0 := by
        unfold cnt
        rw [List.countP_eq_zero]
        intro q hq hqj
        have hov := (partsOverlap_iff p q (hne p (by simp)) (hne q (by simp [hq]))).2 ⟨j, hp, hqj⟩
        rw [hd.1 q hq] at hov
        cases hov
      simp [hp, this]
    · simp [hp]; exact ih

/-- … and conversely -/
theorem disjoint_of_cnt_le_one : ∀ (ps : List Part), (∀ p ∈ ps, p.lo < p.hi) → (∀ j, cnt ps j ≤ 1) →
    partsDisjoint ps = true
  | [], _, _ => rfl
  | p :: ps, hne, h => by
    simp only [partsDisjoint, Bool.and_eq_true, List.all_eq_true, Bool.not_eq_true']
    constructor
    · intro q hq
      cases hov : partsOverlap p q with
      | false => rfl
      | true =>
        exfalso
        obtain ⟨j, hpj, hqj⟩ := (partsOverlap_iff p q (hne p (by simp)) (hne q (by simp [hq]))).1 hov
        have := h j
        rw [cnt_cons] at this
        have hpos : 0 < cnt ps j := by
          unfold cnt
          exact List.countP_pos_iff.2 ⟨q, hq, hqj⟩
        simp [hpj] at this
        omega
    · refine disjoint_of_cnt_le_one ps (fun q hq => hne q (by simp [hq])) (fun j => ?_)
      have := h j
      rw [cnt_cons] at this
      omega

theorem strand_of_parts (r : Loc) (s : Strand) (hne : r.parts ≠ []) (h : ∀ p ∈ r.parts, p.strand = s) : r.strand = s := by
  cases r with
  | simple p => exact h p (by simp [Loc.parts])
  | compound ps =>
    match ps, hne, h with
    | p :: ps, _, h =>
      have hall : ps.all (·.strand == p.strand) = true := by
        simp only [List.all_eq_true, beq_iff_eq]
        intro q hq
        rw [h q (by simp [Loc.parts, hq]), h p (by simp [Loc.parts])]
      simp [Loc.strand, hall]
      exact h p (by simp [Loc.parts])

/-- `offset_location` on a ring, for ANY offset and any number of parts of one strand inside `[0, L]`: the shift
    succeeds and rotates the bases by `k`.  `offset_location` returns a location as long as the record as it is
    (as it does for `k = 0`), so such a location has to hold every base — which it does when its parts are disjoint,
    e.g. a single part or `areaTwo x x L s`. -/
theorem offset_ring_any (l : Loc) (k L : Int) (s : Strand) (hne : l.parts ≠ [])
    (hparts : ∀ p ∈ l.parts, PartIn L p) (hs : ∀ p ∈ l.parts, p.strand = s)
    (hfull : l.len = L → ∀ j, 0 ≤ j → j < L → l.mem j = true) :
    ∃ r, offsetLocation l k L = .ok r ∧
      (∀ i, r.mem i = true ↔ (0 ≤ i ∧ i < L ∧ ∃ j, l.mem j = true ∧ RotOf L k i j)) ∧
      r.len = l.len ∧ r.strand = s ∧
      (∀ p ∈ r.parts, PartIn L p) ∧ (partsDisjoint l.parts = true → partsDisjoint r.parts = true) := by
  obtain ⟨p0, hp0⟩ := List.exists_mem_of_ne_nil _ hne
  have hL : 0 < L := by have := hparts p0 hp0; unfold PartIn at this; omega
  have hL0 : L ≠ 0 := by omega
  have hlin : ∀ j, l.mem j = true → 0 ≤ j ∧ j < L := fun _ => Loc.Inside.mem_range hparts
  -- in the vocabulary of `offset_rotates`: base `i` of the result is base `(i - k) % L` of `l`
  suffices h : ∃ r, offsetLocation l k L = .ok r ∧
      (∀ i, r.mem i = true ↔ (0 ≤ i ∧ i < L ∧ l.mem ((i - k) % L) = true)) ∧ r.len = l.len ∧
      (∀ p ∈ r.parts, p.strand = s) ∧ (∀ p ∈ r.parts, PartIn L p) ∧
      (partsDisjoint l.parts = true → partsDisjoint r.parts = true) by
    obtain ⟨r, hr, hmem, hrl, hrs, hin, hdis⟩ := h
    have hrne : r.parts ≠ [] := by
      intro he
      have h0 := len_pos_of_parts' L l hne hparts
      rw [← hrl] at h0
      simp [Loc.len, he] at h0
    exact ⟨r, hr, fun i => by rw [hmem i, rot_iff_emod L k i hL l hlin], hrl, strand_of_parts r s hrne hrs, hin, hdis⟩
  by_cases hk : k = 0
  · subst hk
    refine ⟨l, by simp [offsetLocation, pure, Except.pure], fun i => ?_, rfl, hs, hparts, id⟩
    rw [Int.sub_zero]
    constructor
    · intro hi
      have hb := hlin i hi
      rw [Int.emod_eq_of_lt hb.1 hb.2]
      exact ⟨hb.1, hb.2, hi⟩
    · rintro ⟨h0, h1, hi⟩
      rwa [Int.emod_eq_of_lt h0 h1] at hi
  · by_cases hlen : l.len = L
    · have hf := hfull hlen
      refine ⟨l, by simp [offsetLocation, hL0, hk, hlen, pure, Except.pure]; omega, fun i => ?_, rfl, hs, hparts, id⟩
      exact ⟨fun hi => ⟨(hlin i hi).1, (hlin i hi).2, hf _ (Int.emod_nonneg _ hL0) (Int.emod_lt_of_pos _ hL)⟩,
        fun h => hf i h.1 h.2.1⟩
    · obtain ⟨r, hr, hin, hrl, hmem, hcnt, hstr⟩ := offset_rotates l k L s hne hparts hs hk hlen
      refine ⟨r, hr, hmem, hrl, hstr, hin, fun hdis => ?_⟩
      -- every base of `r` is named as often as the base of `l` it comes from
      refine disjoint_of_cnt_le_one r.parts (fun p hp => (hin p hp).2.1) (fun i => ?_)
      rw [hcnt i]
      split
      · exact cnt_le_one_of_disjoint l.parts (fun p hp => (hparts p hp).2.1) hdis _
      · omega

end ASV
