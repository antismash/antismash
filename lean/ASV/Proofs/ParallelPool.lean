/-
  C18: the `MapResult` machine driven by an arbitrary event list.
  The value list is seen as one block per chunk; `stateAfter` says what `_success`/`_value` hold
  once a given sequence of chunks has been stored, and `await_spec` characterises the wait loop
  for every event list whose completion events name existing chunks.
-/
import ASV.Proofs.Parallel
namespace ASV.Parallel

variable {α ε β γ : Type}

/-! ### slice assignment = replacing one block -/

/-- dropping a full first block, or more than a short only block -/
theorem drop_flatten_cons (cs : Nat) (b : List γ) (rest : List (List γ))
    (hu : Uniform cs ((b :: rest).map List.length)) : (b ++ rest.flatten).drop cs = rest.flatten := by
  cases rest with
  | nil =>
    exact List.drop_eq_nil_of_le (by rw [List.flatten_nil, List.append_nil]; exact Uniform_singleton.mp hu)
  | cons b' rest => exact List.drop_left' (Uniform_cons_cons.mp hu).1

theorem setSlice_flatten (cs : Nat) (r : List γ) :
    ∀ (bs : List (List γ)) (i : Nat), Uniform cs (bs.map List.length) → i < bs.length →
      bs.flatten.take (i * cs) ++ r ++ bs.flatten.drop ((i + 1) * cs) = (bs.set i r).flatten
  | b :: rest, 0, hu, _ => by
    rw [Nat.zero_mul, List.take_zero, List.nil_append, Nat.zero_add, Nat.one_mul, List.flatten_cons,
      drop_flatten_cons cs b rest hu]
    rfl
  | b :: b' :: rest, i + 1, hu, h => by
    have ih := setSlice_flatten cs r (b' :: rest) i (Uniform_cons_cons.mp hu).2 (Nat.lt_of_succ_lt_succ h)
    have hb : b.length = cs := (Uniform_cons_cons.mp hu).1
    have e1 : (i + 1) * cs = b.length + i * cs := by rw [Nat.succ_mul, hb, Nat.add_comm]
    have e2 : (i + 1 + 1) * cs = b.length + (i + 1) * cs := by rw [Nat.succ_mul (i + 1), hb, Nat.add_comm]
    rw [List.set_cons_succ, List.flatten_cons, e1, e2, List.take_length_add_append,
      List.drop_length_add_append, (List.flatten_cons : (b :: (b' :: rest).set i r).flatten = _), ← ih,
      List.append_assoc, List.append_assoc, List.append_assoc]

/-! ### the value list as blocks -/

/-- the `None` placeholders of one chunk -/
def blank (t : List α) : List (Option β) := List.replicate t.length none

/-- the chunk's stretch of `MapResult._value` once its result has been stored -/
def full (run : List α → Except ε (List β)) (t : List α) : List (Option β) :=
  match run t with
  | .ok r => r.map some
  | .error _ => blank t

/-- chunk `j`'s stretch after the chunks `ds` have been stored -/
def cell (run : List α → Except ε (List β)) (ds : List Nat) (j : Nat) (t : List α) : List (Option β) :=
  if j ∈ ds then full run t else blank t

def blocksOf (run : List α → Except ε (List β)) (tasks : List (List α)) (ds : List Nat) :
    List (List (Option β)) :=
  tasks.mapIdx (cell run ds)

/-- a batch returns one result per call (true of `list(map(...))`) -/
def LengthPreserving (run : List α → Except ε (List β)) : Prop :=
  ∀ t r, run t = .ok r → r.length = t.length

theorem comprehension_lengthPreserving (f : α → Except ε β) : LengthPreserving (comprehension f) :=
  fun t _ h => Base.mapM_ok_length ((comprehension_eq_mapM f t).symm.trans h)

section
variable (run : List α → Except ε (List β)) (tasks : List (List α))

theorem cell_length (hrun : LengthPreserving run) (ds : List Nat)
    (j : Nat) (t : List α) : (cell run ds j t).length = t.length := by
  unfold cell full
  split
  · split
    · rename_i r hr
      rw [List.length_map, hrun t r hr]
    · exact List.length_replicate
  · exact List.length_replicate

theorem blocksOf_lengths (hrun : LengthPreserving run) (ds : List Nat) :
    (blocksOf run tasks ds).map List.length = tasks.map List.length := by
  apply List.ext_getElem?
  intro j
  simp only [blocksOf, List.getElem?_map, List.getElem?_mapIdx]
  cases tasks[j]? with
  | none => rfl
  | some t => simp only [Option.map_some, cell_length run hrun]

theorem flatten_blank :
    ((tasks.map (blank (β := β))).flatten) = List.replicate tasks.flatten.length none := by
  induction tasks with
  | nil => rfl
  | cons t rest ih =>
    simp only [List.map_cons, List.flatten_cons, ih, blank, List.length_append,
      List.replicate_append_replicate]

theorem blocksOf_nil :
    (blocksOf run tasks []).flatten = List.replicate tasks.flatten.length none := by
  rw [← flatten_blank]
  congr 1
  apply List.ext_getElem?
  intro j
  simp only [blocksOf, List.getElem?_mapIdx, List.getElem?_map]
  cases tasks[j]? with
  | none => rfl
  | some t => simp [cell]

theorem blocksOf_store (ds : List Nat) (i : Nat)
    (t : List α) (r : List β) (hti : tasks[i]? = some t) (hr : run t = .ok r) :
    (blocksOf run tasks ds).set i (r.map some) = blocksOf run tasks (ds ++ [i]) := by
  apply List.ext_getElem?
  intro j
  rw [List.getElem?_set]
  simp only [blocksOf, List.getElem?_mapIdx, List.length_mapIdx]
  by_cases hij : i = j
  · subst hij
    obtain ⟨hlt, hget⟩ := List.getElem?_eq_some_iff.mp hti
    simp [hlt, cell, full, hget, hr]
  · simp only [hij, if_false]
    cases tasks[j]? with
    | none => rfl
    | some t' =>
      have : j ∈ ds ++ [i] ↔ j ∈ ds := by
        simp only [List.mem_append, List.mem_singleton, or_iff_left_iff_imp]
        exact fun h => absurd h.symm hij
      simp only [Option.map_some, cell, this]

theorem blocksOf_all (ds : List Nat)
    (hall : ∀ j, j < tasks.length → j ∈ ds) : blocksOf run tasks ds = tasks.map (full run) := by
  apply List.ext_getElem?
  intro j
  simp only [blocksOf, List.getElem?_mapIdx, List.getElem?_map]
  rcases Nat.lt_or_ge j tasks.length with h | h
  · cases tasks[j]? with
    | none => rfl
    | some t => simp only [Option.map_some, cell, hall j h, if_true]
  · rw [List.getElem?_eq_none h]
    rfl

theorem flatten_full :
    ∀ (tasks : List (List α)) (rs : List (List β)), comprehension run tasks = .ok rs →
      (tasks.map (full run)).flatten = rs.flatten.map some
  | [], rs, h => by cases h; rfl
  | t :: rest, rs, h => by
    obtain ⟨r, rs', hr, hrs', rfl⟩ := comprehension_cons_ok h
    simp only [List.map_cons, List.flatten_cons, List.map_append, full, hr,
      flatten_full rest rs' hrs']

/-! ### `_success` / `_value` after a sequence of stores -/

/-- the exception chunk `i` ends with, if it does -/
def failure (run : List α → Except ε (List β)) (tasks : List (List α)) (i : Nat) : Option ε :=
  match tasks[i]? with
  | some t =>
    match run t with
    | .error e => some e
    | .ok _ => none
  | none => none

theorem failure_eq_some {run : List α → Except ε (List β)} {tasks : List (List α)} {i : Nat} {e : ε}
    (h : failure run tasks i = some e) : ∃ t, tasks[i]? = some t ∧ run t = .error e := by
  cases hti : tasks[i]? with
  | none => simp only [failure, hti] at h; cases h
  | some t =>
    cases hr : run t with
    | ok r => simp only [failure, hti, hr] at h; cases h
    | error e' => simp only [failure, hti, hr] at h; cases h; exact ⟨t, rfl, hr⟩

/-- `_success`/`_value` once the chunks `ds` have been stored in this order ("only store first
    exception"): the exception of the first chunk of `ds` that failed, or else the value list with
    the stretches of `ds` filled in -/
def stateAfter (run : List α → Except ε (List β)) (tasks : List (List α)) (ds : List Nat) :
    Except ε (List (Option β)) :=
  match ds.findSome? (failure run tasks) with
  | some e => .error e
  | none => .ok (blocksOf run tasks ds).flatten

/-- `ApplyResult.get()` as a function of `_success`/`_value` -/
def getOf : Except ε (List (Option β)) → Outcome ε β
  | .ok value => .returned value
  | .error e => .raised (.task e)

@[simp] theorem getOf_ok (value : List (Option β)) : getOf (.ok value : Except ε _) = .returned value := rfl
@[simp] theorem getOf_error (e : ε) : getOf (.error e : Except ε (List (Option β))) = .raised (.task e) := rfl

theorem MapResult.get_eq (mr : MapResult ε β) : mr.get = getOf mr.state := by
  unfold MapResult.get getOf
  cases mr.state <;> rfl

theorem MapResult.set_chunksize (mr : MapResult ε β) (i : Nat) (sr : Except ε (List β)) :
    (mr.set i sr).chunksize = mr.chunksize := by
  unfold MapResult.set; split <;> rfl
theorem MapResult.set_numberLeft (mr : MapResult ε β) (i : Nat) (sr : Except ε (List β)) :
    (mr.set i sr).numberLeft = mr.numberLeft - 1 := by
  unfold MapResult.set; split <;> rfl
theorem MapResult.set_ready (mr : MapResult ε β) (i : Nat) (sr : Except ε (List β)) :
    (mr.set i sr).ready = (mr.ready || mr.numberLeft - 1 == 0) := by
  unfold MapResult.set; split <;> rfl
theorem MapResult.set_state (mr : MapResult ε β) (i : Nat) (sr : Except ε (List β)) :
    (mr.set i sr).state =
      match sr, mr.state with
      | .ok result, .ok value =>
        .ok (value.take (i * mr.chunksize) ++ result.map some ++ value.drop ((i + 1) * mr.chunksize))
      | .error e, .ok _ => .error e
      | _, .error e0 => .error e0 := by
  unfold MapResult.set
  cases sr <;> cases mr.state <;> rfl

/-- storing the result of chunk `i` (`_set`) moves the state from `ds` to `ds ++ [i]` -/
theorem stateAfter_store (hrun : LengthPreserving run) (cs : Nat)
    (hU : Uniform cs (tasks.map List.length)) (mr : MapResult ε β)
    (ds : List Nat) (hcs : mr.chunksize = cs) (hst : mr.state = stateAfter run tasks ds) (i : Nat)
    (t : List α) (hti : tasks[i]? = some t) :
    (mr.set i (run t)).state = stateAfter run tasks (ds ++ [i]) := by
  have hconcat : (ds ++ [i]).findSome? (failure run tasks) =
      (ds.findSome? (failure run tasks)).or (failure run tasks i) := by
    rw [List.findSome?_append, List.findSome?_cons, List.findSome?_nil]
    cases failure run tasks i <;> rfl
  rw [MapResult.set_state, hst]
  unfold stateAfter
  rw [hconcat]
  cases hds : ds.findSome? (failure run tasks) with
  | some e₀ => cases run t <;> rfl
  | none =>
    cases hr : run t with
    | error e =>
      rw [show failure run tasks i = some e by simp only [failure, hti, hr]]
      rfl
    | ok r =>
      have hlen : i < (blocksOf run tasks ds).length := by
        rw [blocksOf, List.length_mapIdx]
        exact (List.getElem?_eq_some_iff.mp hti).1
      have hUb : Uniform cs ((blocksOf run tasks ds).map List.length) := by
        rw [blocksOf_lengths run tasks hrun]
        exact hU
      rw [show failure run tasks i = none by simp only [failure, hti, hr]]
      simp only [Option.or_none]
      rw [hcs, setSlice_flatten cs _ _ i hUb hlen, blocksOf_store run tasks ds i t r hti hr]

/-- the invariant of the wait loop: the results of the chunks `ds` have been stored (in this
    order) and `left` more are awaited -/
structure Stored (run : List α → Except ε (List β)) (tasks : List (List α)) (cs : Nat)
    (mr : MapResult ε β) (ds : List Nat) (left : Nat) : Prop where
  chunksize_eq : mr.chunksize = cs
  state_eq : mr.state = stateAfter run tasks ds
  numberLeft_eq : mr.numberLeft = (left : Int)
  ready_eq : mr.ready = (mr.numberLeft == 0)

theorem Stored.ready {run : List α → Except ε (List β)} {tasks : List (List α)} {cs : Nat}
    {mr : MapResult ε β} {ds : List Nat} (h : Stored run tasks cs mr ds 0) : mr.ready = true := by
  rw [h.ready_eq, h.numberLeft_eq]
  rfl

theorem Stored.not_ready {run : List α → Except ε (List β)} {tasks : List (List α)} {cs : Nat}
    {mr : MapResult ε β} {ds : List Nat} {l : Nat} (h : Stored run tasks cs mr ds (l + 1)) :
    mr.ready = false := by
  rw [h.ready_eq, h.numberLeft_eq]
  exact beq_false_of_ne (Int.natCast_ne_zero.mpr (Nat.succ_ne_zero l))

theorem Stored.store {run : List α → Except ε (List β)} {tasks : List (List α)} {cs : Nat}
    {mr : MapResult ε β} {ds : List Nat} {l : Nat} (hrun : LengthPreserving run)
    (hU : Uniform cs (tasks.map List.length)) (h : Stored run tasks cs mr ds (l + 1)) (i : Nat)
    (t : List α) (hti : tasks[i]? = some t) : Stored run tasks cs (mr.set i (run t)) (ds ++ [i]) l := by
  have hleft : (mr.set i (run t)).numberLeft = (l : Int) := by
    rw [MapResult.set_numberLeft, h.numberLeft_eq, Int.natCast_succ]
    exact Int.add_sub_cancel _ _
  refine ⟨by rw [MapResult.set_chunksize, h.chunksize_eq],
    stateAfter_store run tasks hrun cs hU mr ds h.chunksize_eq h.state_eq i t hti, hleft, ?_⟩
  rw [MapResult.set_ready, MapResult.set_numberLeft, h.not_ready, ← MapResult.set_numberLeft mr i (run t)]
  rfl

/-- once every chunk has been stored and none failed, the value list is the batch results in
    batch order -/
theorem stateAfter_ok (ds : List Nat)
    (hall : ∀ j, j < tasks.length → j ∈ ds) (rs : List (List β)) (h : comprehension run tasks = .ok rs) :
    stateAfter run tasks ds = .ok (rs.flatten.map some) := by
  have hnone : ds.findSome? (failure run tasks) = none := by
    apply List.findSome?_eq_none_iff.mpr
    intro i _
    cases hf : failure run tasks i with
    | none => rfl
    | some e =>
      obtain ⟨t, hti, hrt⟩ := failure_eq_some hf
      obtain ⟨r, hr⟩ := Base.mapM_ok_iff_forall.1 ⟨rs, (comprehension_eq_mapM run tasks).symm.trans h⟩ t
        (List.mem_of_getElem? hti)
      rw [hr] at hrt
      cases hrt
  simp only [stateAfter, hnone, blocksOf_all run tasks ds hall, flatten_full run tasks rs h]

/-- once every chunk has been stored and some failed, the exception of a failing chunk is stored -/
theorem stateAfter_error (ds : List Nat)
    (hall : ∀ j, j < tasks.length → j ∈ ds) (e₀ : ε) (h : comprehension run tasks = .error e₀) :
    ∃ e t, t ∈ tasks ∧ run t = .error e ∧ stateAfter run tasks ds = .error e := by
  obtain ⟨t, htm, hte⟩ := comprehension_error_mem run tasks e₀ h
  obtain ⟨j, hj, rfl⟩ := List.getElem_of_mem htm
  have hsome : (ds.findSome? (failure run tasks)).isSome = true :=
    List.findSome?_isSome_iff.mpr
      ⟨j, hall j hj, by simp only [failure, List.getElem?_eq_getElem hj, hte, Option.isSome_some]⟩
  obtain ⟨e, he⟩ := Option.isSome_iff_exists.mp hsome
  obtain ⟨i, _, hfi⟩ := List.exists_of_findSome?_eq_some he
  obtain ⟨t', hti, hrt⟩ := failure_eq_some hfi
  exact ⟨e, t', List.mem_of_getElem? hti, hrt, by simp only [stateAfter, he]⟩

end

/-! ### the wait loop, one step at a time -/

section
variable {run : List α → Except ε (List β)} {tasks : List (List α)} {hasTimeout : Bool} {mr : MapResult ε β}

theorem await_ready {evs : List Event} (h : mr.ready = true) :
    awaitResultsWith run tasks hasTimeout mr evs = mr.get := by
  rw [awaitResultsWith.eq_def]
  simp only [h, if_true]

theorem await_nil (h : mr.ready = false) : awaitResultsWith run tasks hasTimeout mr [] = .blocked := by
  rw [awaitResultsWith.eq_def]
  simp only [h, Bool.false_eq_true, if_false]

theorem await_timeout (h : mr.ready = false) {rest : List Event} :
    awaitResultsWith run tasks hasTimeout mr (.timeout :: rest) =
      if hasTimeout then .raised .timeout else awaitResultsWith run tasks hasTimeout mr rest := by
  rw [awaitResultsWith.eq_def]
  simp only [h, Bool.false_eq_true, if_false]

theorem await_died (h : mr.ready = false) {w : Nat} {rest : List Event} :
    awaitResultsWith run tasks hasTimeout mr (.died w :: rest) = .raised .workerDied := by
  rw [awaitResultsWith.eq_def]
  simp only [h, Bool.false_eq_true, if_false]

theorem await_bystander (h : mr.ready = false) {p : Nat} {rest : List Event} :
    awaitResultsWith run tasks hasTimeout mr (.bystander p :: rest)
      = awaitResultsWith run tasks hasTimeout mr rest := by
  rw [awaitResultsWith.eq_def]
  simp only [h, Bool.false_eq_true, if_false]

theorem await_done (h : mr.ready = false) {i : Nat} {rest : List Event} :
    awaitResultsWith run tasks hasTimeout mr (.done i :: rest) =
      match tasks[i]? with
      | none => awaitResultsWith run tasks hasTimeout mr rest
      | some chunk => awaitResultsWith run tasks hasTimeout (mr.set i (run chunk)) rest := by
  rw [awaitResultsWith.eq_def]
  simp only [h, Bool.false_eq_true, if_false]
  rfl

end

section
variable (run : List α → Except ε (List β)) (tasks : List (List α))

/-- **the wait loop, for every event list**: with `left` chunks outstanding, the caller sees the
    first interruption that precedes the `left`-th completion; failing that it blocks if fewer
    than `left` completions are scheduled, and otherwise gets the state reached after exactly
    the first `left` completions. -/
theorem await_spec (hrun : LengthPreserving run) (cs : Nat) (hU : Uniform cs (tasks.map List.length))
    (hasTimeout : Bool) (evs : List Event) :
    ∀ (left : Nat) (mr : MapResult ε β) (ds : List Nat),
      Stored run tasks cs mr ds left → (∀ i ∈ doneIdxs evs, i < tasks.length) →
      awaitResultsWith run tasks hasTimeout mr evs =
        match interruption (ε := ε) hasTimeout left evs with
        | some err => .raised err
        | none =>
          if (doneIdxs evs).length < left then .blocked
          else getOf (stateAfter run tasks (ds ++ (doneIdxs evs).take left)) := by
  induction evs with
  | nil =>
    intro left mr ds h _
    cases left with
    | zero =>
      rw [await_ready h.ready, MapResult.get_eq, h.state_eq]
      simp only [interruption, Nat.not_lt_zero, if_false, List.take_zero, List.append_nil]
    | succ l =>
      rw [await_nil h.not_ready]
      simp only [interruption, doneIdxs, List.filterMap_nil, List.length_nil, Nat.zero_lt_succ, if_true]
  | cons ev rest ih =>
    intro left mr ds h hvalid
    cases left with
    | zero =>
      rw [await_ready h.ready, MapResult.get_eq, h.state_eq]
      simp only [interruption, Nat.not_lt_zero, if_false, List.take_zero, List.append_nil]
    | succ l =>
      cases ev with
      | timeout =>
        rw [await_timeout h.not_ready]
        cases hasTimeout with
        | true => simp only [interruption, if_true]
        | false =>
          rw [if_neg Bool.false_ne_true, ih (l + 1) mr ds h hvalid]
          simp only [interruption, Bool.false_eq_true, if_false, doneIdxs_timeout]
          rfl
      | died w =>
        rw [await_died h.not_ready]
        simp only [interruption]
      | bystander p =>
        rw [await_bystander h.not_ready, ih (l + 1) mr ds h hvalid]
        simp only [interruption, doneIdxs_bystander]
        rfl
      | done i =>
        have hi : i < tasks.length := hvalid i List.mem_cons_self
        have hti : tasks[i]? = some tasks[i] := List.getElem?_eq_getElem hi
        rw [await_done h.not_ready, hti]
        simp only
        rw [ih l _ _ (h.store hrun hU i tasks[i] hti) fun j hj => hvalid j (List.mem_cons_of_mem i hj)]
        simp only [interruption, doneIdxs_done, List.length_cons, Nat.add_lt_add_iff_right,
          List.take_succ_cons, List.append_assoc, List.singleton_append]

/-! ### what the loop does not look at -/

/-- an outcome other than "still waiting" is final: later events are never looked at -/
theorem await_append (hasTimeout : Bool) (rest : List Event) :
    ∀ (evs : List Event) (mr : MapResult ε β), awaitResultsWith run tasks hasTimeout mr evs ≠ .blocked →
      awaitResultsWith run tasks hasTimeout mr (evs ++ rest) = awaitResultsWith run tasks hasTimeout mr evs
  | evs, mr, h => by
    by_cases hr : mr.ready = true
    · rw [await_ready hr, await_ready hr]
    · have hnr : mr.ready = false := by simpa using hr
      match evs with
      | [] => exact absurd (await_nil hnr) h
      | .timeout :: evs =>
        rw [await_timeout hnr] at h
        rw [List.cons_append, await_timeout hnr, await_timeout hnr]
        cases hasTimeout with
        | true => rfl
        | false => exact await_append false rest evs mr h
      | .died w :: evs =>
        rw [List.cons_append, await_died hnr, await_died hnr]
      | .bystander p :: evs =>
        rw [await_bystander hnr] at h
        rw [List.cons_append, await_bystander hnr, await_bystander hnr]
        exact await_append hasTimeout rest evs mr h
      | .done i :: evs =>
        rw [await_done hnr] at h
        rw [List.cons_append, await_done hnr, await_done hnr]
        cases hti : tasks[i]? with
        | none =>
          rw [hti] at h
          exact await_append hasTimeout rest evs mr h
        | some t =>
          rw [hti] at h
          exact await_append hasTimeout rest evs _ h

theorem await_drop_bystanders (hasTimeout : Bool) :
    ∀ (evs : List Event) (mr : MapResult ε β),
      awaitResultsWith run tasks hasTimeout mr (evs.filter fun e => !e.isBystander) =
        awaitResultsWith run tasks hasTimeout mr evs
  | [], _ => rfl
  | ev :: rest, mr => by
    by_cases hr : mr.ready = true
    · rw [await_ready hr, await_ready hr]
    · have hnr : mr.ready = false := by simpa using hr
      cases ev with
      | bystander p =>
        show awaitResultsWith run tasks hasTimeout mr (rest.filter fun e => !e.isBystander) = _
        rw [await_bystander hnr]
        exact await_drop_bystanders hasTimeout rest mr
      | timeout =>
        show awaitResultsWith run tasks hasTimeout mr (.timeout :: rest.filter fun e => !e.isBystander) = _
        rw [await_timeout hnr, await_timeout hnr,
          await_drop_bystanders hasTimeout rest mr]
      | died w =>
        show awaitResultsWith run tasks hasTimeout mr (.died w :: rest.filter fun e => !e.isBystander) = _
        rw [await_died hnr, await_died hnr]
      | done i =>
        show awaitResultsWith run tasks hasTimeout mr (.done i :: rest.filter fun e => !e.isBystander) = _
        rw [await_done hnr, await_done hnr]
        cases tasks[i]? with
        | none => exact await_drop_bystanders hasTimeout rest mr
        | some t => exact await_drop_bystanders hasTimeout rest _

end

/-- the loop applies the batch runner to the task batches only -/
theorem await_congr (run run' : List α → Except ε (List β)) (tasks : List (List α)) (hasTimeout : Bool)
    (h : ∀ t ∈ tasks, run t = run' t) :
    ∀ (evs : List Event) (mr : MapResult ε β),
      awaitResultsWith run tasks hasTimeout mr evs = awaitResultsWith run' tasks hasTimeout mr evs
  | evs, mr => by
    by_cases hr : mr.ready = true
    · rw [await_ready hr, await_ready hr]
    · have hnr : mr.ready = false := by simpa using hr
      match evs with
      | [] => rw [await_nil hnr, await_nil hnr]
      | .timeout :: rest =>
        rw [await_timeout hnr, await_timeout hnr,
          await_congr run run' tasks hasTimeout h rest mr]
      | .died w :: rest => rw [await_died hnr, await_died hnr]
      | .bystander p :: rest =>
        rw [await_bystander hnr, await_bystander hnr,
          await_congr run run' tasks hasTimeout h rest mr]
      | .done i :: rest =>
        rw [await_done hnr, await_done hnr]
        cases hti : tasks[i]? with
        | none => exact await_congr run run' tasks hasTimeout h rest mr
        | some t =>
          simp only
          rw [h t (List.mem_of_getElem? hti), await_congr run run' tasks hasTimeout h rest _]

end ASV.Parallel
