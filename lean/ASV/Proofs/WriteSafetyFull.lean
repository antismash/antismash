/-
  C20: `run_antismash` under every option it reads (the early exits, `--profiling`).
-/
import ASV.Proofs.WriteSafetyRun
namespace ASV.WriteSafety
open ASV.PosixPath (Path Plain)

theorem span_prefix {α} (q : α → Bool) (a b : List α) (ha : ∀ x ∈ a, q x = true) (hb : ∀ x ∈ b.head?, q x = false) :
    (a ++ b).takeWhile q = a ∧ (a ++ b).dropWhile q = b := by
  rw [List.takeWhile_append_of_pos ha, List.dropWhile_append_of_pos ha]
  cases b with
  | nil => simp
  | cons x b => simp [hb x rfl]

/-- the results file is never one of the profiling files -/
theorem jsonName_not_profiling (r : RunIn) : r.jsonName ≠ profBinName ∧ r.jsonName ≠ profTxtName := by
  obtain ⟨pre, h⟩ := jsonName_shape r
  constructor
  · intro e
    rw [e] at h
    have hs : ".json".toList <:+ profBinName.toList := ⟨pre, h.symm⟩
    exact absurd hs (by decide +kernel)
  · intro e
    rw [e] at h
    have hs : ".json".toList <:+ profTxtName.toList := ⟨pre, h.symm⟩
    exact absurd hs (by decide +kernel)

theorem writeProfiling_events (d : Dir) :
    (writeProfilingResults d).1 =
      [.openW profBinName, .write profBinName, .openW profTxtName, .write profTxtName] := rfl

theorem writeProfiling_dir (d : Dir) :
    (writeProfilingResults d).2 = (d.withFile profBinName [profBin]).withFile profTxtName [profTxt] := by
  simp [writeProfilingResults, openW_append]

/-- logging's set-up makes directories and nothing else -/
theorem setupLogging_not_afterConversion (place : LogPlace) (t : Target) :
    ∀ ev ∈ (setupLogging place t).2, ev.afterConversion = false := by
  intro ev hev
  unfold setupLogging at hev
  split at hev
  · cases List.mem_singleton.1 hev
    rfl
  · split at hev <;> cases hev
  · rcases List.mem_cons.1 hev with h | h
    · cases h
      rfl
    · cases List.mem_singleton.1 h
      rfl
  · split at hev
    · cases hev
    · cases List.mem_singleton.1 hev
      rfl
  · cases hev

theorem earlyResult_reports (o : RunOpts) (h : stopsEarly o = true) :
    (earlyResult o).1.isSome = true ∨ (earlyResult o).2.isSome = true := by
  unfold stopsEarly at h
  unfold earlyResult
  cases h1 : o.listPlugins
  case true => exact Or.inr rfl
  cases h2 : o.checkPrereqsOnly
  case true => exact Or.inr rfl
  cases h3 : o.prereqsOk
  case false => exact Or.inl rfl
  cases h4 : o.optionsValid
  case false => exact Or.inr rfl
  cases h5 : o.anyModule
  case false => exact Or.inl rfl
  rw [h1, h2, h3, h4, h5] at h
  exact Or.inl h

/-- the early exits, spelled out: logging's set-up and nothing else -/
theorem runFull_early (o : RunOpts) (r : RunIn) (h : stopsEarly o = true) :
    runFull o r =
      ⟨⟨(setupLogging (logPlace (effective r.call).1) (effective r.call).1.target).2, (earlyResult o).1,
        (setupLogging (logPlace (effective r.call).1) (effective r.call).1.target).1⟩, (earlyResult o).2⟩ := by
  unfold stopsEarly at h
  unfold runFull earlyResult
  cases h1 : o.listPlugins
  case true => rfl
  cases h2 : o.checkPrereqsOnly
  case true => rfl
  cases h3 : o.prereqsOk
  case false => rfl
  cases h4 : o.optionsValid
  case false => rfl
  cases h5 : o.anyModule
  case false => rfl
  rw [h1, h2, h3, h4, h5] at h
  have h6 : (readData o.input).isSome = true := h
  simp only [h6, if_true]
  rfl

/-- past the early exits the run is `_run_antismash`'s tail on the directory logging left -/
theorem runFull_late (o : RunOpts) (r : RunIn) (h : stopsEarly o = false) :
    runFull o r =
      let p := (effective r.call).1
      let s := setupLogging (logPlace p) p.target
      let out := runPipeline ⟨afterLogging p, r.results, r.jsonName⟩
      match out.err, out.target with
      | some e, t => ⟨⟨s.2 ++ out.trace ++ (if e == inputError then [.logErr] else []), some e, t⟩, none⟩
      | none, .dir es =>
        if o.profile then
          ⟨⟨s.2 ++ out.trace ++ (writeProfilingResults es).1, none, .dir (writeProfilingResults es).2⟩, some 0⟩
        else ⟨⟨s.2 ++ out.trace, none, .dir es⟩, some 0⟩
      | none, t => ⟨⟨s.2 ++ out.trace, none, t⟩, some 0⟩ := by
  unfold stopsEarly at h
  simp only [Bool.or_eq_false_iff, Bool.not_eq_false'] at h
  obtain ⟨⟨⟨⟨⟨h1, h2⟩, h3⟩, h4⟩, h5⟩, h6⟩ := h
  simp only [runFull, h1, h2, h3, h4, h5, h6, Bool.false_eq_true, if_false, Bool.not_true, runTail, RunIn.toPipe,
    RunIn.jsonName, effective_target, afterLogging]
  rfl

/-- whenever the tail of the run ends in an exception, `run_antismash` with options is `runAntismash`
    (`runAntismash_eq`): no option adds anything on that path -/
theorem runFull_out_of_err (o : RunOpts) (r : RunIn) (he : stopsEarly o = false) (e : Exn)
    (h : (runPipeline ⟨afterLogging (effective r.call).1, r.results, r.jsonName⟩).err = some e) :
    (runFull o r).out = runAntismash r ∧ (runFull o r).code = none := by
  rw [runFull_late o r he, runAntismash_eq]
  simp only [h]
  constructor <;> simp

/-- **refused**, whatever the options: logging's set-up, the logged message, nothing else — no
    profiling files in particular -/
theorem runFull_refused (o : RunOpts) (r : RunIn) (wf : (effective r.call).1.WF = true)
    (he : stopsEarly o = false) (h : specAccepts (afterLogging (effective r.call).1) = false) :
    runFull o r =
      ⟨⟨(setupLogging (logPlace (effective r.call).1) (effective r.call).1.target).2 ++ [.logErr],
        some inputError, (afterLogging (effective r.call).1).target⟩, none⟩ := by
  rw [runFull_late o r he]
  have := pipeline_refused ⟨afterLogging (effective r.call).1, r.results, r.jsonName⟩
    (afterLogging_wf _ wf) h
  simp [this]

/-- a conversion fault, whatever the options: after logging's set-up nothing opens or writes a file,
    and the directory is the one `prepare_output_directory` left -/
theorem runFull_fault (o : RunOpts) (r : RunIn) (wf : (effective r.call).1.WF = true)
    (he : stopsEarly o = false) (ha : specAccepts (afterLogging (effective r.call).1) = true)
    (hf : r.results.hasFault = true) :
    ∃ e rest, runFull o r =
      ⟨⟨(setupLogging (logPlace (effective r.call).1) (effective r.call).1.target).2 ++ rest,
        some e, .dir (preparedDir (afterLogging (effective r.call).1))⟩, none⟩ ∧
      (∀ ev ∈ rest, ev.afterConversion = false) ∧ (runFull o r).out = runAntismash r := by
  obtain ⟨e, tr, hp, hall⟩ := pipeline_fault ⟨afterLogging (effective r.call).1, r.results, r.jsonName⟩
    ((prepare_accepts_iff _ (afterLogging_wf _ wf)).2 ha) hf
  refine ⟨e, tr ++ (if e == inputError then [.logErr] else []), ?_, ?_, (runFull_out_of_err o r he e (by rw [hp])).1⟩
  · rw [runFull_late o r he]
    simp [hp]
  · intro ev hev
    rcases List.mem_append.1 hev with h | h
    · exact hall ev h
    · split at h
      · cases List.mem_singleton.1 h
        rfl
      · cases h

/-- what a complete run leaves before any profiling: the prepared directory with the results file in it -/
def completedDir (r : RunIn) : Dir :=
  (preparedDir (afterLogging (effective r.call).1)).withFile r.jsonName (expectedFull r.results)

/-- a complete run, whatever the options: after logging's set-up the trace ends `open json, write json,
    annotate, write_outputs` with none of them earlier, followed by the profiling files if asked for -/
theorem runFull_clean (o : RunOpts) (r : RunIn) (wf : (effective r.call).1.WF = true)
    (he : stopsEarly o = false) (ha : specAccepts (afterLogging (effective r.call).1) = true)
    (hf : r.results.hasFault = false) :
    ∃ body, (∀ ev ∈ body, ev.afterConversion = false) ∧
      runFull o r =
        ⟨⟨(setupLogging (logPlace (effective r.call).1) (effective r.call).1.target).2 ++
            (body ++ [.openW r.jsonName, .write r.jsonName, .annotated, .outputsWritten] ++
              if o.profile then (writeProfilingResults (completedDir r)).1 else []), none,
          .dir (if o.profile then (writeProfilingResults (completedDir r)).2 else completedDir r)⟩, some 0⟩ := by
  obtain ⟨body, hp, hall⟩ := pipeline_clean ⟨afterLogging (effective r.call).1, r.results, r.jsonName⟩
    ((prepare_accepts_iff _ (afterLogging_wf _ wf)).2 ha) hf
  refine ⟨body, hall, ?_⟩
  rw [runFull_late o r he]
  simp only [hp, completedDir]
  cases o.profile
  · simp
  · simp

theorem body_not_profiling (r : RunIn) (body : List Ev) (hbody : ∀ ev ∈ body, ev.afterConversion = false) :
    ∀ ev ∈ body ++ [Ev.openW r.jsonName, .write r.jsonName, .annotated, .outputsWritten],
      ev.isProfiling = false := by
  obtain ⟨hj1, hj2⟩ := jsonName_not_profiling r
  intro ev hev
  rcases List.mem_append.1 hev with h | h
  · exact Ev.not_profiling_of_not_afterConversion ev (hbody ev h)
  · simp only [List.mem_cons, List.not_mem_nil, or_false] at h
    rcases h with rfl | rfl | rfl | rfl <;> simp [Ev.isProfiling, hj1, hj2]

theorem runFull_not_profiling (o : RunOpts) (r : RunIn) (wf : (effective r.call).1.WF = true)
    (h : ¬ (o.profile = true ∧ stopsEarly o = false ∧ specAccepts (afterLogging (effective r.call).1) = true ∧
      r.results.hasFault = false)) :
    ∀ ev ∈ (runFull o r).out.trace, ev.isProfiling = false := by
  have hpre := setupLogging_not_afterConversion (logPlace (effective r.call).1) (effective r.call).1.target
  intro ev hev
  cases he : stopsEarly o with
  | true =>
    rw [runFull_early o r he] at hev
    exact Ev.not_profiling_of_not_afterConversion ev (hpre ev hev)
  | false =>
    cases ha : specAccepts (afterLogging (effective r.call).1) with
    | false =>
      rw [runFull_refused o r wf he ha] at hev
      rcases List.mem_append.1 hev with h1 | h1
      · exact Ev.not_profiling_of_not_afterConversion ev (hpre ev h1)
      · cases List.mem_singleton.1 h1
        rfl
    | true =>
      cases hf : r.results.hasFault with
      | true =>
        obtain ⟨e, rest, hx, hrest, _⟩ := runFull_fault o r wf he ha hf
        rw [hx] at hev
        rcases List.mem_append.1 hev with h1 | h1
        · exact Ev.not_profiling_of_not_afterConversion ev (hpre ev h1)
        · exact Ev.not_profiling_of_not_afterConversion ev (hrest ev h1)
      | false =>
        obtain ⟨body, hbody, hx⟩ := runFull_clean o r wf he ha hf
        have hprof : o.profile = false := by
          cases hprof : o.profile with
          | false => rfl
          | true => exact absurd ⟨hprof, he, ha, hf⟩ h
        rw [hx, hprof, if_neg Bool.false_ne_true, List.append_nil] at hev
        rcases List.mem_append.1 hev with h1 | h1
        · exact Ev.not_profiling_of_not_afterConversion ev (hpre ev h1)
        · exact body_not_profiling r body hbody ev h1

/-- on the error paths `specFull` is `specRun` and: after logging's set-up no profiling event, no return code -/
theorem specFull_of_err (o : RunOpts) (r : RunIn) (wf : (effective r.call).1.WF = true) (x : RunOut) (rest : List Ev)
    (he : stopsEarly o = false)
    (hb : (specAccepts (afterLogging (effective r.call).1) && !r.results.hasFault) = false)
    (htr : x.out.trace = (setupLogging (logPlace (effective r.call).1) (effective r.call).1.target).2 ++ rest)
    (hrest : ∀ ev ∈ rest, ev.afterConversion = false) (hout : x.out = runAntismash r) (hcode : x.code = none) :
    specFull o r x = true := by
  have hs := run_meets_spec r wf
  rw [← hout] at hs
  have hnp : rest.any Ev.isProfiling = false := by
    rw [List.any_eq_false]
    intro ev hev
    rw [Ev.not_profiling_of_not_afterConversion ev (hrest ev hev)]
    exact Bool.false_ne_true
  simp [specFull, he, hb, hs, hcode, htr, hnp]

theorem full_meets_spec (o : RunOpts) (r : RunIn) (wf : (effective r.call).1.WF = true) :
    specFull o r (runFull o r) = true := by
  cases he : stopsEarly o with
  | true =>
    rw [runFull_early o r he]
    simp [specFull, he]
  | false =>
    have wf' := afterLogging_wf _ wf
    cases ha : specAccepts (afterLogging (effective r.call).1) with
    | false =>
      have hp := pipeline_refused ⟨afterLogging (effective r.call).1, r.results, r.jsonName⟩ wf' ha
      obtain ⟨h1, h2⟩ := runFull_out_of_err o r he inputError (by rw [hp])
      refine specFull_of_err o r wf _ [.logErr] he (by rw [ha]; rfl) ?_ ?_ h1 h2
      · rw [runFull_refused o r wf he ha]
      · intro ev hev
        cases List.mem_singleton.1 hev
        rfl
    | true =>
      cases hf : r.results.hasFault with
      | true =>
        obtain ⟨e, rest, hx, hrest, hout⟩ := runFull_fault o r wf he ha hf
        exact specFull_of_err o r wf _ rest he (by rw [ha, hf]; rfl) (by rw [hx]) hrest hout (by rw [hx])
      | false =>
        obtain ⟨body, hbody, hx⟩ := runFull_clean o r wf he ha hf
        have hd := dropWhile_not_afterConversion body [.write r.jsonName, .annotated, .outputsWritten] hbody r.jsonName
        obtain ⟨h1, h2⟩ := span_prefix (fun e : Ev => !e.isProfiling)
          (body ++ [.openW r.jsonName, .write r.jsonName, .annotated, .outputsWritten])
          (if o.profile then (writeProfilingResults (completedDir r)).1 else [])
          (fun ev hev => by rw [body_not_profiling r body hbody ev hev]; rfl)
          (by cases o.profile <;> simp [writeProfiling_events, Ev.isProfiling])
        simp only [specFull, he, ha, hf, Bool.not_false, Bool.and_self, if_true, Bool.false_eq_true, if_false]
        rw [hx]
        simp only [List.take_left, List.drop_left, h1, h2, hd]
        cases o.profile <;> simp [writeProfiling_events, writeProfiling_dir, completedDir]

end ASV.WriteSafety
