/-
  C19: what `add_area_from_feature` emits for one well-formed feature — in range, at the requested
  height, covering only bases of the feature, and readable back as exactly that feature (whole, or
  two linked halves).  A well-formed location is read as an arc of the ring (`IsArc`); an area is
  right as soon as its coordinates are those of the feature, or those plus `L`, in order inside
  the drawing range (`good_whole`), or are cut at `L` in one of three ways (`good_split`).
-/
import ASV.Proofs.PackingBase
namespace ASV.Packing
open ASV ASV.Packing.Spec

/-- everything the later proofs need to know about the areas emitted for one feature -/
structure Good (c : Ctx) (f : Feat) (h gid : Int) (as : List Area) : Prop where
  range : ∀ a ∈ as, areaInRange (drawRange c).1 (drawRange c).2 a = true
  height : ∀ a ∈ as, a.height = h
  points : ∀ a ∈ as, a.nstart < a.nend ∧
    ∀ x, a.nstart ≤ x → x < a.nend → f.loc.mem (foldS c.L x) = true
  drawn : (∃ a, as = [a] ∧ a.group = 0 ∧ Drawn.shown c.L (.whole a) = some (expectedShown f)) ∨
    (∃ a b, as = [a, b] ∧ a.group = gid ∧ b.group = gid ∧
      Drawn.shown c.L (.halves a b) = some (expectedShown f) ∧ b.nend ≤ a.nstart)
  placed : ∀ a, as = [a] → a.nstart = (drawRange c).1 + ringOffset c.L (drawRange c).1 f.start ∧
    a.nend = a.nstart + f.loc.len

theorem core_cases {L : Int} {loc core : Loc} (hl : collOK L loc = true) (hc : collOK L core = true)
    (hin : locationContainsOther loc core = true)
    (hx : core.parts.length > 1 → loc.parts.length > 1) :
    (∃ p q, loc = .simple p ∧ core = .simple q ∧ p.lo ≤ q.lo ∧ q.lo < q.hi ∧ q.hi ≤ p.hi) ∨
    (∃ s e q, loc = .compound [⟨s, L, .fwd⟩, ⟨0, e, .fwd⟩] ∧ core = .simple q ∧ q.lo < q.hi ∧
      ((s ≤ q.lo ∧ q.hi ≤ L) ∨ (0 ≤ q.lo ∧ q.hi ≤ e))) ∨
    (∃ s e cs ce, loc = .compound [⟨s, L, .fwd⟩, ⟨0, e, .fwd⟩] ∧
      core = .compound [⟨cs, L, .fwd⟩, ⟨0, ce, .fwd⟩] ∧ s ≤ cs ∧ cs < L ∧ 0 < ce ∧ ce ≤ e ∧ ce ≤ cs) := by
  rcases collOK_cases hl with ⟨p, rfl, hp1, hp2, hp3⟩ | ⟨s, e, rfl, he1, he2, he3⟩ <;>
  rcases collOK_cases hc with ⟨q, rfl, hq1, hq2, hq3⟩ | ⟨cs, ce, rfl, hc1, hc2, hc3⟩ <;>
  simp only [locationContainsOther, Loc.parts, partContains, List.all_cons, List.all_nil,
    List.any_cons, List.any_nil, Bool.or_false, Bool.and_true, Bool.and_eq_true, Bool.or_eq_true,
    decide_eq_true_eq] at hin
  · exact .inl ⟨p, q, rfl, rfl, hin.1.1, hq2, hin.2⟩
  · exact absurd (hx (by simp [Loc.parts])) (by simp [Loc.parts])
  · refine .inr (.inl ⟨s, e, q, rfl, rfl, hq2, ?_⟩)
    omega
  · refine .inr (.inr ⟨s, e, cs, ce, rfl, rfl, ?_⟩)
    omega

theorem areaInRange_iff (lo hi : Int) (a : Area) : areaInRange lo hi a = true ↔
    lo ≤ a.nstart ∧ a.nstart ≤ a.start ∧ a.start ≤ a.end ∧ a.end ≤ a.nend ∧ a.nend ≤ hi := by
  simp only [areaInRange, Bool.and_eq_true, decide_eq_true_eq]
  omega

theorem proto_core {c : Ctx} {f : Feat} (hf : featOK c f = true) (hk : f.kind = .proto) :
    collOK c.L f.loc = true ∧ collOK c.L f.core = true ∧ locationContainsOther f.loc f.core = true ∧
    (!decide (f.core.parts.length > 1) || decide (f.loc.parts.length > 1)) = true := by
  simp only [featOK, Bool.and_eq_true, hk, bne_self_eq_false, Bool.false_or] at hf
  simp only [Feat.crosses] at hf
  exact ⟨hf.1.1.1, hf.2.1.1, hf.2.1.2, hf.2.2⟩

/-- a well-formed location read as an arc of the ring: it begins at `locStart`, runs for `len`
    bases, through the origin if need be, and ends at `locEnd` -/
structure IsArc (L : Int) (l : Loc) : Prop where
  start_nonneg : 0 ≤ locStart l
  start_lt : locStart l < L
  len_pos : 0 < l.len
  len_le : l.len ≤ L
  len_eq : l.len = if locStart l < locEnd l then locEnd l - locStart l else locEnd l + L - locStart l
  end_pos : 0 < locEnd l
  end_le : locEnd l ≤ L
  mem_iff : ∀ y, 0 ≤ y → y < L → (l.mem y = true ↔ ringOffset L (locStart l) y < l.len)

theorem collOK_arc {L : Int} {l : Loc} (h : collOK L l = true) : IsArc L l := by
  rcases collOK_cases h with ⟨p, rfl, h1, h2, h3⟩ | ⟨s, e, rfl, h1, h2, h3⟩
  · refine ⟨h1, Int.lt_of_lt_of_le h2 h3, ?_, ?_, ?_, Int.lt_of_le_of_lt h1 h2, h3, ?_⟩
    · rw [len_simple]; omega
    · rw [len_simple]; omega
    · rw [locStart_simple, locEnd_simple, len_simple, if_pos h2]
    · intro y hy0 hyL
      rw [mem_simple, locStart_simple, len_simple]
      simp only [ringOffset]; omega
  · refine ⟨?_, ?_, ?_, ?_, ?_, ?_, ?_, ?_⟩
    · rw [locStart_cross]; omega
    · rw [locStart_cross]; exact h3
    · simp only [len_two]; omega
    · simp only [len_two]; omega
    · simp only [locStart_cross, locEnd_cross, len_two, if_neg (Int.not_lt.2 h2)]; omega
    · rw [locEnd_cross]; exact h1
    · rw [locEnd_cross]; omega
    · intro y hy0 hyL
      simp only [mem_two, locStart_cross, len_two]
      simp only [ringOffset]; omega

/-- what is drawn as the core: a protocluster's core; for the other kinds the whole extent -/
def shownCore (f : Feat) : Loc :=
  match f.kind with
  | .proto => f.core
  | _ => f.loc

theorem expectedShown_eq (f : Feat) : expectedShown f =
    ⟨f.kind, f.start, f.end, locStart (shownCore f), locEnd (shownCore f), f.loc.len, (shownCore f).len⟩ := by
  obtain ⟨loc, kind, core, single, labels⟩ := f
  cases kind <;> rfl

/-- the fields of `Area.from_feature` that the layout reads, for every kind at once -/
theorem fromFeature_coords (f : Feat) (h : Int) :
    (Area.fromFeature f h).nstart = f.start ∧ (Area.fromFeature f h).nend = f.end ∧
    (Area.fromFeature f h).start = locStart (shownCore f) ∧ (Area.fromFeature f h).end = locEnd (shownCore f) ∧
    (Area.fromFeature f h).kind = f.kind ∧ (Area.fromFeature f h).height = h ∧
    (Area.fromFeature f h).group = 0 := by
  obtain ⟨loc, kind, core, single, labels⟩ := f
  cases kind <;> exact ⟨rfl, rfl, rfl, rfl, rfl, rfl, rfl⟩

theorem shown_whole (L : Int) (a : Area) : Drawn.shown L (.whole a) =
    some ⟨a.kind, foldS L a.nstart, foldE L a.nend, foldS L a.start, foldE L a.end,
      a.nend - a.nstart, a.end - a.start⟩ := rfl

/-- one area whose four coordinates are those of the feature, each as it is or moved past the
    record end by `L`, in order inside a drawing range no longer than the record, the core not
    empty: it shows the feature, all of it and nothing else, where the unrolled record has it -/
theorem good_whole {c : Ctx} {f : Feat} {h gid : Int} {a : Area}
    (hl : IsArc c.L f.loc) (hs : IsArc c.L (shownCore f))
    (hlo : (drawRange c).1 ≤ c.L) (hhi : (drawRange c).2 ≤ (drawRange c).1 + c.L)
    (hk : a.kind = f.kind) (hh : a.height = h) (hg : a.group = 0)
    (hns : a.nstart = f.start ∨ a.nstart = f.start + c.L) (hne : a.nend = f.end ∨ a.nend = f.end + c.L)
    (hst : a.start = locStart (shownCore f) ∨ a.start = locStart (shownCore f) + c.L)
    (hen : a.end = locEnd (shownCore f) ∨ a.end = locEnd (shownCore f) + c.L)
    (hr : (drawRange c).1 ≤ a.nstart ∧ a.nstart ≤ a.start ∧ a.start < a.end ∧ a.end ≤ a.nend ∧
      a.nend ≤ (drawRange c).2) : Good c f h gid [a] := by
  have hne' : a.nend = a.nstart + f.loc.len :=
    len_of_shift hl.start_nonneg hl.end_le hl.len_eq hns hne (by omega) (by omega)
  have hen' : a.end = a.start + (shownCore f).len :=
    len_of_shift hs.start_nonneg hs.end_le hs.len_eq hst hen hr.2.2.1 (by omega)
  refine ⟨List.forall_mem_singleton.2 ((areaInRange_iff _ _ _).2 (by omega)), List.forall_mem_singleton.2 hh,
    List.forall_mem_singleton.2 ⟨by omega, ?_⟩, Or.inl ⟨a, rfl, hg, ?_⟩, ?_⟩
  · intro x hx1 hx2
    obtain ⟨w1, w2, w3⟩ := offset_of_shift hl.start_nonneg hl.len_le hns hx1 (by omega) (by omega)
    exact (hl.mem_iff _ w1 w2).2 w3
  · rw [shown_whole, expectedShown_eq, hk, foldS_shift hl.start_nonneg hl.start_lt hns,
      foldE_shift hl.end_pos hl.end_le hne, foldS_shift hs.start_nonneg hs.start_lt hst,
      foldE_shift hs.end_pos hs.end_le hen, hne', hen', Int.add_comm a.nstart, Int.add_comm a.start, Int.add_sub_cancel,
      Int.add_sub_cancel]
    rfl
  · intro b hb
    cases hb
    exact ⟨unroll_of_shift hns hr.1 (by omega), hne'⟩

theorem shown_halves {L : Int} {a b : Area} (h1 : a.nend = L) (h2 : b.nstart = 0) (h3 : a.kind = b.kind)
    (h4 : a.height = b.height) : Drawn.shown L (.halves a b) =
    some ⟨a.kind, a.nstart, b.nend, if a.start < a.end then a.start else b.start,
      if b.start < b.end then b.end else a.end, (a.nend - a.nstart) + (b.nend - b.nstart),
      (a.end - a.start) + (b.end - b.start)⟩ := by
  simp [Drawn.shown, h1, h2, h3, h4]

/-- an arc through the origin: drawn from its start to `L` and from 0 to its end, every position
    folds back into it -/
theorem IsArc.split_mem {L : Int} {l : Loc} (h : IsArc L l) (hx : locEnd l ≤ locStart l) :
    (∀ x, locStart l ≤ x → x < L → l.mem (foldS L x) = true) ∧
    (∀ x, 0 ≤ x → x < locEnd l → l.mem (foldS L x) = true) := by
  have hw := h.len_eq
  rw [if_neg (Int.not_lt.2 hx)] at hw
  have h1 := h.start_nonneg
  have h2 := h.end_le
  have h3 := h.end_pos
  constructor
  · intro x hx1 hx2
    rw [foldS_of_lt hx2]
    refine (h.mem_iff x (by omega) hx2).2 ?_
    rw [ringOffset_of_le hx1]
    omega
  · intro x hx1 hx2
    rw [foldS_of_lt (by omega)]
    refine (h.mem_iff x hx1 (by omega)).2 ?_
    rw [ringOffset_of_lt (by omega)]
    omega

/-- in a region that is the whole record, drawn from 0 to `L`, a feature running over the origin
    is cut there into two linked halves `a`, `b`; of the core each half shows a piece, an empty
    piece written with equal ends, and the reader puts the pieces together -/
theorem good_split {c : Ctx} {f : Feat} {h gid : Int} {a b : Area} (hl : IsArc c.L f.loc)
    (hlo : (drawRange c).1 = 0) (hhi : (drawRange c).2 = c.L) (hx : f.end ≤ f.start)
    (hka : a.kind = f.kind) (hkb : b.kind = f.kind) (hha : a.height = h) (hhb : b.height = h)
    (hga : a.group = gid) (hgb : b.group = gid)
    (hans : a.nstart = f.start) (hane : a.nend = c.L) (hbns : b.nstart = 0) (hbne : b.nend = f.end)
    (hcore : (f.start ≤ a.start ∧ a.start ≤ a.end ∧ a.end ≤ c.L) ∧
      (0 ≤ b.start ∧ b.start ≤ b.end ∧ b.end ≤ f.end) ∧
      (if a.start < a.end then a.start else b.start) = locStart (shownCore f) ∧
      (if b.start < b.end then b.end else a.end) = locEnd (shownCore f) ∧
      (a.end - a.start) + (b.end - b.start) = (shownCore f).len) :
    Good c f h gid [a, b] := by
  obtain ⟨hra, hrb, hcs, hce, hcl⟩ := hcore
  have hw : f.loc.len = f.end + c.L - f.start := hl.len_eq.trans (if_neg (Int.not_lt.2 hx))
  have hsh : Drawn.shown c.L (.halves a b) = some (expectedShown f) := by
    rw [shown_halves hane hbns (hka.trans hkb.symm) (hha.trans hhb.symm), expectedShown_eq, hka, hcs, hce, hcl,
      hans, hane, hbns, hbne, hw, Int.sub_zero, show c.L - f.start + f.end = f.end + c.L - f.start by omega]
  have pa : ∀ x, a.nstart ≤ x → x < a.nend → f.loc.mem (foldS c.L x) = true := by
    rw [hans, hane]
    exact (hl.split_mem hx).1
  have pb : ∀ x, b.nstart ≤ x → x < b.nend → f.loc.mem (foldS c.L x) = true := by
    rw [hbns, hbne]
    exact (hl.split_mem hx).2
  refine ⟨List.forall_mem_cons.2 ⟨(areaInRange_iff _ _ _).2 ?_, List.forall_mem_singleton.2 ((areaInRange_iff _ _ _).2 ?_)⟩,
    List.forall_mem_cons.2 ⟨hha, List.forall_mem_singleton.2 hhb⟩,
    List.forall_mem_cons.2 ⟨⟨?_, pa⟩, List.forall_mem_singleton.2 ⟨?_, pb⟩⟩,
    Or.inr ⟨a, b, rfl, hga, hgb, hsh, ?_⟩, ?_⟩
  · rw [hlo, hhi, hans, hane]
    exact ⟨hl.start_nonneg, hra.1, hra.2.1, hra.2.2, Int.le_refl _⟩
  · rw [hlo, hhi, hbns, hbne]
    exact ⟨Int.le_refl 0, hrb.1, hrb.2.1, hrb.2.2, hl.end_le⟩
  · rw [hans, hane]
    exact hl.start_lt
  · rw [hbns, hbne]
    exact hl.end_pos
  · rw [hbne, hans]
    exact hx
  · intro x hx
    cases hx

end ASV.Packing
