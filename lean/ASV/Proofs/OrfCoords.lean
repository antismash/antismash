/-
  C15 helper lemmas: the coordinate arithmetic of `scan_orfs` (mirroring, the two modular
  reductions with the `end - 1` trick, the wrap test) in normal form: the location reported on a
  ring is `ringLoc`, `m` bases upward from the reduced lowest coordinate.
-/
import ASV.Spec.Orf
namespace ASV.Orf
open ASV

theorem emod_of_decomp (x L r q : Int) (hx : x = r + L * q) (h0 : 0 ≤ r) (h1 : r < L) : x % L = r := by
  subst hx; rw [Int.add_mul_emod_self_left]; exact Int.emod_eq_of_lt h0 h1

/-- record coordinate (before reduction) of the ORF's lowest base -/
def orfBase (fwd : Bool) (n : Nat) (offset : Int) (s e : Nat) : Int :=
  if fwd then (s : Int) + offset else (n : Int) + offset - ((e : Int) + 2) - 1

/-- `m` bases upward from coordinate `a` of a ring of length `L`: one part when they end at or
    before the origin, otherwise the part up to the origin and the part after it, in
    transcription order -/
def ringLoc (fwd : Bool) (L a m : Int) : Loc :=
  if a + m ≤ L then .simple ⟨a, a + m, dirStrand fwd⟩
  else .compound (if fwd then [⟨a, L, dirStrand fwd⟩, ⟨0, a + m - L, dirStrand fwd⟩]
    else [⟨0, a + m - L, dirStrand fwd⟩, ⟨a, L, dirStrand fwd⟩])

/-- the exclusive end `scan_orfs` computes, in terms of base and length -/
theorem orfEnd_eq (fwd : Bool) (n : Nat) (offset : Int) (s e : Nat) :
    (if fwd then (e : Int) + 2 + offset + 1 else (n : Int) + offset - (s : Int))
      = orfBase fwd n offset s e + orfLen s e := by
  cases fwd
  · simp only [orfBase, orfLen, Bool.false_eq_true, if_false]; omega
  · simp only [orfBase, orfLen, if_true]; omega

/-- `scan_orfs`' location on a ring, in normal form -/
theorem orfLoc_ring {fwd : Bool} {n : Nat} {offset L : Int} {s e : Nat} (hL : 0 < L) (hs : s < e)
    (hlen : orfLen s e ≤ L) :
    orfLoc fwd n offset (some L) s e = ringLoc fwd L (orfBase fwd n offset s e % L) (orfLen s e) := by
  have hnn : 0 ≤ orfBase fwd n offset s e % L := Int.emod_nonneg _ (by omega)
  have hlt : orfBase fwd n offset s e % L < L := Int.emod_lt_of_pos _ hL
  have hm : 2 < orfLen s e := by simp only [orfLen]; omega
  unfold orfLoc ringLoc
  simp only [orfEnd_eq, Int.add_emod_right]
  rw [show (if fwd then (s : Int) + offset else (n : Int) + offset - ((e : Int) + 2) - 1)
    = orfBase fwd n offset s e from rfl]
  generalize orfLen s e = m at *
  -- the last base lies `m - 1` above the first: before the origin or one turn further
  rw [show orfBase fwd n offset s e + m - 1 = orfBase fwd n offset s e + (m - 1) by omega,
    ← Int.emod_add_emod]
  generalize orfBase fwd n offset s e % L = a at *
  by_cases hc : a + m ≤ L
  · rw [Int.emod_eq_of_lt (by omega) (by omega), if_neg (by omega), if_pos hc,
      show a + (m - 1) + 1 = a + m by omega]
  · rw [emod_of_decomp (a + (m - 1)) L (a + (m - 1) - L) 1 (by omega) (by omega) (by omega),
      if_pos (by omega), if_neg hc, show a + (m - 1) - L + 1 = a + m - L by omega]
    cases fwd
    · rfl
    · rfl

/-- the same over natural numbers: base index `a < L` congruent to the ORF's base, length `e + 3 - s` -/
theorem orfLoc_ring_nat {fwd : Bool} {n : Nat} {offset : Int} {L s e : Nat} (hL : 0 < L) (hs : s < e)
    (hlen : orfLen s e ≤ L) :
    ∃ a : Nat, a < L ∧ orfBase fwd n offset s e % (L : Int) = (a : Int) % L ∧ e + 3 - s ≤ L ∧
      orfLoc fwd n offset (some (L : Int)) s e = ringLoc fwd L a ((e + 3 - s : Nat) : Int) := by
  obtain ⟨a, ha⟩ := Int.eq_ofNat_of_zero_le
    (Int.emod_nonneg (orfBase fwd n offset s e) (show (L : Int) ≠ 0 by omega))
  have hlt := Int.emod_lt_of_pos (orfBase fwd n offset s e) (show 0 < (L : Int) by omega)
  have hm : orfLen s e = ((e + 3 - s : Nat) : Int) := by simp only [orfLen]; omega
  refine ⟨a, by omega, ?_, by omega, by rw [orfLoc_ring (by omega) hs hlen, ha, hm]⟩
  rw [ha, Int.emod_eq_of_lt (Int.natCast_nonneg a) (by omega)]

/-- without a record length the location is always a single part -/
theorem orfLoc_line {fwd : Bool} {n : Nat} {offset : Int} {s e : Nat} (hs : s < e) :
    orfLoc fwd n offset none s e =
      .simple ⟨orfBase fwd n offset s e, orfBase fwd n offset s e + orfLen s e, dirStrand fwd⟩ := by
  have hm : 0 < orfLen s e := by simp only [orfLen]; omega
  unfold orfLoc
  simp only [orfEnd_eq]
  rw [if_neg (by simp only [orfBase]; omega)]
  rfl

theorem mem_ringLoc_parts (fwd : Bool) (L a m : Int) (hc : ¬ a + m ≤ L) (p : Part) :
    p ∈ (ringLoc fwd L a m).parts ↔ p = ⟨a, L, dirStrand fwd⟩ ∨ p = ⟨0, a + m - L, dirStrand fwd⟩ := by
  unfold ringLoc
  rw [if_neg hc]
  cases fwd
  · simp only [Bool.false_eq_true, if_false, Loc.parts, List.mem_cons, List.not_mem_nil, or_false]
    exact Or.comm
  · simp only [if_true, Loc.parts, List.mem_cons, List.not_mem_nil, or_false]

/-- shape of a ring location: every part is a non-empty stretch of `[0, L]` on the strand, the
    lengths add up to `m`, there are two parts exactly when the stretch runs over the origin, and
    then `location_bridges_origin` holds -/
theorem ringLoc_shape (fwd : Bool) (L a m : Int) (hnn : 0 ≤ a) (hlt : a < L) (hm : 0 < m) (hlen : m ≤ L) :
    (∀ p ∈ (ringLoc fwd L a m).parts, 0 ≤ p.lo ∧ p.lo < p.hi ∧ p.hi ≤ L ∧ p.strand = dirStrand fwd)
    ∧ (ringLoc fwd L a m).len = m
    ∧ ((ringLoc fwd L a m).isCompound = true ↔ L < a + m)
    ∧ ((ringLoc fwd L a m).isCompound = true → (ringLoc fwd L a m).parts.length = 2)
    ∧ bridgesOrigin (ringLoc fwd L a m) = (ringLoc fwd L a m).isCompound := by
  by_cases hc : a + m ≤ L
  · unfold ringLoc
    rw [if_pos hc]
    refine ⟨?_, ?_, ?_, ?_, rfl⟩
    · intro p hp
      rw [Loc.parts, List.mem_singleton] at hp
      subst hp
      exact ⟨hnn, by simp only; omega, hc, rfl⟩
    · simp only [Loc.len, Loc.parts, Part.len, List.map_cons, List.map_nil, List.sum_cons, List.sum_nil]; omega
    · simp only [Loc.isCompound, Bool.false_eq_true, false_iff]; omega
    · intro h; simp only [Loc.isCompound, Bool.false_eq_true] at h
  · refine ⟨?_, ?_, ?_, ?_, ?_⟩
    · intro p hp
      rcases (mem_ringLoc_parts fwd L a m hc p).1 hp with rfl | rfl
      · exact ⟨hnn, hlt, Int.le_refl _, rfl⟩
      · exact ⟨Int.le_refl _, by simp only; omega, by simp only; omega, rfl⟩
    all_goals unfold ringLoc
    all_goals rw [if_neg hc]
    · cases fwd
      · simp only [Loc.len, Loc.parts, Part.len, Bool.false_eq_true, if_false, List.map_cons, List.map_nil,
          List.sum_cons, List.sum_nil]; omega
      · simp only [Loc.len, Loc.parts, Part.len, if_true, List.map_cons, List.map_nil,
          List.sum_cons, List.sum_nil]; omega
    · simp only [Loc.isCompound, true_iff]; omega
    · intro _
      cases fwd
      · rfl
      · rfl
    · have ha : (0 : Int) < a := by omega
      cases fwd
      · simp only [bridgesOrigin, Loc.strand, dirStrand, Bool.false_eq_true, if_false, List.all_cons,
          List.all_nil, Bool.and_true, beq_self_eq_true, if_true, orderInvalid, Loc.isCompound,
          Bool.or_false, decide_eq_true_eq, ha]
      · simp only [bridgesOrigin, Loc.strand, dirStrand, if_true, List.all_cons,
          List.all_nil, Bool.and_true, beq_self_eq_true, orderInvalid, Loc.isCompound,
          Bool.or_false, gt_iff_lt, ha, Bool.false_eq_true, if_false, decide_true]

theorem ringLoc_start_end (fwd : Bool) (L a m : Int) (hnn : 0 ≤ a) (hlt : a < L) (hlen : m ≤ L) :
    0 ≤ (ringLoc fwd L a m).start ∧ (ringLoc fwd L a m).end ≤ L := by
  unfold ringLoc
  split
  · exact ⟨hnn, by assumption⟩
  · cases fwd
    · simp only [Bool.false_eq_true, if_false, Loc.start, Loc.end, minList, maxList, List.map_cons,
        List.map_nil, List.foldl_cons, List.foldl_nil]
      omega
    · simp only [if_true, Loc.start, Loc.end, minList, maxList, List.map_cons,
        List.map_nil, List.foldl_cons, List.foldl_nil]
      omega

/-- the default label of a ring location: first base (1-based) and the end of the single part or of
    the part after the origin, whatever the strand -/
theorem orfLabel_ringLoc (recLen : Nat) (fwd : Bool) (L a m : Int) :
    orfLabel recLen (ringLoc fwd L a m) =
      "allorf_" ++ fmtInt (toString recLen).length (a + 1) ++ "_" ++
        fmtInt (toString recLen).length (if a + m ≤ L then a + m else a + m - L) := by
  unfold ringLoc
  split
  · rfl
  · cases fwd
    · simp [orfLabel, Loc.strand, dirStrand]
    · simp [orfLabel, Loc.strand, dirStrand]

end ASV.Orf
