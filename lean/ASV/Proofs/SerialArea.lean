/-
  C10: the round trips of the area classes protocluster and subregion (not sideloaded) through their Biopython form,
  each a class in the sense of `ClassDesc`.
-/
import ASV.Proofs.SerialClass
import ASV.Proofs.SerialString
import ASV.Proofs.Base.Except
namespace ASV.Serial
open ASV

theorem popReq_of_get? {q : Quals} {k m v : String} {rest : List String} (h : Q.get? q k = some (v :: rest)) :
    popReq q k m = .ok (v, Q.erase q k) := by
  simp [popReq, h, pure, Except.pure]

theorem popInt_of_get? {q : Quals} {k m : String} {i : Int} {rest : List String}
    (h : Q.get? q k = some (strOfInt i :: rest)) : popInt q k m = .ok (i, Q.erase q k) := by
  simp [popInt, popReq_of_get? h, intOfStr_strOfInt, bind, Except.bind, pure, Except.pure]

theorem parseLoc_locToString (l : Loc) (h : l.parts ≠ []) : parseLoc (locToString l) = .ok l := by
  simp [parseLoc, locFromString_locToString l h, pure, Except.pure]

/-! ### subregions -/

def subReserved (k : String) : Prop :=
  k = "aStool" ∨ k = "label" ∨ k = "anchor" ∨ k = "subregion_number" ∨ k = "contig_edge"

/-- the keys `SubRegion.to_biopython` and `from_biopython` use themselves -/
def subKeys : List String := ["aStool", "label", "anchor", "subregion_number", "contig_edge"]

theorem subReserved_iff (k : String) : subReserved k ↔ k ∈ subKeys := by
  simp only [subReserved, subKeys, List.mem_cons, List.mem_nil_iff, or_false]

/-- the keys `SubRegion.from_biopython` pops when the label read is `lab`: with a label the anchor is not looked at -/
def subPopped (lab : String) : List String :=
  if lab.isEmpty then subKeys else ["aStool", "label", "subregion_number", "contig_edge"]

/-- a written subregion has no anchor, so the pops remove `subKeys` either way -/
theorem get?_subPopped (lab : String) (W : Quals) (hanchor : Q.get? W "anchor" = none) (k : String) :
    Q.get? ((subPopped lab).foldl Q.erase W) k = if k ∈ subKeys then none else Q.get? W k := by
  rw [get?_eraseAll]
  unfold subPopped
  cases lab.isEmpty
  · by_cases ha : k = "anchor"
    · subst ha
      simp [subKeys, hanchor]
    · simp only [subKeys, List.mem_cons, List.mem_nil_iff, or_false, ha, false_or, Bool.false_eq_true, if_false]
  · rfl

/-- `SubRegion.from_biopython`'s common part on a feature with the lookups of a written subregion: the class's keys
    are popped and the base-class tail is run on the rest -/
theorem subTail_spec (b : Bio) (side : Option Quals) (tool lab : String)
    (htool : Q.get? b.quals "aStool" = some [tool])
    (hlab : Q.get? b.quals "label" = if lab.isEmpty then none else some [lab])
    (hanchor : Q.get? b.quals "anchor" = none) :
    subTail b b.quals side =
      (applyLeftovers ⟨b.loc, "subregion", [], [], true, none⟩ ((subPopped lab).foldl Q.erase b.quals)).map
        fun feat => ⟨feat, tool, lab, side⟩ := by
  unfold subTail subPopped
  rw [popReq_of_get? htool]
  simp only [bind, Except.bind]
  have h1 : Q.get? (Q.erase b.quals "aStool") "label" = if lab.isEmpty then none else some [lab] := by
    rw [Q.get?_erase_other _ _ _ (by simp), hlab]
  cases hl : lab.isEmpty
  · rw [hl] at h1
    simp only [Q.first_of_get? h1, hl, Bool.false_eq_true, if_false, collTail, List.foldl_cons, List.foldl_nil, Except.map,
      pure, Except.pure]
  · rw [hl] at h1
    have h2 : Q.get? (Q.erase (Q.erase b.quals "aStool") "label") "anchor" = none := by
      rw [Q.get?_erase_other _ _ _ (by simp), Q.get?_erase_other _ _ _ (by simp), hanchor]
    have hlab0 : lab = "" := String.isEmpty_iff.1 hl
    subst hlab0
    simp only [Q.first_of_none h1, Q.first_of_none h2, hl, if_true, collTail, subKeys, List.foldl_cons, List.foldl_nil,
      Except.map, pure, Except.pure]

/-- the qualifiers `SubRegion.to_biopython` hands to the base classes, `contig_edge` included -/
def subX (s : Sub) (num : Option Nat) (ce : Bool) : Quals :=
  Q.assign [] [("subregion_number", num.map fun (n : Nat) => [strOfInt n]), ("aStool", some [s.tool]),
    ("label", if s.label.isEmpty then none else some [s.label]), ("contig_edge", num.map fun _ => [boolStr ce])]

theorem Sub.toBio_eq (s : Sub) (num : Option Nat) (ce : Bool) :
    s.toBio num ce = (s.feat.toBio (subX s num ce)).map fun b => [sideload s.tool s.side b] := by
  unfold Sub.toBio collToBio subX
  simp only [bind, Except.bind, pure, Except.pure, Except.map]
  cases num <;> cases s.label.isEmpty <;> rfl

theorem nodup_subX (s : Sub) (num : Option Nat) (ce : Bool) : Q.Nodup (subX s num ce) :=
  Q.nodup_assign _ nodupNil

theorem get?_subX (s : Sub) (num : Option Nat) (ce : Bool) (k : String) :
    Q.get? (subX s num ce) k =
      if k = "subregion_number" then num.map (fun (n : Nat) => [strOfInt n])
      else if k = "aStool" then some [s.tool]
      else if k = "label" then (if s.label.isEmpty then none else some [s.label])
      else if k = "contig_edge" then num.map (fun _ => [boolStr ce])
      else none :=
  Q.get?_assign_nil _ (by simp) k

/-- well-formed subregion: made by antiSMASH, no codon start, and its free qualifiers use none of the
    keys the class itself writes -/
structure Sub.WF (s : Sub) : Prop where
  feat : s.feat.WF
  byAS : s.feat.byAS = true
  codon : s.feat.codon = none
  type : s.feat.type = "subregion"
  reserved : ∀ k, subReserved k → Q.get? s.feat.quals k = none
  plainTool : isExternal s.tool = false

/-- the number and the contig-edge flag the record passes to the writer are parameters of the class -/
theorem subClass (num : Option Nat) (ce : Bool) : ClassDesc (ok := Sub.WF) (type := "subregion") (keys := subKeys) (stay := [])
    (by0 := true) (feat := (·.feat)) (own := fun s => subX s num ce) (left := fun s W => (subPopped s.label).foldl Q.erase W)
    (rebuild := fun s f => ⟨f, s.tool, s.label, none⟩) (read := Sub.fromBio) where
  base := fun _ h => ⟨h.feat, h.byAS, h.codon, h.type, fun k hk => h.reserved k ((subReserved_iff k).2 hk)⟩
  base_keys := by simp [subKeys]
  stay_sub := fun _ h => nomatch h
  own_nodup := fun s => nodup_subX s num ce
  own_keys := fun s _ k hk => by
    rw [get?_subX]
    simp only [subKeys, List.mem_cons, List.mem_nil_iff, or_false, not_or] at hk
    simp only [hk, if_false]
  left_nodup := fun _ _ => nodup_eraseAll _
  left_get := fun s W hW k _ => get?_subPopped s.label W (by rw [hW _ (by simp [subKeys]), get?_subX]; simp) k
  read_written := fun s h W _ hW _ => by
    have look : ∀ k ∈ subKeys, Q.get? W k = _ := fun k hk => (hW k hk).trans (get?_subX s num ce k)
    have l_tool : Q.get? W "aStool" = some [s.tool] := by rw [look _ (by simp [subKeys])]; simp
    unfold Sub.fromBio
    simp only [l_tool, h.plainTool, Bool.false_eq_true, if_false]
    exact subTail_spec ⟨s.feat.loc, "subregion", W⟩ none s.tool s.label l_tool (by rw [look _ (by simp [subKeys])]; simp)
      (by rw [look _ (by simp [subKeys])]; simp)

theorem sub_roundtrip (t : Bool) (s : Sub) (h : s.WF) (hside : s.side = none) (num : Option Nat) (ce : Bool)
    (bs : List Bio) (hb : s.toBio num ce = .ok bs) :
    ∃ b, bs = [b] ∧ b.type = "subregion" ∧ b.loc = s.feat.loc ∧
      ∃ s', Sub.fromBio b = .ok s' ∧ s'.view t = s.view t ∧ s'.feat.loc = s.feat.loc ∧ s'.WF ∧ s'.side = none := by
  rw [Sub.toBio_eq] at hb
  obtain ⟨b, hw, rfl⟩ := Base.map_eq_ok.1 hb
  obtain ⟨rfl, hr, R⟩ := (subClass num ce).roundtrip t s h b hw
  generalize List.foldl Q.erase _ (subPopped s.label) = L at hr R
  replace R : Reread t s.feat subKeys L := R
  simp only [hside, sideload]
  refine ⟨_, rfl, rfl, rfl, _, hr, ?_, rfl, ⟨R.wf, rfl, rfl, h.type,
    fun k hk => R.reserved k ((subReserved_iff k).1 hk), h.plainTool⟩, rfl⟩
  unfold Sub.view
  rw [R.view, hside]

/-! ### protoclusters -/

def protoReserved (k : String) : Prop :=
  k = "category" ∨ k = "neighbourhood" ∨ k = "cutoff" ∨ k = "product" ∨ k = "aStool" ∨ k = "detection_rule" ∨
  k = "core_location" ∨ k = "protocluster_number" ∨ k = "contig_edge"

/-- the qualifiers `Protocluster.to_biopython` hands to the base classes, `contig_edge` included -/
def protoX (p : Proto) (num : Option Nat) (ce : Bool) : Quals :=
  Q.assign [] [("neighbourhood", some [strOfInt p.nbhd]), ("cutoff", some [strOfInt p.cutoff]), ("product", some [p.product]),
    ("aStool", some [p.tool]), ("detection_rule", some [p.rule]), ("protocluster_number", num.map fun (n : Nat) => [strOfInt n]),
    ("core_location", some [locToString p.core]), ("category", if p.category.isEmpty then none else some [p.category]),
    ("contig_edge", num.map fun _ => [boolStr ce])]

/-- the `proto_core` feature written next to a protocluster; reading skips it -/
def coreBio (p : Proto) (num : Option Nat) : Bio :=
  ⟨p.core, "proto_core", coreQuals (Q.sortKeys (Q.update (Q.erase p.feat.quals "note") (p.common num)))⟩

theorem Proto.toBio_eq (p : Proto) (num : Option Nat) (ce : Bool) :
    p.toBio num ce = (p.feat.toBio (protoX p num ce)).map fun nb =>
      [sideload p.tool p.side nb, sideload p.tool p.side (coreBio p num)] := by
  unfold Proto.toBio collToBio protoX coreBio
  simp only [bind, Except.bind, pure, Except.pure, Except.map]
  cases num <;> cases p.category.isEmpty <;> rfl

theorem nodup_protoX (p : Proto) (num : Option Nat) (ce : Bool) : Q.Nodup (protoX p num ce) :=
  Q.nodup_assign _ nodupNil

theorem nodup_common (p : Proto) (num : Option Nat) : Q.Nodup (p.common num) := by
  cases num <;> simp [Proto.common, Q.Nodup, Q.keys]

theorem get?_common (p : Proto) (num : Option Nat) (k : String) :
    Q.get? (p.common num) k =
      if "neighbourhood" = k then some [strOfInt p.nbhd]
      else if "cutoff" = k then some [strOfInt p.cutoff]
      else if "product" = k then some [p.product]
      else if "aStool" = k then some [p.tool]
      else if "detection_rule" = k then some [p.rule]
      else if "protocluster_number" = k then num.map (fun (n : Nat) => [strOfInt n])
      else none := by
  cases num
  · simp only [Option.map_none, ite_self]
    rfl
  · rfl

theorem get?_protoX (p : Proto) (num : Option Nat) (ce : Bool) (k : String) :
    Q.get? (protoX p num ce) k =
      if k = "neighbourhood" then some [strOfInt p.nbhd]
      else if k = "cutoff" then some [strOfInt p.cutoff]
      else if k = "product" then some [p.product]
      else if k = "aStool" then some [p.tool]
      else if k = "detection_rule" then some [p.rule]
      else if k = "protocluster_number" then num.map (fun (n : Nat) => [strOfInt n])
      else if k = "core_location" then some [locToString p.core]
      else if k = "category" then (if p.category.isEmpty then none else some [p.category])
      else if k = "contig_edge" then num.map (fun _ => [boolStr ce])
      else none :=
  Q.get?_assign_nil _ (by simp) k

/-- well-formed protocluster (not sideloaded): made by antiSMASH, no codon start, a core location with
    at least one part, free qualifiers using none of the class's own keys, a tool name that does not
    look like a sideloaded one -/
structure Proto.WF (p : Proto) : Prop where
  feat : p.feat.WF
  byAS : p.feat.byAS = true
  codon : p.feat.codon = none
  type : p.feat.type = "protocluster"
  core : p.core.parts ≠ []
  reserved : ∀ k, protoReserved k → Q.get? p.feat.quals k = none
  plainTool : isExternal p.tool = false

/-- the keys `Protocluster.to_biopython` and `from_biopython` use themselves -/
def protoOwn : List String := protoKeys ++ ["protocluster_number", "contig_edge"]

theorem protoReserved_iff (k : String) : protoReserved k ↔ k ∈ protoOwn := by
  simp only [protoReserved, protoOwn, protoKeys, List.cons_append, List.nil_append, List.mem_cons, List.mem_nil_iff, or_false]

/-- `Protocluster.from_biopython` on a feature with the lookups of a written protocluster that is not sideloaded: the
    attributes are read, the class's keys popped, and the base-class tail is run on the rest -/
theorem protoFromBio_spec (b : Bio) (p : Proto) (hcore : p.core.parts ≠ []) (hplain : isExternal p.tool = false)
    (hnb : Q.get? b.quals "neighbourhood" = some [strOfInt p.nbhd]) (hcut : Q.get? b.quals "cutoff" = some [strOfInt p.cutoff])
    (hprod : Q.get? b.quals "product" = some [p.product]) (htool : Q.get? b.quals "aStool" = some [p.tool])
    (hrule : Q.get? b.quals "detection_rule" = some [p.rule])
    (hloc : Q.get? b.quals "core_location" = some [locToString p.core])
    (hcat : Q.get? b.quals "category" = if p.category.isEmpty then none else some [p.category]) :
    Proto.fromBio b = (applyLeftovers ⟨b.loc, "protocluster", [], [], true, none⟩ (protoOwn.foldl Q.erase b.quals)).map
      fun feat => ⟨feat, p.core, p.tool, p.product, p.cutoff, p.nbhd, p.rule, p.category, none⟩ := by
  have hcat' : Q.first b.quals "category" "" = p.category := by
    unfold Q.first
    rw [hcat]
    cases hc : p.category.isEmpty
    · rfl
    · exact (String.isEmpty_iff.1 hc).symm
  -- each attribute is still there after the pops before it
  have k1 : Q.get? (Q.erase b.quals "category") "neighbourhood" = some [strOfInt p.nbhd] := by
    simp only [Q.get?_erase_other, ne_eq, String.reduceEq, not_false_eq_true, hnb]
  have k2 : Q.get? (Q.erase (Q.erase b.quals "category") "neighbourhood") "cutoff" = some [strOfInt p.cutoff] := by
    simp only [Q.get?_erase_other, ne_eq, String.reduceEq, not_false_eq_true, hcut]
  have k3 : Q.get? (Q.erase (Q.erase (Q.erase b.quals "category") "neighbourhood") "cutoff") "product" = some [p.product] := by
    simp only [Q.get?_erase_other, ne_eq, String.reduceEq, not_false_eq_true, hprod]
  have k4 : Q.get? (Q.erase (Q.erase (Q.erase (Q.erase b.quals "category") "neighbourhood") "cutoff") "product") "aStool"
      = some [p.tool] := by
    simp only [Q.get?_erase_other, ne_eq, String.reduceEq, not_false_eq_true, htool]
  have k5 : Q.get? (Q.erase (Q.erase (Q.erase (Q.erase (Q.erase b.quals "category") "neighbourhood") "cutoff") "product") "aStool")
      "detection_rule" = some [p.rule] := by
    simp only [Q.get?_erase_other, ne_eq, String.reduceEq, not_false_eq_true, hrule]
  have k6 : Q.get? (Q.erase (Q.erase (Q.erase (Q.erase (Q.erase (Q.erase b.quals "category") "neighbourhood") "cutoff") "product")
      "aStool") "detection_rule") "core_location" = some [locToString p.core] := by
    simp only [Q.get?_erase_other, ne_eq, String.reduceEq, not_false_eq_true, hloc]
  unfold Proto.fromBio
  simp only [Q.first_of_get? htool, hplain, Bool.false_eq_true, if_false, hcat', popInt_of_get? k1, popInt_of_get? k2,
    popReq_of_get? k3, popReq_of_get? k4, popReq_of_get? k5, popReq_of_get? k6, parseLoc_locToString p.core hcore, bind,
    Except.bind, collTail, protoOwn, protoKeys, List.cons_append, List.nil_append, List.foldl_cons, List.foldl_nil, Except.map,
    pure, Except.pure]

theorem protoClass (num : Option Nat) (ce : Bool) : ClassDesc (ok := Proto.WF) (type := "protocluster") (keys := protoOwn)
    (stay := []) (by0 := true) (feat := (·.feat)) (own := fun p => protoX p num ce)
    (left := fun _ W => protoOwn.foldl Q.erase W)
    (rebuild := fun p f => ⟨f, p.core, p.tool, p.product, p.cutoff, p.nbhd, p.rule, p.category, none⟩) (read := Proto.fromBio) where
  base := fun _ h => ⟨h.feat, h.byAS, h.codon, h.type, fun k hk => h.reserved k ((protoReserved_iff k).2 hk)⟩
  base_keys := by simp [protoOwn, protoKeys]
  stay_sub := fun _ h => nomatch h
  own_nodup := fun p => nodup_protoX p num ce
  own_keys := fun p _ k hk => by
    rw [get?_protoX]
    simp only [protoOwn, protoKeys, List.cons_append, List.nil_append, List.mem_cons, List.mem_nil_iff, or_false, not_or] at hk
    simp only [hk, if_false]
  left_nodup := fun _ _ => nodup_eraseAll _
  left_get := fun _ W _ k _ => get?_eraseAll _ W k
  read_written := fun p h W _ hW _ => by
    have look : ∀ k ∈ protoOwn, Q.get? W k = _ := fun k hk => (hW k hk).trans (get?_protoX p num ce k)
    exact protoFromBio_spec ⟨p.feat.loc, "protocluster", W⟩ p h.core h.plainTool
      (by rw [look _ (by simp [protoOwn, protoKeys])]; simp) (by rw [look _ (by simp [protoOwn, protoKeys])]; simp)
      (by rw [look _ (by simp [protoOwn, protoKeys])]; simp) (by rw [look _ (by simp [protoOwn, protoKeys])]; simp)
      (by rw [look _ (by simp [protoOwn, protoKeys])]; simp) (by rw [look _ (by simp [protoOwn, protoKeys])]; simp)
      (by rw [look _ (by simp [protoOwn, protoKeys])]; simp)

theorem proto_roundtrip (t : Bool) (p : Proto) (h : p.WF) (hside : p.side = none) (num : Option Nat) (ce : Bool)
    (bs : List Bio) (hb : p.toBio num ce = .ok bs) :
    ∃ nb, bs = [nb, coreBio p num] ∧ nb.type = "protocluster" ∧ nb.loc = p.feat.loc ∧
      ∃ p', Proto.fromBio nb = .ok p' ∧ p'.view t = p.view t ∧ p'.feat.loc = p.feat.loc ∧ p'.WF ∧ p'.side = none ∧
        p'.core = p.core ∧ p'.cutoff = p.cutoff := by
  rw [Proto.toBio_eq] at hb
  obtain ⟨nb, hw, rfl⟩ := Base.map_eq_ok.1 hb
  obtain ⟨rfl, hr, R⟩ := (protoClass num ce).roundtrip t p h nb hw
  generalize List.foldl Q.erase _ protoOwn = L at hr R
  replace R : Reread t p.feat protoOwn L := R
  simp only [hside, sideload]
  refine ⟨_, rfl, rfl, rfl, _, hr, ?_, rfl, ⟨R.wf, rfl, rfl, h.type, h.core,
    fun k hk => R.reserved k ((protoReserved_iff k).1 hk), h.plainTool⟩, rfl, rfl, rfl⟩
  unfold Proto.view
  rw [R.view, hside]

end ASV.Serial
