/-
  The literal binary search returns the partition point whenever the list is partitioned by the test
  (all elements passing it come before all elements failing it) — bisect's documented contract.
-/
import ASV.Model.Bisect
namespace ASV.Bisect

/-- positions below `k` pass the test, positions from `k` on fail it -/
def PartitionedAt {α} (keep : α → Bool) (a : List α) (k : Nat) : Prop :=
  k ≤ a.length ∧ (∀ i y, a[i]? = some y → i < k → keep y = true) ∧ (∀ i y, a[i]? = some y → k ≤ i → keep y = false)

theorem loop_eq {α} (keep : α → Bool) (a : List α) (k : Nat) (hp : PartitionedAt keep a k) :
    ∀ (fuel lo hi : Nat), lo ≤ k → k ≤ hi → hi ≤ a.length → hi - lo ≤ fuel → loop keep a fuel lo hi = k
  | 0, lo, hi, h1, h2, _, hf => by rw [loop]; omega
  | fuel + 1, lo, hi, h1, h2, h3, hf => by
    rw [loop]
    by_cases hlt : lo < hi
    · rw [if_pos hlt]
      -- all that is needed of the midpoint
      have hm : lo ≤ (lo + hi) / 2 ∧ (lo + hi) / 2 < hi := by omega
      generalize (lo + hi) / 2 = m at hm
      cases hget : a[m]? with
      | none => rw [List.getElem?_eq_none_iff] at hget; omega
      | some y =>
        cases hk : keep y
        · simp only [hget, hk, Bool.false_eq_true, if_false]
          refine loop_eq keep a k hp fuel lo m h1 ?_ (by omega) (by omega)
          rcases Nat.lt_or_ge m k with hc | hc
          · rw [hp.2.1 m _ hget hc] at hk; cases hk
          · exact hc
        · simp only [hget, hk, if_true]
          refine loop_eq keep a k hp fuel (m + 1) hi ?_ h2 h3 (by omega)
          rcases Nat.lt_or_ge m k with hc | hc
          · exact hc
          · rw [hp.2.2 m _ hget hc] at hk; cases hk
    · rw [if_neg hlt]; omega
theorem bisect_eq {α} (keep : α → Bool) (a : List α) (k lo : Nat) (hp : PartitionedAt keep a k) (h : lo ≤ k) :
    bisect keep a lo = k :=
  loop_eq keep a k hp _ lo a.length h hp.1 (Nat.le_refl _) (Nat.le_refl _)

/-- a list whose `dropWhile` part fails the test everywhere is partitioned at the length of its `takeWhile` part -/
theorem partitioned_takeWhile {α} (keep : α → Bool) (a : List α) (h : ∀ y ∈ a.dropWhile keep, keep y = false) :
    PartitionedAt keep a (a.takeWhile keep).length := by
  have hsplit : a.takeWhile keep ++ a.dropWhile keep = a := List.takeWhile_append_dropWhile
  refine ⟨?_, ?_, ?_⟩
  · have := congrArg List.length hsplit
    simp only [List.length_append] at this; omega
  · intro i y hy hi
    have : (a.takeWhile keep ++ a.dropWhile keep)[i]? = some y := by rw [hsplit]; exact hy
    rw [List.getElem?_append_left hi] at this
    exact List.all_eq_true.1 List.all_takeWhile y (List.mem_of_getElem? this)
  · intro i y hy hi
    have : (a.takeWhile keep ++ a.dropWhile keep)[i]? = some y := by rw [hsplit]; exact hy
    rw [List.getElem?_append_right hi] at this
    exact h y (List.mem_of_getElem? this)

/-- in a list ordered by `R`, a test that — once failed — fails on everything `R`-after fails on the whole `dropWhile` part:
    what makes a sorted list partitioned by a monotone test -/
theorem dropWhile_fails {α} {R : α → α → Prop} (p : α → Bool) : ∀ {l : List α}, l.Pairwise R →
    (∀ a ∈ l, ∀ b ∈ l, R a b → p a = false → p b = false) → ∀ y ∈ l.dropWhile p, p y = false
  | [], _, _, y, hy => nomatch hy
  | x :: l, h, hmono, y, hy => by
    obtain ⟨hx, hl⟩ := List.pairwise_cons.1 h
    rw [List.dropWhile_cons] at hy
    cases hp : p x
    · rw [hp] at hy
      rcases List.mem_cons.1 hy with rfl | hy
      · exact hp
      · exact hmono x List.mem_cons_self y (List.mem_cons_of_mem _ hy) (hx y hy) hp
    · rw [hp] at hy
      exact dropWhile_fails p hl
        (fun a ha b hb => hmono a (List.mem_cons_of_mem _ ha) b (List.mem_cons_of_mem _ hb)) y hy

end ASV.Bisect
