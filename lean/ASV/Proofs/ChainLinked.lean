/-
  C03 helper lemmas: linkage inside a chained group; the chain relation on a line and in an arc of at most
  half a ring; lists related element by element; the cores of `find_protoclusters` in an arc are the hulls of
  the maximal chains (`cores_are_chains_of_arc`).
-/
import ASV.Proofs.ProtoLine
import ASV.Proofs.ChainPartition
namespace ASV.Chains
open ASV ASV.ChainSweep ASV.Proto

variable {α : Type}

theorem spanLoc_nb (w : Int) (l : Loc) (h : bridgesOrigin l = false) :
    spanLoc w l = .simple ⟨l.start, l.end, .fwd⟩ := by
  simp [spanLoc, spanParts, h, Loc.ofParts, fl]

theorem sharesPts_simple (p q : Part) : sharesPts (.simple p) (.simple q) = true ↔
    ((p.lo < p.hi ∧ q.lo ≤ p.lo ∧ p.lo < q.hi) ∨ (q.lo < q.hi ∧ p.lo ≤ q.lo ∧ q.lo < p.hi)) := by
  simp only [sharesPts, Loc.parts, List.map_cons, List.map_nil, List.cons_append, List.nil_append,
    List.any_cons, List.any_nil, Bool.or_false, Loc.mem, Part.mem, Bool.and_eq_true, Bool.or_eq_true,
    decide_eq_true_eq]
  omega

theorem specDist_simple (L : Int) (p q : Part) : specDist L (.simple p) (.simple q) = specPartDist L p q := by
  simp [specDist, Loc.parts, minList]

/-- two non-empty spans whose distance is their gap on a line are related iff each starts fewer than
    `c` positions after the other ends -/
private theorem nearB_simple_iff (L c : Int) (hc : 0 ≤ c) (p q : Part) (hp : p.lo < p.hi) (hq : q.lo < q.hi)
    (hgap : specPartDist L p q = lineGap p q) :
    (sharesPts (.simple p) (.simple q) || decide (specDistFull L (.simple p) (.simple q) < c)) = true ↔
      (p.lo < q.hi + c ∧ q.lo < p.hi + c) := by
  by_cases hs : sharesPts (.simple p) (.simple q) = true
  · have h2 := (sharesPts_simple p q).1 hs
    simp only [hs, Bool.true_or, true_iff]
    omega
  · have h2 := mt (sharesPts_simple p q).2 hs
    have hsf : sharesPts (.simple p) (.simple q) = false := by simpa using hs
    simp only [hsf, Bool.false_or, decide_eq_true_eq, specDistFull, Bool.false_eq_true, if_false, specDist_simple,
      hgap, lineGap]
    split <;> (try split) <;> omega

/-- the chain relation of two non-bridging, non-empty locations whose spans are as far apart as on a line is
    `reach` on the spans -/
theorem nearB_iff_reach (L c : Int) (hc : 0 ≤ c) (a b : Loc) (ha : bridgesOrigin a = false)
    (hb : bridgesOrigin b = false) (hla : a.start < a.end) (hlb : b.start < b.end)
    (hgap : specPartDist L ⟨a.start, a.end, .fwd⟩ ⟨b.start, b.end, .fwd⟩ =
      lineGap ⟨a.start, a.end, .fwd⟩ ⟨b.start, b.end, .fwd⟩) :
    nearB L c a b = true ↔ reach Loc.start Loc.end c a b := by
  simp only [nearB, spanLoc_nb L a ha, spanLoc_nb L b hb, reach]
  exact nearB_simple_iff L c hc _ _ hla hlb hgap

theorem nearB_line_iff (len c : Int) (hc : 0 ≤ c) (a b : Loc) (ha : GeneOK len a) (hb : GeneOK len b) :
    nearB 0 c a b = true ↔ reach Loc.start Loc.end c a b :=
  nearB_iff_reach 0 c hc a b ha.nb hb.nb ha.start_lt_end hb.start_lt_end (by simp [specPartDist])

theorem paired_of_map_eq {β γ : Type} {f : α → γ} {g : β → γ} {P : α → Prop} {Q : β → Prop} :
    ∀ (l1 : List α) (l2 : List β), l1.map f = l2.map g → (∀ a ∈ l1, P a) → (∀ b ∈ l2, Q b) →
      Paired (fun a b => f a = g b ∧ P a ∧ Q b) l1 l2
  | [], [], _, _, _ => Paired.nil
  | [], _ :: _, h, _, _ => by simp at h
  | _ :: _, [], h, _, _ => by simp at h
  | a :: l1, b :: l2, h, hp, hq => by
    simp only [List.map_cons, List.cons.injEq] at h
    exact Paired.cons ⟨h.1, hp a (by simp), hq b (by simp)⟩
      (paired_of_map_eq l1 l2 h.2 (fun x hx => hp x (by simp [hx])) (fun x hx => hq x (by simp [hx])))

theorem Paired.imp {β : Type} {R S : α → β → Prop} (h : ∀ a b, R a b → S a b) :
    ∀ {l1 : List α} {l2 : List β}, Paired R l1 l2 → Paired S l1 l2
  | _, _, .nil => .nil
  | _, _, .cons hab t => .cons (h _ _ hab) (Paired.imp h t)

theorem Paired.map_right {β γ : Type} {R : α → γ → Prop} (f : β → γ) :
    ∀ {l1 : List α} {l2 : List β}, Paired (fun a b => R a (f b)) l1 l2 → Paired R l1 (l2.map f)
  | _, _, .nil => .nil
  | _, _, .cons hab t => .cons hab (Paired.map_right f t)

theorem Paired.exists_right {β : Type} {R : α → β → Prop} : ∀ {l1 : List α} {l2 : List β}, Paired R l1 l2 →
    ∀ a ∈ l1, ∃ b ∈ l2, R a b
  | _, _, .nil => by intro a ha; cases ha
  | _, _, .cons hab t => by
    intro a ha
    rcases List.mem_cons.1 ha with rfl | ha
    · exact ⟨_, List.mem_cons_self, hab⟩
    · obtain ⟨b, hb, hr⟩ := Paired.exists_right t a ha
      exact ⟨b, List.mem_cons_of_mem _ hb, hr⟩

theorem Paired.exists_left {β : Type} {R : α → β → Prop} : ∀ {l1 : List α} {l2 : List β}, Paired R l1 l2 →
    ∀ b ∈ l2, ∃ a ∈ l1, R a b
  | _, _, .nil => by intro b hb; cases hb
  | _, _, .cons hab t => by
    intro b hb
    rcases List.mem_cons.1 hb with rfl | hb
    · exact ⟨_, List.mem_cons_self, hab⟩
    · obtain ⟨a, ha, hr⟩ := Paired.exists_left t b hb
      exact ⟨a, List.mem_cons_of_mem _ ha, hr⟩

theorem Paired.map_eq {β γ : Type} {R : α → β → Prop} {f : α → γ} {g : β → γ} (h : ∀ a b, R a b → f a = g b) :
    ∀ {l1 : List α} {l2 : List β}, Paired R l1 l2 → l1.map f = l2.map g
  | _, _, .nil => rfl
  | _, _, .cons hab t => by rw [List.map_cons, List.map_cons, h _ _ hab, Paired.map_eq h t]

theorem Paired.pairwise {β : Type} {R : α → β → Prop} {P : α → α → Prop} {S : β → β → Prop}
    (h : ∀ a b ya yb, R a ya → R b yb → P a b → S ya yb) :
    ∀ {l1 : List α} {l2 : List β}, Paired R l1 l2 → l1.Pairwise P → l2.Pairwise S
  | _, _, .nil, _ => List.Pairwise.nil
  | _, _, .cons hab t, hp => by
    rw [List.pairwise_cons] at hp ⊢
    refine ⟨fun y hy => ?_, Paired.pairwise h t hp.2⟩
    obtain ⟨a', ha', hr⟩ := t.exists_left y hy
    exact h _ a' _ y hab hr (hp.1 a' ha')

/-- two spans inside an arc `[A, B)` of at most half the ring are as far apart as on a line: the way over
    the origin is never the shorter one -/
theorem specPartDist_arc (L A B : Int) (hL : L ≠ 0) (hhalf : 2 * (B - A) ≤ L) (p q : Part)
    (hp : p.lo < p.hi) (hq : q.lo < q.hi) (hpA : A ≤ p.lo) (hpB : p.hi ≤ B) (hqA : A ≤ q.lo) (hqB : q.hi ≤ B) :
    specPartDist L p q = lineGap p q := by
  simp only [specPartDist, hL, if_false, lineGap]
  split <;> (try split) <;> omega

/-- `core` is the smallest single span covering the genes of `g` -/
def HullOf (core : Loc) (g : List Loc) : Prop :=
  ∃ p, core = Loc.simple p ∧
    (∀ m ∈ g, p.lo ≤ m.start ∧ m.end ≤ p.hi) ∧ (∃ m ∈ g, m.start = p.lo) ∧ (∃ m ∈ g, m.end = p.hi)

theorem HullOf.bounds {p : Part} {g : List Loc} (h : HullOf (.simple p) g) {len A B : Int}
    (hg : ∀ m ∈ g, GeneIn len A B m) : A ≤ p.lo ∧ p.lo < p.hi ∧ p.hi ≤ B := by
  obtain ⟨q, e, hcov, ⟨m1, hm1, e1⟩, ⟨m2, hm2, e2⟩⟩ := h
  cases e
  have a1 := (hg m1 hm1).lo
  have a2 := (hg m1 hm1).ok.start_lt_end
  have a3 := (hg m2 hm2).hi
  have a4 := (hcov m1 hm1).2
  omega

/-- inside an arc on which widening and joining behave as `ArcOps` says, and for any relation that is
    `reach` on the anchors: the cores are, in order, the hulls of the maximal chains, and every later
    core starts at least the cutoff after every earlier one ends -/
theorem cores_are_chains_of_arc (r : Rec) (c A B : Int) (hc : 0 ≤ c) (ops : ArcOps r c A B)
    (rel : Loc → Loc → Prop) (anchors : List Loc) (hne : anchors ≠ []) (hok : ∀ l ∈ anchors, GeneIn r.len A B l)
    (hrel : ∀ a ∈ anchors, ∀ b ∈ anchors, rel a b ↔ reach Loc.start Loc.end c a b) :
    ∃ (groups : List (List Loc)) (cores : List Loc),
      findCores r c anchors = .ok cores ∧ IsChainPartition rel anchors groups ∧
      Paired HullOf cores groups ∧ cores.Pairwise (fun a b => a.end + c ≤ b.start) := by
  obtain ⟨sorted, cores, hperm, hsorted, hfind, hmap, hsimple⟩ := findCores_arc r c A B ops anchors hne hok
  obtain ⟨hpart, hinv⟩ := sweep_is_chain_partition_of rel c hc anchors sorted hperm hsorted
    (fun l hl => (hok l hl).ok.start_lt_end) hrel
  refine ⟨(sweep Loc.start Loc.end c sorted).map Grp.members, cores, hfind, hpart, ?_, ?_⟩
  · refine Paired.map_right Grp.members ?_
    refine (paired_of_map_eq cores (sweep Loc.start Loc.end c sorted) hmap hsimple hinv).imp ?_
    rintro core g ⟨hiv, ⟨p, rfl⟩, hg⟩
    simp only [ivOf, Loc.start, Loc.end, Prod.mk.injEq] at hiv
    refine ⟨p, rfl, ?_, ?_, ?_⟩
    · intro m hm
      have h1 := hg.loMin m hm
      have h2 := hg.hiMax m hm
      omega
    · obtain ⟨m, hm, e⟩ := hg.loAtt
      exact ⟨m, hm, by omega⟩
    · obtain ⟨m, hm, e⟩ := hg.hiAtt
      exact ⟨m, hm, by omega⟩
  · have := sweep_hulls_apart Loc.start Loc.end c hc sorted hsorted
      (fun l hl => (hok l (hperm.mem_iff.1 hl)).ok.start_lt_end)
    have h2 : ((sweep Loc.start Loc.end c sorted).map fun g => (g.glo, g.ghi)).Pairwise (fun a b => a.2 + c ≤ b.1) :=
      List.pairwise_map.2 this
    rw [← hmap, List.pairwise_map] at h2
    exact h2

end ASV.Chains
