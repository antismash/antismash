/-
  Helper lemmas for C09: `convert_protein_position_to_dna` on compound locations (the sorted gap walk).

  The walk looks for `dna_start` and for the last base `dna_end - 1` by the same rule, so it is followed one
  coordinate at a time (`coord`, `walk_coord`).  Both strands then go through `convert_compound_walk`, stated over the
  sorted exon list: that list is the location's own on the forward strand and its reverse on the reverse strand.
  The last section shows that genes in the standard exon order of their strand (`stdOrder`) never yield a location
  the Feature constructor refuses.
-/
import ASV.Proofs.ProtDna
import ASV.Proofs.Loc
import ASV.Proofs.LocConnect
import ASV.Proofs.SortTheory
namespace ASV.ProtDna
open ASV

/-- the `k`-th base (0-based) of a part list read in list order, each part upwards -/
def posAsc : List Part → Int → Int
  | [], k => k
  | p :: ps, k => if k < p.hi - p.lo then p.lo + k else posAsc ps (k - (p.hi - p.lo))

/-- the number of bases of a part list: `len` of the compound location with these parts -/
def totalLen (ps : List Part) : Int := (ps.map Part.len).sum

theorem totalLen_eq_len (ps : List Part) : totalLen ps = (Loc.compound ps).len := rfl

theorem totalLen_cons (p : Part) (ps : List Part) : totalLen (p :: ps) = (p.hi - p.lo) + totalLen ps := by
  simp [totalLen, Part.len]

theorem totalLen_nil : totalLen [] = 0 := rfl

theorem totalLen_nonneg (ps : List Part) (h : ∀ p ∈ ps, p.lo < p.hi) : 0 ≤ totalLen ps := by
  induction ps with
  | nil => simp [totalLen]
  | cons q qs ih =>
    have := h q (by simp)
    have := ih (fun x hx => h x (by simp [hx]))
    rw [totalLen_cons]; omega

theorem totalLen_reverse (xs : List Part) : totalLen xs.reverse = totalLen xs := by
  rw [totalLen, List.map_reverse, List.sum_reverse_int]
  rfl

theorem walkStep_fields (w : Walk) (p : Part) (h : (w.sf && w.ef) = false) :
    walkStep w p =
      ⟨w.gap + (p.lo - w.lastEnd), p.hi,
        if !w.sf && p.mem (w.ds + (w.gap + (p.lo - w.lastEnd))) then w.ds + (w.gap + (p.lo - w.lastEnd)) else w.ds,
        if !w.ef && p.mem (w.de + (w.gap + (p.lo - w.lastEnd)) - 1) then w.de + (w.gap + (p.lo - w.lastEnd)) else w.de,
        if !w.sf && p.mem (w.ds + (w.gap + (p.lo - w.lastEnd))) then true else w.sf,
        if !w.ef && p.mem (w.de + (w.gap + (p.lo - w.lastEnd)) - 1) then true else w.ef⟩ := by
  cases hs : (!w.sf && p.mem (w.ds + (w.gap + (p.lo - w.lastEnd)))) <;>
    cases he : (!w.ef && p.mem (w.de + (w.gap + (p.lo - w.lastEnd)) - 1)) <;>
    simp only [walkStep, h, hs, he, Bool.false_eq_true, if_false, if_true]

/-- one of the two coordinates the walk looks for, with its found-flag: `dna_start`, or (`c`) the coordinate of the
    last base, `dna_end - 1`.  The walk treats the two alike. -/
def coord (c : Bool) (w : Walk) : Int × Bool := if c then (w.de - 1, w.ef) else (w.ds, w.sf)

theorem walkStep_coord (c : Bool) (w : Walk) (p : Part) (h : (w.sf && w.ef) = false) :
    coord c (walkStep w p) =
      if !(coord c w).2 && p.mem ((coord c w).1 + (w.gap + (p.lo - w.lastEnd)))
      then ((coord c w).1 + (w.gap + (p.lo - w.lastEnd)), true) else coord c w := by
  have e : w.de + (w.gap + (p.lo - w.lastEnd)) - 1 = w.de - 1 + (w.gap + (p.lo - w.lastEnd)) := by omega
  rw [walkStep_fields w p h, e]
  cases c
  · simp only [coord, Bool.false_eq_true, if_false]
    split
    · rfl
    · rfl
  · simp only [coord, if_true]
    split
    · rw [← e]
    · rfl

/-- the membership test of the walk for the base at offset `t` (0-based, in list order), `cum` bases walked so far.
    The invariant `lastEnd - gap = base + cum` is the idea of the gap walk: `lastEnd - gap` is the coordinate the walk
    would stand at had the parts so far followed `base` without gaps, so a target `base + t` moved by the gap up to
    the next part lands in that part exactly when `t - cum` is below the part's length. -/
theorem mem_candidate (p : Part) (base cum t x gap lastEnd : Int) (hinv : lastEnd - gap = base + cum)
    (hx : x = base + t) (hct : cum ≤ t) :
    p.mem (x + (gap + (p.lo - lastEnd))) = decide (t - cum < p.hi - p.lo) := by
  have e : x + (gap + (p.lo - lastEnd)) = p.lo + (t - cum) := by omega
  rw [e, Part.mem, decide_eq_true (by omega : p.lo ≤ p.lo + (t - cum)), Bool.true_and]
  exact decide_eq_decide.mpr (by omega)

/-- a coordinate once found stays as it is -/
theorem coord_frozen (c : Bool) :
    ∀ (rest : List Part) (w : Walk), (coord c w).2 = true → coord c (rest.foldl walkStep w) = coord c w := by
  intro rest
  induction rest with
  | nil => intro w _; rfl
  | cons p rest ih =>
    intro w h
    have hstep : coord c (walkStep w p) = coord c w := by
      by_cases hboth : (w.sf && w.ef) = true
      · rw [show walkStep w p = w by simp [walkStep, hboth]]
      · rw [walkStep_coord c w p (by simpa using hboth), h]
        rfl
    rw [List.foldl_cons, ih _ (by rw [hstep]; exact h), hstep]

/-- one coordinate not yet found, `cum` bases walked so far (invariant `w.lastEnd - w.gap = base + cum`, see
    `mem_candidate`): it is found where the base at offset `t` lies in the remaining parts -/
theorem walk_coord (c : Bool) (base t : Int) :
    ∀ (rest : List Part) (w : Walk) (cum : Int), (∀ p ∈ rest, p.lo < p.hi) →
      w.lastEnd - w.gap = base + cum → (coord c w).2 = false → (coord c w).1 = base + t → cum ≤ t →
      t - cum < totalLen rest →
      coord c (rest.foldl walkStep w) = (posAsc rest (t - cum), true) := by
  intro rest
  induction rest with
  | nil =>
    intro w cum _ _ _ _ hct hlt
    rw [totalLen_nil] at hlt
    omega
  | cons p rest ih =>
    intro w cum hpos hinv hf hx hct hlt
    have hboth : (w.sf && w.ef) = false := by
      cases c
      · rw [show w.sf = false from hf]
        rfl
      · rw [show w.ef = false from hf, Bool.and_false]
    have hstep := walkStep_coord c w p hboth
    rw [hf, mem_candidate p base cum t _ w.gap w.lastEnd hinv hx hct] at hstep
    rw [List.foldl_cons, posAsc]
    by_cases hc : t - cum < p.hi - p.lo
    · rw [if_pos (by simp [hc])] at hstep
      rw [if_pos hc, coord_frozen c rest _ (by rw [hstep]), hstep, hx]
      congr 1
      omega
    · rw [if_neg (by simp [hc])] at hstep
      rw [totalLen_cons] at hlt
      rw [if_neg hc, show t - cum - (p.hi - p.lo) = t - (cum + (p.hi - p.lo)) by omega]
      refine ih (walkStep w p) _ (fun q hq => hpos q (List.mem_cons_of_mem _ hq)) ?_ (by rw [hstep]; exact hf)
        (by rw [hstep]; exact hx) (by omega) (by omega)
      rw [walkStep_fields w p hboth]
      show p.hi - (w.gap + (p.lo - w.lastEnd)) = _
      omega

/-- the sorted gap walk from the start of a non-empty part list: both coordinates are found -/
theorem walk_result (p0 : Part) (rest : List Part) (hpos : ∀ p ∈ p0 :: rest, p.lo < p.hi) (a b : Int)
    (h0 : 0 ≤ a) (hab : a < b) (hb : b ≤ totalLen (p0 :: rest)) :
    let w := (p0 :: rest).foldl walkStep ⟨0, p0.lo, p0.lo + a, p0.lo + b, false, false⟩
    w.sf = true ∧ w.ef = true ∧ w.ds = posAsc (p0 :: rest) a ∧ w.de = posAsc (p0 :: rest) (b - 1) + 1 := by
  have hs := walk_coord false p0.lo a (p0 :: rest) ⟨0, p0.lo, p0.lo + a, p0.lo + b, false, false⟩ 0 hpos
    (by show p0.lo - 0 = p0.lo + 0; omega) rfl rfl h0 (by omega)
  have he := walk_coord true p0.lo (b - 1) (p0 :: rest) ⟨0, p0.lo, p0.lo + a, p0.lo + b, false, false⟩ 0 hpos
    (by show p0.lo - 0 = p0.lo + 0; omega) rfl (by show p0.lo + b - 1 = _; omega) (by omega) (by omega)
  rw [Int.sub_zero] at hs he
  simp only [coord, Bool.false_eq_true, if_false, if_true, Prod.mk.injEq] at hs he
  exact ⟨hs.2, he.2, hs.1, by omega⟩

/-! ### exons listed in coordinate order -/

/-- the standard exon order of a strand: downwards on the reverse strand, upwards otherwise -/
def stdOrder : Bool → List Part → Bool
  | true, ps => descDisjointB ps
  | false, ps => ascDisjointB ps

theorem stdOrder_cons (rev : Bool) (p q : Part) (r : List Part) :
    stdOrder rev (p :: q :: r) = true ↔
      (if rev then q.hi ≤ p.lo else p.hi ≤ q.lo) ∧ stdOrder rev (q :: r) = true := by
  cases rev
  · simp only [stdOrder, ascDisjointB, Bool.and_eq_true, decide_eq_true_eq, Bool.false_eq_true, if_false]
  · simp only [stdOrder, descDisjointB, Bool.and_eq_true, decide_eq_true_eq, if_true]

theorem stdOrder_tail (rev : Bool) (p : Part) (rest : List Part) (h : stdOrder rev (p :: rest) = true) :
    stdOrder rev rest = true := by
  cases rest with
  | nil => cases rev <;> rfl
  | cons q r => exact ((stdOrder_cons rev p q r).mp h).2

/-- every later exon lies beyond the first: above it, or below it on the reverse strand -/
theorem stdOrder_head (rev : Bool) (p : Part) (rest : List Part) (hpos : ∀ q ∈ p :: rest, q.lo < q.hi)
    (h : stdOrder rev (p :: rest) = true) : ∀ q ∈ rest, if rev then q.hi ≤ p.lo else p.hi ≤ q.lo := by
  induction rest generalizing p with
  | nil => intro q hq; cases hq
  | cons r rs ih =>
    intro q hq
    obtain ⟨h1, h2⟩ := (stdOrder_cons rev p r rs).mp h
    rcases List.mem_cons.mp hq with rfl | hq
    · exact h1
    · have hq' := ih r (fun x hx => hpos x (List.mem_cons_of_mem _ hx)) h2 q hq
      have := hpos r (List.mem_cons_of_mem _ List.mem_cons_self)
      cases rev
      · simp only [Bool.false_eq_true, if_false] at h1 hq' ⊢
        omega
      · simp only [if_true] at h1 hq' ⊢
        omega

theorem sortParts_eq (l : List Part) : sortParts l = Refine.sortBy (fun a b => decide (a.lo ≤ b.lo)) l :=
  Refine.foldr_eq_sortBy (ins := insertPart) (fun _ => rfl) (fun _ _ _ => by simp only [insertPart, decide_eq_true_eq]) l

/-- in the standard order of a strand every exon lies beyond all earlier ones -/
theorem stdOrder_pairwise (rev : Bool) : ∀ (ps : List Part), (∀ q ∈ ps, q.lo < q.hi) → stdOrder rev ps = true →
    ps.Pairwise fun p q => if rev then q.hi ≤ p.lo else p.hi ≤ q.lo
  | [], _, _ => List.Pairwise.nil
  | p :: rest, hpos, h =>
    List.pairwise_cons.mpr ⟨stdOrder_head rev p rest hpos h,
      stdOrder_pairwise rev rest (fun q hq => hpos q (List.mem_cons_of_mem _ hq)) (stdOrder_tail rev p rest h)⟩

theorem sortParts_asc (ps : List Part) (hpos : ∀ p ∈ ps, p.lo < p.hi) (h : ascDisjointB ps = true) :
    sortParts ps = ps := by
  rw [sortParts_eq]
  refine Refine.sortBy_of_pairwise ((List.Pairwise.and_mem.mp (stdOrder_pairwise false ps hpos h)).imp ?_)
  rintro p q ⟨hp, _, hpq⟩
  have := hpos p hp
  simp only [Bool.false_eq_true, if_false] at hpq
  simp only [decide_eq_true_eq]
  omega

theorem sortParts_desc (ps : List Part) (hpos : ∀ p ∈ ps, p.lo < p.hi) (h : descDisjointB ps = true) :
    sortParts ps = ps.reverse := by
  rw [sortParts_eq]
  refine Refine.sortBy_of_pairwise_gt ((List.Pairwise.and_mem.mp (stdOrder_pairwise true ps hpos h)).imp ?_)
  rintro p q ⟨_, hq, hpq⟩
  have := hpos q hq
  simp only [if_true] at hpq
  simp only [decide_eq_false_iff_not]
  omega

theorem ascDisjointB_snoc (ys : List Part) (x : Part) (h : ascDisjointB ys = true) (hx : ∀ y ∈ ys, y.hi ≤ x.lo) :
    ascDisjointB (ys ++ [x]) = true := by
  induction ys with
  | nil => rfl
  | cons y ys ih =>
    cases ys with
    | nil => exact (stdOrder_cons false y x []).mpr ⟨hx y List.mem_cons_self, rfl⟩
    | cons z zs =>
      obtain ⟨h1, h2⟩ := (stdOrder_cons false y z zs).mp h
      exact (stdOrder_cons false y z (zs ++ [x])).mpr ⟨h1, ih h2 (fun w hw => hx w (List.mem_cons_of_mem _ hw))⟩

theorem ascDisjointB_reverse (ps : List Part) (hpos : ∀ p ∈ ps, p.lo < p.hi) (h : descDisjointB ps = true) :
    ascDisjointB ps.reverse = true := by
  induction ps with
  | nil => rfl
  | cons p rest ih =>
    rw [List.reverse_cons]
    apply ascDisjointB_snoc _ _
      (ih (fun q hq => hpos q (List.mem_cons_of_mem _ hq)) (stdOrder_tail true p rest h))
    intro y hy
    exact stdOrder_head true p rest hpos h y (List.mem_reverse.mp hy)

theorem posAsc_mem (ps : List Part) (hpos : ∀ p ∈ ps, p.lo < p.hi) (k : Int) (h0 : 0 ≤ k) (hk : k < totalLen ps) :
    ∃ p ∈ ps, p.lo ≤ posAsc ps k ∧ posAsc ps k < p.hi := by
  induction ps generalizing k with
  | nil => simp [totalLen] at hk; omega
  | cons p rest ih =>
    rw [totalLen_cons] at hk
    simp only [posAsc]
    split
    · exact ⟨p, List.mem_cons_self, by omega, by omega⟩
    · obtain ⟨q, hq, h1, h2⟩ :=
        ih (fun q hq => hpos q (List.mem_cons_of_mem _ hq)) (k - (p.hi - p.lo)) (by omega) (by omega)
      exact ⟨q, List.mem_cons_of_mem _ hq, h1, h2⟩

theorem posAsc_mono (ps : List Part) (hpos : ∀ p ∈ ps, p.lo < p.hi) (h : ascDisjointB ps = true) (j k : Int)
    (h0 : 0 ≤ j) (hjk : j ≤ k) (hk : k < totalLen ps) : posAsc ps j ≤ posAsc ps k := by
  induction ps generalizing j k with
  | nil => simp [posAsc]; omega
  | cons p rest ih =>
    rw [totalLen_cons] at hk
    have hrest : ∀ q ∈ rest, q.lo < q.hi := fun q hq => hpos q (List.mem_cons_of_mem _ hq)
    simp only [posAsc]
    by_cases hj : j < p.hi - p.lo
    · by_cases hk' : k < p.hi - p.lo
      · rw [if_pos hj, if_pos hk']
        omega
      · rw [if_pos hj, if_neg hk']
        obtain ⟨q, hq, h1, _⟩ := posAsc_mem rest hrest (k - (p.hi - p.lo)) (by omega) (by omega)
        have : p.hi ≤ q.lo := stdOrder_head false p rest hpos h q hq
        omega
    · rw [if_neg hj, if_neg (by omega)]
      exact ih hrest (stdOrder_tail false p rest h) _ _ (by omega) (by omega) (by omega)

/-- the coordinates of an exon read upwards, whatever its strand -/
def upBases (p : Part) : List Int := upRange p.lo (p.hi - p.lo).toNat

/-- THE place where the strand enters: the reverse strand transcribes the same coordinates as the forward strand
    reads on the reversed exon list, backwards -/
theorem flatMap_partBases (rev : Bool) (ps : List Part) (h : ∀ p ∈ ps, p.lo ≤ p.hi ∧ (p.strand == .rev) = rev) :
    ps.flatMap partBases = if rev then (ps.reverse.flatMap upBases).reverse else ps.flatMap upBases := by
  cases rev
  · rw [if_neg Bool.false_ne_true, List.flatMap_def, List.flatMap_def]
    refine congrArg _ (List.map_congr_left fun p hp => ?_)
    rw [partBases, (h p hp).2]
    rfl
  · rw [if_pos rfl, List.reverse_flatMap, List.reverse_reverse, List.flatMap_def, List.flatMap_def]
    refine congrArg _ (List.map_congr_left fun p hp => ?_)
    obtain ⟨h1, h2⟩ := h p hp
    rw [partBases, h2, if_pos rfl, downRange_eq_reverse, Function.comp_apply, upBases,
      Int.toNat_of_nonneg (by omega), show p.hi - (p.hi - p.lo) = p.lo by omega]

/-- the `k`-th base in list order, read upwards -/
theorem upBases_getElem (ps : List Part) (hpos : ∀ p ∈ ps, p.lo < p.hi) (k : Nat)
    (hk : (k : Int) < totalLen ps) : (ps.flatMap upBases)[k]? = some (posAsc ps k) := by
  induction ps generalizing k with
  | nil => simp [totalLen] at hk; omega
  | cons p rest ih =>
    have hp := hpos p List.mem_cons_self
    rw [totalLen_cons] at hk
    have hlen : (upBases p).length = (p.hi - p.lo).toNat := upRange_length _ _
    rw [List.flatMap_cons, posAsc]
    by_cases hc : (k : Int) < p.hi - p.lo
    · rw [List.getElem?_append_left (hlen ▸ Int.lt_toNat.mpr hc), upBases, upRange_getElem?, if_pos (by omega),
        if_pos hc]
    · rw [List.getElem?_append_right (hlen ▸ Int.toNat_le.mpr (Int.not_lt.mp hc)), hlen,
        ih (fun q hq => hpos q (List.mem_cons_of_mem _ hq)) (k - (p.hi - p.lo).toNat) (by omega), if_neg hc]
      congr 2
      omega

/-- on a non-reverse strand the `k`-th transcribed base is the `k`-th base in list order, read upwards -/
theorem bases_getElem_fwd (ps : List Part) (hpos : ∀ p ∈ ps, p.lo < p.hi ∧ (p.strand == .rev) = false) (k : Nat)
    (hk : (k : Int) < totalLen ps) : (ps.flatMap partBases)[k]? = some (posAsc ps k) := by
  rw [flatMap_partBases false ps fun p hp => ⟨Int.le_of_lt (hpos p hp).1, (hpos p hp).2⟩]
  exact upBases_getElem ps (fun p hp => (hpos p hp).1) k hk

/-- on the reverse strand the `k`-th transcribed base is the `(len-1-k)`-th base of the exons read upwards in
    reversed list order -/
theorem bases_getElem_rev (ps : List Part) (hpos : ∀ p ∈ ps, p.lo < p.hi ∧ (p.strand == .rev) = true) (k : Nat)
    (hk : (k : Int) < totalLen ps) :
    (ps.flatMap partBases)[k]? = some (posAsc ps.reverse (totalLen ps - 1 - k)) := by
  have hle : ∀ p ∈ ps, p.lo ≤ p.hi ∧ (p.strand == .rev) = true := fun p hp => ⟨Int.le_of_lt (hpos p hp).1, (hpos p hp).2⟩
  have hlen : totalLen ps = ((ps.reverse.flatMap upBases).length : Int) := by
    rw [totalLen_eq_len, len_eq_bases_length (.compound ps) fun p hp => (hle p hp).1, bases, Loc.parts, flatMap_partBases true ps hle,
      if_pos rfl, List.length_reverse]
  rw [flatMap_partBases true ps hle, if_pos rfl, List.getElem?_reverse (by omega),
    upBases_getElem ps.reverse (fun p hp => (hpos p (List.mem_reverse.mp hp)).1) _ (by rw [totalLen_reverse]; omega)]
  congr 2
  omega

/-! ### `convert_protein_position_to_dna` on compound locations -/

/-- the exons of a well-formed compound gene: none empty, all on the gene's strand -/
theorem compound_parts (ps : List Part) (hwf : geneWF (.compound ps) = true) (rev : Bool)
    (hrev : isRev (.compound ps) = rev) : ∀ p ∈ ps, p.lo < p.hi ∧ (p.strand == .rev) = rev := by
  intro p hp
  obtain ⟨h1, h2⟩ := ((geneWF_iff _).mp hwf).2 p hp
  exact ⟨h1, by rw [h2]; exact hrev⟩

/-- the range check at the head of `convert_protein_position_to_dna` -/
theorem convert_guard (l : Loc) (s e : Nat) (hse : s < e) (he : (e : Int) ≤ l.len / 3) :
    (decide (0 ≤ (s : Int)) && decide ((s : Int) < e) && decide ((e : Int) ≤ l.len / 3)) = true := by
  simp only [Bool.and_eq_true, decide_eq_true_eq]
  exact ⟨⟨Int.natCast_nonneg s, Int.ofNat_lt.mpr hse⟩, he⟩

theorem start_of_asc (p0 : Part) (rest : List Part) (hpos : ∀ p ∈ p0 :: rest, p.lo < p.hi)
    (h : ascDisjointB (p0 :: rest) = true) : (Loc.compound (p0 :: rest)).start = p0.lo := by
  have hmem := minList_mem (l := (p0 :: rest).map (·.lo)) (by simp)
  show minList ((p0 :: rest).map (·.lo)) = p0.lo
  obtain ⟨q, hq, h1⟩ := List.mem_map.mp hmem
  rcases List.mem_cons.mp hq with rfl | hq
  · exact h1.symm
  · have : p0.hi ≤ q.lo := stdOrder_head false p0 rest hpos h q hq
    have := hpos p0 List.mem_cons_self
    have := minList_le_of_mem (l := (p0 :: rest).map (·.lo)) (y := p0.lo) (by simp)
    omega

/-- the compound branch for a location whose sorted exon list `q0 :: qs` is without overlap, with the two targets
    given as offsets `a < b` into the sorted list: the pair is (coordinate of base `a`, coordinate of base `b-1`,
    plus one), both counted along the sorted list -/
theorem convert_compound_walk (ps : List Part) (q0 : Part) (qs : List Part) (hsort : sortParts ps = q0 :: qs)
    (hmem : ∀ p ∈ q0 :: qs, p ∈ ps) (hpos : ∀ p ∈ q0 :: qs, p.lo < p.hi) (hasc : ascDisjointB (q0 :: qs) = true)
    (s e a b : Int)
    (hg : (decide (0 ≤ s) && decide (s < e) && decide (e ≤ (Loc.compound ps).len / 3)) = true)
    (hds : (if isRev (.compound ps) then (Loc.compound ps).start + (Loc.compound ps).len - e * 3
            else (Loc.compound ps).start + s * 3) = q0.lo + a)
    (hde : (if isRev (.compound ps) then (Loc.compound ps).start + (Loc.compound ps).len - s * 3
            else (Loc.compound ps).start + e * 3) = q0.lo + b)
    (h0 : 0 ≤ a) (hab : a < b) (hb : b ≤ totalLen (q0 :: qs)) :
    convertProteinToDna s e (.compound ps) = .ok (posAsc (q0 :: qs) a, posAsc (q0 :: qs) (b - 1) + 1) ∧
      posAsc (q0 :: qs) a < posAsc (q0 :: qs) (b - 1) + 1 := by
  obtain ⟨w1, w2, w3, w4⟩ := walk_result q0 qs hpos a b h0 hab hb
  obtain ⟨pa, hpa, ha1, _⟩ := posAsc_mem (q0 :: qs) hpos a h0 (by omega)
  obtain ⟨pb, hpb, _, hb2⟩ := posAsc_mem (q0 :: qs) hpos (b - 1) (by omega) (by omega)
  have hmono := posAsc_mono (q0 :: qs) hpos hasc a (b - 1) h0 (by omega) (by omega)
  have hlo : (Loc.compound ps).start ≤ pa.lo := minList_le_of_mem (List.mem_map.mpr ⟨pa, hmem pa hpa, rfl⟩)
  have hhi : pb.hi ≤ (Loc.compound ps).end := le_maxList_of_mem (List.mem_map.mpr ⟨pb, hmem pb hpb, rfl⟩)
  have hc : (decide ((Loc.compound ps).start ≤ posAsc (q0 :: qs) a) &&
      decide (posAsc (q0 :: qs) a < posAsc (q0 :: qs) (b - 1) + 1) &&
      decide (posAsc (q0 :: qs) (b - 1) + 1 ≤ (Loc.compound ps).end)) = true := by
    simp only [Bool.and_eq_true, decide_eq_true_eq]
    omega
  refine ⟨?_, by omega⟩
  simp only [convertProteinToDna, hg, Bool.not_true, Bool.false_eq_true, if_false, hds, hde, hsort]
  simp only [w1, w2, w3, w4, hc, Bool.not_true, Bool.false_eq_true, if_false]

/-! ### genes in the standard exon order are never refused by the Feature constructor -/

theorem hasDup_cons_false (x : Int) (xs : List Int) (h1 : x ∉ xs) (h2 : hasDup xs = false) : hasDup (x :: xs) = false := by
  simp [hasDup, h1, h2]

/-- the walk over exons in the standard order of their strand: the new parts end at strictly increasing (forward)
    or strictly decreasing (reverse) coordinates -/
theorem subParts_nodup (rev : Bool) (st : Strand) : ∀ (ps : List Part) (off s e : Int),
    (∀ p ∈ ps, p.lo < p.hi) → stdOrder rev ps = true →
    hasDup ((subParts rev st ps off s e).map (·.hi)) = false := by
  intro ps
  induction ps with
  | nil => intro off s e _ _; rfl
  | cons p rest ih =>
    intro off s e hpos hstd
    have hp := hpos p List.mem_cons_self
    have hrest : ∀ q ∈ rest, q.lo < q.hi := fun q hq => hpos q (List.mem_cons_of_mem _ hq)
    have IH := ih (off + p.len) s e hrest (stdOrder_tail rev p rest hstd)
    simp only [subParts]
    split
    · split
      · rfl
      · rfl
    · split
      · rename_i hc
        rw [List.singleton_append, List.map_cons]
        apply hasDup_cons_false _ _ _ IH
        intro hmem
        obtain ⟨q', hq', heq⟩ := List.mem_map.mp hmem
        obtain ⟨p', hp', h1, h2, h3, _⟩ := subParts_inside rev st rest (off + p.len) s e q' hq'
        obtain ⟨i1, i2, i3, _⟩ := slicePart_inside rev st p _ _ (Int.le_max_right _ _) hc (Int.min_le_right _ _)
        have := stdOrder_head rev p rest hpos hstd p' hp'
        cases rev
        · simp only [Bool.false_eq_true, if_false] at this
          omega
        · simp only [if_true] at this
          omega
      · exact IH

theorem subLocationFromOffsets_parts (l r : Loc) (s e : Int) (h : subLocationFromOffsets l s e = .ok r) :
    r.parts = subParts (isRev l) l.strand l.parts 0 s e := by
  unfold subLocationFromOffsets at h
  split at h
  · cases h
  · exact locOfNewParts_parts _ r h

/-- a gene in the standard exon order of its strand: no section of it, whatever the offsets, has a location that
    the Feature constructor refuses -/
theorem offsets_standard_no_overlap (l : Loc) (hwf : geneWF l = true) (hstd : stdOrder (isRev l) l.parts = true)
    (s e : Int) (r : Loc) (h : subLocationFromOffsets l s e = .ok r) : containsOverlappingExons r = false := by
  have := subParts_nodup (isRev l) l.strand l.parts 0 s e (fun p hp => (((geneWF_iff l).mp hwf).2 p hp).1) hstd
  rw [containsOverlappingExons, subLocationFromOffsets_parts l r s e h, this]
  split
  · rfl
  · rfl

/-- … so every in-frame TTA codon of such a gene is marked, at exactly its three bases -/
theorem tta_marker_standard (l : Loc) (hwf : geneWF l = true) (hstd : stdOrder (isRev l) l.parts = true)
    (off : Nat) (h : (off : Int) + 3 ≤ l.len) :
    ∃ r, bases r = sliceL (bases l) off (off + 3) ∧ ttaLocation l off = .ok r ∧
      ttaDetectMarker l off = .ok (some r) := by
  obtain ⟨r, hr, hb, _, h1, h2⟩ := tta_marker l hwf off h
  have hno := offsets_standard_no_overlap l hwf hstd _ _ r hr
  rw [hno] at h1 h2
  exact ⟨r, hb, h1, h2⟩

/-- … and no annotation positioned by protein coordinates has such a location either -/
theorem subLocation_standard_no_overlap (l : Loc) (hwf : geneWF l = true)
    (hstd : stdOrder (isRev l) l.parts = true) (s e : Int) (h : 0 ≤ s ∧ s < e ∧ e ≤ l.len / 3) (r : Loc)
    (hr : subLocation l s e = .ok r) : containsOverlappingExons r = false := by
  cases l with
  | simple p =>
    rw [subLocation_simple p s e (simple_len p ▸ h)] at hr
    cases hr
    rfl
  | compound ps =>
    rw [subLocation_compound ps s e h] at hr
    exact offsets_standard_no_overlap (.compound ps) hwf hstd _ _ r hr

end ASV.ProtDna
