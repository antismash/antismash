/-
  C10: the `CDS` feature read back from its Biopython form: lookups of the qualifiers `CDSFeature.to_biopython` writes
  (`get?_cds_mine`), the hypotheses (`Cds.WF`), the sec_met and gene function qualifiers in the form the reader uses
  them, the reader on a feature with those lookups (`cdsFromBio_spec`) and the round trip (`cds_roundtrip`).
-/
import ASV.Model.SerialCds
import ASV.Proofs.SerialDom
import ASV.Proofs.SerialQual
namespace ASV.Serial
open ASV

/-- the qualifiers `CDSFeature.from_biopython` pops -/
def cdsPopped : List String :=
  ["protein_id", "locus_tag", "gene", "transl_table", "translation", "product", "sec_met_domain", "gene_functions", "NRPS_PKS"]
/-- … and all the class writes: `gene_kind` is written but not popped -/
def cdsKeys : List String := cdsPopped ++ ["gene_kind"]

def fnsQ (l : List Annot) : Option (List String) := if l.isEmpty then none else some (l.map Annot.toStr)
def kindQ (l : List Annot) : Option (List String) := if l.isEmpty then none else some [(classification l).label]
def smQ (l : List SMDom) : Option (List String) := if l.isEmpty then none else some (l.map SMDom.toStr)

/-- `CDSFeature.to_biopython`'s own qualifiers as a run of assignments -/
theorem Cds.mine_assign (c : Cds) : c.mine = Q.assign []
    [("translation", some [c.translation]), ("gene", optV c.gene),
     ("transl_table", if c.translTable = 0 then none else some [strOfInt c.translTable]), ("locus_tag", optV c.locusTag),
     ("protein_id", optV c.proteinId), ("product", optV (some c.product)), ("gene_functions", fnsQ c.geneFns),
     ("gene_kind", kindQ c.geneFns), ("sec_met_domain", smQ c.secMet)] := by
  unfold Cds.mine fnsQ kindQ smQ
  simp only [Q.set_eq_setO]
  simp only [setOpt_eq_setO, Q.setO_unless, Q.setO_unless_pair]
  rfl

theorem nodup_cds_mine (c : Cds) : Q.Nodup c.mine := by
  rw [Cds.mine_assign]
  exact Q.nodup_assign _ nodupNil

theorem get?_cds_mine (c : Cds) (ht : c.translTable ≠ 0) (k : String) :
    Q.get? c.mine k =
      if k = "translation" then some [c.translation]
      else if k = "gene" then optV c.gene
      else if k = "transl_table" then some [strOfInt c.translTable]
      else if k = "locus_tag" then optV c.locusTag
      else if k = "protein_id" then optV c.proteinId
      else if k = "product" then optV (some c.product)
      else if k = "gene_functions" then fnsQ c.geneFns
      else if k = "gene_kind" then kindQ c.geneFns
      else if k = "sec_met_domain" then smQ c.secMet
      else none := by
  rw [Cds.mine_assign, if_neg ht, Q.get?_assign_nil _ (by simp)]
  rfl

theorem popOpt_erase (q : Quals) (a k : String) (h : k ≠ a) : popOpt (Q.erase q a) k = popOpt q k := by
  unfold popOpt; rw [Q.get?_erase_other q a k h]

theorem popOpt_of {q : Quals} {k : String} {o : Option String} (h : Q.get? q k = optV o) (ho : o ≠ some "") : popOpt q k = .ok o := by
  unfold popOpt
  rw [h]
  cases o with
  | none => rfl
  | some s =>
    have : s ≠ "" := fun e => ho (by rw [e])
    rw [optV_some_ne this]; rfl

/-- a CDS as the constructor leaves it (a name, sanitised ids, a translation starting with `M` that the record accepts,
    a translation table, a strand), made by antiSMASH, without codon start, with sec_met domains and gene functions
    inside their text-level hypotheses, and free qualifiers that use none of the CDS keys -/
structure Cds.WF (trOK : String → Loc → Bool) (c : Cds) : Prop where
  feat : c.feat.WF
  byAS : c.feat.byAS = true
  codon : c.feat.codon = none
  type : c.feat.type = "CDS"
  reserved : ∀ k ∈ cdsKeys, Q.get? c.feat.quals k = none
  strand : (c.feat.loc.strand == .fwd || c.feat.loc.strand == .rev) = true
  named : (!((c.gene.getD "").isEmpty) || !((c.proteinId.getD "").isEmpty) || !((c.locusTag.getD "").isEmpty)) = true
  tag : c.locusTag ≠ some "" ∧ c.locusTag.map noSpaces = c.locusTag ∧ c.locusTag.map sanitiseId = c.locusTag
  pid : c.proteinId ≠ some "" ∧ c.proteinId.map sanitiseId = c.proteinId
  gene : c.gene ≠ some "" ∧ c.gene.map sanitiseId = c.gene
  table : c.translTable ≠ 0
  tr : c.translation ≠ "" ∧ startWithM c.translation = c.translation ∧ trOK c.translation c.feat.loc = true
  sm : (c.secMet.map (·.name)).Nodup ∧ ∀ d ∈ c.secMet, d.textSafe = true
  fns : c.geneFns.Nodup ∧ ∀ a ∈ c.geneFns, a.wf = true ∧ a.textSafe = true

theorem readSecMet_erase (q : Quals) (a : String) (h : "sec_met_domain" ≠ a) : readSecMet (Q.erase q a) = readSecMet q := by
  unfold readSecMet; rw [Q.get?_erase_other q a _ h]
theorem readGeneFns_erase (q : Quals) (a : String) (h : "gene_functions" ≠ a) : readGeneFns (Q.erase q a) = readGeneFns q := by
  unfold readGeneFns; rw [Q.get?_erase_other q a _ h]
theorem readTable_erase (dt : Int) (q : Quals) (a : String) (h : "transl_table" ≠ a) : readTable dt (Q.erase q a) = readTable dt q := by
  unfold readTable; rw [Q.get?_erase_other q a _ h]
theorem readShifted_erase (loc : Loc) (q : Quals) (a : String) (h : "codon_start" ≠ a) : readShifted loc (Q.erase q a) = readShifted loc q := by
  unfold readShifted; rw [Q.get?_erase_other q a _ h]

theorem readSecMet_of (q : Quals) (ds : List SMDom) (hq : Q.get? q "sec_met_domain" = smQ ds) (hn : (ds.map (·.name)).Nodup)
    (h : ∀ d ∈ ds, d.textSafe = true) : readSecMet q = .ok ds := by
  unfold readSecMet
  rw [hq]
  unfold smQ
  cases ds with
  | nil => rfl
  | cons d rest =>
    have := smFromQualifier_roundtrip (d :: rest) hn h
    simpa using this

theorem readGeneFns_of (q : Quals) (l : List Annot) (hq : Q.get? q "gene_functions" = fnsQ l) (hn : l.Nodup)
    (h : ∀ a ∈ l, a.wf = true ∧ a.textSafe = true) : readGeneFns q = .ok l := by
  unfold readGeneFns
  rw [hq]
  unfold fnsQ
  cases l with
  | nil => rfl
  | cons a rest =>
    have := annFromQualifier_roundtrip (a :: rest) [] h (by simpa using hn)
    simpa using this

theorem cdsFromBio_spec (dt : Int) (trOK : String → Loc → Bool) (c : Cds) (h : c.WF trOK) (W : Quals)
    (hlook : ∀ k ∈ cdsPopped, Q.get? W k = Q.get? c.mine k) (hcod : Q.get? W "codon_start" = none) :
    Cds.fromBio dt trOK ⟨c.feat.loc, "CDS", W⟩ =
      (applyLeftovers ⟨c.feat.loc, "CDS", [], [], false, none⟩ (cdsPopped.foldl Q.erase W)).map fun feat => { c with feat := feat } := by
  have lk : ∀ k, k ∈ cdsPopped → Q.get? W k = _ := fun k hk => (hlook k hk).trans (get?_cds_mine c h.table k)
  have l1 : Q.get? W "protein_id" = optV c.proteinId := by rw [lk _ (by simp [cdsPopped])]; simp
  have l2 : Q.get? W "locus_tag" = optV c.locusTag := by rw [lk _ (by simp [cdsPopped])]; simp
  have l3 : Q.get? W "gene" = optV c.gene := by rw [lk _ (by simp [cdsPopped])]; simp
  have l4 : Q.get? W "transl_table" = some [strOfInt c.translTable] := by rw [lk _ (by simp [cdsPopped])]; simp
  have l5 : Q.get? W "translation" = some [c.translation] := by rw [lk _ (by simp [cdsPopped])]; simp
  have l6 : Q.get? W "product" = optV (some c.product) := by rw [lk _ (by simp [cdsPopped])]; simp
  have l7 : Q.get? W "sec_met_domain" = smQ c.secMet := by rw [lk _ (by simp [cdsPopped])]; simp
  have l8 : Q.get? W "gene_functions" = fnsQ c.geneFns := by rw [lk _ (by simp [cdsPopped])]; simp
  have l9 : Q.get? W "NRPS_PKS" = none := by rw [lk _ (by simp [cdsPopped])]; simp
  have htag : (if (c.locusTag.getD "").isEmpty then none else some (noSpaces (c.locusTag.getD ""))) = c.locusTag := by
    cases hl : c.locusTag with
    | none => rfl
    | some s =>
      have hs : s ≠ "" := fun e => h.tag.1 (by rw [hl, e])
      have h2 := h.tag.2.1
      rw [hl] at h2
      simp only [Option.map_some, Option.some.injEq] at h2
      simp [isEmpty_false_of_ne hs, h2]
  have htab : readTable dt W = .ok c.translTable := by unfold readTable; rw [l4]; simp [intOfStr_strOfInt, pure, Except.pure]
  have hshift : readShifted c.feat.loc W = .ok c.feat.loc := by unfold readShifted; rw [hcod]; rfl
  have htr : firstOr W "translation" = .ok c.translation := by unfold firstOr; rw [l5]; rfl
  have hsm := readSecMet_of W c.secMet l7 h.sm.1 h.sm.2
  have hfn := readGeneFns_of W c.geneFns l8 h.fns.1 h.fns.2
  unfold Cds.fromBio
  simp only [firstOr_erase, popOpt_erase, Q.get?_erase_other, readSecMet_erase, readGeneFns_erase, readTable_erase,
    readShifted_erase, ne_eq, String.reduceEq, not_false_eq_true]
  simp only [popOpt_of l1 h.pid.1, firstOr_of l2, popOpt_of l3 h.gene.1, bind, Except.bind, htab, hshift, htr, hsm, hfn, firstOr_of l6]
  simp only [htag, h.named, h.strand, Bool.not_true, Bool.false_eq_true, if_false, isEmpty_false_of_ne h.tr.1, h.tr.2.2, Bool.or_self,
    Option.getD_some, l9, Option.getD_none, List.isEmpty_nil, h.tag.2.2, h.pid.2, h.gene.2, h.tr.2.1, pure, Except.pure]
  simp only [cdsPopped, List.foldl_cons, List.foldl_nil]
  cases applyLeftovers ⟨c.feat.loc, "CDS", [], [], false, none⟩ _ <;> rfl

theorem cds_mine_other (c : Cds) (h : c.translTable ≠ 0) (k : String) (hk : k ∉ cdsKeys) : Q.get? c.mine k = none := by
  rw [get?_cds_mine c h]
  simp only [cdsKeys, cdsPopped, List.cons_append, List.nil_append, List.mem_cons, List.mem_nil_iff, or_false, not_or] at hk
  simp [hk]

theorem cdsClass (dt : Int) (trOK : String → Loc → Bool) : ClassDesc (ok := Cds.WF trOK) (type := "CDS") (keys := cdsKeys)
    (stay := ["gene_kind"]) (by0 := false) (feat := (·.feat)) (own := Cds.mine) (left := fun _ W => cdsPopped.foldl Q.erase W)
    (rebuild := fun c f => { c with feat := f }) (read := Cds.fromBio dt trOK) where
  base := fun _ h => ⟨h.feat, h.byAS, h.codon, h.type, h.reserved⟩
  base_keys := by simp [cdsKeys, cdsPopped]
  stay_sub := by simp [cdsKeys]
  own_nodup := nodup_cds_mine
  own_keys := fun c h => cds_mine_other c h.table
  left_nodup := fun _ _ => nodup_eraseAll _
  left_get := fun _ W _ k hk => by
    simp only [List.mem_singleton] at hk
    rw [get?_eraseAll]
    simp only [cdsKeys, List.mem_append, List.mem_singleton, hk, or_false]
  read_written := fun c h W _ hW hcod => cdsFromBio_spec dt trOK c h W (fun k hk => hW k (by simp [cdsKeys, hk])) hcod

theorem cds_roundtrip (t : Bool) (dt : Int) (trOK : String → Loc → Bool) (c : Cds) (h : c.WF trOK) (b : Bio) (hb : c.toBio = .ok b) :
    ∃ c', Cds.fromBio dt trOK b = .ok c' ∧ c' = { c with feat := c'.feat } ∧
      Q.get? c'.feat.quals "gene_kind" = kindQ c.geneFns ∧
      ({ c'.feat with quals := Q.erase c'.feat.quals "gene_kind" } : Feat).view t = c.feat.view t ∧
      c'.feat.loc = c.feat.loc := by
  obtain ⟨rfl, hr, R⟩ := (cdsClass dt trOK).roundtrip t c h b hb
  -- `gene_kind` is written and not popped
  have hkind : Q.get? (cdsPopped.foldl Q.erase (Q.sortKeys (finalQuals c.feat c.mine))) "gene_kind" = kindQ c.geneFns := by
    rw [get?_eraseAll, if_neg (by simp [cdsPopped]), (cdsClass dt trOK).get?_written c h _ (by simp [cdsKeys]),
      get?_cds_mine c h.table]
    simp
  generalize List.foldl Q.erase _ cdsPopped = L at hr R hkind
  exact ⟨_, hr, rfl, hkind, R.view, rfl⟩

end ASV.Serial
