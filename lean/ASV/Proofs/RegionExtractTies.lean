/-
  C12: ties in file order (`tiesInFileOrder`) — written area features of one kind that a loading record cannot tell
  apart by position and size carry their numbers in the order in which they stand in the file.  The generic
  argument (`ties_generic`): the file keeps the record's order among the features in question, the record lists
  the areas of the kind in the order of their numbers (hypothesis), and `_number_by_position` breaks ties by
  record-wide number.  For a region that does not run over the origin the file is a slice and keeps the record's
  order outright (`plain_file_order`).  The file of a region over the origin is put together from three groups of
  features (before / over / after the origin); areas (one forward part, or a forward pair over the origin) with the
  same position and size in the file have the same location (`area_posPair_inj`), so they fall into the same
  group and keep the record's order (`cross_file_order`).
-/
import ASV.Proofs.RegionExtractFinal
namespace ASV.RegionExtract
open ASV

/-- the file of a region that does not run over the origin lists the kept features in the record's order -/
theorem plain_tags_sublist (rd : RegionData) (rec : BioRecord) (w : Written) (h : writeToGenbank rd rec = .ok w)
    (hc : rd.crossesOrigin = false) :
    (w.extract.features.map (·.tag)).Sublist (rec.features.map (·.tag)) := by
  obtain ⟨seq, ws, parent, hb, htags⟩ := written_tags rd rec w h
  rw [htags]
  rcases buildBase_eq rd rec seq ws parent hb with ⟨_, _, hws, _⟩ | ⟨hc', _⟩
  · rw [hws, List.map_map]
    exact slice_tags_sublist rec.features rd.start rd.end
  · rw [hc] at hc'; cases hc'

theorem ties_of_pairwise (num : BioFeature → Option Int) : ∀ l : List BioFeature,
    l.Pairwise (fun f g => loadKey f.loc ≠ loadKey g.loc ∨ ∃ a b, num f = some a ∧ num g = some b ∧ a < b) →
    tiesInFileOrder num l = true
  | [], _ => rfl
  | f :: rest, h => by
    obtain ⟨h1, h2⟩ := List.pairwise_cons.1 h
    simp only [tiesInFileOrder, Bool.and_eq_true, List.all_eq_true, Bool.or_eq_true, bne_iff_ne]
    refine ⟨fun g hg => ?_, ties_of_pairwise num rest h2⟩
    rcases h1 g hg with hne | ⟨a, b, ha, hb, hab⟩
    · exact .inl hne
    · right; rw [ha, hb]; simpa using hab

/-- the file of a region that does not run over the origin keeps the record's order -/
theorem plain_file_order (rd : RegionData) (rec : BioRecord) (w : Written) (h : writeToGenbank rd rec = .ok w)
    (hc : rd.crossesOrigin = false) (hnd : (rec.features.map (·.tag)).Nodup)
    (R : BioFeature → BioFeature → Prop) (hrec : rec.features.Pairwise R) :
    (w.extract.features.map (·.tag)).Pairwise (fun t1 t2 => ∀ f1 ∈ rec.features, ∀ f2 ∈ rec.features,
      f1.tag = t1 → f2.tag = t2 → R f1 f2) := by
  have same : ∀ f1 ∈ rec.features, ∀ f2 ∈ rec.features, f1.tag = f2.tag → f1 = f2 :=
    fun f1 h1 f2 h2 e => nodup_map_inj (·.tag) rec.features hnd f1 f2 h1 h2 e
  have hrec' : (rec.features.map (·.tag)).Pairwise (fun t1 t2 => ∀ f1 ∈ rec.features, ∀ f2 ∈ rec.features,
      f1.tag = t1 → f2.tag = t2 → R f1 f2) := by
    rw [List.pairwise_map]
    refine hrec.imp_of_mem ?_
    intro f1 f2 hf1 hf2 hS f1' hf1' f2' hf2' e1 e2
    have := same f1' hf1' f1 hf1 e1
    subst this
    have := same f2' hf2' f2 hf2 e2
    subst this
    exact hS
  exact hrec'.sublist (plain_tags_sublist rd rec w h hc)

/-- the generic argument for one kind of area: given that the file keeps the record's order among the features
    related by `S`, and that areas with the same position and size in the file are so related, ties between
    written areas are numbered in file order -/
theorem ties_generic (rd : RegionData) (rec : BioRecord) (w : Written) (h : writeToGenbank rd rec = .ok w)
    (hwf : wfInput rd rec = true)
    (type : String) (num : BioFeature → Option Int) (areas : List (Int × Loc)) (ok : KindOK rd rec type num areas)
    (S : BioFeature → BioFeature → Prop)
    (hS : ∀ f1 ∈ rec.features, ∀ f2 ∈ rec.features, ∀ n1 n2, (n1, f1.loc) ∈ areas → (n2, f2.loc) ∈ areas →
      posPair rd rec.length f1.loc = posPair rd rec.length f2.loc → S f1 f2)
    (hfile : (w.extract.features.map (·.tag)).Pairwise (fun t1 t2 => ∀ f1 ∈ rec.features, ∀ f2 ∈ rec.features,
      f1.tag = t1 → f2.tag = t2 → S f1 f2 → f1.type = type → f2.type = type →
      ∀ a b, num f1 = some a → num f2 = some b → a < b)) :
    tiesInFileOrder num (ofType type w.extract.features) = true := by
  have hgood := numberByPosition_spec areas rd rec.length ok.nodupKeys
  have hties := good_ties hgood
  obtain ⟨_, hrange, _⟩ := hgood
  -- everything known about one written feature of the kind
  have key : ∀ g ∈ w.extract.features, g.type = type →
      ∃ m, num g = some m ∧ ∃ f ∈ rec.features, f.tag = g.tag ∧ f.type = type ∧ ∃ n, num f = some n ∧ (n, f.loc) ∈ areas ∧
        dictGet (numberByPosition areas rd rec.length) n = .ok m ∧ loadKey g.loc = posPair rd rec.length f.loc := by
    intro g hg ht
    obtain ⟨g0, ho, hadj⟩ := written_origin rd rec w h g hg
    obtain ⟨htg, hty, hloc⟩ := adjustFeature_same rd _ _ g0 g hadj
    obtain ⟨f, hf, hftag, hft, hfq, hkey⟩ := origin_source rd rec hwf g0 ho
    obtain ⟨n, m, hn0, hm, hd⟩ := ok.renum g0 g hadj (by rw [← hty]; exact ht)
    obtain ⟨_, _, la, hla⟩ := hrange n m hd
    have hnf : num f = some n := by rw [← ok.ofQ g0 f hfq]; exact hn0
    have hftype : f.type = type := by rw [← hft, ← hty]; exact ht
    have hl := linkedKind_loc type num areas rec ok.link f hf hftype n hnf la hla
    subst hl
    exact ⟨m, hm, f, hf, by rw [htg, hftag], hftype, n, hnf, hla, hd, by rw [hloc]; exact hkey (ok.shape _ hla)⟩
  apply ties_of_pairwise
  rw [List.pairwise_map] at hfile
  have hfilt := hfile.sublist (List.filter_sublist (p := fun g => g.type == type) (l := w.extract.features))
  refine hfilt.imp_of_mem ?_
  intro g1 g2 hg1 hg2 hO
  simp only [List.mem_filter, beq_iff_eq] at hg1 hg2
  by_cases heq : loadKey g1.loc = loadKey g2.loc
  · right
    obtain ⟨m1, hm1, f1, hf1, ht1, hty1, n1, hn1, ha1, hd1, hk1⟩ := key g1 hg1.1 hg1.2
    obtain ⟨m2, hm2, f2, hf2, ht2, hty2, n2, hn2, ha2, hd2, hk2⟩ := key g2 hg2.1 hg2.2
    rw [hk1, hk2] at heq
    have hlt : n1 < n2 :=
      hO f1 hf1 f2 hf2 ht1 ht2 (hS f1 hf1 f2 hf2 n1 n2 ha1 ha2 heq) hty1 hty2 n1 n2 hn1 hn2
    have e1 : (positionKey rd rec.length n1 f1.loc).1 = (positionKey rd rec.length n2 f2.loc).1 := by
      have := congrArg Prod.fst heq; exact this
    have e2 : (positionKey rd rec.length n1 f1.loc).2.1 = (positionKey rd rec.length n2 f2.loc).2.1 := by
      have := congrArg Prod.snd heq; exact this
    exact ⟨m1, m2, hm1, hm2, (hties n1 n2 f1.loc f2.loc m1 m2 ha1 ha2 hd1 hd2 e1 e2).2 hlt⟩
  · exact .inl heq

theorem inNumberOrder_of_B (type : String) (num : BioFeature → Option Int) : ∀ fs : List BioFeature,
    inNumberOrderB type num fs = true → InNumberOrder type num fs
  | [], _ => List.Pairwise.nil
  | f :: rest, h => by
    simp only [inNumberOrderB, Bool.and_eq_true, List.all_eq_true] at h
    refine List.pairwise_cons.2 ⟨?_, inNumberOrder_of_B type num rest h.2⟩
    intro g hg ht1 ht2 a b ha hb
    have := h.1 g hg
    simp only [ht1, ht2, beq_self_eq_true, Bool.not_true, Bool.false_or, ha, hb, decide_eq_true_eq] at this
    exact this

theorem startKey_inj (x y st L : Int) (hx0 : 0 ≤ x) (hxL : x < L) (hy0 : 0 ≤ y) (hyL : y < L)
    (h : (if x - st < 0 then x - st + L else x - st) = (if y - st < 0 then y - st + L else y - st)) : x = y := by
  split at h <;> split at h <;> omega

/-- areas with the same position and size in the file of a region over the origin are the same location -/
theorem area_posPair_inj (rd : RegionData) (L : Int) (l1 l2 : Loc) (hc : rd.crossesOrigin = true)
    (h1 : areaShape L rd l1 = true) (h2 : areaShape L rd l2 = true)
    (hp1 : ∀ p ∈ l1.parts, PartIn L p) (hp2 : ∀ p ∈ l2.parts, PartIn L p)
    (h : posPair rd L l1 = posPair rd L l2) : l1 = l2 := by
  -- the start decides the first part, the size then the rest
  rcases areaShape_unpack L rd l1 h1 with ⟨lo1, hi1, rfl⟩ | ⟨x1, y1, rfl, hy1, hyx1, hxL1, _⟩
  · have b1 := hp1 ⟨lo1, hi1, .fwd⟩ (by simp [Loc.parts])
    unfold PartIn at b1
    simp only at b1
    rcases areaShape_unpack L rd l2 h2 with ⟨lo2, hi2, rfl⟩ | ⟨x2, y2, rfl, hy2, hyx2, hxL2, _⟩
    · have b2 := hp2 ⟨lo2, hi2, .fwd⟩ (by simp [Loc.parts])
      unfold PartIn at b2
      simp only at b2
      rw [posPair_simple, posPair_simple] at h
      have e1 := congrArg Prod.fst h
      have e2 := congrArg Prod.snd h
      simp only at e1 e2
      have := startKey_inj lo1 lo2 rd.start L (by omega) (by omega) (by omega) (by omega) e1
      subst this
      have : hi1 = hi2 := by omega
      subst this
      rfl
    · rw [posPair_simple, posPair_pair rd L x2 y2 hc] at h
      have e1 := congrArg Prod.fst h
      have e2 := congrArg Prod.snd h
      simp only at e1 e2
      have := startKey_inj lo1 x2 rd.start L (by omega) (by omega) (by omega) (by omega) e1
      omega
  · rcases areaShape_unpack L rd l2 h2 with ⟨lo2, hi2, rfl⟩ | ⟨x2, y2, rfl, hy2, hyx2, hxL2, _⟩
    · have b2 := hp2 ⟨lo2, hi2, .fwd⟩ (by simp [Loc.parts])
      unfold PartIn at b2
      simp only at b2
      rw [posPair_pair rd L x1 y1 hc, posPair_simple] at h
      have e1 := congrArg Prod.fst h
      have e2 := congrArg Prod.snd h
      simp only at e1 e2
      have := startKey_inj x1 lo2 rd.start L (by omega) (by omega) (by omega) (by omega) e1
      omega
    · rw [posPair_pair rd L x1 y1 hc, posPair_pair rd L x2 y2 hc] at h
      have e1 := congrArg Prod.fst h
      have e2 := congrArg Prod.snd h
      simp only at e1 e2
      have := startKey_inj x1 x2 rd.start L (by omega) (by omega) (by omega) (by omega) e1
      subst this
      have : y1 = y2 := by omega
      subst this
      rfl

/-- the file of a region over the origin keeps the record's order among features with the same location -/
theorem cross_file_order (rd : RegionData) (rec : BioRecord) (w : Written) (h : writeToGenbank rd rec = .ok w)
    (hwf : wfInput rd rec = true) (hc : rd.crossesOrigin = true) (hnd : (rec.features.map (·.tag)).Nodup)
    (hspan : ∀ f ∈ rec.features, bridgesOrigin f.loc = true → f.loc.start = 0 ∧ f.loc.end = rec.length)
    (R : BioFeature → BioFeature → Prop) (hrec : rec.features.Pairwise R) :
    (w.extract.features.map (·.tag)).Pairwise (fun t1 t2 => ∀ f1 ∈ rec.features, ∀ f2 ∈ rec.features,
      f1.tag = t1 → f2.tag = t2 → f1.loc = f2.loc → R f1 f2) := by
  obtain ⟨hL, hcross, _, hfeat⟩ := wf_unpack rd rec hwf
  obtain ⟨he0, hes, hsL⟩ := hcross hc
  obtain ⟨pre, cross, post, htags, spre, scross, spost, fromPre, fromCross, fromPost⟩ := base_sections rd rec w h hc
  rw [htags]
  have same : ∀ f1 ∈ rec.features, ∀ f2 ∈ rec.features, f1.tag = f2.tag → f1 = f2 :=
    fun f1 h1 f2 h2 e => nodup_map_inj (·.tag) rec.features hnd f1 f2 h1 h2 e
  -- the record's order seen through the tags
  have hrecT : (rec.features.map (·.tag)).Pairwise (fun t1 t2 => ∀ f1 ∈ rec.features, ∀ f2 ∈ rec.features,
      f1.tag = t1 → f2.tag = t2 → f1.loc = f2.loc → R f1 f2) := by
    rw [List.pairwise_map]
    refine hrec.imp_of_mem ?_
    intro f1 f2 hf1 hf2 hS f1' hf1' f2' hf2' e1 e2 _
    have := same f1' hf1' f1 hf1 e1
    subst this
    have := same f2' hf2' f2 hf2 e2
    subst this
    exact hS
  have hlt : ∀ f ∈ rec.features, f.loc.start < f.loc.end := fun f hf =>
    start_lt_end rec.length f.loc (hfeat f hf).1.1 (hfeat f hf).1.2
  refine List.pairwise_append.2 ⟨List.pairwise_append.2 ⟨?_, ?_, ?_⟩, ?_, ?_⟩
  · exact hrecT.sublist spre
  · exact hrecT.sublist scross
  · intro a ha b hb' f1 hf1 f2 hf2 e1 e2 hloc
    exfalso
    obtain ⟨f1', hf1', ht1, hs1⟩ := fromPre a ha
    obtain ⟨f2', hf2', ht2, hbr⟩ := fromCross b hb'
    have := same f1 hf1 f1' hf1' (by rw [e1, ht1]); subst this
    have := same f2 hf2 f2' hf2' (by rw [e2, ht2]); subst this
    have := (hspan f2 hf2 hbr).1
    rw [hloc] at hs1
    omega
  · exact hrecT.sublist spost
  · intro a ha b hb' f1 hf1 f2 hf2 e1 e2 hloc
    exfalso
    obtain ⟨f2', hf2', ht2, hend⟩ := fromPost b hb'
    have := same f2 hf2 f2' hf2' (by rw [e2, ht2]); subst this
    rcases List.mem_append.1 ha with ha | ha
    · obtain ⟨f1', hf1', ht1, hs1⟩ := fromPre a ha
      have := same f1 hf1 f1' hf1' (by rw [e1, ht1]); subst this
      have := hlt f1 hf1
      rw [← hloc] at hend
      omega
    · obtain ⟨f1', hf1', ht1, hbr⟩ := fromCross a ha
      have := same f1 hf1 f1' hf1' (by rw [e1, ht1]); subst this
      have := (hspan f1 hf1 hbr).2
      rw [← hloc] at hend
      omega

/-- one kind of area, any region: the file keeps the record's order — among all features when the region does not
    run over the origin, among those with the same location when it does, which tied areas have -/
theorem ties_kind (rd : RegionData) (rec : BioRecord) (w : Written) (h : writeToGenbank rd rec = .ok w)
    (hwf : wfInput rd rec = true) (htagnd : (rec.features.map (·.tag)).Nodup)
    (hspan : ∀ f ∈ rec.features, bridgesOrigin f.loc = true → f.loc.start = 0 ∧ f.loc.end = rec.length)
    (type : String) (num : BioFeature → Option Int) (areas : List (Int × Loc)) (ok : KindOK rd rec type num areas)
    (hasc : InNumberOrder type num rec.features) :
    tiesInFileOrder num (ofType type w.extract.features) = true := by
  cases hc : rd.crossesOrigin with
  | false =>
    refine ties_generic rd rec w h hwf type num areas ok (fun _ _ => True)
      (fun _ _ _ _ _ _ _ _ _ => trivial) ?_
    exact (plain_file_order rd rec w h hc htagnd _ hasc).imp
      (fun hO f1 hf1 f2 hf2 e1 e2 _ => hO f1 hf1 f2 hf2 e1 e2)
  | true =>
    obtain ⟨_, _, _, hfeat⟩ := wf_unpack rd rec hwf
    exact ties_generic rd rec w h hwf type num areas ok (fun f1 f2 => f1.loc = f2.loc)
      (fun f1 hf1 f2 hf2 n1 n2 ha1 ha2 heq => area_posPair_inj rd rec.length f1.loc f2.loc hc (ok.shape _ ha1)
        (ok.shape _ ha2) (hfeat f1 hf1).1.2 (hfeat f2 hf2).1.2 heq)
      (cross_file_order rd rec w h hwf hc htagnd hspan _ hasc)

/-- protoclusters and subregions: ties in file order -/
theorem written_ties (rd : RegionData) (rec : BioRecord) (w : Written) (h : writeToGenbank rd rec = .ok w)
    (hwf : wfInput rd rec = true) (hcons : consistent rd rec = true)
    (hP : InNumberOrder "protocluster" (·.q.protoNumber) rec.features)
    (hS : InNumberOrder "subregion" (·.q.subNumber) rec.features) :
    tiesInFileOrder (·.q.protoNumber) (ofType "protocluster" w.extract.features) = true ∧
    tiesInFileOrder (·.q.subNumber) (ofType "subregion" w.extract.features) = true := by
  obtain ⟨htags, hspan, okP, _, okS, _⟩ := consistent_unpack rd rec hcons
  exact ⟨ties_kind rd rec w h hwf htags hspan _ _ _ okP hP, ties_kind rd rec w h hwf htags hspan _ _ _ okS hS⟩

end ASV.RegionExtract
