/-
  C03: the executable chain computation of the spec (`Chains.components`) produces a chain
  partition, and chain partitions are unique — so the groups the theorems speak about are the groups
  the driver computes.
-/
import ASV.Proofs.ChainLinked
namespace ASV.Chains
open ASV

variable {α : Type}

/-- any two members of `g` are linked by steps through `g` -/
def AllLinked (rel : α → α → Prop) (g : List α) : Prop := ∀ a ∈ g, ∀ b ∈ g, Linked rel g a b

theorem AllLinked.append {rel : α → α → Prop} {grp inn : List α} (h : AllLinked rel grp)
    (hin : ∀ x ∈ inn, ∃ m ∈ grp, rel m x ∨ rel x m) : AllLinked rel (grp ++ inn) := by
  have hsub : ∀ x ∈ grp, x ∈ grp ++ inn := fun x hx => by simp [hx]
  -- every element is linked to a member of the old group
  have toOld : ∀ a ∈ grp ++ inn, ∃ m ∈ grp, Linked rel (grp ++ inn) m a := by
    intro a ha
    simp only [List.mem_append] at ha
    rcases ha with ha | ha
    · exact ⟨a, ha, Linked.refl (hsub a ha)⟩
    · obtain ⟨m, hm, hr⟩ := hin a ha
      exact ⟨m, hm, Linked.step (Linked.refl (hsub m hm)) (by simp [ha]) hr⟩
  intro a ha b hb
  obtain ⟨m, hm, hma⟩ := toOld a ha
  obtain ⟨n, hn, hnb⟩ := toOld b hb
  exact (hma.symm.trans ((h m hm n hn).mono hsub)).trans hnb

section grow
variable (s : α → α → Bool)

theorem grow_perm : ∀ (n : Nat) (grp rest : List α),
    ((grow s n grp rest).1 ++ (grow s n grp rest).2).Perm (grp ++ rest)
  | 0, grp, rest => by simp [grow]
  | n + 1, grp, rest => by
    simp only [grow]
    split
    · exact List.Perm.refl _
    · refine (grow_perm n _ _).trans ?_
      rw [List.append_assoc]
      refine List.Perm.append_left grp ?_
      have := List.filter_append_perm (fun x => grp.any fun m => s m x) rest
      simpa using this

theorem grow_length : ∀ (n : Nat) (grp rest : List α), (grow s n grp rest).2.length ≤ rest.length
  | 0, grp, rest => by simp [grow]
  | n + 1, grp, rest => by
    simp only [grow]
    split
    · exact Nat.le_refl _
    · exact Nat.le_trans (grow_length n _ _) (List.length_filter_le _ _)

theorem grow_sub : ∀ (n : Nat) (grp rest : List α), ∀ x ∈ grp, x ∈ (grow s n grp rest).1
  | 0, grp, rest => by simp [grow]
  | n + 1, grp, rest => by
    intro x hx
    simp only [grow]
    split
    · exact hx
    · exact grow_sub n _ _ x (by simp [hx])

theorem grow_linked : ∀ (n : Nat) (grp rest : List α),
    AllLinked (fun a b => s a b = true) grp → AllLinked (fun a b => s a b = true) (grow s n grp rest).1
  | 0, grp, rest => by simp [grow]
  | n + 1, grp, rest => by
    intro h
    simp only [grow]
    split
    · exact h
    · refine grow_linked n _ _ (h.append ?_)
      intro x hx
      simp only [List.mem_filter, List.any_eq_true] at hx
      obtain ⟨_, m, hm, hr⟩ := hx
      exact ⟨m, hm, Or.inl hr⟩

/-- with enough fuel nothing left over is related to a member of the group -/
theorem grow_closed : ∀ (n : Nat) (grp rest : List α), rest.length ≤ n →
    ∀ a ∈ (grow s n grp rest).1, ∀ b ∈ (grow s n grp rest).2, s a b = false
  | 0, grp, rest => by
    intro hn a _ b hb
    have : rest = [] := List.eq_nil_of_length_eq_zero (by omega)
    subst this
    simp [grow] at hb
  | n + 1, grp, rest => by
    intro hn
    simp only [grow]
    split
    · next hemp =>
      intro a ha b hb
      have : b ∉ rest.filter fun x => grp.any fun m => s m x := by
        rw [List.isEmpty_iff.1 hemp]; simp
      simp only [List.mem_filter, hb, true_and, List.any_eq_true, not_exists, not_and] at this
      cases h : s a b
      · rfl
      · exact absurd h (this a ha)
    · next hne =>
      refine grow_closed n _ _ ?_
      have hlt : (rest.filter fun x => !(grp.any fun m => s m x)).length < rest.length := by
        have hp := List.filter_append_perm (fun x => grp.any fun m => s m x) rest
        have hl := hp.length_eq
        simp only [List.length_append] at hl
        have : 0 < (rest.filter fun x => grp.any fun m => s m x).length := by
          cases hfl : (rest.filter fun x => grp.any fun m => s m x) with
          | nil => rw [hfl] at hne; simp at hne
          | cons _ _ => simp
        omega
      omega

end grow

section comps
variable (s : α → α → Bool)

theorem comps_perm : ∀ (n : Nat) (xs : List α), xs.length ≤ n → (comps s n xs).flatten.Perm xs
  | 0, xs => by
    intro h
    have : xs = [] := List.eq_nil_of_length_eq_zero (by omega)
    subst this; simp [comps]
  | n + 1, [] => by intro _; simp [comps]
  | n + 1, x :: xs => by
    intro h
    simp only [comps, List.flatten_cons]
    have h1 := grow_perm s xs.length [x] xs
    have h2 := grow_length s xs.length [x] xs
    have h3 := comps_perm n (grow s xs.length [x] xs).2 (by simp at h; omega)
    exact (List.Perm.append_left _ h3).trans (by simpa using h1)

theorem comps_nonempty : ∀ (n : Nat) (xs : List α), ∀ g ∈ comps s n xs, g ≠ []
  | 0, xs => by simp [comps]
  | n + 1, [] => by simp [comps]
  | n + 1, x :: xs => by
    intro g hg
    simp only [comps, List.mem_cons] at hg
    rcases hg with rfl | hg
    · intro e
      have := grow_sub s xs.length [x] xs x (by simp)
      rw [e] at this; cases this
    · exact comps_nonempty n _ g hg

theorem comps_linked : ∀ (n : Nat) (xs : List α), ∀ g ∈ comps s n xs, AllLinked (fun a b => s a b = true) g
  | 0, xs => by simp [comps]
  | n + 1, [] => by simp [comps]
  | n + 1, x :: xs => by
    intro g hg
    simp only [comps, List.mem_cons] at hg
    rcases hg with rfl | hg
    · refine grow_linked s _ _ _ ?_
      intro a ha b hb
      simp at ha hb; subst ha; subst hb
      exact Linked.refl (by simp)
    · exact comps_linked n _ g hg

theorem comps_separated : ∀ (n : Nat) (xs : List α), xs.length ≤ n →
    ∀ gs₁ g gs₂, comps s n xs = gs₁ ++ g :: gs₂ → ∀ a ∈ g, ∀ g' ∈ gs₂, ∀ b ∈ g', s a b = false
  | 0, xs => by intro _ gs₁ g gs₂ h; simp [comps] at h
  | n + 1, [] => by intro _ gs₁ g gs₂ h; simp [comps] at h
  | n + 1, x :: xs => by
    intro hn gs₁ g gs₂ h
    simp only [comps] at h
    have hlen := grow_length s xs.length [x] xs
    have hn' : (grow s xs.length [x] xs).2.length ≤ n := by simp at hn; omega
    cases gs₁ with
    | nil =>
      simp only [List.nil_append, List.cons.injEq] at h
      obtain ⟨rfl, hrest⟩ := h
      intro a ha g' hg' b hb
      have hb2 : b ∈ (grow s xs.length [x] xs).2 := by
        rw [← (comps_perm s n _ hn').mem_iff, hrest]
        simp only [List.mem_flatten]
        exact ⟨g', hg', hb⟩
      exact grow_closed s xs.length [x] xs (Nat.le_refl _) a ha b hb2
    | cons g₀ t =>
      simp only [List.cons_append, List.cons.injEq] at h
      exact comps_separated n _ hn' t g gs₂ h.2

end comps

theorem components_isChainPartition (rel : α → α → Bool) (xs : List α) :
    IsChainPartition (fun a b => rel a b = true) xs (components rel xs) := by
  refine ⟨comps_perm _ _ _ (Nat.le_refl _), comps_nonempty _ _ _, ?_, ?_⟩
  · intro g hg a ha b hb
    -- a symmetrised step is a step one way or the other; `Linked` accepts both
    have key : ∀ {a b : α}, Linked (fun a b => (rel a b || rel b a) = true) g a b →
        Linked (fun a b => rel a b = true) g a b := by
      intro a b h
      induction h with
      | refl ha => exact Linked.refl ha
      | step _ hc hr ih =>
        refine Linked.step ih hc ?_
        simp only [Bool.or_eq_true] at hr
        rcases hr with (h | h) | (h | h)
        · exact Or.inl h
        · exact Or.inr h
        · exact Or.inr h
        · exact Or.inl h
    exact key (comps_linked _ _ _ g hg a ha b hb)
  · intro gs₁ g gs₂ h a ha g' hg' b hb
    have := comps_separated _ _ _ (Nat.le_refl _) gs₁ g gs₂ h a ha g' hg' b hb
    simp only [Bool.or_eq_false_iff] at this
    exact ⟨by simp [this.1], by simp [this.2]⟩

end ASV.Chains
