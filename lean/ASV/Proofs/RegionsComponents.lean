/-
  C06: generic facts about `Linked` / `IsComponents`, and the
  characterisation of `createRegions` on a record without origin-spanning areas (linear or circular) as "one region per group of the sweep".
-/
import ASV.Proofs.RegionsLine
import ASV.Spec.Components
import ASV.Proofs.ChainPartition
namespace ASV.Components
open ASV

theorem Linked.mem_left {areas : List Area} {a b : Area} (h : Linked areas a b) : a ∈ areas := by
  induction h with
  | refl ha => exact ha
  | step _ _ _ ih => exact ih

theorem Linked.mem_right {areas : List Area} {a b : Area} (h : Linked areas a b) : b ∈ areas := by
  cases h with
  | refl ha => exact ha
  | step _ hc _ => exact hc

def Sh (a b : Area) : Prop := a.2.SharesBase b.2

theorem linked_iff {areas : List Area} {a b : Area} : Linked areas a b ↔ Chains.Linked Sh areas a b := by
  constructor
  · intro h
    induction h with
    | refl ha => exact Chains.Linked.refl ha
    | step _ hc hs ih => exact Chains.Linked.step ih hc (Or.inl hs)
  · intro h
    induction h with
    | refl ha => exact Linked.refl _ ha
    | step _ hc hs ih => exact Linked.step ih hc (hs.elim id (SharesBase_comm _ _).1)

theorem Linked.trans {areas : List Area} {a b c : Area} (h1 : Linked areas a b) (h2 : Linked areas b c) :
    Linked areas a c :=
  linked_iff.2 ((linked_iff.1 h1).trans (linked_iff.1 h2))

theorem Linked.symm {areas : List Area} {a b : Area} (h : Linked areas a b) : Linked areas b a :=
  linked_iff.2 (linked_iff.1 h).symm

/-- the two specification structures are one: connected components are the chain partition of "share a base" -/
theorem isComponents_iff {areas : List Area} {G : List (List Area)} :
    IsComponents areas G ↔ Chains.IsChainPartition Sh areas G := by
  constructor
  · intro h
    have hsep : ∀ gs₁ g gs₂, G = gs₁ ++ g :: gs₂ → ∀ a ∈ g, ∀ g' ∈ gs₂, ∀ b ∈ g', ¬ Sh a b ∧ ¬ Sh b a :=
      fun gs₁ g gs₂ e a ha g' hg' b hb =>
        have := pairwise_iff_split.1 h.separated gs₁ g gs₂ e g' hg' a ha b hb
        ⟨this, fun hs => this ((SharesBase_comm _ _).1 hs)⟩
    exact ⟨h.perm, h.nonempty, fun g hg a ha b hb =>
      Chains.linked_in_of_separated h.perm hsep hg ha (linked_iff.1 (h.linked g hg a ha b hb)), hsep⟩
  · intro h
    exact ⟨h.perm, h.nonempty,
      fun g hg a ha b hb => linked_iff.2 ((h.linked g hg a ha b hb).mono fun x hx => h.mem_of_mem_group hg hx),
      pairwise_iff_split.2 fun gs₁ g gs₂ e g' hg' a ha b hb => (h.separated gs₁ g gs₂ e a ha g' hg' b hb).1⟩

/-- the property's wording: two areas are in the same region iff a chain of overlapping areas links them -/
theorem IsComponents.same_iff_linked {areas : List Area} {groups : List (List Area)} (h : IsComponents areas groups)
    {a b : Area} {g : List Area} (hg : g ∈ groups) (ha : a ∈ g) : b ∈ g ↔ Linked areas a b :=
  ⟨fun hb => h.linked g hg a ha b hb, fun hl =>
    (Chains.linked_in_of_separated h.perm (isComponents_iff.1 h).separated hg ha (linked_iff.1 hl)).right_mem⟩

theorem IsComponents.of_perm {as bs : List Area} {gs : List (List Area)} (hp : as.Perm bs) (h : IsComponents as gs) :
    IsComponents bs gs :=
  isComponents_iff.2 ((isComponents_iff.1 h).of_perm hp)

end ASV.Components

namespace ASV.Regions
open ASV ASV.SweepG ASV.Components

/-- the hypotheses of the linear theorem: a linear record whose candidate clusters and subregions are
    single non-empty spans inside the record (what `add_*` and the constructors guarantee), with no
    regions yet -/
structure LinearOK (s : State) : Prop where
  lin : s.circular = false
  areas : ∀ f ∈ s.cands ++ s.subs, LineArea s.len f.loc
  noRegions : s.regions = []

/-- the hypotheses of the component theorem without the topology: a record — linear **or circular** — whose
    candidate clusters and subregions are single non-empty spans inside the record (none spans the origin),
    with no regions yet -/
structure NoSpanOK (s : State) : Prop where
  areas : ∀ f ∈ s.cands ++ s.subs, LineArea s.len f.loc
  noRegions : s.regions = []

theorem LinearOK.noSpan {s : State} (h : LinearOK s) : NoSpanOK s := ⟨h.areas, h.noRegions⟩

def areaLt (a b : Feat) : Bool := keyLt (lineKey a.loc) (lineKey b.loc)

/-- the areas in the order `areas.sort()` leaves them -/
def sortedAreas (s : State) : List Feat := sortP areaLt (s.cands ++ s.subs)

theorem sortedAreas_perm (s : State) : (sortedAreas s).Perm (s.cands ++ s.subs) := sortP_perm _ _

theorem sortedAreas_sorted (s : State) : (sortedAreas s).Pairwise (fun a b => fLo a ≤ fLo b) := by
  have h := sortP_sorted (key := fun f => lineKey f.loc) (lt := areaLt) (fun _ _ => rfl) (s.cands ++ s.subs)
  refine List.Pairwise.imp ?_ h
  intro a b hab
  rw [keyLt_false_iff] at hab
  simp only [lineKey, fLo] at *
  omega

/-- the sweep's specification for the sorted areas of a record whose areas are line areas -/
theorem sortedAreas_spec {s : State} (h : NoSpanOK s) {first : Feat} {rest : List Feat}
    (hsa : sortedAreas s = first :: rest) :
    GoSpec fLo fHi ⟨fLo first, fHi first, [first]⟩ rest (sweep fLo fHi (first :: rest)) := by
  have hsorted := sortedAreas_sorted s
  rw [hsa] at hsorted
  exact sweep_spec fLo fHi first rest hsorted
    (fun y hy => (h.areas y ((sortedAreas_perm s).mem_iff.1 (hsa ▸ hy))).bounds.2.1)

/-- on a record without origin-spanning areas (linear or circular: `NoSpanOK`) `create_regions` succeeds and adds exactly one region per group of the sweep
    over the sorted areas, in order -/
theorem createRegions_line (s : State) (h : NoSpanOK s) :
    ∃ s', createRegions s = .ok s' ∧
      s'.regions.map view = (sweep fLo fHi (sortedAreas s)).map grpView ∧
      s'.cands = s.cands ∧ s'.subs = s.subs ∧ s'.protos = s.protos ∧ s'.len = s.len ∧ s'.circular = s.circular := by
  have hperm := sortedAreas_perm s
  have hsort : sortAreas (s.cands ++ s.subs) = .ok (sortedAreas s) :=
    sortAreas_eq areaLt _ (fun x hx y hy => collectionLt_line (h.areas y hy) (h.areas x hx))
  by_cases hemp : s.cands ++ s.subs = []
  · have h1 : s.cands = [] := (List.append_eq_nil_iff.1 hemp).1
    have h2 : s.subs = [] := (List.append_eq_nil_iff.1 hemp).2
    refine ⟨s, ?_, ?_, rfl, rfl, rfl, rfl, rfl⟩
    · simp [createRegions, createRegionsOf, h1, h2, pure, Except.pure]
    · simp [sortedAreas, hemp, sortP, sweep, h.noRegions]
  · have hne : (s.cands.isEmpty && s.subs.isEmpty) = false := by
      cases hc : s.cands <;> cases hs : s.subs <;> simp_all
    have hsne : sortedAreas s ≠ [] := fun e => hemp (List.perm_nil.1 (e ▸ hperm.symm))
    obtain ⟨first, rest, hfr⟩ : ∃ first rest, sortedAreas s = first :: rest := by
      cases hsa : sortedAreas s with
      | nil => exact absurd hsa hsne
      | cons a b => exact ⟨a, b, rfl⟩
    have hall : ∀ f ∈ first :: rest, LineArea s.len f.loc := fun f hf => h.areas f (hperm.mem_iff.1 (hfr ▸ hf))
    have hsorted := sortedAreas_sorted s
    rw [hfr] at hsorted
    have hwf : ∀ y ∈ first :: rest, fLo y < fHi y := fun y hy => (hall y hy).bounds.2.1
    have hspec := sortedAreas_spec h hfr
    have hsw : sweepAreas s.wrap first.loc [first] rest = .ok ((sweep fLo fHi (first :: rest)).map secOf) := by
      have hfb := (hall first (by simp)).bounds
      have hw : WrapOf s.len s.wrap := by
        unfold WrapOf State.wrap
        cases s.circular
        · exact Or.inl rfl
        · exact Or.inr ⟨rfl, by omega⟩
      have := sweepAreas_line (len := s.len) hw ⟨fLo first, fHi first, [first]⟩ rest (by simp) (hwf first (by simp))
        (by simp only [fLo, fHi]; omega)
        (fun y hy => hall y (by simp [hy])) (fun y hy => (List.pairwise_cons.1 hsorted).1 y hy)
        (List.pairwise_cons.1 hsorted).2
      rw [secOf_single first (hall first (by simp))] at this
      exact this
    have hmerge := mergeFirstLast_line (sweep fLo fHi (first :: rest)) hspec.sep
      (fun g hg => group_nonempty (hspec.inv g hg)) s.wrap ((sweep fLo fHi (first :: rest)).map secOf).length
    have hsec : sections s = .ok ((sweep fLo fHi (first :: rest)).map secOf) := by
      simp only [sections, sectionsOf, hsort, hfr, bind, Except.bind, hsw, hmerge]
    obtain ⟨s', h1, h2, h3⟩ := addSections_line (len := s.len) (sweep fLo fHi (first :: rest)) s rfl hspec.inv hspec.sep
      (by
        intro g hg f hf
        apply hall
        have : f ∈ ((sweep fLo fHi (first :: rest)).map Grp.members).flatten :=
          List.mem_flatten.2 ⟨g.members, List.mem_map.2 ⟨g, hg, rfl⟩, hf⟩
        rw [hspec.flat] at this
        simpa using this)
      (by rw [h.noRegions]; intro r hr; cases hr)
    refine ⟨s', ?_, ?_, h3⟩
    · have hsec' : sectionsOf s.wrap s.cands s.subs = .ok ((sweep fLo fHi (first :: rest)).map secOf) := hsec
      simp only [createRegions, createRegionsOf, hne, Bool.false_eq_true, if_false, hsec', bind, Except.bind, h1]
    · rw [h2, h.noRegions, hfr]; rfl

def toArea (f : Feat) : Area := (f.id, f.loc)
def areasOf (s : State) : List Area := (s.cands ++ s.subs).map toArea

theorem shares_iff_reach {len : Int} (a b : Feat) (ha : LineArea len a.loc) (hb : LineArea len b.loc) :
    Sh (toArea a) (toArea b) ↔ ChainSweep.reach fLo fHi 0 a b := by
  obtain ⟨p, hp, _, hp1, _⟩ := ha
  obtain ⟨q, hq, _, hq1, _⟩ := hb
  simp only [Sh, toArea, ChainSweep.reach, Int.add_zero, fLo, fHi, hp, hq, Loc.start, Loc.end, Loc.SharesBase, Loc.mem,
    Loc.parts, List.any_cons, List.any_nil, Bool.or_false, Part.mem_iff]
  constructor
  · rintro ⟨i, h1, h2⟩; omega
  · intro h; exact ⟨max p.lo q.lo, by omega, by omega⟩

/-- the groups of the sweep over a sorted list of line areas are the connected components -/
theorem sweep_components {len : Int} (l : List Feat) (hall : ∀ f ∈ l, LineArea len f.loc)
    (hsorted : l.Pairwise (fun a b => fLo a ≤ fLo b)) :
    IsComponents (l.map toArea) ((sweep fLo fHi l).map (fun g => g.members.map toArea)) := by
  have h := (Chains.sweep_is_chain_partition_of (fun a b => Sh (toArea a) (toArea b)) 0 (Int.le_refl 0) l l
    (List.Perm.refl _) (ChainSweep.sorted_of_pairwise hsorted) (fun f hf => (hall f hf).bounds.2.1)
    (fun a ha b hb => shares_iff_reach a b (hall a ha) (hall b hb))).1
  rw [← sweep_members] at h
  have := isComponents_iff.2 (h.map (rel' := Sh) toArea fun a _ b _ => Iff.rfl)
  rwa [List.map_map] at this

/-- what `create_regions` must produce for one group of areas: the hull of the group, the ids of its
    candidate clusters and of its subregions -/
def expectedRegion (g : List Feat) : Loc × List Nat × List Nat :=
  (.simple ⟨minList (g.map fLo), maxList (g.map fHi), commonStrand ((childrenOf g).map (·.loc))⟩,
   (candsOf g).map (·.id), (subsOf g).map (·.id))

theorem grpView_eq {g : Grp Feat} (hg : GInv fLo fHi g) : grpView g = expectedRegion g.members := by
  have := hull_of_group hg g.members (List.Perm.refl _)
  simp only [grpView, expectedRegion, this.1, this.2]

theorem createRegions_linear_components (s : State) (h : NoSpanOK s) :
    ∃ (s' : State) (groups : List (List Feat)), createRegions s = .ok s' ∧
      s'.cands = s.cands ∧ s'.subs = s.subs ∧ s'.protos = s.protos ∧
      IsComponents (areasOf s) (groups.map (·.map toArea)) ∧
      s'.regions.map view = groups.map expectedRegion ∧
      s'.regions.Pairwise (fun r r' => ¬ r.loc.SharesBase r'.loc) := by
  obtain ⟨s', h1, h2, h3, h4, h5, _, _⟩ := createRegions_line s h
  have hperm := sortedAreas_perm s
  have hall : ∀ f ∈ sortedAreas s, LineArea s.len f.loc := fun f hf => h.areas f (hperm.mem_iff.1 hf)
  have hsorted := sortedAreas_sorted s
  have hcomp := (sweep_components (sortedAreas s) hall hsorted).of_perm (hperm.map toArea)
  refine ⟨s', (sweep fLo fHi (sortedAreas s)).map Grp.members, h1, h3, h4, h5, ?_, ?_, ?_⟩
  · rw [List.map_map]; exact hcomp
  · rw [h2, List.map_map]
    apply List.map_congr_left
    intro g hg
    cases hsa : sortedAreas s with
    | nil => rw [hsa] at hg; simp [sweep] at hg
    | cons first rest =>
      rw [hsa] at hg
      exact grpView_eq ((sortedAreas_spec h hsa).inv g hg)
  · have : (s'.regions.map view).Pairwise (fun v v' => ¬ v.1.SharesBase v'.1) := by
      rw [h2, List.pairwise_map]
      cases hsa : sortedAreas s with
      | nil => simp [sweep]
      | cons first rest =>
        have hspec := sortedAreas_spec h hsa
        refine List.Pairwise.imp_of_mem ?_ hspec.sep
        intro g g' hg hg' hsep
        have := group_nonempty (hspec.inv g hg)
        have := group_nonempty (hspec.inv g' hg')
        simp only [grpView, Loc.SharesBase, Loc.mem, Loc.parts, List.any_cons, List.any_nil, Bool.or_false, Part.mem_iff]
        rintro ⟨i, hi1, hi2⟩
        omega
    rw [List.pairwise_map] at this
    exact this

end ASV.Regions
