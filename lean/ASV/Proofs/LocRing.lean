/-
  The steps of `connect_locations` on a circular record, each in closed form (C04): the sort key and
  `_is_wrapping_shorter`; reduced locations `RLoc` and `_split_sections_around_origin` on them; the hulls of the
  pre- and post-origin chunks with the distance test of `_merge_over_origin`; `_merge_over_origin` and the outcomes
  of `connect_locations` as rewriting lemmas.
-/
import ASV.Proofs.LocOffset
import ASV.Proofs.SortTheory

namespace ASV

/-! ### two single-part locations: sort key -/

/-- closed form of connecting two single-part locations on a ring -/
def connectTwoRing (a b : Part) (L : Int) : Loc :=
  let first := if a.lo < b.lo ∨ (a.lo = b.lo ∧ a.hi ≤ b.hi) then a else b
  let second := if a.lo < b.lo ∨ (a.lo = b.lo ∧ a.hi ≤ b.hi) then b else a
  if second.lo - first.hi > L / 2 then .compound [⟨second.lo, L, .fwd⟩, ⟨0, first.hi, .fwd⟩]
  else .simple ⟨min a.lo b.lo, max a.hi b.hi, if a.strand == b.strand then a.strand else .none⟩

theorem sortLocs_two (a b : Part) :
    sortLocs [.simple a, .simple b] =
      if a.lo < b.lo ∨ (a.lo = b.lo ∧ a.hi ≤ b.hi) then [.simple a, .simple b] else [.simple b, .simple a] := by
  simp only [sortLocs, List.foldr, insertLocBy]
  by_cases h : a.lo < b.lo ∨ (a.lo = b.lo ∧ a.hi ≤ b.hi)
  · have hb : (decide ((Loc.simple a).start < (Loc.simple b).start) ||
        ((Loc.simple a).start == (Loc.simple b).start && decide ((Loc.simple a).end ≤ (Loc.simple b).end))) = true := by
      simp only [Loc.start, Loc.end, Bool.or_eq_true, Bool.and_eq_true, beq_iff_eq]
      rcases h with h | ⟨h1, h2⟩
      · left; exact decide_eq_true h
      · right; exact ⟨h1, decide_eq_true h2⟩
    rw [if_pos hb, if_pos h]
  · have hb : ¬ ((decide ((Loc.simple a).start < (Loc.simple b).start) ||
        ((Loc.simple a).start == (Loc.simple b).start && decide ((Loc.simple a).end ≤ (Loc.simple b).end))) = true) := by
      simp only [Loc.start, Loc.end, Bool.or_eq_true, Bool.and_eq_true, beq_iff_eq]
      rintro (h' | ⟨h1, h2⟩)
      · exact h (Or.inl (of_decide_eq_true h'))
      · exact h (Or.inr ⟨h1, of_decide_eq_true h2⟩)
    rw [if_neg hb, if_neg h]

theorem isWrappingShorter_two (a b : Part) (L : Int) :
    isWrappingShorter [.simple a, .simple b] L =
      if a.lo < b.lo ∨ (a.lo = b.lo ∧ a.hi ≤ b.hi) then decide (b.lo - a.hi > L / 2) else decide (a.lo - b.hi > L / 2) := by
  unfold isWrappingShorter
  simp only [List.any_cons, List.any_nil, bridgesOrigin, Bool.or_false, Bool.false_eq_true, if_false]
  rw [sortLocs_two]
  by_cases h : a.lo < b.lo ∨ (a.lo = b.lo ∧ a.hi ≤ b.hi)
  · simp [h, Loc.start, Loc.end]
  · simp [h, Loc.start, Loc.end]

theorem reduce_simple (p : Part) (w : Option Int) : reduceParts (Loc.simple p).parts w = .ok (.simple p) := by
  simp [Loc.parts, reduceParts, pure, Except.pure]

theorem hullOf_single (p : Part) : hullOf [.simple p] = .simple p := by
  cases p; simp [hullOf, minList, maxList, commonStrand, Loc.start, Loc.end, Loc.strand]

/-! ### `sorted(locations, key=(start, end))` and `_is_wrapping_shorter` -/

/-- the sort key order of `_is_wrapping_shorter`: `(start, end)` lexicographically -/
def KeyLe (x y : Loc) : Prop := x.start < y.start ∨ (x.start = y.start ∧ x.end ≤ y.end)

instance (x y : Loc) : Decidable (KeyLe x y) := by unfold KeyLe; infer_instance

theorem keyLe_iff (x y : Loc) :
    (decide (x.start < y.start) || (x.start == y.start && decide (x.end ≤ y.end))) = true ↔ KeyLe x y := by
  simp only [KeyLe, Bool.or_eq_true, Bool.and_eq_true, beq_iff_eq, decide_eq_true_eq]

theorem KeyLe.trans {x y z : Loc} (h1 : KeyLe x y) (h2 : KeyLe y z) : KeyLe x z := by
  unfold KeyLe at *; omega

theorem KeyLe.total (x y : Loc) : KeyLe x y ∨ KeyLe y x := by
  unfold KeyLe; omega

theorem KeyLe.refl (x : Loc) : KeyLe x x := by
  unfold KeyLe; omega

theorem sortLocs_eq (l : List Loc) : sortLocs l = Refine.sortBy (fun x y => decide (KeyLe x y)) l :=
  Refine.foldr_eq_sortBy (ins := insertLocBy) (fun _ => rfl)
    (fun _ _ _ => by simp only [insertLocBy, keyLe_iff, decide_eq_true_eq]) l

theorem sortLocs_perm (l : List Loc) : (sortLocs l).Perm l :=
  sortLocs_eq l ▸ Refine.sortBy_perm _ l

theorem sortLocs_sorted (l : List Loc) : (sortLocs l).Pairwise KeyLe := by
  rw [sortLocs_eq]
  refine (Refine.sortBy_pairwise (fun x y => ?_) (fun x y z => ?_) l).imp of_decide_eq_true
  · simp only [decide_eq_true_eq]; exact KeyLe.total x y
  · simp only [decide_eq_true_eq]; exact KeyLe.trans

/-- the sorted list starts with an element of the list that is minimal for the key -/
theorem sortLocs_head (l : List Loc) (hne : l ≠ []) :
    ∃ f rest, sortLocs l = f :: rest ∧ f ∈ l ∧ (∀ z ∈ l, KeyLe f z) ∧ (f :: rest).Perm l := by
  have hp := sortLocs_perm l
  have hs := sortLocs_sorted l
  match h : sortLocs l with
  | [] => rw [h] at hp; exact absurd (List.nil_perm.1 hp) hne
  | f :: rest =>
    rw [h] at hp hs
    refine ⟨f, rest, rfl, hp.mem_iff.1 (by simp), fun z hz => ?_, hp⟩
    rcases List.mem_cons.1 (hp.mem_iff.2 hz) with rfl | hz'
    · exact KeyLe.refl _
    · exact (List.pairwise_cons.1 hs).1 z hz'

/-- `_is_wrapping_shorter` for locations none of which bridges the origin: with `f` any location
    that is minimal for `(start, end)`, some location starts more than half the record after `f` ends -/
theorem isWrappingShorter_iff (ls : List Loc) (L : Int) (hL : 0 ≤ L)
    (hnb : ls.any bridgesOrigin = false) (hpos : ∀ l ∈ ls, l.start ≤ l.end)
    (f : Loc) (hf : f ∈ ls) (hmin : ∀ z ∈ ls, KeyLe f z) :
    isWrappingShorter ls L = true ↔ ∃ s ∈ ls, s.start - f.end > L / 2 := by
  have hne : ls ≠ [] := List.ne_nil_of_mem hf
  obtain ⟨g, rest, hs, hg, hgmin, hperm⟩ := sortLocs_head ls hne
  have hfg : f.end = g.end ∧ f.start = g.start := by
    have a := hmin g hg
    have b := hgmin f hf
    unfold KeyLe at a b; omega
  have hdiv : 0 ≤ L / 2 := Int.ediv_nonneg hL (by omega)
  unfold isWrappingShorter
  rw [hnb]
  simp only [Bool.false_eq_true, if_false, hs, List.any_eq_true, decide_eq_true_eq]
  constructor
  · rintro ⟨s, hsr, hgt⟩
    exact ⟨s, hperm.mem_iff.1 (List.mem_cons_of_mem _ hsr), by omega⟩
  · rintro ⟨s, hsl, hgt⟩
    have : s ∈ g :: rest := hperm.mem_iff.2 hsl
    rcases List.mem_cons.1 this with rfl | hr
    · have := hpos s hsl; omega
    · exact ⟨s, hr, by omega⟩

/-- `_is_wrapping_shorter` does not depend on the order of the locations -/
theorem isWrappingShorter_perm {l₁ l₂ : List Loc} (hp : l₁.Perm l₂) (L : Int) (hL : 0 ≤ L)
    (hpos : ∀ l ∈ l₁, l.start ≤ l.end) : isWrappingShorter l₁ L = isWrappingShorter l₂ L := by
  have hany : l₁.any bridgesOrigin = l₂.any bridgesOrigin := by
    rw [Bool.eq_iff_iff, List.any_eq_true, List.any_eq_true]
    exact ⟨fun ⟨x, hx, h⟩ => ⟨x, hp.mem_iff.1 hx, h⟩, fun ⟨x, hx, h⟩ => ⟨x, hp.mem_iff.2 hx, h⟩⟩
  cases hb : l₁.any bridgesOrigin
  · by_cases hne : l₁ = []
    · subst hne; rw [List.nil_perm.1 hp]
    · obtain ⟨f, rest, _, hf, hmin, _⟩ := sortLocs_head l₁ hne
      rw [Bool.eq_iff_iff, isWrappingShorter_iff l₁ L hL hb hpos f hf hmin,
        isWrappingShorter_iff l₂ L hL (hany ▸ hb) (fun l hl => hpos l (hp.mem_iff.2 hl)) f (hp.mem_iff.1 hf)
          (fun z hz => hmin z (hp.mem_iff.2 hz))]
      exact ⟨fun ⟨s, hs, h⟩ => ⟨s, hp.mem_iff.1 hs, h⟩, fun ⟨s, hs, h⟩ => ⟨s, hp.mem_iff.2 hs, h⟩⟩
  · unfold isWrappingShorter
    rw [← hany, hb]; rfl

/-! ### `_split_sections_around_origin` on reduced locations -/

/-- a reduced location as `connect_locations` sees it after `_reduce_parts_to_location`:
    one part, or the origin-spanning pair `[x, L) + [0, y)` (forward strand) -/
inductive RLoc where
  | one (p : Part)
  | two (x y : Int)
deriving DecidableEq, Repr

namespace RLoc
def toLoc (L : Int) : RLoc → Loc
  | .one p => .simple p
  | .two x y => .compound [fl x L, fl 0 y]

def OK (L : Int) : RLoc → Prop
  | .one p => 0 ≤ p.lo ∧ p.lo < p.hi ∧ p.hi ≤ L
  | .two x y => 0 < y ∧ y ≤ x ∧ x < L

def isTwo : RLoc → Bool
  | .one _ => false
  | .two _ _ => true

/-- what the location contributes to `pre_chunks` -/
def pre (L : Int) : RLoc → List Part
  | .one p => if p.lo < L - p.hi then [] else [fl p.lo p.hi]
  | .two x _ => [fl x L]
/-- what the location contributes to `post_chunks` -/
def post (L : Int) : RLoc → List Part
  | .one p => if p.lo < L - p.hi then [fl p.lo p.hi] else []
  | .two _ y => [fl 0 y]
end RLoc

/-- the loop body of `_split_sections_around_origin` -/
def splitStep (origin : Int) (acc : List Loc × List Loc) (l : Loc) : E (List Loc × List Loc) := do
  if bridgesOrigin l then
    let (lower, upper) ← splitBridging l
    let u ← reduceParts upper (some origin)
    let lo ← reduceParts lower (some origin)
    pure (acc.1 ++ [u], acc.2 ++ [lo])
  else
    let s : Loc := .simple (fl l.start l.end)
    if l.start < origin - l.end then pure (acc.1, acc.2 ++ [s]) else pure (acc.1 ++ [s], acc.2)

theorem splitSections_eq (ls : List Loc) (origin : Int) :
    splitSections ls origin =
      if !isWrappingShorter ls origin then pure (ls, []) else ls.foldlM (splitStep origin) ([], []) := rfl

/-- an origin-spanning span bridges the origin for `location_bridges_origin` on every strand but the reverse one -/
theorem bridges_areaTwo (x y L : Int) (s : Strand) (hs : s ≠ .rev) (hy0 : 0 < y) (hyx : y ≤ x) :
    bridgesOrigin (areaTwo x y L s) = true := by
  have h1 : x > 0 := by omega
  have h2 : ¬ x ≤ 0 := by omega
  cases s <;> simp [areaTwo, bridgesOrigin, Loc.strand, orderInvalid, sortInts, insertInt, h1, h2] at hs ⊢
  all_goals omega

theorem bridges_two (x y L : Int) (hy0 : 0 < y) (hyx : y ≤ x) :
    bridgesOrigin (.compound [fl x L, fl 0 y]) = true :=
  bridges_areaTwo x y L .fwd (by decide) hy0 hyx

theorem bridges_toLoc (L : Int) (r : RLoc) (h : r.OK L) : bridgesOrigin (r.toLoc L) = r.isTwo := by
  cases r with
  | one p => rfl
  | two x y => exact bridges_two x y L h.1 h.2.1

/-- the hulls of the two sections of an origin-spanning span do not overlap -/
theorem hulls_apart (x y L : Int) (s : Strand) (hy0 : 0 < y) (hyx : y ≤ x) (hxL : x < L) :
    locationsOverlap (partsHull [(⟨0, y, s⟩ : Part)]) (partsHull [(⟨x, L, s⟩ : Part)]) = false := by
  simp only [partsHull, hullOf, List.map, minList, maxList, List.foldl, Loc.start, Loc.end, locationsOverlap,
    Loc.parts, List.any_cons, List.any_nil, Bool.or_false, partsOverlap, Part.mem, Bool.or_eq_false_iff,
    Bool.and_eq_false_iff, decide_eq_false_iff_not]
  omega

theorem splitBridging_two (x y L : Int) (s : Strand) (hs : s ≠ .rev) (hy0 : 0 < y) (hyx : y ≤ x) (hxL : x < L) :
    splitBridging (.compound [⟨x, L, s⟩, ⟨0, y, s⟩]) = .ok ([⟨0, y, s⟩], [⟨x, L, s⟩]) := by
  have c1 : ¬ (0 > x) := by omega
  have hno := hulls_apart x y L s hy0 hyx hxL
  have hstr : (Loc.compound [(⟨x, L, s⟩ : Part), ⟨0, y, s⟩]).strand = s := by simp [Loc.strand]
  have hsr : (s != Strand.rev) = true := by simpa using hs
  have hsr2 : (s == Strand.rev) = false := by simpa using hs
  simp only [splitBridging, strandsUsed, List.foldl, List.contains_nil, Bool.false_eq_true, if_false, List.nil_append,
    List.contains_cons, beq_self_eq_true, Bool.true_or, if_true, List.length_singleton, hstr, hsr, splitFwd, c1,
    gt_iff_lt, List.reverse_cons, List.reverse_nil, List.isEmpty_cons, Bool.or_self, isValidSplit, hno, hsr2,
    List.map, sortInts, List.foldr, insertInt, beq_self_eq_true, Bool.and_self, Bool.not_true,
    bind, Except.bind, pure, Except.pure, throw, throwThe, MonadExceptOf.throw]
  simp

theorem splitStep_one (L : Int) (acc : List Loc × List Loc) (p : Part) :
    splitStep L acc (.simple p) =
      .ok (acc.1 ++ ((RLoc.one p).pre L).map .simple, acc.2 ++ ((RLoc.one p).post L).map .simple) := by
  by_cases h : p.lo < L - p.hi
  · simp [splitStep, bridgesOrigin, Loc.start, Loc.end, RLoc.pre, RLoc.post, h, pure, Except.pure]
  · simp [splitStep, bridgesOrigin, Loc.start, Loc.end, RLoc.pre, RLoc.post, h, pure, Except.pure]

theorem splitStep_two (L : Int) (acc : List Loc × List Loc) (x y : Int) (hy0 : 0 < y) (hyx : y ≤ x) (hxL : x < L) :
    splitStep L acc (.compound [fl x L, fl 0 y]) =
      .ok (acc.1 ++ ((RLoc.two x y).pre L).map .simple, acc.2 ++ ((RLoc.two x y).post L).map .simple) := by
  have hb := bridges_two x y L hy0 hyx
  have hsb := splitBridging_two x y L .fwd (by decide) hy0 hyx hxL
  simp only [fl] at hb hsb
  simp only [splitStep, fl, hb, if_true, hsb, reduceParts, RLoc.pre, RLoc.post, List.map, bind, Except.bind, pure, Except.pure]

theorem splitStep_toLoc (L : Int) (acc : List Loc × List Loc) (r : RLoc) (h : r.OK L) :
    splitStep L acc (r.toLoc L) = .ok (acc.1 ++ (r.pre L).map .simple, acc.2 ++ (r.post L).map .simple) := by
  cases r with
  | one p => exact splitStep_one L acc p
  | two x y => exact splitStep_two L acc x y h.1 h.2.1 h.2.2

theorem foldlM_splitStep (L : Int) (rs : List RLoc) (h : ∀ r ∈ rs, r.OK L) (acc : List Loc × List Loc) :
    (rs.map (RLoc.toLoc L)).foldlM (splitStep L) acc =
      .ok (acc.1 ++ (rs.flatMap (RLoc.pre L)).map .simple, acc.2 ++ (rs.flatMap (RLoc.post L)).map .simple) := by
  induction rs generalizing acc with
  | nil => simp [pure, Except.pure]
  | cons r rs ih =>
    rw [List.map_cons, List.foldlM_cons, splitStep_toLoc L acc r (h r (by simp))]
    show (List.map (RLoc.toLoc L) rs).foldlM (splitStep L) _ = _
    rw [ih (fun x hx => h x (List.mem_cons_of_mem _ hx))]
    simp [List.flatMap_cons, List.append_assoc]

/-- the pre-origin chunks of all locations, in order -/
def preOf (L : Int) (rs : List RLoc) : List Part := rs.flatMap (RLoc.pre L)
/-- the post-origin chunks of all locations, in order -/
def postOf (L : Int) (rs : List RLoc) : List Part := rs.flatMap (RLoc.post L)

/-- `_split_sections_around_origin` when going over the origin is judged shorter -/
theorem splitSections_wrap (L : Int) (rs : List RLoc) (h : ∀ r ∈ rs, r.OK L)
    (hw : isWrappingShorter (rs.map (RLoc.toLoc L)) L = true) :
    splitSections (rs.map (RLoc.toLoc L)) L =
      .ok ((preOf L rs).map .simple, (postOf L rs).map .simple) := by
  unfold preOf postOf
  rw [splitSections_eq, hw]
  simp only [Bool.not_true, Bool.false_eq_true, if_false]
  rw [foldlM_splitStep L rs h]
  simp

theorem splitSections_nowrap (ls : List Loc) (L : Int) (hw : isWrappingShorter ls L = false) :
    splitSections ls L = .ok (ls, []) := by
  rw [splitSections_eq, hw]; rfl

/-! ### hulls of the two chunk lists -/

/-- `FeatureLocation(min start, max end, 1)` of a list of forward parts -/
def hullP (qs : List Part) : Part := ⟨minList (qs.map (·.lo)), maxList (qs.map (·.hi)), .fwd⟩

theorem map_simple_start (qs : List Part) : (qs.map Loc.simple).map (·.start) = qs.map (·.lo) := by
  rw [List.map_map]; rfl
theorem map_simple_end (qs : List Part) : (qs.map Loc.simple).map (·.end) = qs.map (·.hi) := by
  rw [List.map_map]; rfl

theorem commonStrand_fwd (qs : List Part) (hne : qs ≠ []) (hf : ∀ q ∈ qs, q.strand = .fwd) :
    commonStrand (qs.map Loc.simple) = .fwd := by
  cases qs with
  | nil => exact absurd rfl hne
  | cons q qs =>
    have hq : q.strand = .fwd := hf q (by simp)
    have hall : (qs.map Loc.simple).all (fun l => l.strand == (Loc.simple q).strand) = true := by
      rw [List.all_eq_true]
      intro l hl
      obtain ⟨q', hq', rfl⟩ := List.mem_map.1 hl
      simp [Loc.strand, hq, hf q' (List.mem_cons_of_mem _ hq')]
    rw [List.map_cons, commonStrand, if_pos hall]; exact hq

theorem hullOf_fwd (qs : List Part) (hne : qs ≠ []) (hf : ∀ q ∈ qs, q.strand = .fwd) :
    hullOf (qs.map .simple) = .simple (hullP qs) := by
  simp only [hullOf, hullP, map_simple_start, map_simple_end, commonStrand_fwd qs hne hf]

theorem hullP_bounds (qs : List Part) (q : Part) (hq : q ∈ qs) : (hullP qs).lo ≤ q.lo ∧ q.hi ≤ (hullP qs).hi :=
  ⟨minList_le_of_mem (List.mem_map.2 ⟨q, hq, rfl⟩), le_maxList_of_mem (List.mem_map.2 ⟨q, hq, rfl⟩)⟩

theorem hullP_attained (qs : List Part) (hne : qs ≠ []) :
    (∃ q ∈ qs, (hullP qs).lo = q.lo) ∧ (∃ q ∈ qs, (hullP qs).hi = q.hi) := by
  have h1 : qs.map (·.lo) ≠ [] := by simpa using hne
  have h2 : qs.map (·.hi) ≠ [] := by simpa using hne
  obtain ⟨q, hq, e⟩ := List.mem_map.1 (minList_mem h1)
  obtain ⟨q2, hq2, e2⟩ := List.mem_map.1 (maxList_mem h2)
  exact ⟨⟨q, hq, e.symm⟩, ⟨q2, hq2, e2.symm⟩⟩

theorem hullP_strand (qs : List Part) : (hullP qs).strand = .fwd := rfl

/-- every pre-origin chunk: forward, inside the record, nearer to the record end -/
theorem mem_preOf {L : Int} {rs : List RLoc} (h : ∀ r ∈ rs, r.OK L) {q : Part} (hq : q ∈ preOf L rs) :
    q.strand = .fwd ∧ 0 ≤ q.lo ∧ q.lo < q.hi ∧ q.hi ≤ L ∧ L ≤ q.lo + q.hi := by
  simp only [preOf, List.mem_flatMap] at hq
  obtain ⟨r, hr, hq⟩ := hq
  have hok := h r hr
  cases r with
  | one p =>
    simp only [RLoc.pre] at hq
    obtain ⟨h0, h1, h2⟩ := hok
    by_cases hc : p.lo < L - p.hi
    · rw [if_pos hc] at hq; cases hq
    · rw [if_neg hc] at hq
      simp only [List.mem_singleton] at hq; subst hq
      refine ⟨rfl, ?_, ?_, ?_, ?_⟩ <;> simp only [fl] <;> omega
  | two x y =>
    simp only [RLoc.pre, List.mem_singleton] at hq; subst hq
    obtain ⟨h0, h1, h2⟩ := hok
    refine ⟨rfl, ?_, ?_, ?_, ?_⟩ <;> simp only [fl] <;> omega

/-- every post-origin chunk: forward, inside the record, nearer to the origin -/
theorem mem_postOf {L : Int} {rs : List RLoc} (h : ∀ r ∈ rs, r.OK L) {q : Part} (hq : q ∈ postOf L rs) :
    q.strand = .fwd ∧ 0 ≤ q.lo ∧ q.lo < q.hi ∧ q.hi ≤ L ∧ q.lo + q.hi < L := by
  simp only [postOf, List.mem_flatMap] at hq
  obtain ⟨r, hr, hq⟩ := hq
  have hok := h r hr
  cases r with
  | one p =>
    simp only [RLoc.post] at hq
    obtain ⟨h0, h1, h2⟩ := hok
    by_cases hc : p.lo < L - p.hi
    · rw [if_pos hc] at hq
      simp only [List.mem_singleton] at hq; subst hq
      refine ⟨rfl, ?_, ?_, ?_, ?_⟩ <;> simp only [fl] <;> omega
    · rw [if_neg hc] at hq; cases hq
  | two x y =>
    simp only [RLoc.post, List.mem_singleton] at hq; subst hq
    obtain ⟨h0, h1, h2⟩ := hok
    refine ⟨rfl, ?_, ?_, ?_, ?_⟩ <;> simp only [fl] <;> omega

/-- the hull of the pre-origin chunks is again a pre-origin chunk -/
theorem hull_pre {L : Int} {rs : List RLoc} (h : ∀ r ∈ rs, r.OK L) (hne : preOf L rs ≠ []) :
    0 ≤ (hullP (preOf L rs)).lo ∧ (hullP (preOf L rs)).lo < (hullP (preOf L rs)).hi ∧
      (hullP (preOf L rs)).hi ≤ L ∧ L ≤ (hullP (preOf L rs)).lo + (hullP (preOf L rs)).hi := by
  obtain ⟨⟨q1, hq1, e1⟩, ⟨q2, hq2, e2⟩⟩ := hullP_attained _ hne
  have a := mem_preOf h hq1
  have b := mem_preOf h hq2
  have c := hullP_bounds _ q1 hq1
  have d := hullP_bounds _ q2 hq2
  omega

theorem hull_post {L : Int} {rs : List RLoc} (h : ∀ r ∈ rs, r.OK L) (hne : postOf L rs ≠ []) :
    0 ≤ (hullP (postOf L rs)).lo ∧ (hullP (postOf L rs)).lo < (hullP (postOf L rs)).hi ∧
      (hullP (postOf L rs)).hi ≤ L ∧ (hullP (postOf L rs)).lo + (hullP (postOf L rs)).hi < L := by
  obtain ⟨⟨q1, hq1, e1⟩, ⟨q2, hq2, e2⟩⟩ := hullP_attained _ hne
  have a := mem_postOf h hq1
  have b := mem_postOf h hq2
  have c := hullP_bounds _ q1 hq1
  have d := hullP_bounds _ q2 hq2
  omega

/-- each base of a reduced location lies in one of its chunks -/
theorem chunk_of_mem {L : Int} {rs : List RLoc} {r : RLoc} (hr : r ∈ rs) {i : Int} (hi : (r.toLoc L).mem i = true) :
    ∃ q, (q ∈ preOf L rs ∨ q ∈ postOf L rs) ∧ q.lo ≤ i ∧ i < q.hi := by
  cases r with
  | one p =>
    simp only [RLoc.toLoc, mem_simple] at hi
    refine ⟨fl p.lo p.hi, ?_, hi.1, hi.2⟩
    by_cases hc : p.lo < L - p.hi
    · right; simp only [postOf, List.mem_flatMap]; exact ⟨_, hr, by simp [RLoc.post, hc]⟩
    · left; simp only [preOf, List.mem_flatMap]; exact ⟨_, hr, by simp [RLoc.pre, hc]⟩
  | two x y =>
    simp only [RLoc.toLoc, mem_two, fl] at hi
    rcases hi with hi | hi
    · exact ⟨fl x L, Or.inl (by simp only [preOf, List.mem_flatMap]; exact ⟨_, hr, by simp [RLoc.pre]⟩), hi.1, hi.2⟩
    · exact ⟨fl 0 y, Or.inr (by simp only [postOf, List.mem_flatMap]; exact ⟨_, hr, by simp [RLoc.post]⟩), hi.1, hi.2⟩

/-- something is always contributed to one of the two sides -/
theorem chunks_ne (L : Int) (rs : List RLoc) (hne : rs ≠ []) (h1 : preOf L rs = []) : postOf L rs ≠ [] := by
  cases rs with
  | nil => exact absurd rfl hne
  | cons r rs =>
    intro h2
    simp only [preOf, postOf, List.flatMap_cons, List.append_eq_nil_iff] at h1 h2
    cases r with
    | one p =>
      by_cases hc : p.lo < L - p.hi
      · have := h2.1; simp [RLoc.post, hc] at this
      · have := h1.1; simp [RLoc.pre, hc] at this
    | two x y => have := h1.1; simp [RLoc.pre] at this

theorem one_chunk {L : Int} {rs : List RLoc} {p : Part} (hr : RLoc.one p ∈ rs) :
    fl p.lo p.hi ∈ preOf L rs ∨ fl p.lo p.hi ∈ postOf L rs := by
  by_cases hc : p.lo < L - p.hi
  · right; simp only [postOf, List.mem_flatMap]; exact ⟨_, hr, by simp [RLoc.post, hc]⟩
  · left; simp only [preOf, List.mem_flatMap]; exact ⟨_, hr, by simp [RLoc.pre, hc]⟩

/-- every base of a chunk is a base of the reduced location the chunk comes from -/
theorem chunk_sub {L : Int} {r : RLoc} {q : Part} (hq : q ∈ r.pre L ∨ q ∈ r.post L) (i : Int)
    (h1 : q.lo ≤ i) (h2 : i < q.hi) : (r.toLoc L).mem i = true := by
  cases r with
  | one p =>
    have hq' : q = fl p.lo p.hi := by
      simp only [RLoc.pre, RLoc.post] at hq
      split at hq
      · simpa using hq
      · simpa using hq
    subst hq'
    simp only [fl] at h1 h2
    rw [RLoc.toLoc, mem_simple]
    exact ⟨h1, h2⟩
  | two x y =>
    simp only [RLoc.pre, RLoc.post, List.mem_singleton] at hq
    rw [RLoc.toLoc, mem_two]
    rcases hq with rfl | rfl
    · exact Or.inl ⟨h1, h2⟩
    · exact Or.inr ⟨h1, h2⟩

theorem chunk_covered {L : Int} {rs : List RLoc} {c : Loc}
    (hcov : ∀ r ∈ rs, ∀ i, (r.toLoc L).mem i = true → c.mem i = true) {q : Part}
    (hq : q ∈ preOf L rs ∨ q ∈ postOf L rs) (i : Int) (h1 : q.lo ≤ i) (h2 : i < q.hi) : c.mem i = true := by
  simp only [preOf, postOf, List.mem_flatMap] at hq
  rcases hq with ⟨r, hr, hq⟩ | ⟨r, hr, hq⟩
  · exact hcov r hr i (chunk_sub (Or.inl hq) i h1 h2)
  · exact hcov r hr i (chunk_sub (Or.inr hq) i h1 h2)

/-- the test `over_origin < standard` of `_merge_over_origin` between a pre-origin hull `u` and a
    post-origin hull `l`: `l` lies before `u` and the way over the origin is strictly shorter -/
theorem over_lt_standard (u l : Part) (L : Int) (hL : 0 < L)
    (hu0 : 0 ≤ u.lo) (hu1 : u.lo < u.hi) (hu2 : u.hi ≤ L) (hu3 : L ≤ u.lo + u.hi)
    (hl0 : 0 ≤ l.lo) (hl1 : l.lo < l.hi) (hl2 : l.hi ≤ L) (hl3 : l.lo + l.hi < L) :
    getDistance (.simple u) (.simple l) L < getDistance (.simple u) (.simple l) 0 ↔
      (l.hi ≤ u.lo ∧ l.lo + L - u.hi < u.lo - l.hi) := by
  have hL0 : L ≠ 0 := by omega
  rw [getDistance_simple, getDistance_simple]
  cases hov : partsOverlap u l
  · have hd := noOverlap_disjoint hu1 hl1 hov
    rw [partDistance_eq_spec L u l (RegionExtract.PartIn.ok ⟨hu0, hu1, hu2⟩) (RegionExtract.PartIn.ok ⟨hl0, hl1, hl2⟩) hov,
      partDistance_eq_spec 0 u l ⟨hu0, hu1, fun h => absurd rfl h⟩ ⟨hl0, hl1, fun h => absurd rfl h⟩ hov]
    have hd' : l.hi ≤ u.lo := by omega
    have hn : ¬ u.hi ≤ l.lo := by omega
    simp only [specPartDist, hL0, if_false, if_true, lineGap]
    rw [if_neg hn, if_pos hd', if_neg hn, if_pos hd']
    omega
  · have hsh := (partsOverlap_iff u l hu1 hl1).1 hov
    obtain ⟨i, h1, h2⟩ := hsh
    rw [Part.mem_iff] at h1 h2
    simp only [partDistance, hov, if_true]
    omega

/-! ### `_merge_over_origin` -/

/-- only pre-origin chunks: one hull -/
theorem mergeOverOrigin_upper (ls : List Loc) (L : Int) (upper : List Loc)
    (hs : splitSections ls L = .ok (upper, [])) (hup : upper ≠ []) :
    mergeOverOrigin ls L = .ok [hullOf upper] := by
  simp only [mergeOverOrigin, hs, bind, Except.bind, List.isEmpty_nil, Bool.not_true, Bool.false_and,
    Bool.false_eq_true, if_false, isEmpty_false_of_ne hup, Bool.not_false, if_true, pure, Except.pure]

/-- only post-origin chunks: one hull -/
theorem mergeOverOrigin_lower (ls : List Loc) (L : Int) (lower : List Loc)
    (hs : splitSections ls L = .ok ([], lower)) (hlo : lower ≠ []) :
    mergeOverOrigin ls L = .ok [hullOf lower] := by
  simp only [mergeOverOrigin, hs, bind, Except.bind, List.isEmpty_nil, Bool.not_true, Bool.and_false,
    Bool.false_eq_true, if_false, isEmpty_false_of_ne hlo, Bool.not_false, if_true, pure, Except.pure]

/-- chunks on both sides: the two hulls, merged into one origin-crossing span iff the way over
    the origin is strictly shorter -/
theorem mergeOverOrigin_both (ls : List Loc) (L : Int) (upper lower : List Loc) (u l : Part)
    (hs : splitSections ls L = .ok (upper, lower)) (hup : upper ≠ []) (hlo : lower ≠ [])
    (hu : hullOf upper = .simple u) (hl : hullOf lower = .simple l) :
    mergeOverOrigin ls L = .ok
      (if getDistance (.simple u) (.simple l) L < getDistance (.simple u) (.simple l) 0 then
        (if l.lo < u.lo then [.compound [fl u.lo L, fl 0 l.hi]] else [.compound [fl l.lo L, fl 0 u.hi]])
       else [.simple u, .simple l]) := by
  simp only [mergeOverOrigin, hs, bind, Except.bind, isEmpty_false_of_ne hlo, isEmpty_false_of_ne hup,
    Bool.not_false, Bool.and_self, if_true, hu, hl, Loc.parts, List.length_singleton, bne_self_eq_false,
    Bool.or_self, Bool.false_eq_true, if_false, pure, Except.pure]
  by_cases h1 : getDistance (.simple u) (.simple l) L < getDistance (.simple u) (.simple l) 0
  · rw [if_pos h1, if_pos h1]
    by_cases h2 : l.lo < u.lo
    · have h2' : (Loc.simple l).start < (Loc.simple u).start := h2
      rw [if_pos h2', if_pos h2]; rfl
    · have h2' : ¬ (Loc.simple l).start < (Loc.simple u).start := h2
      rw [if_neg h2', if_neg h2]; rfl
  · rw [if_neg h1, if_neg h1]

/-! ### the steps of `connect_locations` -/

/-- the final combination of the connected pre-origin side `p` and post-origin side `q` -/
def combineSides (f : Nat) (p q : Part) : E Loc := do
  if locationContainsOther (.simple p) (.simple q) || locationContainsOther (.simple q) (.simple p) then
    pure (if p.len > q.len then .simple p else .simple q)
  else if locationsOverlap (.simple p) (.simple q) then
    let r ← connectLocations f [.simple p, .simple q] none
    if r.strand != .fwd then throw "assertion"
    pure r
  else pure (.compound [{ p with strand := .fwd }, { q with strand := .fwd }])

/-- what `connect_locations` does on a ring once the inputs are reduced and, without origin-spanning inputs,
    merged over the origin -/
def connectTail (fuel : Nat) (merged : List Loc) (w : Int) : E Loc :=
  match merged with
  | [one] => pure one
  | _ => do
    let (pre, post) ← splitSections merged w
    if pre.isEmpty then connectLocations fuel post none
    else if post.isEmpty then connectLocations fuel pre none
    else
      let preL ← connectLocations fuel pre (some w)
      let postL ← connectLocations fuel post (some w)
      match preL, postL with
      | .simple p, .simple q =>
        if locationContainsOther preL postL || locationContainsOther postL preL then
          pure (if p.len > q.len then preL else postL)
        else if locationsOverlap preL postL then
          let r ← connectLocations fuel [preL, postL] none
          if r.strand != .fwd then throw "assertion"
          pure r
        else pure (.compound [{ p with strand := .fwd }, { q with strand := .fwd }])
      | _, _ => throw "assertion"

theorem connectLocations_ring (f : Nat) (ls : List Loc) (L : Int) (red merged : List Loc)
    (hne : ls ≠ []) (hL : 0 < L)
    (hred : ls.mapM (fun l => reduceParts l.parts (some L)) = .ok red)
    (hm : (if ls.any bridgesOrigin = true then .ok red else mergeOverOrigin red L) = .ok merged) :
    connectLocations (f + 1) ls (some L) = connectTail f merged L := by
  have hemp : ls.isEmpty = false := isEmpty_false_of_ne hne
  have hL' : ¬ L ≤ 0 := by omega
  cases hany : ls.any bridgesOrigin
  · rw [hany] at hm
    simp only [Bool.false_eq_true, if_false] at hm
    simp only [connectLocations, hemp, hany, hred, hL', hm, Bool.false_eq_true, if_false, Bool.false_and, bind,
      Except.bind, Bool.not_false, if_true, pure, Except.pure]
    rfl
  · rw [hany] at hm
    simp only [if_true] at hm
    injection hm with hm
    subst hm
    simp only [connectLocations, hemp, hany, hred, hL', Bool.false_eq_true, if_false, bind,
      Except.bind, Bool.not_true, pure, Except.pure, Option.isNone_some, Bool.and_false]
    rfl

/-- after reducing (and, without origin-spanning inputs, merging over the origin) one location is left -/
theorem connectLocations_ring_one (f : Nat) (ls : List Loc) (L : Int) (red : List Loc) (one : Loc)
    (hne : ls ≠ []) (hL : 0 < L)
    (hred : ls.mapM (fun l => reduceParts l.parts (some L)) = .ok red)
    (hm : (if ls.any bridgesOrigin = true then .ok red else mergeOverOrigin red L) = .ok [one]) :
    connectLocations (f + 1) ls (some L) = .ok one :=
  connectLocations_ring f ls L red [one] hne hL hred hm

/-- several locations are left and all of them are pre-origin chunks: their hull -/
theorem connectLocations_ring_pre (f : Nat) (ls : List Loc) (L : Int) (red : List Loc) (a b : Loc) (rest pre : List Loc)
    (hne : ls ≠ []) (hL : 0 < L)
    (hred : ls.mapM (fun l => reduceParts l.parts (some L)) = .ok red)
    (hm : (if ls.any bridgesOrigin = true then .ok red else mergeOverOrigin red L) = .ok (a :: b :: rest))
    (hsp : splitSections (a :: b :: rest) L = .ok (pre, [])) (hpre : pre ≠ []) :
    connectLocations (f + 1) ls (some L) = connectLocations f pre none := by
  rw [connectLocations_ring f ls L red _ hne hL hred hm]
  simp only [connectTail, hsp, isEmpty_false_of_ne hpre, bind, Except.bind, Bool.false_eq_true, if_false,
    List.isEmpty_nil, if_true]

/-- several locations are left, on both sides of the origin -/
theorem connectLocations_ring_both (f : Nat) (ls : List Loc) (L : Int) (red : List Loc) (a b : Loc)
    (rest pre post : List Loc) (p q : Part)
    (hne : ls ≠ []) (hL : 0 < L)
    (hred : ls.mapM (fun l => reduceParts l.parts (some L)) = .ok red)
    (hm : (if ls.any bridgesOrigin = true then .ok red else mergeOverOrigin red L) = .ok (a :: b :: rest))
    (hsp : splitSections (a :: b :: rest) L = .ok (pre, post)) (hpre : pre ≠ []) (hpost : post ≠ [])
    (hp : connectLocations f pre (some L) = .ok (.simple p))
    (hq : connectLocations f post (some L) = .ok (.simple q)) :
    connectLocations (f + 1) ls (some L) = combineSides f p q := by
  rw [connectLocations_ring f ls L red _ hne hL hred hm]
  simp only [connectTail, hsp, isEmpty_false_of_ne hpre, isEmpty_false_of_ne hpost, hp, hq, bind, Except.bind,
    Bool.false_eq_true, if_false, combineSides, pure, Except.pure, throw, throwThe, MonadExceptOf.throw]

/-- the comparator start of an origin-spanning span is negative: its upper section's start minus the record length -/
theorem comparatorStart_two (x y L : Int) (s : Strand) (hs : s ≠ .rev) (hy0 : 0 < y) (hyx : y ≤ x) (hxL : x < L) :
    comparatorStart (.compound [⟨x, L, s⟩, ⟨0, y, s⟩]) = .ok (x - L) := by
  have hb : bridgesOrigin (.compound [⟨x, L, s⟩, ⟨0, y, s⟩]) = true := bridges_areaTwo x y L s hs hy0 hyx
  have hsb := splitBridging_two x y L s hs hy0 hyx hxL
  simp only [comparatorStart, hb, if_true, hsb, bind, Except.bind, pure, Except.pure, List.map, minList, maxList, List.foldl]

end ASV
