/-
  C03 helper lemmas: `apply_extenders` on a linear record meets the EXTENDERS spec (`Chains.ExtWalk`).
-/
import ASV.Proofs.ProtoRules
namespace ASV.Proto
open ASV ASV.Rules ASV.Chains

/-! ### the computed walk satisfies the rules, and the rules determine the result -/

theorem specWalk_sound (c : Int) (dist : GeneInfo → GeneInfo → Int) (ext inCore : GeneInfo → Bool) :
    ∀ (w : List GeneInfo) (ref : GeneInfo), ExtWalk c dist ext inCore ref w (specWalk c dist ext inCore ref w) := by
  intro w
  induction w with
  | nil => intro ref; exact ExtWalk.done ref
  | cons x rest ih =>
    intro ref
    simp only [specWalk]
    by_cases h1 : inCore x = true
    · simp only [h1, if_true]; exact ExtWalk.inside h1 (ih ref)
    · have h1' : inCore x = false := by simpa using h1
      simp only [h1', Bool.false_eq_true, if_false]
      by_cases h2 : dist x ref > c
      · simp only [h2, if_true]; exact ExtWalk.stop h1' h2
      · simp only [h2, if_false]
        by_cases h3 : ext x = true
        · simp only [h3, if_true]; exact ExtWalk.accept h1' (by omega) h3 (ih x)
        · have h3' : ext x = false := by simpa using h3
          simp only [h3', Bool.false_eq_true, if_false]; exact ExtWalk.stepOver h1' (by omega) h3' (ih ref)

theorem ExtWalk.unique {c : Int} {dist : GeneInfo → GeneInfo → Int} {ext inCore : GeneInfo → Bool}
    {ref : GeneInfo} {w a : List GeneInfo} (h : ExtWalk c dist ext inCore ref w a) :
    a = specWalk c dist ext inCore ref w := by
  induction h with
  | done ref => rfl
  | inside h1 _ ih => simp only [specWalk, h1, if_true]; exact ih
  | stop h1 h2 => simp only [specWalk, h1, Bool.false_eq_true, if_false, h2, if_true]
  | @accept ref x rest adm h1 h2 h3 _ ih =>
    have : ¬ (dist x ref > c) := by omega
    simp only [specWalk, h1, Bool.false_eq_true, if_false, this, h3, if_true]; rw [ih]
  | @stepOver ref x rest adm h1 h2 h3 _ ih =>
    have : ¬ (dist x ref > c) := by omega
    simp only [specWalk, h1, Bool.false_eq_true, if_false, this, h3]; exact ih

/-! ### `mark_extendable` is that walk -/

theorem markExt_eq (r : Rec) (rule : RuleM) (core : Loc) : ∀ (w : List GeneInfo) (prev : GeneInfo),
    markExt r rule core prev w =
      specWalk rule.cutoff (fun a b => getDistance a.loc b.loc r.wrapI) (fun g => (extendsTo rule g).isSome)
        (fun g => locationContainsOther core g.loc) prev w := by
  intro w
  induction w with
  | nil => intro prev; rfl
  | cons x rest ih =>
    intro prev
    simp only [markExt, specWalk]
    by_cases h1 : locationContainsOther core x.loc = true
    · simp only [h1, if_true]; exact ih prev
    · simp only [h1, Bool.false_eq_true, if_false]
      by_cases h2 : getDistance x.loc prev.loc r.wrapI > rule.cutoff
      · simp only [h2, if_true]
      · simp only [h2, if_false]
        rw [ih x, ih prev]
        split <;> simp_all

theorem selfEnv_wf (g : GeneInfo) (c : Int) : (selfEnv g c).WF := by
  constructor
  · intro h hh; simpa [selfEnv, Env.ofLocs] using hh
  · intro h hh _; simpa [selfEnv, Env.ofLocs] using hh

/-- the clause is "satisfied" exactly when its documented meaning holds at the gene on its own -/
theorem extendsTo_isSome (rule : RuleM) (g : GeneInfo) (hwf : ∀ c, rule.extenders = some c → c.WF = true) :
    (extendsTo rule g).isSome = extOK rule g := by
  simp only [extendsTo, canExtend, extOK]
  cases he : rule.extenders with
  | none => rfl
  | some c =>
    simp only [Option.map_some]
    have := evalC_sem (selfEnv g rule.cutoff) (selfEnv_wf g rule.cutoff) g.id c (hwf c he)
    rw [← this]
    simp only [selfEnv]
    cases (evalC _ g.id false c).met <;> rfl

theorem specWalk_congr (c : Int) (d1 d2 : GeneInfo → GeneInfo → Int) (e1 e2 i1 i2 : GeneInfo → Bool)
    (univ : List GeneInfo) (hd : ∀ a ∈ univ, ∀ b ∈ univ, d1 a b = d2 a b) (he : ∀ a ∈ univ, e1 a = e2 a)
    (hi : ∀ a ∈ univ, i1 a = i2 a) :
    ∀ (w : List GeneInfo) (ref : GeneInfo), (∀ x ∈ w, x ∈ univ) → ref ∈ univ →
      specWalk c d1 e1 i1 ref w = specWalk c d2 e2 i2 ref w := by
  intro w
  induction w with
  | nil => intros; rfl
  | cons x rest ih =>
    intro ref hw hr
    have hx := hw x (by simp)
    have hrest : ∀ y ∈ rest, y ∈ univ := fun y hy => hw y (by simp [hy])
    simp only [specWalk, hi x hx, hd x hx ref hr, he x hx, ih ref hrest hr, ih x hrest hx]

/-- on a record whose `get_distance_between_locations` is the spec distance with wrap point `L` (0 on a line) and
    whose extender clause is well formed, `mark_extendable` is the EXTENDERS walk of the spec -/
theorem markExt_eq_specWalk (r : Rec) (rule : RuleM) (L : Int)
    (hdist : ∀ a ∈ r.genes, ∀ b ∈ r.genes, getDistance a.loc b.loc r.wrapI = specDistFull L a.loc b.loc)
    (hext : ∀ c, rule.extenders = some c → c.WF = true) (core : Loc) (ref : GeneInfo) (w : List GeneInfo)
    (hw : ∀ x ∈ w, x ∈ r.genes) (hr : ref ∈ r.genes) :
    markExt r rule core ref w = specWalk rule.cutoff (fun a b => specDistFull L a.loc b.loc) (extOK rule)
      (fun g => locationContainsOther core g.loc) ref w := by
  rw [markExt_eq]
  exact specWalk_congr _ _ _ _ _ _ _ r.genes hdist (fun a _ => extendsTo_isSome rule a hext) (fun _ _ => rfl) w ref hw hr

/-! ### joining the admitted genes to the core on a linear record -/

theorem fold_connect_line (r : Rec) (hlin : r.circular = false) : ∀ (l : List GeneInfo) (p : Part),
    (∀ g ∈ l, GeneOK r.len g.loc) →
    ∃ q, l.foldlM (fun core cds => connect [cds.loc, core] r.wrap) (Loc.simple p) = .ok (.simple q) ∧
      (q.lo, q.hi) = hullIv (Loc.simple p :: l.map (·.loc)) := by
  intro l
  induction l with
  | nil => intro p _; exact ⟨p, rfl, by simp [hullIv, minList, maxList, Loc.start, Loc.end]⟩
  | cons g rest ih =>
    intro p hok
    obtain ⟨s, hc⟩ : ∃ s, connect [g.loc, Loc.simple p] none = .ok (.simple ⟨min g.loc.start p.lo, max g.loc.end p.hi, s⟩) :=
      connect_two_line g.loc _ ⟨(hok g (by simp)).ne, (hok g (by simp)).nb⟩ (simple_nb p)
    obtain ⟨q, hq, hh⟩ := ih ⟨min g.loc.start p.lo, max g.loc.end p.hi, s⟩ (fun x hx => hok x (by simp [hx]))
    refine ⟨q, ?_, ?_⟩
    · simp only [List.foldlM_cons, Rec.wrap, hlin, Bool.false_eq_true, if_false, hc, bind, Except.bind]
      simpa [Rec.wrap, hlin] using hq
    · rw [hh]
      simp [hullIv, minList, maxList, Loc.start, Loc.end, Int.min_comm, Int.max_comm]

/-- `bisect_left(cdses, core)` = the number of leading genes sorting before the core -/
theorem bisectLeft_nb (items : List GeneInfo) (core : Loc) (hcore : bridgesOrigin core = false)
    (hnb : ∀ g ∈ items, bridgesOrigin g.loc = false) :
    bisectLeft items core = .ok (items.takeWhile fun g => ltLoc' g.loc core).length := by
  have hlt : ∀ g ∈ items, featureLt g.loc core = .ok (ltLoc' g.loc core) := by
    intro g hg
    simp [ltLoc', featureLt_nb g.loc core (hnb g hg) hcore, Except.toOption]
  simp only [bisectLeft, mapM_ok_map_of_forall _ _ items hlt, bind, Except.bind, pure, Except.pure, List.takeWhile_map,
    List.length_map]
  rfl

theorem bisectLeft_ok_idx (items : List GeneInfo) (core : Loc) (idx : Nat) (h : bisectLeft items core = .ok idx) :
    idx = (items.takeWhile fun g => ltLoc' g.loc core).length := by
  simp only [bisectLeft, bind, Except.bind] at h
  cases hm : items.mapM (fun g => featureLt g.loc core) with
  | error e => simp [hm] at h
  | ok flags =>
    simp only [hm, pure, Except.pure, Except.ok.injEq] at h
    subst h
    have hflags : items.map (fun g => ltLoc' g.loc core) = flags.map id :=
      (mapM_ok_paired _ items flags hm).map_eq (by intro g b hg; simp [ltLoc', hg, Except.toOption])
    rw [List.map_id] at hflags
    rw [← hflags, List.takeWhile_map, List.length_map]
    rfl

theorem specWalk_sub (c : Int) (dist : GeneInfo → GeneInfo → Int) (ext inCore : GeneInfo → Bool) :
    ∀ (w : List GeneInfo) (ref : GeneInfo), ∀ x ∈ specWalk c dist ext inCore ref w, x ∈ w := by
  intro w
  induction w with
  | nil => intro ref x hx; simp [specWalk] at hx
  | cons y rest ih =>
    intro ref x hx
    simp only [specWalk] at hx
    split at hx
    · exact List.mem_cons_of_mem _ (ih ref x hx)
    · split at hx
      · cases hx
      · split at hx
        · simp only [List.mem_cons] at hx
          rcases hx with rfl | hx
          · simp
          · exact List.mem_cons_of_mem _ (ih y x hx)
        · exact List.mem_cons_of_mem _ (ih ref x hx)

theorem GeneOK.locOK {len : Int} {l : Loc} (h : GeneOK len l) : l.OK 0 :=
  ⟨h.ne, fun p hp => ⟨(h.parts p hp).1, (h.parts p hp).2.1, fun h0 => absurd rfl h0⟩⟩

theorem hull_bounds (len : Int) (p q : Part) (ls : List Loc) (hls : ∀ l ∈ ls, GeneOK len l)
    (h0 : 0 ≤ p.lo) (h1 : p.lo < p.hi) (h2 : p.hi ≤ len) (hq : (q.lo, q.hi) = hullIv (Loc.simple p :: ls)) :
    0 ≤ q.lo ∧ q.lo ≤ p.lo ∧ p.hi ≤ q.hi ∧ q.hi ≤ len := by
  simp only [hullIv, Prod.mk.injEq] at hq
  obtain ⟨e1, e2⟩ := hq
  have hne1 : (Loc.simple p :: ls).map (·.start) ≠ [] := by simp
  have hne2 : (Loc.simple p :: ls).map (·.end) ≠ [] := by simp
  have m1 := minList_mem hne1
  have m2 := maxList_mem hne2
  have l1 : minList ((Loc.simple p :: ls).map (·.start)) ≤ p.lo := minList_le_of_mem (by simp [Loc.start])
  have l2 : p.hi ≤ maxList ((Loc.simple p :: ls).map (·.end)) := le_maxList_of_mem (by simp [Loc.end])
  rw [← e1] at m1 l1
  rw [← e2] at m2 l2
  refine ⟨?_, l1, l2, ?_⟩
  · simp only [List.map_cons, List.mem_cons, List.mem_map] at m1
    rcases m1 with h | ⟨l, hl, h⟩
    · simp only [Loc.start] at h; omega
    · have := (hls l hl).start_nonneg; omega
  · simp only [List.map_cons, List.mem_cons, List.mem_map] at m2
    rcases m2 with h | ⟨l, hl, h⟩
    · simp only [Loc.end] at h; omega
    · have := (hls l hl).end_le; omega

/-- **`apply_extenders` on one protocluster of a linear record**: the genes joined to the core are
    exactly those the EXTENDERS walk (`ExtWalk`) admits on either side, the new core is the span of the old
    core and those genes, and the protocluster is rebuilt with the rule's neighbourhood -/
theorem extendCluster_line (within : Lookup) (r : Rec) (hlin : r.circular = false) (rules : List RuleM)
    (pc : PC) (rule : RuleM) (hrule : findRule rules pc.rule = .ok rule) (hn : 0 ≤ rule.nbhd)
    (hext : ∀ c, rule.extenders = some c → c.WF = true)
    (p : Part) (hcore : pc.core = .simple p) (h0 : 0 ≤ p.lo) (h1 : p.lo < p.hi) (h2 : p.hi ≤ r.len)
    (hgenes : ∀ g ∈ r.genes, GeneOK r.len g.loc)
    (first last : GeneInfo) (hfirst : (within pc.core false).head? = some first)
    (hlast : (within pc.core false).getLast? = some last) (hsub : ∀ g ∈ within pc.core false, g ∈ r.genes) :
    ∃ back forw q1 q2 doms,
      ExtWalk rule.cutoff (fun a b => specDistFull 0 a.loc b.loc) (extOK rule)
        (fun g => locationContainsOther pc.core g.loc) first (walkBack r pc.core) back ∧
      (q1.lo, q1.hi) = hullIv (pc.core :: back.map (·.loc)) ∧
      ExtWalk rule.cutoff (fun a b => specDistFull 0 a.loc b.loc) (extOK rule)
        (fun g => locationContainsOther (.simple q1) g.loc) last (walkForward r pc.core) forw ∧
      (q2.lo, q2.hi) = hullIv (Loc.simple q1 :: forw.map (·.loc)) ∧
      extendCluster within r rules pc =
        .ok (⟨rule.name, .simple q2, .simple ⟨max 0 (q2.lo - rule.nbhd), min (q2.hi + rule.nbhd) r.len, .fwd⟩⟩, doms) := by
  rw [hcore] at hfirst hlast hsub ⊢
  have hwrap : r.wrapI = 0 := by simp [Rec.wrapI, hlin]
  have hfirstmem : first ∈ r.genes := hsub first (List.mem_of_head? hfirst)
  have hlastmem : last ∈ r.genes := hsub last (List.mem_of_getLast? hlast)
  have hidx := bisectLeft_nb r.genes (Loc.simple p) (by simp [bridgesOrigin]) (fun g hg => (hgenes g hg).nb)
  have hwb : ∀ x ∈ walkBack r (Loc.simple p), x ∈ r.genes := by
    intro x hx
    simp only [walkBack, List.mem_reverse] at hx
    exact List.mem_of_mem_take hx
  have hwf : ∀ x ∈ walkForward r (Loc.simple p), x ∈ r.genes := by
    intro x hx
    exact List.mem_of_mem_drop hx
  have hdist : ∀ a ∈ r.genes, ∀ b ∈ r.genes,
      getDistance a.loc b.loc r.wrapI = specDistFull 0 a.loc b.loc := by
    intro a ha b hb
    rw [hwrap]
    exact getDistance_eq_specFull a.loc b.loc 0 (hgenes a ha).locOK (hgenes b hb).locOK
  have hwalk := markExt_eq_specWalk r rule 0 hdist hext
  let back := specWalk rule.cutoff (fun a b => specDistFull 0 a.loc b.loc) (extOK rule)
        (fun g => locationContainsOther (Loc.simple p) g.loc) first (walkBack r (Loc.simple p))
  have hbackok : ∀ g ∈ back, GeneOK r.len g.loc := fun g hg => hgenes g (hwb g (specWalk_sub _ _ _ _ _ _ g hg))
  obtain ⟨q1, hq1, hh1⟩ := fold_connect_line r hlin back p hbackok
  let forw := specWalk rule.cutoff (fun a b => specDistFull 0 a.loc b.loc) (extOK rule)
        (fun g => locationContainsOther (.simple q1) g.loc) last (walkForward r (Loc.simple p))
  have hforwok : ∀ g ∈ forw, GeneOK r.len g.loc := fun g hg => hgenes g (hwf g (specWalk_sub _ _ _ _ _ _ g hg))
  obtain ⟨q2, hq2, hh2⟩ := fold_connect_line r hlin forw q1 hforwok
  have b1 := hull_bounds r.len p q1 (back.map fun g : GeneInfo => g.loc) (List.forall_mem_map.2 hbackok)
    h0 h1 h2 hh1
  have b2 := hull_bounds r.len q1 q2 (forw.map fun g : GeneInfo => g.loc) (List.forall_mem_map.2 hforwok)
    b1.1 (by omega) b1.2.2.2 hh2
  have hcontains : locationContainsOther (Loc.simple q2) (Loc.simple p) = true := by
    simp only [locationContainsOther, Loc.parts, List.all_cons, List.all_nil, List.any_cons, List.any_nil,
      Bool.or_false, Bool.and_true, partContains, Bool.and_eq_true, decide_eq_true_eq]
    omega
  refine ⟨back, forw, q1, q2, ?d, specWalk_sound _ _ _ _ _ _, hh1, specWalk_sound _ _ _ _ _ _, hh2, ?e⟩
  case e =>
    have hcb : cycle r r.genes (r.genes.takeWhile fun g => ltLoc' g.loc (Loc.simple p)).length false = walkBack r (Loc.simple p) := by
      simp [cycle, hlin, walkBack]
    have hcf : cycle r r.genes (r.genes.takeWhile fun g => ltLoc' g.loc (Loc.simple p)).length true = walkForward r (Loc.simple p) := by
      simp [cycle, hlin, walkForward]
    simp only [extendCluster, hcore, hrule, hidx, bind, Except.bind, hfirst, hlast, hcb, hcf]
    rw [hwalk (Loc.simple p) first _ hwb hfirstmem]
    rw [hq1]
    simp only []
    rw [hwalk (.simple q1) last _ hwf hlastmem, hq2]
    obtain ⟨hW, hm⟩ := protocluster_line r hlin rule.name q2 rule.nbhd b2.1 (by omega) b2.2.2.2 hn
    simp only [hcontains, Bool.not_true, Bool.false_eq_true, if_false, hW, hm]
    rfl

/-- what a successful `apply_extenders` on one protocluster went through -/
theorem extendCluster_ok (within : Lookup) (r : Rec) (rules : List RuleM) (pc pc' : PC) (d : Doms)
    (h : extendCluster within r rules pc = .ok (pc', d)) :
    ∃ rule idx firstC lastC core1 s,
      findRule rules pc.rule = .ok rule ∧ bisectLeft r.genes pc.core = .ok idx ∧
      (within pc.core false).head? = some firstC ∧ (within pc.core false).getLast? = some lastC ∧
      (markExt r rule pc.core firstC (cycle r r.genes idx false)).foldlM
        (fun core cds => connect [cds.loc, core] r.wrap) pc.core = .ok core1 ∧
      (markExt r rule core1 lastC (cycle r r.genes idx true)).foldlM
        (fun core cds => connect [cds.loc, core] r.wrap) core1 = .ok pc'.core ∧
      locationContainsOther pc'.core pc.core = true ∧
      extendArea r pc'.core rule.nbhd true = .ok s ∧ pc' = ⟨rule.name, pc'.core, s⟩ := by
  obtain ⟨rule, hr, h⟩ := bind_ok h
  obtain ⟨idx, hb, h⟩ := bind_ok h
  simp only [] at h
  split at h
  · next firstC lastC hf hl =>
    obtain ⟨core1, h1, h⟩ := bind_ok h
    obtain ⟨core2, h2, h⟩ := bind_ok h
    split at h
    · cases h
    · next hc =>
      obtain ⟨s, he, h⟩ := bind_ok h
      obtain ⟨q, hm, h⟩ := bind_ok h
      cases h
      cases mkPC_ok hm
      exact ⟨rule, idx, firstC, lastC, core1, s, hr, hb, hf, hl, h1, h2, by simpa using hc, he, rfl⟩
  · cases h

end ASV.Proto
