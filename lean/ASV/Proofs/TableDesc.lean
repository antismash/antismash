/-
  C05: what `build_candidates` does to the table, said without the order of the groups: per
  coordinate key the members of all groups with that key are added to the candidate with that key
  (a new one of the pass's kind if there was none), and the added protoclusters become promoted
  singles exactly when the candidate they were merged into is of another kind.  That a pass covers
  its groups is the first clause of this description.
-/
import ASV.Proofs.Candidates
namespace ASV.CC
open ASV.CC.Spec ASV.Base

/-! ### the table as a relation -/

/-- `x` is a member of the candidate stored under key `k` -/
def memOf (t : Table) (k : Int × Int) (x : Proto) : Prop := ∃ c, (k, c) ∈ t.existing ∧ x ∈ c.members
/-- the candidate stored under key `k` has kind `kd` -/
def kindOf (t : Table) (k : Int × Int) (kd : Kind) : Prop := ∃ c, (k, c) ∈ t.existing ∧ c.kind = kd

def Covers (t : Table) (p : Proto) : Prop := ∃ c, c ∈ t.values ∧ p ∈ c.members

theorem covers_iff_memOf {t : Table} {p : Proto} : Covers t p ↔ ∃ k, memOf t k p := by
  simp only [Covers, memOf, mem_values]
  constructor
  · rintro ⟨c, ⟨k, hk⟩, hp⟩; exact ⟨k, c, hk, hp⟩
  · rintro ⟨k, c, hk, hp⟩; exact ⟨c, ⟨k, hk⟩, hp⟩

/-- the coordinate key `build_candidates` computes for a group -/
def gkey (wrap : Option Int) (kind : Kind) (g : List Proto) : Option (Int × Int) :=
  match mkCand wrap kind (sortProtos g) with
  | .ok c => some (locKey c.loc)
  | .error _ => none

theorem gkey_eq_some_iff {wrap : Option Int} {kind : Kind} {g : List Proto} {k : Int × Int} :
    gkey wrap kind g = some k ↔ ∃ c, mkCand wrap kind (sortProtos g) = .ok c ∧ locKey c.loc = k := by
  unfold gkey
  cases mkCand wrap kind (sortProtos g) with
  | error e => exact ⟨fun h => (nomatch h), fun ⟨_, h, _⟩ => (nomatch h)⟩
  | ok c => exact ⟨fun h => ⟨c, rfl, Option.some.inj h⟩, fun ⟨_, h, e⟩ => by cases h; exact congrArg some e⟩

/-- the effect of a list of groups on the table, without reference to their order -/
structure PassDesc (wrap : Option Int) (kind : Kind) (t t' : Table) (gs : List (List Proto)) : Prop where
  members : ∀ k x, memOf t' k x ↔ memOf t k x ∨ ∃ g, g ∈ gs ∧ gkey wrap kind g = some k ∧ x ∈ g
  kinds : ∀ k kd, kindOf t' k kd ↔ kindOf t k kd ∨ (k ∉ keys t.existing ∧ kd = kind ∧ ∃ g, g ∈ gs ∧ gkey wrap kind g = some k)
  singles : ∀ x, x ∈ t'.singles ↔ x ∈ t.singles ∨
    ∃ k c, (k, c) ∈ t.existing ∧ c.kind ≠ kind ∧ x ∉ c.members ∧ ∃ g, g ∈ gs ∧ gkey wrap kind g = some k ∧ x ∈ g
  keysNodup : (keys t'.existing).Nodup
  keysOf : ∀ k, k ∈ keys t'.existing ↔ k ∈ keys t.existing ∨ ∃ g, g ∈ gs ∧ gkey wrap kind g = some k

theorem mem_keys_iff {t : Table} {k : Int × Int} : k ∈ keys t.existing ↔ ∃ c, (k, c) ∈ t.existing := by
  simp only [keys, List.mem_map]
  constructor
  · rintro ⟨e, he, rfl⟩; exact ⟨e.2, he⟩
  · rintro ⟨c, hc⟩; exact ⟨(k, c), hc, rfl⟩

/-- the entry under a key after `existing[k] = c`, for any property of the stored candidate -/
theorem entry_set {t : Table} (hn : (keys t.existing).Nodup) (k : Int × Int) (c : Cand) (k' : Int × Int)
    (P : Cand → Prop) : (∃ d, (k', d) ∈ (t.set k c).existing ∧ P d) ↔
      (k' = k ∧ P c) ∨ (k' ≠ k ∧ ∃ d, (k', d) ∈ t.existing ∧ P d) := by
  simp only [Table.set, setGo_eq_put, AList.mem_put hn]
  constructor
  · rintro ⟨d, (h | ⟨h, hne⟩), hx⟩
    · cases h; exact Or.inl ⟨rfl, hx⟩
    · exact Or.inr ⟨hne, d, h, hx⟩
  · rintro (⟨rfl, hx⟩ | ⟨hne, d, h, hx⟩)
    · exact ⟨c, Or.inl rfl, hx⟩
    · exact ⟨d, Or.inr ⟨h, hne⟩, hx⟩

/-- `PassDesc` for one group with key `key`, without the quantifier over the groups -/
theorem passDesc_single {wrap : Option Int} {kind : Kind} {t t' : Table} {g : List Proto} {key : Int × Int}
    (hgk : gkey wrap kind g = some key)
    (hM : ∀ k x, memOf t' k x ↔ memOf t k x ∨ (k = key ∧ x ∈ g))
    (hK : ∀ k kd, kindOf t' k kd ↔ kindOf t k kd ∨ (k = key ∧ key ∉ keys t.existing ∧ kd = kind))
    (hS : ∀ x, x ∈ t'.singles ↔ x ∈ t.singles ∨ ∃ c, (key, c) ∈ t.existing ∧ c.kind ≠ kind ∧ x ∉ c.members ∧ x ∈ g)
    (hN : (keys t'.existing).Nodup) (hKeys : ∀ k, k ∈ keys t'.existing ↔ k ∈ keys t.existing ∨ k = key) :
    PassDesc wrap kind t t' [g] := by
  have one : ∀ {k : Int × Int} {Q : List Proto → Prop}, (∃ g', g' ∈ [g] ∧ gkey wrap kind g' = some k ∧ Q g') ↔ (k = key ∧ Q g) := by
    intro k Q
    constructor
    · rintro ⟨g', hg', h2, hq⟩
      rw [List.mem_singleton.1 hg', hgk] at h2
      rw [← List.mem_singleton.1 hg']
      exact ⟨(Option.some.inj h2).symm, hq⟩
    · rintro ⟨rfl, hq⟩; exact ⟨g, List.mem_singleton.2 rfl, hgk, hq⟩
  refine ⟨fun k x => ?_, fun k kd => ?_, fun x => ?_, hN, fun k => ?_⟩
  · rw [hM, one (Q := fun g' => x ∈ g')]
  · rw [hK]
    refine or_congr Iff.rfl ⟨fun ⟨e, h1, h2⟩ => ⟨e ▸ h1, h2, g, List.mem_singleton.2 rfl, e ▸ hgk⟩, ?_⟩
    rintro ⟨h1, h2, g', hg', h3⟩
    rw [List.mem_singleton.1 hg', hgk] at h3
    cases h3; exact ⟨rfl, h1, h2⟩
  · rw [hS]
    refine or_congr Iff.rfl ⟨fun ⟨c, hc, h1, h2, h3⟩ => ⟨key, c, hc, h1, h2, g, List.mem_singleton.2 rfl, hgk, h3⟩, ?_⟩
    rintro ⟨k, c, hc, h1, h2, g', hg', h3, h4⟩
    rw [List.mem_singleton.1 hg'] at h3 h4
    rw [hgk] at h3
    cases h3; exact ⟨c, hc, h1, h2, h4⟩
  · rw [hKeys]
    refine or_congr Iff.rfl ⟨fun e => ⟨g, List.mem_singleton.2 rfl, e ▸ hgk⟩, ?_⟩
    rintro ⟨g', hg', h3⟩
    rw [List.mem_singleton.1 hg', hgk] at h3
    exact (Option.some.inj h3).symm

/-- one group: case on `BuildStep`; each case is `passDesc_single` with the clauses read off `entry_set` -/
theorem buildOne_desc {wrap : Option Int} {kind : Kind} {t t' : Table} {g : List Proto}
    (h : buildOne wrap kind t g = .ok t') (hn : (keys t.existing).Nodup) :
    PassDesc wrap kind t t' [g] := by
  have hgk : ∀ {cand : Cand}, mkCand wrap kind (sortProtos g) = .ok cand → gkey wrap kind g = some (locKey cand.loc) :=
    fun hc => gkey_eq_some_iff.2 ⟨_, hc, rfl⟩
  have hkeyOf : ∀ {k : Int × Int} {P : Cand → Prop}, (∃ d, (k, d) ∈ t.existing ∧ P d) → k ∈ keys t.existing :=
    fun ⟨d, hd, _⟩ => mem_keys_iff.2 ⟨d, hd⟩
  cases (buildOne_step h).2 with
  | @fresh cand hcand hget =>
    obtain ⟨hkind, hmem, _⟩ := mkCand_ok hcand
    have hnot := getGo_none hget
    refine passDesc_single (hgk hcand) (fun k x => ?_) (fun k kd => ?_) (fun x => ?_) (keys_nodup_setGo hn _ _)
      (fun k => mem_keys_setGo _ _ _ _)
    · rw [memOf, entry_set hn, hmem, mem_sortProtos]
      constructor
      · rintro (h1 | ⟨_, h1⟩)
        · exact Or.inr h1
        · exact Or.inl h1
      · rintro (h1 | h1)
        · exact Or.inr ⟨fun e => hnot (e ▸ hkeyOf h1), h1⟩
        · exact Or.inl h1
    · rw [kindOf, entry_set hn, hkind]
      constructor
      · rintro (⟨e, h1⟩ | ⟨_, h1⟩)
        · exact Or.inr ⟨e, hnot, h1.symm⟩
        · exact Or.inl h1
      · rintro (h1 | ⟨e, _, h1⟩)
        · exact Or.inr ⟨fun e => hnot (e ▸ hkeyOf h1), h1⟩
        · exact Or.inl ⟨e, h1.symm⟩
    · exact ⟨Or.inl, fun h1 => h1.elim id fun ⟨c, hc, _⟩ => absurd (mem_keys_iff.2 ⟨c, hc⟩) hnot⟩
  | @known cand ex hcand hget hno hin =>
    have hexin := getGo_mem hget
    have hkin : locKey cand.loc ∈ keys t.existing := mem_keys_iff.2 ⟨ex, hexin⟩
    have hsub : ∀ x, x ∈ g → x ∈ ex.members := by
      intro x hx
      refine Classical.byContradiction fun hin' => ?_
      have : x ∈ diffL (dedup g) ex.members := mem_diffL.2 ⟨mem_dedup.2 hx, hin'⟩
      rw [hno] at this; cases this
    refine passDesc_single (hgk hcand) (fun k x => ?_) (fun k kd => ?_) (fun x => ?_) hn (fun k => ?_)
    · exact ⟨Or.inl, fun h1 => h1.elim id fun ⟨e, hx⟩ => ⟨ex, e ▸ hexin, hsub x hx⟩⟩
    · exact ⟨Or.inl, fun h1 => h1.elim id fun ⟨_, hnk, _⟩ => absurd hkin hnk⟩
    · refine ⟨Or.inl, fun h1 => h1.elim id fun ⟨c, hc, _, hnx, hx⟩ => ?_⟩
      rw [entry_unique hn hc hexin] at hnx
      exact absurd (hsub x hx) hnx
    · exact ⟨Or.inl, fun h1 => h1.elim id fun e => e ▸ hkin⟩
  | @grown cand ex repl hcand hget hex hrepl =>
    have hexin := getGo_mem hget
    have hkin : locKey cand.loc ∈ keys t.existing := mem_keys_iff.2 ⟨ex, hexin⟩
    have huniq : ∀ {P : Cand → Prop}, (∃ d, (locKey cand.loc, d) ∈ t.existing ∧ P d) ↔ P ex :=
      ⟨fun ⟨d, hd, hp⟩ => entry_unique hn hd hexin ▸ hp, fun hp => ⟨ex, hexin, hp⟩⟩
    obtain ⟨hrk, hrm, _⟩ := mkCand_ok hrepl
    have hrmem : ∀ x, x ∈ repl.members ↔ x ∈ ex.members ∨ x ∈ g := by
      intro x
      rw [hrm, mem_sortProtos, List.mem_append, mem_dedup, mem_diffL, mem_dedup]
      exact ⟨fun h1 => h1.imp_right And.left, fun h1 => h1.elim Or.inl fun h2 =>
        (Classical.em (x ∈ ex.members)).imp_right fun hin => ⟨h2, hin⟩⟩
    -- members, kinds and keys only depend on the entries, which the promotion of the new members leaves alone
    have hM : ∀ k x, memOf (t.set (locKey cand.loc) repl) k x ↔ memOf t k x ∨ (k = locKey cand.loc ∧ x ∈ g) := by
      intro k x
      rw [memOf, entry_set hn, hrmem]
      constructor
      · rintro (⟨e, h1 | h1⟩ | ⟨_, h1⟩)
        · exact Or.inl (e ▸ huniq.2 h1)
        · exact Or.inr ⟨e, h1⟩
        · exact Or.inl h1
      · rintro (h1 | ⟨e, h1⟩)
        · by_cases e : k = locKey cand.loc
          · exact Or.inl ⟨e, Or.inl (huniq.1 (e ▸ h1))⟩
          · exact Or.inr ⟨e, h1⟩
        · exact Or.inl ⟨e, Or.inr h1⟩
    have hK : ∀ k kd, kindOf (t.set (locKey cand.loc) repl) k kd ↔
        kindOf t k kd ∨ (k = locKey cand.loc ∧ locKey cand.loc ∉ keys t.existing ∧ kd = kind) := by
      intro k kd
      rw [kindOf, entry_set hn, hrk]
      constructor
      · rintro (⟨e, h1⟩ | ⟨_, h1⟩)
        · exact Or.inl (e ▸ huniq.2 h1)
        · exact Or.inl h1
      · rintro (h1 | ⟨_, hnk, _⟩)
        · by_cases e : k = locKey cand.loc
          · exact Or.inl ⟨e, huniq.1 (e ▸ h1)⟩
          · exact Or.inr ⟨e, h1⟩
        · exact absurd hkin hnk
    have hS : ∀ x, (∃ c, (locKey cand.loc, c) ∈ t.existing ∧ c.kind ≠ kind ∧ x ∉ c.members ∧ x ∈ g) ↔
        ex.kind ≠ kind ∧ x ∉ ex.members ∧ x ∈ g := fun x => huniq (P := fun c => c.kind ≠ kind ∧ x ∉ c.members ∧ x ∈ g)
    split
    · rename_i hkd
      have hkd' : ex.kind ≠ kind := by simpa using hkd
      refine passDesc_single (hgk hcand) hM hK (fun x => ?_) (keys_nodup_setGo hn _ _) (fun k => mem_keys_setGo _ _ _ _)
      rw [hS]
      show x ∈ unionL t.singles (diffL (dedup g) ex.members) ↔ _
      rw [mem_unionL, mem_diffL, mem_dedup]
      exact or_congr Iff.rfl ⟨fun h1 => ⟨hkd', h1.2, h1.1⟩, fun h1 => ⟨h1.2.2, h1.2.1⟩⟩
    · rename_i hkd
      have hkd' : ex.kind = kind := by simpa using hkd
      refine passDesc_single (hgk hcand) hM hK (fun x => ?_) (keys_nodup_setGo hn _ _) (fun k => mem_keys_setGo _ _ _ _)
      rw [hS]
      exact ⟨Or.inl, fun h1 => h1.elim id fun h2 => absurd hkd' h2.1⟩

theorem kindOf_unique {t : Table} (hn : (keys t.existing).Nodup) {k : Int × Int} {a b : Kind}
    (ha : kindOf t k a) (hb : kindOf t k b) : a = b := by
  obtain ⟨c, hc, rfl⟩ := ha
  obtain ⟨d, hd, rfl⟩ := hb
  rw [entry_unique hn hc hd]

theorem passDesc_nil (wrap : Option Int) (kind : Kind) (t : Table) (hn : (keys t.existing).Nodup) :
    PassDesc wrap kind t t [] := by
  refine ⟨?_, ?_, ?_, hn, ?_⟩
  · intro k x; constructor
    · exact Or.inl
    · rintro (h | ⟨g, hg, _⟩)
      · exact h
      · cases hg
  · intro k kd; constructor
    · exact Or.inl
    · rintro (h | ⟨_, _, g, hg, _⟩)
      · exact h
      · cases hg
  · intro x; constructor
    · exact Or.inl
    · rintro (h | ⟨_, _, _, _, _, g, hg, _⟩)
      · exact h
      · cases hg
  · intro k; constructor
    · exact Or.inl
    · rintro (h | ⟨g, hg, _⟩)
      · exact h
      · cases hg

theorem or_exists_cons {β : Type} {A : Prop} {g : β} {gs : List β} {Q : β → Prop} :
    ((A ∨ ∃ g', g' ∈ [g] ∧ Q g') ∨ ∃ g', g' ∈ gs ∧ Q g') ↔ (A ∨ ∃ g', g' ∈ g :: gs ∧ Q g') := by
  constructor
  · rintro ((h | ⟨g', hg', hq⟩) | ⟨g', hg', hq⟩)
    · exact Or.inl h
    · exact Or.inr ⟨g', List.mem_cons.2 (Or.inl (List.mem_singleton.1 hg')), hq⟩
    · exact Or.inr ⟨g', List.mem_cons_of_mem _ hg', hq⟩
  · rintro (h | ⟨g', hg', hq⟩)
    · exact Or.inl (Or.inl h)
    · rcases List.mem_cons.1 hg' with e | e
      · exact Or.inl (Or.inr ⟨g', List.mem_singleton.2 e, hq⟩)
      · exact Or.inr ⟨g', e, hq⟩

/-- `t → t1` by `[g]`, then `t1 → t'` by `gs`; a key that is new in `t1` was made by `g`, with the pass's kind -/
theorem passDesc_cons {wrap : Option Int} {kind : Kind} {t t1 t' : Table} {g : List Proto} {gs : List (List Proto)}
    (hn : (keys t.existing).Nodup) (h1 : PassDesc wrap kind t t1 [g]) (h2 : PassDesc wrap kind t1 t' gs) :
    PassDesc wrap kind t t' (g :: gs) := by
  have hn1 := h1.keysNodup
  refine ⟨?_, ?_, ?_, h2.keysNodup, ?_⟩
  · intro k x
    rw [h2.members, h1.members]
    exact or_exists_cons
  · intro k kd
    rw [h2.kinds, h1.kinds]
    simp only [List.mem_cons, List.not_mem_nil, or_false]
    constructor
    · rintro ((h | ⟨hnk, hkd, g', rfl, hk⟩) | ⟨hnk, hkd, g', hg', hk⟩)
      · exact Or.inl h
      · exact Or.inr ⟨hnk, hkd, g', Or.inl rfl, hk⟩
      · refine Or.inr ⟨?_, hkd, g', Or.inr hg', hk⟩
        intro hin; exact hnk ((h1.keysOf k).2 (Or.inl hin))
    · rintro (h | ⟨hnk, hkd, g', (rfl | hg'), hk⟩)
      · exact Or.inl (Or.inl h)
      · exact Or.inl (Or.inr ⟨hnk, hkd, g', rfl, hk⟩)
      · by_cases hin : k ∈ keys t1.existing
        · -- the key was created by `g` itself, with the kind of the pass
          rcases (h1.keysOf k).1 hin with h3 | ⟨g0, hg0, hk0⟩
          · exact absurd h3 hnk
          · simp only [List.mem_singleton] at hg0; subst hg0
            exact Or.inl (Or.inr ⟨hnk, hkd, g0, rfl, hk0⟩)
        · exact Or.inr ⟨hin, hkd, g', hg', hk⟩
  · intro x
    rw [h2.singles, h1.singles]
    simp only [List.mem_cons, List.not_mem_nil, or_false]
    constructor
    · rintro ((h | ⟨k, c, hc, hck, hnx, g', rfl, hk, hx⟩) | ⟨k, c1, hc1, hck, hnx, g', hg', hk, hx⟩)
      · exact Or.inl h
      · exact Or.inr ⟨k, c, hc, hck, hnx, g', Or.inl rfl, hk, hx⟩
      · -- the entry of `t1` has another kind than the pass, so it was in `t` already
        have hk1 : kindOf t1 k c1.kind := ⟨c1, hc1, rfl⟩
        rcases (h1.kinds k c1.kind).1 hk1 with ⟨c, hc, hkc⟩ | ⟨_, hkd, _⟩
        · refine Or.inr ⟨k, c, hc, by rw [hkc]; exact hck, ?_, g', Or.inr hg', hk, hx⟩
          intro hxc
          have : memOf t1 k x := (h1.members k x).2 (Or.inl ⟨c, hc, hxc⟩)
          obtain ⟨c2, hc2, hx2⟩ := this
          rw [entry_unique hn1 hc2 hc1] at hx2
          exact hnx hx2
        · exact absurd hkd hck
    · rintro (h | ⟨k, c, hc, hck, hnx, g', (rfl | hg'), hk, hx⟩)
      · exact Or.inl (Or.inl h)
      · exact Or.inl (Or.inr ⟨k, c, hc, hck, hnx, g', rfl, hk, hx⟩)
      · -- the entry of `t1` under the same key
        obtain ⟨c1, hc1, hkc1⟩ := (h1.kinds k c.kind).2 (Or.inl ⟨c, hc, rfl⟩)
        by_cases hx1 : x ∈ c1.members
        · -- then `x` came in with `g`
          rcases (h1.members k x).1 ⟨c1, hc1, hx1⟩ with ⟨c0, hc0, hx0⟩ | ⟨g0, hg0, hk0, hxg0⟩
          · rw [entry_unique hn hc0 hc] at hx0; exact absurd hx0 hnx
          · exact Or.inl (Or.inr ⟨k, c, hc, hck, hnx, g0, by simpa using hg0, hk0, hxg0⟩)
        · exact Or.inr ⟨k, c1, hc1, by rw [hkc1]; exact hck, hx1, g', hg', hk, hx⟩
  · intro k
    rw [h2.keysOf, h1.keysOf]
    exact or_exists_cons

/-- `build_candidates(groups, kind)` has the order-free effect `PassDesc` on a table with distinct keys -/
theorem buildCandidates_desc {wrap : Option Int} {kind : Kind} {t t' : Table} {gs : List (List Proto)}
    (h : buildCandidates wrap kind t gs = .ok t') (hn : (keys t.existing).Nodup) : PassDesc wrap kind t t' gs := by
  induction gs generalizing t with
  | nil => cases h; exact passDesc_nil wrap kind _ hn
  | cons g gs ih =>
    obtain ⟨t1, h1, h⟩ := buildCandidates_cons.1 h
    have d1 := buildOne_desc h1 hn
    exact passDesc_cons hn d1 (ih h d1.keysNodup)

theorem buildOne_gkey {wrap : Option Int} {kind : Kind} {t t' : Table} {g : List Proto}
    (h : buildOne wrap kind t g = .ok t') : ∃ k, gkey wrap kind g = some k := by
  cases (buildOne_step h).2 with
  | fresh hc _ => exact ⟨_, gkey_eq_some_iff.2 ⟨_, hc, rfl⟩⟩
  | known hc _ _ _ => exact ⟨_, gkey_eq_some_iff.2 ⟨_, hc, rfl⟩⟩
  | grown hc _ _ _ => exact ⟨_, gkey_eq_some_iff.2 ⟨_, hc, rfl⟩⟩

theorem buildCandidates_gkey {wrap : Option Int} {kind : Kind} {t t' : Table} {gs : List (List Proto)}
    (h : buildCandidates wrap kind t gs = .ok t') : ∀ g, g ∈ gs → ∃ k, gkey wrap kind g = some k := by
  induction gs generalizing t with
  | nil => exact fun _ hg => nomatch hg
  | cons g gs ih =>
    obtain ⟨t1, h1, h⟩ := buildCandidates_cons.1 h
    exact List.forall_mem_cons.2 ⟨buildOne_gkey h1, ih h⟩

/-- a pass covers its groups and keeps what was covered: the `members` clause of its description -/
theorem buildCandidates_cover {wrap : Option Int} {kind : Kind} {t t' : Table} {gs : List (List Proto)}
    (h : buildCandidates wrap kind t gs = .ok t') (hn : (keys t.existing).Nodup) :
    (∀ g, g ∈ gs → ∀ p, p ∈ g → Covers t' p) ∧ (∀ p, Covers t p → Covers t' p) := by
  have d := buildCandidates_desc h hn
  refine ⟨fun g hg p hp => ?_, fun p hp => ?_⟩
  · obtain ⟨k, hk⟩ := buildCandidates_gkey h g hg
    exact covers_iff_memOf.2 ⟨k, (d.members k p).2 (Or.inr ⟨g, hg, hk, hp⟩)⟩
  · obtain ⟨k, hk⟩ := covers_iff_memOf.1 hp
    exact covers_iff_memOf.2 ⟨k, (d.members k p).2 (Or.inl hk)⟩

end ASV.CC
