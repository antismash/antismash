/-
  C05: the executable checks of Spec/Candidates.lean read as propositions; no two candidates with
  the same coordinates and the same members, from an invariant of the de-duplication table that holds
  whenever keys are stable under the unions the table performs (`KeyStable`; on a line the key is both
  ends of the hull, which determine it).
-/
import ASV.Proofs.Members
import ASV.Proofs.LocConnect
namespace ASV.CC
open ASV.CC.Spec ASV.Base

/-! ### the executable checks of Spec/Candidates.lean, read as propositions -/

theorem coversAll_iff {ps : List Proto} {cs : List Cand} :
    coversAll ps cs = true ↔ ∀ p, p ∈ ps → ∃ c, c ∈ cs ∧ p ∈ c.members := by
  simp only [coversAll, List.all_eq_true, List.any_eq_true, List.contains_eq_mem, decide_eq_true_eq]

theorem nodupB_iff {α : Type} [DecidableEq α] {l : List α} : nodupB l = true ↔ l.Nodup := by
  induction l with
  | nil => simp [nodupB]
  | cons x xs ih => simp [nodupB, ih]

theorem membersOK_iff {ps : List Proto} {cs : List Cand} :
    membersOK ps cs = true ↔ ∀ c, c ∈ cs → c.members ≠ [] ∧ (∀ m, m ∈ c.members → m ∈ ps) ∧ c.members.Nodup := by
  simp only [membersOK, List.all_eq_true, Bool.and_eq_true, nodupB_iff, List.contains_eq_mem, decide_eq_true_eq,
    Bool.not_eq_true', List.isEmpty_eq_false_iff, and_assoc, ne_eq]

theorem locationsOK_iff {wrap : Option Int} {cs : List Cand} :
    locationsOK wrap cs = true ↔ ∀ c, c ∈ cs →
      connect (c.members.map (·.loc)) wrap = .ok c.loc ∧ ∀ m, m ∈ c.members → locationContainsOther c.loc m.loc = true := by
  simp only [locationsOK, List.all_eq_true, Bool.and_eq_true]
  constructor
  · intro h c hc
    obtain ⟨h1, h2⟩ := h c hc
    refine ⟨?_, h2⟩
    split at h1
    · rename_i l hl
      have : l = c.loc := by simpa using h1
      rw [hl, this]
    · cases h1
  · intro h c hc
    obtain ⟨h1, h2⟩ := h c hc
    refine ⟨?_, h2⟩
    rw [h1]; simp

theorem sizesOK_iff {cs : List Cand} :
    sizesOK cs = true ↔ ∀ c, c ∈ cs → (c.kind = .single → c.members.length = 1) ∧ (c.kind ≠ .single → 2 ≤ c.members.length) := by
  simp only [sizesOK, List.all_eq_true]
  constructor
  · intro h c hc
    have := h c hc
    by_cases hk : c.kind = .single
    · simp only [hk, beq_self_eq_true, if_true] at this
      exact ⟨fun _ => by simpa using this, fun hne => absurd hk hne⟩
    · have hk' : (c.kind == Kind.single) = false := by simpa using hk
      simp only [hk', Bool.false_eq_true, if_false] at this
      exact ⟨fun e => absurd e hk, fun _ => by simpa using this⟩
  · intro h c hc
    obtain ⟨h1, h2⟩ := h c hc
    by_cases hk : c.kind = .single
    · simp only [hk, beq_self_eq_true, if_true]; simpa using h1 hk
    · have hk' : (c.kind == Kind.single) = false := by simpa using hk
      simp only [hk', Bool.false_eq_true, if_false]; simpa using h2 hk

/-- "same coordinates and same members" -/
def Dup (c d : Cand) : Prop := coords c.loc = coords d.loc ∧ sameMembers c.members d.members = true

theorem sameMembers_symm {a b : List Proto} (h : sameMembers a b = true) : sameMembers b a = true := by
  simp only [sameMembers, Bool.and_eq_true] at h ⊢
  exact ⟨h.2, h.1⟩

theorem noDuplicates_iff {cs : List Cand} : noDuplicates cs = true ↔ cs.Pairwise fun c d => ¬ Dup c d := by
  induction cs with
  | nil => simp [noDuplicates]
  | cons c cs ih =>
    simp only [noDuplicates, Bool.and_eq_true, List.all_eq_true, ih, List.pairwise_cons, Dup]
    constructor
    · rintro ⟨h1, h2⟩
      refine ⟨?_, h2⟩
      intro d hd hdup
      have := h1 d hd
      simp [hdup.1, hdup.2] at this
    · rintro ⟨h1, h2⟩
      refine ⟨?_, h2⟩
      intro d hd
      have := h1 d hd
      by_cases e1 : coords c.loc = coords d.loc
      · by_cases e2 : sameMembers c.members d.members = true
        · exact absurd ⟨e1, e2⟩ this
        · simp [e2]
      · simp [e1]

theorem noDuplicates_perm {l₁ l₂ : List Cand} (hp : l₁.Perm l₂) (h : noDuplicates l₁ = true) : noDuplicates l₂ = true := by
  rw [noDuplicates_iff] at h ⊢
  refine hp.pairwise h ?_
  intro x y hxy hd
  exact hxy ⟨hd.1.symm, sameMembers_symm hd.2⟩

/-- `_merge_sets` as it was before fix D16: one forward pass per set (negation witness only) -/
def singlePassMerge (groups : List (List Nat)) : List (List Nat) :=
  let rec go : Nat → List (List Nat) → List (List Nat)
    | 0, l => l
    | _, [] => []
    | n + 1, first :: rest =>
      if first.isEmpty then first :: go n rest
      else let p := absorbPass first rest; p.1 :: go n p.2.1
  (go groups.length groups).filter fun g => !g.isEmpty

/-- kinds and member ids of a result, for concrete examples -/
def summary (r : E (List Cand)) : Option (List (Kind × List Nat)) :=
  match r with
  | .ok cs => some (cs.map fun c => (c.kind, c.members.map (·.id)))
  | .error _ => none

/-! ### the two ends of a group -/

def lo (ms : List Proto) : Int := minList (ms.map (·.loc.start))
def hi (ms : List Proto) : Int := maxList (ms.map (·.loc.end))

/-- every protocluster's extent is a non-origin-spanning location (linear record) -/
def Linear (ps : List Proto) : Prop := ∀ p, p ∈ ps → p.loc.parts ≠ [] ∧ bridgesOrigin p.loc = false

theorem locKey_simple (p : Part) : locKey (.simple p) = (p.lo, p.hi) := by
  simp only [locKey, featStart, featEnd, Loc.parts, Loc.strand]
  by_cases h : (p.strand != Strand.rev) = true
  · simp [h]
  · simp [h]

theorem lo_le_of_sub {a b : List Proto} (ha : a ≠ []) (h : ∀ x, x ∈ a → x ∈ b) : lo b ≤ lo a := by
  have : lo a ∈ a.map (·.loc.start) := minList_mem (by simpa using ha)
  obtain ⟨x, hx, e⟩ := List.mem_map.1 this
  rw [← e]
  exact minList_le_of_mem (List.mem_map.2 ⟨x, h x hx, rfl⟩)

theorem hi_le_of_sub {a b : List Proto} (ha : a ≠ []) (h : ∀ x, x ∈ a → x ∈ b) : hi a ≤ hi b := by
  have : hi a ∈ a.map (·.loc.end) := maxList_mem (by simpa using ha)
  obtain ⟨x, hx, e⟩ := List.mem_map.1 this
  rw [← e]
  exact le_maxList_of_mem (List.mem_map.2 ⟨x, h x hx, rfl⟩)

/-- the hull of a union of two sets with the same two ends has those ends -/
theorem hull_union {a b r : List Proto} (ha : a ≠ []) (hlo : lo a = lo b) (hhi : hi a = hi b)
    (hsub : ∀ x, x ∈ a → x ∈ r) (hfrom : ∀ x, x ∈ r → x ∈ a ∨ x ∈ b) : lo r = lo a ∧ hi r = hi a := by
  have hr : r ≠ [] := by
    obtain ⟨x, hx⟩ := List.exists_mem_of_ne_nil a ha
    intro e; have := hsub x hx; rw [e] at this; cases this
  have h1 := lo_le_of_sub ha hsub
  have h2 := hi_le_of_sub ha hsub
  have h3 : lo a ≤ lo r := by
    have : lo r ∈ r.map (·.loc.start) := minList_mem (by simpa using hr)
    obtain ⟨x, hx, e⟩ := List.mem_map.1 this
    rw [← e]
    rcases hfrom x hx with h | h
    · exact minList_le_of_mem (List.mem_map.2 ⟨x, h, rfl⟩)
    · rw [hlo]; exact minList_le_of_mem (List.mem_map.2 ⟨x, h, rfl⟩)
  have h4 : hi r ≤ hi a := by
    have : hi r ∈ r.map (·.loc.end) := maxList_mem (by simpa using hr)
    obtain ⟨x, hx, e⟩ := List.mem_map.1 this
    rw [← e]
    rcases hfrom x hx with h | h
    · exact le_maxList_of_mem (List.mem_map.2 ⟨x, h, rfl⟩)
    · rw [hhi]; exact le_maxList_of_mem (List.mem_map.2 ⟨x, h, rfl⟩)
  omega

theorem lo_perm {a b : List Proto} (h : ∀ x, x ∈ a ↔ x ∈ b) (ha : a ≠ []) : lo a = lo b ∧ hi a = hi b := by
  have hb : b ≠ [] := by
    obtain ⟨x, hx⟩ := List.exists_mem_of_ne_nil a ha
    intro e; have := (h x).1 hx; rw [e] at this; cases this
  have := lo_le_of_sub ha (fun x hx => (h x).1 hx)
  have := lo_le_of_sub hb (fun x hx => (h x).2 hx)
  have := hi_le_of_sub ha (fun x hx => (h x).1 hx)
  have := hi_le_of_sub hb (fun x hx => (h x).2 hx)
  omega

/-! ### the table's keys, for any topology of the record -/

/-- a non-empty group of protoclusters of `ps` with its span -/
structure Span (wrap : Option Int) (ps ms : List Proto) (l : Loc) : Prop where
  ne : ms ≠ []
  sub : ∀ m, m ∈ ms → m ∈ ps
  eq : connect (ms.map (·.loc)) wrap = .ok l

theorem CandWF.span {wrap : Option Int} {ps : List Proto} {c : Cand} (h : CandWF wrap ps c) :
    Span wrap ps c.members c.loc := ⟨h.ok.nonempty, h.fromInput, h.ok.loc_eq⟩

/-- what the de-duplication table needs of the topology of the record: when two groups have spans with the
    same key, a group between the first and their union has that key too; and spans with the same
    coordinates have the same key -/
structure KeyStable (wrap : Option Int) (ps : List Proto) : Prop where
  union : ∀ {a b r : List Proto} {la lb lr : Loc}, Span wrap ps a la → Span wrap ps b lb → Span wrap ps r lr →
    locKey la = locKey lb → (∀ x, x ∈ a → x ∈ r) → (∀ x, x ∈ r → x ∈ a ∨ x ∈ b) → locKey lr = locKey la
  coords : ∀ {a b : List Proto} {la lb : Loc}, Span wrap ps a la → Span wrap ps b lb →
    coords la = coords lb → locKey la = locKey lb

/-- the invariant of the table behind "no duplicates": distinct keys, each the key of its candidate -/
def TableKeyed (t : Table) : Prop := (keys t.existing).Nodup ∧ ∀ e, e ∈ t.existing → e.1 = locKey e.2.loc

theorem tableKeyed_empty : TableKeyed ⟨[], []⟩ := ⟨List.nodup_nil, fun _ he => (nomatch he)⟩

/-- a step of `build_candidates` keeps the keys distinct and each the key of its candidate: a replacement
    spans a group between the candidate it replaces and the union with the group that caused it -/
theorem buildOne_key {wrap : Option Int} {ps : List Proto} (K : KeyStable wrap ps) {kind : Kind} {t t' : Table}
    {g : List Proto} (h : buildOne wrap kind t g = .ok t') (hgp : ∀ p, p ∈ g → p ∈ ps)
    (hwf : TableWF wrap ps t) (ht : TableKeyed t) : TableKeyed t' := by
  cases (buildOne_step h).2 with
  | @fresh cand hc hget =>
    have hnot := getGo_none hget
    refine ⟨?_, fun e he => ?_⟩
    · simp only [Table.set, keys_setGo, if_neg hnot]
      refine List.nodup_append.2 ⟨ht.1, by simp, ?_⟩
      intro x hx y hy e
      rw [← e, List.mem_singleton] at hy
      exact hnot (hy ▸ hx)
    · rcases mem_setGo_new he with e1 | e1
      · rw [e1]
      · exact ht.2 e e1
  | known => exact ht
  | @grown cand ex repl hc hget hex hr =>
    obtain ⟨_, hmem, hok⟩ := mkCand_ok hc
    obtain ⟨_, hrm, hrok⟩ := mkCand_ok hr
    have hexin := getGo_mem hget
    have hexwf : CandWF wrap ps ex := hwf.1 ex (mem_values.2 ⟨_, hexin⟩)
    have hrmem : ∀ m, m ∈ repl.members → m ∈ ex.members ∨ m ∈ cand.members := by
      intro m hm
      rw [hrm] at hm
      rcases List.mem_append.1 (mem_sortProtos.1 hm) with h1 | h1
      · exact Or.inl (mem_dedup.1 h1)
      · exact Or.inr (by rw [hmem]; exact mem_sortProtos.2 (mem_dedup.1 (mem_diffL.1 h1).1))
    have sc : Span wrap ps cand.members cand.loc :=
      ⟨hok.nonempty, fun m hm => hgp m (mem_sortProtos.1 (hmem ▸ hm)), hok.loc_eq⟩
    have sr : Span wrap ps repl.members repl.loc :=
      ⟨hrok.nonempty, fun m hm => (hrmem m hm).elim (hexwf.fromInput m) (sc.sub m), hrok.loc_eq⟩
    have hkx : locKey cand.loc = locKey ex.loc := ht.2 _ hexin
    have hkey : locKey repl.loc = locKey cand.loc := by
      rw [hkx]
      exact K.union hexwf.span sc sr hkx.symm
        (fun x hx => by rw [hrm]; exact mem_sortProtos.2 (List.mem_append.2 (Or.inl (mem_dedup.2 hx)))) hrmem
    have hkin : locKey cand.loc ∈ keys t.existing := List.mem_map.2 ⟨_, hexin, rfl⟩
    have hT : TableKeyed (t.set (locKey cand.loc) repl) := by
      refine ⟨?_, fun e he => ?_⟩
      · simp only [Table.set, keys_setGo, if_pos hkin]; exact ht.1
      · rcases mem_setGo_new he with e1 | e1
        · rw [e1]; exact hkey.symm
        · exact ht.2 e e1
    split
    · exact hT
    · exact hT

theorem reach_key {wrap : Option Int} {ps : List Proto} (K : KeyStable wrap ps) {t : Table} (h : Reach wrap ps t) :
    TableKeyed t := by
  induction h with
  | empty => exact tableKeyed_empty
  | step hr hk hg hgp hb ih => exact buildOne_key K hb hgp (reach_wf hr) ih

/-! ### no duplicates -/

theorem sameMembers_single {a : List Proto} {p : Proto} (h : sameMembers a [p] = true) : ∀ x, x ∈ a → x = p := by
  simp only [sameMembers, Bool.and_eq_true, List.all_eq_true] at h
  intro x hx
  simpa using h.1 x hx

theorem addSingles_pairwise {wrap : Option Int} {t : Table} {l : List Proto} {ss : List Cand}
    (h : addSingles wrap t l = .ok ss) (hn : l.Nodup) :
    ss.Pairwise fun c d => ¬ sameMembers c.members d.members = true :=
  mapM_ok_pairwise (addSingles_eq_ok.1 h) (hn.filter _) fun p q c d hpq hc hd hs => by
    rw [(mkCand_ok hc).2.1, (mkCand_ok hd).2.1] at hs
    exact hpq (sameMembers_single hs p List.mem_cons_self)

theorem coords_simple_key {a b : Part} (h : coords (.simple a) = coords (.simple b)) :
    locKey (.simple a) = locKey (.simple b) := by
  rw [locKey_simple, locKey_simple]
  simp only [coords, Loc.parts, List.map_cons, List.map_nil, List.cons.injEq, Prod.mk.injEq, and_true] at h
  rw [h.1, h.2]

/-- no two candidates of a run with the same coordinates and the same members, whatever the topology of
    the record, as long as keys are stable under the unions the table performs -/
theorem formation_noDuplicates_key {wrap : Option Int} {ps : List Proto} {cs : List Cand} (hn : ps.Nodup)
    (K : KeyStable wrap ps) (h : formation ps wrap = .ok cs) : noDuplicates cs = true := by
  obtain ⟨cs0, h0, e⟩ := formation_ok_core h
  subst e
  by_cases hne : ps = []
  · subst hne
    cases (show Except.ok [] = Except.ok cs0 from h0)
    rfl
  obtain ⟨t3, l, singles, hr, hln, _, hS, e⟩ := formationCore_struct h0 hn hne
  subst e
  have hwf := reach_wf hr
  have hkeyed := reach_key K hr
  refine noDuplicates_perm (perm_sortCands _).symm ?_
  refine noDuplicates_perm (List.Perm.append_right singles (perm_sortCands t3.values).symm) ?_
  rw [noDuplicates_iff, List.pairwise_append]
  refine ⟨?_, ?_, ?_⟩
  · -- table values: distinct keys
    simp only [Table.values, List.pairwise_map]
    have hk : t3.existing.Pairwise fun e f => e.1 ≠ f.1 := by
      have := hkeyed.1
      simpa [keys, List.Nodup, List.pairwise_map] using this
    refine hk.imp_of_mem ?_
    intro e f he hf hne hdup
    apply hne
    rw [hkeyed.2 e he, hkeyed.2 f hf]
    exact K.coords (hwf.1 e.2 (mem_values.2 ⟨e.1, he⟩)).span (hwf.1 f.2 (mem_values.2 ⟨f.1, hf⟩)).span hdup.1
  · exact (addSingles_pairwise hS hln).imp (fun hxy hd => hxy hd.2)
  · -- a table value has two members, a single one
    intro c hc d hd hdup
    have wc := hwf.1 c hc
    obtain ⟨_, _, p, _, e, _⟩ := addSingles_wf hS d hd
    have hs := hdup.2
    rw [e] at hs
    have hall := sameMembers_single hs
    obtain ⟨x, y, hx, hy, hxy⟩ := two_of_nodup wc.nodup wc.big
    exact hxy ((hall x hx).trans (hall y hy).symm)

/-! ### a line: the key is both ends of the hull -/

theorem Span.loc_line {ps ms : List Proto} {l : Loc} (hlin : Linear ps) (s : Span none ps ms l) :
    l = .simple ⟨lo ms, hi ms, commonStrand (ms.map (·.loc))⟩ := by
  have hline : ∀ x, x ∈ ms.map (·.loc) → x.parts ≠ [] ∧ bridgesOrigin x = false := by
    intro x hx
    obtain ⟨m, hm, e⟩ := List.mem_map.1 hx
    subst e
    exact hlin m (s.sub m hm)
  have := connect_line (ms.map (·.loc)) (by simpa using s.ne) hline
  rw [s.eq] at this
  injection this with this
  rw [this]
  simp [lo, hi, List.map_map, Function.comp_def]

theorem Span.key_line {ps ms : List Proto} {l : Loc} (hlin : Linear ps) (s : Span none ps ms l) :
    locKey l = (lo ms, hi ms) := by rw [s.loc_line hlin, locKey_simple]

theorem keyStable_line {ps : List Proto} (hlin : Linear ps) : KeyStable none ps where
  union := by
    intro a b r la lb lr sa sb sr hk hsub hfrom
    have hab := (sa.key_line hlin).symm.trans (hk.trans (sb.key_line hlin))
    have hu := hull_union sa.ne (congrArg Prod.fst hab) (congrArg Prod.snd hab) hsub hfrom
    rw [sr.key_line hlin, sa.key_line hlin, hu.1, hu.2]
  coords := by
    intro a b la lb sa sb h
    rw [sa.loc_line hlin, sb.loc_line hlin] at h ⊢
    exact coords_simple_key h

end ASV.CC
