/-
  C16, record level: what one call of `fix_record_name_id` guarantees (`FixPost`), and the
  invariants of the two loops of `pre_process_sequences` (`dupPass` = rename on second occurrence,
  `fixAll` = `fix_record_name_id` per record).  A call fails only through the length limit of
  `generate_unique_id`, which is set only when long headers are not allowed.
-/
import ASV.Proofs.Ids
namespace ASV.Ids
open ASV.Generated.Ids

/-- how a step may change (id, set): not at all, or to an id that was not in the set, which is
    then added -/
def Moves (taken : List Str) (id : Str) (taken' : List Str) (id' : Str) : Prop :=
  (id' = id ∧ taken' = taken) ∨ (id' ∉ taken ∧ ∀ y, y ∈ taken' ↔ y = id' ∨ y ∈ taken)

theorem Moves.fresh {taken id id'} (h : id' ∉ taken) : Moves taken id (setAdd id' taken) id' :=
  Or.inr ⟨h, fun _ => mem_setAdd⟩

theorem Moves.sub {taken id taken' id'} (h : Moves taken id taken' id') : ∀ y ∈ taken, y ∈ taken' := by
  rcases h with ⟨_, rfl⟩ | ⟨_, h⟩
  · exact fun _ h => h
  · exact fun y hy => (h y).mpr (Or.inr hy)

theorem Moves.mem {taken id taken' id'} (h : Moves taken id taken' id') (hid : id ∈ taken) : id' ∈ taken' := by
  rcases h with ⟨rfl, rfl⟩ | ⟨_, h⟩
  · exact hid
  · exact (h id').mpr (Or.inl rfl)

/-- after two steps the id is the first one or was not in the first set (two real moves do not
    compose to a `Moves`: the set has then grown by two ids) -/
theorem Moves.fresh_of_two {t0 i0 t1 i1 t2 i2} (h1 : Moves t0 i0 t1 i1) (h2 : Moves t1 i1 t2 i2) :
    i2 = i0 ∨ i2 ∉ t0 := by
  rcases h2 with ⟨rfl, rfl⟩ | ⟨hn, _⟩
  · rcases h1 with ⟨rfl, _⟩ | ⟨hn, _⟩
    · exact Or.inl rfl
    · exact Or.inr hn
  · exact Or.inr fun hm => hn (h1.sub _ hm)

theorem uniqueFallback_outcome {taken : List Str} {pre : Str} {m : Int} {res : Except Err (Str × List Str)}
    (h : uniqueFallback taken pre m = res) :
    match res with
    | .ok (n, t) => n ∉ taken ∧ t = setAdd n taken ∧ (∃ k, n = mkName pre k) ∧ (0 < m → (n.length : Int) ≤ m)
    | .error e => e = .runtime ∧ 0 < m := by
  unfold uniqueFallback at h
  split at h
  · rename_i e hg
    subst h
    exact ⟨(generateUniqueId_outcome hg).1, (generateUniqueId_outcome hg).2.1⟩
  · rename_i n k hg
    subst h
    have := generateUniqueId_ok hg
    exact ⟨this.2.1, rfl, ⟨k, this.1⟩, this.2.2⟩

theorem shortenStep_outcome {al : Bool} {taken : List Str} {r : Rec} {res : Except Err (Str × List Str)}
    (h : shortenStep al taken r = res) :
    match res with
    | .ok (id1, t1) => Moves taken r.id t1 id1 ∧ (al = false → id1.length ≤ 16) ∧ (r.id = [] → id1 = [])
    | .error e => e = .runtime ∧ al = false := by
  unfold shortenStep at h
  by_cases hlong : (decide (r.id.length > 16) && !al) = true
  · rw [if_pos hlong] at h
    rw [Bool.and_eq_true, Bool.not_eq_true'] at hlong
    have hnn : r.id ≠ [] := fun hnil => absurd hlong.1 (by rw [hnil]; decide)
    by_cases hc : refseqOk taken r.id = true
    · rw [if_pos hc] at h
      subst h
      unfold refseqOk at hc
      simp only [Bool.and_eq_true, decide_eq_true_eq, Bool.not_eq_true'] at hc
      exact ⟨Moves.fresh fun hm => Bool.false_ne_true (hc.2.symm.trans (contains_iff.mpr hm)), fun _ => hc.1.2,
        fun hnil => absurd hnil hnn⟩
    · rw [if_neg hc] at h
      by_cases hs : (!taken.contains (shortenIds r.index r.id)) = true
      · rw [if_pos hs] at h
        subst h
        refine ⟨Moves.fresh fun hm => ?_, fun _ => shortenIds_length _ _, fun hnil => absurd hnil hnn⟩
        rw [contains_iff.mpr hm] at hs
        exact Bool.false_ne_true hs
      · rw [if_neg hs] at h
        have u := uniqueFallback_outcome h
        cases res with
        | error e => exact ⟨u.1, hlong.2⟩
        | ok v =>
          obtain ⟨hn, ht, _, hl⟩ := u
          refine ⟨ht ▸ Moves.fresh hn, fun _ => ?_, fun hnil => absurd hnil hnn⟩
          have := hl (by decide)
          omega
  · rw [if_neg hlong] at h
    subst h
    refine ⟨Or.inl ⟨rfl, rfl⟩, fun hal => ?_, id⟩
    subst hal
    simp only [Bool.not_false, Bool.and_true, decide_eq_true_eq] at hlong
    omega

theorem stripStep_outcome {al : Bool} {t1 : List Str} {id1 : Str} {res : Except Err (Str × List Str)}
    (h : stripStep al t1 id1 = res) :
    match res with
    | .ok (id2, t2) => Moves t1 id1 t2 id2 ∧ Clean id2 ∧ (al = false → id1.length ≤ 16 → id2.length ≤ 16) ∧
        (id1 = [] → id2 = [])
    | .error e => e = .runtime ∧ al = false := by
  unfold stripStep at h
  by_cases hne : (strip id1 != id1) = true
  · rw [if_pos hne] at h
    have hnn : id1 ≠ [] := fun hnil => bne_iff_ne.mp hne (by rw [hnil]; rfl)
    by_cases hs : t1.contains (strip id1) = true
    · rw [if_pos hs] at h
      cases al with
      | true =>
        rw [if_pos rfl] at h
        have u := uniqueFallback_outcome h
        cases res with
        | error e => exact absurd u.2 (by decide)
        | ok v =>
          obtain ⟨hn, ht, ⟨k, hk⟩, _⟩ := u
          exact ⟨ht ▸ Moves.fresh hn, hk ▸ mkName_clean (strip_clean _) _, fun hal => Bool.noConfusion hal,
            fun hnil => absurd hnil hnn⟩
      | false =>
        rw [if_neg Bool.false_ne_true] at h
        have u := uniqueFallback_outcome h
        cases res with
        | error e => exact ⟨u.1, rfl⟩
        | ok v =>
          obtain ⟨hn, ht, ⟨k, hk⟩, hl⟩ := u
          refine ⟨ht ▸ Moves.fresh hn, hk ▸ mkName_clean ((strip_clean _).take _) _, fun _ _ => ?_,
            fun hnil => absurd hnil hnn⟩
          have := hl (by decide)
          omega
    · rw [if_neg hs] at h
      subst h
      exact ⟨Moves.fresh fun hm => hs (contains_iff.mpr hm), strip_clean _,
        fun _ hl => Nat.le_trans (strip_length_le id1) hl, fun hnil => absurd hnil hnn⟩
  · rw [if_neg hne] at h
    subst h
    have : strip id1 = id1 := Decidable.of_not_not fun hn => hne (bne_iff_ne.mpr hn)
    exact ⟨Or.inl ⟨rfl, rfl⟩, strip_eq_self.mp this, fun _ h => h, id⟩

/-- what one successful `fix_record_name_id` guarantees -/
structure FixPost (al : Bool) (taken : List Str) (r r' : Rec) (t' : List Str) : Prop where
  sub : ∀ y ∈ taken, y ∈ t'
  mem : r.id ∈ taken → r'.id ∈ t'
  fresh : r'.id = r.id ∨ r'.id ∉ taken
  cleanId : Clean r'.id
  cleanName : Clean r'.name
  shortId : al = false → r'.id.length ≤ 16
  shortName : al = false → r'.name.length ≤ 16
  orig : r'.orig = fixOrig r r'.id
  index : r'.index = r.index
  acc : ∀ a, r'.acc = some a → a.length ≤ 16
  /-- a record without id keeps its empty id (so the final check rejects the input): the empty id is not longer than 16
      and `strip [] = []`, so both blocks return it as it is -/
  nil : r.id = [] → r'.id = []

theorem fixName_clean (al : Bool) (r : Rec) : Clean (fixName al r) := strip_clean _

theorem fixName_short (r : Rec) : (fixName false r).length ≤ 16 := by
  unfold fixName
  refine Nat.le_trans (strip_length_le _) ?_
  split
  · exact shortenIds_length _ _
  · rename_i h
    simp only [Bool.not_false, Bool.and_true, decide_eq_true_eq] at h
    omega

theorem fixAcc_short (r : Rec) (a : Str) (h : fixAcc r = some a) : a.length ≤ 16 := by
  unfold fixAcc at h
  split at h
  · split at h
    · simp only [Option.some.injEq] at h
      exact h ▸ shortenIds_length _ _
    · rename_i hl
      simp only [Option.some.injEq] at h
      subst h
      omega
  · simp at h

theorem fixRecordNameId_outcome {al : Bool} {taken : List Str} {r : Rec} {res : Except Err (Rec × List Str)}
    (h : fixRecordNameId al taken r = res) :
    match res with
    | .ok (r', t') => FixPost al taken r r' t'
    | .error e => e = .runtime ∧ al = false := by
  unfold fixRecordNameId at h
  split at h
  · rename_i e h1
    subst h
    exact shortenStep_outcome h1
  · rename_i id1 t1 h1
    split at h
    · rename_i e h2
      subst h
      exact stripStep_outcome h2
    · rename_i id2 t2 h2
      subst h
      have s1 := shortenStep_outcome h1
      have s2 := stripStep_outcome h2
      exact {
        sub := fun y hy => s2.1.sub _ (s1.1.sub _ hy)
        mem := fun hid => s2.1.mem (s1.1.mem hid)
        fresh := Moves.fresh_of_two s1.1 s2.1
        cleanId := s2.2.1
        cleanName := fixName_clean _ _
        shortId := fun hal => s2.2.2.1 hal (s1.2.1 hal)
        shortName := fun hal => hal ▸ fixName_short r
        orig := rfl
        index := rfl
        acc := fun a ha => fixAcc_short r a ha
        nil := fun hid => s2.2.2.2 (s1.2.2 hid) }

/-- distinctness is preserved: every id is either unchanged or new with respect to the set, and
    the set contains every id still to come -/
theorem fixAll_distinct {al : Bool} {rs : List Rec} {taken : List Str} {out : List Rec}
    (h : fixAll al taken rs = .ok out) (hmem : ∀ r ∈ rs, r.id ∈ taken) (hnd : (rs.map (·.id)).Nodup) :
    (out.map (·.id)).Nodup ∧ ∀ o ∈ out, o.id ∈ rs.map (·.id) ∨ o.id ∉ taken := by
  induction rs generalizing taken out with
  | nil =>
    obtain rfl := Except.ok.inj h
    exact ⟨List.nodup_nil, fun _ ho => nomatch ho⟩
  | cons r rs ih =>
    unfold fixAll at h
    split at h
    · exact nomatch h
    rename_i r' t' h1
    split at h
    · exact nomatch h
    rename_i out' h2
    obtain rfl := Except.ok.inj h
    have p : FixPost _ _ _ _ _ := fixRecordNameId_outcome h1
    have hmem' : ∀ x ∈ rs, x.id ∈ t' := fun x hx => p.sub _ (hmem x (List.mem_cons_of_mem _ hx))
    rw [List.map_cons, List.nodup_cons] at hnd
    obtain ⟨ih1, ih2⟩ := ih h2 hmem' hnd.2
    refine ⟨?_, ?_⟩
    · rw [List.map_cons, List.nodup_cons]
      refine ⟨fun hin => ?_, ih1⟩
      obtain ⟨o, ho, hoid⟩ := List.mem_map.mp hin
      rcases ih2 o ho with hrs | hnt
      · rcases p.fresh with heq | hfresh
        · exact hnd.1 (heq ▸ hoid ▸ hrs)
        · obtain ⟨x, hx, hxid⟩ := List.mem_map.mp hrs
          exact hfresh (hoid ▸ hxid ▸ hmem x (List.mem_cons_of_mem _ hx))
      · exact hnt (hoid ▸ p.mem (hmem r List.mem_cons_self))
    · intro o ho
      rcases List.mem_cons.mp ho with rfl | ho
      · refine p.fresh.imp (fun heq => ?_) id
        rw [heq, List.map_cons]
        exact List.mem_cons_self
      · exact (ih2 o ho).imp (List.mem_cons_of_mem _) fun hnt hm => hnt (p.sub _ hm)

theorem fixAll_outcome {al : Bool} {rs : List Rec} {taken : List Str} {res : Except Err (List Rec)}
    (h : fixAll al taken rs = res) :
    match res with
    | .ok out => List.Forall₂ (fun r r' => ∃ t t', (∀ y ∈ taken, y ∈ t) ∧ FixPost al t r r' t') rs out
    | .error e => e = .runtime ∧ al = false := by
  induction rs generalizing taken res with
  | nil =>
    subst h
    exact .nil
  | cons r rs ih =>
    unfold fixAll at h
    split at h
    · rename_i e h1
      subst h
      exact fixRecordNameId_outcome h1
    · rename_i r' t' h1
      have p : FixPost _ _ _ _ _ := fixRecordNameId_outcome h1
      split at h
      · rename_i e h2
        subst h
        exact ih h2
      · rename_i out h2
        subst h
        refine .cons ⟨taken, t', fun _ h => h, p⟩ ((ih h2).imp ?_)
        rintro a b ⟨t, t'', hsub, hp⟩
        exact ⟨t, t'', fun y hy => hsub y (p.sub y hy), hp⟩

theorem fixAll_keeps_nil {al : Bool} {rs : List Rec} {taken : List Str} {out : List Rec}
    (h : fixAll al taken rs = .ok out) (hx : ∃ r ∈ rs, r.id = []) : ∃ o ∈ out, o.id = [] := by
  obtain ⟨x, hx, hxid⟩ := hx
  obtain ⟨o, ho, _, _, _, p⟩ := List.Forall₂.mem_left (fixAll_outcome h) x hx
  exact ⟨o, ho, p.nil hxid⟩

/-- what the duplicate pass does to one record: nothing, or a rename that remembers the old id
    (which some earlier record still carries, so it is in the final set) -/
def DupRel (t : List Str) (r o : Rec) : Prop :=
  o = r ∨ (o.id ≠ r.id ∧ o.orig = some r.id ∧ o.name = r.name ∧ o.index = r.index ∧ r.id ∈ t)

/-- what the duplicate pass over `rs`, started with the set `taken`, guarantees for its output
    records and final set -/
structure DupPost (taken : List Str) (rs out : List Rec) (t : List Str) : Prop where
  distinct : (out.map (·.id)).Nodup
  fresh : ∀ o ∈ out, o.id ∉ taken
  mem : ∀ y, y ∈ t ↔ y ∈ taken ∨ y ∈ out.map (·.id)
  length : t.length = taken.length + rs.length
  rel : List.Forall₂ (DupRel t) rs out

/-- one turn of the loop, whichever branch: the record leaves under an id `n` that was not in the set -/
theorem DupPost.cons {taken : List Str} {r o : Rec} {rs out : List Rec} {t : List Str} {n : Str}
    (ih : DupPost (setAdd n taken) rs out t) (hn : n ∉ taken) (ho : o.id = n) (hrel : DupRel t r o) :
    DupPost taken (r :: rs) (o :: out) t where
  distinct := by
    rw [List.map_cons, List.nodup_cons, ho]
    refine ⟨fun hm => ?_, ih.distinct⟩
    obtain ⟨o', ho', e⟩ := List.mem_map.mp hm
    exact ih.fresh o' ho' (e ▸ mem_setAdd.mpr (Or.inl rfl))
  fresh := fun o' ho' => by
    rcases List.mem_cons.mp ho' with rfl | ho'
    · exact ho ▸ hn
    · exact fun hm => ih.fresh o' ho' (mem_setAdd.mpr (Or.inr hm))
  mem := fun y => by
    rw [ih.mem y, mem_setAdd, List.map_cons, List.mem_cons, ho]
    exact or_assoc.trans or_left_comm
  length := by
    rw [ih.length, setAdd_length_of_not_mem hn, List.length_cons]
    omega
  rel := .cons hrel ih.rel

theorem dupPass_ok (rs : List Rec) (taken : List Str) :
    ∃ out t, dupPass rs taken = .ok (out, t) ∧ DupPost taken rs out t := by
  induction rs generalizing taken with
  | nil => exact ⟨[], taken, rfl, List.nodup_nil, fun _ ho => (nomatch ho), fun y => by simp, rfl, .nil⟩
  | cons r rs ih =>
    unfold dupPass
    by_cases hin : taken.contains r.id = true
    · obtain ⟨n, k, hg⟩ := generateUniqueId_total (pre := r.id) (taken := taken) (start := 0) (maxLength := -1) (by decide)
      have hn := (generateUniqueId_ok hg).2.1
      obtain ⟨out, t, h2, p⟩ := ih (setAdd n taken)
      simp only [if_pos hin, hg, h2]
      refine ⟨_, _, rfl, p.cons hn rfl (Or.inr ⟨fun heq => hn ?_, rfl, rfl, rfl, ?_⟩)⟩
      · simp only at heq
        exact heq ▸ contains_iff.mp hin
      · exact (p.mem _).mpr (Or.inl (mem_setAdd.mpr (Or.inr (contains_iff.mp hin))))
    · obtain ⟨out, t, h2, p⟩ := ih (setAdd r.id taken)
      simp only [if_neg hin, h2]
      exact ⟨_, _, rfl, p.cons (fun hm => hin (contains_iff.mpr hm)) rfl (Or.inl rfl)⟩

/-- the first record without id is not renamed: the empty id is in the final set, and it was not
    in the set at the start -/
theorem DupPost.keeps_nil {taken : List Str} {rs out : List Rec} {t : List Str} (p : DupPost taken rs out t)
    (hnil : [] ∉ taken) (hx : ∃ r ∈ rs, r.id = []) : ∃ o ∈ out, o.id = [] := by
  obtain ⟨x, hx, hxid⟩ := hx
  obtain ⟨o, ho, hrel⟩ := List.Forall₂.mem_left p.rel x hx
  rcases hrel with rfl | ⟨_, _, _, _, hm⟩
  · exact ⟨o, ho, hxid⟩
  · rcases (p.mem _).mp (hxid ▸ hm) with hm | hm
    · exact absurd hm hnil
    · obtain ⟨o', ho', e⟩ := List.mem_map.mp hm
      exact ⟨o', ho', e⟩

end ASV.Ids
