/-
  `shortestArc L (canon ps)` — the record length minus the largest gap between consecutive canonical intervals going
  round the ring — is the length of the shortest well-formed span covering `ps`, and `connect_locations` on a ring
  returns a span of that length whenever it is less than half the record (C04).
-/
import ASV.Proofs.LocConnectRingPerm
import ASV.Proofs.CanonIvs
namespace ASV

theorem go_single (L : Int) (f x : Iv) : ringGaps.go L f [x] = [f.1 + L - x.2] := by simp [ringGaps.go]
theorem go_cons (L : Int) (f x y : Iv) (r : List Iv) :
    ringGaps.go L f (x :: y :: r) = (y.1 - x.2) :: ringGaps.go L f (y :: r) := by simp [ringGaps.go]

/-- the gap over the origin is one of the gaps -/
theorem go_origin_gap (L : Int) (f x : Iv) (rest : List Iv) :
    ∃ z ∈ x :: rest, (f.1 + L - z.2) ∈ ringGaps.go L f (x :: rest) := by
  induction rest generalizing x with
  | nil => exact ⟨x, by simp, by simp [go_single]⟩
  | cons y r ih =>
    obtain ⟨z, hz, hg⟩ := ih y
    exact ⟨z, List.mem_cons_of_mem _ hz, by rw [go_cons]; exact List.mem_cons_of_mem _ hg⟩

/-- when every interval lies in `[0, b)` or in `[a, L)` with `b < a`, some gap is at least `a - b` -/
theorem go_gap_ge (L a b : Int) (f : Iv) (hf0 : 0 ≤ f.1) (hb0 : 0 ≤ b) (haL : a ≤ L)
    (x : Iv) (rest : List Iv) (hsep : IvSep (x :: rest))
    (hin : ∀ z ∈ x :: rest, z.1 < z.2 ∧ z.2 ≤ L)
    (hside : ∀ z ∈ x :: rest, z.2 ≤ b ∨ a ≤ z.1)
    (hx : x.2 ≤ b ∨ (a ≤ x.1 ∧ a ≤ f.1)) :
    ∃ g ∈ ringGaps.go L f (x :: rest), a - b ≤ g := by
  induction rest generalizing x with
  | nil =>
    refine ⟨f.1 + L - x.2, by simp [go_single], ?_⟩
    have := hin x (by simp)
    rcases hx with h | ⟨h1, h2⟩ <;> omega
  | cons y r ih =>
    have hs := List.pairwise_cons.1 hsep
    have hxy : x.2 < y.1 := hs.1 y (by simp)
    have hxin := hin x (by simp)
    have hyin := hin y (by simp)
    rw [go_cons]
    rcases hx with hlow | ⟨hhigh, hfh⟩
    · rcases hside y (by simp) with hy | hy
      · obtain ⟨g, hg, hge⟩ := ih y hs.2 (fun z hz => hin z (List.mem_cons_of_mem _ hz))
          (fun z hz => hside z (List.mem_cons_of_mem _ hz)) (Or.inl hy)
        exact ⟨g, List.mem_cons_of_mem _ hg, hge⟩
      · exact ⟨y.1 - x.2, by simp, by omega⟩
    · have hy : a ≤ y.1 := by omega
      obtain ⟨g, hg, hge⟩ := ih y hs.2 (fun z hz => hin z (List.mem_cons_of_mem _ hz))
        (fun z hz => hside z (List.mem_cons_of_mem _ hz)) (Or.inr ⟨hy, hfh⟩)
      exact ⟨g, List.mem_cons_of_mem _ hg, hge⟩

/-- where a gap comes from: the origin gap behind the last interval, or two consecutive intervals -/
theorem go_mem (L : Int) (f x : Iv) (rest : List Iv) (hsep : IvSep (x :: rest))
    (hne : ∀ z ∈ x :: rest, z.1 < z.2) (g : Int) (hg : g ∈ ringGaps.go L f (x :: rest)) :
    (∃ z ∈ x :: rest, g = f.1 + L - z.2 ∧ ∀ z' ∈ x :: rest, z'.2 ≤ z.2) ∨
    (∃ l1 u v l2, x :: rest = l1 ++ u :: v :: l2 ∧ g = v.1 - u.2) := by
  induction rest generalizing x with
  | nil =>
    simp only [go_single, List.mem_singleton] at hg
    exact Or.inl ⟨x, by simp, hg, by simp⟩
  | cons y r ih =>
    have hs := List.pairwise_cons.1 hsep
    rw [go_cons] at hg
    rcases List.mem_cons.1 hg with rfl | hg
    · exact Or.inr ⟨[], x, y, r, rfl, rfl⟩
    · rcases ih y hs.2 (fun z hz => hne z (List.mem_cons_of_mem _ hz)) hg with ⟨z, hz, e, hmax⟩ | ⟨l1, u, v, l2, e, eg⟩
      · refine Or.inl ⟨z, List.mem_cons_of_mem _ hz, e, ?_⟩
        intro z' hz'
        rcases List.mem_cons.1 hz' with rfl | hz'
        · have h1 : z'.2 < y.1 := hs.1 y (by simp)
          have h2 := hne y (by simp)
          have h3 := hmax y (by simp)
          omega
        · exact hmax z' hz'
      · exact Or.inr ⟨x :: l1, u, v, l2, by rw [e]; rfl, eg⟩

/-- for every gap there is a well-formed span that covers all intervals and leaves out that gap -/
theorem span_of_gap (L : Int) (hL : 0 < L) (c : List Iv) (hsep : IvSep c)
    (hin : ∀ z ∈ c, 0 ≤ z.1 ∧ z.1 < z.2 ∧ z.2 ≤ L) (g : Int) (hg : g ∈ ringGaps L c) :
    ∃ w : Loc, areaWF L L w = true ∧ w.len = L - g ∧ ∀ z ∈ c, ∀ i, z.1 ≤ i → i < z.2 → w.mem i = true := by
  cases c with
  | nil => simp [ringGaps] at hg
  | cons f rest =>
    have hg' : g ∈ ringGaps.go L f (f :: rest) := hg
    have hs := List.pairwise_cons.1 hsep
    rcases go_mem L f f rest hsep (fun z hz => (hin z hz).2.1) g hg' with ⟨z, hz, e, hmax⟩ | ⟨l1, u, v, l2, e, eg⟩
    · have hfin := hin f (by simp)
      have hzin := hin z hz
      have hfz := hmax f (by simp)
      refine ⟨.simple ⟨f.1, z.2, .fwd⟩, ?_, ?_, ?_⟩
      · simp only [areaWF, Loc.parts, Bool.and_eq_true, decide_eq_true_eq]; omega
      · simp [Loc.len, Loc.parts, Part.len]; omega
      · intro z' hz' i h1 h2
        have hle := hmax z' hz'
        have hfz' : f.1 ≤ z'.1 := by
          rcases List.mem_cons.1 hz' with rfl | h
          · exact Int.le_refl _
          · have := hs.1 z' h; omega
        rw [mem_simple]; dsimp only; omega
    · have hsep' := hsep
      rw [e] at hsep'
      have hpa := List.pairwise_append.1 hsep'
      have hu := List.pairwise_cons.1 hpa.2.1
      have hv := List.pairwise_cons.1 hu.2
      have huin := hin u (by rw [e]; simp)
      have hvin := hin v (by rw [e]; simp)
      have huv : u.2 < v.1 := hu.1 v (by simp)
      refine ⟨.compound [⟨v.1, L, .fwd⟩, ⟨0, u.2, .fwd⟩], ?_, ?_, ?_⟩
      · have hL0 : L ≠ 0 := by omega
        simp [areaWF, Loc.parts, hL0]; omega
      · simp [Loc.len, Loc.parts, Part.len]; omega
      · intro z' hz' i h1 h2
        have hz'in := hin z' hz'
        rw [e] at hz'
        rw [mem_two]; dsimp only
        rcases List.mem_append.1 hz' with h | h
        · have := hpa.2.2 z' h u (by simp); right; omega
        · rcases List.mem_cons.1 h with rfl | h
          · right; omega
          · rcases List.mem_cons.1 h with rfl | h
            · left; omega
            · have := hv.1 z' h; left; omega

/-- a well-formed span that covers all intervals leaves out at most one gap's worth of bases -/
theorem gap_of_span (L : Int) (c : List Iv) (hc : c ≠ []) (hsep : IvSep c)
    (hin : ∀ z ∈ c, 0 ≤ z.1 ∧ z.1 < z.2 ∧ z.2 ≤ L) (w : Loc) (hwf : areaWF L L w = true)
    (hcov : ∀ z ∈ c, ∀ i, z.1 ≤ i → i < z.2 → w.mem i = true) :
    ∃ g ∈ ringGaps L c, L - w.len ≤ g := by
  cases c with
  | nil => exact absurd rfl hc
  | cons f rest =>
    show ∃ g ∈ ringGaps.go L f (f :: rest), L - w.len ≤ g
    have hfin := hin f (by simp)
    obtain ⟨zo, hzo, hgo⟩ := go_origin_gap L f f rest
    have hzoin := hin zo hzo
    rcases areaWF_cases hwf with ⟨p, hp, _, _, _⟩ | ⟨p, q, hp, _, _, _, _, _, _, _⟩
    · have hm : ∀ i, w.mem i = true ↔ (p.lo ≤ i ∧ i < p.hi) := by intro i; simp [Loc.mem, hp, Part.mem_iff]
      have h1 := (hm _).1 (hcov f (by simp) f.1 (by omega) (by omega))
      have h2 := (hm _).1 (hcov zo hzo (zo.2 - 1) (by omega) (by omega))
      have hl : w.len = p.hi - p.lo := by simp [Loc.len, hp, Part.len]
      exact ⟨_, hgo, by omega⟩
    · have hm : ∀ i, w.mem i = true ↔ ((p.lo ≤ i ∧ i < p.hi) ∨ (q.lo ≤ i ∧ i < q.hi)) := by
        intro i; simp [Loc.mem, hp, Part.mem_iff]
      have hl : w.len = (p.hi - p.lo) + (q.hi - q.lo) := by simp [Loc.len, hp, Part.len]
      by_cases hfull : q.hi = p.lo
      · exact ⟨_, hgo, by omega⟩
      · have hside : ∀ z ∈ f :: rest, z.2 ≤ q.hi ∨ p.lo ≤ z.1 := by
          intro z hz
          have hzin := hin z hz
          have m1 := (hm _).1 (hcov z hz z.1 (by omega) (by omega))
          have m2 := (hm _).1 (hcov z hz (z.2 - 1) (by omega) (by omega))
          by_cases hx : z.1 < q.hi ∧ p.lo ≤ z.2 - 1
          · have m3 := (hm _).1 (hcov z hz q.hi (by omega) (by omega))
            omega
          · omega
        obtain ⟨g, hg, hge⟩ := go_gap_ge L p.lo q.hi f hfin.1 (by omega) (by omega) f rest hsep
          (fun z hz => (hin z hz).2) hside (by
            rcases hside f (by simp) with h | h
            · exact Or.inl h
            · exact Or.inr ⟨h, h⟩)
        exact ⟨g, hg, by omega⟩

/-- a well-formed span `r` that covers the parts `ps` and is not longer than any covering span
    shorter than half the record has exactly the length `shortestArc L (canon ps)` whenever that is
    less than half the record -/
theorem len_eq_shortestArc (ps : List Part) (L : Int) (hL : 0 < L) (hne : ps ≠ [])
    (hps : ∀ p ∈ ps, 0 ≤ p.lo ∧ p.lo < p.hi ∧ p.hi ≤ L)
    (r : Loc) (hwf : areaWF L L r = true) (hcov : ∀ p ∈ ps, ∀ i, p.mem i = true → r.mem i = true)
    (hmin : ∀ c : Loc, areaWF L L c = true → 2 * c.len < L → (∀ p ∈ ps, ∀ i, p.mem i = true → c.mem i = true) →
      r.len ≤ c.len)
    (hshort : 2 * shortestArc L (canon ps) < L) : r.len = shortestArc L (canon ps) := by
  obtain ⟨hsep, hnonempty, hmem⟩ := canon_spec ps
  have hin : ∀ z ∈ canon ps, 0 ≤ z.1 ∧ z.1 < z.2 ∧ z.2 ≤ L := by
    intro z hz
    have hz1 := hnonempty z hz
    obtain ⟨p1, hp1, m1⟩ := (hmem z.1).1 ((ivsMem_iff _ _).2 ⟨z, hz, by omega, by omega⟩)
    obtain ⟨p2, hp2, m2⟩ := (hmem (z.2 - 1)).1 ((ivsMem_iff _ _).2 ⟨z, hz, by omega, by omega⟩)
    rw [Part.mem_iff] at m1 m2
    have := hps p1 hp1
    have := hps p2 hp2
    omega
  have hc : canon ps ≠ [] := by
    obtain ⟨p, hp⟩ := List.exists_mem_of_ne_nil _ hne
    have hb := hps p hp
    have := (hmem p.lo).2 ⟨p, hp, by rw [Part.mem_iff]; omega⟩
    intro e; rw [e] at this; simp [ivsMem] at this
  have hcovc : ∀ z ∈ canon ps, ∀ i, z.1 ≤ i → i < z.2 → r.mem i = true := by
    intro z hz i h1 h2
    obtain ⟨p, hp, m⟩ := (hmem i).1 ((ivsMem_iff _ _).2 ⟨z, hz, h1, h2⟩)
    exact hcov p hp i m
  have hgne : ringGaps L (canon ps) ≠ [] := by
    obtain ⟨g, hg, _⟩ := gap_of_span L _ hc hsep hin r hwf hcovc
    exact List.ne_nil_of_mem hg
  -- upper bound: the span that leaves out the largest gap
  obtain ⟨w, hwwf, hwlen, hwcov⟩ := span_of_gap L hL _ hsep hin _ (maxList_mem hgne)
  have hle : r.len ≤ w.len := by
    apply hmin w hwwf
    · rw [hwlen]; exact hshort
    · intro p hp i hi
      obtain ⟨z, hz, h1, h2⟩ := (ivsMem_iff _ _).1 ((hmem i).2 ⟨p, hp, hi⟩)
      exact hwcov z hz i h1 h2
  -- lower bound
  obtain ⟨g, hg, hge⟩ := gap_of_span L _ hc hsep hin r hwf hcovc
  have := le_maxList_of_mem hg
  unfold shortestArc
  omega

/-! ### the length of the connected span -/

theorem strict_parts_ok {L : Int} {l : Loc} (h : RingInStrict L l) :
    ∀ p ∈ l.parts, 0 ≤ p.lo ∧ p.lo < p.hi ∧ p.hi ≤ L :=
  h.ringIn.2.1

theorem strict_parts_ne {L : Int} {l : Loc} (h : RingInStrict L l) : l.parts ≠ [] := by
  rcases h with ⟨p, hp, _⟩ | ⟨x, y, s, _, rfl, _⟩ | ⟨x, y, rfl, _⟩
  · rw [hp]; simp
  · simp [areaTwo, Loc.parts]
  · simp [areaTwoRev, Loc.parts]

/-- the closed form has the length `shortestArc L (canon ps)` for any list of parts `ps` with the same
    bases as the reduced locations, whenever that is less than half the record -/
theorem connR_len_shortestArc (rs : List RLoc) (L : Int) (hL : 0 < L) (hne : rs ≠ []) (hok : ∀ r ∈ rs, r.OK L)
    (ps : List Part) (hps : ∀ p ∈ ps, 0 ≤ p.lo ∧ p.lo < p.hi ∧ p.hi ≤ L)
    (h1 : ∀ p ∈ ps, ∀ i, p.mem i = true → ∃ r ∈ rs, (r.toLoc L).mem i = true)
    (h2 : ∀ r ∈ rs, ∀ i, (r.toLoc L).mem i = true → ∃ p ∈ ps, p.mem i = true)
    (hshort : 2 * shortestArc L (canon ps) < L) :
    (connR rs L).len = shortestArc L (canon ps) := by
  apply len_eq_shortestArc ps L hL ?_ hps _ (connR_wf _ L hL hne hok) ?_ ?_ hshort
  · obtain ⟨r, hr⟩ := List.exists_mem_of_ne_nil _ hne
    have hb := toLoc_bounds (hok r hr)
    have hm : (r.toLoc L).mem (r.toLoc L).start = true := by
      cases r with
      | one p => simp only [RLoc.toLoc, Loc.start, mem_simple]; have : (RLoc.one p).OK L := hok _ hr; simp only [RLoc.OK] at this; omega
      | two x y =>
        have : (RLoc.two x y).OK L := hok _ hr
        simp only [RLoc.OK] at this
        simp only [RLoc.toLoc, mem_two, fl, Loc.start, List.map, minList, List.foldl]; omega
    obtain ⟨p, hp, _⟩ := h2 r hr _ hm
    exact List.ne_nil_of_mem hp
  · intro p hp i hi
    obtain ⟨r, hr, hri⟩ := h1 p hp i hi
    exact connR_covers _ L hL hok r hr i hri
  · intro c hwf hlen hcov
    refine (connR_shortest _ L hL hne hok c hwf hlen ?_).1
    intro r hr i hi
    obtain ⟨p, hp, hpi⟩ := h2 r hr i hi
    exact hcov p hp i hpi

/-- the length of the connected span is the executable `shortestArc` of the union of the inputs'
    bases whenever that is less than half the record -/
theorem connect_ring_len_shortestArc (ls : List Loc) (L : Int) (hne : ls ≠ []) (hL : 0 < L)
    (hin : ∀ l ∈ ls, RingInStrict L l)
    (hshort : 2 * shortestArc L (canon (ls.flatMap (·.parts))) < L) :
    (connR (ls.map toR) L).len = shortestArc L (canon (ls.flatMap (·.parts))) := by
  have hin' : ∀ l ∈ ls, RingIn L l := fun l hl => (hin l hl).ringIn
  apply connR_len_shortestArc _ L hL (by simpa using hne) (toR_ok L hL ls hin') _ ?_ ?_ ?_ hshort
  · intro p hp
    obtain ⟨l, hl, hpl⟩ := List.mem_flatMap.1 hp
    exact strict_parts_ok (hin l hl) p hpl
  · intro p hp i hi
    obtain ⟨l, hl, hpl⟩ := List.mem_flatMap.1 hp
    refine ⟨toR l, List.mem_map.2 ⟨l, hl, rfl⟩, (toR_mem_iff L hL l (hin l hl) i).2 ?_⟩
    simp only [Loc.mem, List.any_eq_true]; exact ⟨p, hpl, hi⟩
  · intro r hr i hi
    obtain ⟨l, hl, rfl⟩ := List.mem_map.1 hr
    have hli := (toR_mem_iff L hL l (hin l hl) i).1 hi
    simp only [Loc.mem, List.any_eq_true] at hli
    obtain ⟨p, hpl, hpi⟩ := hli
    exact ⟨p, List.mem_flatMap.2 ⟨l, hl, hpl⟩, hpi⟩

/-- an input read as a *span* (what `_reduce_parts_to_location` makes of it): a location that does
    not bridge the origin covers `[start, end)` (a gene covers its introns), an origin-spanning one
    `[x, L) + [0, y)` -/
def spanOf (L : Int) (l : Loc) : Loc := (toR l).toLoc L

/-- the same for every `RingIn` input, with the inputs read as spans -/
theorem connect_ring_len_shortestArc_spans (ls : List Loc) (L : Int) (hne : ls ≠ []) (hL : 0 < L)
    (hin : ∀ l ∈ ls, RingIn L l)
    (hshort : 2 * shortestArc L (canon (ls.flatMap fun l => (spanOf L l).parts)) < L) :
    (connR (ls.map toR) L).len = shortestArc L (canon (ls.flatMap fun l => (spanOf L l).parts)) := by
  have hok := toR_ok L hL ls hin
  apply connR_len_shortestArc _ L hL (by simpa using hne) hok _ ?_ ?_ ?_ hshort
  · intro p hp
    obtain ⟨l, hl, hpl⟩ := List.mem_flatMap.1 hp
    have hr := hok (toR l) (List.mem_map.2 ⟨l, hl, rfl⟩)
    simp only [spanOf] at hpl
    cases hrl : toR l with
    | one q =>
      rw [hrl] at hpl hr
      simp only [RLoc.toLoc, Loc.parts, List.mem_singleton] at hpl; subst hpl; exact hr
    | two x y =>
      rw [hrl] at hpl hr
      simp only [RLoc.OK] at hr
      simp only [RLoc.toLoc, Loc.parts, List.mem_cons, List.mem_nil_iff, or_false] at hpl
      rcases hpl with rfl | rfl <;> (simp only [fl]; omega)
  · intro p hp i hi
    obtain ⟨l, hl, hpl⟩ := List.mem_flatMap.1 hp
    refine ⟨toR l, List.mem_map.2 ⟨l, hl, rfl⟩, ?_⟩
    simp only [spanOf] at hpl
    simp only [Loc.mem, List.any_eq_true]; exact ⟨p, hpl, hi⟩
  · intro r hr i hi
    obtain ⟨l, hl, rfl⟩ := List.mem_map.1 hr
    simp only [Loc.mem, List.any_eq_true] at hi
    obtain ⟨p, hpl, hpi⟩ := hi
    exact ⟨p, List.mem_flatMap.2 ⟨l, hl, hpl⟩, hpi⟩

/-! ### two single-part inputs -/

/-- the two ways round between two arcs: the gap along the line (negative when they overlap) and
    the gap over the origin -/
def lineGapSigned (a b : Part) : Int := max a.lo b.lo - min a.hi b.hi
def originGap (a b : Part) (L : Int) : Int := min a.lo b.lo + L - max a.hi b.hi

/-- two parts leave at most two gaps: the one along the line (none when they meet) and the one over the origin -/
theorem shortestArc_two (a b : Part) (L : Int) (ha0 : 0 ≤ a.lo) (ha : a.lo < a.hi) (haL : a.hi ≤ L)
    (hb0 : 0 ≤ b.lo) (hb : b.lo < b.hi) (hbL : b.hi ≤ L) :
    shortestArc L (canon [a, b]) = L - max (lineGapSigned a b) (originGap a b L) := by
  simp only [canon, canonIvs, List.map, List.filter, ha, hb, decide_true, sortIvs, List.foldr, insertIv, lineGapSigned, originGap]
  by_cases hab : a.lo ≤ b.lo
  · rw [if_pos hab, Int.max_eq_right hab, Int.min_eq_left hab]
    by_cases hm : b.lo ≤ a.hi
    · -- the two meet: one interval, and the only gap is the one over the origin
      have h : b.lo - min a.hi b.hi ≤ a.lo + L - max a.hi b.hi := by omega
      simp only [mergeSorted, hm, if_true, shortestArc, ringGaps, ringGaps.go, maxList, List.foldl, Int.max_eq_right h]
    · have hh : a.hi ≤ b.hi := by omega
      rw [Int.min_eq_left hh, Int.max_eq_right hh]
      simp only [mergeSorted, hm, if_false, shortestArc, ringGaps, ringGaps.go, maxList, List.foldl]
  · have hba : b.lo ≤ a.lo := by omega
    rw [if_neg hab, Int.max_eq_left hba, Int.min_eq_right hba]
    by_cases hm : a.lo ≤ b.hi
    · have h : a.lo - min a.hi b.hi ≤ b.lo + L - max a.hi b.hi := by omega
      simp only [mergeSorted, hm, if_true, shortestArc, ringGaps, ringGaps.go, maxList, List.foldl, Int.max_eq_right h,
        Int.max_comm b.hi a.hi]
    · have hh : b.hi ≤ a.hi := by omega
      rw [Int.min_eq_right hh, Int.max_eq_left hh]
      simp only [mergeSorted, hm, if_false, shortestArc, ringGaps, ringGaps.go, maxList, List.foldl]
/-- connecting two single-part locations on a ring: the result covers both, is a well-formed
    span, is never longer than the line hull, and is the shortest covering arc whenever one
    shorter than half the record exists -/
theorem connect_two_ring (a b : Part) (L : Int) (ha : a.OK L) (hb : b.OK L) (hL : 0 < L) :
    ∃ r, connect [.simple a, .simple b] (some L) = .ok r ∧
      (∀ i, (a.mem i = true ∨ b.mem i = true) → r.mem i = true) ∧
      areaWF L L r = true ∧
      r.len ≤ max a.hi b.hi - min a.lo b.lo ∧
      (2 * (L - max (lineGapSigned a b) (originGap a b L)) < L →
        r.len = L - max (lineGapSigned a b) (originGap a b L)) := by
  have hL0 : L ≠ 0 := by omega
  obtain ⟨ha0, ha1, ha2⟩ := ha.partIn hL0
  obtain ⟨hb0, hb1, hb2⟩ := hb.partIn hL0
  have hin : ∀ l ∈ [Loc.simple a, .simple b], RingInStrict L l := by
    intro l hl
    simp only [List.mem_cons, List.mem_nil_iff, or_false] at hl
    rcases hl with rfl | rfl
    · exact Or.inl ⟨a, rfl, ha0, ha1, ha2⟩
    · exact Or.inl ⟨b, rfl, hb0, hb1, hb2⟩
  have hin' : ∀ l ∈ [Loc.simple a, .simple b], RingIn L l := fun l hl => (hin l hl).ringIn
  have e : [Loc.simple a, Loc.simple b].map toR = [.one a, .one b] := rfl
  have hok : ∀ r ∈ [RLoc.one a, .one b], r.OK L := e ▸ toR_ok L hL _ hin'
  refine ⟨connR [.one a, .one b] L, e ▸ connect_ring_closed _ L (by simp) hL hin', ?_, connR_wf _ L hL (by simp) hok, ?_, ?_⟩
  · intro i hi
    rcases hi with hi | hi
    · exact connR_covers _ L hL hok (.one a) (by simp) i ((mem_simple a i).2 ((Part.mem_iff a i).1 hi))
    · exact connR_covers _ L hL hok (.one b) (by simp) i ((mem_simple b i).2 ((Part.mem_iff b i).1 hi))
  · exact connR_le_hull _ L hL (by simp) hok
  · intro hs
    rw [← shortestArc_two a b L ha0 ha1 ha2 hb0 hb1 hb2] at hs ⊢
    exact e ▸ connect_ring_len_shortestArc _ L (by simp) hL hin hs

end ASV
