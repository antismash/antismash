/-
  C11: what a `reuse` decision implies about the stored JSON and the current settings (inversion of
  the guards), `regenerate_previous_results` of each class as an instance of `regenWith`, TTA and HMMer
  threshold semantics.
-/
import ASV.Proofs.ResultsOther
namespace ASV.Results
open ASV.Results.Spec

theorem NrpsPks.record_guard {r ctx kv} (h : isStrLit (lookup "record_id" kv) ctx.recordId = false) :
    NrpsPks.fromJson r ctx (.obj kv) = .discard ∨ NrpsPks.fromJson r ctx (.obj kv) = .discard := by
  left
  simp only [NrpsPks.fromJson]
  split
  · rfl
  · simp [h]

theorem RuleRes.reuse_inv {ctx j x} (h : RuleRes.fromJson ctx j = .reuse x) :
    Spec.intField j "schema_version" = some 4 := by
  cases j with
  | obj kv =>
    simp only [RuleRes.fromJson] at h
    exact intField_of_guard (discard_guard_eq_reuse h).1
  | _ => cases h

theorem HmmDet.fromJson_inv {ctx j x} (h : HmmDet.fromJson ctx j = .reuse x) :
    Spec.intField j "schema_version" = some 2 ∧ Spec.strField j "record_id" = some ctx.recordId
    ∧ x.recordId = ctx.recordId
    ∧ (∃ rj, Spec.field j "rule_results" = some rj ∧ Spec.intField rj "schema_version" = some 4) := by
  cases j with
  | obj kv =>
    simp only [HmmDet.fromJson] at h
    cases hsv : lookup "schema_version" kv with
    | none => rw [hsv] at h; cases h
    | some sv =>
      rw [hsv] at h
      obtain ⟨h1, h⟩ := refuse_guard_eq_reuse h
      cases hrid : lookup "record_id" kv with
      | none => rw [hrid] at h; cases h
      | some rid =>
        rw [hrid] at h
        obtain ⟨h2, h⟩ := refuse_guard_eq_reuse h
        cases hrj : lookup "rule_results" kv with
        | none => rw [hrj] at h; cases h
        | some rj =>
          simp only [hrj] at h
          cases hrr : RuleRes.fromJson ctx rj with
          | refuse e => rw [hrr] at h; cases h
          | discard => rw [hrr] at h; cases h
          | reuse rr =>
            rw [hrr] at h
            obtain ⟨et, _, h⟩ := bind_eq_reuse h
            obtain ⟨st, _, h⟩ := bind_eq_reuse h
            cases (refuse_guard_eq_reuse h).2
            rw [← hsv] at h1
            rw [← hrid] at h2
            exact ⟨intField_of_guard h1, strField_of_guard h2, rfl, rj, hrj, RuleRes.reuse_inv hrr⟩
  | _ => cases h

/-! ### `regenerate_previous_results` of each class in the common shape `regenWith`

  `regenWith` matches `.obj []` first and so does each model function, then both look at what the decoder
  returns: hence the same three `cases` (on `j`, on the key list, on the decoder's outcome) in each proof. -/

theorem HmmDet.toJson_ne_empty (x : HmmDet) : x.toJson ≠ .obj [] := nofun

theorem HmmerRes.toJson_ne_empty (x : HmmerRes) : x.toJson ≠ .obj [] := nofun

theorem Sideloaded.toJson_ne_empty (x : Sideloaded) : x.toJson ≠ .obj [] := nofun

theorem HmmDet.regenerate_eq (ctx : Ctx) (o : HmmOpts) (j : J) :
    HmmDet.regenerate ctx o j = regenWith (HmmDet.fromJson ctx) (fun x =>
      if !setEq x.enabledTypes o.ruleNames then .refuse .runtime
      else if o.fungi && x.rules.cutoffMult != o.cutoffMult then .refuse .runtime
      else if o.fungi && x.rules.neighMult != o.neighMult then .refuse .runtime
      else .reuse x) j := by
  cases j with
  | obj kv =>
    cases kv with
    | nil => rfl
    | cons p kv =>
      simp only [HmmDet.regenerate, regenWith]
      cases HmmDet.fromJson ctx (.obj (p :: kv)) <;> rfl
  | _ => rfl

theorem HmmerRes.regenerate_eq (ctx : Ctx) (maxE minS : Dec) (j : J) :
    HmmerRes.regenerate ctx maxE minS j = regenWith (HmmerRes.fromJson ctx) (fun x =>
      if Dec.lt minS x.score || Dec.lt x.evalue maxE then .discard else x.refilter maxE minS) j := by
  cases j with
  | obj kv =>
    cases kv with
    | nil => rfl
    | cons p kv =>
      simp only [HmmerRes.regenerate, regenWith]
      cases HmmerRes.fromJson ctx (.obj (p :: kv)) <;> rfl
  | _ => rfl

theorem Sideloaded.regenerate_eq (ctx : Ctx) (requested : Option Sideloaded) (j : J) :
    Sideloaded.regenerate ctx requested j = regenWith (Sideloaded.fromJson ctx) (fun x =>
      match requested with
      | none => .reuse x
      | some r =>
        if r.subregions != x.subregions || r.protoclusters != x.protoclusters then .refuse .runtime
        else .reuse x) j := by
  cases j with
  | obj kv =>
    cases kv with
    | nil => rfl
    | cons p kv =>
      simp only [Sideloaded.regenerate, regenWith]
      cases Sideloaded.fromJson ctx (.obj (p :: kv)) <;> rfl
  | _ => rfl

theorem HmmDet.regenerate_inv {ctx o j x} (h : HmmDet.regenerate ctx o j = .reuse x) :
    HmmDet.fromJson ctx j = .reuse x ∧ setEq x.enabledTypes o.ruleNames = true
    ∧ (o.fungi = true → x.rules.cutoffMult = o.cutoffMult ∧ x.rules.neighMult = o.neighMult) := by
  rw [HmmDet.regenerate_eq] at h
  obtain ⟨y, hy, h⟩ := regenWith_eq_reuse h
  obtain ⟨h1, h⟩ := refuse_guard_eq_reuse h
  obtain ⟨h2, h⟩ := refuse_guard_eq_reuse h
  obtain ⟨h3, h⟩ := refuse_guard_eq_reuse h
  cases h
  refine ⟨hy, by simpa using h1, fun hf => ?_⟩
  simp [hf] at h2 h3
  exact ⟨h2, h3⟩

theorem Sideloaded.regenerate_toJson (ctx : Ctx) (x : Sideloaded) (hv : x.valid ctx = true)
    (requested : Option Sideloaded)
    (hr : ∀ r, requested = some r → r.subregions = x.subregions ∧ r.protoclusters = x.protoclusters) :
    Sideloaded.regenerate ctx requested x.toJson = .reuse x := by
  rw [Sideloaded.regenerate_eq, regenWith_of_reuse x.toJson_ne_empty (Sideloaded.fromJson_toJson ctx x hv)]
  cases requested with
  | none => rfl
  | some r => simp [(hr r rfl).1, (hr r rfl).2]

theorem HmmerRes.fromJson_inv {ctx j x} (h : HmmerRes.fromJson ctx j = .reuse x) :
    Spec.intField j "schema" = some 2 ∧ Spec.strField j "record id" = some ctx.recordId
    ∧ Spec.numField j "max evalue" = some x.evalue ∧ Spec.numField j "min score" = some x.score
    ∧ x.recordId = ctx.recordId := by
  cases j with
  | obj kv =>
    simp only [HmmerRes.fromJson] at h
    obtain ⟨h1, h⟩ := discard_guard_eq_reuse h
    obtain ⟨h2, h⟩ := discard_guard_eq_reuse h
    split at h
    · cases h
    · cases h
    · cases h
    · cases h
    · rename_i ev sc hev hsc
      split at h
      · obtain ⟨_, _, h⟩ := bind_eq_reuse h
        obtain ⟨_, _, h⟩ := bind_eq_reuse h
        obtain ⟨_, _, h⟩ := bind_eq_reuse h
        cases h
        exact ⟨intField_of_guard h2, strField_of_guard h1, by simp [Spec.numField, Spec.field, hev],
          by simp [Spec.numField, Spec.field, hsc], rfl⟩
      · cases h
    · cases h
  | _ => cases h

theorem HmmerRes.refilter_inv {x y : HmmerRes} {maxE minS : Dec} (h : x.refilter maxE minS = .reuse y) :
    Dec.le maxE x.evalue = true ∧ Dec.le x.score minS = true
    ∧ y.hits = Spec.hmmerReference x.hits maxE minS ∧ y.evalue = maxE ∧ y.score = minS
    ∧ y.recordId = x.recordId := by
  unfold HmmerRes.refilter at h
  obtain ⟨h1, h⟩ := refuse_guard_eq_reuse h
  obtain ⟨h2, h⟩ := refuse_guard_eq_reuse h
  cases h
  refine ⟨?_, ?_, rfl, rfl, rfl, rfl⟩
  · rw [Dec.le_eq_not_lt]; simpa using h1
  · rw [Dec.le_eq_not_lt]; simpa using h2

theorem HmmerRes.regenerate_inv {ctx maxE minS j y} (h : HmmerRes.regenerate ctx maxE minS j = .reuse y) :
    ∃ x, HmmerRes.fromJson ctx j = .reuse x ∧ x.refilter maxE minS = .reuse y := by
  rw [HmmerRes.regenerate_eq] at h
  obtain ⟨x, hx, h⟩ := regenWith_eq_reuse h
  exact ⟨x, hx, (discard_guard_eq_reuse h).2⟩

/-- off the boundary the inclusive filter of `refilter` and the exclusive one of `build_hits` agree -/
theorem hmmerReference_eq_fresh (hits : List HmmerHit) (maxE minS : Dec)
    (h : Spec.hmmerOnBoundary hits maxE minS = false) :
    Spec.hmmerReference hits maxE minS = Spec.hmmerFresh hits maxE minS := by
  unfold Spec.hmmerReference Spec.hmmerFresh
  apply List.filter_congr
  intro x hx
  simp only [Spec.hmmerOnBoundary, List.any_eq_false] at h
  have hb := h x hx
  simp only [Bool.or_eq_true, not_or, Bool.not_eq_true] at hb
  rw [Dec.strict_off_boundary hb.1, Dec.strict_off_boundary (a := x.evalue) (b := maxE) (by
    have := hb.2; rw [Bool.and_comm]; exact this)]

/-- the strictly filtered (fresh-run) list against the inclusively filtered one, no hypothesis: the fresh list is the
    inclusive one filtered strictly, hence contained in it, and what the inclusive one has beyond it lies on a threshold -/
theorem hmmerFresh_vs_reference (hits : List HmmerHit) (maxE minS : Dec) :
    Spec.hmmerFresh hits maxE minS
      = (Spec.hmmerReference hits maxE minS).filter (fun h => Dec.lt minS h.score && Dec.lt h.evalue maxE)
    ∧ (∀ h ∈ Spec.hmmerFresh hits maxE minS, h ∈ Spec.hmmerReference hits maxE minS)
    ∧ (∀ h ∈ Spec.hmmerReference hits maxE minS, h ∉ Spec.hmmerFresh hits maxE minS →
        Spec.hmmerOnBoundary [h] maxE minS = true) := by
  have himp : ∀ k : HmmerHit, (Dec.lt minS k.score && Dec.lt k.evalue maxE) = true →
      (Dec.le minS k.score && Dec.le k.evalue maxE) = true := by
    intro k hk
    simp only [Bool.and_eq_true] at hk ⊢
    exact ⟨Dec.le_of_lt hk.1, Dec.le_of_lt hk.2⟩
  refine ⟨?_, ?_, ?_⟩
  · simp only [Spec.hmmerFresh, Spec.hmmerReference, List.filter_filter]
    apply List.filter_congr
    intro k _
    cases hk : (Dec.lt minS k.score && Dec.lt k.evalue maxE)
    · simp
    · simp [himp k hk]
  · intro k hk
    simp only [Spec.hmmerFresh, Spec.hmmerReference, List.mem_filter] at hk ⊢
    exact ⟨hk.1, himp k hk.2⟩
  · intro k hk hn
    simp only [Spec.hmmerReference, Spec.hmmerFresh, List.mem_filter, not_and, Bool.not_eq_true] at hk hn
    have hnot := hn hk.1
    have hle := hk.2
    simp only [Bool.and_eq_true] at hle
    simp only [Spec.hmmerOnBoundary, List.any_cons, List.any_nil, Bool.or_false, Bool.or_eq_true, Bool.and_eq_true]
    -- one of the two strict comparisons fails although the inclusive one holds: equality on that threshold
    cases h1 : Dec.lt minS k.score
    · left
      refine ⟨?_, hle.1⟩
      rw [Dec.le_eq_not_lt, h1]; rfl
    · right
      have h2 : Dec.lt k.evalue maxE = false := by simpa [h1] using hnot
      refine ⟨hle.2, ?_⟩
      rw [Dec.le_eq_not_lt, h2]; rfl

theorem TTA.fromJson_toJson_cases (x : TTA) (opt : Dec) (hl : TTA.locsOk x.codons = true) :
    TTA.fromJson opt x.toJson =
      if Dec.lt x.gc x.threshold && Dec.le opt x.gc then .discard
      else if Dec.le opt x.gc then .reuse ⟨x.recordId, x.gc, opt, x.codons⟩
      else .reuse ⟨x.recordId, x.gc, opt, []⟩ := by
  simp [results_json, TTA.toJson, TTA.fromJson, TTA.schemaVersion, TTA.codons_roundtrip x.codons hl]

theorem TTA.fromJson_recordId {opt : Dec} {kv : List (String × J)} {x : TTA}
    (h : TTA.fromJson opt (.obj kv) = .reuse x) : lookup "record_id" kv = some (.str x.recordId) := by
  simp only [TTA.fromJson] at h
  cases hsv : lookup "schema_version" kv with
  | none => rw [hsv] at h; cases h
  | some sv =>
    simp only [hsv] at h
    obtain ⟨_, h⟩ := discard_guard_eq_reuse h
    obtain ⟨rid, hrid, h⟩ := bind_eq_reuse h
    obtain ⟨gc, _, h⟩ := bind_eq_reuse h
    obtain ⟨old, _, h⟩ := bind_eq_reuse h
    obtain ⟨_, h⟩ := discard_guard_eq_reuse h
    have hx : x.recordId = rid := by
      split at h
      · obtain ⟨_, _, h⟩ := bind_eq_reuse h
        obtain ⟨_, _, h⟩ := bind_eq_reuse h
        cases h
        rfl
      · cases h
        rfl
    rw [hx]
    exact reqStr_eq_reuse hrid

end ASV.Results
