/-
  C05: what the three passes group — the groups handed to `_merge_sets` are, up to order and
  repetition, the unions of every two related units, so (with the partition theorem) the merged
  groups are the chain classes of the documented relation.
-/
import ASV.Proofs.NoDup
namespace ASV.CC
open ASV.CC.Spec

/-! ### the neighbouring pass -/

/-- two protoclusters end up in one neighbouring group iff a chain of pairwise overlapping units
    (candidates so far, remaining protoclusters) leads from one to the other -/
theorem findNeighbouring_classes (singles : List Proto) (cands : List Cand) (a b : Proto) :
    (∃ r, r ∈ findNeighbouring singles cands ∧ a ∈ r ∧ b ∈ r) ↔
      Linked (overlapGroups (neighbourUnits singles cands)) a b := by
  obtain ⟨G, hG, h1, h2⟩ := findNeighbouring_sameSets singles cands
  rw [hG, mergeSets_linked]
  exact ⟨h1.linked, h2.linked⟩

/-! ### the hybrid pass -/

theorem mem_shareGroups {ps : List Proto} {g : List Proto} :
    g ∈ shareGroups ps ↔ ∃ a b, Before a b ps ∧ shares a b = true ∧ g = [a, b] := by
  simp only [shareGroups, List.mem_map, List.mem_filter, mem_allPairs, shares]
  constructor
  · rintro ⟨x, ⟨hb, ho⟩, e⟩; exact ⟨x.1, x.2, hb, ho, e.symm⟩
  · rintro ⟨u, v, hb, ho, e⟩; exact ⟨(u, v), ⟨hb, ho⟩, e.symm⟩

theorem shares_comm (a b : Proto) : shares a b = shares b a := by
  simp only [shares]
  rw [Bool.eq_iff_iff]
  simp only [List.any_eq_true, List.contains_eq_mem, decide_eq_true_eq]
  constructor
  · rintro ⟨g, h1, h2⟩; exact ⟨g, h2, h1⟩
  · rintro ⟨g, h1, h2⟩; exact ⟨g, h2, h1⟩

/-- the pairs handed over by `_find_hybrids` are, as sets, the pairs of the documented relation, and conversely -/
theorem hybridPairs_in_shareGroups {clusters : List Proto} (hn : clusters.Nodup) :
    SetsIn (hybridPairs clusters) (shareGroups clusters) := by
  intro g hg
  obtain ⟨a, b, rfl, ha, hb, hab, hs⟩ := hybridPairs_pair hn hg
  rcases before_total ha hb hab with hbf | hbf
  · exact ⟨[a, b], mem_shareGroups.2 ⟨a, b, hbf, hs, rfl⟩, fun x => Iff.rfl⟩
  · exact ⟨[b, a], mem_shareGroups.2 ⟨b, a, hbf, by rw [shares_comm]; exact hs, rfl⟩, fun x => mem_pair_swap⟩

theorem shareGroups_in_hybridPairs {clusters : List Proto} (hn : clusters.Nodup) :
    SetsIn (shareGroups clusters) (hybridPairs clusters) := by
  intro g' hg'
  obtain ⟨a, b, hbf, hs, rfl⟩ := mem_shareGroups.1 hg'
  have hm := before_mem hbf
  rcases before_total ((mem_sortBy coreKeyLt a clusters).2 hm.1) ((mem_sortBy coreKeyLt b clusters).2 hm.2)
    (before_ne hn hbf) with h1 | h1
  · exact ⟨[a, b], mem_hybridPairs.2 ⟨a, b, h1, hs, rfl⟩, fun x => Iff.rfl⟩
  · exact ⟨[b, a], mem_hybridPairs.2 ⟨b, a, h1, by rw [shares_comm]; exact hs, rfl⟩, fun x => mem_pair_swap⟩

/-- the merged pairs of `_find_hybrids` are the chain classes of "share a defining gene" -/
theorem mergeSets_hybridPairs {clusters : List Proto} (hn : clusters.Nodup) (a b : Proto) :
    (∃ r, r ∈ mergeSets (hybridPairs clusters) ∧ a ∈ r ∧ b ∈ r) ↔ Linked (shareGroups clusters) a b :=
  (mergeSets_linked _ a b).trans ⟨(hybridPairs_in_shareGroups hn).linked, (shareGroups_in_hybridPairs hn).linked⟩

/-- a protocluster is in no pair iff it shares a defining gene with no other protocluster -/
theorem unpaired_iff {clusters : List Proto} (hn : clusters.Nodup) {p : Proto} (hp : p ∈ clusters) :
    p ∉ (hybridPairs clusters).flatten ↔ ∀ q, q ∈ clusters → q ≠ p → shares p q = false := by
  constructor
  · intro hnp q hq hqp
    refine Bool.eq_false_iff.2 fun hs => hnp ?_
    rcases before_total hp hq (Ne.symm hqp) with hbf | hbf
    · obtain ⟨g, hg, hsub⟩ := shareGroups_in_hybridPairs hn _ (mem_shareGroups.2 ⟨p, q, hbf, hs, rfl⟩)
      exact List.mem_flatten.2 ⟨g, hg, (hsub p).1 List.mem_cons_self⟩
    · obtain ⟨g, hg, hsub⟩ := shareGroups_in_hybridPairs hn _
        (mem_shareGroups.2 ⟨q, p, hbf, by rw [shares_comm]; exact hs, rfl⟩)
      exact List.mem_flatten.2 ⟨g, hg, (hsub p).1 (List.mem_cons_of_mem _ List.mem_cons_self)⟩
  · intro hnos hin
    obtain ⟨g0, hg0, hp0⟩ := List.mem_flatten.1 hin
    obtain ⟨x, y, rfl, hx, hy, hxy, hs⟩ := hybridPairs_pair hn hg0
    rcases mem_pair hp0 with rfl | rfl
    · rw [hnos y hy (Ne.symm hxy)] at hs; cases hs
    · rw [shares_comm, hnos x hx hxy] at hs; cases hs

/-- what `_find_hybrids` returns, in terms of the documented relation:
    (1) protoclusters linked by a chain of shared defining genes are in one hybrid group;
    (2) every hybrid group consists of one such chain class `m` (at least two protoclusters) plus
        protoclusters that share no gene with anyone and whose core lies inside the connected core of `m`;
    (3) a protocluster that shares a gene with another one is in some hybrid group, never left over -/
theorem findHybrids_classes {clusters : List Proto} {wrap : Option Int} {hg : List (List Proto)} {un : List Proto}
    (h : findHybrids clusters wrap = .ok (hg, un)) (hn : clusters.Nodup) :
    (∀ a b, Linked (shareGroups clusters) a b → ∃ g, g ∈ hg ∧ a ∈ g ∧ b ∈ g) ∧
    (∀ g, g ∈ hg → ∃ m core, (∀ x, x ∈ m → x ∈ g) ∧ Two m ∧ (∀ a b, a ∈ m → b ∈ m → Linked (shareGroups clusters) a b) ∧
        connect (m.map (·.core)) wrap = .ok core ∧
        ∀ p, p ∈ g → p ∈ m ∨ (p ∈ clusters ∧ (∀ q, q ∈ clusters → q ≠ p → shares p q = false) ∧
          locationContainsOther core p.core = true)) := by
  obtain ⟨extended, hext, rfl, rfl⟩ := findHybrids_stages h
  refine ⟨?_, ?_⟩
  · intro a b hl
    obtain ⟨m, hm, ha, hb⟩ := (mergeSets_hybridPairs hn a b).2 hl
    obtain ⟨e, he, hsub⟩ := extendGroups_sub hext m hm
    exact ⟨sortProtos e, List.mem_map.2 ⟨e, he, rfl⟩, mem_sortProtos.2 (hsub a ha), mem_sortProtos.2 (hsub b hb)⟩
  · intro g hg
    obtain ⟨e, he, rfl⟩ := List.mem_map.1 hg
    obtain ⟨m, hm, hme⟩ := extendGroups_rel hext e he
    obtain ⟨core, hcore, hfrom⟩ := extendGroup_from hme
    refine ⟨m, core, fun x hx => mem_sortProtos.2 (extendGroup_sub hme x hx),
      two_of_nodup (hybridClasses_wf hn m hm).1 (hybridClasses_wf hn m hm).2.1,
      fun a b ha hb => (mergeSets_hybridPairs hn a b).1 ⟨m, hm, ha, hb⟩,
      hcore, fun p hp => ?_⟩
    rcases hfrom p (mem_sortProtos.1 hp) with h1 | ⟨h1, h2⟩
    · exact Or.inl h1
    · obtain ⟨hpc, hnotpaired⟩ := List.mem_filter.1 ((mem_sortBy _ _ _).1 h1)
      exact Or.inr ⟨hpc, (unpaired_iff hn hpc).1 (by simpa using hnotpaired), h2⟩

/-! ### the interleaved pass -/

def SortedBy {α : Type} (key : α → Int) (l : List α) : Prop := l.Pairwise fun a b => key a ≤ key b

theorem sortBy_sorted {α : Type} [DecidableEq α] (key : α → Int) (l : List α) :
    SortedBy key (sortBy (fun a b => decide (key a < key b)) l) := by
  induction l with
  | nil => exact List.Pairwise.nil
  | cons z zs ih =>
    refine insertBy_pairwise _ (R := fun a b => key a ≤ key b) (fun a b c => Int.le_trans) z _ ?_ ?_ ih
    · intro y _ h; exact Int.le_of_lt (of_decide_eq_true h)
    · intro y _ h; exact Int.not_lt.1 (of_decide_eq_false h)

/-- on a list ascending by `key`, a scan that goes on (`f`) over everything not after `p` reaches `p`:
    an early `break` on the sort key loses nothing -/
theorem mem_takeWhile_of_sorted {α : Type} {key : α → Int} {f : α → Bool} {l : List α} (hs : SortedBy key l)
    {p : α} (hp : p ∈ l) (h : ∀ c, c ∈ l → key c ≤ key p → f c = true) : p ∈ l.takeWhile f := by
  induction l with
  | nil => cases hp
  | cons c rest ih =>
    have hc := List.pairwise_cons.1 hs
    rcases List.mem_cons.1 hp with rfl | hp'
    · rw [List.takeWhile_cons, h p List.mem_cons_self (Int.le_refl _)]; exact List.mem_cons_self
    · rw [List.takeWhile_cons, h c List.mem_cons_self (hc.1 p hp')]
      exact List.mem_cons_of_mem _ (ih hc.2 hp' fun d hd => h d (List.mem_cons_of_mem _ hd))

/-- overlapping locations: the second starts before the first ends -/
theorem overlap_start_lt_end {a b : Loc} (ha : a.PartsNonEmpty) (hb : b.PartsNonEmpty)
    (h : locationsOverlap a b = true) : b.start < a.end := by
  obtain ⟨i, hia, hib⟩ := (locationsOverlap_iff a b ha hb).1 h
  simp only [Loc.mem, List.any_eq_true, Part.mem_iff] at hia hib
  obtain ⟨p, hp, _, h2⟩ := hia
  obtain ⟨q, hq, h3, _⟩ := hib
  have := (start_le_part a p hp).2
  have := (start_le_part b q hq).1
  omega

theorem interleavedRow_complete {c : Proto} {rest : List Proto} (hne : ∀ p, p ∈ c :: rest → p.core.PartsNonEmpty)
    (hs : SortedBy (fun p : Proto => p.core.start) rest) {o : Proto} (ho : o ∈ rest)
    (hov : locationsOverlap c.core o.core = true) : [c, o] ∈ interleavedRow c rest := by
  refine mem_interleavedRow.2 ⟨o, mem_takeWhile_of_sorted hs ho fun d _ hd => ?_, hov, rfl⟩
  have hlt := overlap_start_lt_end (hne c List.mem_cons_self) (hne o (List.mem_cons_of_mem _ ho)) hov
  have : ¬ c.core.end ≤ d.core.start := by omega
  simpa using this

theorem interleavedPairs_complete {l : List Proto} (hne : ∀ p, p ∈ l → p.core.PartsNonEmpty)
    (hs : SortedBy (fun p : Proto => p.core.start) l) {a b : Proto} (hbf : Before a b l)
    (hov : locationsOverlap a.core b.core = true) : [a, b] ∈ interleavedPairs l := by
  induction l with
  | nil => cases hbf
  | cons c rest ih =>
    have hc := List.pairwise_cons.1 hs
    simp only [interleavedPairs, List.mem_append]
    rcases hbf with ⟨e, hb⟩ | h
    · subst e
      exact Or.inl (interleavedRow_complete hne hc.2 hb hov)
    · exact Or.inr (ih (fun p hp => hne p (List.mem_cons_of_mem _ hp)) hc.2 h)

/-- `connect_locations` without a wrap point returns a hull: one part -/
theorem connect_none_onePart {ls : List Loc} {k : Loc} (hk : connect ls none = .ok k) : twoParts k = false := by
  simp only [connect, connectLocations] at hk
  split at hk
  · cases hk
  · split at hk
    · cases hk
    · simp only [bind, Except.bind] at hk
      split at hk
      · cases hk
      · simp only [pure, Except.pure] at hk
        injection hk with hk
        subst hk
        simp [twoParts, hullOf, Loc.parts]

theorem withCores_none_simple {cands : List Cand} {cc : List CandC} (h : withCores none cands = .ok cc) :
    ∀ x, x ∈ cc → twoParts x.2 = false := fun x hx => connect_none_onePart (withCores_snd h x hx)

/-- without a candidate whose combined core spans the origin, the origin-crossing step does nothing -/
theorem findCross_noSpan {cc : List CandC} (un : List Proto) (groups : List (List Proto)) (wrap : Option Int)
    (hno : ∀ x, x ∈ cc → twoParts x.2 = false) :
    findCrossOriginInterleaved cc un groups wrap = .ok ([], groups) := by
  unfold findCrossOriginInterleaved
  by_cases h1 : (un.isEmpty || cc.isEmpty) = true
  · rw [if_pos h1]
  · have : (cc.any fun c => twoParts c.2) = false := List.any_eq_false.2 fun x hx => by simp [hno x hx]
    rw [if_neg h1, this]
    rfl

/-- the group the origin-crossing step may add: members of candidates whose combined core spans
    the origin, and protoclusters whose core overlaps the connected span of those cores — with at
    least one such protocluster in it -/
def CrossGroup (cc : List CandC) (un : List Proto) (wrap : Option Int) (g : List Proto) : Prop :=
  ∃ core u0, connect ((cc.filter fun c => twoParts c.2).map (·.2)) wrap = .ok core ∧
    u0 ∈ un ∧ locationsOverlap u0.core core = true ∧ u0 ∈ g ∧
    ∀ e, e ∈ g → (∃ x, x ∈ cc ∧ twoParts x.2 = true ∧ e ∈ x.1.members) ∨ (e ∈ un ∧ locationsOverlap e.core core = true)

theorem findCross_desc {cc : List CandC} {un : List Proto} {groups groups' : List (List Proto)} {wrap : Option Int}
    {found : List Proto} (h : findCrossOriginInterleaved cc un groups wrap = .ok (found, groups')) :
    ∀ g, g ∈ groups' → g ∈ groups ∨ CrossGroup cc un wrap g := by
  rcases findCross_cases h with ⟨_, rfl⟩ | ⟨core, cg0, g, hcore, _, hfrom, hw, hne, ⟨_, rfl⟩ | ⟨_, rfl⟩⟩
  · exact fun g hg => Or.inl hg
  · intro g' hg'
    rcases List.mem_append.1 hg' with h1 | h1
    · exact Or.inl h1
    · rw [List.mem_singleton.1 h1]
      obtain ⟨u0, hu0⟩ := List.exists_mem_of_ne_nil _ hne
      exact Or.inr ⟨core, u0, hcore, (hw.found u0 hu0).1, (hw.found u0 hu0).2, hw.found_in u0 hu0,
        fun e he => (hw.group e he).imp_left (hfrom e)⟩
  · exact fun g hg => Or.inl hg

/-- every pair-group of the units is, as a set, among what `_find_interleaved` collects: the scan over the
    list sorted by core start with its early `break`, and the scan over all candidates, lose no pair -/
theorem interleavedGroups_complete {clusters : List Proto} (hn : clusters.Nodup)
    (hne : ∀ p, p ∈ clusters → p.core.PartsNonEmpty) (cc : List CandC) :
    SetsIn (overlapGroups (interleaveUnits clusters cc)) (interleavedGroups clusters cc) := by
  have hbm : ∀ p, p ∈ sortBy coreStartLt clusters ↔ p ∈ clusters := fun p => mem_sortBy _ _ _
  have hpairs : ∀ {a b : Proto}, Before a b (sortBy coreStartLt clusters) → locationsOverlap a.core b.core = true →
      [a, b] ∈ interleavedGroups clusters cc := fun h1 ho =>
    List.mem_append.2 (Or.inl (List.mem_append.2 (Or.inr (interleavedPairs_complete
      (fun p hp => hne p ((hbm p).1 hp)) (sortBy_sorted (fun p : Proto => p.core.start) clusters) h1 ho))))
  intro h hh
  rcases (mem_overlapGroups_units (fun x : CandC => (⟨x.1.members, x.2⟩ : U)) (·.core)).1 hh with
    ⟨a, b, hab, ho, rfl⟩ | ⟨c, s, hc, hs, ho, rfl⟩ | ⟨a, b, hab, ho, rfl⟩
  · exact ⟨_, List.mem_append.2 (Or.inl (List.mem_append.2 (Or.inl
      (mem_findInterleavedCandidates.2 ⟨a, b, hab, ho, rfl⟩)))), fun x => mem_dedup.symm⟩
  · exact ⟨dedup (c.1.members ++ [s]), List.mem_append.2 (Or.inr (List.mem_flatMap.2
      ⟨s, (hbm s).2 hs, List.mem_map.2 ⟨c, List.mem_filter.2 ⟨hc, ho⟩, rfl⟩⟩)), fun x => mem_dedup.symm⟩
  · have hm := before_mem hab
    rcases before_total ((hbm a).2 hm.1) ((hbm b).2 hm.2) (before_ne hn hab) with h1 | h1
    · exact ⟨[a, b], hpairs h1 ho, fun x => Iff.rfl⟩
    · exact ⟨[b, a], hpairs h1 (by rw [locationsOverlap_comm]; exact ho), fun x => mem_pair_swap⟩

/-- `_find_interleaved`, relative to the candidates' combined cores `cc`: every pair-group of the units is,
    as a set, among the sets merged (on every record); every merged set is such a pair-group or the
    group of the origin-crossing step (`CrossGroup`) -/
theorem findInterleaved_groups {clusters : List Proto} {cands : List Cand} {wrap : Option Int} {cc : List CandC}
    {ig : List (List Proto)} {un : List Proto} (h : findInterleaved clusters cands wrap = .ok (ig, un))
    (hcc : withCores wrap cands = .ok cc) (hn : clusters.Nodup) (hne : ∀ p, p ∈ clusters → p.core.PartsNonEmpty) :
    ∃ G, ig = mergeSets G ∧ SetsIn (overlapGroups (interleaveUnits clusters cc)) G ∧
      ∀ g, g ∈ G → (∃ g', g' ∈ overlapGroups (interleaveUnits clusters cc) ∧ ∀ x, x ∈ g ↔ x ∈ g') ∨
        CrossGroup cc clusters wrap g := by
  obtain ⟨cc', found1, groups, hcc', hx, rfl, rfl⟩ := findInterleaved_stages h
  refine ⟨groups, rfl, ?_⟩
  -- the cores are evaluated unless there is a lone candidate and no protocluster: then no unit overlaps another
  have hcase : cc' = cc ∨ (cc' = [] ∧ clusters = [] ∧ cc.length = 1) := by
    rcases hcc' with h1 | ⟨e, hneed⟩
    · rw [hcc] at h1; exact Or.inl (Except.ok.inj h1).symm
    · simp only [Bool.or_eq_false_iff, decide_eq_false_iff_not, Bool.and_eq_false_iff, Bool.not_eq_false',
        List.isEmpty_iff] at hneed
      have hlen := withCores_length hcc
      by_cases h0 : cands = []
      · rw [h0] at hlen; exact Or.inl (e.trans (List.eq_nil_of_length_eq_zero hlen).symm)
      · have : cands.length ≠ 0 := fun e0 => h0 (List.eq_nil_of_length_eq_zero e0)
        exact Or.inr ⟨e, hneed.2.resolve_right h0, by omega⟩
  rcases hcase with rfl | ⟨rfl, rfl, hcc1⟩
  rotate_left
  · rw [findCross_noSpan (cc := []) _ _ _ (fun x hx => nomatch hx)] at hx
    cases hx
    refine ⟨fun g' hg' => ?_, fun g hg => nomatch (show g ∈ ([] : List (List Proto)) from hg)⟩
    exfalso
    obtain ⟨u, v, hbf, _, _⟩ := mem_overlapGroups.1 hg'
    simp only [interleaveUnits, protoUnits, List.map_nil, List.append_nil] at hbf
    obtain ⟨a, b, hab, _, _⟩ := before_of_map _ hbf
    have := before_length hab
    omega
  refine ⟨fun g' hg' => ?_, fun g hg => (findCross_desc hx g hg).imp (interleavedGroups_sound hn cc' g) ?_⟩
  · obtain ⟨g, hg, e⟩ := interleavedGroups_complete hn hne cc' g' hg'
    exact ⟨g, (findCross_spec hx).1 g hg, e⟩
  · rintro ⟨core, u0, h1, h2, h3, h4, h5⟩
    have hbm : ∀ p, p ∈ sortBy coreStartLt clusters ↔ p ∈ clusters := fun p => mem_sortBy _ _ _
    exact ⟨core, u0, h1, (hbm u0).1 h2, h3, h4, fun e he => (h5 e he).imp_right fun h6 => ⟨(hbm e).1 h6.1, h6.2⟩⟩

/-! ### where the defining genes come from

`mkProto` models `Record.add_protocluster` → `Protocluster.add_cds` (which stores the CORE genes of the
protocluster's product inside its core, also for a sideloaded protocluster) and the `definition_cdses`
property (the stored set for a rule-detected protocluster, always empty for a sideloaded one).  The
hybrid relation is over the property: a sideloaded protocluster shares a defining gene with nobody. -/

theorem mkProto_sideloaded_defs (id : Nat) (loc core : Loc) (product : String) (genes : List Gene) :
    (mkProto id loc core product true genes).defs = [] := rfl

theorem mem_mkProto_defs {id : Nat} {loc core : Loc} {product : String} {genes : List Gene} {g : Nat} :
    g ∈ (mkProto id loc core product false genes).defs ↔
      ∃ x, x ∈ genes ∧ x.id = g ∧ locationContainsOther loc x.loc = true ∧ locationContainsOther core x.loc = true ∧
        product ∈ x.coreProducts := by
  simp only [mkProto, definitionCdses, Bool.false_eq_true, if_false, storedDefs, List.mem_map, List.mem_filter,
    Bool.and_eq_true, List.contains_eq_mem, decide_eq_true_eq]
  constructor
  · rintro ⟨x, ⟨hx, ⟨h1, h2⟩, h3⟩, e⟩; exact ⟨x, hx, e, h1, h2, h3⟩
  · rintro ⟨x, hx, e, h1, h2, h3⟩; exact ⟨x, ⟨hx, ⟨h1, h2⟩, h3⟩, e⟩

theorem shares_nil_left {a b : Proto} (h : a.defs = []) : shares a b = false := by
  simp [shares, h]

theorem shares_nil_right {a b : Proto} (h : b.defs = []) : shares a b = false := by
  rw [shares_comm]; exact shares_nil_left h

/-- every member of a gene-sharing chain has a defining gene -/
theorem linked_share_defs {clusters : List Proto} {a b : Proto} (h : Linked (shareGroups clusters) a b) :
    a.defs ≠ [] ∧ b.defs ≠ [] := by
  induction h with
  | base hg ha hb =>
    obtain ⟨x, y, _, hs, e⟩ := mem_shareGroups.1 hg
    subst e
    have hx : x.defs ≠ [] := fun e => by rw [shares_nil_left e] at hs; cases hs
    have hy : y.defs ≠ [] := fun e => by rw [shares_nil_right e] at hs; cases hs
    have : ∀ z, z ∈ [x, y] → z.defs ≠ [] := by
      intro z hz
      rcases List.mem_cons.1 hz with e | e
      · rw [e]; exact hx
      · have : z = y := by simpa using e
        rw [this]; exact hy
    exact ⟨this _ ha, this _ hb⟩
  | trans _ _ ih1 ih2 => exact ⟨ih1.1, ih2.2⟩

/-- a protocluster without defining genes (every sideloaded one) is in a hybrid group only as a
    protocluster whose core lies inside the group's connected core, never through a shared gene -/
theorem no_defs_only_contained {clusters : List Proto} {wrap : Option Int} {hg : List (List Proto)} {un : List Proto}
    (h : findHybrids clusters wrap = .ok (hg, un)) (hn : clusters.Nodup) {p : Proto} (hp : p.defs = []) :
    ∀ g, g ∈ hg → p ∈ g → ∃ (m : List Proto) (core : Loc), p ∉ m ∧ 2 ≤ m.length ∧ (∀ x, x ∈ m → x ∈ g) ∧
      (∀ a b, a ∈ m → b ∈ m → Linked (shareGroups clusters) a b) ∧
      connect (m.map (·.core)) wrap = .ok core ∧ locationContainsOther core p.core = true := by
  intro g hg' hpg
  obtain ⟨m, core, hsub, htwo, hlinked, hcore, hfrom⟩ := (findHybrids_classes h hn).2 g hg'
  refine ⟨m, core, ?_, two_le_length htwo, hsub, hlinked, hcore, ?_⟩
  · intro hpm
    exact (linked_share_defs (hlinked p p hpm hpm)).1 hp
  · rcases hfrom p hpg with hpm | ⟨_, _, hcont⟩
    · exact absurd hp (linked_share_defs (hlinked p p hpm hpm)).1
    · exact hcont

end ASV.CC
