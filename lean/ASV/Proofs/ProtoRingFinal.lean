/-
  C03: on any circular record, the protoclusters `detect_protoclusters_and_signatures` reports have
  area cores, and two of the same rule are further apart than the rule's cutoff; for the superiors clause:
  for area cores "covers every base" is what `location_contains_other` tests, unless the covering core is the
  whole ring written as two touching parts.
-/
import ASV.Proofs.ProtoRingSep
namespace ASV.Proto
open ASV ASV.Rules ASV.Chains

theorem clustersOfRule_ring_area (r : Rec) (hcirc : r.circular = true) (hL : 0 < r.len) (rule : RuleM)
    (anchors : List Gene) (hgenes : ∀ g ∈ r.genes, RingIn r.len g.loc) (found : List PC)
    (hfound : clustersOfRule r rule anchors = .ok found) : ∀ pc ∈ found, RingArea r.len pc.core := by
  obtain ⟨cores, hc, hp⟩ := clustersOfRule_ok r rule anchors found hfound
  obtain ⟨c1, _⟩ := findCores_ring_cover r hcirc hL rule.cutoff _ cores
    (forall_anchor_locs r anchors fun g hg _ => hgenes g hg) hc
  intro pc hpc
  obtain ⟨core, hcore, s, _, rfl⟩ := hp.exists_left pc hpc
  exact c1 core hcore

theorem applyExtenders_ring_area (within : Lookup) (r : Rec) (hcirc : r.circular = true) (hL : 0 < r.len)
    (rules : List RuleM) (hgenes : ∀ g ∈ r.genes, RingIn r.len g.loc) (clusters ext : List PC) (d : Doms)
    (harea : ∀ pc ∈ clusters, RingArea r.len pc.core) (h : applyExtenders within r rules clusters = .ok (ext, d)) :
    ∀ pc ∈ ext, RingArea r.len pc.core := by
  simp only [applyExtenders, bind, Except.bind] at h
  cases hm : clusters.mapM (extendCluster within r rules) with
  | error e => simp [hm] at h
  | ok out =>
    simp only [hm, pure, Except.pure, Except.ok.injEq, Prod.mk.injEq] at h
    obtain ⟨rfl, _⟩ := h
    intro pc hpc
    obtain ⟨x, hx, rfl⟩ := List.mem_map.1 hpc
    obtain ⟨pc0, hpc0, hf⟩ := mapM_ok_mem _ clusters out hm x hx
    exact (extendCluster_ring_area within r hcirc hL rules hgenes pc0 x.1 x.2 (harea pc0 hpc0) hf).1

/-- whenever the pipeline returns on a circular record with valid ring genes, every reported core is an area and two
    reported protoclusters of one rule are `FarApart` by that rule's cutoff -/
theorem detectStages_ring (within : Lookup) (r : Rec) (hcirc : r.circular = true) (hL : 0 < r.len) (rules : List RuleM)
    (hrules : ∀ name rule, findRule rules name = .ok rule → 0 ≤ rule.cutoff ∧ rule.cutoff ≤ r.len)
    (hgenes : ∀ g ∈ r.genes, RingIn r.len g.loc) (s : Stages) (h : detectStages within r rules = .ok s) :
    (∀ o ∈ s.final, RingArea r.len o.pc.core) ∧
    (s.final.map (·.pc)).Pairwise (fun p q => p.rule = q.rule → ∀ rule, findRule rules p.rule = .ok rule →
      FarApart r.len rule.cutoff p.core q.core) := by
  cases hne : r.genes.isEmpty with
  | true =>
    unfold detectStages at h
    simp only [hne, if_true, pure, Except.pure, Except.ok.injEq] at h
    subst h
    exact ⟨(by intro o ho; cases ho), List.Pairwise.nil⟩
  | false =>
    obtain ⟨res, found0, found, ext0, d, ext, kept, hf0, hf, hext, hm, hk, hfin⟩ :=
      detectStages_ok within r rules s hne h
    have a0 : ∀ pc ∈ found0.flatten, RingArea r.len pc.core := by
      intro pc hpc
      obtain ⟨l, hl, hpcl⟩ := List.mem_flatten.1 hpc
      obtain ⟨x, _, hfx⟩ := mapM_ok_mem _ _ found0 hf0 l hl
      simp only [bind, Except.bind] at hfx
      cases hr : findRule rules x.1 with
      | error e => simp [hr] at hfx
      | ok rule =>
        simp only [hr] at hfx
        exact clustersOfRule_ring_area r hcirc hL rule x.2 hgenes l hfx pc hpcl
    have a1 := (mergeOverOrigin_ring r hcirc hL rules hrules _ found a0 hf).1
    have a2 := applyExtenders_ring_area within r hcirc hL rules hgenes found ext0 d (fun pc hpc => (a1 pc hpc).1) hext
    obtain ⟨m1, m2, _⟩ := mergeOverOrigin_ring r hcirc hL rules hrules ext0 ext a2 hm
    have hsub := (filterE_ok _ ext kept hk).1
    rw [hfin]
    refine ⟨?_, List.Pairwise.sublist hsub m2⟩
    intro o ho
    have : o.pc ∈ kept := by rw [← hfin]; exact List.mem_map.2 ⟨o, ho, rfl⟩
    exact (m1 _ (hsub.subset this)).1

/-! ### the superiors clause on a ring -/

/-- a non-empty part all of whose bases lie in an area lies inside one part of it — unless the area is the
    whole ring written as two touching parts, where a part may straddle the seam -/
theorem part_inside_area (L : Int) (outer : Loc) (ho : RingArea L outer)
    (hnt : ∀ a b, outer = .compound [⟨a, L, .fwd⟩, ⟨0, b, .fwd⟩] → b < a) (q : Part) (hq : q.lo < q.hi)
    (hc : ∀ i, q.lo ≤ i → i < q.hi → outer.mem i = true) :
    (outer.parts.any fun p => partContains p q) = true := by
  have h1 := hc q.lo (Int.le_refl _) hq
  have h2 := hc (q.hi - 1) (by omega) (by omega)
  obtain ⟨p, rfl, _, _, _⟩ | ⟨a, b, rfl, hb0, hba, haL⟩ := ho.shape
  · rw [mem_simple] at h1 h2
    simp only [Loc.parts, List.any_cons, List.any_nil, Bool.or_false, partContains, Bool.and_eq_true, decide_eq_true_eq]
    omega
  · have hlt := hnt a b rfl
    rw [mem_two] at h1 h2
    simp only [Loc.parts, List.any_cons, List.any_nil, Bool.or_false, partContains, Bool.and_eq_true,
      decide_eq_true_eq, Bool.or_eq_true]
    simp only at h1 h2
    -- `q` cannot reach from `[0, b)` into `[a, L)`: the base `b` between them is not in the area
    by_cases hb : q.lo < b ∧ b < q.hi
    · have h3 := hc b (by omega) hb.2
      rw [mem_two] at h3
      simp only at h3
      omega
    · omega

/-- on a ring, an area core that covers every base of another area core contains it in the sense of
    `location_contains_other` (each part of the inner one inside one part of the outer one), provided the
    outer one is not the whole ring split into two touching parts -/
theorem contains_of_covers_ring (L : Int) (outer inner : Loc) (ho : RingArea L outer) (hi : RingArea L inner)
    (hnt : ∀ a b, outer = .compound [⟨a, L, .fwd⟩, ⟨0, b, .fwd⟩] → b < a) (hc : Covers outer inner) :
    locationContainsOther outer inner = true := by
  simp only [locationContainsOther, List.all_eq_true]
  intro q hq
  refine part_inside_area L outer ho hnt q (hi.partsNonEmpty q hq) fun i h1 h2 => hc i ?_
  simp only [Loc.mem, List.any_eq_true, Part.mem_iff]
  exact ⟨q, hq, h1, h2⟩

/-- what `remove_redundant_protoclusters` keeps was judged not redundant against its whole input -/
theorem removeRedundant_kept (within : Lookup) (rules : List RuleM) (clusters kept : List PC)
    (h : removeRedundant within rules clusters = .ok kept) :
    kept.Sublist clusters ∧ ∀ pc ∈ kept, isRedundant within rules clusters pc = .ok false := by
  refine ⟨(filterE_ok _ clusters kept h).1, ?_⟩
  intro pc hpc
  have := (filterE_ok _ clusters kept h).2 pc hpc
  simp only [bind, Except.bind] at this
  cases hr : isRedundant within rules clusters pc with
  | error e => simp [hr] at this
  | ok b =>
    simp only [hr, pure, Except.pure, Except.ok.injEq] at this
    cases b with
    | true => simp at this
    | false => rfl

end ASV.Proto
