/-
  C16: the scanners that stand for the regular expressions of `_shorten_ids` agree with the
  declarative (backtracking) meaning of the patterns.
-/
import ASV.Proofs.Ids

theorem List.takeWhile_dropWhile_append {α} {p : α → Bool} {ds rest : List α} (hd : ∀ c ∈ ds, p c = true)
    (hr : rest = [] ∨ ∃ c tl, rest = c :: tl ∧ p c = false) :
    (ds ++ rest).takeWhile p = ds ∧ (ds ++ rest).dropWhile p = rest := by
  rw [List.takeWhile_append_of_pos hd, List.dropWhile_append_of_pos hd]
  rcases hr with rfl | ⟨c, tl, rfl, hc⟩
  · simp
  · simp [hc]

namespace ASV.Ids

/-- the declarative (backtracking) meaning of `(\d+)\b` anchored at the head of `s`, given that the
    match is preceded by anything: `ds` is a non-empty run of digits that is a prefix of `s`, and
    there is a word boundary after it — the last digit is a word character, so the next
    character must not be one (or the string ends) -/
def MatchDigitsB (s ds : Str) : Prop :=
  ds ≠ [] ∧ (∀ c ∈ ds, c.isDigit = true) ∧ ∃ rest, s = ds ++ rest ∧ (rest = [] ∨ ∃ c tl, rest = c :: tl ∧ isWord c = false)

theorem isWord_of_isDigit {c : Char} (h : c.isDigit = true) : isWord c = true := by
  unfold isWord Char.isAlphanum
  simp [h]

/-- the scanner finds exactly the declarative matches: in particular the match is unique (greedy =
    the only candidate, no success by backtracking) -/
theorem digitsThenBoundary_iff (s ds : Str) : digitsThenBoundary s = some ds ↔ MatchDigitsB s ds := by
  constructor
  · intro h
    unfold digitsThenBoundary at h
    dsimp only at h
    by_cases hne : (s.takeWhile Char.isDigit).isEmpty = true
    · rw [if_pos hne] at h
      exact nomatch h
    · rw [if_neg hne] at h
      have hne' : s.takeWhile Char.isDigit ≠ [] := fun e => hne (List.isEmpty_iff.mpr e)
      have hall : ∀ c ∈ s.takeWhile Char.isDigit, c.isDigit = true := fun c hc => List.all_eq_true.mp List.all_takeWhile c hc
      have hsplit : s = s.takeWhile Char.isDigit ++ s.dropWhile Char.isDigit := (List.takeWhile_append_dropWhile).symm
      cases hrest : s.dropWhile Char.isDigit with
      | nil =>
        rw [hrest] at h hsplit
        obtain rfl := Option.some.inj h
        exact ⟨hne', hall, [], hsplit, Or.inl rfl⟩
      | cons c tl =>
        rw [hrest] at h hsplit
        dsimp only at h
        by_cases hw : isWord c = true
        · rw [if_pos hw] at h
          exact nomatch h
        · rw [if_neg hw] at h
          obtain rfl := Option.some.inj h
          exact ⟨hne', hall, c :: tl, hsplit, Or.inr ⟨c, tl, rfl, Bool.eq_false_iff.mpr hw⟩⟩
  · rintro ⟨hne, hall, rest, rfl, hrest⟩
    have hr' : rest = [] ∨ ∃ c tl, rest = c :: tl ∧ Char.isDigit c = false :=
      hrest.imp_right fun ⟨c, tl, h, hw⟩ =>
        ⟨c, tl, h, Bool.eq_false_iff.mpr fun hd => Bool.false_ne_true (hw.symm.trans (isWord_of_isDigit hd))⟩
    obtain ⟨ht, hdr⟩ := List.takeWhile_dropWhile_append hall hr'
    unfold digitsThenBoundary
    simp only [ht, hdr]
    have : ds.isEmpty = false := by cases ds with | nil => exact absurd rfl hne | cons _ _ => rfl
    simp only [this]
    rcases hrest with rfl | ⟨c, tl, rfl, hw⟩
    · simp
    · simp [hw]

/-- `x?P`: skip nothing or consume one `x`, then `P` -/
def OptThen (x : Char) (P : Str → Prop) (r : Str) : Prop := ∃ r1, (r1 = r ∨ r = x :: r1) ∧ P r1

/-- when what follows starts with a character of a class `ok` that excludes `x`, the optional
    character has to be consumed if it is there: `x?P` means `P` after `optChar x` -/
theorem optThen_iff {x : Char} {P : Str → Prop} {ok : Char → Prop}
    (hP : ∀ t, P t → ∃ c tl, t = c :: tl ∧ ok c) (hx : ¬ ok x) (r : Str) : OptThen x P r ↔ P (optChar x r) := by
  unfold OptThen
  cases r with
  | nil =>
    simp only [optChar]
    constructor
    · rintro ⟨r1, h | h, hp⟩
      · exact h ▸ hp
      · exact nomatch h
    · exact fun hp => ⟨[], Or.inl rfl, hp⟩
  | cons c cs =>
    by_cases hc : c = x
    · subst hc
      simp only [optChar, beq_self_eq_true, if_true]
      constructor
      · rintro ⟨r1, h | h, hp⟩
        · subst h
          obtain ⟨d, tl, e, hd⟩ := hP _ hp
          exact absurd ((List.cons.inj e).1 ▸ hd) hx
        · exact (List.cons.inj h).2 ▸ hp
      · exact fun hp => ⟨cs, Or.inr rfl, hp⟩
    · have hcx : (c == x) = false := beq_false_of_ne hc
      simp only [optChar, hcx]
      constructor
      · rintro ⟨r1, h | h, hp⟩
        · exact h ▸ hp
        · exact absurd (List.cons.inj h).1 hc
      · exact fun hp => ⟨c :: cs, Or.inl rfl, hp⟩

/-- … and what `x?P` matches starts with a character of the class widened by `x` -/
theorem optThen_head {x : Char} {P : Str → Prop} {ok : Char → Prop}
    (hP : ∀ t, P t → ∃ c tl, t = c :: tl ∧ ok c) (t : Str) (h : OptThen x P t) :
    ∃ c tl, t = c :: tl ∧ (ok c ∨ c = x) := by
  obtain ⟨r1, h | h, hp⟩ := h
  · obtain ⟨c, tl, e, hc⟩ := hP _ hp
    exact ⟨c, tl, h ▸ e, Or.inl hc⟩
  · exact ⟨x, r1, h, Or.inr rfl⟩

theorem matchDigitsB_head {ds : Str} (s : Str) (h : MatchDigitsB s ds) : ∃ d tl, s = d :: tl ∧ d.isDigit = true := by
  obtain ⟨hne, hall, rest, rfl, _⟩ := h
  cases ds with
  | nil => exact absurd rfl hne
  | cons d tl => exact ⟨d, tl ++ rest, rfl, hall d List.mem_cons_self⟩

/-- the declarative meaning of `onti?g?(\d+)\b` anchored at the head of `s` -/
def MatchContig (s ds : Str) : Prop :=
  ∃ r, s = 'o' :: 'n' :: 't' :: r ∧ OptThen 'i' (OptThen 'g' (fun r2 => MatchDigitsB r2 ds)) r

theorem matchContigAt_iff (s ds : Str) : matchContigAt s = some ds ↔ MatchContig s ds := by
  -- heads: after `g?` a digit or g, which `i` is not
  have h0 := matchDigitsB_head (ds := ds)
  have h1 := optThen_head (x := 'g') h0
  have key : ∀ r, OptThen 'i' (OptThen 'g' (fun r2 => MatchDigitsB r2 ds)) r ↔
      digitsThenBoundary (optChar 'g' (optChar 'i' r)) = some ds := by
    intro r
    rw [optThen_iff h1 (by decide), optThen_iff h0 (by decide), digitsThenBoundary_iff]
  unfold MatchContig
  constructor
  · intro h
    unfold matchContigAt at h
    split at h
    · rename_i r
      exact ⟨r, rfl, (key r).mpr h⟩
    · exact nomatch h
  · rintro ⟨r, rfl, h⟩
    exact (key r).mp h

/-- the declarative meaning of `caff?o?l?d?(\d+)\b` anchored at the head of `s` -/
def MatchScaffold (s ds : Str) : Prop :=
  ∃ r, s = 'c' :: 'a' :: 'f' :: r ∧
    OptThen 'f' (OptThen 'o' (OptThen 'l' (OptThen 'd' (fun r2 => MatchDigitsB r2 ds)))) r

theorem matchScaffoldAt_iff (s ds : Str) : matchScaffoldAt s = some ds ↔ MatchScaffold s ds := by
  -- heads: after `d?` a digit or d; after `l?` a digit, d or l; …  — never the letter that is optional before
  have h0 := matchDigitsB_head (ds := ds)
  have h1 := optThen_head (x := 'd') h0
  have h2 := optThen_head (x := 'l') h1
  have h3 := optThen_head (x := 'o') h2
  have key : ∀ r, OptThen 'f' (OptThen 'o' (OptThen 'l' (OptThen 'd' (fun r2 => MatchDigitsB r2 ds)))) r ↔
      digitsThenBoundary (optChar 'd' (optChar 'l' (optChar 'o' (optChar 'f' r)))) = some ds := by
    intro r
    rw [optThen_iff h3 (by decide), optThen_iff h2 (by decide), optThen_iff h1 (by decide),
      optThen_iff h0 (by decide), digitsThenBoundary_iff]
  unfold MatchScaffold
  constructor
  · intro h
    unfold matchScaffoldAt at h
    split at h
    · rename_i r
      exact ⟨r, rfl, (key r).mpr h⟩
    · exact nomatch h
  · rintro ⟨r, rfl, h⟩
    exact (key r).mp h

theorem searchFrom_of_head {m : Str → Option Str} {s r : Str} (h : m s = some r) : searchFrom m s = some r := by
  cases s with
  | nil => exact h
  | cons c cs => simp only [searchFrom, h]

/-- `re.search` with a one-candidate-per-position matcher: the result is the match at the
    leftmost start position that has one -/
theorem searchFrom_iff (m : Str → Option Str) (r s : Str) : searchFrom m s = some r ↔
    ∃ pre suf, s = pre ++ suf ∧ m suf = some r ∧
      ∀ pre' suf', s = pre' ++ suf' → pre'.length < pre.length → m suf' = none := by
  constructor
  · intro h
    induction s with
    | nil => exact ⟨[], [], rfl, h, fun _ _ _ hl => absurd hl (Nat.not_lt_zero _)⟩
    | cons c cs ih =>
      unfold searchFrom at h
      cases hmc : m (c :: cs) with
      | some x =>
        rw [hmc] at h
        exact ⟨[], c :: cs, rfl, hmc.trans h, fun _ _ _ hl => absurd hl (Nat.not_lt_zero _)⟩
      | none =>
        rw [hmc] at h
        obtain ⟨pre, suf, hs, hm, hmin⟩ := ih h
        refine ⟨c :: pre, suf, congrArg (c :: ·) hs, hm, fun pre' suf' hs' hl => ?_⟩
        cases pre' with
        | nil => exact (List.nil_append suf' ▸ hs') ▸ hmc
        | cons p ps => exact hmin ps suf' (List.cons.inj hs').2 (Nat.lt_of_succ_lt_succ hl)
  · rintro ⟨pre, suf, rfl, hm, hmin⟩
    induction pre with
    | nil => exact searchFrom_of_head hm
    | cons p ps ih =>
      have h0 : m (p :: (ps ++ suf)) = none := hmin [] _ rfl (Nat.succ_pos _)
      rw [List.cons_append, searchFrom, h0]
      exact ih fun pre' suf' hs' hl => hmin (p :: pre') suf' (congrArg (p :: ·) hs') (Nat.succ_lt_succ hl)

end ASV.Ids
