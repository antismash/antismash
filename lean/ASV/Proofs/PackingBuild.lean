/-
  C19: `build_area_rows` as a whole — heights separate the rows, the
  emitted list is in range, same-row areas are disjoint, and the list reads back as exactly the
  features to draw.
-/
import ASV.Proofs.PackingRows
import ASV.Proofs.PackingAreaCases
namespace ASV.Packing
open ASV ASV.Packing.Spec

theorem withHeights_fst : ∀ (rows : List Row) (h : Int),
    (withHeights rows h).map Prod.fst = allContents rows
  | [], _ => rfl
  | r :: rs, h => by
    simp [withHeights, withHeights_fst rs (h + 2), List.map_append, Function.comp_def]

theorem withHeights_ge : ∀ (rows : List Row) (h : Int), ∀ x ∈ withHeights rows h, h ≤ x.2
  | [], _, x, hx => by simp [withHeights] at hx
  | r :: rs, h, x, hx => by
    simp only [withHeights, List.mem_append, List.mem_map] at hx
    rcases hx with ⟨f, _, rfl⟩ | hx
    · simp
    · have := withHeights_ge rs (h + 2) x hx
      omega

theorem withHeights_lt : ∀ (rows : List Row) (h : Int), ∀ x ∈ withHeights rows h,
    x.2 < h + 2 * (rows.length : Int)
  | [], _, x, hx => by simp [withHeights] at hx
  | r :: rs, h, x, hx => by
    simp only [withHeights, List.mem_append, List.mem_map] at hx
    rcases hx with ⟨f, _, rfl⟩ | hx
    · simp only [List.length_cons]; omega
    · have := withHeights_lt rs (h + 2) x hx
      simp only [List.length_cons]; omega

theorem withHeights_mem : ∀ (rows : List Row) (h : Int), ∀ x ∈ withHeights rows h,
    ∃ r ∈ rows, x.1 ∈ r.contents
  | [], _, x, hx => by simp [withHeights] at hx
  | r :: rs, h, x, hx => by
    simp only [withHeights, List.mem_append, List.mem_map] at hx
    rcases hx with ⟨f, hf, rfl⟩ | hx
    · exact ⟨r, by simp, hf⟩
    · obtain ⟨r', hr', hm⟩ := withHeights_mem rs (h + 2) x hx
      exact ⟨r', by simp [hr'], hm⟩

/-- features drawn at the same height are apart on the ring -/
def SeqOK (seq : List (Feat × Int)) : Prop :=
  seq.Pairwise fun x y => x.2 = y.2 → Apart x.1.loc y.1.loc

theorem withHeights_seqOK {L : Int} : ∀ (rows : List Row) (h : Int),
    (∀ r ∈ rows, RowInv L r) → SeqOK (withHeights rows h)
  | [], _, _ => by simp [withHeights, SeqOK]
  | r :: rs, h, hinv => by
    simp only [SeqOK, withHeights]
    rw [List.pairwise_append]
    refine ⟨?_, withHeights_seqOK rs (h + 2) (fun x hx => hinv x (by simp [hx])), ?_⟩
    · rw [List.pairwise_map]
      refine (hinv r (by simp)).apart.imp ?_
      intro a b hab _
      exact hab
    · intro x hx y hy heq
      simp only [List.mem_map] at hx
      obtain ⟨f, _, rfl⟩ := hx
      have := withHeights_ge rs (h + 2) y hy
      simp only at heq
      omega

theorem emission_some {r : RegionIn} {seq : List (Feat × Int)} (h : emission r = some seq) :
    ∃ subRows candRows protoRows hb,
      pack r.subregions = some subRows ∧ pack (shownCandidates r) = some candRows ∧
      pack r.protos = some protoRows ∧ 2 * ((candRows ++ subRows).length : Int) ≤ hb ∧
      seq = withHeights (candRows ++ subRows) 0 ++ withHeights protoRows hb := by
  simp only [emission, bind, Option.bind_eq_some_iff, pure, Option.some.injEq] at h
  obtain ⟨subRows, h1, candRows, h2, protoRows, h3, rfl⟩ := h
  refine ⟨subRows, candRows, protoRows, _, h1, h2, h3, ?_, rfl⟩
  split <;> omega

theorem emission_isSome {L : Int} (r : RegionIn)
    (h1 : ∀ a ∈ r.subregions, collOK L a.loc = true) (h2 : ∀ a ∈ r.candidates, collOK L a.loc = true)
    (h3 : ∀ a ∈ r.protos, collOK L a.loc = true) : ∃ seq, emission r = some seq := by
  obtain ⟨subRows, e1⟩ := pack_isSome r.subregions (-1) fun a ha => collOK_start_nonneg (h1 a ha)
  obtain ⟨candRows, e2⟩ := pack_isSome (shownCandidates r) (-1) fun a ha =>
    collOK_start_nonneg (h2 a (by simp only [shownCandidates, List.mem_filter] at ha; exact ha.1))
  obtain ⟨protoRows, e3⟩ := pack_isSome r.protos (-1) fun a ha => collOK_start_nonneg (h3 a ha)
  simp only [emission, e1, e2, e3, bind, Option.bind_some, pure]
  exact ⟨_, rfl⟩

theorem emission_seqOK {L : Int} {r : RegionIn} {seq : List (Feat × Int)}
    (h1 : ∀ a ∈ r.subregions, collOK L a.loc = true) (h2 : ∀ a ∈ r.candidates, collOK L a.loc = true)
    (h3 : ∀ a ∈ r.protos, collOK L a.loc = true) (h : emission r = some seq) : SeqOK seq := by
  obtain ⟨subRows, candRows, protoRows, hb, e1, e2, e3, hhb, rfl⟩ := emission_some h
  have i1 := pack_inv r.subregions (-1) subRows h1 e1
  have i2 := pack_inv (shownCandidates r) (-1) candRows (fun a ha =>
    h2 a (by simp only [shownCandidates, List.mem_filter] at ha; exact ha.1)) e2
  have i3 := pack_inv r.protos (-1) protoRows h3 e3
  have iu : ∀ x ∈ candRows ++ subRows, RowInv L x := by
    intro x hx
    simp only [List.mem_append] at hx
    rcases hx with hx | hx
    · exact i2 x hx
    · exact i1 x hx
  simp only [SeqOK]
  rw [List.pairwise_append]
  refine ⟨withHeights_seqOK _ 0 iu, withHeights_seqOK _ hb i3, ?_⟩
  intro x hx y hy heq
  have a1 := withHeights_lt _ 0 x hx
  have a2 := withHeights_ge _ hb y hy
  omega

theorem emission_perm {r : RegionIn} {seq : List (Feat × Int)} (h : emission r = some seq) :
    (seq.map Prod.fst).Perm (toDraw r) := by
  obtain ⟨subRows, candRows, protoRows, hb, e1, e2, e3, _, rfl⟩ := emission_some h
  have p1 := pack_perm _ _ _ e1
  have p2 := pack_perm _ _ _ e2
  have p3 := pack_perm _ _ _ e3
  simp only [List.map_append, withHeights_fst, toDraw]
  have hc : allContents (candRows ++ subRows) = allContents candRows ++ allContents subRows := by
    simp [allContents]
  rw [hc]
  have hfilter : (r.candidates.filter fun c => !(r.subregions.isEmpty && c.single)) = shownCandidates r := by
    simp only [shownCandidates]
    apply List.filter_congr
    intro x _
    cases r.subregions.isEmpty <;> cases x.single <;> rfl
  rw [hfilter]
  exact (p2.append p1).append p3

theorem emission_feats {c : Ctx} {r : RegionIn} {seq : List (Feat × Int)} (hin : inputOK c r = true)
    (h : emission r = some seq) : ∀ x ∈ seq, featOK c x.1 = true := by
  intro x hx
  have hm : x.1 ∈ toDraw r := (emission_perm h).subset (List.mem_map_of_mem hx)
  simp only [inputOK, Bool.and_eq_true, List.all_eq_true] at hin
  simp only [toDraw, List.mem_append, List.mem_filter] at hm
  rcases hm with (⟨hm, _⟩ | hm) | hm
  · exact hin.1.2 _ hm
  · exact hin.1.1.2 _ hm
  · exact hin.2 _ hm

theorem sep_of_apart {c : Ctx} {f g : Feat} {h h' gid gid' : Int} {as bs : List Area}
    (ga : Good c f h gid as) (gb : Good c g h' gid' bs) (hap : Apart f.loc g.loc) :
    ∀ a ∈ as, ∀ b ∈ bs, a.nend ≤ b.nstart ∨ b.nend ≤ a.nstart := by
  intro a ha b hb
  obtain ⟨hna, hpa⟩ := ga.points a ha
  obtain ⟨hnb, hpb⟩ := gb.points b hb
  by_cases hcon : a.nend ≤ b.nstart ∨ b.nend ≤ a.nstart
  · exact hcon
  · exfalso
    have hx1 := hpa (max a.nstart b.nstart) (by omega) (by omega)
    have hx2 := hpb (max a.nstart b.nstart) (by omega) (by omega)
    exact hap.not_sharesBase ⟨_, hx1, hx2⟩

/-- what is known of the areas `out` converted from the emission sequence `seq`, the first feature
    getting clone id `k + 1` -/
structure BuildOK (c : Ctx) (seq : List (Feat × Int)) (k : Nat) (out : List Area) : Prop where
  /-- every area belongs to the areas of one feature of the sequence, which are `Good`; the clone
      id is not 0, so that an area with group 0 can only be one drawn whole -/
  src : ∀ a ∈ out, ∃ x ∈ seq, ∃ gid as, gid ≠ 0 ∧ Good c x.1 x.2 gid as ∧ a ∈ as
  /-- the list reads back as the features of the sequence, in order, the split ones with distinct
      group ids -/
  parse : ∃ ds, parseGo none out = some ds ∧
    ds.mapM (Drawn.shown c.L) = some (seq.map fun x => expectedShown x.1) ∧
    IdsAbove k (ds.filterMap Drawn.groupId)
  /-- areas at one height do not overlap -/
  sep : out.Pairwise Sep

theorem good_height {c : Ctx} {f : Feat} {h gid : Int} {as : List Area} (g : Good c f h gid as) :
    ∀ a ∈ as, a.height = h := g.height

/-- induction over the emission sequence: the areas of the head feature are `Good` (`areasOf_good`)
    and carry clone id `k + 1`, below every id of the tail; they are separated from the tail's areas
    at the same height because such features are apart on the ring (`SeqOK`, `sep_of_apart`) -/
theorem convertAll_ok {c : Ctx} (hc : regionOK c = true) : ∀ (seq : List (Feat × Int)) (k : Nat),
    (∀ x ∈ seq, featOK c x.1 = true) → SeqOK seq → ∃ out, convertAll c seq k = some out ∧ BuildOK c seq k out
  | [], k, _, _ => ⟨[], rfl, ⟨by simp, ⟨[], by simp [parseGo], by simp, by simp [IdsAbove]⟩, by simp⟩⟩
  | (f, h) :: rest, k, hall, hseq => by
    simp only [SeqOK, List.pairwise_cons] at hseq
    obtain ⟨more, hmore, bok⟩ := convertAll_ok hc rest (k + 1) (fun x hx => hall x (by simp [hx])) hseq.2
    obtain ⟨here, hhere, good⟩ := areasOf_good hc (hall (f, h) (by simp)) h ((k : Int) + 1)
    have hhere' : areasOf c f h (↑k + 1) = some here := hhere
    refine ⟨here ++ more, ?_, ?_, ?_, ?_⟩
    · simp [convertAll, hhere', hmore, bind, pure]
    · intro a ha
      simp only [List.mem_append] at ha
      rcases ha with ha | ha
      · exact ⟨(f, h), by simp, _, here, by omega, good, ha⟩
      · obtain ⟨x, hx, gid, as, hg, g, hm⟩ := bok.src a ha
        exact ⟨x, by simp [hx], gid, as, hg, g, hm⟩
    · obtain ⟨ds, hp, hs, hids⟩ := bok.parse
      rcases good.drawn with ⟨a, rfl, hg0, hsh⟩ | ⟨a, b, rfl, hga, hgb, hsh, _⟩
      · refine ⟨Drawn.whole a :: ds, ?_, ?_, hids.whole⟩
        · simp [parseGo, hg0, hp]
        · simp [List.mapM_cons, hsh, hs, bind, pure]
      · have hk : ¬ ((k : Int) + 1 = 0) := by omega
        refine ⟨Drawn.halves a b :: ds, ?_, ?_, ?_⟩
        · simp [parseGo, hga, hgb, hp, hk]
        · simp [List.mapM_cons, hsh, hs, bind, pure]
        · simp only [List.filterMap_cons, Drawn.groupId, hga]
          exact hids.halves
    · -- same-row areas: the two halves of one feature, or areas of features apart on the ring
      rw [List.pairwise_append]
      refine ⟨?_, bok.sep, ?_⟩
      · rcases good.drawn with ⟨a, rfl, _⟩ | ⟨a, b, rfl, _, _, _, hsep⟩
        · simp
        · simp only [List.pairwise_cons, List.mem_singleton, forall_eq, List.not_mem_nil,
            false_imp_iff, implies_true, List.Pairwise.nil, and_true]
          intro _; right; exact hsep
      · intro a ha b hb hheq
        obtain ⟨x, hx, gid, as, _, g, hm⟩ := bok.src b hb
        have h1 := good.height a ha
        have h2 := g.height b hm
        have hap := hseq.1 x hx (by show h = x.2; omega)
        exact sep_of_apart good g hap a ha b hm

theorem build_some {c : Ctx} {r : RegionIn} {out : List Area} (h : buildAreaRows c r = some out) :
    ∃ seq, emission r = some seq ∧ convertAll c seq 0 = some out := by
  simp only [buildAreaRows, bind, Option.bind_eq_some_iff] at h
  exact h

theorem inputOK_parts {c : Ctx} {r : RegionIn} (hin : inputOK c r = true) :
    regionOK c = true ∧ (∀ a ∈ r.subregions, collOK c.L a.loc = true) ∧
    (∀ a ∈ r.candidates, collOK c.L a.loc = true) ∧ (∀ a ∈ r.protos, collOK c.L a.loc = true) := by
  simp only [inputOK, Bool.and_eq_true, List.all_eq_true] at hin
  have hf : ∀ a, featOK c a = true → collOK c.L a.loc = true := by
    intro a ha
    simp only [featOK, Bool.and_eq_true] at ha
    exact ha.1.1.1
  exact ⟨hin.1.1.1, fun a ha => hf a (hin.1.1.2 a ha), fun a ha => hf a (hin.1.2 a ha),
    fun a ha => hf a (hin.2 a ha)⟩

/-- `build_area_rows` succeeds on a well-formed region, and its run is known: the emission sequence
    it converts and what `convertAll_ok` says of the result -/
theorem build_run {c : Ctx} {r : RegionIn} (hin : inputOK c r = true) :
    ∃ seq out, emission r = some seq ∧ buildAreaRows c r = some out ∧ BuildOK c seq 0 out ∧ SeqOK seq := by
  obtain ⟨hc, h1, h2, h3⟩ := inputOK_parts hin
  obtain ⟨seq, hseq⟩ := emission_isSome r h1 h2 h3
  have hok := emission_seqOK h1 h2 h3 hseq
  obtain ⟨out, hout, bok⟩ := convertAll_ok hc seq 0 (emission_feats hin hseq) hok
  exact ⟨seq, out, hseq, by simp [buildAreaRows, hseq, hout, bind], bok, hok⟩

theorem build_ok {c : Ctx} {r : RegionIn} {out : List Area} (hin : inputOK c r = true)
    (h : buildAreaRows c r = some out) : ∃ seq, emission r = some seq ∧ BuildOK c seq 0 out ∧ SeqOK seq := by
  obtain ⟨seq, out', hseq, h', bok, hok⟩ := build_run hin
  obtain rfl : out' = out := Option.some.inj (h'.symm.trans h)
  exact ⟨seq, hseq, bok, hok⟩

/-- an area without a group id is the one area drawn for its feature -/
theorem whole_area_src {c : Ctx} {r : RegionIn} {out : List Area} (hin : inputOK c r = true)
    (h : buildAreaRows c r = some out) {a : Area} (ha : a ∈ out) (hg : a.group = 0) :
    ∃ f ∈ toDraw r, featOK c f = true ∧ ∃ hgt gid, Good c f hgt gid [a] ∧
      Drawn.shown c.L (.whole a) = some (expectedShown f) := by
  obtain ⟨seq, hseq, bok, _⟩ := build_ok hin h
  obtain ⟨x, hx, gid, as, hgid, good, hm⟩ := bok.src a ha
  refine ⟨x.1, (emission_perm hseq).subset (List.mem_map_of_mem hx), emission_feats hin hseq x hx, x.2, gid, ?_⟩
  rcases good.drawn with ⟨a', rfl, _, hsh⟩ | ⟨a', b', rfl, hga, hgb, _⟩
  · rw [List.mem_singleton] at hm
    subst hm
    exact ⟨good, hsh⟩
  · simp only [List.mem_cons, List.not_mem_nil, or_false] at hm
    rcases hm with rfl | rfl <;> omega

end ASV.Packing
