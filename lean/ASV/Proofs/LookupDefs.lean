/-
  Every call of a `runLoose` history adds exactly the pairs to the definition sets that the spec's
  replay (`specDefsAfter`) adds for it.
-/
import ASV.Proofs.LookupHist
namespace ASV.Lookup
open ASV

/-- what `add_cds` decides on its way down a collection tree is what the spec decides from the tree's nodes -/
theorem down_defines_iff {g : Gene} (hg : LocOK g.loc) {a : AreaT} (hin : KidsInside a) (d : AreaT) :
    (∃ s, containedBy g.loc a.loc = true ∧ (d, s) ∈ downNodes g none a ∧ defines g d = true) ↔
      (d ∈ nodes a ∧ specContained g.loc a.loc = true ∧ specDefines g d = true) := by
  have hle := LocOK.parts_le hg
  constructor
  · rintro ⟨s, hc, hd, hdef⟩
    obtain ⟨h1, h2⟩ := downNodes_sound hc hd
    simp only [defines, Bool.and_eq_true, beq_iff_eq] at hdef
    refine ⟨h2, by rw [← containedBy_eq_spec hle]; exact hc, ?_⟩
    simp only [specDefines, Bool.and_eq_true, beq_iff_eq]
    exact ⟨⟨⟨hdef.1.1, by rw [← containedBy_eq_spec hle]; exact h1⟩, by rw [← containedBy_eq_spec hle]; exact hdef.1.2⟩, hdef.2⟩
  · rintro ⟨hd, hc, hdef⟩
    simp only [specDefines, Bool.and_eq_true, beq_iff_eq] at hdef
    have hcd : containedBy g.loc d.loc = true := by rw [containedBy_eq_spec hle]; exact hdef.1.1.2
    obtain ⟨h1, s, h2⟩ := downNodes_complete hin hd hcd
    refine ⟨s, h1, h2, ?_⟩
    simp only [defines, Bool.and_eq_true, beq_iff_eq]
    exact ⟨⟨hdef.1.1.1, by rw [containedBy_eq_spec hle]; exact hdef.1.2⟩, hdef.2⟩

theorem mem_meetPairs (gs : List Gene) (as : List AreaT) (x : Nat × Nat) :
    x ∈ meetPairs gs as ↔ ∃ a ∈ as, ∃ d ∈ nodes a, ∃ g ∈ gs,
      (specContained g.loc a.loc = true ∧ specDefines g d = true) ∧ x = (d.id, g.id) := by
  simp only [meetPairs, List.mem_flatMap, List.mem_map, List.mem_filter, Bool.and_eq_true]
  constructor
  · rintro ⟨a, ha, d, hd, g, ⟨hg, h⟩, rfl⟩; exact ⟨a, ha, d, hd, g, hg, h, rfl⟩
  · rintro ⟨a, ha, d, hd, g, hg, h, rfl⟩; exact ⟨a, ha, d, hd, g, ⟨hg, h⟩, rfl⟩

/-- entering the links between `Gs` and `As` makes exactly the pairs defining that the spec's `meetPairs Gs As` lists -/
theorem links_defs_iff {Gs : List Gene} {As : List AreaT} (hg : ∀ g ∈ Gs, LocOK g.loc) (hin : ∀ a ∈ As, KidsInside a)
    (x : Nat × Nat) :
    (∃ t ∈ links Gs As, defines t.1 t.2.1 = true ∧ x = (t.2.1.id, t.1.id)) ↔ x ∈ meetPairs Gs As := by
  rw [mem_meetPairs]
  constructor
  · rintro ⟨⟨g, d, s⟩, ht, hdef, rfl⟩
    obtain ⟨hgs, a, ha, hc, hdn⟩ := mem_links.1 ht
    obtain ⟨h1, h2, h3⟩ := (down_defines_iff (hg g hgs) (hin a ha) d).1 ⟨s, hc, hdn, hdef⟩
    exact ⟨a, ha, d, h1, g, hgs, ⟨h2, h3⟩, rfl⟩
  · rintro ⟨a, ha, d, hdn, g, hgs, ⟨h2, h3⟩, rfl⟩
    obtain ⟨s, hc, hds, hdef⟩ := (down_defines_iff (hg g hgs) (hin a ha) d).2 ⟨hdn, h2, h3⟩
    exact ⟨(g, d, s), mem_links.2 ⟨hgs, a, ha, hc, hds⟩, hdef, rfl⟩

/-- one `add_cds_feature` call (in a `runLoose` history or a strict one) makes exactly the pairs defining that
    the spec's replay adds for it -/
theorem addCds_defs_match {S : Prop} {L : Live} {ever : List AreaT} {r r' : Rec} (inv : InvCore S L ever r)
    (hin : ∀ a ∈ ever, KidsInside a) (g : Gene) (hg : LocOK g.loc) (hstep : addCds r g = .ok r') (x : Nat × Nat) :
    x ∈ r'.defs ↔ x ∈ r.defs ∨ x ∈ meetPairs [g] L.areas := by
  rw [← registered_eq_live inv, ← links_defs_iff (fun f hf => List.mem_singleton.1 hf ▸ hg) (fun a ha => hin a (inv.liveEver a ha))]
  exact (addCds_eff hstep).defs x

/-- one `add_<area>` call makes exactly the pairs defining that the spec's replay adds for it -/
theorem addArea_defs_match {S : Prop} {L : Live} {ever : List AreaT} {r r' : Rec} (inv : InvCore S L ever r)
    (a : AreaT) (ha : AreaOK a) (hin : KidsInside a) (hstep : addArea r a = .ok r') (x : Nat × Nat) :
    x ∈ r'.defs ↔ x ∈ r.defs ∨ x ∈ meetPairs L.genes [a] := by
  have hL : ∀ y, y ∈ meetPairs L.genes [a] ↔ y ∈ meetPairs r.genes [a] := fun y => by
    simp only [mem_meetPairs, inv.genesLive]
  rw [hL, ← links_defs_iff inv.ok (fun b hb => List.mem_singleton.1 hb ▸ hin)]
  exact (addArea_eff inv.sorted inv.ok ha.1 hstep).defs x

theorem meetPairs_snoc (gs : List Gene) (seen : List AreaT) (a : AreaT) (x : Nat × Nat) :
    x ∈ meetPairs gs (seen ++ [a]) ↔ x ∈ meetPairs gs seen ∨ x ∈ meetPairs gs [a] := by
  simp only [meetPairs, List.flatMap_append, List.mem_append]

/-- … and so do the `add_region` calls of a `create_regions` -/
theorem createRegions_defs_match (new : List AreaT) {S : Prop} {L : Live} {ever : List AreaT} {r r' : Rec} (h : Inv S L ever r)
    (hnew : ∀ a ∈ new, AreaOK a ∧ a.kind = .region) (hin : ∀ a ∈ new, KidsInside a)
    (hrun : Lookup.createRegions r new = .ok r') : ∀ x, x ∈ r'.defs ↔ x ∈ r.defs ∨ x ∈ meetPairs L.genes new := by
  have := Base.foldlM_invariant (f := Lookup.addArea) (P := fun a => (AreaOK a ∧ a.kind = .region) ∧ KidsInside a)
    (I := fun seen r1 => Inv S { L with regions := L.regions ++ seen } (ever ++ seen) r1 ∧
      ∀ x, x ∈ r1.defs ↔ x ∈ r.defs ∨ x ∈ meetPairs L.genes seen)
    (fun seen b a b' hP hI hs => ⟨by simpa only [List.append_assoc] using hI.1.addRegion a hP.1 hs, fun x => by
      rw [addArea_defs_match hI.1.core a hP.1.1 hP.2 hs x, hI.2 x, meetPairs_snoc]
      exact or_assoc⟩)
    new [] r r' (fun a ha => ⟨hnew a ha, hin a ha⟩)
    ⟨by simpa only [List.append_nil] using h, fun x => (or_iff_left List.not_mem_nil).symm⟩ hrun
  rw [List.nil_append] at this
  exact this.2

/-- the pairs one call makes defining, according to the spec's replay -/
def newPairs (l : Live) : Op → List (Nat × Nat)
  | .cds g => meetPairs [g] l.areas
  | .area a => meetPairs l.genes [a]
  | .clearSubs new => if l.regions.isEmpty then [] else meetPairs l.genes new
  | .clearCands new => if l.regions.isEmpty then [] else meetPairs l.genes new
  | .clearProtos new => if l.regions.isEmpty then [] else meetPairs l.genes new
  | _ => []

theorem defsStep_eq (l : Live) (d : List (Nat × Nat)) (op : Op) : defsStep (l, d) op = (l.step op, d ++ newPairs l op) := by
  cases op <;> simp only [defsStep, newPairs, List.append_nil] <;> split <;> simp

theorem defsStep_fold_fst (ops : List Op) : ∀ (l : Live) (d : List (Nat × Nat)),
    (ops.foldl defsStep (l, d)).1 = ops.foldl Live.step l := by
  induction ops with
  | nil => intro l d; rfl
  | cons op ops ih => intro l d; simp only [List.foldl_cons, defsStep_eq, ih]

theorem specDefsAfter_snoc (ops : List Op) (op : Op) (x : Nat × Nat) :
    x ∈ specDefsAfter (ops ++ [op]) ↔ x ∈ specDefsAfter ops ∨ x ∈ newPairs (liveAfter ops) op := by
  simp only [specDefsAfter, List.foldl_append, List.foldl_cons, List.foldl_nil]
  have h1 : (ops.foldl defsStep ({}, [])) = ((ops.foldl defsStep ({}, [])).1, (ops.foldl defsStep ({}, [])).2) := rfl
  rw [h1, defsStep_eq, defsStep_fold_fst]
  simp [liveAfter]

theorem reset_defs_match {S : Prop} {L : Live} {ever : List AreaT} {r r' : Rec} (h : Inv S L ever r) (new : List AreaT)
    (hnew : ∀ a ∈ new, AreaOK a ∧ a.kind = .region) (hin : ∀ a ∈ new, KidsInside a) (hrun : resetRegions r new = .ok r') (x : Nat × Nat) :
    x ∈ r'.defs ↔ x ∈ r.defs ∨ x ∈ (if L.regions.isEmpty then [] else meetPairs L.genes new) := by
  unfold resetRegions at hrun
  rw [← h.core.regionsEq]
  cases he : r.regions.isEmpty with
  | true =>
    simp only [he, if_true, pure, Except.pure] at hrun ⊢
    injection hrun with hrun; subst hrun
    simp
  | false =>
    simp only [he, Bool.false_eq_true, if_false] at hrun ⊢
    exact createRegions_defs_match new h.clearRegions hnew hin hrun x

/-- every call of the loose machine (so every call of the strict one) makes exactly the pairs defining that the spec's
    replay adds for it; a rewrite of annotations touches no definition set -/
theorem stepLoose_defs_match {S : Prop} {L : Live} {ever : List AreaT} {r r' : Rec} (h : Inv S L ever r) (op : Op) (hop : OpOK op)
    (hinE : ∀ a ∈ ever, KidsInside a) (hinK : ∀ a ∈ opAreas op, KidsInside a)
    (hstep : stepLoose r op = .ok r') (x : Nat × Nat) : x ∈ r'.defs ↔ x ∈ r.defs ∨ x ∈ newPairs L op := by
  cases op with
  | cds g => exact addCds_defs_match h.core hinE g hop hstep x
  | area a => exact addArea_defs_match h.core a hop (hinK a (List.mem_singleton.2 rfl)) hstep x
  | setCores gid cs =>
    obtain rfl := Except.ok.inj hstep
    exact (or_iff_left List.not_mem_nil).symm
  | clearRegions =>
    obtain rfl := Except.ok.inj hstep
    exact (or_iff_left List.not_mem_nil).symm
  | clearSubs new => exact reset_defs_match (h.drop (p := false) (c := false) (s := true)) new hop hinK hstep x
  | clearCands new => exact reset_defs_match (h.drop (p := false) (c := true) (s := false)) new hop hinK hstep x
  | clearProtos new => exact reset_defs_match (h.drop (p := true) (c := true) (s := false)) new hop hinK hstep x
  | _ =>
    rw [stepLoose_observe rfl] at hstep
    rw [(step_observe rfl h.cache hstep).1.defs]
    exact (or_iff_left List.not_mem_nil).symm

end ASV.Lookup
