/-
  C12: `_build_annotations` works on a deep copy — whatever it writes, it writes into objects allocated after the
  full record's annotation dicts, so the full record's annotations say afterwards what they said before
  (`buildAnnotations_keeps_parent`); and what it returns reads as `expectedAnn` — the full record's annotations
  with NOTE / Orig. start / Orig. end set in the antiSMASH-Data comment, created after the others when missing
  (`buildAnnotations_reads`).  For the second part the heap after `deepcopyTop` is written out explicitly: the
  comment dicts of the copy stand at consecutive fresh addresses (`addrKeys`), so the one `writeNotes` overwrites
  is told apart from all others by its address.
-/
import ASV.Model.RegionAnnotations
import ASV.Spec.RegionExtract
namespace ASV.RegionExtract
open ASV

/-- `h'` agrees with `h` on all addresses below `n` -/
def SameBelow (n : Nat) (h h' : AHeap) : Prop := ∀ i, i < n → h'[i]? = h[i]?

theorem SameBelow.refl (n : Nat) (h : AHeap) : SameBelow n h h := fun _ _ => rfl

theorem SameBelow.trans {n : Nat} {a b c : AHeap} (h1 : SameBelow n a b) (h2 : SameBelow n b c) : SameBelow n a c :=
  fun i hi => (h2 i hi).trans (h1 i hi)

theorem sameBelow_alloc (n : Nat) (h : AHeap) (o : AObj) (hn : n ≤ h.length) : SameBelow n h (alloc h o).1 := by
  intro i hi
  simp only [alloc]
  rw [List.getElem?_append_left (by omega)]

theorem sameBelow_set (n : Nat) (h : AHeap) (j : Nat) (o : AObj) (hj : n ≤ j) : SameBelow n h (h.set j o) := by
  intro i hi
  rw [List.getElem?_set_ne (by omega)]

theorem alloc_length (h : AHeap) (o : AObj) : (alloc h o).1.length = h.length + 1 := by simp [alloc]

theorem allocEntries_spec (n : Nat) : ∀ (m : List (String × List (String × String))) (h : AHeap), n ≤ h.length →
    SameBelow n h (allocEntries h m).1 ∧ h.length ≤ (allocEntries h m).1.length ∧
    ∀ kv ∈ (allocEntries h m).2, n ≤ kv.2
  | [], h, _ => ⟨SameBelow.refl _ _, Nat.le_refl _, by simp [allocEntries]⟩
  | (k, d) :: rest, h, hn => by
    have ih := allocEntries_spec n rest (alloc h (.data d)).1 (by rw [alloc_length]; omega)
    simp only [allocEntries]
    refine ⟨(sameBelow_alloc n h _ hn).trans ih.1, by have := ih.2.1; rw [alloc_length] at this; omega, ?_⟩
    intro kv hkv
    rcases List.mem_cons.1 hkv with rfl | hkv
    · simp [alloc]; exact hn
    · exact ih.2.2 kv hkv

/-- reading below `n` is not affected by changes at or above `n` -/
theorem readData_below (n : Nat) (h h' : AHeap) (hs : SameBelow n h h') (a : Nat) (ha : a < n) :
    readData h' a = readData h a := by
  unfold readData; rw [hs a ha]

theorem readData_some_lt (h : AHeap) (a : Nat) (m : List (String × String)) (hr : readData h a = some m) : a < h.length := by
  unfold readData at hr
  cases hg : h[a]? with
  | none => rw [hg] at hr; cases hr
  | some o => exact (List.getElem?_eq_some_iff.1 hg).1

theorem readCommentEntries_below (n : Nat) (h h' : AHeap) (hs : SameBelow n h h') (hn : n = h.length) :
    ∀ (m : List (String × Nat)) (r : List (String × List (String × String))),
      readCommentEntries h m = some r → readCommentEntries h' m = some r
  | [], r, hr => hr
  | (k, a) :: rest, r, hr => by
    simp only [readCommentEntries] at hr ⊢
    cases hd : readData h a with
    | none => rw [hd] at hr; cases hr
    | some d =>
      cases hrest : readCommentEntries h rest with
      | none => rw [hd, hrest] at hr; cases hr
      | some r' =>
        rw [hd, hrest] at hr
        rw [readData_below n h h' hs a (by rw [hn]; exact readData_some_lt h a d hd), hd,
          readCommentEntries_below n h h' hs hn rest r' hrest]
        exact hr

theorem readTop_below (h h' : AHeap) (hs : SameBelow h.length h h') (a : Nat) (t : AnnTree)
    (hr : readTop h a = some t) : readTop h' a = some t := by
  unfold readTop at hr ⊢
  cases hg : h[a]? with
  | none => rw [hg] at hr; cases hr
  | some o =>
    have ha : a < h.length := (List.getElem?_eq_some_iff.1 hg).1
    rw [hs a ha, hg]
    rw [hg] at hr
    cases o with
    | top other sc =>
      cases sc with
      | none => exact hr
      | some c =>
        simp only at hr ⊢
        unfold readComments at hr ⊢
        cases hgc : h[c]? with
        | none => rw [hgc] at hr; cases hr
        | some oc =>
          have hc : c < h.length := (List.getElem?_eq_some_iff.1 hgc).1
          rw [hs c hc, hgc]
          rw [hgc] at hr
          cases oc with
          | comments m =>
            simp only at hr ⊢
            cases hm : readCommentEntries h m with
            | none => rw [hm] at hr; cases hr
            | some r => rw [readCommentEntries_below h.length h h' hs rfl m r hm]; rw [hm] at hr; exact hr
          | top _ _ => cases hr
          | data _ => cases hr
    | comments _ => cases hr
    | data _ => cases hr

/-- what the deep copy looks like: everything it made lies above the old heap -/
structure FreshCopy (n : Nat) (h1 : AHeap) (a : Nat) : Prop where
  above : n ≤ a
  inb : a < h1.length
  scAbove : ∀ other c, h1[a]? = some (.top other (some c)) → n ≤ c ∧ ∀ m, h1[c]? = some (.comments m) → ∀ kv ∈ m, n ≤ kv.2

theorem deepcopyTop_spec (h : AHeap) (parent : Nat) (h1 : AHeap) (a : Nat) (hd : deepcopyTop h parent = some (h1, a)) :
    SameBelow h.length h h1 ∧ FreshCopy h.length h1 a ∧ h.length ≤ h1.length := by
  unfold deepcopyTop at hd
  split at hd
  · cases hd
  · injection hd with hd; injection hd with e1 e2
    subst e1 e2
    refine ⟨sameBelow_alloc _ h _ (Nat.le_refl _), ⟨Nat.le_refl _, by simp, ?_⟩, by simp⟩
    intro other c hg
    simp at hg
  · rename_i other m _
    simp only at hd
    injection hd with hd; injection hd with e1 e2
    have hsp := allocEntries_spec h.length m h (Nat.le_refl _)
    generalize hae : allocEntries h m = ae at e1 e2 hsp
    obtain ⟨hh, entries⟩ := ae
    simp only at e1 e2 hsp
    subst e1 e2
    refine ⟨?_, ⟨?_, by simp [alloc], ?_⟩, by simp [alloc]; omega⟩
    · exact (hsp.1.trans (sameBelow_alloc _ hh _ hsp.2.1)).trans (sameBelow_alloc _ _ _ (by simp [alloc]; omega))
    · simp [alloc]; omega
    · intro other' c hg
      simp only [alloc, List.length_append, List.length_cons, List.length_nil] at hg
      rw [List.getElem?_append_right (by simp)] at hg
      simp at hg
      obtain ⟨_, hc⟩ := hg
      subst hc
      refine ⟨hsp.2.1, ?_⟩
      intro m' hm'
      simp only [alloc] at hm'
      rw [List.getElem?_append_left (by simp), List.getElem?_append_right (by simp)] at hm'
      simp at hm'
      subst hm'
      exact hsp.2.2

theorem setdefaults_spec (n : Nat) (h1 : AHeap) (a : Nat) (hf : FreshCopy n h1 a) (h2 : AHeap) (d : Nat)
    (hs : setdefaults h1 a = some (h2, d)) : SameBelow n h1 h2 ∧ n ≤ d := by
  have hlen : n ≤ h1.length := by have := hf.above; have := hf.inb; omega
  unfold setdefaults at hs
  split at hs
  · rename_i other sc hga
    cases sc with
    | some c =>
      simp only at hs
      obtain ⟨hc, hcm⟩ := hf.scAbove other c hga
      split at hs
      · rename_i m hgc
        split at hs
        · rename_i kv hfind
          injection hs with hs; injection hs with e1 e2
          subst e1 e2
          exact ⟨SameBelow.refl _ _, hcm m hgc kv (List.mem_of_find?_eq_some hfind)⟩
        · injection hs with hs; injection hs with e1 e2
          subst e1 e2
          exact ⟨(sameBelow_alloc n h1 _ hlen).trans (sameBelow_set n _ c _ hc), by simp [alloc]; exact hlen⟩
      · cases hs
    | none =>
      simp only at hs
      -- the fresh structured-comment dict is empty
      have hget : ((alloc h1 (.comments [])).1.set a (.top other (some h1.length)))[h1.length]? = some (.comments []) := by
        rw [List.getElem?_set_ne (by have := hf.inb; omega)]
        simp [alloc]
      simp only [alloc] at hs hget
      rw [hget] at hs
      simp only [List.find?_nil] at hs
      injection hs with hs; injection hs with e1 e2
      subst e1 e2
      refine ⟨?_, by simp; omega⟩
      exact ((sameBelow_alloc n h1 _ hlen).trans (sameBelow_set n _ a _ hf.above)).trans
        ((sameBelow_alloc n _ _ (by simp [alloc]; omega)).trans (sameBelow_set n _ _ _ hlen))
  · cases hs

theorem writeNotes_spec (n : Nat) (h2 : AHeap) (d : Nat) (rd : RegionData) (h3 : AHeap) (hd : n ≤ d)
    (hw : writeNotes h2 d rd = some h3) : SameBelow n h2 h3 := by
  unfold writeNotes at hw
  split at hw
  · cases hw
  · injection hw with hw
    subst hw
    exact sameBelow_set n h2 d _ hd

/-- `_build_annotations` leaves every dict of the full record's annotations as it was -/
theorem buildAnnotations_keeps_parent (h : AHeap) (parent : Nat) (rd : RegionData) (h' : AHeap) (a : Nat)
    (hb : buildAnnotationsHeap h parent rd = some (h', a)) :
    SameBelow h.length h h' ∧ ∃ t, readTop h parent = some t ∧ readTop h' parent = some t := by
  unfold buildAnnotationsHeap at hb
  split at hb
  · cases hb
  · rename_i h1 a1 hd
    split at hb
    · cases hb
    · rename_i h2 d hs
      split at hb
      · cases hb
      · rename_i h3 hw
        injection hb with hb; injection hb with e1 e2
        subst e1 e2
        obtain ⟨s1, hf, _⟩ := deepcopyTop_spec h parent h1 a1 hd
        obtain ⟨s2, hdn⟩ := setdefaults_spec h.length h1 a1 hf h2 d hs
        have s3 := writeNotes_spec h.length h2 d rd h3 hdn hw
        have hall := (s1.trans s2).trans s3
        refine ⟨hall, ?_⟩
        unfold deepcopyTop at hd
        cases ht : readTop h parent with
        | none => rw [ht] at hd; cases hd
        | some t => exact ⟨t, rfl, readTop_below h h3 hall parent t ht⟩

/-- the entries of a copied structured-comment dict: comment names with consecutive addresses from `n` -/
def addrKeys : Nat → List String → List (String × Nat)
  | _, [] => []
  | n, k :: ks => (k, n) :: addrKeys (n + 1) ks

theorem allocEntries_eq : ∀ (m : List (String × List (String × String))) (h : AHeap),
    allocEntries h m = (h ++ m.map (fun kv => AObj.data kv.2), addrKeys h.length (m.map (·.1)))
  | [], h => by simp [allocEntries, addrKeys]
  | (k, d) :: rest, h => by
    simp only [allocEntries, alloc, allocEntries_eq rest (h ++ [AObj.data d])]
    simp [addrKeys, List.append_assoc]

theorem addrKeys_getElem? : ∀ (ks : List String) (n i : Nat), (addrKeys n ks)[i]? = ks[i]?.map fun k => (k, n + i)
  | [], _, _ => by simp [addrKeys]
  | k :: ks, n, 0 => by simp [addrKeys]
  | k :: ks, n, i + 1 => by
    simp only [addrKeys, List.getElem?_cons_succ, addrKeys_getElem? ks (n + 1) i]
    congr 1; funext x; congr 1; omega

theorem addrKeys_length : ∀ (ks : List String) (n : Nat), (addrKeys n ks).length = ks.length
  | [], _ => rfl
  | _ :: ks, n => by simp [addrKeys, addrKeys_length ks (n + 1)]

/-- reading the entries back from a heap that holds, at the consecutive addresses, the given comment dicts -/
theorem read_addrKeys : ∀ (vals : List (String × List (String × String))) (n : Nat) (H : AHeap),
    (∀ j v, vals[j]? = some v → H[n + j]? = some (.data v.2)) →
    readCommentEntries H (addrKeys n (vals.map (·.1))) = some vals
  | [], _, _, _ => rfl
  | (k, d) :: rest, n, H, hp => by
    have h0 := hp 0 (k, d) rfl
    have ih := read_addrKeys rest (n + 1) H (fun j v hv => by
      have := hp (j + 1) v (by simpa using hv)
      rwa [show n + (j + 1) = n + 1 + j by omega] at this)
    simp only [Nat.add_zero] at h0
    simp only [List.map_cons, addrKeys, readCommentEntries, readData, h0, ih]

theorem read_append (H : AHeap) : ∀ (E1 E2 : List (String × Nat)) (v1 v2 : List (String × List (String × String))),
    readCommentEntries H E1 = some v1 → readCommentEntries H E2 = some v2 →
    readCommentEntries H (E1 ++ E2) = some (v1 ++ v2)
  | [], E2, v1, v2, h1, h2 => by
    simp only [readCommentEntries, Option.some.injEq] at h1
    subst h1
    simpa using h2
  | (k, a) :: E1, E2, v1, v2, h1, h2 => by
    simp only [readCommentEntries] at h1
    cases hd : readData H a with
    | none => simp [hd] at h1
    | some d =>
      cases hr : readCommentEntries H E1 with
      | none => simp [hd, hr] at h1
      | some r =>
        simp only [hd, hr, Option.some.injEq] at h1
        subst h1
        simp only [List.cons_append, readCommentEntries, hd, read_append H E1 E2 r v2 hr h2]

theorem find_addrKeys_none (x : String) : ∀ (ks : List String) (n : Nat),
    (addrKeys n ks).find? (fun e => e.1 == x) = none → ∀ k ∈ ks, (k == x) = false
  | [], _, _ => by simp
  | k :: ks, n, h => by
    simp only [addrKeys, List.find?_cons] at h
    cases hk : (k == x) with
    | true => simp [hk] at h
    | false =>
      simp only [hk] at h
      intro k' hk'
      rcases List.mem_cons.1 hk' with rfl | hk'
      · exact hk
      · exact find_addrKeys_none x ks (n + 1) h k' hk'

theorem find_addrKeys_some (x : String) : ∀ (ks : List String) (n : Nat) (kv : String × Nat),
    (addrKeys n ks).find? (fun e => e.1 == x) = some kv →
    ∃ i, ks[i]? = some kv.1 ∧ kv.2 = n + i ∧ (kv.1 == x) = true
  | [], _, _, h => by simp [addrKeys] at h
  | k :: ks, n, kv, h => by
    simp only [addrKeys, List.find?_cons] at h
    cases hk : (k == x) with
    | true =>
      simp only [hk, Option.some.injEq] at h
      subst h
      exact ⟨0, rfl, rfl, hk⟩
    | false =>
      simp only [hk] at h
      obtain ⟨i, h1, h2, h3⟩ := find_addrKeys_some x ks (n + 1) kv h
      exact ⟨i + 1, by simpa using h1, by omega, h3⟩

theorem nodup_idx : ∀ (l : List String), l.Nodup → ∀ (i j : Nat) (x : String), l[i]? = some x → l[j]? = some x → i = j
  | [], _, i, _, _, hi, _ => by simp at hi
  | a :: l, hnd, i, j, x, hi, hj => by
    obtain ⟨hna, hl⟩ := List.nodup_cons.1 hnd
    cases i with
    | zero =>
      cases j with
      | zero => rfl
      | succ j =>
        simp at hi hj
        subst hi
        exact absurd (List.mem_of_getElem? hj) hna
    | succ i =>
      cases j with
      | zero =>
        simp at hi hj
        subst hj
        exact absurd (List.mem_of_getElem? hi) hna
      | succ j =>
        simp at hi hj
        rw [nodup_idx l hl i j x hi hj]

/-- the three item assignments, on a dict value -/
def notesOf (rd : RegionData) (d : List (String × String)) : List (String × String) :=
  setStr (setStr (setStr d "NOTE" (if rd.crossesOrigin then noteCross else notePlain)) "Orig. start" (toString rd.start))
    "Orig. end" (toString rd.end)

/-- no structured comment on the full record: the copy gets one with just the antiSMASH-Data comment -/
theorem buildAnnotations_reads_none (h : AHeap) (parent : Nat) (rd : RegionData) (other : List (String × String))
    (ht : readTop h parent = some ⟨other, none⟩) :
    ∃ h' a, buildAnnotationsHeap h parent rd = some (h', a) ∧
      readTop h' a = some ⟨other, some [("antiSMASH-Data", notesOf rd [])]⟩ := by
  have e1 : deepcopyTop h parent = some (h ++ [.top other none], h.length) := by
    simp [deepcopyTop, ht, alloc]
  simp only [buildAnnotationsHeap, e1]
  simp [setdefaults, alloc, writeNotes, readData, readTop, readComments, notesOf]
  refine ⟨_, _, ⟨rfl, rfl⟩, ?_⟩
  simp [readCommentEntries, readData]

/-- the heap the deep copy of a record with structured comments `m` leaves: the comment dicts, the structured-comment
    dict and the annotations dict, appended in this order -/
def copiedHeap (h : AHeap) (other : List (String × String)) (m : List (String × List (String × String))) : AHeap :=
  h ++ (m.map (fun kv => AObj.data kv.2) ++
    [AObj.comments (addrKeys h.length (m.map (·.1))), AObj.top other (some (h.length + m.length))])

theorem copiedHeap_length (h : AHeap) (other : List (String × String)) (m : List (String × List (String × String))) :
    (copiedHeap h other m).length = h.length + m.length + 2 := by
  simp [copiedHeap]; omega

theorem copiedHeap_top (h : AHeap) (other : List (String × String)) (m : List (String × List (String × String))) :
    (copiedHeap h other m)[h.length + m.length + 1]? = some (.top other (some (h.length + m.length))) := by
  unfold copiedHeap
  rw [List.getElem?_append_right (by omega), List.getElem?_append_right (by simp; omega)]
  simp
  have : h.length + m.length + 1 - h.length - m.length = 1 := by omega
  rw [this]; rfl

theorem copiedHeap_comments (h : AHeap) (other : List (String × String)) (m : List (String × List (String × String))) :
    (copiedHeap h other m)[h.length + m.length]? = some (.comments (addrKeys h.length (m.map (·.1)))) := by
  unfold copiedHeap
  rw [List.getElem?_append_right (by omega), List.getElem?_append_right (by simp)]
  simp

theorem copiedHeap_data (h : AHeap) (other : List (String × String)) (m : List (String × List (String × String)))
    (j : Nat) (v : String × List (String × String)) (hv : m[j]? = some v) :
    (copiedHeap h other m)[h.length + j]? = some (.data v.2) := by
  have hj : j < m.length := (List.getElem?_eq_some_iff.1 hv).1
  unfold copiedHeap
  rw [List.getElem?_append_right (by omega), List.getElem?_append_left (by simp; omega)]
  simp [hv]

theorem deepcopyTop_some (h : AHeap) (parent : Nat) (other : List (String × String))
    (m : List (String × List (String × String))) (ht : readTop h parent = some ⟨other, some m⟩) :
    deepcopyTop h parent = some (copiedHeap h other m, h.length + m.length + 1) := by
  simp [deepcopyTop, ht, alloc, allocEntries_eq, copiedHeap, List.append_assoc]
  omega

/-- the full record has structured comments `m` (distinct names) -/
theorem buildAnnotations_reads_some (h : AHeap) (parent : Nat) (rd : RegionData) (other : List (String × String))
    (m : List (String × List (String × String))) (ht : readTop h parent = some ⟨other, some m⟩)
    (hnd : (m.map (·.1)).Nodup) :
    ∃ h' a, buildAnnotationsHeap h parent rd = some (h', a) ∧
      readTop h' a = some ⟨other, some (
        if m.any (·.1 == "antiSMASH-Data") then
          m.map fun kv => if kv.1 == "antiSMASH-Data" then (kv.1, notesOf rd kv.2) else kv
        else m ++ [("antiSMASH-Data", notesOf rd [])])⟩ := by
  simp only [buildAnnotationsHeap, deepcopyTop_some h parent other m ht]
  have hlen := copiedHeap_length h other m
  have htop := copiedHeap_top h other m
  have hcom := copiedHeap_comments h other m
  have hdat := copiedHeap_data h other m
  generalize copiedHeap h other m = H1 at *
  simp only [setdefaults, htop, hcom]
  cases hfind : (addrKeys h.length (m.map (·.1))).find? (fun e => e.1 == "antiSMASH-Data") with
  | some kv =>
    obtain ⟨i, hki, hkv2, hkx⟩ := find_addrKeys_some _ _ _ _ hfind
    rw [List.getElem?_map] at hki
    cases hmi : m[i]? with
    | none => simp [hmi] at hki
    | some v =>
      simp only [hmi, Option.map_some, Option.some.injEq] at hki
      have hi : i < m.length := (List.getElem?_eq_some_iff.1 hmi).1
      have hany : m.any (·.1 == "antiSMASH-Data") = true := by
        rw [List.any_eq_true]; exact ⟨v, List.mem_of_getElem? hmi, by rw [hki]; exact hkx⟩
      simp only [hany, if_true, writeNotes, readData, hkv2, hdat i v hmi]
      refine ⟨_, _, rfl, ?_⟩
      have hne1 : h.length + i ≠ h.length + m.length + 1 := by omega
      have hne2 : h.length + i ≠ h.length + m.length := by omega
      simp only [readTop, List.getElem?_set_ne hne1, htop, readComments, List.getElem?_set_ne hne2, hcom]
      have hkeys : m.map (·.1) = (m.map fun kv => if kv.1 == "antiSMASH-Data" then (kv.1, notesOf rd kv.2) else kv).map (·.1) := by
        rw [List.map_map]; apply List.map_congr_left; intro kv _; simp only [Function.comp]; split <;> rfl
      rw [hkeys, read_addrKeys]
      · intro j v' hv'
        rw [List.getElem?_map] at hv'
        cases hmj : m[j]? with
        | none => simp [hmj] at hv'
        | some vj =>
          simp only [hmj, Option.map_some, Option.some.injEq] at hv'
          by_cases hji : j = i
          · subst hji
            rw [hmi] at hmj; injection hmj with hmj; subst hmj
            rw [hki] at hv'
            simp only [hkx, if_true] at hv'
            subst hv'
            rw [List.getElem?_set_self (by omega)]
            rfl
          · have hkj : (vj.1 == "antiSMASH-Data") = false := by
              cases hq : (vj.1 == "antiSMASH-Data") with
              | false => rfl
              | true =>
                exfalso
                apply hji
                have e1 : vj.1 = "antiSMASH-Data" := by simpa using hq
                have e2 : v.1 = "antiSMASH-Data" := by rw [hki]; simpa using hkx
                exact nodup_idx _ hnd j i "antiSMASH-Data" (by simp [List.getElem?_map, hmj, e1]) (by simp [List.getElem?_map, hmi, e2])
            simp only [hkj, Bool.false_eq_true, if_false] at hv'
            subst hv'
            rw [List.getElem?_set_ne (by omega)]
            exact hdat j vj hmj
  | none =>
    have hno := find_addrKeys_none _ _ _ hfind
    have hany : m.any (·.1 == "antiSMASH-Data") = false := by
      rw [List.any_eq_false]
      intro kv hkv
      simp [hno kv.1 (List.mem_map.2 ⟨kv, hkv, rfl⟩)]
    simp only [hany, Bool.false_eq_true, if_false, alloc, hlen]
    -- the heap after the two `setdefault`s, and the new comment dict's address
    generalize hH2 : (H1 ++ [AObj.data []]).set (h.length + m.length)
      (AObj.comments (addrKeys h.length (m.map (·.1)) ++ [("antiSMASH-Data", h.length + m.length + 2)])) = H2
    have h2len : H2.length = h.length + m.length + 3 := by rw [← hH2]; simp [hlen]
    have h2d : H2[h.length + m.length + 2]? = some (.data []) := by
      rw [← hH2, List.getElem?_set_ne (by omega), List.getElem?_append_right (by omega), hlen]; simp
    have h2top : H2[h.length + m.length + 1]? = some (.top other (some (h.length + m.length))) := by
      rw [← hH2, List.getElem?_set_ne (by omega), List.getElem?_append_left (by omega)]; exact htop
    have h2com : H2[h.length + m.length]? = some (.comments (addrKeys h.length (m.map (·.1)) ++
        [("antiSMASH-Data", h.length + m.length + 2)])) := by
      rw [← hH2, List.getElem?_set_self (by simp [hlen]; omega)]
    have h2dat : ∀ j v, m[j]? = some v → H2[h.length + j]? = some (.data v.2) := by
      intro j v hv
      have hj : j < m.length := (List.getElem?_eq_some_iff.1 hv).1
      rw [← hH2, List.getElem?_set_ne (by omega), List.getElem?_append_left (by omega)]
      exact hdat j v hv
    simp only [writeNotes, readData, h2d]
    refine ⟨_, _, rfl, ?_⟩
    have hne1 : h.length + m.length + 2 ≠ h.length + m.length + 1 := by omega
    have hne2 : h.length + m.length + 2 ≠ h.length + m.length := by omega
    simp only [readTop, List.getElem?_set_ne hne1, h2top, readComments, List.getElem?_set_ne hne2, h2com]
    rw [read_append _ _ _ m [("antiSMASH-Data", notesOf rd [])]]
    · apply read_addrKeys
      intro j v hv
      have hj : j < m.length := (List.getElem?_eq_some_iff.1 hv).1
      rw [List.getElem?_set_ne (by omega)]
      exact h2dat j v hv
    · simp only [readCommentEntries, readData, List.getElem?_set_self (show h.length + m.length + 2 < H2.length by omega)]
      rfl

/-- `_build_annotations` succeeds on every readable annotations dict with distinct comment names, and what it
    returns reads as `expectedAnn` -/
theorem buildAnnotations_reads (h : AHeap) (parent : Nat) (rd : RegionData) (t : AnnTree)
    (ht : readTop h parent = some t) (hnd : ((t.sc.getD []).map (·.1)).Nodup) :
    ∃ h' a, buildAnnotationsHeap h parent rd = some (h', a) ∧ readTop h' a = some (expectedAnn t rd) := by
  have hw : wraps rd = rd.crossesOrigin := by simp [wraps, RegionData.crossesOrigin]
  obtain ⟨other, sc⟩ := t
  cases sc with
  | none =>
    obtain ⟨h', a, h1, h2⟩ := buildAnnotations_reads_none h parent rd other ht
    refine ⟨h', a, h1, ?_⟩
    rw [h2]
    simp [expectedAnn, hw, notesOf]
  | some m =>
    obtain ⟨h', a, h1, h2⟩ := buildAnnotations_reads_some h parent rd other m ht (by simpa using hnd)
    refine ⟨h', a, h1, ?_⟩
    rw [h2]
    simp only [expectedAnn, hw, notesOf, Option.getD_some]

end ASV.RegionExtract
