/-
  Helper lemmas for C13: the total sort key, enumeration independence, position order.
-/
import ASV.Proofs.Sort
import ASV.Spec.Refine
namespace ASV.Refine

theorem Hit.le_total (a b : Hit) : a.le b = true ∨ b.le a = true := by
  simp only [Hit.le, decide_eq_true_eq]
  exact lex_total (lex_total (lex_total (lex_total (Int.le_total _ _))))

theorem Hit.le_trans (a b c : Hit) : a.le b = true → b.le c = true → a.le c = true := by
  simp only [Hit.le, decide_eq_true_eq]
  exact lex_trans (lex_trans (lex_trans (lex_trans Int.le_trans)))

theorem Hit.le_antisymm (a b : Hit) (h1 : a.le b = true) (h2 : b.le a = true) : a = b := by
  simp only [Hit.le, decide_eq_true_eq] at h1 h2
  obtain ⟨e1, h1, h2⟩ := lex_antisymm h1 h2
  obtain ⟨e2, h1, h2⟩ := lex_antisymm h1 h2
  obtain ⟨e3, h1, h2⟩ := lex_antisymm h1 h2
  obtain ⟨e4, h1, h2⟩ := lex_antisymm h1 h2
  have e5 := Int.le_antisymm h1 h2
  cases a
  cases b
  simp only [Hit.mk.injEq]
  exact ⟨e3, e1, e2, e4, e5⟩

theorem Hit.le_start {a b : Hit} (h : a.le b = true) : a.qs ≤ b.qs := by
  simp only [Hit.le, decide_eq_true_eq] at h; omega

theorem Hit.leStart_total (a b : Hit) : a.leStart b = true ∨ b.leStart a = true :=
  decide_le_total Hit.qs a b

theorem Hit.leStart_trans (a b c : Hit) : a.leStart b = true → b.leStart c = true → a.leStart c = true :=
  decide_le_trans Hit.qs a b c

theorem pairwiseB_iff {α} (r : α → α → Bool) : ∀ l : List α, pairwiseB r l = true ↔ l.Pairwise (fun a b => r a b = true)
  | [] => by simp [pairwiseB]
  | a :: l => by simp [pairwiseB, pairwiseB_iff r l, List.pairwise_cons]

def Sorted (l : List Hit) : Prop := l.Pairwise (fun a b => a.qs ≤ b.qs)

theorem sortedByStart_iff (l : List Hit) : sortedByStart l = true ↔ Sorted l := by
  simp [sortedByStart, pairwiseB_iff, Sorted]

theorem Sorted.sublist {l m : List Hit} (h : Sorted m) (s : l.Sublist m) : Sorted l :=
  List.Pairwise.sublist s h

theorem sortBy_le_pairwise (l : List Hit) : (sortBy Hit.le l).Pairwise (fun a b => a.le b = true) :=
  sortBy_pairwise Hit.le_total Hit.le_trans l

theorem dedupAdj_strict : ∀ {l : List Hit}, l.Pairwise (fun a b => a.le b = true) →
    (dedupAdj l).Pairwise (fun a b => a.le b = true ∧ a ≠ b)
  | [], _ => by simp [dedupAdj]
  | [a], _ => by simp [dedupAdj]
  | a :: b :: l, h => by
    simp only [dedupAdj]
    have hp := List.pairwise_cons.mp h
    split
    · exact dedupAdj_strict hp.2
    · rename_i hab
      refine List.Pairwise.cons ?_ (dedupAdj_strict hp.2)
      intro x hx
      have hx' : x ∈ b :: l := mem_dedupAdj.mp hx
      refine ⟨hp.1 x hx', ?_⟩
      intro hax
      subst hax
      have hba : b.le a = true := by
        rcases List.mem_cons.mp hx' with h1 | h1
        · exact absurd h1 hab
        · exact (List.pairwise_cons.mp hp.2).1 a h1
      exact hab (Hit.le_antisymm a b (hp.1 b (by simp)) hba)

theorem sortHits_strict (l : List Hit) : (sortHits l).Pairwise (fun a b => a.le b = true ∧ a ≠ b) :=
  dedupAdj_strict (sortBy_le_pairwise l)

theorem mem_sortHits {l : List Hit} {x : Hit} : x ∈ sortHits l ↔ x ∈ l := by
  unfold sortHits; rw [mem_dedupAdj, mem_sortBy]

theorem sortHits_nodup (l : List Hit) : (sortHits l).Nodup :=
  (sortHits_strict l).imp fun h => h.2

theorem sortHits_sorted (l : List Hit) : Sorted (sortHits l) :=
  (sortHits_strict l).imp fun h => Hit.le_start h.1

theorem sortHits_eq_of_same_set {l₁ l₂ : List Hit} (h : ∀ x, x ∈ l₁ ↔ x ∈ l₂) : sortHits l₁ = sortHits l₂ := by
  apply List.Perm.eq_of_pairwise (le := fun x y => x.le y = true)
  · intro a b _ _ hab hba; exact Hit.le_antisymm a b hab hba
  · exact (sortHits_strict l₁).imp fun h => h.1
  · exact (sortHits_strict l₂).imp fun h => h.1
  · rw [List.perm_ext_iff_of_nodup (sortHits_nodup l₁) (sortHits_nodup l₂)]
    intro a; rw [mem_sortHits, mem_sortHits]; exact h a

/-- `refine` reads its input only through `sortHits`, so only the set of raw hits matters -/
theorem refine_eq_of_same_set (env : Env) (nb : Bool) {l₁ l₂ : List Hit} (h : ∀ x, x ∈ l₁ ↔ x ∈ l₂) :
    refine env nb l₁ = refine env nb l₂ := by
  simp only [refine, beforeIncomplete, sortHits_eq_of_same_set h]

theorem sortHits_ne_nil {l : List Hit} (h : l ≠ []) : sortHits l ≠ [] :=
  dedupAdj_ne_nil (sortBy_ne_nil Hit.le h)

/-- the kept `(index, result)` pairs in index order -/
def keptIdx (env : Env) (l : List Hit) : List (Nat × Hit) :=
  sortBy leIdx (keepBest env [] (sortBy rankBefore (enumFrom 0 l)))

theorem removeOverlapping_eq (env : Env) (l : List Hit) : removeOverlapping env l = (keptIdx env l).map (·.2) := rfl

theorem enumFrom_eq_enumG : ∀ (n : Nat) (l : List Hit), enumFrom n l = enumG n l
  | _, [] => rfl
  | n, h :: t => by simp only [enumFrom, enumG, enumFrom_eq_enumG (n + 1) t]

theorem enumFrom_map_snd (n : Nat) (l : List Hit) : (enumFrom n l).map (·.2) = l := by
  rw [enumFrom_eq_enumG]
  exact enumG_map_snd n l

theorem mem_enumFrom_iff {n : Nat} {l : List Hit} {x : Nat × Hit} :
    x ∈ enumFrom n l ↔ n ≤ x.1 ∧ l[x.1 - n]? = some x.2 := by
  rw [enumFrom_eq_enumG]
  exact mem_enumG_iff

theorem mem_enumFrom_zero {l : List Hit} {j : Nat} {d : Hit} : (j, d) ∈ enumFrom 0 l ↔ l[j]? = some d := by
  rw [mem_enumFrom_iff]
  exact ⟨fun h => h.2, fun h => ⟨Nat.zero_le _, h⟩⟩

theorem enumFrom_idx_lt (n : Nat) (l : List Hit) : (enumFrom n l).Pairwise (fun a b => a.1 < b.1) := by
  rw [enumFrom_eq_enumG]
  exact enumG_idx_lt n l

theorem enumFrom_idx_nodup (n : Nat) (l : List Hit) : ((enumFrom n l).map (·.1)).Nodup := by
  rw [List.Nodup, List.pairwise_map]
  exact (enumFrom_idx_lt n l).imp (fun h => Nat.ne_of_lt h)

theorem rankBefore_total (a b : Nat × Hit) : rankBefore a b = true ∨ rankBefore b a = true := by
  simp only [rankBefore, decide_eq_true_eq]; omega
theorem rankBefore_trans (a b c : Nat × Hit) : rankBefore a b = true → rankBefore b c = true → rankBefore a c = true := by
  simp only [rankBefore, decide_eq_true_eq]
  exact lex_trans_desc Nat.le_trans

theorem keepBest_eq_greedy (env : Env) : ∀ (kept l : List (Nat × Hit)),
    keepBest env kept l = greedy (fun k x => clashIdx env x k) kept l
  | kept, [] => rfl
  | kept, x :: rest => by
    simp only [keepBest, greedy, keepBest_eq_greedy env kept rest, keepBest_eq_greedy env (kept ++ [x]) rest]

theorem keepBest_sublist (env : Env) (l : List (Nat × Hit)) : (keepBest env [] l).Sublist l := by
  rw [keepBest_eq_greedy]
  exact greedy_sublist _ l

theorem mem_keptIdx {env : Env} {l : List Hit} {x : Nat × Hit} (hx : x ∈ keptIdx env l) : x ∈ enumFrom 0 l := by
  simp only [keptIdx, mem_sortBy] at hx
  exact (mem_sortBy _).mp ((keepBest_sublist env _).subset hx)

theorem keptIdx_idx_lt (env : Env) (l : List Hit) : (keptIdx env l).Pairwise (fun a b => a.1 < b.1) := by
  have h1 : (keptIdx env l).Pairwise (fun a b => a.1 ≤ b.1) := sortBy_key_pairwise (Prod.fst : Nat × Hit → Nat) _
  have h2 : ((keptIdx env l).map (·.1)).Nodup := by
    have : ((sortBy rankBefore (enumFrom 0 l)).map (·.1)).Nodup :=
      ((sortBy_perm rankBefore (enumFrom 0 l)).map _).nodup_iff.mpr (enumFrom_idx_nodup 0 l)
    exact ((sortBy_perm leIdx _).map _).nodup_iff.mpr (this.sublist ((keepBest_sublist env _).map _))
  rw [List.Nodup, List.pairwise_map] at h2
  exact (h1.and h2).imp (fun h => by omega)

theorem keptIdx_sublist (env : Env) (l : List Hit) : (keptIdx env l).Sublist (enumFrom 0 l) :=
  sublist_of_subset_of_increasing (·.1) (enumFrom_idx_lt 0 l) (keptIdx_idx_lt env l) (fun _ hx => mem_keptIdx hx)

theorem removeOverlapping_sublist (env : Env) (l : List Hit) : (removeOverlapping env l).Sublist l := by
  have := (keptIdx_sublist env l).map (·.2)
  rwa [enumFrom_map_snd] at this

theorem removeOverlapping_ne_nil (env : Env) {l : List Hit} (h : l ≠ []) : removeOverlapping env l ≠ [] := by
  have h1 : enumFrom 0 l ≠ [] := by
    cases l with
    | nil => exact absurd rfl h
    | cons a t => exact List.cons_ne_nil _ _
  have h2 : keepBest env [] (sortBy rankBefore (enumFrom 0 l)) ≠ [] := by
    rw [keepBest_eq_greedy]
    exact greedy_ne_nil _ (sortBy_ne_nil rankBefore h1)
  exact fun e => sortBy_ne_nil leIdx h2 (List.map_eq_nil_iff.mp e)

theorem merge_qs_of_le {a b : Hit} (h : a.qs ≤ b.qs) : (a.merge b).qs = a.qs := by
  simp only [Hit.merge]; omega

theorem Sorted.merge_head {last d : Hit} {rest : List Hit} (hs : Sorted (last :: d :: rest)) :
    Sorted (last.merge d :: rest) := by
  have hp := List.pairwise_cons.mp hs
  refine List.Pairwise.cons ?_ (List.pairwise_cons.mp hp.2).2
  intro x hx
  rw [merge_qs_of_le (hp.1 d List.mem_cons_self)]
  exact hp.1 x (List.mem_cons_of_mem _ hx)

/-- one step of the neighbour merge: the next hit is merged into the last one (same profile, close enough) or
    the last one is final -/
theorem mergeImmFrom_cons (env : Env) (last d : Hit) (rest : List Hit) :
    (d.prof = last.prof ∧ 2 * (d.qe - last.qs) < 3 * env.len last.prof ∧
      mergeImmFrom env last (d :: rest) = mergeImmFrom env (last.merge d) rest) ∨
    mergeImmFrom env last (d :: rest) = last :: mergeImmFrom env d rest := by
  simp only [mergeImmFrom]
  split
  · exact Or.inr rfl
  · rename_i hpe
    have hpe' : d.prof = last.prof := by simpa using hpe
    split
    · rename_i hc
      exact Or.inl ⟨hpe', hpe' ▸ hc, rfl⟩
    · exact Or.inr rfl

theorem mergeDomainList_sorted (env : Env) (l : List Hit) : Sorted (mergeDomainList env l) := by
  unfold mergeDomainList
  exact sortBy_key_pairwise Hit.qs _

theorem isComplete_eq (env : Env) : isComplete env = complete env := by
  funext h
  simp only [isComplete, complete]

theorem overFallback_eq (env : Env) (b : Hit) : overFallback env b = overThird env b := by
  simp only [overFallback, overThird]

theorem longestScan_mem (env : Env) : ∀ (best : Option Hit) (l : List Hit) (b : Hit),
    longestScan env best l = some b → best = some b ∨ b ∈ l
  | best, [], b, h => by simp [longestScan] at h; exact Or.inl h
  | best, x :: t, b, h => by
    simp only [longestScan] at h
    split at h
    · rcases longestScan_mem env (some x) t b h with h1 | h1
      · right; simp only [Option.some.injEq] at h1; simp [h1]
      · right; exact List.mem_cons_of_mem _ h1
    · rcases longestScan_mem env best t b h with h1 | h1
      · exact Or.inl h1
      · right; exact List.mem_cons_of_mem _ h1

theorem removeIncomplete_sublist (env : Env) (l : List Hit) : (removeIncomplete env l).Sublist l := by
  have reg : ∀ r : List Hit, (match l.find? (fun d => env.reg d.prof) with | some d => [d] | none => []) = r →
      r.Sublist l := by
    intro r hr
    split at hr
    · rename_i d hd
      subst hr
      exact List.singleton_sublist.mpr (List.mem_of_find?_eq_some hd)
    · subst hr; exact List.nil_sublist _
  simp only [removeIncomplete]
  split
  · exact List.filter_sublist
  · split
    · rename_i b hb
      split
      · have : b ∈ l := by
          rcases longestScan_mem env none l b hb with h1 | h1
          · simp at h1
          · exact h1
        exact List.singleton_sublist.mpr this
      · exact reg _ rfl
    · exact reg _ rfl

end ASV.Refine
