/-
  C14 helper lemmas: the pieces of `combine_modules` — the merged module is the fold of `next` over
  the head's and the tail's components (`mergeModules_spec`), the trailing KR one more step of it
  (`absorbTrailingKr_spec`).
-/
import ASV.Proofs.ModulesBuildTop
namespace ASV.Modules
open T Spec

theorem mapOk_def {α β} (f : α → β) (r : Except Err α) :
    (match r with | .ok a => Except.ok (f a) | .error e => .error e) = andThen r (fun a => .ok (f a)) := by
  cases r <;> rfl

theorem Sound.known_append {a b : List Comp} (ha : ∀ c ∈ a, Known c) (hb : ∀ c ∈ b, Known c) :
    ∀ c ∈ a ++ b, Known c :=
  List.forall_mem_append.mpr ⟨ha, hb⟩

/-- `mergeModules` never fails on sound modules; a merged module is sound, consists of the head's
    components followed by the tail's, is not first-in-gene and is complete -/
theorem mergeModules_spec {head tail : Module} (hh : Sound head) (ht : Sound tail) :
    ∃ r, mergeModules head tail = .ok r ∧
      ∀ m2, r = some m2 → Sound m2 ∧ m2.components = head.components ++ tail.components
        ∧ m2.firstInCds = false ∧ m2.isComplete = true := by
  have hlh := hh.facts.2.2
  -- the head's components rebuild it as a fold, in a state that is ready for the tail's
  obtain ⟨h1, hR1⟩ := replay_new false hh.noIgn
  rw [if_pos hlh] at h1
  have hR1 := hR1 hlh
  obtain ⟨h2, _⟩ := replay_eq (hR1.idle hR1.pend.nil tail.components) ht.noIgn
  rw [foldl_next_components, ← List.foldl_append, show (Module.new false).components = [] from rfl,
    List.nil_append] at h2
  unfold mergeModules
  rw [h1]; simp only; rw [h2]
  rcases Bool.eq_false_or_eq_true (layoutFrom head.components tail.components) with hl | hl
  · rw [hl, if_pos rfl]
    simp only
    generalize hm2 : (head.components ++ tail.components).foldl Module.next (Module.new false) = m2
    have hcomps : m2.components = head.components ++ tail.components := by
      rw [← hm2, foldl_next_components]; rfl
    have hfirst : m2.firstInCds = false := by rw [← hm2, foldl_next_firstInCds]; rfl
    cases hc : m2.isComplete with
    | false => exact ⟨none, by simp, fun m2 h => by cases h⟩
    | true =>
      refine ⟨some m2, by simp, ?_⟩
      intro m2' h; injection h with h; subst h
      refine ⟨(sound_iff m2).mpr ⟨?_, ?_, ?_⟩, hcomps, hfirst, hc⟩
      · rw [hcomps, hfirst, hm2]
      · rw [hcomps, layout, ← layoutFromX_nil, layoutFromX_append, List.append_nil, hh.layoutX,
          layoutFromX_nil]
        exact hl
      · rw [hcomps]
        exact List.forall_mem_append.mpr ⟨hh.noIgn, ht.noIgn⟩
  · rw [hl]
    exact ⟨none, rfl, fun m2 h => by cases h⟩

theorem transAt_snoc_mod {cs : List Comp} {c : Comp} (hk : kindOf c = .modification)
    (h : transAt cs = true) : transAt (cs ++ [c]) = true := by
  obtain ⟨b1, b2, b3, b4, b5, b6, b7⟩ := classBits_of_kind c _ hk
  simp only [Kind.bits] at b1 b2 b3 b4 b5 b6 b7
  unfold transAt at h ⊢
  simp only [Bool.and_eq_true] at h ⊢
  obtain ⟨⟨h1, h2⟩, h3⟩ := h
  refine ⟨⟨?_, ?_⟩, ?_⟩
  · unfold Spec.isPks at h1 ⊢; rw [List.any_append, h1]; rfl
  · unfold loaderOf at h2 ⊢; rw [find?_snoc, b4, orSnoc_false]; exact h2
  · unfold starterOf at h3 ⊢; rw [find?_snoc, b3, orSnoc_false]
    cases hs : List.find? Comp.isStarter cs with
    | none => rw [hs] at h3; cases h3
    | some s =>
      rw [hs] at h3
      simp only [Bool.or_eq_true] at h3 ⊢
      rcases h3 with h3 | h3
      · exact Or.inl h3
      · right; rw [List.any_append, h3]; rfl

theorem complete_of_transAt {cs : List Comp} {f : Bool} (h1 : transAt cs = true) (h2 : hasCarrier cs = true) :
    complete cs f = true := by
  unfold complete; rw [h1, h2]; rfl

/-- `absorbTrailingKr` never fails on a sound, complete merged module -/
theorem absorbTrailingKr_spec {m2 : Module} {curRest : List Module} (h2 : Sound m2)
    (hc : m2.isComplete = true) (hr : ∀ m ∈ curRest, Sound m) :
    (absorbTrailingKr m2 curRest = .ok (m2, curRest))
    ∨ (∃ next rest2 kr m3, curRest = next :: rest2 ∧ next.components = [kr]
        ∧ kr.label = trailingKrLabel ∧ m2.isTransAt = true
        ∧ absorbTrailingKr m2 curRest = .ok (m3, rest2)
        ∧ Sound m3 ∧ m3.components = m2.components ++ [kr] ∧ m3.firstInCds = m2.firstInCds
        ∧ m3.isComplete = true) := by
  obtain ⟨hI, hu, _⟩ := h2.facts
  unfold absorbTrailingKr
  cases curRest with
  | nil => exact Or.inl rfl
  | cons next rest2 =>
    simp only
    cases hn : next.components with
    | nil => exact Or.inl rfl
    | cons kr more =>
      cases more with
      | cons _ _ => exact Or.inl rfl
      | nil =>
        simp only
        cases hcond : (m2.isTransAt && !m2.isTerminated && kr.label == trailingKrLabel) with
        | false => exact Or.inl (by simp)
        | true =>
          right
          simp only [Bool.and_eq_true, Bool.not_eq_true', beq_iff_eq] at hcond
          obtain ⟨⟨hT, hE⟩, hl⟩ := hcond
          have hk : kindOf kr = .modification := by
            unfold kindOf; rw [hl, kr_same]; exact kr_kind
          obtain ⟨b1, b2, b3, b4, b5, b6, b7⟩ := classBits_of_kind kr _ hk
          simp only [Kind.bits] at b1 b2 b3 b4 b5 b6 b7
          have hR := h2.ready [kr]
          -- the layout admits the KR behind the carrier protein of a trans-AT module
          have hpos : positionOK m2.components kr [] = true := by
            have hE' : m2.components.any Comp.isEnd = false := by
              rw [← hI.end_isSome]; simpa [Module.isTerminated] using hE
            have hl' : (kr.label == transAtKrLabel) = true := by rw [hl, kr_same]; simp
            simp [positionOK, pureStarter, b1, b3, b4, b5, b6, hE', hl', ← hI.isTransAt_eq, hT]
          have h3 := add_eq [] hI hR.exact hR.pend.head b1
          rw [hpos, if_pos rfl] at h3
          have hI3 := hI.next hR.pend.head b1 hpos
          have hcar : hasCarrier m2.components = true := by
            have hc' := hc
            rw [hI.isComplete_eq] at hc'
            unfold complete at hc'
            simp only [Bool.and_eq_true] at hc'
            exact hc'.1
          have hcomplete : (m2.next kr).isComplete = true := by
            rw [hI3.isComplete_eq]
            apply complete_of_transAt
            · exact transAt_snoc_mod hk (by rw [← hI.isTransAt_eq]; exact hT)
            · show hasCarrier (m2.components ++ [kr]) = true
              unfold hasCarrier at hcar ⊢; rw [List.any_append, hcar]; rfl
          refine ⟨next, rest2, kr, m2.next kr, rfl, hn, hl, hT, by simp [h3],
            (sound_iff _).mpr ⟨?_, ?_, ?_⟩, rfl, rfl, hcomplete⟩
          · show m2.next kr = (m2.components ++ [kr]).foldl Module.next (Module.new m2.firstInCds)
            rw [List.foldl_append, ← ((sound_iff m2).mp h2).1]; rfl
          · show layout (m2.components ++ [kr]) = true
            rw [layout, ← layoutFromX_nil, layoutFromX_append, h2.layoutX]
            exact (Bool.and_true _).trans hpos
          · exact List.forall_mem_append.mpr ⟨h2.noIgn, List.forall_mem_singleton.mpr b1⟩

end ASV.Modules
