/-
  C05: `_merge_sets` — the repeat-until-stable merge yields the partition of the union of the
  input sets into the classes of "linked by a chain of input sets"; the sorts are permutations.
-/
import ASV.Spec.Candidates
import ASV.Proofs.SortKeyed
namespace ASV.CC
open ASV.CC.Spec
open ASV.Determinism (ccInsertBy_eq_insertBy ccSortBy_eq_sortBy)

section
variable {α : Type} [DecidableEq α]

theorem mem_unionL {a b : List α} {x : α} : x ∈ unionL a b ↔ x ∈ a ∨ x ∈ b := by
  simp only [unionL, List.mem_append, List.mem_filter, Bool.not_eq_true', List.contains_eq_mem,
    decide_eq_false_iff_not]
  constructor
  · rintro (h | ⟨h, _⟩)
    · exact Or.inl h
    · exact Or.inr h
  · intro h
    by_cases hx : x ∈ a
    · exact Or.inl hx
    · rcases h with h | h
      · exact absurd h hx
      · exact Or.inr ⟨h, hx⟩

theorem disjointB_iff {a b : List α} : disjointB a b = true ↔ ∀ x, x ∈ a → x ∉ b := by
  simp [disjointB]

theorem mem_dedup {l : List α} {x : α} : x ∈ dedup l ↔ x ∈ l := by
  induction l with
  | nil => simp [dedup]
  | cons y ys ih =>
    simp only [dedup, List.mem_cons, List.mem_filter, ih, bne_iff_ne, ne_eq]
    constructor
    · rintro (h | ⟨h, _⟩)
      · exact Or.inl h
      · exact Or.inr h
    · intro h
      by_cases hxy : x = y
      · exact Or.inl hxy
      · rcases h with h | h
        · exact absurd h hxy
        · exact Or.inr ⟨h, hxy⟩

theorem nodup_dedup (l : List α) : (dedup l).Nodup := by
  induction l with
  | nil => simp [dedup]
  | cons y ys ih =>
    simp only [dedup, List.nodup_cons, List.mem_filter, bne_self_eq_false, Bool.false_eq_true, and_false,
      not_false_eq_true, true_and]
    exact ih.filter _

/-! ### stable insertion sort: `Refine.sortBy` for `a ≤ b := ¬ b < a`, so a permutation -/

omit [DecidableEq α] in
theorem perm_insertBy (lt : α → α → Bool) (x : α) (l : List α) : (insertBy lt x l).Perm (x :: l) :=
  ccInsertBy_eq_insertBy lt x l ▸ Refine.insertBy_perm _ x l

omit [DecidableEq α] in
theorem perm_sortBy (lt : α → α → Bool) (l : List α) : (sortBy lt l).Perm l :=
  ccSortBy_eq_sortBy lt l ▸ Refine.sortBy_perm _ l

omit [DecidableEq α] in
theorem mem_insertBy (lt : α → α → Bool) (x y : α) (l : List α) : y ∈ insertBy lt x l ↔ y = x ∨ y ∈ l :=
  (perm_insertBy lt x l).mem_iff.trans List.mem_cons

omit [DecidableEq α] in
theorem mem_sortBy (lt : α → α → Bool) (y : α) (l : List α) : y ∈ sortBy lt l ↔ y ∈ l :=
  (perm_sortBy lt l).mem_iff

omit [DecidableEq α] in
theorem length_insertBy (lt : α → α → Bool) (x : α) (l : List α) : (insertBy lt x l).length = l.length + 1 :=
  (perm_insertBy lt x l).length_eq

theorem length_sortBy (lt : α → α → Bool) (l : List α) : (sortBy lt l).length = l.length :=
  (perm_sortBy lt l).length_eq

omit [DecidableEq α] in
/-- inserting keeps a list ascending for a transitive relation that agrees with the comparison at the new element -/
theorem insertBy_pairwise (lt : α → α → Bool) {R : α → α → Prop} (htrans : ∀ a b c, R a b → R b c → R a c)
    (x : α) (l : List α) (h1 : ∀ y, y ∈ l → lt y x = true → R y x) (h2 : ∀ y, y ∈ l → lt y x = false → R x y)
    (h : l.Pairwise R) : (insertBy lt x l).Pairwise R :=
  ccInsertBy_eq_insertBy lt x l ▸ Refine.insertBy_pairwise_gen x l (fun y _ z _ => htrans x y z)
    (fun y hy hc => h2 y hy (by simpa using hc)) (fun y hy hc => h1 y hy (by simpa using hc)) h

/-! ### CPython's small-list sort: a permutation too -/

omit [DecidableEq α] in
theorem perm_binInsert (lt : α → α → Bool) (sorted : List α) (pivot : α) :
    (binInsert lt sorted pivot).Perm (pivot :: sorted) := by
  simp only [binInsert]
  have h := List.take_append_drop (binSearch lt sorted pivot (sorted.length + 1) 0 sorted.length) sorted
  exact List.perm_middle.trans (List.Perm.cons pivot (by rw [h]))

omit [DecidableEq α] in
theorem perm_foldl_binInsert (lt : α → α → Bool) (rest run : List α) :
    (rest.foldl (binInsert lt) run).Perm (run ++ rest) := by
  induction rest generalizing run with
  | nil => simp
  | cons x xs ih =>
    simp only [List.foldl_cons]
    refine (ih (binInsert lt run x)).trans ?_
    refine (List.Perm.append_right xs (perm_binInsert lt run x)).trans ?_
    simp only [List.cons_append]
    exact List.perm_middle.symm

omit [DecidableEq α] in
theorem perm_pySort (lt : α → α → Bool) (l : List α) : (pySort lt l).Perm l := by
  simp only [pySort]
  refine (perm_foldl_binInsert lt _ _).trans ?_
  have h := List.take_append_drop (countRun lt l).1 l
  split
  · refine (List.Perm.append_right _ (List.reverse_perm _)).trans ?_
    rw [h]
  · rw [h]

theorem mem_pySort (lt : α → α → Bool) (y : α) (l : List α) : y ∈ pySort lt l ↔ y ∈ l :=
  (perm_pySort lt l).mem_iff

theorem length_pySort (lt : α → α → Bool) (l : List α) : (pySort lt l).length = l.length :=
  (perm_pySort lt l).length_eq

/-! ### one absorbing pass -/

def nonEmptyCount (l : List (List α)) : Nat := (l.filter fun s => !s.isEmpty).length

theorem absorbPass_length (first : List α) (rest : List (List α)) :
    (absorbPass first rest).2.1.length = rest.length := by
  induction rest generalizing first with
  | nil => simp [absorbPass]
  | cons s rest ih =>
    simp only [absorbPass]
    split <;> simp [ih]

theorem absorbPass_first_sub (first : List α) (rest : List (List α)) :
    ∀ x, x ∈ first → x ∈ (absorbPass first rest).1 := by
  induction rest generalizing first with
  | nil => simp [absorbPass]
  | cons s rest ih =>
    intro x hx
    simp only [absorbPass]
    split
    · exact ih first x hx
    · exact ih _ x (mem_unionL.2 (Or.inl hx))

/-- elements of the grown set come from `first` or from a later set -/
theorem absorbPass_first_from (first : List α) (rest : List (List α)) :
    ∀ x, x ∈ (absorbPass first rest).1 → x ∈ first ∨ ∃ s ∈ rest, x ∈ s := by
  induction rest generalizing first with
  | nil => simp [absorbPass]
  | cons s rest ih =>
    intro x hx
    simp only [absorbPass] at hx
    split at hx
    · rcases ih first x hx with h | ⟨t, ht, hxt⟩
      · exact Or.inl h
      · exact Or.inr ⟨t, List.mem_cons_of_mem _ ht, hxt⟩
    · rcases ih _ x hx with h | ⟨t, ht, hxt⟩
      · rcases mem_unionL.1 h with h | h
        · exact Or.inl h
        · exact Or.inr ⟨s, List.mem_cons_self, h⟩
      · exact Or.inr ⟨t, List.mem_cons_of_mem _ ht, hxt⟩

/-- every later set after the pass is one of the later sets before it, or empty -/
theorem absorbPass_rest_from (first : List α) (rest : List (List α)) :
    ∀ t, t ∈ (absorbPass first rest).2.1 → t = [] ∨ t ∈ rest := by
  induction rest generalizing first with
  | nil => simp [absorbPass]
  | cons s rest ih =>
    intro t ht
    simp only [absorbPass] at ht
    split at ht
    · rcases List.mem_cons.1 ht with h | h
      · exact Or.inr (h ▸ List.mem_cons_self)
      · rcases ih first t h with h | h
        · exact Or.inl h
        · exact Or.inr (List.mem_cons_of_mem _ h)
    · rcases List.mem_cons.1 ht with h | h
      · exact Or.inl h
      · rcases ih _ t h with h | h
        · exact Or.inl h
        · exact Or.inr (List.mem_cons_of_mem _ h)

/-- every later set is absorbed into the grown set or kept -/
theorem absorbPass_cover (first : List α) (rest : List (List α)) :
    ∀ s, s ∈ rest → (∀ x, x ∈ s → x ∈ (absorbPass first rest).1) ∨ s ∈ (absorbPass first rest).2.1 := by
  induction rest generalizing first with
  | nil => simp
  | cons s0 rest ih =>
    intro s hs
    simp only [absorbPass]
    split
    · rcases List.mem_cons.1 hs with h | h
      · exact Or.inr (h ▸ List.mem_cons_self)
      · rcases ih first s h with h | h
        · exact Or.inl h
        · exact Or.inr (List.mem_cons_of_mem _ h)
    · rcases List.mem_cons.1 hs with h | h
      · left; intro x hx
        exact absorbPass_first_sub _ _ x (mem_unionL.2 (Or.inr (h ▸ hx)))
      · rcases ih _ s h with h | h
        · exact Or.inl h
        · exact Or.inr (List.mem_cons_of_mem _ h)

/-- an unchanged pass: nothing moved and the first set meets none of the later ones -/
theorem absorbPass_unchanged (first : List α) (rest : List (List α)) (h : (absorbPass first rest).2.2 = false) :
    (absorbPass first rest).1 = first ∧ (absorbPass first rest).2.1 = rest ∧ ∀ s, s ∈ rest → disjointB first s = true := by
  induction rest generalizing first with
  | nil => simp [absorbPass]
  | cons s rest ih =>
    simp only [absorbPass] at h ⊢
    split at h
    · rename_i hd
      simp only [hd, if_true]
      obtain ⟨h1, h2, h3⟩ := ih first h
      refine ⟨h1, by rw [h2], ?_⟩
      intro t ht
      rcases List.mem_cons.1 ht with e | e
      · rw [e]; exact hd
      · exact h3 t e
    · simp at h

omit [DecidableEq α] in
theorem nonEmptyCount_cons (s : List α) (l : List (List α)) :
    nonEmptyCount (s :: l) = (if s.isEmpty then 0 else 1) + nonEmptyCount l := by
  simp only [nonEmptyCount, List.filter_cons]
  cases s <;> simp <;> omega

theorem absorbPass_count_le (first : List α) (rest : List (List α)) :
    nonEmptyCount (absorbPass first rest).2.1 ≤ nonEmptyCount rest := by
  induction rest generalizing first with
  | nil => simp [absorbPass]
  | cons s rest ih =>
    simp only [absorbPass]
    split
    · rw [nonEmptyCount_cons, nonEmptyCount_cons]
      have := ih first
      omega
    · rw [nonEmptyCount_cons, nonEmptyCount_cons]
      have := ih (unionL first s)
      simp; omega

/-- a changed pass empties at least one non-empty set -/
theorem absorbPass_count_lt (first : List α) (rest : List (List α)) (h : (absorbPass first rest).2.2 = true) :
    nonEmptyCount (absorbPass first rest).2.1 < nonEmptyCount rest := by
  induction rest generalizing first with
  | nil => simp [absorbPass] at h
  | cons s rest ih =>
    simp only [absorbPass] at h ⊢
    split at h
    · rename_i hd
      simp only [hd, if_true]
      rw [nonEmptyCount_cons, nonEmptyCount_cons]
      have := ih first h
      omega
    · rename_i hd
      simp only [hd, Bool.false_eq_true, if_false]
      rw [nonEmptyCount_cons, nonEmptyCount_cons]
      have hle := absorbPass_count_le (unionL first s) rest
      have hs : s.isEmpty = false := by
        cases s with
        | nil => simp [disjointB] at hd
        | cons => rfl
      simp [hs]; omega

/-! ### the repeat-until-stable loop -/

/-- whatever one pass keeps true of (grown set, later sets), the loop keeps -/
theorem absorbLoop_inv (I : List α → List (List α) → Prop)
    (hpass : ∀ f r, I f r → I (absorbPass f r).1 (absorbPass f r).2.1) :
    ∀ (n : Nat) (f : List α) (r : List (List α)), I f r → I (absorbLoop n f r).1 (absorbLoop n f r).2
  | 0, _, _, h => h
  | n + 1, f, r, h => by
    simp only [absorbLoop]
    split
    · exact absorbLoop_inv I hpass n _ _ (hpass f r h)
    · exact hpass f r h

theorem absorbLoop_length (n : Nat) (first : List α) (rest : List (List α)) :
    (absorbLoop n first rest).2.length = rest.length :=
  absorbLoop_inv (fun _ r => r.length = rest.length) (fun f r h => (absorbPass_length f r).trans h) n first rest rfl

theorem absorbLoop_first_sub (n : Nat) (first : List α) (rest : List (List α)) :
    ∀ x, x ∈ first → x ∈ (absorbLoop n first rest).1 :=
  absorbLoop_inv (fun f _ => ∀ x, x ∈ first → x ∈ f) (fun f r h x hx => absorbPass_first_sub f r x (h x hx))
    n first rest fun _ hx => hx

/-- elements of the grown set come from `first` or from a later set, and every later set after the loop is one of
    the later sets before it, or empty (one invariant: the first half of a pass needs the second of the passes before) -/
theorem absorbLoop_from (n : Nat) (first : List α) (rest : List (List α)) :
    (∀ x, x ∈ (absorbLoop n first rest).1 → x ∈ first ∨ ∃ s ∈ rest, x ∈ s) ∧
    ∀ t, t ∈ (absorbLoop n first rest).2 → t = [] ∨ t ∈ rest :=
  absorbLoop_inv (fun f r => (∀ x, x ∈ f → x ∈ first ∨ ∃ s ∈ rest, x ∈ s) ∧ ∀ t, t ∈ r → t = [] ∨ t ∈ rest)
    (fun f r h => ⟨fun x hx => (absorbPass_first_from f r x hx).elim (h.1 x) fun ⟨t, ht, hxt⟩ =>
        (h.2 t ht).elim (fun e => by rw [e] at hxt; cases hxt) fun e => Or.inr ⟨t, e, hxt⟩,
      fun t ht => (absorbPass_rest_from f r t ht).elim Or.inl (h.2 t)⟩)
    n first rest ⟨fun _ hx => Or.inl hx, fun _ ht => Or.inr ht⟩

theorem absorbLoop_cover (n : Nat) (first : List α) (rest : List (List α)) :
    ∀ s, s ∈ rest → (∀ x, x ∈ s → x ∈ (absorbLoop n first rest).1) ∨ s ∈ (absorbLoop n first rest).2 :=
  absorbLoop_inv (fun f r => ∀ s, s ∈ rest → (∀ x, x ∈ s → x ∈ f) ∨ s ∈ r)
    (fun f r h s hs => (h s hs).elim (fun h1 => Or.inl fun x hx => absorbPass_first_sub f r x (h1 x hx))
      (absorbPass_cover f r s)) n first rest fun _ hs => Or.inr hs

/-- with enough fuel the loop ends after an unchanged pass: the grown set meets no later set -/
theorem absorbLoop_disjoint (n : Nat) (first : List α) (rest : List (List α)) (hn : nonEmptyCount rest < n) :
    ∀ s, s ∈ (absorbLoop n first rest).2 → disjointB (absorbLoop n first rest).1 s = true := by
  induction n generalizing first rest with
  | zero => omega
  | succ n ih =>
    simp only [absorbLoop]
    split
    · rename_i hc
      have := absorbPass_count_lt first rest hc
      exact ih _ _ (by omega)
    · rename_i hc
      have hc' : (absorbPass first rest).2.2 = false := by simpa using hc
      obtain ⟨h1, h2, h3⟩ := absorbPass_unchanged first rest hc'
      rw [h1, h2]; exact h3

omit [DecidableEq α] in
theorem nonEmptyCount_le_length (l : List (List α)) : nonEmptyCount l ≤ l.length := by
  simp only [nonEmptyCount]; exact List.length_filter_le _ _


/-! ### connectedness is preserved -/

/-- any two elements of the set are linked by a chain of sets of `G` -/
def Conn (G : List (List α)) (s : List α) : Prop := ∀ a b, a ∈ s → b ∈ s → Linked G a b

omit [DecidableEq α] in
theorem conn_nil (G : List (List α)) : Conn G ([] : List α) := by
  intro a b ha; cases ha

theorem conn_union (G : List (List α)) (a b : List α) (ha : Conn G a) (hb : Conn G b)
    (hnd : disjointB a b = false) : Conn G (unionL a b) := by
  have : ∃ x, x ∈ a ∧ x ∈ b := by
    by_cases h : ∃ x, x ∈ a ∧ x ∈ b
    · exact h
    · exfalso
      have : disjointB a b = true := disjointB_iff.2 (fun x hx hxb => h ⟨x, hx, hxb⟩)
      rw [this] at hnd; cases hnd
  obtain ⟨x, hxa, hxb⟩ := this
  intro p q hp hq
  rcases mem_unionL.1 hp with hp | hp <;> rcases mem_unionL.1 hq with hq | hq
  · exact ha p q hp hq
  · exact Linked.trans (ha p x hp hxa) (hb x q hxb hq)
  · exact Linked.trans (hb p x hp hxb) (ha x q hxa hq)
  · exact hb p q hp hq

theorem linked_of_cover {α : Type} {G1 G2 : List (List α)}
    (h : ∀ g, g ∈ G1 → ∃ g', g' ∈ G2 ∧ ∀ x, x ∈ g → x ∈ g') {a b : α} (hl : Linked G1 a b) : Linked G2 a b := by
  induction hl with
  | base hg ha hb =>
    obtain ⟨g', hg', hs⟩ := h _ hg
    exact Linked.base hg' (hs _ ha) (hs _ hb)
  | trans _ _ ih1 ih2 => exact Linked.trans ih1 ih2

theorem linked_symm {α : Type} {G : List (List α)} {a b : α} (h : Linked G a b) : Linked G b a := by
  induction h with
  | base hg ha hb => exact Linked.base hg hb ha
  | trans _ _ ih1 ih2 => exact Linked.trans ih2 ih1

/-- chains are kept when every set of the first family is chain-connected in the second -/
theorem linked_of_conn {α : Type} {G1 G2 : List (List α)}
    (h : ∀ g, g ∈ G1 → ∀ a b, a ∈ g → b ∈ g → Linked G2 a b) {a b : α} (hl : Linked G1 a b) : Linked G2 a b := by
  induction hl with
  | base hg ha hb => exact h _ hg _ _ ha hb
  | trans _ _ ih1 ih2 => exact Linked.trans ih1 ih2

/-! ### what every set keeps

A property of sets that the empty set has and that the union of two meeting sets inherits holds of every
set the merge produces when it holds of the sets it starts from: so for being chain-connected (`Conn`)
and for having no repeated element. -/

section keeps
variable (P : List α → Prop) (hnil : P []) (hun : ∀ a b, P a → P b → disjointB a b = false → P (unionL a b))
include hnil hun

theorem absorbPass_keeps (first : List α) (rest : List (List α)) (hf : P first) (hr : ∀ s, s ∈ rest → P s) :
    P (absorbPass first rest).1 ∧ ∀ s, s ∈ (absorbPass first rest).2.1 → P s := by
  refine ⟨?_, fun s hs => (absorbPass_rest_from first rest s hs).elim (fun e => e ▸ hnil) (hr s)⟩
  induction rest generalizing first with
  | nil => exact hf
  | cons s rest ih =>
    simp only [absorbPass]
    split
    · exact ih first hf (fun t ht => hr t (List.mem_cons_of_mem _ ht))
    · rename_i hd
      exact ih _ (hun first s hf (hr s List.mem_cons_self) (by simpa using hd))
        (fun t ht => hr t (List.mem_cons_of_mem _ ht))

theorem absorbLoop_keeps (n : Nat) (first : List α) (rest : List (List α)) (hf : P first) (hr : ∀ s, s ∈ rest → P s) :
    P (absorbLoop n first rest).1 ∧ ∀ s, s ∈ (absorbLoop n first rest).2 → P s :=
  absorbLoop_inv (fun f r => P f ∧ ∀ s, s ∈ r → P s) (fun f r h => absorbPass_keeps P hnil hun f r h.1 h.2)
    n first rest ⟨hf, hr⟩

end keeps

/-! ### the outer loop -/

theorem mergeGo_from (n : Nat) (S : List (List α)) :
    ∀ o, o ∈ mergeGo n S → ∀ x, x ∈ o → ∃ s, s ∈ S ∧ x ∈ s := by
  induction n generalizing S with
  | zero => intro o ho x hx; exact ⟨o, by simpa [mergeGo] using ho, hx⟩
  | succ n ih =>
    cases S with
    | nil => intro o ho; simp [mergeGo] at ho
    | cons first rest =>
      intro o ho x hx
      simp only [mergeGo] at ho
      split at ho
      · rcases List.mem_cons.1 ho with e | e
        · subst e; exact ⟨o, List.mem_cons_self, hx⟩
        · obtain ⟨s, hs, hxs⟩ := ih rest o e x hx
          exact ⟨s, List.mem_cons_of_mem _ hs, hxs⟩
      · rcases List.mem_cons.1 ho with e | e
        · subst e
          rcases (absorbLoop_from _ _ _).1 x hx with h | ⟨t, ht, hxt⟩
          · exact ⟨first, List.mem_cons_self, h⟩
          · exact ⟨t, List.mem_cons_of_mem _ ht, hxt⟩
        · obtain ⟨s, hs, hxs⟩ := ih _ o e x hx
          rcases (absorbLoop_from _ _ _).2 s hs with e2 | e2
          · subst e2; cases hxs
          · exact ⟨s, List.mem_cons_of_mem _ e2, hxs⟩

section keeps
variable (P : List α → Prop) (hnil : P []) (hun : ∀ a b, P a → P b → disjointB a b = false → P (unionL a b))
include hnil hun

theorem mergeGo_keeps (n : Nat) (S : List (List α)) (hS : ∀ s, s ∈ S → P s) : ∀ o, o ∈ mergeGo n S → P o := by
  induction n generalizing S with
  | zero => intro o ho; exact hS o (by simpa [mergeGo] using ho)
  | succ n ih =>
    cases S with
    | nil => intro o ho; simp [mergeGo] at ho
    | cons first rest =>
      intro o ho
      simp only [mergeGo] at ho
      have hrest : ∀ s, s ∈ rest → P s := fun s hs => hS s (List.mem_cons_of_mem _ hs)
      split at ho
      · rcases List.mem_cons.1 ho with e | e
        · subst e; exact hS o List.mem_cons_self
        · exact ih rest hrest o e
      · have hl := absorbLoop_keeps P hnil hun (rest.length + 1) first rest (hS first List.mem_cons_self) hrest
        rcases List.mem_cons.1 ho with e | e
        · subst e; exact hl.1
        · exact ih _ hl.2 o e

end keeps

theorem mergeGo_cover (n : Nat) (S : List (List α)) (hn : S.length ≤ n) :
    ∀ s, s ∈ S → ∃ o, o ∈ mergeGo n S ∧ ∀ x, x ∈ s → x ∈ o := by
  induction n generalizing S with
  | zero =>
    intro s hs
    have : S = [] := List.eq_nil_of_length_eq_zero (by omega)
    subst this; cases hs
  | succ n ih =>
    cases S with
    | nil => intro s hs; cases hs
    | cons first rest =>
      have hlen : rest.length ≤ n := by simp at hn; omega
      intro s hs
      simp only [mergeGo]
      split
      · rcases List.mem_cons.1 hs with e | e
        · subst e; exact ⟨s, List.mem_cons_self, fun x hx => hx⟩
        · obtain ⟨o, ho, hsub⟩ := ih rest hlen s e
          exact ⟨o, List.mem_cons_of_mem _ ho, hsub⟩
      · rcases List.mem_cons.1 hs with e | e
        · subst e
          exact ⟨_, List.mem_cons_self, fun x hx => absorbLoop_first_sub _ _ _ x hx⟩
        · rcases absorbLoop_cover (rest.length + 1) first rest s e with h | h
          · exact ⟨_, List.mem_cons_self, h⟩
          · obtain ⟨o, ho, hsub⟩ := ih _ (by rw [absorbLoop_length]; exact hlen) s h
            exact ⟨o, List.mem_cons_of_mem _ ho, hsub⟩

theorem mergeGo_disjoint (n : Nat) (S : List (List α)) (hn : S.length ≤ n) : DisjointSets (mergeGo n S) := by
  induction n generalizing S with
  | zero =>
    have : S = [] := List.eq_nil_of_length_eq_zero (by omega)
    subst this; simp [mergeGo, DisjointSets]
  | succ n ih =>
    cases S with
    | nil => simp [mergeGo, DisjointSets]
    | cons first rest =>
      have hlen : rest.length ≤ n := by simp at hn; omega
      simp only [mergeGo]
      split
      · rename_i he
        have : first = [] := by simpa using he
        subst this
        refine List.Pairwise.cons ?_ (ih rest hlen)
        intro o _ x hx; cases hx
      · refine List.Pairwise.cons ?_ (ih _ (by rw [absorbLoop_length]; exact hlen))
        intro o ho x hx hxo
        obtain ⟨t, ht, hxt⟩ := mergeGo_from n _ o ho x hxo
        have := absorbLoop_disjoint (rest.length + 1) first rest
          (Nat.lt_succ_of_le (nonEmptyCount_le_length rest)) t ht
        exact disjointB_iff.1 this x hx hxt

/-! ### `_merge_sets` -/

omit [DecidableEq α] in
theorem linked_mem_left {G : List (List α)} {a b : α} (h : Linked G a b) : ∃ g, g ∈ G ∧ a ∈ g := by
  induction h with
  | base hg ha hb => exact ⟨_, hg, ha⟩
  | trans _ _ ih _ => exact ih

omit [DecidableEq α] in
theorem pairwise_disjoint_eq {R : List (List α)} (h : DisjointSets R) {r1 r2 : List α} {x : α}
    (h1 : r1 ∈ R) (h2 : r2 ∈ R) (hx1 : x ∈ r1) (hx2 : x ∈ r2) : r1 = r2 := by
  induction R with
  | nil => cases h1
  | cons r rs ih =>
    have hp := List.pairwise_cons.1 h
    rcases List.mem_cons.1 h1 with e1 | e1 <;> rcases List.mem_cons.1 h2 with e2 | e2
    · rw [e1, e2]
    · subst e1; exact absurd hx2 (hp.1 r2 e2 x hx1)
    · subst e2; exact absurd hx1 (hp.1 r1 e1 x hx2)
    · exact ih hp.2 e1 e2

/-- the sets returned by `_merge_sets` (before the per-group sort): pairwise disjoint, non-empty,
    and two elements lie in one returned set iff a chain of input sets links them -/
theorem mergeSetsCore_spec (key : List α → Int) (G : List (List α)) :
    DisjointSets (mergeSetsCore key G) ∧
    (∀ r, r ∈ mergeSetsCore key G → r ≠ []) ∧
    (∀ a b, (∃ r, r ∈ mergeSetsCore key G ∧ a ∈ r ∧ b ∈ r) ↔ Linked G a b) := by
  let S := sortBy (fun a b => decide (key a < key b)) (G.map dedup)
  have hS : ∀ s, s ∈ S ↔ ∃ g, g ∈ G ∧ s = dedup g := by
    intro s
    simp only [S, mem_sortBy, List.mem_map]
    constructor
    · rintro ⟨g, hg, e⟩; exact ⟨g, hg, e.symm⟩
    · rintro ⟨g, hg, e⟩; exact ⟨g, hg, e.symm⟩
  have hconn : ∀ s, s ∈ S → Conn G s := by
    intro s hs a b ha hb
    obtain ⟨g, hg, e⟩ := (hS s).1 hs
    subst e
    exact Linked.base hg (mem_dedup.1 ha) (mem_dedup.1 hb)
  have hdis := mergeGo_disjoint S.length S (Nat.le_refl _)
  have hR : mergeSetsCore key G = (mergeGo S.length S).filter fun g => !g.isEmpty := rfl
  have hmemR : ∀ r, r ∈ mergeSetsCore key G ↔ r ∈ mergeGo S.length S ∧ r ≠ [] := by
    intro r; rw [hR, List.mem_filter]; simp
  have hdisR : DisjointSets (mergeSetsCore key G) := by
    rw [hR]; exact List.Pairwise.filter _ hdis
  refine ⟨hdisR, fun r hr => ((hmemR r).1 hr).2, ?_⟩
  intro a b
  constructor
  · rintro ⟨r, hr, ha, hb⟩
    exact mergeGo_keeps (Conn G) (conn_nil G) (conn_union G) S.length S hconn r ((hmemR r).1 hr).1 a b ha hb
  · intro h
    induction h with
    | base hg ha hb =>
      rename_i g a b
      obtain ⟨o, ho, hsub⟩ := mergeGo_cover S.length S (Nat.le_refl _) (dedup g) ((hS _).2 ⟨g, hg, rfl⟩)
      have hao := hsub a (mem_dedup.2 ha)
      exact ⟨o, (hmemR o).2 ⟨ho, fun e => by rw [e] at hao; cases hao⟩, hao, hsub b (mem_dedup.2 hb)⟩
    | trans _ _ ih1 ih2 =>
      obtain ⟨r1, hr1, ha, hb1⟩ := ih1
      obtain ⟨r2, hr2, hb2, hc⟩ := ih2
      have := pairwise_disjoint_eq hdisR hr1 hr2 hb1 hb2
      subst this
      exact ⟨r1, hr1, ha, hc⟩

/-- the union of the returned sets is the union of the input sets -/
theorem mergeSetsCore_union (key : List α → Int) (G : List (List α)) (x : α) :
    (∃ r, r ∈ mergeSetsCore key G ∧ x ∈ r) ↔ ∃ g, g ∈ G ∧ x ∈ g := by
  obtain ⟨_, _, h3⟩ := mergeSetsCore_spec key G
  constructor
  · rintro ⟨r, hr, hx⟩
    exact linked_mem_left ((h3 x x).1 ⟨r, hr, hx, hx⟩)
  · rintro ⟨g, hg, hx⟩
    obtain ⟨r, hr, hx1, _⟩ := (h3 x x).2 (Linked.base hg hx hx)
    exact ⟨r, hr, hx1⟩


/-! ### the returned sets have no repeated element -/

theorem nodup_unionL {a b : List α} (ha : a.Nodup) (hb : b.Nodup) : (unionL a b).Nodup := by
  simp only [unionL]
  refine List.nodup_append.2 ⟨ha, hb.filter _, ?_⟩
  intro x hx y hy e
  subst e
  have := (List.mem_filter.1 hy).2
  simp at this
  exact this hx

theorem mergeSetsCore_nodup (key : List α → Int) (G : List (List α)) :
    ∀ r, r ∈ mergeSetsCore key G → r.Nodup := by
  intro r hr
  simp only [mergeSetsCore, List.mem_filter] at hr
  refine mergeGo_keeps List.Nodup List.nodup_nil (fun a b ha hb _ => nodup_unionL ha hb) _ _ ?_ r hr.1
  intro s hs
  rw [mem_sortBy] at hs
  obtain ⟨g, _, e⟩ := List.mem_map.1 hs
  subst e; exact nodup_dedup g

/-- every returned set contains one of the input sets (and so inherits its size) -/
theorem mergeSetsCore_contains_input (key : List α → Int) (G : List (List α)) :
    ∀ r, r ∈ mergeSetsCore key G → ∃ g, g ∈ G ∧ g ≠ [] ∧ ∀ x, x ∈ g → x ∈ r := by
  intro r hr
  obtain ⟨hdis, hne, h3⟩ := mergeSetsCore_spec key G
  have hrne := hne r hr
  obtain ⟨x, hx⟩ := List.exists_mem_of_ne_nil r hrne
  obtain ⟨g, hg, hxg⟩ := (mergeSetsCore_union key G x).1 ⟨r, hr, hx⟩
  refine ⟨g, hg, (fun e => by rw [e] at hxg; cases hxg), ?_⟩
  intro y hy
  obtain ⟨r', hr', hx', hy'⟩ := (h3 x y).2 (Linked.base hg hxg hy)
  have := pairwise_disjoint_eq hdis hr hr' hx hx'
  rw [this]; exact hy'

end
end ASV.CC
