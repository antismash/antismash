/-
  C14 helper lemmas: `addComponent` is a guard followed by a deterministic successor `Module.next`;
  the guard, when passed, is the layout clause `positionOK`, and a failing step is always an
  `IncompatibleComponentError` on a non-empty module with no pending look-ahead acceptance.
-/
import ASV.Proofs.ModulesLayoutFacts
namespace ASV.Modules
open T Spec

/-- the last line of `add_component`: `self._components.append(component)` -/
def push (c : Comp) (m2 : Module) : Module := { m2 with components := m2.components ++ [c] }

/-- `Except.bind`, as a plain function so that `rfl` closes the unfoldings -/
def andThen {α β} (r : Except Err α) (f : α → Except Err β) : Except Err β :=
  match r with
  | .ok a => f a
  | .error e => .error e

theorem andThen_ok {α β} (a : α) (f : α → Except Err β) : andThen (.ok a) f = f a := rfl

theorem andThen_error {α β} (e : Err) (f : α → Except Err β) : andThen (.error e) f = .error e := rfl

theorem andThen_ite {α β} (p : Prop) [Decidable p] (a b : Except Err α) (f : α → Except Err β) :
    andThen (if p then a else b) f = if p then andThen a f else andThen b f := by
  split
  · rfl
  · rfl

/-- without a pending acceptance `addComponent` is the suitability check followed by `place` -/
theorem add_unfold0 (m : Module) (c : Comp) (la : List Comp) (h0 : m.unambiguous = 0)
    (hc : c.isIgnored = false) :
    addComponent m c la =
      andThen (ensureSuitable m c la) fun _ => andThen (place m c la) fun m2 => .ok (push c m2) := by
  unfold addComponent
  simp only [hc, h0, Nat.lt_irrefl, gt_iff_lt, if_false, Bool.false_eq_true]
  cases ensureSuitable m c la with
  | ok u => cases u; dsimp only [andThen]; cases place m c la <;> rfl
  | error e => rfl

/-- with a pending acceptance the check is skipped -/
theorem add_unfold1 (m : Module) (c : Comp) (la : List Comp) (h0 : m.unambiguous > 0)
    (hc : c.isIgnored = false) :
    addComponent m c la =
      andThen (place { m with unambiguous := m.unambiguous - 1 } c la) fun m2 => .ok (push c m2) := by
  unfold addComponent
  simp only [hc, h0, if_true, Bool.false_eq_true, if_false]
  dsimp only [andThen]
  cases place { m with unambiguous := m.unambiguous - 1 } c la <;> rfl

theorem add_ignored (m : Module) (c : Comp) (la : List Comp) (hc : c.isIgnored = true) :
    addComponent m c la = .ok m := by
  unfold addComponent; simp [hc]

theorem isSome_false_iff {α} (o : Option α) : o.isSome = false ↔ o = none := by
  cases o <;> simp

/-- a check result that is not an assertion failure -/
def NoAssert (r : Except Err Unit) : Prop := ∀ e, r = .error e → e = .incompatible

theorem NoAssert.ok : NoAssert (.ok ()) := fun _ h => by cases h

theorem NoAssert.incompatible : NoAssert (.error .incompatible) :=
  fun _ h => by injection h with h; exact h.symm

theorem NoAssert.ite {p : Prop} [Decidable p] {a b : Except Err Unit} (ha : NoAssert a)
    (hb : NoAssert b) : NoAssert (if p then a else b) := by
  split
  · exact ha
  · exact hb

/-- the suitability check never trips its own assertion: the only `assert` sits behind
    `m.end_.isSome`, which has been refused as incompatible before -/
theorem ensureSuitable_noAssert (m : Module) (c : Comp) (la : List Comp) : NoAssert (ensureSuitable m c la) := by
  unfold ensureSuitable
  cases m.end_.isSome with
  | true =>
    simp only [if_true]
    exact .ite .ok .incompatible
  | false =>
    simp only [Bool.false_eq_true, if_false, Bool.false_or]
    repeat' apply NoAssert.ite
    all_goals first | exact .ok | exact .incompatible

theorem guard_ok_iff {p : Prop} [Decidable p] {e : Err} {b : Except Err Unit} :
    (if p then .error e else b) = .ok () ↔ ¬p ∧ b = .ok () := by
  split
  · exact ⟨fun h => (nomatch h), fun h => absurd ‹p› h.1⟩
  · exact ⟨fun h => ⟨‹¬p›, h⟩, fun h => h.2⟩

theorem StateInv.empty_slots {m : Module} (hI : StateInv m) (h : m.components = []) :
    m.starter = none ∧ m.loader = none ∧ m.carrier = none ∧ m.end_ = none ∧ m.modifications = [] := by
  refine ⟨?_, ?_, ?_, ?_, ?_⟩
  · rw [hI.starter, h]; rfl
  · rw [hI.loader, h]; rfl
  · rw [hI.carrier, h]; rfl
  · rw [hI.end_, h]; rfl
  · rw [hI.mods, h]; rfl

/-- nothing is refused by an empty module -/
theorem ensure_empty {m : Module} (hI : StateInv m) (h : m.components = []) (c : Comp) (la : List Comp) :
    ensureSuitable m c la = .ok () := by
  obtain ⟨h1, h2, h3, h4, h5⟩ := hI.empty_slots h
  unfold ensureSuitable
  simp [h, h1, h2, h3, h4, h5]

theorem any_or {α} (a b : α → Bool) (l : List α) :
    l.any (fun p => a p || b p) = (l.any a || l.any b) := by
  induction l with
  | nil => rfl
  | cons x l ih =>
    rw [List.any_cons, List.any_cons, List.any_cons, ih]
    ac_rfl

/-- the state after an accepted component: every slot is extended independently of the others -/
def Module.next (m : Module) (c : Comp) : Module :=
  { m with
    components := m.components ++ [c]
    starter := orSnoc m.starter c.isStarter c
    loader := orSnoc m.loader c.isLoader c
    modifications := m.modifications ++ (if c.isModification then [c] else [])
    carrier := orSnoc m.carrier c.isCarrierProtein c
    end_ := orSnoc m.end_ c.isEnd c
    others := m.others ++
      (if !(c.isStarter || c.isModification || c.isEnd) && (!c.isCarrierProtein || m.carrier.isSome)
       then [c] else [])
    unambiguous := if m.unambiguous > 0 then m.unambiguous - 1
                   else if c.isCarrierProtein && m.carrier.isSome then 2 else 0
    starterIsLoader := m.starterIsLoader || (m.starter.isNone && c.isStarter && c.isLoader) }

@[simp] theorem Module.next_components (m : Module) (c : Comp) :
    (m.next c).components = m.components ++ [c] := rfl

@[simp] theorem Module.next_firstInCds (m : Module) (c : Comp) : (m.next c).firstInCds = m.firstInCds := rfl

theorem Module.next_unambiguous (m : Module) (c : Comp) :
    (m.next c).unambiguous = if m.unambiguous > 0 then m.unambiguous - 1
      else if c.isCarrierProtein && m.carrier.isSome then 2 else 0 := rfl

theorem foldl_next_components (cs : List Comp) (m : Module) :
    (cs.foldl Module.next m).components = m.components ++ cs := by
  induction cs generalizing m with
  | nil => simp
  | cons c cs ih => rw [List.foldl_cons, ih, Module.next_components, List.append_assoc]; rfl

theorem foldl_next_firstInCds (cs : List Comp) (m : Module) :
    (cs.foldl Module.next m).firstInCds = m.firstInCds := by
  induction cs generalizing m with
  | nil => rfl
  | cons c cs ih => rw [List.foldl_cons, ih, Module.next_firstInCds]

/-- the check is passed, or skipped because of a pending look-ahead acceptance -/
def accepted (m : Module) (c : Comp) (la : List Comp) : Prop :=
  m.unambiguous > 0 ∨ ensureSuitable m c la = .ok ()

/-- the invariant is kept by `next` as soon as the layout admits the component -/
theorem StateInv.next {m : Module} {c : Comp} {la : List Comp} (hI : StateInv m)
    (hp : m.unambiguous > 0 → kindOf c = .modification) (hc : c.isIgnored = false)
    (hpos : positionOK m.components c la = true) : StateInv (m.next c) := by
  have hu := m.next_unambiguous c
  have hle := hI.pendLe
  constructor
  · show orSnoc m.starter c.isStarter c = _
    rw [hI.starter]; exact (find?_snoc _ _ _).symm
  · show orSnoc m.loader c.isLoader c = _
    rw [hI.loader]; exact (find?_snoc _ _ _).symm
  · show orSnoc m.carrier c.isCarrierProtein c = _
    rw [hI.carrier]; exact (find?_snoc _ _ _).symm
  · show orSnoc m.end_ c.isEnd c = _
    rw [hI.end_]; exact (find?_snoc _ _ _).symm
  · show m.modifications ++ _ = (m.components ++ [c]).filter _
    rw [hI.mods, List.filter_append]
    cases hm : c.isModification <;> simp [hm]
  · -- docking domains are `special`, so they land in `_others`
    show (m.others ++ _).any _ = (m.components ++ [c]).any _
    rw [List.any_append, List.any_append, hI.docking]
    cases hd : (c.label == transAtDocking) with
    | false => cases h : (!(c.isStarter || c.isModification || c.isEnd) && (!c.isCarrierProtein || m.carrier.isSome)) <;> simp [hd]
    | true =>
      obtain ⟨_, _, b3, _, b5, b6, b7⟩ := classBits_of_kind c _ (docking_special c hd)
      simp [b3, b5, b6, b7, Kind.bits, hd]
  · show (m.starterIsLoader || _) = match starterOf (m.components ++ [c]) with | some s => s.isLoader | none => false
    rw [hI.starter, hI.sil]; unfold starterOf; rw [find?_snoc]
    cases List.find? Comp.isStarter m.components with
    | some s => simp [orSnoc]
    | none => cases c.isStarter <;> simp [orSnoc]
  · intro x hx
    rcases List.mem_append.mp hx with hx | hx
    · exact hI.noIgn x hx
    · rw [List.mem_singleton.mp hx]; exact hc
  · intro h
    show extraCarrierAt (m.components ++ [c]) 0 = true
    rw [extraCarrierAt_snoc0]
    show (_ && hasCarrier m.components) = true
    rw [← hI.carrier_isSome]
    rw [hu] at h
    split at h
    · omega
    · split at h
      · assumption
      · cases h
  · intro h
    show extraCarrierAt (m.components ++ [c]) 1 = true
    rw [extraCarrierAt_snoc]
    apply hI.pend2
    rw [hu] at h
    split at h
    · omega
    · split at h <;> cases h
  · rw [hu]; split
    · omega
    · split <;> omega
  · intro h
    show orSnoc m.end_ c.isEnd c = none
    by_cases h0 : m.unambiguous > 0
    · obtain ⟨_, _, _, _, _, _, b7⟩ := classBits_of_kind c _ (hp h0)
      rw [b7, hI.pendEnd h0]; rfl
    · -- a fresh acceptance is opened by a carrier protein, which is no terminating domain
      rw [hu, if_neg h0] at h
      have hcp : c.isCarrierProtein = true := by
        cases hcp : c.isCarrierProtein with
        | true => rfl
        | false => simp [hcp] at h
      have hE := (positionOK_clauses hpos (not_special c (.inr (.inr (.inl hcp))))).1
      rw [← hI.end_isSome] at hE
      have hk : kindOf c = .carrier :=
        Kind.forall_of_allKinds (P := fun k => k.bits.cp = true → k = .carrier) (by decide) _
          (isCarrierProtein_eq c ▸ hcp)
      obtain ⟨_, _, _, _, _, _, b7⟩ := classBits_of_kind c _ hk
      rw [b7, (isSome_false_iff _).mp hE]; rfl

/-- the slots read back from the layout clause that admitted the component -/
theorem slots_of_pos {m : Module} {c : Comp} {la : List Comp} (hI : StateInv m)
    (hs : c.isSpecial = false) (hpos : positionOK m.components c la = true) :
    m.end_ = none ∧ (pureStarter c = true → m.starter = none) ∧ (c.isLoader = true → m.loader = none)
    ∧ (c.isCarrierProtein = true → m.carrier.isSome = true → dtValid (la.map (·.label)) = true) := by
  obtain ⟨h1, h2, h3, h4⟩ := positionOK_clauses hpos hs
  refine ⟨?_, ?_, ?_, ?_⟩
  · rw [← isSome_false_iff, hI.end_isSome]; exact h1
  · intro hp; exact (hI.empty_slots (h2 hp)).1
  · intro hl; rw [← isSome_false_iff, hI.loader_isSome]; exact h3 hl
  · intro hc hC; rw [← dtPair_eq]; exact h4 hc (by rw [← hI.carrier_isSome]; exact hC)

/-- the slot assignment of a component the layout admits: no assertion, and the result is `next` -/
theorem place_next {m : Module} {c : Comp} {la : List Comp} (hI : StateInv m) (hc : c.isIgnored = false)
    (h0 : m.unambiguous = 0) (hpos : positionOK m.components c la = true) :
    andThen (place m c la) (fun m2 => .ok (push c m2)) = .ok (m.next c) := by
  obtain ⟨b1, b2, b3, b4, b5, b6, b7⟩ := classBits_of_kind c _ rfl
  cases hk : kindOf c <;> rw [hk] at b1 b2 b3 b4 b5 b6 b7 <;> simp only [Kind.bits] at b1 b2 b3 b4 b5 b6 b7
  case ignored => rw [b1] at hc; cases hc
  case special => simp [place, Module.next, push, andThen, b3, b4, b5, b6, b7, h0]
  all_goals obtain ⟨hE, hS, hL, hV⟩ := slots_of_pos hI b2 hpos
  case other => simp [place, Module.next, push, andThen, b3, b4, b5, b6, b7, h0]
  case end_ => simp [place, Module.next, push, andThen, b3, b4, b5, b6, b7, h0, hE]
  case modification => simp [place, Module.next, push, andThen, b3, b4, b5, b6, b7, h0]
  case pureStarter =>
    have := hS (by simp [pureStarter, b3, b4])
    simp [place, Module.next, push, andThen, b3, b4, b5, b6, b7, h0, this]
  case loader =>
    have := hL b4
    cases hs : m.starter <;> simp [place, Module.next, push, andThen, b3, b4, b5, b6, b7, h0, this, hs]
  case carrier =>
    cases hC : m.carrier with
    | none => simp [place, Module.next, push, andThen, b3, b4, b5, b6, b7, h0, hC]
    | some x =>
      have := hV b6 (by rw [hC]; rfl)
      simp [place, Module.next, push, andThen, b3, b4, b5, b6, b7, h0, hC, dtLongest_eq, this]

theorem StateInv.mods_isEmpty {m : Module} (hI : StateInv m) :
    m.modifications.isEmpty = !m.components.any Comp.isModification := by
  rw [hI.mods, Bool.eq_iff_iff]
  simp [List.isEmpty_iff, List.filter_eq_nil_iff]

/-- with the slots read as the spec functions of the component list, `ensure_suitable` and `positionOK`
    are the same decision table, up to the clause that lets the two modifications behind an extra
    carrier protein pass: for those `add_component` skips the check instead -/
theorem ensure_layout {m : Module} {c : Comp} {la : List Comp} (hI : StateInv m) (hc : c.isIgnored = false) :
    (ensureSuitable m c la = .ok () → positionOK m.components c la = true)
    ∧ (positionOK m.components c la = true → followsExtraCarrier m.components = false →
        ensureSuitable m c la = .ok ()) := by
  cases hs : c.isSpecial with
  | true => simp [positionOK, ensureSuitable, hc, hs]
  | false =>
  obtain ⟨b1, b2, b3, b4, b5, b6, b7⟩ := classBits_of_kind c _ rfl
  unfold ensureSuitable positionOK pureStarter noMix
  rw [hI.end_isSome, hI.loader_isSome, hI.carrier_isSome, hI.isTransAt_eq, hI.mods_isEmpty, hI.starter,
    ← dtPair_eq, any_or, any_or]
  cases hE : m.components.any Comp.isEnd with
  | true => simp [hc, hs]
  | false =>
  simp only [hc, hs, Bool.or_false, Bool.false_or, Bool.not_false, Bool.true_and, Bool.false_eq_true,
    if_false]
  cases hk : kindOf c <;> rw [hk] at b1 b2 b3 b4 b5 b6 b7 <;> simp only [Kind.bits] at b1 b2 b3 b4 b5 b6 b7
    <;> simp only [b3, b4, b5, b6, b7, Bool.false_or, Bool.and_false, Bool.false_and,
      Bool.not_false, Bool.not_true, Bool.true_and, Bool.and_true, Bool.true_or,
      Bool.false_eq_true, if_false, if_true, guard_ok_iff, and_true, imp_self, implies_true]
  -- what is left per kind is the same table on both sides, over the Boolean atoms named below
  case pureStarter => cases m.components.isEmpty <;> simp
  case carrier => cases hasCarrier m.components <;> cases dtPair la <;> simp
  case modification =>
    generalize hasCarrier m.components = H, transAt m.components = T, (c.label == transAtKrLabel) = K,
      followsExtraCarrier m.components = F
    revert H T K F; decide
  case loader =>
    unfold hasCarrier
    generalize m.components.any Comp.isLoader = L, m.components.any Comp.isModification = M,
      m.components.any Comp.isCarrierProtein = H
    refine (fun (h : _ ↔ _) => ⟨h.1, fun hp _ => h.2 hp⟩) ?_
    cases starterOf m.components with
    | none => dsimp only; revert L M H; decide
    | some s =>
      dsimp only
      generalize (s.isPksSpecific && c.isNrpsSpecific) = P, (s.isNrpsSpecific && c.isPksSpecific) = Q
      revert L M H P Q; decide

/-- the two modifications announced by an extra carrier protein stand where the layout admits them -/
theorem pending_pos {m : Module} {c : Comp} {la : List Comp} (hI : StateInv m) (h0 : m.unambiguous > 0)
    (hk : kindOf c = .modification) : positionOK m.components c la = true := by
  obtain ⟨b1, b2, b3, b4, b5, b6, b7⟩ := classBits_of_kind c _ hk
  simp only [Kind.bits] at b1 b2 b3 b4 b5 b6 b7
  have hend : m.components.any Comp.isEnd = false := by rw [← hI.end_isSome, hI.pendEnd h0]; rfl
  have hle := hI.pendLe
  have hf : followsExtraCarrier m.components = true := by
    unfold followsExtraCarrier
    have : m.unambiguous = 1 ∨ m.unambiguous = 2 := by omega
    rcases this with h | h
    · rw [hI.pend1 h, Bool.or_true]
    · rw [hI.pend2 h, Bool.true_or]
  simp [positionOK, b1, b2, b4, b5, b6, pureStarter, b3, hend, hf]

/-- ONE STEP: an accepted component (check passed, or skipped for a pending look-ahead acceptance that
    the component honours) takes the module to `next`, and stands where the layout admits it -/
theorem add_next {m : Module} {c : Comp} (la : List Comp) (hI : StateInv m)
    (hp : m.unambiguous > 0 → kindOf c = .modification) (hc : c.isIgnored = false)
    (ha : accepted m c la) :
    addComponent m c la = .ok (m.next c) ∧ positionOK m.components c la = true := by
  by_cases h0 : m.unambiguous > 0
  · have hk := hp h0
    obtain ⟨_, _, b3, b4, b5, b6, b7⟩ := classBits_of_kind c _ hk
    simp only [Kind.bits] at b3 b4 b5 b6 b7
    refine ⟨?_, pending_pos hI h0 hk⟩
    rw [add_unfold1 m c la h0 hc]
    simp [place, andThen, push, Module.next, b3, b4, b5, b6, b7, h0]
  · have h0 : m.unambiguous = 0 := by omega
    have he : ensureSuitable m c la = .ok () := by
      rcases ha with h | h
      · omega
      · exact h
    have hpos := (ensure_layout hI hc).1 he
    exact ⟨by rw [add_unfold0 m c la h0 hc, he, andThen_ok, place_next hI hc h0 hpos], hpos⟩

/-- a refusal is an IncompatibleComponentError of a non-empty module -/
theorem add_refused {m : Module} {c : Comp} {la : List Comp} (hI : StateInv m) (h0 : m.unambiguous = 0)
    (hc : c.isIgnored = false) {e : Err} (he : ensureSuitable m c la = .error e) :
    addComponent m c la = .error .incompatible ∧ m.components ≠ [] := by
  have := ensureSuitable_noAssert m c la e he; subst this
  refine ⟨by rw [add_unfold0 m c la h0 hc, he]; rfl, ?_⟩
  intro hcs; rw [ensure_empty hI hcs] at he; cases he

/-- the converse of `StateInv.pend2`/`pend1`: an extra carrier protein among the last two components
    has its acceptance pending -/
structure PendExact (m : Module) : Prop where
  at0 : extraCarrierAt m.components 0 = true → m.unambiguous = 2
  at1 : extraCarrierAt m.components 1 = true → m.unambiguous = 1

theorem PendExact.new (f : Bool) : PendExact (Module.new f) := ⟨fun h => (nomatch h), fun h => (nomatch h)⟩

theorem PendExact.idle {m : Module} (h : PendExact m) (h0 : m.unambiguous = 0) :
    followsExtraCarrier m.components = false := by
  unfold followsExtraCarrier
  cases h1 : extraCarrierAt m.components 0 with
  | true => have := h.at0 h1; omega
  | false =>
    cases h2 : extraCarrierAt m.components 1 with
    | true => have := h.at1 h2; omega
    | false => rfl

theorem PendExact.next {m : Module} {c : Comp} (hI : StateInv m) (h : PendExact m)
    (hp : m.unambiguous > 0 → kindOf c = .modification) : PendExact (m.next c) := by
  constructor
  · intro he
    rw [Module.next_components, extraCarrierAt_snoc0] at he
    rw [Module.next_unambiguous]
    by_cases h0 : m.unambiguous > 0
    · rw [isCarrierProtein_eq, hp h0] at he; cases he
    · rw [if_neg h0, hI.carrier_isSome]
      exact if_pos he
  · intro he
    rw [Module.next_components, extraCarrierAt_snoc] at he
    rw [Module.next_unambiguous, h.at0 he]; rfl
/-- ONE STEP, exact: on a module whose pending counter is what its components show, `add_component`
    is the layout test followed by `next` -/
theorem add_eq {m : Module} {c : Comp} (la : List Comp) (hI : StateInv m) (hE : PendExact m)
    (hp : m.unambiguous > 0 → kindOf c = .modification) (hc : c.isIgnored = false) :
    addComponent m c la = if positionOK m.components c la then .ok (m.next c) else .error .incompatible := by
  by_cases h0 : m.unambiguous > 0
  · have h := add_next la hI hp hc (.inl h0)
    rw [h.1, if_pos h.2]
  · have h0 : m.unambiguous = 0 := by omega
    cases he : ensureSuitable m c la with
    | ok u =>
      have h := add_next la hI hp hc (.inr he)
      rw [h.1, if_pos h.2]
    | error e =>
      rw [(add_refused hI h0 hc he).1, if_neg]
      intro hpos
      rw [(ensure_layout hI hc).2 hpos (hE.idle h0)] at he
      cases he

/-- what `add_component` does with a component that is no docking domain: refused by a non-empty
    module without pending acceptance, or taken to `next` at a position the layout admits -/
def StepResult (m : Module) (c : Comp) (la : List Comp) : Prop :=
  (addComponent m c la = .error .incompatible ∧ m.unambiguous = 0 ∧ m.components ≠ [])
  ∨ (addComponent m c la = .ok (m.next c) ∧ positionOK m.components c la = true ∧ StateInv (m.next c))

/-- one `add_component` call on a module in a consistent state: either the component is a
    docking domain (nothing happens), or it is refused with IncompatibleComponentError by a
    non-empty module without pending acceptance, or it is accepted and the module becomes `next`.
    In particular no assertion is reachable. -/
theorem add_cases {m : Module} {c : Comp} (la : List Comp) (hI : StateInv m)
    (hp : m.unambiguous > 0 → kindOf c = .modification) :
    (kindOf c = .ignored ∧ addComponent m c la = .ok m)
    ∨ (kindOf c ≠ .ignored ∧ StepResult m c la) := by
  cases hc : c.isIgnored with
  | true => exact Or.inl ⟨kind_of_isIgnored c hc, add_ignored m c la hc⟩
  | false =>
    refine Or.inr ⟨fun hk => (by rw [isIgnored_eq, hk] at hc; cases hc), ?_⟩
    have ok : accepted m c la → StepResult m c la := fun ha =>
      have h := add_next la hI hp hc ha
      Or.inr ⟨h.1, h.2, hI.next hp hc h.2⟩
    by_cases h0 : m.unambiguous > 0
    · exact ok (Or.inl h0)
    · cases he : ensureSuitable m c la with
      | ok u => exact ok (Or.inr he)
      | error e =>
        have := add_refused hI (by omega) hc he
        exact Or.inl ⟨this.1, by omega, this.2⟩

/-- a modification is accepted before the carrier protein — after it only the trans-AT KR -/
theorem add_mod {m : Module} {c : Comp} {la : List Comp} (hI : StateInv m)
    (hk : kindOf c = .modification) (h0 : m.unambiguous = 0) : StepResult m c la := by
  rcases add_cases la hI (fun h => absurd h0 (Nat.ne_of_gt h)) with ⟨hi, _⟩ | ⟨_, h⟩
  · rw [hk] at hi; cases hi
  · exact h

end ASV.Modules
