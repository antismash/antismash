/-
  C15 helper lemmas: `find_intergenic_areas`.  Every area of the sweep lies in `[start, end)`
  beside every gene (`Beside`), which gives soundness in both readings (no core base touched, at
  most `pad` bases shared); every stretch beside all genes is contained in one area; for genes
  longer than twice the padding the areas are exactly the maximal gaps.
  `_find_cross_origin_intergenic` returns the per-part areas, the one ending at the record's end
  and the one starting at 0 joined into one area reaching back over the origin.
-/
import ASV.Spec.Orf
import ASV.Proofs.Sort
namespace ASV.Orf
open ASV

/-- `[a, b)` lies entirely before or entirely after the core of `g` (for a non-empty core this
    is the same as not touching it; for an empty core it also forbids straddling the point
    `g.start + pad ≥ g.end − pad` where the loop cuts its areas) -/
def Beside (g : Gene) (pad a b : Int) : Prop := b ≤ g.start + pad ∨ g.end - pad ≤ a

theorem not_core_of_beside {g : Gene} {pad a b : Int} (h : Beside g pad a b) (i : Int) (h1 : a ≤ i)
    (h2 : i < b) : ¬ g.core pad i := by
  intro hc
  unfold Gene.core at hc
  rcases h with h | h
  · omega
  · omega

theorem overlap_of_beside {g : Gene} {pad x y : Int} (hpad : 0 ≤ pad) (h : Beside g pad x y) :
    overlapSize g x y ≤ pad := by
  unfold overlapSize
  rcases h with h | h
  · omega
  · omega

theorem beside_of_clear {g : Gene} {pad a b : Int} (hab : a < b) (hlong : g.start + pad < g.end - pad)
    (hclear : ∀ i, a ≤ i → i < b → ¬ g.core pad i) : Beside g pad a b := by
  unfold Beside
  by_cases h1 : b ≤ g.start + pad
  · exact Or.inl h1
  · by_cases h2 : g.end - pad ≤ a
    · exact Or.inr h2
    · exfalso
      by_cases h3 : a ≤ g.start + pad
      · exact hclear (g.start + pad) h3 (by omega) ⟨by omega, by omega⟩
      · exact hclear a (by omega) hab ⟨by omega, by omega⟩

/-- `sorted(cds_features, key=start)` is the stable sort by start -/
theorem sortGenes_eq (l : List Gene) :
    sortGenes l = Refine.sortBy (fun a b => decide (a.start ≤ b.start)) l :=
  Refine.foldr_eq_sortBy (ins := insertGene) (fun _ => rfl) (fun _ _ _ => by simp only [insertGene, decide_eq_true_eq]) l

theorem mem_sortGenes {l : List Gene} {g : Gene} : g ∈ sortGenes l ↔ g ∈ l := by
  rw [sortGenes_eq]
  exact Refine.mem_sortBy _

theorem sortedByStart_iff_pairwise (l : List Gene) :
    sortedByStart l ↔ l.Pairwise fun a b => a.start ≤ b.start := by
  induction l with
  | nil => simp only [sortedByStart, List.Pairwise.nil]
  | cons g gs ih => simp only [sortedByStart, List.pairwise_cons, ih]

theorem sortGenes_sorted (l : List Gene) : sortedByStart (sortGenes l) := by
  rw [sortedByStart_iff_pairwise, sortGenes_eq]
  exact Refine.sortBy_key_pairwise Gene.start l

theorem sortedByStartB_iff (gs : List Gene) : sortedByStartB gs = true ↔ sortedByStart gs := by
  induction gs with
  | nil => simp only [sortedByStartB, sortedByStart]
  | cons g gs ih =>
    simp only [sortedByStartB, sortedByStart, Bool.and_eq_true, List.all_eq_true, decide_eq_true_eq, ih]

section sweep
variable {start «end» pad last : Int} {a : Int × Int}

theorem mem_intergenicLoop_nil :
    a ∈ intergenicLoop start «end» pad [] last ↔ last < «end» ∧ a = (max start last, «end») := by
  unfold intergenicLoop
  split
  · rename_i h
    rw [List.mem_singleton]
    exact ⟨fun e => ⟨h, e⟩, fun e => e.2⟩
  · rename_i h
    exact ⟨fun e => absurd e List.not_mem_nil, fun e => absurd e.1 h⟩

/-- one step of the sweep: the area before `g`, or an area of the rest of the sweep run with a
    cursor that has not moved back and (for `0 ≤ pad`) is past the core of `g` -/
theorem mem_intergenicLoop_cons {g : Gene} {gs : List Gene}
    (h : a ∈ intergenicLoop start «end» pad (g :: gs) last) :
    (last < g.start + pad ∧ a = (max start last, min «end» (g.start + pad))) ∨
    ∃ last', (last' = last ∨ (last' = g.end - pad ∧ last < g.end - pad)) ∧
      (0 ≤ pad → g.end - pad ≤ last') ∧ a ∈ intergenicLoop start «end» pad gs last' := by
  have hmax : max last (g.end - pad) = last ∨ (max last (g.end - pad) = g.end - pad ∧ last < g.end - pad) := by
    omega
  unfold intergenicLoop at h
  split at h
  · rcases List.mem_cons.1 h with rfl | h
    · exact Or.inl ⟨by omega, rfl⟩
    · exact Or.inr ⟨_, hmax, fun _ => by omega, h⟩
  · split at h
    · exact Or.inr ⟨_, hmax, fun _ => by omega, h⟩
    · exact Or.inr ⟨last, Or.inl rfl, fun _ => by omega, h⟩

theorem intergenicLoop_bounds : ∀ {gs : List Gene} {last : Int}, a ∈ intergenicLoop start «end» pad gs last →
    start ≤ a.1 ∧ last ≤ a.1 ∧ a.2 ≤ «end» := by
  intro gs
  induction gs with
  | nil =>
    intro last ha
    obtain ⟨_, rfl⟩ := mem_intergenicLoop_nil.1 ha
    exact ⟨Int.le_max_left _ _, Int.le_max_right _ _, Int.le_refl _⟩
  | cons g gs ih =>
    intro last ha
    rcases mem_intergenicLoop_cons ha with ⟨_, rfl⟩ | ⟨last', hl, _, hm⟩
    · exact ⟨Int.le_max_left _ _, Int.le_max_right _ _, Int.min_le_left _ _⟩
    · obtain ⟨b1, b2, b3⟩ := ih hm
      exact ⟨b1, by omega, b3⟩

/-- every area of the sweep lies beside every gene (stronger than missing its core: it also
    holds for genes shorter than twice the padding) -/
theorem intergenicLoop_beside (hpad : 0 ≤ pad) : ∀ {gs : List Gene} {last : Int}, sortedByStart gs →
    a ∈ intergenicLoop start «end» pad gs last → ∀ g ∈ gs, Beside g pad a.1 a.2 := by
  intro gs
  induction gs with
  | nil => intro _ _ _ g hg; exact absurd hg List.not_mem_nil
  | cons g gs ih =>
    intro last hsorted ha h hh
    rcases mem_intergenicLoop_cons ha with ⟨_, rfl⟩ | ⟨last', _, hl, hm⟩
    · -- the area ends where the core of `g` begins, and no later gene begins earlier
      have : g.start ≤ h.start := by
        rcases List.mem_cons.1 hh with rfl | hh
        · exact Int.le_refl _
        · exact hsorted.1 h hh
      exact Or.inl (by simp only; omega)
    · rcases List.mem_cons.1 hh with rfl | hh
      · have := (intergenicLoop_bounds hm).2.1
        exact Or.inr (by have := hl hpad; omega)
      · exact ih hsorted.2 hm h hh

end sweep

section search
variable {start «end» minLen pad : Int} {genes : List Gene} {a : Int × Int}

theorem mem_findIntergenic : a ∈ findIntergenic start «end» genes minLen pad ↔
    a ∈ intergenicLoop start «end» pad (sortGenes genes) start ∧ minLen ≤ a.2 - a.1 := by
  unfold findIntergenic
  rw [List.mem_filter, decide_eq_true_eq]

/-- every area lies in `[start, end)` and is long enough (whatever the padding) -/
theorem findIntergenic_bounds (ha : a ∈ findIntergenic start «end» genes minLen pad) :
    start ≤ a.1 ∧ a.2 ≤ «end» ∧ minLen ≤ a.2 - a.1 := by
  obtain ⟨hm, hlen⟩ := mem_findIntergenic.1 ha
  obtain ⟨b1, _, b3⟩ := intergenicLoop_bounds hm
  exact ⟨b1, b3, hlen⟩

/-- the areas found for a stretch `[start, end)` inside a record of length `L` are well-formed and
    do not reach back over the origin -/
theorem findIntergenic_areaOk {L : Int} (h0 : 0 ≤ start) (hen : «end» ≤ L) (hmin : 0 ≤ minLen)
    (ha : a ∈ findIntergenic start «end» genes minLen pad) : AreaOk L a ∧ 0 ≤ a.1 := by
  obtain ⟨h1, h2, h3⟩ := findIntergenic_bounds ha
  exact ⟨⟨by omega, by omega, by omega, by omega⟩, by omega⟩

/-- every area lies beside every gene, for genes given in any order -/
theorem findIntergenic_beside (hpad : 0 ≤ pad) (ha : a ∈ findIntergenic start «end» genes minLen pad)
    {g : Gene} (hg : g ∈ genes) : Beside g pad a.1 a.2 :=
  intergenicLoop_beside hpad (sortGenes_sorted genes) (mem_findIntergenic.1 ha).1 g (mem_sortGenes.2 hg)

/-- soundness: no area touches the core of a gene -/
theorem findIntergenic_clear (hpad : 0 ≤ pad) (ha : a ∈ findIntergenic start «end» genes minLen pad) :
    ∀ g ∈ genes, ∀ i, a.1 ≤ i → i < a.2 → ¬ g.core pad i :=
  fun _ hg => not_core_of_beside (findIntergenic_beside hpad ha hg)

/-- soundness in the words "up to the allowed overlap": any stretch inside an area shares at
    most `pad` bases with every gene -/
theorem findIntergenic_overlap (hpad : 0 ≤ pad) (ha : a ∈ findIntergenic start «end» genes minLen pad)
    {g : Gene} (hg : g ∈ genes) {x y : Int} (hx : a.1 ≤ x) (hy : y ≤ a.2) : overlapSize g x y ≤ pad := by
  apply overlap_of_beside hpad
  rcases findIntergenic_beside hpad ha hg with hb | hb
  · exact Or.inl (Int.le_trans hy hb)
  · exact Or.inr (Int.le_trans hb hx)

end search

/-- the executable check the driver runs on implementation output is the avoidance statement -/
theorem areaAvoids_iff (genes : List Gene) (pad : Int) (a : Int × Int) :
    areaAvoids genes pad a = true ↔ ∀ g ∈ genes, ∀ i, a.1 ≤ i → i < a.2 → ¬ g.core pad i := by
  simp only [areaAvoids, List.all_eq_true, Bool.or_eq_true, decide_eq_true_eq]
  constructor
  · intro h g hg i h1 h2 hc
    unfold Gene.core at hc
    have := h g hg
    omega
  · intro h g hg
    by_cases h5 : a.2 ≤ a.1
    · exact Or.inr h5
    · by_cases h3 : g.end - pad ≤ g.start + pad
      · exact Or.inl (Or.inr h3)
      · rcases beside_of_clear (by omega) (by omega) (h g hg) with hb | hb
        · exact Or.inl (Or.inl (Or.inl hb))
        · exact Or.inl (Or.inl (Or.inr hb))

section complete
variable {start «end» minLen pad a b : Int} {genes : List Gene}

theorem intergenicLoop_complete (h1 : start ≤ a) (h2 : a < b) (h3 : b ≤ «end») :
    ∀ (gs : List Gene) (last : Int), last ≤ a → (∀ g ∈ gs, Beside g pad a b) →
      ∃ area ∈ intergenicLoop start «end» pad gs last, area.1 ≤ a ∧ b ≤ area.2 := by
  intro gs
  induction gs with
  | nil =>
    intro last hl _
    exact ⟨_, mem_intergenicLoop_nil.2 ⟨by omega, rfl⟩, by simp only; omega, by simp only; omega⟩
  | cons g gs ih =>
    intro last hl hb
    have hg := hb g List.mem_cons_self
    have hrest : ∀ h ∈ gs, Beside h pad a b := fun h hh => hb h (List.mem_cons_of_mem _ hh)
    unfold intergenicLoop
    split
    · rcases hg with hg | hg
      · exact ⟨_, List.mem_cons_self, by simp only; omega, by simp only; omega⟩
      · obtain ⟨area, hm, hc⟩ := ih (max last (g.end - pad)) (by omega) hrest
        exact ⟨area, List.mem_cons_of_mem _ hm, hc⟩
    · split
      · have hcur : max last (g.end - pad) ≤ a := by
          rcases hg with hg | hg
          · omega
          · omega
        exact ih (max last (g.end - pad)) hcur hrest
      · exact ih last hl hrest

/-- completeness (no ordering assumption needed) -/
theorem findIntergenic_complete (h1 : start ≤ a) (h2 : a < b) (h3 : b ≤ «end») (hlen : minLen ≤ b - a)
    (hb : ∀ g ∈ genes, Beside g pad a b) :
    ∃ area ∈ findIntergenic start «end» genes minLen pad, area.1 ≤ a ∧ b ≤ area.2 := by
  obtain ⟨area, hm, hc⟩ := intergenicLoop_complete h1 h2 h3 (sortGenes genes) start h1
    (fun g hg => hb g (mem_sortGenes.1 hg))
  exact ⟨area, mem_findIntergenic.2 ⟨hm, by omega⟩, hc⟩

/-- every maximal gap that does not straddle an empty core is returned as it is -/
theorem findIntergenic_gap_mem (hpad : 0 ≤ pad) (hgap : IsGap start «end» genes pad a b)
    (hb : ∀ g ∈ genes, Beside g pad a b) (hlen : minLen ≤ b - a) :
    (a, b) ∈ findIntergenic start «end» genes minLen pad := by
  obtain ⟨area, hm, hc1, hc2⟩ := findIntergenic_complete hgap.lo hgap.ne hgap.hi hlen hb
  obtain ⟨s1, s2, _⟩ := findIntergenic_bounds hm
  have s4 := findIntergenic_clear hpad hm
  have hne := hgap.ne
  -- the area cannot reach further than the gap on either side: there lies a core base
  have e1 : area.1 = a := by
    rcases hgap.maxL with h0 | ⟨g, hg, hcore⟩
    · omega
    · exact Classical.byContradiction fun h => s4 g hg (a - 1) (by omega) (by omega) hcore
  have e2 : area.2 = b := by
    rcases hgap.maxR with h0 | ⟨g, hg, hcore⟩
    · omega
    · exact Classical.byContradiction fun h => s4 g hg b (by omega) (by omega) hcore
  rw [← e1, ← e2]
  exact hm

/-- where the sweep's areas begin and end, for genes with non-empty cores -/
theorem intergenicLoop_maximal {area : Int × Int} :
    ∀ {gs : List Gene} {last : Int}, start ≤ last → (∀ g ∈ gs, g.start + pad < g.end - pad) →
    area ∈ intergenicLoop start «end» pad gs last →
      (area.1 = last ∨ ∃ g ∈ gs, g.core pad (area.1 - 1)) ∧
      (area.2 = «end» ∨ ∃ g ∈ gs, g.core pad area.2) := by
  intro gs
  induction gs with
  | nil =>
    intro last hl _ ha
    obtain ⟨_, rfl⟩ := mem_intergenicLoop_nil.1 ha
    exact ⟨Or.inl (Int.max_eq_right hl), Or.inl rfl⟩
  | cons g gs ih =>
    intro last hl hlong ha
    have hg := hlong g List.mem_cons_self
    rcases mem_intergenicLoop_cons ha with ⟨hgap, rfl⟩ | ⟨last', hl', _, hm⟩
    · refine ⟨Or.inl (Int.max_eq_right hl), ?_⟩
      by_cases he : «end» ≤ g.start + pad
      · exact Or.inl (Int.min_eq_left he)
      · exact Or.inr ⟨g, List.mem_cons_self, by unfold Gene.core; simp only; omega⟩
    · obtain ⟨b1, b2⟩ := ih (by omega) (fun h hh => hlong h (List.mem_cons_of_mem _ hh)) hm
      constructor
      · rcases b1 with b1 | ⟨h, hh, hc⟩
        · rcases hl' with rfl | ⟨rfl, hlt⟩
          · exact Or.inl b1
          · -- the cursor jumped to the end of `g`'s core
            exact Or.inr ⟨g, List.mem_cons_self, by unfold Gene.core; omega⟩
        · exact Or.inr ⟨h, List.mem_cons_of_mem _ hh, hc⟩
      · rcases b2 with b2 | ⟨h, hh, hc⟩
        · exact Or.inl b2
        · exact Or.inr ⟨h, List.mem_cons_of_mem _ hh, hc⟩

theorem findIntergenic_iff_gap (hpad : 0 ≤ pad) (hmin : 0 < minLen)
    (hlong : ∀ g ∈ genes, g.start + pad < g.end - pad) :
    (a, b) ∈ findIntergenic start «end» genes minLen pad ↔
      IsGap start «end» genes pad a b ∧ minLen ≤ b - a := by
  constructor
  · intro hm
    obtain ⟨s1, s2, s3⟩ := findIntergenic_bounds hm
    have s4 := findIntergenic_clear hpad hm
    obtain ⟨m1, m2⟩ := intergenicLoop_maximal (Int.le_refl _)
      (fun g hg => hlong g (mem_sortGenes.1 hg)) (mem_findIntergenic.1 hm).1
    have back : ∀ i, (∃ g ∈ sortGenes genes, g.core pad i) → ∃ g ∈ genes, g.core pad i :=
      fun i ⟨g, hg, hc⟩ => ⟨g, mem_sortGenes.1 hg, hc⟩
    exact ⟨⟨s1, by simp only at s3; omega, s2, s4, m1.imp id (back _), m2.imp id (back _)⟩, s3⟩
  · rintro ⟨hgap, hlen⟩
    exact findIntergenic_gap_mem hpad hgap
      (fun g hg => beside_of_clear hgap.ne (hlong g hg) (hgap.clear g hg)) hlen

end complete

/-- an assertion check of the loop leaves the recorded index as it was, or sets it to `i` where
    the test holds -/
theorem originCheck_spec {c : Prop} [Decidable c] {i : Nat} {x x' : Option Nat}
    (h : (if c then (if x.getD 0 = 0 then some (some i) else none) else some x) = some x') :
    x' = x ∨ (x' = some i ∧ c) := by
  split at h
  · rename_i hc
    split at h
    · exact Or.inr ⟨(Option.some.inj h).symm, hc⟩
    · nomatch h
  · exact Or.inl (Option.some.inj h).symm

/-- what the `enumerate` loop can have recorded, for a scan that started at index `i` -/
theorem originScan_spec (L : Int) :
    ∀ (l : List (Int × Int)) (i : Nat) (pre post pre' post' : Option Nat),
      originScan L l i pre post = some (pre', post') →
      (pre' = pre ∨ ∃ j a, pre' = some (i + j) ∧ l[j]? = some a ∧ a.2 = L) ∧
      (post' = post ∨ ∃ j a, post' = some (i + j) ∧ l[j]? = some a ∧ a.1 = 0) := by
  intro l
  induction l with
  | nil =>
    intro i pre post pre' post' h
    simp only [originScan, Option.some.injEq, Prod.mk.injEq] at h
    exact ⟨Or.inl h.1.symm, Or.inl h.2.symm⟩
  | cons a rest ih =>
    intro i pre post pre' post' h
    unfold originScan at h
    generalize hcp : (if a.1 = 0 then (if post.getD 0 = 0 then some (some i) else none) else some post) = chkPost at h
    cases chkPost with
    | none => simp only [reduceCtorEq] at h
    | some postN =>
      simp only at h
      generalize hcq : (if a.2 = L then (if pre.getD 0 = 0 then some (some i) else none) else some pre) = chkPre at h
      cases chkPre with
      | none => simp only [reduceCtorEq] at h
      | some preN =>
        simp only at h
        obtain ⟨h1, h2⟩ := ih (i + 1) preN postN pre' post' h
        -- an index recorded later, or at this iteration, or before
        have here : ∀ (P : (Int × Int) → Prop) (x xN x' : Option Nat), (xN = x ∨ (xN = some i ∧ P a)) →
            (x' = xN ∨ ∃ j b, x' = some (i + 1 + j) ∧ rest[j]? = some b ∧ P b) →
            (x' = x ∨ ∃ j b, x' = some (i + j) ∧ (a :: rest)[j]? = some b ∧ P b) := by
          rintro P x xN x' hN (rfl | ⟨j, b, hx, hb, hp⟩)
          · rcases hN with hN | ⟨hN, ha⟩
            · exact Or.inl hN
            · exact Or.inr ⟨0, a, hN, rfl, ha⟩
          · exact Or.inr ⟨j + 1, b, by rw [hx]; congr 1; omega, by simpa using hb, hp⟩
        exact ⟨here (fun b => b.2 = L) pre preN pre' (originCheck_spec hcq) h1,
          here (fun b => b.1 = 0) post postN post' (originCheck_spec hcp) h2⟩

/-- every area returned for an origin-crossing search is an intergenic area of one of the
    area's parts, or the join `(pre.start − L, post.end)` of the one ending at `L` with the one
    starting at `0`.  (`originScan_spec` says what the two recorded indices point at; membership
    in the rebuilt list goes through `List.mem_or_eq_of_mem_set` and `List.mem_of_mem_eraseIdx`.) -/
theorem crossOrigin_sound {parts : List (Int × Int × List Gene)} {L minLen pad : Int}
    {areas : List (Int × Int)} (h : crossOriginIntergenic parts L minLen pad = some areas) :
    ∀ a ∈ areas,
      (∃ p ∈ parts, a ∈ findIntergenic p.1 p.2.1 p.2.2 minLen pad) ∨
      (∃ p ∈ parts, ∃ q ∈ parts, ∃ pre ∈ findIntergenic p.1 p.2.1 p.2.2 minLen pad,
        ∃ post ∈ findIntergenic q.1 q.2.1 q.2.2 minLen pad,
        pre.2 = L ∧ post.1 = 0 ∧ a = (pre.1 - L, post.2)) := by
  unfold crossOriginIntergenic at h
  have memAll : ∀ b, b ∈ (parts.flatMap fun p => findIntergenic p.1 p.2.1 p.2.2 minLen pad) →
      ∃ p ∈ parts, b ∈ findIntergenic p.1 p.2.1 p.2.2 minLen pad := by
    intro b hb; simpa only [List.mem_flatMap] using hb
  generalize (parts.flatMap fun p => findIntergenic p.1 p.2.1 p.2.2 minLen pad) = all at h memAll
  simp only at h
  cases hscan : originScan L all 0 none none with
  | none => rw [hscan] at h; simp only [reduceCtorEq] at h
  | some r =>
    rw [hscan] at h
    obtain ⟨pre, post⟩ := r
    cases pre with
    | none =>
      simp only [Option.some.injEq] at h
      subst h
      intro a ha; exact Or.inl (memAll a ha)
    | some pre =>
      cases post with
      | none =>
        simp only [Option.some.injEq] at h
        subst h
        intro a ha; exact Or.inl (memAll a ha)
      | some post =>
        simp only at h
        obtain ⟨hpre, hpost⟩ := originScan_spec L all 0 none none (some pre) (some post) hscan
        rcases hpre with hpre | ⟨j, preA, hj, hjA, hjL⟩
        · simp only [reduceCtorEq] at hpre
        rcases hpost with hpost | ⟨k, postA, hk, hkA, hk0⟩
        · simp only [reduceCtorEq] at hpost
        have hj' : pre = j := by simpa using hj
        have hk' : post = k := by simpa using hk
        subst hj' hk'
        rw [hjA, hkA] at h
        simp only at h
        split at h
        · simp only [Option.some.injEq] at h
          subst h
          intro a ha
          rcases List.mem_or_eq_of_mem_set ha with ha | ha
          · exact Or.inl (memAll a (List.mem_of_mem_eraseIdx ha))
          · obtain ⟨p, hp, hpm⟩ := memAll preA (List.mem_of_getElem? hjA)
            obtain ⟨q, hq, hqm⟩ := memAll postA (List.mem_of_getElem? hkA)
            exact Or.inr ⟨p, hp, q, hq, preA, hpm, postA, hqm, hjL, hk0, ha⟩
        · simp only [reduceCtorEq] at h

end ASV.Orf
