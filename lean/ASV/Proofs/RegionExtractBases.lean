/-
  C12: what `_adjust_features` does to one feature (`adjustFeature_spec`), where every feature
  of the region record comes from (`Origin`) and that its new location covers the same bases as the original
  (`SameBases`) — for slices directly, for rotated locations through `sameBases_of_rotated`.
-/
import ASV.Proofs.RegionExtractOffset
namespace ASV.RegionExtract
open ASV

theorem renumberList_through (d : List (Int × Int)) (xs ys : List Int) (h : renumberList d xs = .ok ys) :
    Through d xs ys := by
  unfold renumberList at h
  unfold Through
  split at h
  · rename_i he
    injection h with h; subst h
    have : xs = [] := by simpa using he
    rw [this]; rfl
  · exact h

/-- what the loop body of `_adjust_features` does to one feature: only the qualifiers change, and the numbering
    qualifiers are sent through the renumbering of their kind -/
theorem adjustFeature_spec (rd : RegionData) (L : Int) (rn : Renumbering) (f g : BioFeature)
    (h : adjustFeature rd L rn f = .ok g) :
    ∃ q', g = { f with q := q' } ∧ RefsThrough rn f.type f.q q' := by
  unfold adjustFeature at h
  unfold RefsThrough
  split at h
  · -- region
    rename_i ht
    have ht' : f.type = "region" := by simpa using ht
    split at h
    · cases h
    · rename_i cands hc
      split at h
      · cases h
      · rename_i subs hs
        injection h with h; subst h
        exact ⟨_, rfl, fun _ => ⟨renumberList_through _ _ _ hc, renumberList_through _ _ _ hs⟩,
          fun e => by rw [ht'] at e; exact absurd e (by decide),
          fun e => by rw [ht'] at e; rcases e with e | e <;> exact absurd e (by decide),
          fun e => by rw [ht'] at e; exact absurd e (by decide)⟩
  · rename_i hnr
    have hnr' : f.type ≠ "region" := by simpa using hnr
    split at h
    · -- cand_cluster
      rename_i ht
      have ht' : f.type = "cand_cluster" := by simpa using ht
      split at h
      · cases h
      · rename_i n hn
        split at h
        · cases h
        · rename_i m hm
          split at h
          · cases h
          · rename_i ps hps
            split at h
            · cases h
            · rename_i ps' hps'
              injection h with h; subst h
              exact ⟨_, rfl, fun e => absurd e hnr', fun _ => ⟨n, m, ps, ps', hn, rfl, hm, hps, rfl, hps'⟩,
                fun e => by rw [ht'] at e; rcases e with e | e <;> exact absurd e (by decide),
                fun e => by rw [ht'] at e; exact absurd e (by decide)⟩
    · rename_i hnc
      have hnc' : f.type ≠ "cand_cluster" := by simpa using hnc
      split at h
      · -- protocluster / proto_core
        rename_i ht
        have hns : f.type ≠ "subregion" := by
          intro e
          simp only [Bool.or_eq_true, beq_iff_eq] at ht
          rw [e] at ht
          rcases ht with ht | ht <;> exact absurd ht (by decide)
        split at h
        · cases h
        · rename_i n hn
          split at h
          · cases h
          · rename_i p hp
            split at h
            · cases h
            · rename_i m hm
              unfold adjustProtocluster at h
              split at h
              · split at h
                · cases h
                · injection h with h; subst h
                  exact ⟨_, rfl, fun e => absurd e hnr', fun e => absurd e hnc', fun _ => ⟨n, m, hn, rfl, hm⟩,
                    fun e => absurd e hns⟩
              · injection h with h; subst h
                exact ⟨_, rfl, fun e => absurd e hnr', fun e => absurd e hnc', fun _ => ⟨n, m, hn, rfl, hm⟩,
                  fun e => absurd e hns⟩
      · rename_i hnp
        have hnp' : ¬ (f.type = "protocluster" ∨ f.type = "proto_core") := by simpa using hnp
        split at h
        · -- subregion
          split at h
          · cases h
          · rename_i n hn
            split at h
            · cases h
            · rename_i m hm
              injection h with h; subst h
              exact ⟨_, rfl, fun e => absurd e hnr', fun e => absurd e hnc', fun e => absurd e hnp',
                fun _ => ⟨n, m, hn, rfl, hm⟩⟩
        · rename_i hns
          have hns' : f.type ≠ "subregion" := by simpa using hns
          have hq : ∃ q', g = { f with q := q' } := by
            split at h
            · split at h
              · cases h
              · injection h with h; subst h
                exact ⟨_, rfl⟩
            · injection h with h; subst h
              exact ⟨_, rfl⟩
          obtain ⟨q', hg⟩ := hq
          exact ⟨q', hg, fun e => absurd e hnr', fun e => absurd e hnc', fun e => absurd e hnp', fun e => absurd e hns'⟩

theorem adjustFeature_same (rd : RegionData) (L : Int) (rn : Renumbering) (f g : BioFeature)
    (h : adjustFeature rd L rn f = .ok g) : g.tag = f.tag ∧ g.type = f.type ∧ g.loc = f.loc := by
  obtain ⟨q', rfl, _⟩ := adjustFeature_spec rd L rn f g h
  exact ⟨rfl, rfl, rfl⟩

theorem adjustFeature_refs (rd : RegionData) (L : Int) (f g : BioFeature)
    (h : adjustFeature rd L (renumbering rd L) f = .ok g) : RefsThrough (renumbering rd L) f.type f.q g.q := by
  obtain ⟨q', rfl, hr⟩ := adjustFeature_spec rd L _ f g h
  exact hr

/-- the written features carry, in order, the tags of the base record's features -/
theorem written_tags (rd : RegionData) (rec : BioRecord) (w : Written) (h : writeToGenbank rd rec = .ok w) :
    ∃ seq ws parent, buildBaseRecord rd rec = .ok (seq, ws, parent) ∧
      w.extract.features.map (·.tag) = ws.map (·.f.tag) := by
  obtain ⟨seq, ws, parent, adjusted, hb, ha, hfe, _⟩ := written_features rd rec w h
  refine ⟨seq, ws, parent, hb, ?_⟩
  rw [hfe, List.map_map]
  unfold adjustFeatures at ha
  refine mapE_map_eq _ (·.f.tag) (fun x => x.f.tag) ?_ ws adjusted ha
  intro a b hab
  split at hab
  · cases hab
  · rename_i g hg
    injection hab with hab
    rw [← hab]
    exact (adjustFeature_same rd _ _ a.f g hg).1

theorem written_of_base (rd : RegionData) (rec : BioRecord) (w : Written) (ws : List Working)
    (htags : w.extract.features.map (·.tag) = ws.map (·.f.tag)) (w0 : Working) (hw0 : w0 ∈ ws) :
    ∃ g ∈ w.extract.features, g.tag = w0.f.tag := by
  have : w0.f.tag ∈ w.extract.features.map (·.tag) := by
    rw [htags]
    exact List.mem_map.2 ⟨w0, hw0, rfl⟩
  obtain ⟨g, hg, e⟩ := List.mem_map.1 this
  exact ⟨g, hg, e⟩

theorem shiftLoc_zero (l : Loc) : shiftLoc l 0 = l := by
  cases l with
  | simple p => simp [shiftLoc]
  | compound ps =>
    simp only [shiftLoc, Int.add_zero]
    congr 1
    induction ps with
    | nil => rfl
    | cons p ps ih => simp [ih]

theorem slice_from (fs : List BioFeature) (a b : Int) (g : BioFeature) (hg : g ∈ sliceFeatures fs a b) :
    ∃ f ∈ fs, a ≤ f.loc.start ∧ f.loc.end ≤ b ∧ g = { f with loc := shiftLoc f.loc (-a) } := by
  unfold sliceFeatures at hg
  obtain ⟨f, hf, h⟩ := List.mem_filterMap.1 hg
  split at h
  · rename_i hc
    simp only [Bool.and_eq_true, decide_eq_true_eq] at hc
    injection h with h
    exact ⟨f, hf, hc.1, hc.2, h.symm⟩
  · cases h

theorem slice_to (fs : List BioFeature) (a b : Int) (f : BioFeature) (hf : f ∈ fs) (h1 : a ≤ f.loc.start)
    (h2 : f.loc.end ≤ b) : { f with loc := shiftLoc f.loc (-a) } ∈ sliceFeatures fs a b := by
  unfold sliceFeatures
  refine List.mem_filterMap.2 ⟨f, hf, ?_⟩
  simp [h1, h2]

/-- where a feature of the region record (before renumbering) comes from -/
inductive Origin (rd : RegionData) (rec : BioRecord) (g : BioFeature) : Prop
  | plain (f : BioFeature) (hf : f ∈ rec.features) (hc : rd.crossesOrigin = false)
      (h1 : rd.start ≤ f.loc.start) (h2 : f.loc.end ≤ rd.end)
      (hg : g = { f with loc := shiftLoc f.loc (-rd.start) })
  | pre (f : BioFeature) (hf : f ∈ rec.features) (hc : rd.crossesOrigin = true)
      (h1 : rd.start ≤ f.loc.start) (h2 : f.loc.end ≤ rec.length)
      (hg : g = { f with loc := shiftLoc f.loc (-rd.start) })
  | post (f : BioFeature) (hf : f ∈ rec.features) (hc : rd.crossesOrigin = true)
      (h1 : 0 ≤ f.loc.start) (h2 : f.loc.end ≤ rd.end) (l : Loc)
      (hl : offsetLocation f.loc (rec.length - rd.start) rec.length = .ok l)
      (hg : g = { f with loc := l })
  | cross (f : BioFeature) (hf : f ∈ rec.features) (hc : rd.crossesOrigin = true)
      (hb : bridgesOrigin f.loc = true) (l : Loc)
      (hl : offsetLocation f.loc (-rd.start) rec.length = .ok l)
      (hk : (wholeFix rec.length l).end ≤ (sliceSeq rec.seq rd.start rec.length ++ sliceSeq rec.seq 0 rd.end).length)
      (hnb : bridgesOrigin (wholeFix rec.length l) = false)
      (hg : g = { f with loc := wholeFix rec.length l })

/-- how the location `gloc` of a feature of the region record arises from the location `floc` it has in the full
    record: the four ways of `Origin`, on locations -/
inductive MovedLoc (rd : RegionData) (rec : BioRecord) (floc gloc : Loc) : Prop
  | plain (hc : rd.crossesOrigin = false) (h1 : rd.start ≤ floc.start) (h2 : floc.end ≤ rd.end)
      (hg : gloc = shiftLoc floc (-rd.start))
  | pre (hc : rd.crossesOrigin = true) (h1 : rd.start ≤ floc.start) (h2 : floc.end ≤ rec.length)
      (hg : gloc = shiftLoc floc (-rd.start))
  | post (hc : rd.crossesOrigin = true) (h1 : 0 ≤ floc.start) (h2 : floc.end ≤ rd.end)
      (hl : offsetLocation floc (rec.length - rd.start) rec.length = .ok gloc)
  | cross (hc : rd.crossesOrigin = true) (hb : bridgesOrigin floc = true) (l : Loc)
      (hl : offsetLocation floc (-rd.start) rec.length = .ok l)
      (hk : (wholeFix rec.length l).end ≤ (sliceSeq rec.seq rd.start rec.length ++ sliceSeq rec.seq 0 rd.end).length)
      (hnb : bridgesOrigin (wholeFix rec.length l) = false)
      (hg : gloc = wholeFix rec.length l)

/-- a feature of the region record has the tag, type and qualifiers of a feature of the full record, and its
    location arises from that feature's location -/
theorem origin_from (rd : RegionData) (rec : BioRecord) (g0 : BioFeature) (ho : Origin rd rec g0) :
    ∃ f ∈ rec.features, g0.tag = f.tag ∧ g0.type = f.type ∧ g0.q = f.q ∧ MovedLoc rd rec f.loc g0.loc := by
  cases ho with
  | plain f hf hc h1 h2 hg => exact ⟨f, hf, by rw [hg], by rw [hg], by rw [hg], .plain hc h1 h2 (by rw [hg])⟩
  | pre f hf hc h1 h2 hg => exact ⟨f, hf, by rw [hg], by rw [hg], by rw [hg], .pre hc h1 h2 (by rw [hg])⟩
  | post f hf hc h1 h2 l hl hg => exact ⟨f, hf, by rw [hg], by rw [hg], by rw [hg], .post hc h1 h2 (by rw [hg]; exact hl)⟩
  | cross f hf hc hb l hl hk hnb hg =>
    exact ⟨f, hf, by rw [hg], by rw [hg], by rw [hg], .cross hc hb l hl hk hnb (by rw [hg])⟩

theorem collectCross_mem (rd : RegionData) (L n : Int) :
    ∀ (fs : List BioFeature) (steps : List (BioFeature × Option BioFeature)) (i : Nat) (w : Working),
      mapE (crossStep rd L n) fs = .ok steps → w ∈ collectCross i steps →
      ∃ f ∈ fs, ∃ p, crossStep rd L n f = .ok (p, some w.f)
  | [], steps, i, w, h, hw => by
    simp [mapE] at h; subst h; simp [collectCross] at hw
  | f :: fs, steps, i, w, h, hw => by
    obtain ⟨b, bs, hb, hbs, rfl⟩ := (mapE_cons_ok _ f fs steps).1 h
    obtain ⟨p, o⟩ := b
    cases o with
    | none =>
      simp only [collectCross] at hw
      obtain ⟨f', hf', h'⟩ := collectCross_mem rd L n fs bs (i + 1) w hbs hw
      exact ⟨f', by simp [hf'], h'⟩
    | some g =>
      simp only [collectCross, List.mem_cons] at hw
      rcases hw with rfl | hw
      · exact ⟨f, by simp, p, hb⟩
      · obtain ⟨f', hf', h'⟩ := collectCross_mem rd L n fs bs (i + 1) w hbs hw
        exact ⟨f', by simp [hf'], h'⟩

theorem crossStep_some (rd : RegionData) (L n : Int) (f p g : BioFeature) (h : crossStep rd L n f = .ok (p, some g)) :
    bridgesOrigin f.loc = true ∧ ∃ l, offsetLocation f.loc (-rd.start) L = .ok l ∧ (wholeFix L l).end ≤ n ∧
      bridgesOrigin (wholeFix L l) = false ∧ g = { f with loc := wholeFix L l } := by
  unfold crossStep at h
  split at h
  · rename_i hb
    split at h
    · cases h
    · rename_i l hl
      split at h
      · injection h with h; injection h with h1 h2; cases h2
      · rename_i hk
        injection h with h; injection h with h1 h2; injection h2 with h2
        simp only [Bool.or_eq_true, decide_eq_true_eq, not_or] at hk
        exact ⟨hb, l, hl, by omega, by simpa using hk.2, h2.symm⟩
  · injection h with h; injection h with h1 h2; cases h2

theorem base_origin (rd : RegionData) (rec : BioRecord) (seq : List Char) (ws : List Working)
    (parent : List BioFeature) (h : buildBaseRecord rd rec = .ok (seq, ws, parent)) (w : Working) (hw : w ∈ ws) :
    Origin rd rec w.f := by
  rcases buildBase_eq rd rec seq ws parent h with ⟨hc, _, hws, _⟩ | ⟨hc, post, steps, hpost, hs, _, hws, _⟩
  · subst hws
    obtain ⟨g, hg1, rfl⟩ := List.mem_map.1 hw
    obtain ⟨f, hf, h1, h2, hgf⟩ := slice_from _ _ _ g hg1
    exact .plain f hf hc h1 h2 hgf
  · subst hws
    rcases List.mem_append.1 hw with hw | hw
    · rcases List.mem_append.1 hw with hw | hw
      · obtain ⟨g, hg1, rfl⟩ := List.mem_map.1 hw
        obtain ⟨f, hf, h1, h2, hgf⟩ := slice_from _ _ _ g hg1
        exact .pre f hf hc h1 h2 hgf
      · obtain ⟨f, hf, p, hstep⟩ := collectCross_mem rd _ _ _ steps 0 w hs hw
        obtain ⟨hb, l, hl, hk, hnb, hgf⟩ := crossStep_some rd _ _ f p w.f hstep
        exact .cross f hf hc hb l hl hk hnb hgf
    · obtain ⟨g, hg1, rfl⟩ := List.mem_map.1 hw
      obtain ⟨g0, hg0, hoff⟩ := mapE_mem _ _ post hpost g hg1
      obtain ⟨f, hf, h1, h2, hgf⟩ := slice_from _ _ _ g0 hg0
      subst hgf
      unfold postStep at hoff
      simp only [Int.neg_zero, shiftLoc_zero] at hoff
      split at hoff
      · cases hoff
      · rename_i l hl
        injection hoff with hoff
        exact .post f hf hc h1 h2 l hl hoff.symm

theorem mem_shiftLoc (l : Loc) (k i : Int) : (shiftLoc l k).mem i = l.mem (i - k) := by
  cases l with
  | simple p =>
    simp only [shiftLoc, Loc.mem, Loc.parts, List.any_cons, List.any_nil, Bool.or_false, Part.mem]
    congr 1 <;> (apply decide_eq_decide.2; constructor <;> intro h <;> omega)
  | compound ps =>
    simp only [shiftLoc, Loc.mem, Loc.parts, List.any_map]
    congr 1
    funext p
    simp only [Function.comp, Part.mem]
    congr 1 <;> (apply decide_eq_decide.2; constructor <;> intro h <;> omega)

theorem mem_bounds (l : Loc) (i : Int) (h : l.mem i = true) : l.start ≤ i ∧ i < l.end := by
  simp only [Loc.mem, List.any_eq_true, Part.mem_iff] at h
  obtain ⟨p, hp, h1, h2⟩ := h
  have := start_le_part l p hp
  omega

theorem wraps_eq (rd : RegionData) : wraps rd = rd.crossesOrigin := by
  simp [wraps, RegionData.crossesOrigin]

/-- slice of a region that does not run over the origin -/
theorem sameBases_plain (L : Int) (rd : RegionData) (l : Loc) (hc : rd.crossesOrigin = false)
    (h1 : rd.start ≤ l.start) (h2 : l.end ≤ rd.end) : SameBases L rd l (shiftLoc l (-rd.start)) := by
  intro i
  have hw : wraps rd = false := by rw [wraps_eq, hc]
  simp only [mem_shiftLoc, regionLen, toRecord, hw, Bool.false_eq_true, if_false]
  have e : i - -rd.start = rd.start + i := by omega
  rw [e]
  constructor
  · intro h
    have := mem_bounds l _ h
    exact ⟨by omega, by omega, h⟩
  · intro h; exact h.2.2

/-- the part of an origin-spanning region before the origin -/
theorem sameBases_pre (L : Int) (rd : RegionData) (l : Loc) (hc : rd.crossesOrigin = true)
    (hL : 0 < L) (he0 : 0 < rd.end) (hes : rd.end ≤ rd.start) (hsL : rd.start < L)
    (h1 : rd.start ≤ l.start) (h2 : l.end ≤ L) : SameBases L rd l (shiftLoc l (-rd.start)) := by
  intro i
  have hw : wraps rd = true := by rw [wraps_eq, hc]
  simp only [mem_shiftLoc, regionLen, toRecord, hw, if_true]
  have e : i - -rd.start = rd.start + i := by omega
  rw [e]
  constructor
  · intro h
    have hb := mem_bounds l _ h
    rw [Int.emod_eq_of_lt (by omega) (by omega)]
    exact ⟨by omega, by omega, h⟩
  · rintro ⟨hi0, hi1, h⟩
    by_cases hlt : rd.start + i < L
    · rw [Int.emod_eq_of_lt (by omega) hlt] at h; exact h
    · rw [emod_big' _ L (by omega) (by omega)] at h
      have hb := mem_bounds l _ h
      omega

/-- the part of an origin-spanning region after the origin, moved behind the first part -/
theorem sameBases_post (L : Int) (rd : RegionData) (l : Loc) (hc : rd.crossesOrigin = true)
    (hL : 0 < L) (he0 : 0 < rd.end) (hes : rd.end ≤ rd.start) (hsL : rd.start < L)
    (h1 : 0 ≤ l.start) (h2 : l.end ≤ rd.end) : SameBases L rd l (shiftLoc l (L - rd.start)) := by
  intro i
  have hw : wraps rd = true := by rw [wraps_eq, hc]
  simp only [mem_shiftLoc, regionLen, toRecord, hw, if_true]
  constructor
  · intro h
    have hb := mem_bounds l _ h
    have e : (rd.start + i) % L = i - (L - rd.start) := by
      rw [emod_big' _ L (by omega) (by omega)]; omega
    rw [e]
    exact ⟨by omega, by omega, h⟩
  · rintro ⟨hi0, hi1, h⟩
    by_cases hlt : rd.start + i < L
    · rw [Int.emod_eq_of_lt (by omega) hlt] at h
      have hb := mem_bounds l _ h
      omega
    · rw [emod_big' _ L (by omega) (by omega)] at h
      have e : i - (L - rd.start) = rd.start + i - L := by omega
      rw [e]; exact h

/-- the bases of a location inside the region (`insideRegion`) are positions of the region -/
theorem insideRegion_mem (L : Int) (rd : RegionData) (l : Loc) (hin : insideRegion L rd l = true) (j : Int)
    (hj : l.mem j = true) :
    (rd.crossesOrigin = false → rd.start ≤ j ∧ j < rd.end) ∧
    (rd.crossesOrigin = true → (rd.start ≤ j ∧ j < L) ∨ (0 ≤ j ∧ j < rd.end)) := by
  simp only [Loc.mem, List.any_eq_true, Part.mem_iff] at hj
  obtain ⟨p, hp, h1, h2⟩ := hj
  unfold insideRegion at hin
  rw [wraps_eq] at hin
  constructor
  · intro hc
    simp only [hc, Bool.false_eq_true, if_false, List.all_eq_true, Bool.and_eq_true, decide_eq_true_eq] at hin
    have := hin p hp
    omega
  · intro hc
    simp only [hc, if_true, Bool.or_eq_true, Bool.and_eq_true, List.all_eq_true, decide_eq_true_eq] at hin
    rcases hin with (h | h) | h
    · have := h p hp; omega
    · have := h p hp; omega
    · have := h.2 p hp; omega

/-- if `r` holds exactly the `i ∈ [0, L)` with `(start + i) mod L ∈ l`, and every base of `l` lies in the region,
    then `r` covers the same bases as `l` -/
theorem sameBases_of_rotated (L : Int) (rd : RegionData) (l r : Loc)
    (hplain : rd.crossesOrigin = false → 0 ≤ rd.start ∧ rd.end ≤ L)
    (hcross : rd.crossesOrigin = true → 0 < rd.end ∧ rd.end ≤ rd.start ∧ rd.start < L)
    (hmem : ∀ i, r.mem i = true ↔ (0 ≤ i ∧ i < L ∧ l.mem ((rd.start + i) % L) = true))
    (hin : ∀ j, l.mem j = true → (rd.crossesOrigin = false → rd.start ≤ j ∧ j < rd.end) ∧
      (rd.crossesOrigin = true → (rd.start ≤ j ∧ j < L) ∨ (0 ≤ j ∧ j < rd.end))) :
    SameBases L rd l r := by
  intro i
  rw [hmem i]
  cases hc : rd.crossesOrigin with
  | false =>
    obtain ⟨h0, hE⟩ := hplain hc
    have hw : wraps rd = false := by rw [wraps_eq, hc]
    simp only [regionLen, toRecord, hw, Bool.false_eq_true, if_false]
    constructor
    · rintro ⟨hi0, hiL, hm⟩
      have hj := (hin _ hm).1 hc
      by_cases hlt : rd.start + i < L
      · rw [Int.emod_eq_of_lt (by omega) hlt] at hm hj
        exact ⟨hi0, by omega, hm⟩
      · exfalso
        have hsL : rd.start < L := by omega
        rw [emod_big' _ L (by omega) (by omega)] at hj
        omega
    · rintro ⟨hi0, hlt, hm⟩
      have hj := (hin _ hm).1 hc
      rw [Int.emod_eq_of_lt (by omega) (by omega)]
      exact ⟨hi0, by omega, hm⟩
  | true =>
    obtain ⟨he0, hes, hsL⟩ := hcross hc
    have hw : wraps rd = true := by rw [wraps_eq, hc]
    simp only [regionLen, toRecord, hw, if_true]
    constructor
    · rintro ⟨hi0, hiL, hm⟩
      refine ⟨hi0, ?_, hm⟩
      have hj := (hin _ hm).2 hc
      by_cases hlt : rd.start + i < L
      · omega
      · rw [emod_big' _ L (by omega) (by omega)] at hj
        omega
    · rintro ⟨hi0, hlt, hm⟩
      exact ⟨hi0, by omega, hm⟩

end ASV.RegionExtract
