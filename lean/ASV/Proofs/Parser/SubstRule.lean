/-
  C02 thm 4, rule level: a whole rule is parsed on the aliased state as on the substituted alias-free
  state, up to the free text (DESCRIPTION words, EXAMPLE compound names), which is skipped raw.
-/
import ASV.Proofs.Parser.Subst
namespace ASV.Parser
open ASV ASV.Rules ASV.Grammar

theorem RelS.pure {α} {R : α → α → Prop} {a' a : α} {s : PS} (h : R a' a) :
    RelS R (Pure.pure (a', strip s)) (Pure.pure (a, s)) := ⟨h, rfl⟩

/-! ### raw skipping -/

/-- the first rule keyword of a list and what follows it -/
def skipList : List Tok → Option (Tok × List Tok)
  | [] => none
  | t :: ts => if t.type.isRuleKeyword then some (t, ts) else skipList ts

theorem skipText_eq (rest : List Tok) : ∀ (c : Tok) (acc : List Tok),
    (skipText c rest acc).map (fun x => (x.2.1, x.2.2)) = skipList (c :: rest) := by
  induction rest with
  | nil => intro c acc; unfold skipText; by_cases h : c.type.isRuleKeyword = true <;> simp [skipList, h]
  | cons n r ih =>
    intro c acc
    unfold skipText
    by_cases h : c.type.isRuleKeyword = true
    · simp [skipList, h]
    · simp only [h, Bool.false_eq_true, ↓reduceIte]
      rw [ih n (c :: acc)]
      simp [skipList, h]

theorem skipList_nokw (l x : List Tok) (h : ∀ t ∈ l, t.type.isRuleKeyword = false) :
    skipList (l ++ x) = skipList x := by
  induction l with
  | nil => rfl
  | cons t ts ih =>
    simp only [List.cons_append, skipList, h t (by simp), Bool.false_eq_true, ↓reduceIte]
    exact ih (fun y hy => h y (by simp [hy]))

theorem skipList_subst {A : Aliases} (hf : Flat A) (l : List Tok) :
    skipList (subst A l) = (skipList l).map fun p => (p.1, subst A p.2) := by
  induction l with
  | nil => rfl
  | cons t ts ih =>
    simp only [subst]
    by_cases hid : (t.type == .identifier) = true
    · have hk : t.type.isRuleKeyword = false := by
        have : t.type = .identifier := by simpa using hid
        rw [this]; rfl
      simp only [hid, ↓reduceIte]
      cases hl : A.lookup t.text with
      | none => simp [skipList, hk, ih]
      | some body =>
        obtain ⟨k', hmem⟩ := lookup_mem hl
        simp only
        rw [skipList_nokw body _ (hf.noKw _ hmem), ih]
        simp [skipList, hk]
    · simp only [hid, Bool.false_eq_true, ↓reduceIte, skipList]
      by_cases hk : t.type.isRuleKeyword = true
      · simp [hk]
      · simp [hk, ih]

/-- skipping to the next keyword stops at the same keyword on the substituted input -/
theorem skipText_subst {A : Aliases} (hf : Flat A) (c : Tok) (rest acc acc' : List Tok) :
    (skipText c (subst A rest) acc').map (fun x => (x.2.1, x.2.2)) =
      ((skipText c rest acc).map (fun x => (x.2.1, x.2.2))).map fun p => (p.1, subst A p.2) := by
  rw [skipText_eq, skipText_eq]
  simp only [skipList]
  by_cases hk : c.type.isRuleKeyword = true
  · simp [hk]
  · simp [hk, skipList_subst hf]

theorem skipFree_res {t s : PS} (hS : Stripped t s) :
    Res False Stripped (fun _ _ => True) (skipFree t) (skipFree s) := by
  obtain ⟨rfl, hf⟩ := hS
  obtain ⟨cur, rest, A, rules, cons⟩ := s
  unfold skipFree
  simp only [strip]
  cases cur with
  | none => exact Res.ok trivial ⟨rfl, hf⟩
  | some c =>
    simp only
    have h := skipText_subst hf c rest [] []
    cases h1 : skipText c rest [] with
    | none =>
      rw [h1] at h
      cases h2 : skipText c (subst A rest) [] with
      | none => exact Res.error _
      | some p => rw [h2] at h; simp at h
    | some p =>
      obtain ⟨sk, k, post⟩ := p
      rw [h1] at h
      cases h2 : skipText c (subst A rest) [] with
      | none => rw [h2] at h; simp at h
      | some p' =>
        obtain ⟨sk', k', post'⟩ := p'
        rw [h2] at h
        simp only [Option.map_some, Option.some.injEq, Prod.mk.injEq] at h
        obtain ⟨rfl, rfl⟩ := h
        exact Res.ok trivial ⟨rfl, hf⟩

theorem skipFree_aliases {s s' : PS} {x : List Tok} (h : skipFree s = .ok (x, s')) : s'.aliases = s.aliases := by
  unfold skipFree at h
  split at h
  · cases h; rfl
  · split at h
    · cases h
    · cases h; rfl

/-- examples equal up to the compound name (free text) -/
def ExRel (e' e : Example) : Prop :=
  e'.database = e.database ∧ e'.accession = e.accession ∧ e'.version = e.version ∧ e'.start = e.start ∧
    e'.stop = e.stop

theorem mkExample_rel (db acc : String) (v : Nat) (range : String) (c' c : List Tok) :
    match mkExample db acc v range c', mkExample db acc v range c with
    | .ok e', .ok e => ExRel e' e
    | .error a, .error b => a = b
    | _, _ => False := by
  unfold mkExample
  cases exampleRange db v range with
  | error a => rfl
  | ok p => obtain ⟨a, b⟩ := p; exact ⟨rfl, rfl, rfl, rfl, rfl⟩

theorem parseDescription_res {t s : PS} (hS : Stripped t s) :
    Res False Stripped (fun _ _ => True) (parseDescription t) (parseDescription s) := by
  rw [parseDescription_eq, parseDescription_eq]
  refine (readsStripped.consume hS _).bind_eq fun _ _ _ h1 => ?_
  simp only [readsStripped.cur h1]
  refine Res.ite (fun _ => Res.error _) fun _ => ?_
  exact (skipFree_res h1).bind fun _ _ _ _ _ h2 => Res.ok trivial h2

theorem parseExample_res {t s : PS} (hS : Stripped t s) :
    Res False Stripped ExRel (parseExample t) (parseExample s) := by
  unfold parseExample
  have I := readsStripped
  refine (I.consume hS _).bind_eq fun _ _ _ h1 => ?_
  refine (consumeId_res I h1).bind_eq fun db _ _ h2 => ?_
  refine (consumeId_res I h2).bind_eq fun acc _ _ h3 => ?_
  refine (I.consume h3 _).bind_eq fun _ _ _ h4 => ?_
  refine (consumeInt_res I h4).bind_eq fun v _ _ h5 => ?_
  refine (I.consume h5 _).bind_eq fun r _ _ h6 => ?_
  refine (skipFree_res h6).bind fun c' c _ _ _ h7 => ?_
  simp only
  have := mkExample_rel db acc v r.text c' c
  cases h1 : mkExample db acc v r.text c' with
  | error a =>
    cases h2 : mkExample db acc v r.text c with
    | error b => rw [h1, h2] at this; simp only at this; subst this; exact Res.error _
    | ok e => rw [h1, h2] at this; exact this.elim
  | ok e' =>
    cases h2 : mkExample db acc v r.text c with
    | error b => rw [h1, h2] at this; exact this.elim
    | ok e => rw [h1, h2] at this; exact Res.ok this h7

inductive ExsRel : List Example → List Example → Prop
  | nil : ExsRel [] []
  | cons {a' a : Example} {l' l : List Example} : ExRel a' a → ExsRel l' l → ExsRel (a' :: l') (a :: l)

theorem ruleEnd_strip (s : PS) : ruleEnd (strip s) = ruleEnd s := rfl

/-- rules equal up to the free text (DESCRIPTION words, EXAMPLE compound names) -/
def RuleRel (r' r : Rule) : Prop :=
  r'.name = r.name ∧ r'.category = r.category ∧ r'.cutoff = r.cutoff ∧ r'.neighbourhood = r.neighbourhood ∧
    r'.conditions = r.conditions ∧ r'.superiors = r.superiors ∧ r'.related = r.related ∧
    r'.extenders = r.extenders ∧ ExsRel r'.examples r.examples

theorem readsRawStripped : ReadsRaw False Stripped (fun _ _ => True) ExRel :=
  { readsStripped with rules := fun h => h.1 ▸ rfl, descr := parseDescription_res, exmpl := parseExample_res }

theorem Exs.exsRel {l' l : List Example} (h : Exs ExRel l' l) : ExsRel l' l := by
  induction h with
  | nil => exact .nil
  | cons h _ ih => exact .cons h ih

theorem RuleRelG.ruleRel {D : List String → List String → Prop} {r' r : Rule} (h : RuleRelG D ExRel r' r) :
    RuleRel r' r :=
  have ⟨h1, h2, h3, h4, h5, h6, h7, h8, _, h10⟩ := h
  ⟨h1, h2, h3, h4, h5, h6, h7, h8, h10.exsRel⟩

theorem parseRuleWith_rel {s : PS} (hf : Flat s.aliases) (fuel : Nat) (cfg : Cfg) :
    RelS RuleRel (parseRuleWith fuel cfg (strip s)) (parseRuleWith fuel cfg s) :=
  ((parseRuleWith_res readsRawStripped (Fu.same fuel) ⟨rfl, hf⟩ trivial cfg).mono fun _ _ => RuleRelG.ruleRel).relS

end ASV.Parser
