/-
  C02, fuel (`fuel_irrelevant`): more fuel never changes a result other than "out of fuel".
  `Le x y`: `x` ran out of fuel, or `x = y`.
-/
import ASV.Proofs.Parser.Natural
namespace ASV.Parser
open ASV ASV.Rules ASV.Grammar

def Le {α} (x y : Except Err α) : Prop := x = .error .fuel ∨ x = y

theorem Le.refl {α} (x : Except Err α) : Le x x := Or.inr rfl
theorem Le.fuel {α} (y : Except Err α) : Le (.error .fuel) y := Or.inl rfl

theorem Le.trans {α} {x y z : Except Err α} (h1 : Le x y) (h2 : Le y z) : Le x z := by
  rcases h1 with h | h
  · exact Or.inl h
  · subst h; exact h2

/-- a result that is not "out of fuel" is the result for any larger fuel -/
theorem Le.eq_of_ne {α} {x y : Except Err α} (h : Le x y) (hx : x ≠ .error .fuel) : y = x := by
  rcases h with h | h
  · exact absurd h hx
  · exact h.symm

/-! ### the instance of `Res`: the same state, "out of fuel" allowed on the left -/

theorem Res.refl {esc : Prop} {α} (x : Except Err (α × PS)) : Res esc Eq Eq x x := by
  cases x with
  | error e => exact Res.error e
  | ok p => exact Res.ok rfl rfl

theorem readsRawEq {esc : Prop} : ReadsRaw esc Eq Eq Eq where
  cur h := h ▸ rfl
  rules h := h ▸ rfl
  flag h _ _ := h ▸ rfl
  consume h _ := h ▸ Res.refl _
  descr h := h ▸ Res.refl _
  exmpl h := h ▸ Res.refl _

theorem Res.le {α} {x y : Except Err (α × PS)} (h : Res True Eq Eq x y) : Le x y := by
  rcases h with ⟨_, h⟩ | h
  · exact Or.inl h
  · cases x with
    | error e' => cases y with
      | error e => cases h; exact Or.inr rfl
      | ok p => exact h.elim
    | ok p' => cases y with
      | error e => exact h.elim
      | ok p => obtain ⟨a', t⟩ := p'; obtain ⟨a, s⟩ := p; obtain ⟨rfl, rfl⟩ := h; exact Or.inr rfl

structure BlockMono (n : Nat) : Prop where
  single : ∀ m, n ≤ m → ∀ (allow : Bool) (s : PS), Le (parseSingle n allow s) (parseSingle m allow s)
  group : ∀ m, n ≤ m → ∀ (allow : Bool) (s : PS), Le (parseGroup n allow s) (parseGroup m allow s)
  cds : ∀ m, n ≤ m → ∀ (s : PS), Le (parseCds n s) (parseCds m s)
  conds : ∀ m, n ≤ m → ∀ (allow g : Bool) (s : PS), Le (parseConditions n allow g s) (parseConditions m allow g s)
  loop : ∀ m, n ≤ m → ∀ (allow : Bool) (acc : List Cond) (lv : Cond) (p : Bool) (s : PS),
    Le (condLoop n allow acc lv p s) (condLoop m allow acc lv p s)
  ands : ∀ m, n ≤ m → ∀ (lv : Cond) (allow : Bool) (s : PS), Le (parseAnds n lv allow s) (parseAnds m lv allow s)
  andLoop : ∀ m, n ≤ m → ∀ (allow : Bool) (acc : List Cond) (s : PS), Le (andLoop n allow acc s) (andLoop m allow acc s)

theorem blockMono (n : Nat) : BlockMono n :=
  have b (m : Nat) (h : n ≤ m) := blockRes readsRawEq.toReads n m (Fu.le h)
  ⟨fun m h allow _ => ((b m h).single allow rfl).le, fun m h allow _ => ((b m h).group allow rfl).le,
   fun m h _ => ((b m h).cds rfl).le, fun m h allow g _ => ((b m h).conds allow g rfl).le,
   fun m h allow acc lv p _ => ((b m h).loop allow acc lv p rfl).le,
   fun m h lv allow _ => ((b m h).ands lv allow rfl).le,
   fun m h allow acc _ => ((b m h).andLoop allow acc rfl).le⟩

theorem Exs.eq {l' l : List Example} (h : Exs Eq l' l) : l' = l := by
  induction h with
  | nil => rfl
  | cons h _ ih => rw [h, ih]

theorem RuleRelG.eq {r' r : Rule} (h : RuleRelG Eq Eq r' r) : r' = r := by
  obtain ⟨h1, h2, h3, h4, h5, h6, h7, h8, h9, h10⟩ := h
  cases r'; cases r
  simp only at h1 h2 h3 h4 h5 h6 h7 h8 h9
  have := h10.eq
  simp only at this
  subst h1 h2 h3 h4 h5 h6 h7 h8 h9 this
  rfl

theorem parseRuleWith_mono {n m : Nat} (h : n ≤ m) (cfg : Cfg) (s : PS) :
    Le (parseRuleWith n cfg s) (parseRuleWith m cfg s) :=
  ((parseRuleWith_res readsRawEq (Fu.le h) rfl rfl cfg).mono fun _ _ => RuleRelG.eq).le

theorem parseAliasWith_mono {n m : Nat} (h : n ≤ m) (s : PS) : Le (parseAliasWith n s) (parseAliasWith m s) :=
  (parseAliasWith_res readsRawEq.toReads (Fu.le h) rfl).le

end ASV.Parser
