/-
  C02: a whole alias-free rule file (several rules, optional SUPERIORS sections) is parsed into the
  rules it denotes — main loop, superiors closure, multipliers, duplicate-name check, final
  identifier check.
-/
import ASV.Proofs.Parser.RulePP
namespace ASV.Parser
open ASV ASV.Rules ASV.Grammar

theorem ofStream_with_rules (k c : List Tok) (r r' : List Rule) :
    ({ ofStream k c r with rules := r' } : PS) = ofStream k c r' := by
  cases k <;> rfl

theorem headType_fileToks (rs : List RuleSrc) :
    headType (rs.flatMap ruleSrcToks) = none ∨ headType (rs.flatMap ruleSrcToks) = some .rule ∨
      headType (rs.flatMap ruleSrcToks) = some .define := by
  cases rs with
  | nil => left; rfl
  | cons r rest => right; left; simp [ruleSrcToks, kw]

theorem find_isSome_of_any {rules : List Rule} {n : String} (h : rules.any (·.name == n) = true) :
    (rules.find? (·.name == n)).isSome = true := by
  rw [List.find?_isSome]
  obtain ⟨x, hx, hp⟩ := List.any_eq_true.mp h
  exact ⟨x, hx, hp⟩

/-- the main loop over a written file -/
theorem mainLoop_file (cfg : Cfg) : ∀ (rs : List RuleSrc) (earlier : List Rule) (cons : List Tok) (fuel : Nat),
    srcsOk cfg earlier rs = true → rs.length + 1 ≤ fuel →
    mainLoop fuel cfg (ofStream (rs.flatMap ruleSrcToks) cons earlier) =
      .ok (ofStream [] ((rs.flatMap ruleSrcToks).reverse ++ cons) (denote cfg earlier rs)) := by
  intro rs
  induction rs with
  | nil =>
    intro earlier cons fuel _ hf
    obtain ⟨f, rfl⟩ : ∃ f, fuel = f + 1 := ⟨fuel - 1, by simp at hf; omega⟩
    simp [mainLoop, ofStream, denote]
  | cons r rest ih =>
    intro earlier cons fuel hok hf
    obtain ⟨f, rfl⟩ : ∃ f, fuel = f + 1 := ⟨fuel - 1, by simp at hf; omega⟩
    simp only [srcsOk, srcOk, Bool.and_eq_true, Bool.not_eq_true', List.all_eq_true] at hok
    obtain ⟨⟨⟨⟨⟨⟨⟨hcat, hnew⟩, ht⟩, hpos⟩, _⟩, hdup⟩, hsup⟩, hrest⟩ := hok
    have hp := parseRule_src cfg r (rest.flatMap ruleSrcToks) cons earlier hcat ht hpos hdup
      (fun n hn => find_isSome_of_any (hsup n hn)) (headType_fileToks rest)
    have hih := ih (earlier ++ [denoteRule cfg earlier r]) ((ruleSrcToks r).reverse ++ cons) f hrest
      (by simp at hf; omega)
    have hcur : (ofStream (ruleSrcToks r ++ rest.flatMap ruleSrcToks) cons earlier).cur = some (kw "RULE" .rule) := by
      simp [ruleSrcToks, ofStream]
    rw [mainLoop]
    simp only [List.flatMap_cons, hcur, bind, Except.bind]
    have hty : ((kw "RULE" .rule).type == TT.define) = false := rfl
    have hty2 : ((kw "RULE" .rule).type == TT.rule) = true := rfl
    simp only [hty, hty2, Bool.false_eq_true, ↓reduceIte, hp, ofStream_rules, hnew, ofStream_with_rules]
    show mainLoop f cfg (ofStream (rest.flatMap ruleSrcToks) ((ruleSrcToks r).reverse ++ cons)
      (earlier ++ [denoteRule cfg earlier r])) = _
    rw [hih]
    simp [denote]

theorem kId_ne_kOf (p : String) (t : TT) (h : t ≠ .identifier) : kId p ≠ kOf t := by
  intro he; have := congrArg Key.type he; simp [kId, kOf] at this; exact h this.symm

theorem mem_flatNot_not_id {p : String} {neg : Bool} : kId p ∉ flatNot neg := by
  cases neg <;> simp [flatNot, kId, kOf]

theorem mem_flatIds_id {p : String} {opts : List String} (h : kId p ∈ flatIds opts) : p ∈ opts := by
  cases opts with
  | nil => simp [flatIds] at h
  | cons a rest =>
    rw [flatIds_cons] at h
    rcases List.mem_cons.mp h with h | h
    · have : p = a := by simpa [kId] using h
      simp [this]
    · simp only [idsTail, List.mem_flatMap, List.mem_cons, List.not_mem_nil, or_false] at h
      obtain ⟨n, hn, h | h⟩ := h
      · simp [kId, kOf] at h
      · have : p = n := by simpa [kId] using h
        subst this; exact List.mem_cons_of_mem _ hn

mutual
theorem ids_flatC (p : String) : ∀ c : Cond, kId p ∈ flatC c → p ∈ c.profiles
  | .single neg n, h => by
      simp only [flatC, List.mem_append, List.mem_singleton] at h
      rcases h with h | h
      · exact absurd h mem_flatNot_not_id
      · have : p = n := by simpa [kId] using h
        simp [Cond.profiles, this]
  | .score neg n s, h => by
      simp only [flatC, List.mem_append, List.mem_cons, List.not_mem_nil, or_false] at h
      rcases h with h | h | h | h | h | h | h
      · exact absurd h mem_flatNot_not_id
      · simp [kId, kOf] at h
      · simp [kId, kOf] at h
      · have : p = n := by simpa [kId] using h
        simp [Cond.profiles, this]
      · simp [kId, kOf] at h
      · simp [kId, kInt] at h
      · simp [kId, kOf] at h
  | .minimum neg c opts, h => by
      simp only [flatC, List.mem_append, List.mem_cons, List.not_mem_nil, or_false] at h
      rcases h with ((h | h | h | h | h | h) | h) | h | h
      · exact absurd h mem_flatNot_not_id
      · simp [kId, kOf] at h
      · simp [kId, kOf] at h
      · simp [kId, kInt] at h
      · simp [kId, kOf] at h
      · simp [kId, kOf] at h
      · simpa [Cond.profiles] using mem_flatIds_id h
      · simp [kId, kOf] at h
      · simp [kId, kOf] at h
  | .cds neg subs, h => by
      simp only [flatC, List.mem_append, List.mem_cons, List.not_mem_nil, or_false] at h
      rcases h with ((h | h | h) | h) | h
      · exact absurd h mem_flatNot_not_id
      · simp [kId, kOf] at h
      · simp [kId, kOf] at h
      · simpa [Cond.profiles] using ids_flatJoin p .orOp (by decide) subs h
      · simp [kId, kOf] at h
  | .group neg subs, h => by
      simp only [flatC, List.mem_append, List.mem_cons, List.not_mem_nil, or_false] at h
      rcases h with ((h | h) | h) | h
      · exact absurd h mem_flatNot_not_id
      · simp [kId, kOf] at h
      · simpa [Cond.profiles] using ids_flatJoin p .orOp (by decide) subs h
      · simp [kId, kOf] at h
  | .conj subs, h => by
      simp only [flatC] at h
      simpa [Cond.profiles] using ids_flatJoin p .andOp (by decide) subs h
theorem ids_flatJoin (p : String) (op : TT) (hop : op ≠ .identifier) : ∀ cs : List Cond,
    kId p ∈ flatJoin op cs → p ∈ profilesL cs
  | [], h => by simp [flatJoin] at h
  | c :: cs, h => by
      rw [flatJoin_cons] at h
      simp only [profilesL, List.mem_append]
      rcases List.mem_append.mp h with h | h
      · exact Or.inl (ids_flatC p c h)
      · cases cs with
        | nil => simp [joinTail] at h
        | cons d ds =>
          rw [joinTail_eq op (by simp)] at h
          rcases List.mem_cons.mp h with h | h
          · exact absurd h (kId_ne_kOf p op hop)
          · exact Or.inr (ids_flatJoin p op hop (d :: ds) h)
end

/-- the identifier tokens of a rendered condition are the profiles of its shape -/
theorem idsOf_ppOr (t : OrE) : ∀ x ∈ idsOf (ppOr t), x ∈ profilesL (shapeOr t) := by
  intro x hx
  simp only [idsOf, List.mem_map, List.mem_filter] at hx
  obtain ⟨tok, ⟨hm, hty⟩, rfl⟩ := hx
  have hk : tok.key = kId tok.text := by
    have : tok.type = .identifier := by simpa using hty
    simp [Tok.key, kId, this]
  have : kId tok.text ∈ (ppOr t).map Tok.key := by rw [← hk]; exact List.mem_map_of_mem hm
  rw [ppOr_keys] at this
  exact ids_flatJoin _ .orOp (by decide) _ this

theorem ppOr_noKeyword (t : OrE) : ∀ tok ∈ ppOr t, tok.type.isRuleKeyword = false := by
  intro tok hm
  have : tok.key ∈ (ppOr t).map Tok.key := List.mem_map_of_mem hm
  rw [ppOr_keys] at this
  simpa [Tok.key] using flatJoin_noKeyword .orOp (by decide) _ _ this

theorem ppIds_noKeyword (l : List String) : ∀ tok ∈ ppIds l, tok.type.isRuleKeyword = false := by
  intro tok hm
  have : tok.key ∈ (ppIds l).map Tok.key := List.mem_map_of_mem hm
  rw [ppIds_keys] at this
  simpa [Tok.key] using flatIds_noKeyword _ this

theorem condIds_rule (r : RuleSrc) (X : List Tok) (b : Bool) :
    conditionIdentifiers (ruleSrcToks r ++ X) b = idsOf (ppOr r.conds) ++ conditionIdentifiers X true := by
  have hsup : ∀ Y, conditionIdentifiers (superiorsToks r.superiors ++ Y) false = conditionIdentifiers Y false := by
    intro Y
    unfold superiorsToks
    split
    · rfl
    · simp only [List.cons_append, conditionIdentifiers, kw]
      simp only [show (TT.superiors == TT.conditions) = false from rfl, TT.isRuleKeyword, Bool.false_eq_true, ↓reduceIte]
      exact condIds_append _ _ false (ppIds_noKeyword _)
  simp only [ruleSrcToks, List.cons_append, List.nil_append, List.append_assoc, conditionIdentifiers, kw, tId, tInt]
  simp only [show (TT.rule == TT.conditions) = false from rfl, show (TT.identifier == TT.conditions) = false from rfl,
    show (TT.category == TT.conditions) = false from rfl, show (TT.cutoff == TT.conditions) = false from rfl,
    show (TT.int == TT.conditions) = false from rfl, show (TT.neighbourhood == TT.conditions) = false from rfl,
    TT.isRuleKeyword, Bool.false_eq_true, ↓reduceIte, Bool.false_and, hsup, beq_self_eq_true]
  exact condIds_append _ _ true (ppOr_noKeyword _)

theorem condIds_file : ∀ (rs : List RuleSrc) (b : Bool) (x : String),
    x ∈ conditionIdentifiers (rs.flatMap ruleSrcToks) b → ∃ r ∈ rs, x ∈ idsOf (ppOr r.conds) := by
  intro rs
  induction rs with
  | nil => intro b x h; simp [conditionIdentifiers] at h
  | cons r rest ih =>
    intro b x h
    rw [List.flatMap_cons, condIds_rule] at h
    rcases List.mem_append.mp h with h | h
    · exact ⟨r, by simp, h⟩
    · obtain ⟨r', hr', hx⟩ := ih true x h
      exact ⟨r', by simp [hr'], hx⟩

theorem srcsOk_profiles (cfg : Cfg) : ∀ (rs : List RuleSrc) (earlier : List Rule), srcsOk cfg earlier rs = true →
    ∀ r ∈ rs, ∀ x ∈ profilesL (shapeOr r.conds), cfg.sigs.contains x = true := by
  intro rs
  induction rs with
  | nil => intro _ _ r hr; cases hr
  | cons a rest ih =>
    intro earlier hok r hr x hx
    simp only [srcsOk, srcOk, Bool.and_eq_true, List.all_eq_true] at hok
    rcases List.mem_cons.mp hr with rfl | hr
    · exact hok.1.1.1.2 x hx
    · exact ih _ hok.2 r hr x hx

theorem fileToks_length (rs : List RuleSrc) : rs.length ≤ (rs.flatMap ruleSrcToks).length := by
  induction rs with
  | nil => simp
  | cons r rest ih =>
    have h1 : 1 ≤ (ruleSrcToks r).length := by simp [ruleSrcToks]
    rw [List.flatMap_cons, List.length_append, List.length_cons]
    omega

/-- `Parser.__init__` on a written, alias-free file, after the rules of earlier files -/
theorem parseTokens_file (cfg : Cfg) (earlier : List Rule) (rs : List RuleSrc) (hne : rs ≠ [])
    (hok : srcsOk cfg earlier rs = true) :
    parseTokens cfg earlier [] (rs.flatMap ruleSrcToks) = .ok (denote cfg earlier rs, []) := by
  have hloop := mainLoop_file cfg rs earlier [] ((rs.flatMap ruleSrcToks).length + 1) hok
    (by have := fileToks_length rs; omega)
  have hids : (conditionIdentifiers (rs.flatMap ruleSrcToks) false).any (fun n => !cfg.sigs.contains n) = false := by
    rw [List.any_eq_false]
    intro x hx
    obtain ⟨r, hr, hxr⟩ := condIds_file rs false x hx
    have := srcsOk_profiles cfg rs earlier hok r hr x (idsOf_ppOr r.conds x hxr)
    rw [this]; simp
  unfold parseTokens
  cases htoks : rs.flatMap ruleSrcToks with
  | nil =>
    cases rs with
    | nil => exact absurd rfl hne
    | cons r rest => simp [List.flatMap_cons, ruleSrcToks] at htoks
  | cons t rest =>
    rw [htoks] at hloop hids
    have hst : ({ cur := some t, rest := rest, aliases := [], rules := earlier } : PS) = ofStream (t :: rest) [] earlier := rfl
    simp only [List.forM_nil, List.map_nil, bind, Except.bind, pure, Except.pure, hst, hloop]
    have hc : (ofStream [] ((t :: rest).reverse ++ []) (denote cfg earlier rs)).consumed.reverse = t :: rest := by
      simp [ofStream]
    have hr : (ofStream [] ((t :: rest).reverse ++ []) (denote cfg earlier rs)).rules = denote cfg earlier rs := rfl
    have ha : (ofStream [] ((t :: rest).reverse ++ []) (denote cfg earlier rs)).aliases = [] := rfl
    simp only [hc, hids, hr, ha]
    rfl

theorem denote_append (cfg : Cfg) : ∀ (a b : List RuleSrc) (earlier : List Rule),
    denote cfg earlier (a ++ b) = denote cfg (denote cfg earlier a) b := by
  intro a
  induction a with
  | nil => intro b earlier; rfl
  | cons r rest ih => intro b earlier; simp only [List.cons_append, denote, ih]

theorem srcsOk_append (cfg : Cfg) : ∀ (a b : List RuleSrc) (earlier : List Rule),
    srcsOk cfg earlier (a ++ b) = (srcsOk cfg earlier a && srcsOk cfg (denote cfg earlier a) b) := by
  intro a
  induction a with
  | nil => intro b earlier; simp [srcsOk, denote]
  | cons r rest ih => intro b earlier; simp only [List.cons_append, srcsOk, denote, ih, Bool.and_assoc]

/-- `create_rules` on several alias-free files: the rules of all files in order, each file seeing
    the rules of the files before it -/
theorem createRules_files (cfg : Cfg) : ∀ (files : List (String × List RuleSrc)) (earlier : List Rule),
    (∀ f ∈ files, f.2 ≠ [] ∧ tokenise f.1 = .ok (f.2.flatMap ruleSrcToks)) →
    srcsOk cfg earlier (files.flatMap (·.2)) = true →
    createRules cfg (files.map (·.1)) earlier [] = .ok (denote cfg earlier (files.flatMap (·.2))) := by
  intro files
  induction files with
  | nil => intro earlier _ _; rfl
  | cons f rest ih =>
    intro earlier hf hok
    rw [List.flatMap_cons, srcsOk_append, Bool.and_eq_true] at hok
    obtain ⟨hne, htok⟩ := hf f (by simp)
    have := ih (denote cfg earlier f.2) (fun g hg => hf g (by simp [hg])) hok.2
    simp only [List.map_cons, createRules, parseText, bind, Except.bind, htok,
      parseTokens_file cfg earlier f.2 hne hok.1, List.flatMap_cons, denote_append]
    exact this

/-- the superiors loop succeeded: every listed name is a stored rule, the result is the inherited names in order -/
theorem supFold_inv (rules : List Rule) : ∀ (l : List String) (acc r : List String),
    l.foldlM (fun (acc : List String) name =>
      match rules.find? (·.name == name) with
      | none => (.error .value : Except Err (List String))
      | some r => .ok (acc ++ r.superiors)) acc = .ok r →
    (∀ n ∈ l, (rules.find? (·.name == n)).isSome = true) ∧ r = acc ++ l.flatMap (supOf rules) := by
  intro l
  induction l with
  | nil => intro acc r h; simp [pure, Except.pure] at h; simp [h]
  | cons n ns ih =>
    intro acc r h
    cases hf : rules.find? (·.name == n) with
    | none => simp [List.foldlM_cons, hf, bind, Except.bind] at h
    | some p =>
      simp only [List.foldlM_cons, hf, bind, Except.bind] at h
      obtain ⟨h1, h2⟩ := ih _ _ h
      refine ⟨?_, ?_⟩
      · intro x hx
        rcases List.mem_cons.mp hx with rfl | hx
        · simp [hf]
        · exact h1 x hx
      · simp [h2, supOf, hf]

/-- `_parse_superiors` accepts only a list without repeated names, all of them rules stored before;
    what it returns is the sorted set of the listed names and the (closed) superiors of each -/
theorem parseSuperiors_sound (fuel : Nat) (s s' : PS) (sup : List String)
    (h : parseSuperiors fuel s = .ok (sup, s')) :
    ∃ x s1 decl, consume .superiors s = .ok (x, s1) ∧ parseIds fuel s1 = .ok (decl, s') ∧
      hasDupStr decl = false ∧ (∀ n ∈ decl, (s'.rules.find? (·.name == n)).isSome = true) ∧
      sup = sortDedupStr (decl ++ decl.flatMap (supOf s'.rules)) := by
  unfold parseSuperiors at h
  simp only [bind_ok, Prod.exists] at h
  obtain ⟨x, s1, hc, decl, s2, hi, h⟩ := h
  split at h
  · cases h
  · rename_i hd
    simp only [bind_ok] at h
    obtain ⟨trans, hfold, h⟩ := h
    simp only [pure, Except.pure, Except.ok.injEq, Prod.mk.injEq] at h
    obtain ⟨rfl, rfl⟩ := h
    obtain ⟨hfound, ht⟩ := supFold_inv s2.rules decl [] trans hfold
    refine ⟨x, s1, decl, hc, hi, by simpa using hd, hfound, ?_⟩
    rw [ht]; rfl

end ASV.Parser
