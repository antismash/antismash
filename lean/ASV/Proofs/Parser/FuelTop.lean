/-
  C02, fuel (`fuel_never_exhausted`): the fuel the model hands to the parser is never exhausted — `Err.fuel` is unreachable
  from `createRules`.  Aliased states are reduced to alias-free ones by `strip` (same fuel).
-/
import ASV.Proofs.Parser.FuelMono
import ASV.Proofs.Parser.FuelEnough
import ASV.Proofs.Parser.SubstRule
namespace ASV.Parser
open ASV ASV.Rules ASV.Grammar

/-! ### the budget covers the substituted input -/

theorem foldl_max_ge (l : List Nat) : ∀ init, init ≤ l.foldl max init ∧ ∀ x ∈ l, x ≤ l.foldl max init := by
  induction l with
  | nil => intro init; simp
  | cons a as ih =>
    intro init
    obtain ⟨h1, h2⟩ := ih (max init a)
    simp only [List.foldl_cons, List.mem_cons]
    refine ⟨by omega, ?_⟩
    rintro x (rfl | hx)
    · omega
    · exact h2 x hx

def longest (A : Aliases) : Nat := (A.map (·.2.length)).foldl max 1

theorem subst_length_le (A : Aliases) (l : List Tok) : (subst A l).length ≤ l.length * longest A := by
  have hL := foldl_max_ge (A.map (·.2.length)) 1
  have h1 : 1 ≤ longest A := hL.1
  induction l with
  | nil => simp [subst]
  | cons t ts ih =>
    simp only [subst, List.length_cons, Nat.succ_mul]
    split
    · split
      · rename_i body hl
        obtain ⟨k', hm⟩ := lookup_mem hl
        have : body.length ≤ longest A := hL.2 _ (List.mem_map.mpr ⟨_, hm, rfl⟩)
        simp only [List.length_append]; omega
      · simp only [List.length_cons]; omega
    · simp only [List.length_cons]; omega

theorem strip_pending_le (s : PS) : (strip s).pending ≤ 1 + s.rest.length * longest s.aliases := by
  obtain ⟨cur, rest, A, rules, cons⟩ := s
  have := subst_length_le A rest
  cases cur with
  | none => simp only [PS.pending, strip]; simp; omega
  | some c => simp only [PS.pending, strip]; simp; omega

theorem budget_enough (s : PS) : 3 * (strip s).pending + 3 ≤ s.budget := by
  have h := strip_pending_le s
  have hb : s.budget = 4 * ((s.rest.length + 2) * (longest s.aliases + 1)) + 8 := rfl
  rw [hb, Nat.add_mul, Nat.mul_add, Nat.mul_add]
  omega

/-! ### one rule, one alias definition -/

theorem parseRuleWith_nf_aliased {n : Nat} {cfg : Cfg} {s : PS} (hf : Flat s.aliases)
    (hn : 3 * (strip s).pending + 3 ≤ n) : parseRuleWith n cfg s ≠ .error .fuel := by
  intro h
  have := (parseRuleWith_res readsRawStripped (Fu.same n) ⟨rfl, hf⟩ trivial cfg).error_left h
  exact parseRuleWith_nf (s := strip s) (p := (strip s).pending) ⟨rfl, Nat.le_refl _⟩ hn this

theorem parseRule_nf {cfg : Cfg} {s : PS} (hf : Flat s.aliases) : parseRule cfg s ≠ .error .fuel :=
  parseRuleWith_nf_aliased hf (budget_enough s)

theorem aliasLoop_nf : ∀ (n : Nat) (acc : List Tok) (s : PS) (p : Nat), AF s p → p + 1 ≤ n →
    aliasLoop n acc s ≠ .error .fuel := by
  intro n
  induction n with
  | zero => intro acc s p _ h; omega
  | succ n ih =>
    intro acc s p hp hn
    rw [aliasLoop]
    split
    · simp
    · rename_i c hc
      split
      · simp
      · split
        · simp
        · refine nf_bind (consume_nf _ _) fun x h1 => ?_
          obtain ⟨c1, s1⟩ := x
          have hp0 : AF ({ s with cur := some { c with aliased := true } } : PS) p :=
            ⟨hp.1, by have := hp.2; simpa [PS.pending, hc] using this⟩
          obtain ⟨hp1, _⟩ := hp0.consume h1
          exact ih _ s1 (p - 1) hp1 (by omega)

theorem parseAliasWith_nf {n : Nat} {s : PS} {p : Nat} (hp : AF s p) (hn : p + 1 ≤ n) :
    parseAliasWith n s ≠ .error .fuel := by
  unfold parseAliasWith
  refine nf_bind (consume_nf _ _) fun x h1 => ?_
  obtain ⟨hp1, _⟩ := hp.consume h1
  try simp only
  split
  · simp
  · refine nf_bind (consumeId_nf _) fun x h2 => ?_
    obtain ⟨hp2, _⟩ := hp1.consumeId h2
    refine nf_bind (consume_nf _ _) fun x h3 => ?_
    obtain ⟨hp3, _⟩ := hp2.consume h3
    refine nf_bind (aliasLoop_nf n _ _ (p - 1 - 1 - 1) hp3 (by omega)) fun _ _ => ?_
    try simp only
    split <;> simp [pure, Except.pure]

theorem parseAlias_nf {s : PS} (hf : Flat s.aliases) : parseAlias s ≠ .error .fuel := by
  intro h
  have h' := (parseAliasWith_res readsStripped (Fu.same s.budget) ⟨rfl, hf⟩).error_left h
  have hb := budget_enough s
  exact parseAliasWith_nf (s := strip s) (p := (strip s).pending) ⟨rfl, Nat.le_refl _⟩ (by omega) h'

/-! ### the main loop: every iteration consumes a `RULE` or `DEFINE` token -/

theorem verifyAliasName_nf (cfg : Cfg) (rules : List Rule) (name : String) :
    verifyAliasName cfg rules name ≠ .error .fuel := by
  unfold verifyAliasName
  repeat' split
  all_goals simp

theorem mainLoop_nf (cfg : Cfg) : ∀ (n : Nat) (s : PS), Flat s.aliases → s.starters + 1 ≤ n →
    mainLoop n cfg s ≠ .error .fuel := by
  intro n
  induction n with
  | zero => intro s _ h; omega
  | succ n ih =>
    intro s hf hn
    rw [mainLoop]
    split
    · simp
    · split
      · refine nf_bind (parseAlias_nf hf) fun x h1 => ?_
        obtain ⟨⟨nm, toks⟩, s1⟩ := x
        obtain ⟨ht, hne, ha⟩ := parseAlias_flat h1 hf
        obtain ⟨new, a, hk⟩ := parseAliasWith_adv h1
        have hs := a.starters hf.noKw
        refine nf_bind (verifyAliasName_nf _ _ _) fun _ _ => ?_
        try simp only
        split
        · simp
        · rename_i hnew
          split
          · simp
          · rename_i huse
            simp only [Bool.or_eq_true, not_or, Bool.not_eq_true] at huse
            rw [ha] at hnew huse
            refine ih _ ?_ ?_
            · show Flat (s1.aliases ++ [(nm, toks)])
              rw [ha]
              exact flat_extend hf (by cases hx : s.aliases.lookup nm <;> simp_all) ht hne huse.1 huse.2
            · show s1.starters + 1 ≤ n
              omega
      · split
        · refine nf_bind (parseRule_nf hf) fun x h1 => ?_
          obtain ⟨r, s1⟩ := x
          obtain ⟨new, a, hk⟩ := parseRuleWith_adv h1
          have hs := a.starters hf.noKw
          try simp only
          split
          · simp
          · refine ih _ ?_ ?_
            · show Flat s1.aliases
              rw [a.aliases]; exact hf
            · show s1.starters + 1 ≤ n
              omega
        · simp

theorem forM_verify_nf (cfg : Cfg) (rules : List Rule) : ∀ (A : Aliases),
    (A.forM fun a => verifyAliasName cfg rules a.1) ≠ .error .fuel := by
  intro A
  induction A with
  | nil => show (pure () : Except Err Unit) ≠ _; simp [pure, Except.pure]
  | cons a as ih =>
    show (verifyAliasName cfg rules a.1 >>= fun _ => as.forM fun a => verifyAliasName cfg rules a.1) ≠ _
    exact nf_bind (verifyAliasName_nf _ _ _) fun _ _ => ih

theorem parseTokens_nf {cfg : Cfg} {rules : List Rule} {aliases : Aliases} {toks : List Tok} (hf : Flat aliases) :
    parseTokens cfg rules aliases toks ≠ .error .fuel := by
  unfold parseTokens
  refine nf_bind (forM_verify_nf _ _ _) fun _ _ => ?_
  split
  · simp
  · rename_i t rest
    refine nf_bind (mainLoop_nf cfg _ _ (flat_markAliased hf) ?_) fun _ _ => ?_
    · have : (t :: rest).countP isStarter ≤ (t :: rest).length := List.countP_le_length
      simpa [PS.starters] using this
    · split <;> simp [pure, Except.pure]

theorem ite_of_both {α : Type} (p : α → Prop) {c : Prop} [Decidable c] {a b : α} (ha : p a) (hb : p b) :
    p (if c then a else b) := by
  split
  · exact ha
  · exact hb

theorem tokGo_err : ∀ (cs : List Char) (b : Bool) (sym : List Char) (acc : List Tok) (e : Err),
    tokGo cs b sym acc = .error e → e = .syntax := by
  intro cs
  induction cs with
  | nil => intro b sym acc e h; cases h
  | cons c cs ih =>
    intro b sym acc e
    cases b with
    | true => rw [tokGo]; exact ih _ _ _ _
    | false =>
      rw [tokGo]
      -- branch by branch: the recursive calls by induction, the last branch is the syntax error itself
      have both := @ite_of_both _ (fun r : Except Err (List Tok) => r = .error e → e = .syntax)
      refine both (ih _ _ _ _) (both (ih _ _ _ _) (both (ih _ _ _ _) (both (ih _ _ _ _) (both (ih _ _ _ _) ?_))))
      intro h; cases h; rfl

theorem tokenise_nf (text : String) : tokenise text ≠ .error .fuel := by
  intro h
  have := tokGo_err _ _ _ _ _ h
  cases this

theorem parseText_nf {cfg : Cfg} {rules : List Rule} {aliases : Aliases} {text : String} (hf : Flat aliases) :
    parseText cfg rules aliases text ≠ .error .fuel := by
  unfold parseText
  refine nf_bind (forM_verify_nf _ _ _) fun _ _ => ?_
  refine nf_bind (tokenise_nf _) fun _ _ => ?_
  exact parseTokens_nf hf

theorem parseText_flat {cfg : Cfg} {rules rules' : List Rule} {aliases aliases' : Aliases} {text : String}
    (h : parseText cfg rules aliases text = .ok (rules', aliases')) (hf : Flat aliases) : Flat aliases' := by
  unfold parseText at h
  simp only [Base.bind_eq_ok] at h
  obtain ⟨_, _, toks, _, h⟩ := h
  exact parseTokens_flat h hf

/-- the fuel error is unreachable from `create_rules` -/
theorem createRules_nf (cfg : Cfg) : ∀ (files : List String) (rules : List Rule) (aliases : Aliases),
    Flat aliases → createRules cfg files rules aliases ≠ .error .fuel
  | [], _, _, _ => by simp [createRules]
  | text :: more, rules, aliases, hf => by
    rw [createRules]
    refine nf_bind (parseText_nf hf) fun x h1 => ?_
    obtain ⟨rules1, aliases1⟩ := x
    exact createRules_nf cfg more rules1 aliases1 (parseText_flat h1 hf)

theorem subst_nil (l : List Tok) : subst [] l = l := by
  induction l with
  | nil => rfl
  | cons t ts ih => simp [subst, ih, List.lookup]

theorem strip_strip_pending (s : PS) : (strip (strip s)).pending = (strip s).pending := by
  obtain ⟨cur, rest, A, rules, cons⟩ := s
  cases cur <;> simp [strip, PS.pending, subst_nil]

/-- with the fuel each side computes for itself: a rule is parsed on the aliased state as on the
    substituted alias-free state -/
theorem parseRule_rel {s : PS} (hf : Flat s.aliases) (cfg : Cfg) :
    RelS RuleRel (parseRule cfg (strip s)) (parseRule cfg s) := by
  have hrel := parseRuleWith_rel hf s.budget cfg
  have hk : AF (strip s) (strip s).pending := ⟨rfl, Nat.le_refl _⟩
  have h1 := budget_enough s
  have h2 := budget_enough (strip s)
  rw [strip_strip_pending] at h2
  -- both budgets are enough for the alias-free side, so they give the same result there
  have e1 := (parseRuleWith_mono h1 cfg (strip s)).eq_of_ne (parseRuleWith_nf hk (Nat.le_refl _))
  have e2 := (parseRuleWith_mono h2 cfg (strip s)).eq_of_ne (parseRuleWith_nf hk (Nat.le_refl _))
  unfold parseRule
  rw [e2, ← e1]
  exact hrel

end ASV.Parser
