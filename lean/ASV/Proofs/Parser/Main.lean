/-
  C02: the main loop of `Parser.__init__`, the final identifier check and `create_rules` keep the
  stored rule set well-formed (`Grammar.rulesOk`).
-/
import ASV.Proofs.Parser.Rule
namespace ASV.Parser
open ASV ASV.Rules ASV.Grammar

theorem aliasLoop_adv (fuel : Nat) {acc : List Tok} {s s' : PS} {toks : List Tok}
    (h : aliasLoop fuel acc s = .ok (toks, s')) : ∃ new, Adv s s' new :=
  Fwd.of_res (aliasLoop_res (readsFwd s).toReads fuel fuel (Fu.same _) acc) h

/-- an alias definition consumes what it reads, its `DEFINE` keyword among it -/
theorem parseAliasWith_adv {n : Nat} {s s' : PS} {x : String × List Tok} (h : parseAliasWith n s = .ok (x, s')) :
    ∃ new, Adv s s' new ∧ 1 ≤ new.countP isStarter := by
  unfold parseAliasWith at h
  simp only [Base.bind_eq_ok, Prod.exists] at h
  obtain ⟨c1, s1, h1, h⟩ := h
  split at h
  · cases h
  · simp only [Base.bind_eq_ok, Prod.exists] at h
    obtain ⟨nm, s2, h2, c3, s3, h3, toks, s4, h4, h⟩ := h
    split at h
    · cases h
    · cases h
      obtain ⟨a1, t1, _⟩ := consume_post h1
      obtain ⟨_, a2, _, _⟩ := consumeId_post h2
      obtain ⟨a3, _, _⟩ := consume_post h3
      obtain ⟨n4, a4⟩ := aliasLoop_adv _ h4
      refine ⟨_, ((a1.trans a2).trans a3).trans a4, ?_⟩
      simp [List.countP_append, List.countP_cons, isStarter, t1]
      omega

/-- the invariant of the main loop -/
structure MInv (cfg : Cfg) (s : PS) : Prop where
  names : namesDistinct s.rules = true
  sup : supClosed s.rules = true
  ok : ∀ r ∈ s.rules, ruleOkW cfg r
  prof : ∀ r ∈ s.rules, (∀ x ∈ r.conditions.profiles, cfg.sigs.contains x = true) ∨ Recorded s.consumed r

theorem namesDistinct_append {rules : List Rule} {r : Rule} (h : namesDistinct rules = true)
    (hn : rules.any (·.name == r.name) = false) : namesDistinct (rules ++ [r]) = true := by
  unfold namesDistinct at *
  simp only [Bool.not_eq_true', hasDupStr_false_iff] at *
  rw [List.map_append, List.nodup_append]
  refine ⟨h, by simp, ?_⟩
  intro a ha b hb
  simp at hb; subst hb
  intro hab; subst hab
  obtain ⟨q, hq, hqn⟩ := List.mem_map.mp ha
  have : rules.any (·.name == r.name) = true := List.any_eq_true.mpr ⟨q, hq, by simp [hqn]⟩
  rw [hn] at this; cases this

/-- how the main loop proceeds: what holds at the start and is kept by every accepted `DEFINE` and by
    every accepted `RULE` holds at the end -/
theorem mainLoop_induct {cfg : Cfg} {P : PS → Prop}
    (onAlias : ∀ (s s1 : PS) (nm : String) (toks : List Tok), P s → parseAlias s = .ok ((nm, toks), s1) →
      (s1.aliases.lookup nm).isSome = false →
      (usesIdentifier nm toks || s1.aliases.any fun a => usesIdentifier nm a.2) = false →
      P { s1 with aliases := s1.aliases ++ [(nm, toks)] })
    (onRule : ∀ (s s1 : PS) (r : Rule), P s → parseRule cfg s = .ok (r, s1) →
      s1.rules.any (·.name == r.name) = false →
      P { s1 with rules := s1.rules ++ [{ r with cutoff := scale r.cutoff cfg.cutoffMul,
                                                   neighbourhood := scale r.neighbourhood cfg.nbhMul }] }) :
    ∀ (fuel : Nat) {s s' : PS}, mainLoop fuel cfg s = .ok s' → P s → P s' := by
  intro fuel
  induction fuel with
  | zero => intro s s' h; simp [mainLoop] at h
  | succ n ih =>
    intro s s' h hs
    rw [mainLoop] at h
    split at h
    · cases h; exact hs
    · split at h
      · simp only [Base.bind_eq_ok, Prod.exists] at h
        obtain ⟨nm, toks, s1, h1, u, h2, h⟩ := h
        split at h
        · cases h
        · rename_i hnew
          split at h
          · cases h
          · rename_i huse
            exact ih h (onAlias s s1 nm toks hs h1 (Bool.eq_false_iff.mpr hnew) (Bool.eq_false_iff.mpr huse))
      · split at h
        · simp only [Base.bind_eq_ok, Prod.exists] at h
          obtain ⟨r, s1, h1, h⟩ := h
          split at h
          · cases h
          · rename_i hdup
            exact ih h (onRule s s1 r hs h1 (Bool.eq_false_iff.mpr hdup))
        · cases h

theorem mainLoop_inv (fuel : Nat) (cfg : Cfg) : ∀ {s s' : PS},
    mainLoop fuel cfg s = .ok s' → MInv cfg s → MInv cfg s' := by
  refine mainLoop_induct (P := MInv cfg) ?_ ?_ fuel
  · intro s s1 nm toks inv h1 _ _
    obtain ⟨new, a1, _⟩ := parseAliasWith_adv h1
    refine ⟨?_, ?_, ?_, ?_⟩
    · simpa [a1.rules] using inv.names
    · simpa [a1.rules] using inv.sup
    · intro r hr; exact inv.ok r (by simpa [a1.rules] using hr)
    · intro r hr
      rcases inv.prof r (by simpa [a1.rules] using hr) with h' | h'
      · exact Or.inl h'
      · right; show Recorded s1.consumed r; rw [a1.consumed]; exact h'.mono
  · intro s s1 r inv h1 hdup
    obtain ⟨new, a1, okr, supr, rec⟩ := parseRule_post h1 (supInv_of_closed inv.sup)
    rw [a1.rules] at hdup
    refine ⟨?_, ?_, ?_, ?_⟩
    · show namesDistinct (s1.rules ++ [_]) = true
      rw [a1.rules]
      exact namesDistinct_append inv.names (by simpa using hdup)
    · show supClosed (s1.rules ++ [_]) = true
      rw [a1.rules]
      unfold supClosed
      rw [supClosedFrom_append]
      simp only [Bool.and_eq_true]
      exact ⟨inv.sup, by simpa [supOk] using supr⟩
    · intro q hq
      have hq' : q ∈ s1.rules ++ [_] := hq
      rw [a1.rules] at hq'
      rcases List.mem_append.mp hq' with hq' | hq'
      · exact inv.ok q hq'
      · simp at hq'; subst hq'
        exact okr
    · intro q hq
      have hq' : q ∈ s1.rules ++ [_] := hq
      rw [a1.rules] at hq'
      rcases List.mem_append.mp hq' with hq' | hq'
      · rcases inv.prof q hq' with h' | h'
        · exact Or.inl h'
        · right; show Recorded s1.consumed q; rw [a1.consumed]; exact h'.mono
      · simp at hq'; subst hq'
        right
        obtain ⟨p, c, m, q', subs, e1, e2, e3, e4⟩ := rec
        exact ⟨p, c, m, q', subs, e1, e2, e3, e4⟩

theorem ruleOk_of {cfg : Cfg} {r : Rule} (h : ruleOkW cfg r)
    (hp : ∀ x ∈ r.conditions.profiles, cfg.sigs.contains x = true) : ruleOk cfg r = true := by
  obtain ⟨h1, h2, h3, h4⟩ := h
  unfold ruleOk
  simp only [Bool.and_eq_true, List.all_eq_true]
  refine ⟨⟨⟨⟨h1, h2⟩, h3⟩, hp⟩, ?_⟩
  cases he : r.extenders with
  | none => rfl
  | some e => simp [h4 e he]

theorem ruleOkW_of {cfg : Cfg} {r : Rule} (h : ruleOk cfg r = true) :
    ruleOkW cfg r ∧ ∀ x ∈ r.conditions.profiles, cfg.sigs.contains x = true := by
  unfold ruleOk at h
  simp only [Bool.and_eq_true, List.all_eq_true] at h
  obtain ⟨⟨⟨⟨h1, h2⟩, h3⟩, hp⟩, h4⟩ := h
  refine ⟨⟨h1, h2, h3, ?_⟩, hp⟩
  intro e he
  rw [he] at h4
  simpa using h4

theorem rulesOk_iff {cfg : Cfg} {rules : List Rule} :
    rulesOk cfg rules = true ↔
      namesDistinct rules = true ∧ supClosed rules = true ∧ ∀ r ∈ rules, ruleOk cfg r = true := by
  unfold rulesOk
  simp [Bool.and_eq_true, List.all_eq_true, and_assoc]

/-- `Parser.__init__` on tokens: a well-formed rule set stays well-formed -/
theorem parseTokens_ok {cfg : Cfg} {rules rules' : List Rule} {aliases aliases' : Aliases} {toks : List Tok}
    (h : parseTokens cfg rules aliases toks = .ok (rules', aliases')) (h0 : rulesOk cfg rules = true) :
    rulesOk cfg rules' = true := by
  unfold parseTokens at h
  simp only [Base.bind_eq_ok] at h
  obtain ⟨_, _, h⟩ := h
  split at h
  · cases h
  · rename_i t rest
    simp only [Base.bind_eq_ok] at h
    obtain ⟨s, hs, h⟩ := h
    split at h
    · cases h
    · rename_i hids
      cases h
      obtain ⟨n0, s0, r0⟩ := rulesOk_iff.mp h0
      have inv0 : MInv cfg { cur := some t, rest := rest, aliases := aliases.map fun a => (a.1, a.2.map fun t => { t with aliased := true }), rules := rules } :=
        ⟨n0, s0, fun r hr => (ruleOkW_of (r0 r hr)).1, fun r hr => Or.inl (ruleOkW_of (r0 r hr)).2⟩
      have inv := mainLoop_inv _ cfg hs inv0
      refine rulesOk_iff.mpr ⟨inv.names, inv.sup, ?_⟩
      intro r hr
      refine ruleOk_of (inv.ok r hr) ?_
      rcases inv.prof r hr with h' | h'
      · exact h'
      · intro x hx
        obtain ⟨p, c, m, q, subs, e1, e2, e3, e4⟩ := h'
        have hx' : x ∈ profilesL subs := by simpa [e3, Cond.profiles] using hx
        have := profiles_recorded (p := p) (q := q) (b := false) e2 e4 x hx'
        rw [← e1] at this
        simp only [Bool.not_eq_true, List.any_eq_false, Bool.not_eq_true'] at hids
        have := hids x this
        simpa using this

theorem parseText_ok {cfg : Cfg} {rules rules' : List Rule} {aliases aliases' : Aliases} {text : String}
    (h : parseText cfg rules aliases text = .ok (rules', aliases')) (h0 : rulesOk cfg rules = true) :
    rulesOk cfg rules' = true := by
  unfold parseText at h
  simp only [Base.bind_eq_ok] at h
  obtain ⟨_, _, toks, _, h⟩ := h
  exact parseTokens_ok h h0

theorem createRules_ok (cfg : Cfg) : ∀ (files : List String) (rules : List Rule) (aliases : Aliases) (out : List Rule),
    createRules cfg files rules aliases = .ok out → rulesOk cfg rules = true → rulesOk cfg out = true
  | [], rules, _, out, h, h0 => by simp [createRules] at h; subst h; exact h0
  | text :: more, rules, aliases, out, h, h0 => by
    rw [createRules] at h
    simp only [Base.bind_eq_ok, Prod.exists] at h
    obtain ⟨rules1, aliases1, h1, h⟩ := h
    exact createRules_ok cfg more rules1 aliases1 out h (parseText_ok h1 h0)

/-- positional reading of `supClosed`: a rule's superiors are rules stored *before* it -/
theorem supOk_of_closedFrom (e : List Rule) : ∀ (l pre : List Rule) (r : Rule) (post : List Rule),
    supClosedFrom e l = true → l = pre ++ r :: post → supOk (e ++ pre) r = true := by
  intro l
  induction l generalizing e with
  | nil => intro pre r post _ h; cases pre <;> cases h
  | cons x xs ih =>
    intro pre r post h hl
    simp only [supClosedFrom, Bool.and_eq_true] at h
    cases pre with
    | nil => simp at hl; obtain ⟨rfl, _⟩ := hl; simpa using h.1
    | cons p ps =>
      simp at hl
      obtain ⟨rfl, rfl⟩ := hl
      have := ih (e ++ [x]) ps r post h.2 rfl
      simpa using this

end ASV.Parser
