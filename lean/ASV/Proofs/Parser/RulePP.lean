/-
  C02: a whole rule written with the mandatory sections and an optional SUPERIORS section is parsed
  into the rule it denotes (`parseRule_sections`), distances read in kilobases.
-/
import ASV.Proofs.Parser.Grammar
namespace ASV.Parser
open ASV ASV.Rules ASV.Grammar

theorem budget_ofStream (toks cons : List Tok) (r : List Rule) :
    (ofStream toks cons r).budget = 8 * ((ofStream toks cons r).rest.length + 2) + 8 := by
  cases toks <;> simp [ofStream, PS.budget] <;> omega

theorem examplesLoop_none {fuel : Nat} {t : Tok} {k cons : List Tok} {r : List Rule} (ht : t.type ≠ .example) :
    examplesLoop (fuel + 1) [] (ofStream (t :: k) cons r) = .ok ([], ofStream (t :: k) cons r) := by
  simp [examplesLoop, ht]

theorem parseHead_ofStream (cfg : Cfg) (name cat : String) (x : Tok) (k cons : List Tok) (rules : List Rule)
    (hcat : cfg.cats.contains cat = true) :
    parseHead cfg (ofStream (kw "RULE" .rule :: tId name :: kw "CATEGORY" .category :: tId cat :: x :: k) cons rules) =
      .ok ((name, cat), ofStream (x :: k) (tId cat :: kw "CATEGORY" .category :: tId name :: kw "RULE" .rule :: cons) rules) := by
  have h1 := consume_ofStream (t := kw "RULE" .rule) (k := tId name :: kw "CATEGORY" .category :: tId cat :: x :: k)
    (c := cons) (r := rules) (exp := .rule) rfl
  have h2 := consumeId_ofStream (t := tId name) (k := kw "CATEGORY" .category :: tId cat :: x :: k)
    (c := kw "RULE" .rule :: cons) (r := rules) (key_tId name)
  have h3 := consume_ofStream (t := kw "CATEGORY" .category) (k := tId cat :: x :: k)
    (c := tId name :: kw "RULE" .rule :: cons) (r := rules) (exp := .category) rfl
  have h4 := consumeId_ofStream (t := tId cat) (k := x :: k)
    (c := kw "CATEGORY" .category :: tId name :: kw "RULE" .rule :: cons) (r := rules) (key_tId cat)
  unfold parseHead
  simp only [bind, Except.bind, h1]
  have ha : (ofStream (tId name :: kw "CATEGORY" .category :: tId cat :: x :: k) (kw "RULE" .rule :: cons) rules).curAliased = false := rfl
  simp only [ha, Bool.false_eq_true, ↓reduceIte, h2, ofStream_cur_cons, Option.isNone_some, h3, h4, hcat,
    Bool.not_true, pure, Except.pure]

theorem parseMeta_ofStream (fuel : Nat) (x : Tok) (k cons : List Tok) (rules : List Rule) (hx : x.type = .cutoff) :
    parseMeta (fuel + 1) (ofStream (x :: k) cons rules) = .ok (([], [], [], []), ofStream (x :: k) cons rules) := by
  unfold parseMeta parseRelated
  simp [curIs_ofStream, hx, examplesLoop, bind, Except.bind, pure, Except.pure]

theorem parseDistances_ofStream (ckb nkb : Nat) (k cons : List Tok) (rules : List Rule) :
    parseDistances (ofStream (kw "CUTOFF" .cutoff :: tInt ckb :: kw "NEIGHBOURHOOD" .neighbourhood :: tInt nkb :: k) cons rules) =
      .ok ((ckb * 1000, nkb * 1000),
        ofStream k (tInt nkb :: kw "NEIGHBOURHOOD" .neighbourhood :: tInt ckb :: kw "CUTOFF" .cutoff :: cons) rules) := by
  have h1 := consume_ofStream (t := kw "CUTOFF" .cutoff) (k := tInt ckb :: kw "NEIGHBOURHOOD" .neighbourhood :: tInt nkb :: k)
    (c := cons) (r := rules) (exp := .cutoff) rfl
  have h2 := consumeInt_ofStream (t := tInt ckb) (k := kw "NEIGHBOURHOOD" .neighbourhood :: tInt nkb :: k)
    (c := kw "CUTOFF" .cutoff :: cons) (r := rules) (key_tInt ckb)
  have h3 := consume_ofStream (t := kw "NEIGHBOURHOOD" .neighbourhood) (k := tInt nkb :: k)
    (c := tInt ckb :: kw "CUTOFF" .cutoff :: cons) (r := rules) (exp := .neighbourhood) rfl
  have h4 := consumeInt_ofStream (t := tInt nkb) (k := k)
    (c := kw "NEIGHBOURHOOD" .neighbourhood :: tInt ckb :: kw "CUTOFF" .cutoff :: cons) (r := rules) (key_tInt nkb)
  unfold parseDistances
  simp only [bind, Except.bind, h1, h2, h3, h4, pure, Except.pure]

@[simp] theorem ofStream_rules (k c : List Tok) (r : List Rule) : (ofStream k c r).rules = r := by
  cases k <;> rfl

theorem supFold_ok (rules : List Rule) : ∀ (l : List String) (acc : List String),
    (∀ n ∈ l, (rules.find? (·.name == n)).isSome = true) →
    l.foldlM (fun (acc : List String) name =>
      match rules.find? (·.name == name) with
      | none => (.error .value : Except Err (List String))
      | some r => .ok (acc ++ r.superiors)) acc = .ok (acc ++ l.flatMap (supOf rules)) := by
  intro l
  induction l with
  | nil => intro acc _; simp [pure, Except.pure]
  | cons n ns ih =>
    intro acc h
    have hn := h n (by simp)
    cases hf : rules.find? (·.name == n) with
    | none => rw [hf] at hn; cases hn
    | some p =>
      simp only [List.foldlM_cons, hf, bind, Except.bind]
      rw [ih _ (fun x hx => h x (by simp [hx]))]
      simp [supOf, hf]

theorem closeSup_eq (rules : List Rule) (decl : List String) (h : decl ≠ []) :
    closeSup rules decl = sortDedupStr (decl ++ decl.flatMap (supOf rules)) := by
  unfold closeSup
  have : decl.isEmpty = false := by cases decl <;> simp_all
  simp only [this, Bool.false_eq_true, ↓reduceIte]
  rfl

theorem parseSuperiors_ofStream (rules : List Rule) (decl : List String) (hne : decl ≠ []) (fuel : Nat)
    (k cons : List Tok) (hk : headType k ≠ some .comma) (hf : decl.length ≤ fuel)
    (hd : hasDupStr decl = false) (hfound : ∀ n ∈ decl, (rules.find? (·.name == n)).isSome = true) :
    parseSuperiors fuel (ofStream (kw "SUPERIORS" .superiors :: ppIds decl ++ k) cons rules) =
      .ok (closeSup rules decl,
        ofStream k ((kw "SUPERIORS" .superiors :: ppIds decl).reverse ++ cons) rules) := by
  have h1 := consume_ofStream (t := kw "SUPERIORS" .superiors) (k := ppIds decl ++ k) (c := cons) (r := rules)
    (exp := .superiors) rfl
  have h2 := parseIds_ofStream hne (fuel := fuel) (w := ppIds decl) (k := k) (c := kw "SUPERIORS" .superiors :: cons)
    (r := rules) (ppIds_keys decl) hk hf
  unfold parseSuperiors
  simp only [List.cons_append, bind, Except.bind, h1, h2, hd, Bool.false_eq_true, ↓reduceIte]
  have hfold := supFold_ok rules decl [] hfound
  simp only [PS.ruleByName, ofStream_rules, closeSup_eq rules decl hne]
  erw [hfold]
  simp [pure, Except.pure]


theorem parseMeta_sup (f : Nat) (rules : List Rule) (decl : List String) (x : Tok) (k cons : List Tok)
    (hx : x.type = .cutoff) (hf : decl.length ≤ f + 1) (hd : hasDupStr decl = false)
    (hfound : ∀ n ∈ decl, (rules.find? (·.name == n)).isSome = true) :
    parseMeta (f + 1) (ofStream (superiorsToks decl ++ x :: k) cons rules) =
      .ok (([], [], [], closeSup rules decl), ofStream (x :: k) ((superiorsToks decl).reverse ++ cons) rules) := by
  by_cases hne : decl = []
  · subst hne
    simpa [superiorsToks, closeSup] using parseMeta_ofStream f x k cons rules hx
  · have hemp : decl.isEmpty = false := by cases decl <;> simp_all
    have hs := parseSuperiors_ofStream rules decl hne (f + 1) (x :: k) cons (by simp [hx]) hf hd hfound
    simp only [superiorsToks, hemp, Bool.false_eq_true, ↓reduceIte, List.cons_append]
    unfold parseMeta parseRelated
    simp only [curIs_ofStream, headType_cons, kw, bind, Except.bind]
    simp only [kw, List.reverse_cons, List.append_assoc, List.cons_append, List.nil_append] at hs
    simp [examplesLoop, curIs_ofStream, hs, pure, Except.pure]

/-! ### what stands after a rule: nothing, the next `RULE`, or a `DEFINE` -/

theorem notBinop_of_next {k : List Tok}
    (hk : headType k = none ∨ headType k = some .rule ∨ headType k = some .define) : NotBinop k := by
  rcases hk with h | h | h <;> simp [NotBinop, h]

theorem endCheck_next {k : List Tok}
    (hk : headType k = none ∨ headType k = some .rule ∨ headType k = some .define) (c : List Tok) (r : List Rule) :
    endCheck false (ofStream k c r) = .ok () := by
  cases k with
  | nil => simp [endCheck, ofStream]
  | cons x xs =>
    simp only [headType_cons] at hk
    rcases hk with h | h | h
    · cases h
    · simp at h; simp [endCheck, ofStream, h]
    · simp at h; simp [endCheck, ofStream, h]

theorem ruleEnd_next {k : List Tok}
    (hk : headType k = none ∨ headType k = some .rule ∨ headType k = some .define) (c : List Tok) (r : List Rule) :
    ruleEnd (ofStream k c r) = .ok () := by
  cases k with
  | nil => simp [ruleEnd, ofStream, pure, Except.pure]
  | cons x xs =>
    simp only [headType_cons] at hk
    rcases hk with h | h | h
    · cases h
    · simp at h; simp [ruleEnd, ofStream, h, pure, Except.pure]
    · simp at h; simp [ruleEnd, ofStream, h, pure, Except.pure]

theorem parseExtenders_next {k : List Tok}
    (hk : headType k = none ∨ headType k = some .rule ∨ headType k = some .define) (n : Nat) (c : List Tok)
    (r : List Rule) : parseExtenders n (ofStream k c r) = .ok (none, ofStream k c r) := by
  have : (ofStream k c r).curIs .extenders = false := by
    rw [curIs_ofStream]
    rcases hk with h | h | h <;> simp [h]
  simp only [parseExtenders, this, Bool.false_eq_true, ↓reduceIte]
  rfl

/-! ### a whole rule -/

/-- the tokens of a rule with the mandatory sections and an optional SUPERIORS section, its conditions
    being the tokens `w` -/
def sectionToks (name cat : String) (decl : List String) (ckb nkb : Nat) (w : List Tok) : List Tok :=
  [kw "RULE" .rule, tId name, kw "CATEGORY" .category, tId cat] ++ superiorsToks decl ++
    [kw "CUTOFF" .cutoff, tInt ckb, kw "NEIGHBOURHOOD" .neighbourhood, tInt nkb, kw "CONDITIONS" .conditions] ++ w

/-- a written rule is parsed into the rule it denotes, in a state that already holds `rules`: the
    conditions are given by any tokens with the keys of `Lr`, distances are read in kilobases, the
    declared superiors are closed under the superiors of the rules stored before -/
theorem parseRule_sections (cfg : Cfg) (name cat : String) (decl : List String) (ckb nkb : Nat) (Lr : List Cond)
    (w k cons : List Tok) (rules : List Rule) (hcat : cfg.cats.contains cat = true) (hne : Lr ≠ [])
    (hs : shapeOks true Lr = true) (hr : noRepeats Lr = true) (hd : hasDupStr (printConds Lr) = false)
    (hw : w.map Tok.key = flatJoin .orOp Lr) (hpos : positive (.group false Lr) = true)
    (hdup : hasDupStr decl = false) (hfound : ∀ n ∈ decl, (rules.find? (·.name == n)).isSome = true)
    (hk : headType k = none ∨ headType k = some .rule ∨ headType k = some .define) :
    parseRule cfg (ofStream (sectionToks name cat decl ckb nkb w ++ k) cons rules) =
      .ok ({ name := name, category := cat, cutoff := ckb * 1000, neighbourhood := nkb * 1000,
             conditions := .group false Lr, superiors := closeSup rules decl },
           ofStream k ((sectionToks name cat decl ckb nkb w).reverse ++ cons) rules) := by
  have hgroup : mkGroup false Lr = .ok (.group false Lr) := by
    simp [mkGroup, checkOperands, hd, bind, Except.bind, pure, Except.pure]
  have hsuplen : (superiorsToks decl).length ≥ decl.length := by
    unfold superiorsToks
    split
    · rename_i h; simp at h; simp [h]
    · have := flatIds_length decl
      have h2 : (ppIds decl).length = (flatIds decl).length := by
        rw [← ppIds_keys]; simp
      simp; omega
  have hbud : 3 * w.length + 2 ≤ (ofStream (sectionToks name cat decl ckb nkb w ++ k) cons rules).budget ∧
      decl.length ≤ (ofStream (sectionToks name cat decl ckb nkb w ++ k) cons rules).budget := by
    rw [budget_ofStream]
    simp only [sectionToks, ofStream, List.cons_append, List.nil_append, List.append_assoc, List.length_append,
      List.length_cons, List.length_nil]
    omega
  obtain ⟨f, hf⟩ : ∃ f, (ofStream (sectionToks name cat decl ckb nkb w ++ k) cons rules).budget = f + 1 := by
    rw [budget_ofStream]; exact ⟨_, rfl⟩
  rw [hf] at hbud
  have hmeta := parseMeta_sup f rules decl (kw "CUTOFF" .cutoff)
    (tInt ckb :: kw "NEIGHBOURHOOD" .neighbourhood :: tInt nkb :: kw "CONDITIONS" .conditions :: (w ++ k))
    (tId cat :: kw "CATEGORY" .category :: tId name :: kw "RULE" .rule :: cons) rfl hbud.2 hdup hfound
  have hpp := parseConditions_complete true false Lr (f + 1) w k
    (kw "CONDITIONS" .conditions :: tInt nkb :: kw "NEIGHBOURHOOD" .neighbourhood :: tInt ckb ::
      kw "CUTOFF" .cutoff :: ((superiorsToks decl).reverse ++
      (tId cat :: kw "CATEGORY" .category :: tId name :: kw "RULE" .rule :: cons))) rules hne hs hr hw
    (notBinop_of_next hk) (endCheck_next hk) hbud.1
  have hc := consume_ofStream (t := kw "CONDITIONS" .conditions) (k := w ++ k)
    (c := tInt nkb :: kw "NEIGHBOURHOOD" .neighbourhood :: tInt ckb :: kw "CUTOFF" .cutoff ::
      ((superiorsToks decl).reverse ++
      (tId cat :: kw "CATEGORY" .category :: tId name :: kw "RULE" .rule :: cons))) (r := rules)
    (exp := .conditions) rfl
  have hhead := parseHead_ofStream cfg name cat
  unfold parseRule parseRuleWith
  rw [hf]
  simp only [sectionToks, List.cons_append, List.nil_append, List.append_assoc] at hmeta ⊢
  -- the head needs a token after the category: the first of the SUPERIORS section or CUTOFF
  have hsplit : ∃ y ys, superiorsToks decl ++ kw "CUTOFF" .cutoff :: tInt ckb ::
      kw "NEIGHBOURHOOD" .neighbourhood :: tInt nkb :: kw "CONDITIONS" .conditions :: (w ++ k) = y :: ys := by
    cases superiorsToks decl with
    | nil => exact ⟨_, _, rfl⟩
    | cons a b => exact ⟨_, _, rfl⟩
  obtain ⟨y, ys, hy⟩ := hsplit
  rw [hy] at hmeta ⊢
  simp only [bind, Except.bind, hhead y ys cons rules hcat, hmeta]
  simp only [parseDistances_ofStream, hc, hpp, hgroup, parseExtenders_next hk, ruleEnd_next hk]
  simp [hpos, extendersNegative, pure, Except.pure, List.reverse_cons, List.reverse_append]

/-- the mandatory sections before the conditions -/
def hdrToks (name cat : String) (ckb nkb : Nat) : List Tok :=
  [kw "RULE" .rule, tId name, kw "CATEGORY" .category, tId cat, kw "CUTOFF" .cutoff, tInt ckb,
   kw "NEIGHBOURHOOD" .neighbourhood, tInt nkb, kw "CONDITIONS" .conditions]

theorem parseRule_keys (cfg : Cfg) (name cat : String) (ckb nkb : Nat) (Lr : List Cond) (w k cons : List Tok)
    (rules : List Rule) (hcat : cfg.cats.contains cat = true) (hne : Lr ≠ []) (hs : shapeOks true Lr = true)
    (hr : noRepeats Lr = true) (hd : hasDupStr (printConds Lr) = false) (hw : w.map Tok.key = flatJoin .orOp Lr)
    (hpos : positive (.group false Lr) = true)
    (hk : headType k = none ∨ headType k = some .rule ∨ headType k = some .define) :
    parseRule cfg (ofStream (hdrToks name cat ckb nkb ++ w ++ k) cons rules) =
      .ok ({ name := name, category := cat, cutoff := ckb * 1000, neighbourhood := nkb * 1000,
             conditions := .group false Lr },
           ofStream k ((hdrToks name cat ckb nkb ++ w).reverse ++ cons) rules) :=
  parseRule_sections cfg name cat [] ckb nkb Lr w k cons rules hcat hne hs hr hd hw hpos rfl (fun _ h => nomatch h) hk

/-- the same for the rendering of a piece of syntax -/
theorem parseRule_ruleToks (cfg : Cfg) (name cat : String) (ckb nkb : Nat) (t : OrE) (k cons : List Tok)
    (rules : List Rule) (hcat : cfg.cats.contains cat = true) (ht : okTop t = true)
    (hpos : positive (shapeTop t) = true)
    (hk : headType k = none ∨ headType k = some .rule ∨ headType k = some .define) :
    parseRule cfg (ofStream (ruleToks name cat ckb nkb t ++ k) cons rules) =
      .ok ({ name := name, category := cat, cutoff := ckb * 1000, neighbourhood := nkb * 1000,
             conditions := shapeTop t },
           ofStream k ((ruleToks name cat ckb nkb t).reverse ++ cons) rules) := by
  obtain ⟨g, hd⟩ := okTop_goods ht
  exact parseRule_keys cfg name cat ckb nkb (shapeOr t) (ppOr t) k cons rules hcat (shapeOr_ne_nil t)
    g.shape g.norep hd (ppOr_keys t) hpos hk

/-- one written rule, in a state that already holds `rules` -/
theorem parseRule_src (cfg : Cfg) (r : RuleSrc) (k cons : List Tok) (rules : List Rule)
    (hcat : cfg.cats.contains r.category = true) (ht : okTop r.conds = true)
    (hpos : positive (shapeTop r.conds) = true) (hd : hasDupStr r.superiors = false)
    (hfound : ∀ n ∈ r.superiors, (rules.find? (·.name == n)).isSome = true)
    (hk : headType k = none ∨ headType k = some .rule ∨ headType k = some .define) :
    parseRule cfg (ofStream (ruleSrcToks r ++ k) cons rules) =
      .ok ({ name := r.name, category := r.category, cutoff := r.cutoffKb * 1000, neighbourhood := r.nbhKb * 1000,
             conditions := shapeTop r.conds, superiors := closeSup rules r.superiors },
           ofStream k ((ruleSrcToks r).reverse ++ cons) rules) := by
  obtain ⟨g, hdup⟩ := okTop_goods ht
  exact parseRule_sections cfg r.name r.category r.superiors r.cutoffKb r.nbhKb (shapeOr r.conds) (ppOr r.conds) k cons
    rules hcat (shapeOr_ne_nil _) g.shape g.norep hdup (ppOr_keys _) hpos hd hfound hk

end ASV.Parser
