/-
  C02: what a *successful* run of the condition parser guarantees (soundness direction):
  the tokens it consumed are exactly the flattening of the condition objects it returns, those
  objects have the documented shape, and no object holds a repeated operand.
  One induction on the fuel over the seven mutually recursive functions.
-/
import ASV.Proofs.Parser.Basic
namespace ASV.Parser
open ASV ASV.Rules ASV.Grammar

/-- `op c₁ op c₂ …` -/
def joinTail (op : TT) (cs : List Cond) : List Key := cs.flatMap fun x => kOf op :: flatC x

theorem flatJoin_cons (op : TT) (c : Cond) (cs : List Cond) :
    flatJoin op (c :: cs) = flatC c ++ joinTail op cs := by
  induction cs generalizing c with
  | nil => simp [flatJoin, joinTail]
  | cons d ds ih =>
    have : flatJoin op (c :: d :: ds) = flatC c ++ kOf op :: flatJoin op (d :: ds) := by
      rw [flatJoin]; simp
    rw [this, ih d]; simp [joinTail]

theorem joinTail_eq (op : TT) {X : List Cond} (ne : X ≠ []) : joinTail op X = kOf op :: flatJoin op X := by
  cases X with
  | nil => exact absurd rfl ne
  | cons x xs => rw [flatJoin_cons]; simp [joinTail]

theorem joinTail_append (op : TT) (a b : List Cond) : joinTail op (a ++ b) = joinTail op a ++ joinTail op b := by
  simp [joinTail]

theorem noRepeats_append (a b : List Cond) : noRepeats (a ++ b) = (noRepeats a && noRepeats b) := by
  induction a with
  | nil => simp [noRepeats]
  | cons c cs ih => simp [noRepeats, ih, Bool.and_assoc]

theorem shapeOks_append (al : Bool) (a b : List Cond) :
    shapeOks al (a ++ b) = (shapeOks al a && shapeOks al b) := by
  induction a with
  | nil => simp [shapeOks]
  | cons c cs ih => simp [shapeOks, ih, Bool.and_assoc]

theorem checkOperands_ok {subs : List Cond} (h : checkOperands subs = .ok ()) :
    hasDupStr (printConds subs) = false := by
  unfold checkOperands at h
  split at h
  · cases h
  · rename_i h1; simpa using h1

/-- the three constructors that only check their operands -/
theorem checked_ok {subs : List Cond} {f : List Cond → Cond} {g : Cond}
    (h : (do checkOperands subs; pure (f subs) : Except Err Cond) = .ok g) :
    g = f subs ∧ hasDupStr (printConds subs) = false := by
  simp only [Base.bind_eq_ok] at h
  obtain ⟨_, h1, h⟩ := h
  cases h
  exact ⟨rfl, checkOperands_ok h1⟩

theorem mkGroup_ok {neg : Bool} {subs : List Cond} {g : Cond} (h : mkGroup neg subs = .ok g) :
    g = .group neg subs ∧ hasDupStr (printConds subs) = false :=
  checked_ok (f := .group neg) h

theorem mkCds_ok {neg : Bool} {subs : List Cond} {g : Cond} (h : mkCds neg subs = .ok g) :
    g = .cds neg subs ∧ hasDupStr (printConds subs) = false :=
  checked_ok (f := .cds neg) h

theorem mkConj_ok {subs : List Cond} {g : Cond} (h : mkConj subs = .ok g) :
    g = .conj subs ∧ hasDupStr (printConds subs) = false :=
  checked_ok (f := .conj) h

/-- what is known about one returned operand -/
structure Good (allow : Bool) (c : Cond) : Prop where
  shape : shapeOk allow c = true
  norep : noRepeat c = true

structure Goods (allow : Bool) (cs : List Cond) : Prop where
  shape : shapeOks allow cs = true
  norep : noRepeats cs = true

theorem Goods.nil (al : Bool) : Goods al [] := ⟨by simp [shapeOks], by simp [noRepeats]⟩

theorem Goods.append {al : Bool} {a b : List Cond} (ha : Goods al a) (hb : Goods al b) : Goods al (a ++ b) :=
  ⟨by simp [shapeOks_append, ha.shape, hb.shape], by simp [noRepeats_append, ha.norep, hb.norep]⟩

theorem Goods.single {al : Bool} {c : Cond} (h : Good al c) : Goods al [c] :=
  ⟨by simp [shapeOks, h.shape], by simp [noRepeats, h.norep]⟩

theorem Goods.cons {al : Bool} {c : Cond} {cs : List Cond} (h : Good al c) (hs : Goods al cs) : Goods al (c :: cs) :=
  ⟨by simp [shapeOks, h.shape, hs.shape], by simp [noRepeats, h.norep, hs.norep]⟩

def PostSingle (allow : Bool) (s : PS) (c : Cond) (s' : PS) : Prop :=
  ∃ new, Adv s s' new ∧ ks new = flatC c ∧ Good allow c ∧ c.isAtomish = true

def PostGroup (allow : Bool) (s : PS) (cs : List Cond) (s' : PS) : Prop :=
  ∃ new, Adv s s' new ∧ ks new = kOf .groupOpen :: flatJoin .orOp cs ++ [kOf .groupClose] ∧
    Goods allow cs ∧ cs ≠ []

def PostCds (s : PS) (cs : List Cond) (s' : PS) : Prop :=
  ∃ new, Adv s s' new ∧ ks new = kOf .cds :: kOf .groupOpen :: flatJoin .orOp cs ++ [kOf .groupClose] ∧
    Goods false cs ∧ cs ≠ [] ∧ loneIdentifier cs = false

def PostConditions (allow isGroup : Bool) (s : PS) (cs : List Cond) (s' : PS) : Prop :=
  ∃ new, Adv s s' new ∧ ks new = flatJoin .orOp cs ∧ Goods allow cs ∧ cs ≠ [] ∧ endCheck isGroup s' = .ok ()

/-- `pending`: `lv` has been read but is not yet among `acc`; the loop returns `acc ++ X` -/
def PostLoop (allow : Bool) (acc : List Cond) (lv : Cond) (pending : Bool) (s : PS) (cs : List Cond) (s' : PS) : Prop :=
  ∃ new X, cs = acc ++ X ∧ Adv s s' new ∧
    (Good allow lv → lv.isAtomish = true → Goods allow X) ∧
    (pending = true → X ≠ [] ∧ flatC lv ++ ks new = flatJoin .orOp X) ∧
    (pending = false → ks new = joinTail .orOp X)

def PostAnds (allow : Bool) (lv : Cond) (s : PS) (c : Cond) (s' : PS) : Prop :=
  ∃ new more, c = .conj (lv :: more) ∧ more ≠ [] ∧ Adv s s' new ∧ ks new = joinTail .andOp more ∧
    (Good allow lv → lv.isAtomish = true → Good allow c) ∧ s'.curIs .andOp = false

def PostAndLoop (allow : Bool) (acc : List Cond) (s : PS) (subs : List Cond) (s' : PS) : Prop :=
  ∃ new more, subs = acc ++ more ∧ Adv s s' new ∧ ks new = joinTail .andOp more ∧
    Goods allow more ∧ more.all Cond.isAtomish = true ∧ s'.curIs .andOp = false

structure BlockPost (fuel : Nat) : Prop where
  single : ∀ allow s c s', parseSingle fuel allow s = .ok (c, s') → PostSingle allow s c s'
  group : ∀ allow s cs s', parseGroup fuel allow s = .ok (cs, s') → PostGroup allow s cs s'
  cds : ∀ s cs s', parseCds fuel s = .ok (cs, s') → PostCds s cs s'
  conds : ∀ allow isGroup s cs s', parseConditions fuel allow isGroup s = .ok (cs, s') →
    PostConditions allow isGroup s cs s'
  loop : ∀ allow acc lv pending s cs s', (pending = false → s.curIs .andOp = false) →
    condLoop fuel allow acc lv pending s = .ok (cs, s') → PostLoop allow acc lv pending s cs s'
  ands : ∀ allow lv s c s', parseAnds fuel lv allow s = .ok (c, s') → PostAnds allow lv s c s'
  andLoop : ∀ allow acc s subs s', andLoop fuel allow acc s = .ok (subs, s') → PostAndLoop allow acc s subs s'

theorem blockPost (fuel : Nat) : BlockPost fuel := by
  induction fuel with
  | zero =>
    constructor <;> intros <;> simp_all [parseSingle, parseGroup, parseCds, parseConditions, condLoop, parseAnds, andLoop]
  | succ n ih =>
    constructor
    · -- parseSingle
      intro allow s c s' h
      rw [parseSingle] at h
      simp only [Base.bind_eq_ok, Prod.exists] at h
      obtain ⟨neg, s1, h1, h⟩ := h
      obtain ⟨new1, a1, k1⟩ := isNot_post h1
      split at h
      · cases h
      · rename_i c0 hc0
        split at h
        · -- group
          simp only [Base.bind_eq_ok, Prod.exists] at h
          obtain ⟨subs, s2, h2, g, h3, h⟩ := h
          cases h
          obtain ⟨new2, a2, k2, gs, ne⟩ := ih.group _ _ _ _ h2
          obtain ⟨rfl, nd⟩ := mkGroup_ok h3
          refine ⟨new2 ++ new1, a1.trans a2, ?_, ⟨?_, ?_⟩, rfl⟩
          · simp [ks_append, k1, k2, flatC]
          · simp [shapeOk, gs.shape]; exact ne
          · simp [noRepeat, nd, gs.norep]
        · split at h
          · -- minimum
            rename_i hmin
            obtain ⟨new2, count, opts, rfl, a2, k2, ne, nd, pos⟩ := parseMinimum_post h
            refine ⟨new2 ++ new1, a1.trans a2, ?_, ⟨?_, ?_⟩, rfl⟩
            · simp [ks_append, k1, k2, flatC]
            · simp at hmin; simp [shapeOk, hmin.1]; exact ne
            · simp [noRepeat, nd, pos]
          · split at h
            · -- cds
              rename_i hcds
              simp only [Base.bind_eq_ok, Prod.exists] at h
              obtain ⟨subs, s2, h2, g, h3, h⟩ := h
              cases h
              obtain ⟨new2, a2, k2, gs, ne, lone⟩ := ih.cds _ _ _ h2
              obtain ⟨rfl, nd⟩ := mkCds_ok h3
              refine ⟨new2 ++ new1, a1.trans a2, ?_, ⟨?_, ?_⟩, rfl⟩
              · simp [ks_append, k1, k2, flatC]
              · simp at hcds; simp [shapeOk, hcds.1, gs.shape, lone]; exact ne
              · simp [noRepeat, nd, gs.norep]
            · split at h
              · -- minscore
                obtain ⟨new2, nm, v, rfl, a2, k2⟩ := parseScore_post h
                refine ⟨new2 ++ new1, a1.trans a2, ?_, ⟨?_, ?_⟩, rfl⟩
                · simp [ks_append, k1, k2, flatC]
                · simp [shapeOk]
                · simp [noRepeat]
              · -- identifier
                simp only [Base.bind_eq_ok, Prod.exists] at h
                obtain ⟨nm, s2, h2, h⟩ := h
                cases h
                obtain ⟨c2, a2, k2, _⟩ := consumeId_post h2
                refine ⟨[c2] ++ new1, a1.trans a2, ?_, ⟨?_, ?_⟩, rfl⟩
                · simp [k1, k2, flatC]
                · simp [shapeOk]
                · simp [noRepeat]
    · -- parseGroup
      intro allow s cs s' h
      rw [parseGroup] at h
      simp only [Base.bind_eq_ok, Prod.exists] at h
      obtain ⟨c1, s1, h1, subs, s2, h2, c3, s3, h3, h⟩ := h
      cases h
      obtain ⟨a1, t1, _⟩ := consume_post h1
      obtain ⟨new2, a2, k2, gs, ne, _⟩ := ih.conds _ _ _ _ _ h2
      obtain ⟨a3, t3, _⟩ := consume_post h3
      refine ⟨[c3] ++ (new2 ++ [c1]), (a1.trans a2).trans a3, ?_, gs, ne⟩
      simp [ks_append, k2, key_of_type t1, key_of_type t3]
    · -- parseCds
      intro s cs s' h
      rw [parseCds] at h
      simp only [Base.bind_eq_ok, Prod.exists] at h
      obtain ⟨c1, s1, h1, c2, s2, h2, subs, s3, h3, h⟩ := h
      split at h
      · cases h
      · rename_i lone
        simp only [Base.bind_eq_ok, Prod.exists] at h
        obtain ⟨c4, s4, h4, h⟩ := h
        cases h
        obtain ⟨a1, t1, _⟩ := consume_post h1
        obtain ⟨a2, t2, _⟩ := consume_post h2
        obtain ⟨new3, a3, k3, gs, ne, _⟩ := ih.conds _ _ _ _ _ h3
        obtain ⟨a4, t4, _⟩ := consume_post h4
        refine ⟨[c4] ++ (new3 ++ ([c2] ++ [c1])), ((a1.trans a2).trans a3).trans a4, ?_, gs, ne, by simpa using lone⟩
        simp [ks_append, k3, key_of_type t1, key_of_type t2, key_of_type t4]
    · -- parseConditions
      intro allow isGroup s cs s' h
      rw [parseConditions] at h
      split at h
      · cases h
      · simp only [Base.bind_eq_ok, Prod.exists] at h
        obtain ⟨lv, s1, h1, conds, s2, h2, u, h3, h⟩ := h
        cases h
        obtain ⟨new1, a1, k1, g1, at1⟩ := ih.single _ _ _ _ h1
        obtain ⟨new2, X, rfl, a2, gX, hp, _⟩ := ih.loop _ _ _ _ _ _ _ (by simp) h2
        obtain ⟨ne, kX⟩ := hp rfl
        refine ⟨new2 ++ new1, a1.trans a2, ?_, ?_, by simpa using ne, by cases u; exact h3⟩
        · simp [ks_append, k1, kX]
        · simpa using gX g1 at1
    · -- condLoop
      intro allow acc lv pending s cs s' hpre h
      rw [condLoop] at h
      split at h
      · -- and
        rename_i hand
        simp only [Base.bind_eq_ok, Prod.exists] at h
        obtain ⟨c, s1, h1, h⟩ := h
        obtain ⟨new1, more, rfl, mne, a1, k1, g1, noand⟩ := ih.ands _ _ _ _ _ h1
        obtain ⟨new2, X, rfl, a2, gX, _, hf⟩ := ih.loop _ _ _ _ _ _ _ (fun _ => noand) h
        have kX := hf rfl
        cases pending with
        | false => exact absurd hand (by simp [hpre rfl])
        | true =>
          refine ⟨new2 ++ new1, .conj (lv :: more) :: X, by simp, a1.trans a2, ?_, ?_, by simp⟩
          · intro g at1
            exact Goods.cons (g1 g at1) (gX g at1)
          · intro _
            refine ⟨by simp, ?_⟩
            simp [ks_append, k1, kX, flatJoin_cons, flatC]
      · split at h
        · -- or
          simp only [Base.bind_eq_ok, Prod.exists] at h
          obtain ⟨c1, s1, h1, lv', s2, h2, h⟩ := h
          obtain ⟨a1, t1, _⟩ := consume_post h1
          obtain ⟨new2, a2, k2, g2, at2⟩ := ih.single _ _ _ _ h2
          obtain ⟨new3, X, hcs, a3, gX, hp, _⟩ := ih.loop _ _ _ _ _ _ _ (by simp) h
          obtain ⟨ne, kX⟩ := hp rfl
          have gX' := gX g2 at2
          cases pending with
          | true =>
            refine ⟨new3 ++ (new2 ++ [c1]), lv :: X, by simp [hcs], (a1.trans a2).trans a3, ?_, ?_, by simp⟩
            · intro g _
              exact Goods.cons g gX'
            · intro _
              refine ⟨by simp, ?_⟩
              simp [ks_append, k2, key_of_type t1, flatJoin_cons, joinTail_eq _ ne, ← kX]
          | false =>
            refine ⟨new3 ++ (new2 ++ [c1]), X, by simpa using hcs, (a1.trans a2).trans a3, fun _ _ => gX', by simp, ?_⟩
            intro _
            simp [ks_append, k2, key_of_type t1, joinTail_eq _ ne, ← kX]
        · -- neither
          cases h
          cases pending with
          | true =>
            refine ⟨[], [lv], rfl, Adv.refl _, fun g _ => Goods.single g, fun _ => ⟨by simp, by simp [flatJoin]⟩, by simp⟩
          | false =>
            refine ⟨[], [], by simp, Adv.refl _, fun _ _ => Goods.nil _, by simp, fun _ => by simp [joinTail]⟩
    · -- parseAnds
      intro allow lv s c s' h
      rw [parseAnds] at h
      simp only [Base.bind_eq_ok, Prod.exists] at h
      obtain ⟨c1, s1, h1, c2, s2, h2, subs, s3, h3, g, h4, h⟩ := h
      cases h
      obtain ⟨a1, t1, _⟩ := consume_post h1
      obtain ⟨new2, a2, k2, g2, at2⟩ := ih.single _ _ _ _ h2
      obtain ⟨new3, more, rfl, a3, k3, gm, atm, noand⟩ := ih.andLoop _ _ _ _ _ h3
      obtain ⟨rfl, nd⟩ := mkConj_ok h4
      refine ⟨new3 ++ (new2 ++ [c1]), c2 :: more, by simp, by simp, (a1.trans a2).trans a3, ?_, ?_, noand⟩
      · simp [ks_append, k2, k3, key_of_type t1, joinTail]
      · intro g at1
        have gs : Goods allow (lv :: c2 :: more) := Goods.cons g (Goods.cons g2 gm)
        refine ⟨?_, ?_⟩
        · simp [shapeOk, at1, at2, atm, gs.shape]
        · have := gs.norep
          simp [noRepeat, this]
          simpa using nd
    · -- andLoop
      intro allow acc s subs s' h
      rw [andLoop] at h
      split at h
      · simp only [Base.bind_eq_ok, Prod.exists] at h
        obtain ⟨c1, s1, h1, c2, s2, h2, h⟩ := h
        obtain ⟨a1, t1, _⟩ := consume_post h1
        obtain ⟨new2, a2, k2, g2, at2⟩ := ih.single _ _ _ _ h2
        obtain ⟨new3, more, rfl, a3, k3, gm, atm, noand⟩ := ih.andLoop _ _ _ _ _ h
        refine ⟨new3 ++ (new2 ++ [c1]), c2 :: more, by simp, (a1.trans a2).trans a3, ?_, Goods.cons g2 gm, ?_, noand⟩
        · simp [ks_append, k2, k3, key_of_type t1, joinTail]
        · simp [at2]; simpa using atm
      · rename_i hno
        cases h
        exact ⟨[], [], by simp, Adv.refl _, by simp [joinTail], Goods.nil _, by simp, by simpa using hno⟩

end ASV.Parser
