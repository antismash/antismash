/-
  C02: parsing only ever appends rules — the rules handed in (earlier files) stay, in place and
  unchanged, at the front of the result.
-/
import ASV.Proofs.Parser.Main
import ASV.Proofs.Parser.Alias
namespace ASV.Parser
open ASV ASV.Rules

theorem mainLoop_rules_prefix (fuel : Nat) (cfg : Cfg) : ∀ {s s' : PS},
    mainLoop fuel cfg s = .ok s' → s.rules <+: s'.rules := by
  intro s s' h
  refine mainLoop_induct (P := fun t => s.rules <+: t.rules) ?_ ?_ fuel h (List.prefix_refl _)
  · intro t t1 nm toks ht h1 _ _
    obtain ⟨new, a1, _⟩ := parseAliasWith_adv h1
    simpa [a1.rules] using ht
  · intro t t1 r ht h1 _
    obtain ⟨new, a1, _⟩ := parseRuleWith_adv h1
    show s.rules <+: t1.rules ++ [_]
    rw [a1.rules]
    exact List.IsPrefix.trans ht (List.prefix_append _ _)

theorem parseTokens_rules_prefix {cfg : Cfg} {rules rules' : List Rule} {aliases al' : Aliases} {toks : List Tok}
    (h : parseTokens cfg rules aliases toks = .ok (rules', al')) : rules <+: rules' := by
  unfold parseTokens at h
  simp only [Base.bind_eq_ok] at h
  obtain ⟨u, _, h⟩ := h
  split at h
  · cases h
  · simp only [Base.bind_eq_ok] at h
    obtain ⟨s, hs, h⟩ := h
    split at h
    · cases h
    · simp only [pure, Except.pure, Except.ok.injEq, Prod.mk.injEq] at h
      obtain ⟨rfl, _⟩ := h
      exact mainLoop_rules_prefix _ cfg hs

theorem parseText_rules_prefix {cfg : Cfg} {rules rules' : List Rule} {aliases al' : Aliases} {text : String}
    (h : parseText cfg rules aliases text = .ok (rules', al')) : rules <+: rules' := by
  unfold parseText at h
  simp only [Base.bind_eq_ok] at h
  obtain ⟨u, _, toks, _, h⟩ := h
  exact parseTokens_rules_prefix h

theorem createRules_rules_prefix (cfg : Cfg) : ∀ (files : List String) (rules out : List Rule) (aliases : Aliases),
    createRules cfg files rules aliases = .ok out → rules <+: out := by
  intro files
  induction files with
  | nil => intro rules out aliases h; simp [createRules] at h; subst h; exact List.prefix_refl _
  | cons t ts ih =>
    intro rules out aliases h
    simp only [createRules, Base.bind_eq_ok, Prod.exists] at h
    obtain ⟨r1, a1, h1, h⟩ := h
    exact List.IsPrefix.trans (parseText_rules_prefix h1) (ih r1 out a1 h)

/-- more files only add rules: the result for `fs` is the front of the result for `fs ++ gs` -/
theorem createRules_append_prefix (cfg : Cfg) : ∀ (fs gs : List String) (rules out : List Rule) (aliases : Aliases),
    createRules cfg (fs ++ gs) rules aliases = .ok out →
    ∃ mid, createRules cfg fs rules aliases = .ok mid ∧ mid <+: out := by
  intro fs
  induction fs with
  | nil => intro gs rules out aliases h; exact ⟨rules, rfl, createRules_rules_prefix cfg gs rules out aliases h⟩
  | cons t ts ih =>
    intro gs rules out aliases h
    simp only [List.cons_append, createRules, Base.bind_eq_ok, Prod.exists] at h
    obtain ⟨r1, a1, h1, h⟩ := h
    obtain ⟨mid, hm, hp⟩ := ih gs r1 out a1 h
    refine ⟨mid, ?_, hp⟩
    simp only [createRules, h1, bind, Except.bind]
    exact hm

end ASV.Parser
