/-
  C02 thm 4, the step lemma: DEFINE aliases as token substitution.  With a *flat* alias table (no
  definition mentions an alias name, none is empty) every step of the parser reads the next token
  of the substituted stream; the main loop keeps the table flat (this is what fixes/D42 buys).
-/
import ASV.Proofs.Parser.Main
namespace ASV.Parser
open ASV ASV.Rules ASV.Grammar

/-- `t` is an identifier that names an alias -/
def aliasName (A : Aliases) (t : Tok) : Bool := t.type == .identifier && (A.lookup t.text).isSome

structure Flat (A : Aliases) : Prop where
  noRef : ∀ p ∈ A, ∀ t ∈ p.2, aliasName A t = false
  nonEmpty : ∀ p ∈ A, p.2 ≠ []
  noKw : ∀ p ∈ A, ∀ t ∈ p.2, t.type.isRuleKeyword = false

theorem subst_id (A : Aliases) (l : List Tok) (h : ∀ t ∈ l, aliasName A t = false) : subst A l = l := by
  induction l with
  | nil => rfl
  | cons t ts ih =>
    have ht := h t (by simp)
    have ih' := ih (fun x hx => h x (by simp [hx]))
    simp only [aliasName, Bool.and_eq_false_iff] at ht
    simp only [subst]
    split
    · rename_i hid
      rcases ht with ht | ht
      · simp [hid] at ht
      · cases hl : A.lookup t.text with
        | none => simp [ih']
        | some b => simp [hl] at ht
    · simp [ih']

theorem subst_append (A : Aliases) (a b : List Tok) : subst A (a ++ b) = subst A a ++ subst A b := by
  induction a with
  | nil => rfl
  | cons t ts ih =>
    simp only [List.cons_append, subst]
    split
    · split <;> simp [ih]
    · simp [ih]

/-- the stream the parser is about to read: the current token, then the rest with every alias
    identifier replaced by its definition -/
def view (s : PS) : List Tok :=
  match s.cur with
  | none => []
  | some c => c :: subst s.aliases s.rest

/-- thm 4, the core: stepping to the next token is stepping along the substituted stream -/
theorem advance_view {s s' : PS} (hf : Flat s.aliases) (h : s.advance = .ok s') :
    view s' = subst s.aliases s.rest ∧ s'.aliases = s.aliases ∧
      (∀ c, s'.cur = some c → aliasName s.aliases c = false) := by
  unfold PS.advance at h
  split at h
  · rename_i hr
    cases h
    simp [view, hr, subst]
  · rename_i n r hr
    split at h
    · rename_i hid
      split at h
      · rename_i body hl
        obtain ⟨k', hmem⟩ := lookup_mem hl
        have hne := hf.nonEmpty _ hmem
        have hnr := hf.noRef _ hmem
        cases body with
        | nil => exact absurd rfl hne
        | cons b more =>
          simp only [List.cons_append] at h
          cases h
          refine ⟨?_, rfl, ?_⟩
          · simp only [view, hr, subst, hid, ↓reduceIte, hl, subst_append]
            rw [subst_id _ more (fun t ht => hnr t (by simp [ht]))]
            simp
          · intro c hc
            simp only [Option.some.injEq] at hc
            subst hc
            exact hnr b (by simp)
      · rename_i hl
        cases h
        refine ⟨by simp [view, hr, subst, hid, hl], rfl, ?_⟩
        intro c hc
        simp only [Option.some.injEq] at hc
        subst hc
        simp [aliasName, hl]
    · rename_i hid
      cases h
      refine ⟨by simp [view, hr, subst, hid], rfl, ?_⟩
      intro c hc
      simp only [Option.some.injEq] at hc
      subst hc
      simp [aliasName, hid]

/-- `_consume` hands out the head of the substituted stream and moves to its tail -/
theorem consume_view {s s' : PS} {exp : TT} {c : Tok} (hf : Flat s.aliases) (h : consume exp s = .ok (c, s')) :
    view s = c :: view s' ∧ s'.aliases = s.aliases ∧ ∀ c', s'.cur = some c' → aliasName s.aliases c' = false := by
  unfold consume at h
  split at h
  · cases h
  · rename_i c0 hc0
    split at h
    · cases h
    · simp only [Base.bind_eq_ok] at h
      obtain ⟨s1, h1, h⟩ := h
      cases h
      obtain ⟨hv, ha, hn⟩ := advance_view (s := { s with consumed := c :: s.consumed }) hf h1
      simp only at hv ha hn
      exact ⟨by rw [hv]; simp [view, hc0], ha, hn⟩

theorem consumeId_view {s s' : PS} {n : String} (hf : Flat s.aliases) (h : consumeId s = .ok (n, s')) :
    s'.aliases = s.aliases ∧ ∀ c', s'.cur = some c' → aliasName s.aliases c' = false := by
  unfold consumeId at h
  simp only [Base.bind_eq_ok, Prod.exists] at h
  obtain ⟨c, s1, h1, h⟩ := h
  cases h
  exact (consume_view hf h1).2

theorem aliasLoop_flat (fuel : Nat) : ∀ {acc : List Tok} {s s' : PS} {toks : List Tok},
    aliasLoop fuel acc s = .ok (toks, s') → Flat s.aliases →
    (∀ c, s.cur = some c → aliasName s.aliases c = false) →
    (∀ t ∈ acc, aliasName s.aliases t = false ∧ t.type.isRuleKeyword = false) →
    ∀ t ∈ toks, aliasName s.aliases t = false ∧ t.type.isRuleKeyword = false := by
  induction fuel with
  | zero => intro acc s s' toks h; simp [aliasLoop] at h
  | succ n ih =>
    intro acc s s' toks h hf hcur hacc
    rw [aliasLoop] at h
    split at h
    · cases h; exact hacc
    · rename_i c hc
      split at h
      · cases h; exact hacc
      · rename_i hkw
        split at h
        · cases h
        · simp only [Base.bind_eq_ok, Prod.exists] at h
          obtain ⟨c1, s1, h1, h⟩ := h
          have hf' : Flat ({ s with cur := some { c with aliased := true } } : PS).aliases := hf
          obtain ⟨_, ha, hn⟩ := consume_view hf' h1
          simp only at ha hn
          have hc' : aliasName s.aliases { c with aliased := true } = false := by
            have := hcur c hc
            simpa [aliasName] using this
          have := ih h (by rw [ha]; exact hf) (by rw [ha]; exact hn)
            (by
              rw [ha]
              intro t ht
              rcases List.mem_append.mp ht with ht | ht
              · exact hacc t ht
              · simp at ht; subst ht; exact ⟨hc', by simpa using hkw⟩)
          rw [ha] at this
          exact this

theorem parseAlias_flat {s s' : PS} {name : String} {toks : List Tok}
    (h : parseAlias s = .ok ((name, toks), s')) (hf : Flat s.aliases) :
    (∀ t ∈ toks, aliasName s.aliases t = false ∧ t.type.isRuleKeyword = false) ∧ toks ≠ [] ∧ s'.aliases = s.aliases := by
  have hadv := parseAliasWith_adv h
  unfold parseAlias parseAliasWith at h
  simp only [Base.bind_eq_ok, Prod.exists] at h
  obtain ⟨c1, s1, h1, h⟩ := h
  split at h
  · cases h
  · simp only [Base.bind_eq_ok, Prod.exists] at h
    obtain ⟨nm, s2, h2, c3, s3, h3, tk, s4, h4, h⟩ := h
    split at h
    · cases h
    · rename_i hne
      cases h
      obtain ⟨_, a1, _⟩ := consume_view hf h1
      have hf1 : Flat s1.aliases := by rw [a1]; exact hf
      obtain ⟨a2, _⟩ := consumeId_view hf1 h2
      have hf2 : Flat s2.aliases := by rw [a2]; exact hf1
      obtain ⟨_, a3, n3⟩ := consume_view hf2 h3
      have hf3 : Flat s3.aliases := by rw [a3]; exact hf2
      have := aliasLoop_flat _ h4 hf3 (by rw [a3]; exact n3) (by simp)
      obtain ⟨new, adv, _⟩ := hadv
      refine ⟨?_, by simpa using hne, adv.aliases⟩
      rw [a3, a2, a1] at this
      exact this

theorem flat_extend {A : Aliases} {name : String} {toks : List Tok} (hf : Flat A)
    (hnew : (A.lookup name).isSome = false)
    (htoks : ∀ t ∈ toks, aliasName A t = false ∧ t.type.isRuleKeyword = false) (hne : toks ≠ [])
    (hself : usesIdentifier name toks = false) (hothers : A.any (fun a => usesIdentifier name a.2) = false) :
    Flat (A ++ [(name, toks)]) := by
  have hlook : ∀ t : Tok, aliasName (A ++ [(name, toks)]) t =
      (aliasName A t || (t.type == .identifier && t.text == name)) := by
    intro t
    simp only [aliasName, List.lookup_append]
    cases hl : A.lookup t.text with
    | some b => simp; intro h _; exact h
    | none =>
      simp only [Option.isSome_none, Bool.and_false, Bool.false_or, Option.none_or, List.lookup]
      by_cases hn : t.text = name
      · simp [hn]
      · have : (t.text == name) = false := by simpa using hn
        simp [this]
  have huse : ∀ l : List Tok, usesIdentifier name l = false → ∀ t ∈ l, (t.type == .identifier && t.text == name) = false := by
    intro l hl t ht
    simp only [usesIdentifier, List.any_eq_false] at hl
    simpa using hl t ht
  constructor
  · intro p hp t ht
    rw [hlook]
    rcases List.mem_append.mp hp with hp | hp
    · have h1 := hf.noRef p hp t ht
      have h2 : usesIdentifier name p.2 = false := by
        simp only [List.any_eq_false] at hothers
        simpa using hothers p hp
      simp [h1, huse p.2 h2 t ht]
    · simp at hp; subst hp
      simp [(htoks t ht).1, huse toks hself t ht]
  · intro p hp
    rcases List.mem_append.mp hp with hp | hp
    · exact hf.nonEmpty p hp
    · simp at hp; subst hp; exact hne
  · intro p hp t ht
    rcases List.mem_append.mp hp with hp | hp
    · exact hf.noKw p hp t ht
    · simp at hp; subst hp; exact (htoks t ht).2

theorem mainLoop_flat (fuel : Nat) (cfg : Cfg) : ∀ {s s' : PS},
    mainLoop fuel cfg s = .ok s' → Flat s.aliases → Flat s'.aliases := by
  refine mainLoop_induct (P := fun s => Flat s.aliases) ?_ ?_ fuel
  · intro s s1 nm toks hf h1 hnew huse
    obtain ⟨ht, hne, ha⟩ := parseAlias_flat h1 hf
    simp only [Bool.or_eq_false_iff] at huse
    show Flat (s1.aliases ++ [(nm, toks)])
    rw [ha]
    rw [ha] at hnew huse
    exact flat_extend hf (by cases hx : s.aliases.lookup nm <;> simp_all) ht hne huse.1 huse.2
  · intro s s1 r hf h1 _
    obtain ⟨new, a1, _⟩ := parseRuleWith_adv h1
    show Flat s1.aliases
    rw [a1.aliases]; exact hf

def markAliased (A : Aliases) : Aliases := A.map fun a => (a.1, a.2.map fun t => { t with aliased := true })

theorem lookup_markAliased (A : Aliases) (k : String) :
    ((markAliased A).lookup k).isSome = (A.lookup k).isSome := by
  induction A with
  | nil => rfl
  | cons p ps ih =>
    obtain ⟨a, b⟩ := p
    simp only [markAliased, List.map_cons, List.lookup] at ih ⊢
    split <;> simp_all [markAliased]

theorem flat_markAliased {A : Aliases} (hf : Flat A) : Flat (markAliased A) := by
  constructor
  · intro p hp t ht
    simp only [markAliased, List.mem_map] at hp
    obtain ⟨q, hq, rfl⟩ := hp
    simp only [List.mem_map] at ht
    obtain ⟨t0, ht0, rfl⟩ := ht
    have := hf.noRef q hq t0 ht0
    simpa [aliasName, lookup_markAliased] using this
  · intro p hp
    simp only [markAliased, List.mem_map] at hp
    obtain ⟨q, hq, rfl⟩ := hp
    have := hf.nonEmpty q hq
    simpa using this
  · intro p hp t ht
    simp only [markAliased, List.mem_map] at hp
    obtain ⟨q, hq, rfl⟩ := hp
    simp only [List.mem_map] at ht
    obtain ⟨t0, ht0, rfl⟩ := ht
    exact hf.noKw q hq t0 ht0

/-- a `Parser` run turns a flat alias table into a flat alias table -/
theorem parseTokens_flat {cfg : Cfg} {rules rules' : List Rule} {aliases aliases' : Aliases} {toks : List Tok}
    (h : parseTokens cfg rules aliases toks = .ok (rules', aliases')) (hf : Flat aliases) : Flat aliases' := by
  unfold parseTokens at h
  simp only [Base.bind_eq_ok] at h
  obtain ⟨_, _, h⟩ := h
  split at h
  · cases h
  · simp only [Base.bind_eq_ok] at h
    obtain ⟨s, hs, h⟩ := h
    split at h
    · cases h
    · cases h
      exact mainLoop_flat _ cfg hs (flat_markAliased hf)

end ASV.Parser
