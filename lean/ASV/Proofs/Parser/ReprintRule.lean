/-
  C02 thm 7, parsing back: tokenising and parsing the printed operands gives `normL`, with the same
  meaning; the CONDITIONS text of `reconstruct_rule_text` (outer parentheses stripped); a whole
  regenerated rule (mandatory sections) parses back.
-/
import ASV.Proofs.Parser.ReprintNorm
import ASV.Proofs.Parser.RulePP

namespace ASV.Reprint
open ASV ASV.Rules ASV.Parser ASV.Grammar ASV.Layout

mutual
theorem printable_of_shape : ∀ (c : Cond) (allow : Bool), shapeOk allow c = true → printable c = true
  | .single _ _, _, _ => rfl
  | .score _ _ s, _, h => by simpa [shapeOk, printable] using h
  | .minimum _ _ opts, _, h => by
      simp only [shapeOk, Bool.and_eq_true] at h; simpa [printable] using h.2
  | .cds _ subs, _, h => by
      simp only [shapeOk, Bool.and_eq_true] at h
      simp only [printable, Bool.and_eq_true]
      exact ⟨h.1.1.2, printableL_of_shape subs false h.1.2⟩
  | .group _ subs, allow, h => by
      simp only [shapeOk, Bool.and_eq_true] at h
      simp only [printable, Bool.and_eq_true]
      exact ⟨h.1, printableL_of_shape subs allow h.2⟩
  | .conj subs, allow, h => by
      simp only [shapeOk, Bool.and_eq_true, decide_eq_true_eq] at h
      simp only [printable, Bool.and_eq_true, Bool.not_eq_true', List.isEmpty_eq_false_iff]
      refine ⟨?_, printableL_of_shape subs allow h.2⟩
      intro he; rw [he] at h; simp at h
theorem printableL_of_shape : ∀ (l : List Cond) (allow : Bool), shapeOks allow l = true → printableL l = true
  | [], _, _ => rfl
  | c :: r, allow, h => by
      simp only [shapeOks, Bool.and_eq_true] at h
      simp only [printableL, Bool.and_eq_true]
      exact ⟨printable_of_shape c allow h.1, printableL_of_shape r allow h.2⟩
end

/-- the tokeniser on the printed operands: exactly the printed tokens -/
theorem tokenise_printJoin (L : List Cond) (hne : L ≠ []) (hn : NamesOkL L) (hp : printableL L = true) :
    tokenise (String.ofList (printJoin orSep L)) = .ok ((joinTexts "or" L).map mkTok) := by
  have inv := inv_join L hne hn hp "or" orSep sep_or inv_or
  have hok := okSeq_of_chain _ false inv.chain (Or.inl rfl)
  have := tokenise_render (joinI "or" L) ⟨[], none⟩ hok (by simp [Tail.ok])
  simp only [Tail.chars, gapChars, List.flatMap_nil, List.append_nil, inv.render] at this
  rw [this, ← inv.texts]
  simp [texts]

theorem normL_ne_nil {L : List Cond} (h : L ≠ []) : normL L ≠ [] := by
  cases L with
  | nil => exact absurd rfl h
  | cons c r => simp [normL_cons]

/-- thm 7 for a list of `or`-operands (a CONDITIONS section, the inside of a group or of `cds`) -/
theorem reparse_operands (L : List Cond) (allow : Bool) (hne : L ≠ []) (hn : NamesOkL L)
    (hs : shapeOks allow L = true) (hr : noRepeats L = true) :
    ∃ toks, tokenise (String.ofList (printJoin orSep L)) = .ok toks ∧
      (∀ (fuel : Nat) (isGroup : Bool) (k cons : List Tok) (rules : List Rule), NotBinop k →
        (∀ c r, endCheck isGroup (ofStream k c r) = .ok ()) → 3 * toks.length + 2 ≤ fuel →
        parseConditions fuel allow isGroup (ofStream (toks ++ k) cons rules) =
          .ok (normL L, ofStream k (toks.reverse ++ cons) rules)) ∧
      (∀ e g, semAny e g (normL L) = semAny e g L) ∧
      printConds (normL L) = printConds L ∧ shapeOks allow (normL L) = true ∧ noRepeats (normL L) = true := by
  refine ⟨_, tokenise_printJoin L hne hn (printableL_of_shape L allow hs), ?_, ?_, printConds_normL L hn, ?_, ?_⟩
  · intro fuel isGroup k cons rules hk hend hf
    obtain ⟨gs, gr⟩ := goods_norm L allow hn hs hr
    refine parseConditions_complete allow isGroup (normL L) fuel _ k cons rules (normL_ne_nil hne) gs gr ?_ hk hend hf
    have := keys_normL L hn "or" .orOp tk_or
    rw [List.map_map]
    exact this
  · intro e g; exact (sem_normL e g L hn hr).1
  · exact (goods_norm L allow hn hs hr).1
  · exact (goods_norm L allow hn hs hr).2

theorem profiles_setNeg (a : Cond) : (setNeg a).profiles = a.profiles := by cases a <;> rfl

mutual
theorem profiles_norm : ∀ (c : Cond) (n : String), n ∈ (normC c).profiles → n ∈ c.profiles
  | .single _ _, _, h => h
  | .score _ _ _, _, h => h
  | .minimum _ _ opts, n, h => by
      simp only [normC, Cond.profiles] at h ⊢
      exact mem_sortDedupStr.mp h
  | .cds neg subs, n, h => by
      simp only [Cond.profiles]
      apply profiles_normL subs n
      simp only [normC] at h
      split at h
      · simpa [Cond.profiles, profilesL] using h
      · simpa [Cond.profiles] using h
  | .group neg [], _, h => by simpa [normC, isSingleton, normL] using h
  | .group neg [x], n, h => by
      have ih := profiles_norm x n
      simp only [Cond.profiles, profilesL, List.append_nil]
      apply ih
      simp only [normC, normL_single, unwrap] at h
      split at h
      · split at h
        · simpa [Cond.profiles, profilesL] using h
        · split at h
          · simpa [profiles_setNeg] using h
          · exact h
      · simpa [Cond.profiles, profilesL] using h
  | .group neg (x :: y :: r), n, h => by
      simp only [Cond.profiles]
      apply profiles_normL (x :: y :: r) n
      simpa [normC, isSingleton, Cond.profiles] using h
  | .conj subs, n, h => by
      simp only [Cond.profiles]
      apply profiles_normL subs n
      simpa [normC, Cond.profiles] using h
theorem profiles_normL : ∀ (l : List Cond) (n : String), n ∈ profilesL (normL l) → n ∈ profilesL l
  | [], _, h => by simpa [normL] using h
  | c :: r, n, h => by
      simp only [normL_cons, profilesL, List.mem_append] at h ⊢
      rcases h with h | h
      · exact Or.inl (profiles_norm c n h)
      · exact Or.inr (profiles_normL r n h)
end

theorem isConj_norm : ∀ c : Cond, Cond.isConj (normC c) = Cond.isConj c
  | .single _ _ => rfl
  | .score _ _ _ => rfl
  | .minimum _ _ _ => rfl
  | .conj _ => rfl
  | .cds neg subs => by simp only [normC]; split <;> rfl
  | .group neg [] => by simp [normC, isSingleton, Cond.isConj]
  | .group neg (x :: y :: r) => by simp [normC, isSingleton, Cond.isConj]
  | .group neg [x] => by
      have ih := isConj_norm x
      simp only [normC, normL_single, unwrap]
      split
      · split
        · rfl
        · split
          · rw [isConj_setNeg, ih]
            rename_i h _ _
            simpa [isSingleton, Cond.isConj] using h
          · rw [ih]
            rename_i h _ _
            simpa [isSingleton, Cond.isConj] using h
      · rfl

theorem positive_setNeg {a : Cond} (hc : Cond.isConj a = false) : positive (setNeg a) = false := by
  cases a <;> simp_all [setNeg, positive, Cond.isConj]

mutual
theorem positive_norm : ∀ c : Cond, positive (normC c) = positive c
  | .single _ _ => rfl
  | .score _ _ _ => rfl
  | .minimum _ _ _ => rfl
  | .cds neg subs => by
      have hl := positive_normL subs
      simp only [normC]
      split
      · simp [positive, anyPositive, hl, normL_isEmpty]
      · simp [positive, hl, normL_isEmpty]
  | .group neg [] => by simp [normC, isSingleton, normL]
  | .group neg [x] => by
      have ih := positive_norm x
      by_cases hc : Cond.isConj x = true
      · simp [normC, isSingleton, hc, positive, anyPositive, ih]
      · have hc' : Cond.isConj x = false := Bool.eq_false_iff.mpr hc
        simp only [normC, isSingleton, List.all_cons, List.all_nil, hc', Bool.and_true, Bool.not_false, Bool.true_and,
          ↓reduceIte, normL_single, unwrap]
        split
        · rename_i hd
          simp only [Bool.and_eq_true] at hd
          obtain ⟨rfl, _⟩ := hd
          simp [positive]
        · split
          · rename_i hneg
            subst hneg
            have hnc : Cond.isConj (normC x) = false := by rw [isConj_norm]; exact hc'
            simp [positive, positive_setNeg hnc]
          · rename_i hneg
            have : neg = false := by simpa using hneg
            subst this
            simp [positive, anyPositive, ih]
  | .group neg (x :: y :: r) => by
      have hl := positive_normL (x :: y :: r)
      simp only [normC, isSingleton, Bool.false_and, Bool.false_eq_true, ↓reduceIte, positive, hl, normL_isEmpty]
  | .conj subs => by
      have hl := positive_normL subs
      simp [normC, positive, hl, normL_isEmpty]
theorem positive_normL : ∀ l : List Cond, anyPositive (normL l) = anyPositive l
  | [] => rfl
  | c :: r => by simp [normL_cons, anyPositive, positive_norm c, positive_normL r]
end

theorem namesOk_norm {c : Cond} (h : NamesOk c) : NamesOk (normC c) := fun n hn => h n (profiles_norm c n hn)

/-- an operand list for which `reparse_printed` applies, meaning what `L` means -/
structure Reads (allow : Bool) (E L : List Cond) : Prop where
  ne : E ≠ []
  names : NamesOkL E
  shape : shapeOks allow E = true
  norep : noRepeats E = true
  nodup : hasDupStr (printConds E) = false
  sem : ∀ e g, semAny e g E = semAny e g L
  pos : anyPositive E = anyPositive L

theorem dropLast_append_single (l : List Char) (c : Char) : (l ++ [c]).dropLast = l := by simp

/-- the condition text of the regenerated rule is the printed list of some operands that mean the same -/
theorem topChars_reads (L : List Cond) (hne : L ≠ []) (hn : NamesOkL L) (hs : shapeOks true L = true)
    (hr : noRepeats L = true) (hd : hasDupStr (printConds L) = false) :
    ∃ E, topChars (.group false L) = printJoin orSep E ∧ Reads true E L := by
  have hself : Reads true L L := ⟨hne, hn, hs, hr, hd, fun _ _ => rfl, rfl⟩
  have hparen : ∀ (M : List Cond), (('(' :: printJoin orSep M ++ [')']).head? == some '(' &&
      ('(' :: printJoin orSep M ++ [')']).getLast? == some ')') = true := by
    intro M
    have : ('(' :: (printJoin orSep M ++ [')'])).getLast? = some ')' := by
      rw [← List.cons_append, List.getLast?_append]; simp
    simp [this]
  by_cases hcond : (isSingleton L && !(L.all Cond.isConj)) = true
  · match L, hcond, hn, hs, hr, hself with
    | [x], hcond, hn, hs, hr, hself =>
      have hc' : Cond.isConj x = false := by simpa [isSingleton] using hcond
      have hx : NamesOk x := by intro n h; exact hn n (by simp [profilesL, h])
      have hpc : printChars (.group false [x]) = printChars x := by
        simp [printChars, isSingleton, hc', notPrefix]
      by_cases hh : ((printChars x).head? == some '(') = true
      · -- the operand prints with parentheses: its normal form is a non-negated group
        obtain ⟨sx, rx⟩ := good_norm x true hx (by simpa [shapeOks] using hs) (by simpa [noRepeats] using hr)
        obtain ⟨px, tx⟩ := print_norm x hx
        have hfc := (first_chars x hx hc').2
        have hk := (keys_normC x hx).1
        obtain ⟨M, hM⟩ : ∃ M, normC x = .group false M := by
          rw [hfc] at hh
          cases ht : printTexts x with
          | nil => rw [ht] at hh; simp at hh
          | cons t ts =>
            rw [ht] at hh hk
            have : t = "(" := by simpa using hh
            subst this
            simp only [List.map_cons, tk_open] at hk
            cases hnx : normC x with
            | group neg M =>
              cases neg with
              | false => exact ⟨M, rfl⟩
              | true => rw [hnx] at hk; simp [flatC, flatNot, kOf] at hk
            | single neg n => rw [hnx] at hk; cases neg <;> simp [flatC, flatNot, kOf, kId] at hk
            | score neg n s => rw [hnx] at hk; cases neg <;> simp [flatC, flatNot, kOf] at hk
            | minimum neg n o => rw [hnx] at hk; cases neg <;> simp [flatC, flatNot, kOf] at hk
            | cds neg s => rw [hnx] at hk; cases neg <;> simp [flatC, flatNot, kOf] at hk
            | conj s =>
              have := ((keys_normC x hx).2 hc').2
              rw [hnx] at this; simp [Cond.isConj] at this
        rw [hM] at sx rx px tx
        have hnotsingle : (isSingleton M && !(M.all Cond.isConj)) = false := by
          match M, tx with
          | [], _ => rfl
          | [y], tx => simp only [tight] at tx; simp [isSingleton, tx]
          | _ :: _ :: _, _ => rfl
        have hprint : printChars x = '(' :: printJoin orSep M ++ [')'] := by
          rw [← px]; simp [printChars, hnotsingle, notPrefix]
        simp only [shapeOk, Bool.and_eq_true, Bool.not_eq_true', List.isEmpty_eq_false_iff] at sx
        simp only [noRepeat, Bool.and_eq_true, Bool.not_eq_true'] at rx
        refine ⟨M, ?_, ⟨sx.1, ?_, sx.2, rx.2, rx.1, ?_, ?_⟩⟩
        · simp only [topChars, hpc, hprint, hparen M, ↓reduceIte]
          simp
        · intro n hnm
          exact (namesOk_norm hx) n (by rw [hM]; simpa [Cond.profiles] using hnm)
        · intro e g
          have h1 := (sem_norm e g x hx (by simpa [noRepeats] using hr)).1
          rw [hM] at h1
          simp only [sem, Bool.false_xor] at h1
          simp [semAny, h1]
        · have hp := positive_norm x
          rw [hM] at hp
          have hMe : M.isEmpty = false := by cases M <;> simp_all
          simp only [positive, Bool.not_false, Bool.true_and, hMe, Bool.false_or] at hp
          simp [anyPositive, hp]
      · refine ⟨[x], ?_, hself⟩
        have hh' : ((printChars x).head? == some '(') = false := Bool.eq_false_iff.mpr hh
        simp [topChars, hpc, hh']
    | [], hcond, _, _, _, _ => simp [isSingleton] at hcond
    | _ :: _ :: _, hcond, _, _, _, _ => simp [isSingleton] at hcond
  · refine ⟨L, ?_, hself⟩
    have hcond' : (isSingleton L && !(L.all Cond.isConj)) = false := Bool.eq_false_iff.mpr hcond
    have : printChars (.group false L) = '(' :: printJoin orSep L ++ [')'] := by
      simp [printChars, hcond', notPrefix]
    simp only [topChars, this, hparen L, ↓reduceIte]
    simp

theorem classify_digits (v : Nat) : classify (toString v) = .int :=
  key_type (t := mkTok (toString v)) (tk_nat v)

theorem mkTok_name {n : String} (h : classify n = .identifier) : mkTok n = tId n := by simp [mkTok, tId, h]
theorem mkTok_nat (v : Nat) : mkTok (toString v) = tInt v := by
  show (⟨toString v, classify (toString v), false⟩ : Tok) = ⟨toString v, .int, false⟩
  rw [classify_digits]
theorem mkTok_rule : mkTok "RULE" = kw "RULE" .rule := by decide +kernel
theorem mkTok_category : mkTok "CATEGORY" = kw "CATEGORY" .category := by decide +kernel
theorem mkTok_cutoff : mkTok "CUTOFF" = kw "CUTOFF" .cutoff := by decide +kernel
theorem mkTok_nbh : mkTok "NEIGHBOURHOOD" = kw "NEIGHBOURHOOD" .neighbourhood := by decide +kernel
theorem mkTok_conditions : mkTok "CONDITIONS" = kw "CONDITIONS" .conditions := by decide +kernel

theorem inv_RULE : Inv [([], W "RULE")] "RULE".toList ["RULE"] :=
  ⟨⟨_, _, rfl⟩, by decide +kernel, by decide +kernel, by decide +kernel⟩
theorem inv_CATEGORY : Inv [([], W "CATEGORY")] "CATEGORY".toList ["CATEGORY"] :=
  ⟨⟨_, _, rfl⟩, by decide +kernel, by decide +kernel, by decide +kernel⟩
theorem inv_CUTOFF : Inv [([], W "CUTOFF")] "CUTOFF".toList ["CUTOFF"] :=
  ⟨⟨_, _, rfl⟩, by decide +kernel, by decide +kernel, by decide +kernel⟩
theorem inv_NEIGHBOURHOOD : Inv [([], W "NEIGHBOURHOOD")] "NEIGHBOURHOOD".toList ["NEIGHBOURHOOD"] :=
  ⟨⟨_, _, rfl⟩, by decide +kernel, by decide +kernel, by decide +kernel⟩
theorem inv_CONDITIONS : Inv [([], W "CONDITIONS")] "CONDITIONS".toList ["CONDITIONS"] :=
  ⟨⟨_, _, rfl⟩, by decide +kernel, by decide +kernel, by decide +kernel⟩

theorem tokenise_toList (s : String) : tokenise s = tokenise (String.ofList s.toList) := by
  simp [tokenise]

/-- thm 7 for a whole rule with any distances: the regenerated text carries whole kilobases
    (`cutoff // 1000`), so the distances come back rounded down to the kilobase -/
theorem reparse_rule_gen (cfg : Cfg) (r : Rule) (L : List Cond) (rules : List Rule)
    (hc : r.conditions = .group false L) (hne : L ≠ []) (hn : NamesOkL L) (hs : shapeOks true L = true)
    (hr : noRepeats L = true) (hd : hasDupStr (printConds L) = false)
    (hname : classify r.name = .identifier) (hcat : classify r.category = .identifier)
    (hcats : cfg.cats.contains r.category = true) (hpos : positive r.conditions = true)
    (hdesc : r.description = []) (hex : r.examples = []) :
    ∃ toks r', tokenise r.reconstruct = .ok toks ∧
      parseRule cfg (ofStream toks [] rules) = .ok (r', ofStream [] toks.reverse rules) ∧
      r'.name = r.name ∧ r'.category = r.category ∧ r'.cutoff = r.cutoff / 1000 * 1000 ∧
      r'.neighbourhood = r.neighbourhood / 1000 * 1000 ∧
      ∀ e g, sem e g r'.conditions = sem e g r.conditions := by
  obtain ⟨E, htop, rd⟩ := topChars_reads L hne hn hs hr hd
  have hpE := printableL_of_shape E true rd.shape
  have invJ := inv_join E rd.ne rd.names hpE "or" orSep sep_or inv_or
  have inv := ((((((((inv_RULE.append_sp (inv_name hname)).append_sp inv_CATEGORY).append_sp (inv_name hcat)).append_sp
    inv_CUTOFF).append_sp (inv_digits (r.cutoff / 1000))).append_sp inv_NEIGHBOURHOOD).append_sp
      (inv_digits (r.neighbourhood / 1000))).append_sp inv_CONDITIONS).append_sp invJ
  have hchars : r.reconstruct.toList =
      "RULE".toList ++ ' ' :: r.name.toList ++ ' ' :: "CATEGORY".toList ++ ' ' :: r.category.toList ++
        ' ' :: "CUTOFF".toList ++ ' ' :: (toString (r.cutoff / 1000)).toList ++ ' ' :: "NEIGHBOURHOOD".toList ++
        ' ' :: (toString (r.neighbourhood / 1000)).toList ++ ' ' :: "CONDITIONS".toList ++ ' ' :: printJoin orSep E := by
    simp only [Rule.reconstruct, hdesc, hex, hc, htop, String.toList_append, String.toList_ofList, List.isEmpty_nil,
      ↓reduceIte, List.map_nil, String.join]
    simp
  have hrender := inv.render
  have hok := okSeq_of_chain _ false inv.chain (Or.inl rfl)
  have htok := tokenise_render _ ⟨[], none⟩ hok (by simp [Tail.ok])
  simp only [Tail.chars, gapChars, List.flatMap_nil, List.append_nil] at htok
  rw [hrender, ← hchars, ← tokenise_toList] at htok
  -- the tokens
  have htexts := inv.texts
  obtain ⟨gs, gr⟩ := goods_norm E true rd.names rd.shape rd.norep
  have hkeys : ((joinTexts "or" E).map mkTok).map Tok.key = flatJoin .orOp (normL E) := by
    rw [List.map_map]; exact keys_normL E rd.names "or" .orOp tk_or
  have hdup : hasDupStr (printConds (normL E)) = false := by rw [printConds_normL E rd.names]; exact rd.nodup
  have hposE : positive (.group false (normL E)) = true := by
    have h1 : positive (.group false L) = true := by rw [← hc]; exact hpos
    have hLe : L.isEmpty = false := isEmpty_false_of_ne hne
    have hEe : (normL E).isEmpty = false := by rw [normL_isEmpty]; exact isEmpty_false_of_ne rd.ne
    simp only [positive, Bool.not_false, Bool.true_and, hLe, Bool.false_or] at h1
    simp only [positive, Bool.not_false, Bool.true_and, hEe, Bool.false_or, positive_normL, rd.pos, h1]
  have hparse := parseRule_keys cfg r.name r.category (r.cutoff / 1000) (r.neighbourhood / 1000) (normL E)
    ((joinTexts "or" E).map mkTok) [] [] rules hcats (normL_ne_nil rd.ne) gs gr hdup hkeys hposE (Or.inl rfl)
  have htoks : List.map (fun (x : Item) => mkTok x.2.text)
      ([([], W "RULE")] ++ lead sp [([], W r.name)] ++ lead sp [([], W "CATEGORY")] ++ lead sp [([], W r.category)] ++
        lead sp [([], W "CUTOFF")] ++ lead sp [([], W (toString (r.cutoff / 1000)))] ++
        lead sp [([], W "NEIGHBOURHOOD")] ++ lead sp [([], W (toString (r.neighbourhood / 1000)))] ++
        lead sp [([], W "CONDITIONS")] ++ lead sp (joinI "or" E)) =
      hdrToks r.name r.category (r.cutoff / 1000) (r.neighbourhood / 1000) ++ (joinTexts "or" E).map mkTok := by
    have := congrArg (List.map mkTok) htexts
    simp only [texts, List.map_map] at this
    rw [Function.comp_def] at this
    rw [this]
    simp only [List.map_append, List.map_cons, List.map_nil, hdrToks, mkTok_rule, mkTok_category, mkTok_cutoff, mkTok_nbh,
      mkTok_conditions, mkTok_name hname, mkTok_name hcat, mkTok_nat, List.cons_append, List.nil_append]
  rw [htoks] at htok
  refine ⟨_, (⟨r.name, r.category, r.cutoff / 1000 * 1000, r.neighbourhood / 1000 * 1000, Cond.group false (normL E),
    [], [], [], [], none⟩ : Rule), htok, ?_, rfl, rfl, ?_, ?_, ?_⟩
  · simpa using hparse
  · rfl
  · rfl
  · intro e g
    show sem e g (.group false (normL E)) = sem e g r.conditions
    simp only [hc, sem, Bool.false_xor]
    rw [(sem_normL e g E rd.names rd.norep).1, rd.sem]

/-- thm 7 for a whole rule -/
theorem reparse_rule (cfg : Cfg) (r : Rule) (L : List Cond) (rules : List Rule)
    (hc : r.conditions = .group false L) (hne : L ≠ []) (hn : NamesOkL L) (hs : shapeOks true L = true)
    (hr : noRepeats L = true) (hd : hasDupStr (printConds L) = false)
    (hname : classify r.name = .identifier) (hcat : classify r.category = .identifier)
    (hcats : cfg.cats.contains r.category = true) (hpos : positive r.conditions = true)
    (hdesc : r.description = []) (hex : r.examples = [])
    (hkc : r.cutoff % 1000 = 0) (hkn : r.neighbourhood % 1000 = 0) :
    ∃ toks r', tokenise r.reconstruct = .ok toks ∧
      parseRule cfg (ofStream toks [] rules) = .ok (r', ofStream [] toks.reverse rules) ∧
      r'.name = r.name ∧ r'.category = r.category ∧ r'.cutoff = r.cutoff ∧ r'.neighbourhood = r.neighbourhood ∧
      ∀ e g, sem e g r'.conditions = sem e g r.conditions := by
  obtain ⟨toks, r', h1, h2, h3, h4, h5, h6, h7⟩ :=
    reparse_rule_gen cfg r L rules hc hne hn hs hr hd hname hcat hcats hpos hdesc hex
  exact ⟨toks, r', h1, h2, h3, h4, by omega, by omega, h7⟩

end ASV.Reprint
