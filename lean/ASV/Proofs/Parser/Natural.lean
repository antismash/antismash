/-
  C02: the parser reads its state only through `cur`, `consume` and (in an alias definition) re-flagging
  the current token; a rule parse also reads `rules` and skips the free text of DESCRIPTION and EXAMPLE
  raw.  So two runs from states related by any `S` that these respect give related results (`Res`).
  More fuel, substituted aliases and "every function moves forward" are instances.
-/
import ASV.Spec.Grammar
namespace ASV.Parser
open ASV ASV.Rules ASV.Grammar

/-- results related by `R` on the value and `S` on the state, or equal errors; when `esc`, the left
    run may also have run out of fuel -/
def Res (esc : Prop) (S : PS → PS → Prop) {α} (R : α → α → Prop) (x' x : Except Err (α × PS)) : Prop :=
  (esc ∧ x' = .error .fuel) ∨
  match x', x with
  | .ok (a', t), .ok (a, s) => R a' a ∧ S t s
  | .error e', .error e => e' = e
  | _, _ => False

variable {esc : Prop} {S : PS → PS → Prop}

theorem Res.ok {α} {R : α → α → Prop} {a' a : α} {t s : PS} (hr : R a' a) (hs : S t s) :
    Res esc S R (.ok (a', t)) (.ok (a, s)) := Or.inr ⟨hr, hs⟩

theorem Res.error {α} {R : α → α → Prop} (e : Err) : Res esc S R (.error e) (.error e) := Or.inr rfl

-- `cases` on the two results one after the other: a `match` on both with the hypothesis as third
-- discriminant is ten times dearer to check
theorem Res.bind {α β} {R : α → α → Prop} {Q : β → β → Prop} {x' x : Except Err (α × PS)}
    {k' k : α × PS → Except Err (β × PS)} (h1 : Res esc S R x' x)
    (h2 : ∀ a' a t s, R a' a → S t s → Res esc S Q (k' (a', t)) (k (a, s))) :
    Res esc S Q (x' >>= k') (x >>= k) := by
  rcases h1 with ⟨he, rfl⟩ | h1
  · exact Or.inl ⟨he, rfl⟩
  · cases x' with
    | error e' => cases x with
      | error e => cases h1; exact Or.inr rfl
      | ok p => exact h1.elim
    | ok p' => cases x with
      | error e => exact h1.elim
      | ok p => exact h2 _ _ _ _ h1.1 h1.2

/-- the usual case: the two runs return the same value -/
theorem Res.bind_eq {α β} {Q : β → β → Prop} {x' x : Except Err (α × PS)}
    {k' k : α × PS → Except Err (β × PS)} (h1 : Res esc S Eq x' x)
    (h2 : ∀ a t s, S t s → Res esc S Q (k' (a, t)) (k (a, s))) :
    Res esc S Q (x' >>= k') (x >>= k) :=
  h1.bind fun _ a t s e hs => e ▸ h2 a t s hs

/-- a step that does not look at the state (constructor checks) -/
theorem Res.bind_pure {α β} {Q : β → β → Prop} {x : Except Err α} {k' k : α → Except Err (β × PS)}
    (h : ∀ a, Res esc S Q (k' a) (k a)) : Res esc S Q (x >>= k') (x >>= k) := by
  cases x with
  | error e => exact Or.inr rfl
  | ok a => exact h a

theorem Res.ite {α} {R : α → α → Prop} {c : Prop} [Decidable c] {a' b' a b : Except Err (α × PS)}
    (h1 : c → Res esc S R a' a) (h2 : ¬c → Res esc S R b' b) :
    Res esc S R (if c then a' else b') (if c then a else b) := by
  by_cases h : c
  · rw [if_pos h, if_pos h]; exact h1 h
  · rw [if_neg h, if_neg h]; exact h2 h

theorem Res.mono {α} {R R' : α → α → Prop} {x' x : Except Err (α × PS)} (h : Res esc S R x' x)
    (hR : ∀ a' a, R a' a → R' a' a) : Res esc S R' x' x := by
  refine h.imp id fun h => ?_
  cases x' with
  | error e' => cases x with
    | error e => exact h
    | ok p => exact h
  | ok p' => cases x with
    | error e => exact h
    | ok p => exact ⟨hR _ _ h.1, h.2⟩

/-- without the escape the left run fails exactly as the right one does -/
theorem Res.error_left {α} {R : α → α → Prop} {x' x : Except Err (α × PS)} (h : Res False S R x' x) {e : Err}
    (hx : x = .error e) : x' = .error e := by
  subst hx
  rcases h with ⟨h, _⟩ | h
  · exact h.elim
  · cases x' with
    | error e' => exact congrArg _ h
    | ok p => exact h.elim

/-- fuels of the two runs: more on the right only when "out of fuel" is allowed on the left -/
def Fu (esc : Prop) (n m : Nat) : Prop := n ≤ m ∧ (esc ∨ n = m)

theorem Fu.same (n : Nat) : Fu esc n n := ⟨Nat.le_refl n, .inr rfl⟩

theorem Fu.le {n m : Nat} (h : n ≤ m) : Fu True n m := ⟨h, .inl trivial⟩

theorem Fu.succ {n m : Nat} (h : Fu esc (n + 1) m) : ∃ m', m = m' + 1 ∧ Fu esc n m' := by
  cases m with
  | zero => exact absurd h.1 (Nat.not_succ_le_zero n)
  | succ m' => exact ⟨m', rfl, Nat.le_of_succ_le_succ h.1, h.2.imp id Nat.succ.inj⟩

theorem Res.zero {α} {R : α → α → Prop} {m : Nat} (h : Fu esc 0 m) {x : Except Err (α × PS)}
    (hx : m = 0 → x = .error .fuel) : Res esc S R (.error .fuel) x := by
  rcases h.2 with he | rfl
  · exact Or.inl ⟨he, rfl⟩
  · rw [hx rfl]; exact Or.inr rfl

/-- what the condition parser and `parseAliasWith` read of a state -/
structure Reads (esc : Prop) (S : PS → PS → Prop) : Prop where
  cur : ∀ {t s}, S t s → t.cur = s.cur
  consume : ∀ {t s}, S t s → ∀ x, Res esc S Eq (consume x t) (consume x s)
  flag : ∀ {t s}, S t s → ∀ {c : Tok}, s.cur = some c →
    S { t with cur := some { c with aliased := true } } { s with cur := some { c with aliased := true } }

theorem curIs_congr {t s : PS} (h : t.cur = s.cur) (x : TT) : t.curIs x = s.curIs x := by
  unfold PS.curIs; rw [h]

theorem curAliased_congr {t s : PS} (h : t.cur = s.cur) : t.curAliased = s.curAliased := by
  unfold PS.curAliased; rw [h]

theorem endCheck_congr {t s : PS} (h : t.cur = s.cur) (g : Bool) : endCheck g t = endCheck g s := by
  unfold endCheck; rw [h]

theorem ruleEnd_congr {t s : PS} (h : t.cur = s.cur) : ruleEnd t = ruleEnd s := by
  unfold ruleEnd; rw [h]

theorem ruleByName_congr {t s : PS} (h : t.rules = s.rules) (n : String) : t.ruleByName n = s.ruleByName n := by
  unfold PS.ruleByName; rw [h]

section
variable (I : Reads esc S) {t s : PS} (hS : S t s)
include I hS

theorem consumeId_res : Res esc S Eq (consumeId t) (consumeId s) :=
  (I.consume hS _).bind_eq fun _ _ _ h => Res.ok rfl h

theorem consumeInt_res : Res esc S Eq (consumeInt t) (consumeInt s) :=
  (I.consume hS _).bind_eq fun _ _ _ h => Res.ok rfl h

theorem isNot_res : Res esc S Eq (isNot t) (isNot s) := by
  unfold isNot
  rw [curIs_congr (I.cur hS)]
  refine Res.ite (fun _ => ?_) fun _ => Res.ok rfl hS
  exact (I.consume hS _).bind_eq fun _ _ _ h => Res.ok rfl h

theorem parseScore_res (neg : Bool) : Res esc S Eq (parseScore neg t) (parseScore neg s) := by
  unfold parseScore
  refine (I.consume hS _).bind_eq fun _ _ _ h1 => ?_
  refine (I.consume h1 _).bind_eq fun _ _ _ h2 => ?_
  refine (consumeId_res I h2).bind_eq fun _ _ _ h3 => ?_
  refine (I.consume h3 _).bind_eq fun _ _ _ h4 => ?_
  refine (consumeInt_res I h4).bind_eq fun _ _ _ h5 => ?_
  refine (I.consume h5 _).bind_eq fun _ _ _ h6 => ?_
  exact Res.ok rfl h6
end

theorem idsLoop_res (I : Reads esc S) : ∀ (n m : Nat), Fu esc n m → ∀ (acc : List String) {t s : PS}, S t s →
    Res esc S Eq (idsLoop n acc t) (idsLoop m acc s) := by
  intro n
  induction n with
  | zero => intro m h acc t s _; exact Res.zero h fun h0 => by subst h0; rfl
  | succ n ih =>
    intro m h acc t s hS
    obtain ⟨m', rfl, h'⟩ := h.succ
    rw [idsLoop, idsLoop, curIs_congr (I.cur hS)]
    refine Res.ite (fun _ => ?_) fun _ => Res.ok rfl hS
    refine (I.consume hS _).bind_eq fun _ _ _ h1 => ?_
    refine (consumeId_res I h1).bind_eq fun _ _ _ h2 => ?_
    exact ih m' h' _ h2

section
variable (I : Reads esc S) {n m : Nat} (hf : Fu esc n m) {t s : PS} (hS : S t s)
include I hf hS

theorem parseIds_res : Res esc S Eq (parseIds n t) (parseIds m s) :=
  (consumeId_res I hS).bind_eq fun _ _ _ h1 => idsLoop_res I n m hf _ h1

theorem parseList_res : Res esc S Eq (parseList n t) (parseList m s) := by
  unfold parseList
  refine (I.consume hS _).bind_eq fun _ _ _ h1 => ?_
  refine (parseIds_res I hf h1).bind_eq fun _ _ _ h2 => ?_
  refine (I.consume h2 _).bind_eq fun _ _ _ h3 => ?_
  exact Res.ok rfl h3

theorem parseMinimum_res (neg : Bool) : Res esc S Eq (parseMinimum n neg t) (parseMinimum m neg s) := by
  unfold parseMinimum
  refine (I.consume hS _).bind_eq fun _ _ _ h1 => ?_
  refine (I.consume h1 _).bind_eq fun _ _ _ h2 => ?_
  refine (consumeInt_res I h2).bind_eq fun _ _ _ h3 => ?_
  refine (I.consume h3 _).bind_eq fun _ _ _ h4 => ?_
  refine (parseList_res I hf h4).bind_eq fun _ _ _ h5 => ?_
  refine (I.consume h5 _).bind_eq fun _ _ _ h6 => ?_
  exact Res.bind_pure fun _ => Res.ok rfl h6
end

/-- the seven mutually recursive functions -/
structure BlockRes (esc : Prop) (S : PS → PS → Prop) (n m : Nat) : Prop where
  single : ∀ (allow : Bool) {t s}, S t s → Res esc S Eq (parseSingle n allow t) (parseSingle m allow s)
  group : ∀ (allow : Bool) {t s}, S t s → Res esc S Eq (parseGroup n allow t) (parseGroup m allow s)
  cds : ∀ {t s}, S t s → Res esc S Eq (parseCds n t) (parseCds m s)
  conds : ∀ (allow g : Bool) {t s}, S t s → Res esc S Eq (parseConditions n allow g t) (parseConditions m allow g s)
  loop : ∀ (allow : Bool) (acc : List Cond) (lv : Cond) (p : Bool) {t s}, S t s →
    Res esc S Eq (condLoop n allow acc lv p t) (condLoop m allow acc lv p s)
  ands : ∀ (lv : Cond) (allow : Bool) {t s}, S t s → Res esc S Eq (parseAnds n lv allow t) (parseAnds m lv allow s)
  andLoop : ∀ (allow : Bool) (acc : List Cond) {t s}, S t s →
    Res esc S Eq (andLoop n allow acc t) (andLoop m allow acc s)

-- `Res.ite` on the tests, which are the same on both sides once `cur` is rewritten: `split` on a goal
-- with the `if` on both sides makes four cases of each and is four times dearer
theorem blockRes (I : Reads esc S) : ∀ (n m : Nat), Fu esc n m → BlockRes esc S n m := by
  intro n
  induction n with
  | zero =>
    intro m h
    constructor <;> intros <;> exact Res.zero h fun h0 => by subst h0; rfl
  | succ n ih =>
    intro m h
    obtain ⟨m', rfl, h'⟩ := h.succ
    have ih := ih m' h'
    constructor
    · intro allow t s hS
      rw [parseSingle, parseSingle]
      refine (isNot_res I hS).bind_eq fun neg t1 s1 h1 => ?_
      simp only [I.cur h1]
      cases s1.cur with
      | none => exact Res.error _
      | some c =>
        simp only
        refine Res.ite (fun _ => ?_) fun _ => ?_
        · refine (ih.group allow h1).bind_eq fun _ _ _ h2 => ?_
          exact Res.bind_pure fun _ => Res.ok rfl h2
        · refine Res.ite (fun _ => ?_) fun _ => ?_
          · exact parseMinimum_res I h' h1 neg
          · refine Res.ite (fun _ => ?_) fun _ => ?_
            · refine (ih.cds h1).bind_eq fun _ _ _ h2 => ?_
              exact Res.bind_pure fun _ => Res.ok rfl h2
            · refine Res.ite (fun _ => ?_) fun _ => ?_
              · exact parseScore_res I h1 neg
              · exact (consumeId_res I h1).bind_eq fun _ _ _ h2 => Res.ok rfl h2
    · intro allow t s hS
      rw [parseGroup, parseGroup]
      refine (I.consume hS _).bind_eq fun _ _ _ h1 => ?_
      refine (ih.conds allow true h1).bind_eq fun _ _ _ h2 => ?_
      exact (I.consume h2 _).bind_eq fun _ _ _ h3 => Res.ok rfl h3
    · intro t s hS
      rw [parseCds, parseCds]
      refine (I.consume hS _).bind_eq fun _ _ _ h1 => ?_
      refine (I.consume h1 _).bind_eq fun _ _ _ h2 => ?_
      refine (ih.conds false true h2).bind_eq fun subs _ _ h3 => ?_
      simp only
      refine Res.ite (fun _ => ?_) fun _ => ?_
      · exact Res.error _
      · exact (I.consume h3 _).bind_eq fun _ _ _ h4 => Res.ok rfl h4
    · intro allow g t s hS
      rw [parseConditions, parseConditions, I.cur hS]
      refine Res.ite (fun _ => ?_) fun _ => ?_
      · exact Res.error _
      · refine (ih.single allow hS).bind_eq fun _ _ _ h1 => ?_
        refine (ih.loop allow [] _ true h1).bind_eq fun _ _ _ h2 => ?_
        simp only [endCheck_congr (I.cur h2)]
        exact Res.bind_pure fun _ => Res.ok rfl h2
    · intro allow acc lv p t s hS
      rw [condLoop, condLoop]
      simp only [curIs_congr (I.cur hS)]
      refine Res.ite (fun _ => ?_) fun _ => ?_
      · refine (ih.ands lv allow hS).bind_eq fun _ _ _ h1 => ?_
        exact ih.loop allow _ lv false h1
      · refine Res.ite (fun _ => ?_) fun _ => ?_
        · refine (I.consume hS _).bind_eq fun _ _ _ h1 => ?_
          refine (ih.single allow h1).bind_eq fun _ _ _ h2 => ?_
          exact ih.loop allow _ _ true h2
        · exact Res.ok rfl hS
    · intro lv allow t s hS
      rw [parseAnds, parseAnds]
      refine (I.consume hS _).bind_eq fun _ _ _ h1 => ?_
      refine (ih.single allow h1).bind_eq fun _ _ _ h2 => ?_
      refine (ih.andLoop allow _ h2).bind_eq fun _ _ _ h3 => ?_
      exact Res.bind_pure fun _ => Res.ok rfl h3
    · intro allow acc t s hS
      rw [andLoop, andLoop, curIs_congr (I.cur hS)]
      refine Res.ite (fun _ => ?_) fun _ => ?_
      · refine (I.consume hS _).bind_eq fun _ _ _ h1 => ?_
        refine (ih.single allow h1).bind_eq fun _ _ _ h2 => ?_
        exact ih.andLoop allow _ h2
      · exact Res.ok rfl hS

/-! ### alias definitions -/

theorem aliasLoop_res (I : Reads esc S) : ∀ (n m : Nat), Fu esc n m → ∀ (acc : List Tok) {t s : PS}, S t s →
    Res esc S Eq (aliasLoop n acc t) (aliasLoop m acc s) := by
  intro n
  induction n with
  | zero => intro m h acc t s _; exact Res.zero h fun h0 => by subst h0; rfl
  | succ n ih =>
    intro m h acc t s hS
    obtain ⟨m', rfl, h'⟩ := h.succ
    rw [aliasLoop, aliasLoop, I.cur hS]
    cases hc : s.cur with
    | none => exact Res.ok rfl hS
    | some c =>
      simp only
      refine Res.ite (fun _ => Res.ok rfl hS) fun _ => Res.ite (fun _ => Res.error _) fun _ => ?_
      exact (I.consume (I.flag hS hc) _).bind_eq fun _ _ _ h1 => ih m' h' _ h1

theorem parseAliasWith_res (I : Reads esc S) {n m : Nat} (hf : Fu esc n m) {t s : PS} (hS : S t s) :
    Res esc S Eq (parseAliasWith n t) (parseAliasWith m s) := by
  unfold parseAliasWith
  refine (I.consume hS _).bind_eq fun _ _ _ h1 => ?_
  simp only [curAliased_congr (I.cur h1)]
  refine Res.ite (fun _ => Res.error _) fun _ => ?_
  refine (consumeId_res I h1).bind_eq fun _ _ _ h2 => ?_
  refine (I.consume h2 _).bind_eq fun _ _ _ h3 => ?_
  refine (aliasLoop_res I n m hf _ h3).bind_eq fun _ _ _ h4 => ?_
  exact Res.ite (fun _ => Res.error _) fun _ => Res.ok rfl h4

/-! ### the sections of a rule -/

/-- what a rule parse reads of a state; the free text is skipped raw, so there the two runs may return
    different values, related by `D` (DESCRIPTION) and `E` (EXAMPLE) -/
structure ReadsRaw (esc : Prop) (S : PS → PS → Prop) (D : List String → List String → Prop)
    (E : Example → Example → Prop) : Prop extends Reads esc S where
  rules : ∀ {t s}, S t s → t.rules = s.rules
  descr : ∀ {t s}, S t s → Res esc S D (parseDescription t) (parseDescription s)
  exmpl : ∀ {t s}, S t s → Res esc S E (parseExample t) (parseExample s)

/-- `E` between the members of two lists of examples -/
inductive Exs (E : Example → Example → Prop) : List Example → List Example → Prop
  | nil : Exs E [] []
  | cons {a' a : Example} {l' l : List Example} : E a' a → Exs E l' l → Exs E (a' :: l') (a :: l)

theorem Exs.snoc {E : Example → Example → Prop} {l' l : List Example} {a' a : Example} (h : Exs E l' l)
    (ha : E a' a) : Exs E (l' ++ [a']) (l ++ [a]) := by
  induction h with
  | nil => exact .cons ha .nil
  | cons hx _ ih => exact .cons hx ih

theorem Exs.refl {E : Example → Example → Prop} (h : ∀ a, E a a) : ∀ l, Exs E l l
  | [] => .nil
  | a :: l => .cons (h a) (Exs.refl h l)

/-- rules equal up to the free text -/
def RuleRelG (D : List String → List String → Prop) (E : Example → Example → Prop) (r' r : Rule) : Prop :=
  r'.name = r.name ∧ r'.category = r.category ∧ r'.cutoff = r.cutoff ∧ r'.neighbourhood = r.neighbourhood ∧
    r'.conditions = r.conditions ∧ r'.superiors = r.superiors ∧ r'.related = r.related ∧
    r'.extenders = r.extenders ∧ D r'.description r.description ∧ Exs E r'.examples r.examples

variable {D : List String → List String → Prop} {E : Example → Example → Prop}

theorem parseHead_res (I : Reads esc S) {t s : PS} (hS : S t s) (cfg : Cfg) :
    Res esc S Eq (parseHead cfg t) (parseHead cfg s) := by
  unfold parseHead
  refine (I.consume hS _).bind_eq fun _ _ _ h1 => ?_
  simp only [curAliased_congr (I.cur h1)]
  refine Res.ite (fun _ => Res.error _) fun _ => ?_
  refine (consumeId_res I h1).bind_eq fun _ _ _ h2 => ?_
  simp only [I.cur h2]
  refine Res.ite (fun _ => Res.error _) fun _ => ?_
  refine (I.consume h2 _).bind_eq fun _ _ _ h3 => ?_
  refine (consumeId_res I h3).bind_eq fun _ _ _ h4 => ?_
  simp only [I.cur h4]
  refine Res.ite (fun _ => Res.error _) fun _ => ?_
  exact Res.ite (fun _ => Res.error _) fun _ => Res.ok rfl h4

theorem parseDistances_res (I : Reads esc S) {t s : PS} (hS : S t s) :
    Res esc S Eq (parseDistances t) (parseDistances s) := by
  unfold parseDistances
  refine (I.consume hS _).bind_eq fun _ _ _ h1 => ?_
  refine (consumeInt_res I h1).bind_eq fun _ _ _ h2 => ?_
  refine (I.consume h2 _).bind_eq fun _ _ _ h3 => ?_
  exact (consumeInt_res I h3).bind_eq fun _ _ _ h4 => Res.ok rfl h4

theorem examplesLoop_res (I : ReadsRaw esc S D E) : ∀ (n m : Nat), Fu esc n m → ∀ {t s : PS}, S t s →
    ∀ {acc' acc : List Example}, Exs E acc' acc →
    Res esc S (Exs E) (examplesLoop n acc' t) (examplesLoop m acc s) := by
  intro n
  induction n with
  | zero => intro m h t s _ _ _ _; exact Res.zero h fun h0 => by subst h0; rfl
  | succ n ih =>
    intro m h t s hS acc' acc hacc
    obtain ⟨m', rfl, h'⟩ := h.succ
    rw [examplesLoop, examplesLoop, I.cur hS]
    cases s.cur with
    | none => exact Res.error _
    | some c =>
      simp only
      refine Res.ite (fun _ => ?_) fun _ => Res.ok hacc hS
      exact (I.exmpl hS).bind fun _ _ _ _ he h1 => ih m' h' h1 (hacc.snoc he)

section
variable (I : ReadsRaw esc S D E) {n m : Nat} (hf : Fu esc n m) {t s : PS} (hS : S t s)
include I hf hS

theorem parseRelated_res : Res esc S Eq (parseRelated n t) (parseRelated m s) := by
  unfold parseRelated
  rw [curIs_congr (I.cur hS)]
  refine Res.ite (fun _ => ?_) fun _ => Res.ok rfl hS
  exact (I.consume hS _).bind_eq fun _ _ _ h1 => parseIds_res I.toReads hf h1

theorem parseSuperiors_res : Res esc S Eq (parseSuperiors n t) (parseSuperiors m s) := by
  unfold parseSuperiors
  refine (I.consume hS _).bind_eq fun _ _ _ h1 => ?_
  refine (parseIds_res I.toReads hf h1).bind_eq fun _ _ _ h2 => ?_
  simp only [ruleByName_congr (I.rules h2)]
  refine Res.ite (fun _ => Res.error _) fun _ => ?_
  exact Res.bind_pure fun _ => Res.ok rfl h2

/-- the value relation of `parseMeta` -/
def MetaRelG (D : List String → List String → Prop) (E : Example → Example → Prop)
    (x' x : List String × List Example × List String × List String) : Prop :=
  D x'.1 x.1 ∧ Exs E x'.2.1 x.2.1 ∧ x'.2.2 = x.2.2

theorem parseMeta_res (hD : D [] []) : Res esc S (MetaRelG D E) (parseMeta n t) (parseMeta m s) := by
  unfold parseMeta
  have hd : Res esc S D (if t.curIs .description = true then parseDescription t else pure ([], t))
      (if s.curIs .description = true then parseDescription s else pure ([], s)) := by
    rw [curIs_congr (I.cur hS)]
    exact Res.ite (fun _ => I.descr hS) fun _ => Res.ok hD hS
  refine hd.bind fun _ _ _ _ hd h1 => ?_
  refine (examplesLoop_res I n m hf h1 .nil).bind fun _ _ _ _ hex h2 => ?_
  refine (parseRelated_res I hf h2).bind_eq fun _ t3 s3 h3 => ?_
  simp only [I.cur h3]
  refine Res.ite (fun _ => Res.error _) fun _ => ?_
  have hs : Res esc S Eq (if t3.curIs .superiors = true then parseSuperiors n t3 else pure ([], t3))
      (if s3.curIs .superiors = true then parseSuperiors m s3 else pure ([], s3)) := by
    rw [curIs_congr (I.cur h3)]
    exact Res.ite (fun _ => parseSuperiors_res I hf h3) fun _ => Res.ok rfl h3
  exact hs.bind_eq fun _ _ _ h4 => Res.ok ⟨hd, hex, rfl⟩ h4

theorem parseExtenders_res : Res esc S Eq (parseExtenders n t) (parseExtenders m s) := by
  unfold parseExtenders
  rw [curIs_congr (I.cur hS)]
  refine Res.ite (fun _ => ?_) fun _ => Res.ok rfl hS
  refine (I.consume hS _).bind_eq fun _ _ s1 h1 => ?_
  simp only [I.cur h1]
  cases s1.cur with
  | none => exact Res.error _
  | some c =>
    simp only
    refine Res.ite (fun _ => ?_) fun _ => Res.ite (fun _ => ?_) fun _ => Res.error _
    · refine ((blockRes I.toReads n m hf).cds h1).bind_eq fun _ _ _ h2 => ?_
      exact Res.bind_pure fun _ => Res.ok rfl h2
    · refine ((blockRes I.toReads n m hf).single false h1).bind_eq fun _ _ s2 h2 => ?_
      simp only [I.cur h2]
      cases s2.cur with
      | none => exact Res.ok rfl h2
      | some c' => exact Res.ite (fun _ => Res.error _) fun _ => Res.ok rfl h2

theorem parseRuleWith_res (hD : D [] []) (cfg : Cfg) :
    Res esc S (RuleRelG D E) (parseRuleWith n cfg t) (parseRuleWith m cfg s) := by
  unfold parseRuleWith
  refine (parseHead_res I.toReads hS cfg).bind_eq fun _ _ _ h1 => ?_
  refine (parseMeta_res I hf h1 hD).bind fun _ _ _ _ hm h2 => ?_
  refine (parseDistances_res I.toReads h2).bind_eq fun _ _ _ h3 => ?_
  refine (I.consume h3 _).bind_eq fun _ _ _ h4 => ?_
  refine ((blockRes I.toReads n m hf).conds true false h4).bind_eq fun _ _ _ h5 => ?_
  refine Res.bind_pure fun _ => ?_
  refine (parseExtenders_res I hf h5).bind_eq fun _ _ _ h6 => ?_
  simp only [ruleEnd_congr (I.cur h6)]
  refine Res.bind_pure fun _ => ?_
  refine Res.ite (fun _ => Res.error _) fun _ => Res.ite (fun _ => Res.error _) fun _ => ?_
  exact Res.ok ⟨rfl, rfl, rfl, rfl, rfl, congrArg (·.2) hm.2.2, congrArg (·.1) hm.2.2, rfl, hm.1, hm.2.1⟩ h6
end

/-! ### the diagonal: what `consume` keeps, every parser function keeps -/

/-- both runs are the same run, from a state reachable from `s₀` by `T` -/
def Diag (T : PS → PS → Prop) (s₀ t s : PS) : Prop := t = s ∧ T s₀ s

theorem Res.diag {T : PS → PS → Prop} (tr : ∀ {a b c}, T a b → T b c → T a c) {α} {s₀ s : PS}
    {x : Except Err (α × PS)} (h : ∀ a s', x = .ok (a, s') → T s s') (hT : T s₀ s) :
    Res False (Diag T s₀) Eq x x := by
  cases x with
  | error e => exact Res.error e
  | ok p => exact Res.ok rfl ⟨rfl, tr hT (h p.1 p.2 rfl)⟩

theorem readsRawDiag {T : PS → PS → Prop} (tr : ∀ {a b c}, T a b → T b c → T a c)
    (hc : ∀ {x s c s'}, consume x s = .ok (c, s') → T s s')
    (hfl : ∀ {s : PS} {c : Tok}, s.cur = some c → T s { s with cur := some { c with aliased := true } })
    (hd : ∀ {s d s'}, parseDescription s = .ok (d, s') → T s s')
    (he : ∀ {s e s'}, parseExample s = .ok (e, s') → T s s') (s₀ : PS) :
    ReadsRaw False (Diag T s₀) Eq Eq where
  cur h := h.1 ▸ rfl
  rules h := h.1 ▸ rfl
  flag h _ hc := ⟨by rw [h.1], tr h.2 (hfl hc)⟩
  consume h _ := by obtain ⟨rfl, hT⟩ := h; exact Res.diag @tr (fun _ _ => hc) hT
  descr h := by obtain ⟨rfl, hT⟩ := h; exact Res.diag @tr (fun _ _ => hd) hT
  exmpl h := by obtain ⟨rfl, hT⟩ := h; exact Res.diag @tr (fun _ _ => he) hT

/-- a function that respects `Diag T s` for its own start state `s` ends in a state `T`-reachable from it -/
theorem Res.diag_elim {T : PS → PS → Prop} (rf : ∀ s, T s s) {α} {R : α → α → Prop} {s s' : PS} {a : α}
    {f : PS → Except Err (α × PS)} (h : ∀ {t}, Diag T s t s → Res False (Diag T s) R (f t) (f s))
    (hx : f s = .ok (a, s')) : T s s' := by
  have := h ⟨rfl, rf s⟩
  rw [hx] at this
  rcases this with ⟨h, _⟩ | h
  · exact h.elim
  · exact h.2.2

end ASV.Parser
