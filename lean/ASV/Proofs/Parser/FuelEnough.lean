/-
  C02, fuel (`fuel_enough_conditions`, `fuel_enough_rule`): on an alias-free state every call of the condition parser consumes a
  token before it recurses, so fuel `3 · (unread tokens) + 3` is never exhausted.
-/
import ASV.Proofs.Parser.Complete
import ASV.Proofs.Parser.Alias
namespace ASV.Parser
open ASV ASV.Rules ASV.Grammar

theorem nf_bind {α β} {x : Except Err α} {k : α → Except Err β} (h1 : x ≠ .error .fuel)
    (h2 : ∀ a, x = .ok a → k a ≠ .error .fuel) : (x >>= k) ≠ .error .fuel := by
  cases x with
  | error e =>
    intro h
    have : e = .fuel := by simpa [bind, Except.bind] using h
    subst this; exact h1 rfl
  | ok a => exact h2 a rfl

theorem advance_nf (s : PS) : s.advance ≠ .error .fuel := by
  unfold PS.advance
  split
  · simp
  · split
    · split
      · split <;> simp
      · simp
    · simp

theorem consume_nf (t : TT) (s : PS) : consume t s ≠ .error .fuel := by
  unfold consume
  split
  · simp
  · split
    · simp
    · exact nf_bind (advance_nf _) fun _ _ => by simp [pure, Except.pure]

theorem consumeId_nf (s : PS) : consumeId s ≠ .error .fuel := by
  unfold consumeId
  exact nf_bind (consume_nf _ _) fun _ _ => by simp [pure, Except.pure]

theorem consumeInt_nf (s : PS) : consumeInt s ≠ .error .fuel := by
  unfold consumeInt
  exact nf_bind (consume_nf _ _) fun _ _ => by simp [pure, Except.pure]

theorem isNot_nf (s : PS) : isNot s ≠ .error .fuel := by
  unfold isNot
  split
  · exact nf_bind (consume_nf _ _) fun _ _ => by simp [pure, Except.pure]
  · simp

theorem checkOperands_nf (l : List Cond) : checkOperands l ≠ .error .fuel := by
  unfold checkOperands; split <;> simp
theorem mkGroup_nf (b : Bool) (l : List Cond) : mkGroup b l ≠ .error .fuel := by
  unfold mkGroup; exact nf_bind (checkOperands_nf _) fun _ _ => by simp [pure, Except.pure]
theorem mkCds_nf (b : Bool) (l : List Cond) : mkCds b l ≠ .error .fuel := by
  unfold mkCds; exact nf_bind (checkOperands_nf _) fun _ _ => by simp [pure, Except.pure]
theorem mkConj_nf (l : List Cond) : mkConj l ≠ .error .fuel := by
  unfold mkConj; exact nf_bind (checkOperands_nf _) fun _ _ => by simp [pure, Except.pure]
theorem mkMinimum_nf (b : Bool) (c : Nat) (l : List String) : mkMinimum b c l ≠ .error .fuel := by
  unfold mkMinimum; repeat' split
  all_goals simp
theorem endCheck_nf (g : Bool) (s : PS) : endCheck g s ≠ .error .fuel := by
  unfold endCheck
  repeat' split
  all_goals simp

theorem parseScore_nf (neg : Bool) (s : PS) : parseScore neg s ≠ .error .fuel := by
  unfold parseScore
  refine nf_bind (consume_nf _ _) fun _ _ => ?_
  refine nf_bind (consume_nf _ _) fun _ _ => ?_
  refine nf_bind (consumeId_nf _) fun _ _ => ?_
  refine nf_bind (consume_nf _ _) fun _ _ => ?_
  refine nf_bind (consumeInt_nf _) fun _ _ => ?_
  refine nf_bind (consume_nf _ _) fun _ _ => ?_
  simp [pure, Except.pure]

/-! ### progress on alias-free states -/

/-- alias-free, with at most `p` unread tokens -/
def AF (s : PS) (p : Nat) : Prop := s.aliases = [] ∧ s.pending ≤ p

theorem AF.step {s s' : PS} {new : List Tok} {p : Nat} (h : AF s p) (a : Adv s s' new) :
    AF s' (p - new.length) := by
  obtain ⟨h1, h2⟩ := h
  have := a.pot h1
  exact ⟨by rw [a.aliases, h1], by omega⟩

theorem AF.mono {s : PS} {p q : Nat} (h : AF s p) (hq : p ≤ q) : AF s q := ⟨h.1, Nat.le_trans h.2 hq⟩

/-- a step that consumed something lowers the bound -/
theorem AF.step_pos {s s' : PS} {new : List Tok} {p : Nat} (h : AF s p) (a : Adv s s' new) (hl : 1 ≤ new.length) :
    AF s' (p - 1) ∧ 1 ≤ p := by
  have := a.pot h.1
  exact ⟨(h.step a).mono (by omega), by have := h.2; omega⟩

theorem AF.consume {s s' : PS} {t : TT} {c : Tok} {p : Nat} (h : AF s p) (hc : consume t s = .ok (c, s')) :
    AF s' (p - 1) ∧ 1 ≤ p :=
  h.step_pos (consume_post hc).1 (Nat.le_refl 1)

theorem AF.consumeId {s s' : PS} {n : String} {p : Nat} (h : AF s p) (hc : consumeId s = .ok (n, s')) :
    AF s' (p - 1) ∧ 1 ≤ p := by
  obtain ⟨c, a, _⟩ := consumeId_post hc
  exact h.step_pos a (Nat.le_refl 1)

theorem AF.consumeInt {s s' : PS} {n : Nat} {p : Nat} (h : AF s p) (hc : consumeInt s = .ok (n, s')) :
    AF s' (p - 1) ∧ 1 ≤ p := by
  obtain ⟨c, a, _⟩ := consumeInt_post hc
  exact h.step_pos a (Nat.le_refl 1)

theorem AF.isNot {s s' : PS} {b : Bool} {p : Nat} (h : AF s p) (hc : isNot s = .ok (b, s')) : AF s' p := by
  obtain ⟨new, a, _⟩ := isNot_post hc
  exact (h.step a).mono (by omega)

theorem ks_length (new : List Tok) : (ks new).length = new.length := by simp [ks]

theorem AF.single {fuel : Nat} {allow : Bool} {s s' : PS} {c : Cond} {p : Nat} (h : AF s p)
    (hc : parseSingle fuel allow s = .ok (c, s')) : AF s' (p - 1) ∧ 1 ≤ p := by
  obtain ⟨new, a, k, _, hat⟩ := (blockPost fuel).single _ _ _ _ hc
  have hne : 1 ≤ new.length := by
    have := flatC_atom_ne_nil hat
    rw [← k] at this
    have hl := ks_length new
    cases hn : ks new with
    | nil => exact absurd hn this
    | cons _ _ => rw [hn] at hl; simp at hl; omega
  exact h.step_pos a hne

theorem idsLoop_nf : ∀ (n : Nat) (acc : List String) (s : PS) (p : Nat), AF s p → p + 1 ≤ n →
    idsLoop n acc s ≠ .error .fuel := by
  intro n
  induction n with
  | zero => intro acc s p _ h; omega
  | succ n ih =>
    intro acc s p hp hn
    rw [idsLoop]
    split
    · refine nf_bind (consume_nf _ _) fun x h1 => ?_
      obtain ⟨c, s1⟩ := x
      obtain ⟨hp1, _⟩ := hp.consume h1
      refine nf_bind (consumeId_nf _) fun y h2 => ?_
      obtain ⟨m, s2⟩ := y
      obtain ⟨hp2, _⟩ := hp1.consumeId h2
      exact ih _ s2 (p - 1 - 1) hp2 (by omega)
    · simp

theorem parseIds_nf {n : Nat} {s : PS} {p : Nat} (hp : AF s p) (hn : p + 1 ≤ n) : parseIds n s ≠ .error .fuel := by
  unfold parseIds
  refine nf_bind (consumeId_nf _) fun x h1 => ?_
  obtain ⟨m, s1⟩ := x
  obtain ⟨hp1, _⟩ := hp.consumeId h1
  exact idsLoop_nf n _ s1 (p - 1) hp1 (by omega)

theorem parseMinimum_nf {n : Nat} {neg : Bool} {s : PS} {p : Nat} (hp : AF s p) (hn : p + 1 ≤ n) :
    parseMinimum n neg s ≠ .error .fuel := by
  unfold parseMinimum parseList
  refine nf_bind (consume_nf _ _) fun x h1 => ?_
  obtain ⟨hp1, _⟩ := hp.consume h1
  refine nf_bind (consume_nf _ _) fun x h2 => ?_
  obtain ⟨hp2, _⟩ := hp1.consume h2
  refine nf_bind (consumeInt_nf _) fun x h3 => ?_
  obtain ⟨hp3, _⟩ := hp2.consumeInt h3
  refine nf_bind (consume_nf _ _) fun x h4 => ?_
  obtain ⟨hp4, _⟩ := hp3.consume h4
  refine nf_bind ?_ fun x _ => ?_
  · refine nf_bind (consume_nf _ _) fun x h5 => ?_
    obtain ⟨hp5, _⟩ := hp4.consume h5
    refine nf_bind (parseIds_nf hp5 (by omega)) fun x _ => ?_
    refine nf_bind (consume_nf _ _) fun x _ => ?_
    simp [pure, Except.pure]
  · refine nf_bind (consume_nf _ _) fun x _ => ?_
    refine nf_bind (mkMinimum_nf _ _ _) fun x _ => ?_
    simp [pure, Except.pure]

theorem AF.ands {fuel : Nat} {allow : Bool} {lv : Cond} {s s' : PS} {c : Cond} {p : Nat} (h : AF s p)
    (hc : parseAnds fuel lv allow s = .ok (c, s')) : AF s' (p - 1) ∧ 1 ≤ p := by
  obtain ⟨new, more, _, hne, a, k, _, _⟩ := (blockPost fuel).ands _ _ _ _ _ hc
  have hl : 1 ≤ new.length := by
    have hl := ks_length new
    rw [k] at hl
    cases more with
    | nil => exact absurd rfl hne
    | cons x xs => simp [joinTail] at hl; omega
  exact h.step_pos a hl

theorem AF.conds {fuel : Nat} {allow g : Bool} {s s' : PS} {c : List Cond} {p : Nat} (h : AF s p)
    (hc : parseConditions fuel allow g s = .ok (c, s')) : AF s' p := by
  obtain ⟨new, a, _⟩ := (blockPost fuel).conds _ _ _ _ _ hc
  exact (h.step a).mono (by omega)

theorem AF.andLoop {fuel : Nat} {allow : Bool} {acc : List Cond} {s s' : PS} {c : List Cond} {p : Nat} (h : AF s p)
    (hc : andLoop fuel allow acc s = .ok (c, s')) : AF s' p := by
  obtain ⟨new, _, _, a, _⟩ := (blockPost fuel).andLoop _ _ _ _ _ hc
  exact (h.step a).mono (by omega)

structure BlockNF (n : Nat) : Prop where
  single : ∀ (allow : Bool) (s : PS) (p : Nat), AF s p → 3 * p + 2 ≤ n → parseSingle n allow s ≠ .error .fuel
  group : ∀ (allow : Bool) (s : PS) (p : Nat), AF s p → 3 * p + 1 ≤ n → parseGroup n allow s ≠ .error .fuel
  cds : ∀ (s : PS) (p : Nat), AF s p → 3 * p + 1 ≤ n → parseCds n s ≠ .error .fuel
  conds : ∀ (allow g : Bool) (s : PS) (p : Nat), AF s p → 3 * p + 3 ≤ n →
    parseConditions n allow g s ≠ .error .fuel
  loop : ∀ (allow : Bool) (acc : List Cond) (lv : Cond) (pe : Bool) (s : PS) (p : Nat), AF s p → 3 * p + 3 ≤ n →
    condLoop n allow acc lv pe s ≠ .error .fuel
  ands : ∀ (lv : Cond) (allow : Bool) (s : PS) (p : Nat), AF s p → 3 * p + 2 ≤ n →
    parseAnds n lv allow s ≠ .error .fuel
  andLoop : ∀ (allow : Bool) (acc : List Cond) (s : PS) (p : Nat), AF s p → 3 * p + 2 ≤ n →
    andLoop n allow acc s ≠ .error .fuel

theorem blockNF (n : Nat) : BlockNF n := by
  induction n with
  | zero => constructor <;> intros <;> omega
  | succ n ih =>
    constructor
    · intro allow s p hp hn
      rw [parseSingle]
      refine nf_bind (isNot_nf _) fun x h1 => ?_
      obtain ⟨neg, s1⟩ := x
      have hp1 := hp.isNot h1
      simp only
      split
      · simp
      · split
        · refine nf_bind (ih.group _ s1 p hp1 (by omega)) fun _ _ => ?_
          exact nf_bind (mkGroup_nf _ _) fun _ _ => by simp [pure, Except.pure]
        · split
          · exact parseMinimum_nf hp1 (by omega)
          · split
            · refine nf_bind (ih.cds s1 p hp1 (by omega)) fun _ _ => ?_
              exact nf_bind (mkCds_nf _ _) fun _ _ => by simp [pure, Except.pure]
            · split
              · exact parseScore_nf _ _
              · exact nf_bind (consumeId_nf _) fun _ _ => by simp [pure, Except.pure]
    · intro allow s p hp hn
      rw [parseGroup]
      refine nf_bind (consume_nf _ _) fun x h1 => ?_
      obtain ⟨hp1, _⟩ := hp.consume h1
      refine nf_bind (ih.conds _ _ _ (p - 1) hp1 (by omega)) fun x _ => ?_
      exact nf_bind (consume_nf _ _) fun _ _ => by simp [pure, Except.pure]
    · intro s p hp hn
      rw [parseCds]
      refine nf_bind (consume_nf _ _) fun x h1 => ?_
      obtain ⟨hp1, _⟩ := hp.consume h1
      refine nf_bind (consume_nf _ _) fun x h2 => ?_
      obtain ⟨hp2, _⟩ := hp1.consume h2
      refine nf_bind (ih.conds _ _ _ (p - 1 - 1) hp2 (by omega)) fun x _ => ?_
      simp only
      split
      · simp
      · exact nf_bind (consume_nf _ _) fun _ _ => by simp [pure, Except.pure]
    · intro allow g s p hp hn
      rw [parseConditions]
      split
      · simp
      · refine nf_bind (ih.single _ s p hp (by omega)) fun x h1 => ?_
        obtain ⟨hp1, _⟩ := hp.single h1
        refine nf_bind (ih.loop _ _ _ _ _ (p - 1) hp1 (by omega)) fun x _ => ?_
        exact nf_bind (endCheck_nf _ _) fun _ _ => by simp [pure, Except.pure]
    · intro allow acc lv pe s p hp hn
      rw [condLoop]
      split
      · refine nf_bind (ih.ands _ _ s p hp (by omega)) fun x h1 => ?_
        obtain ⟨hp1, _⟩ := hp.ands h1
        exact ih.loop _ _ _ _ _ (p - 1) hp1 (by omega)
      · split
        · refine nf_bind (consume_nf _ _) fun x h1 => ?_
          obtain ⟨hp1, _⟩ := hp.consume h1
          refine nf_bind (ih.single _ _ (p - 1) hp1 (by omega)) fun x h2 => ?_
          obtain ⟨hp2, _⟩ := hp1.single h2
          exact ih.loop _ _ _ _ _ (p - 1 - 1) hp2 (by omega)
        · simp
    · intro lv allow s p hp hn
      rw [parseAnds]
      refine nf_bind (consume_nf _ _) fun x h1 => ?_
      obtain ⟨hp1, _⟩ := hp.consume h1
      refine nf_bind (ih.single _ _ (p - 1) hp1 (by omega)) fun x h2 => ?_
      obtain ⟨hp2, _⟩ := hp1.single h2
      refine nf_bind (ih.andLoop _ _ _ (p - 1 - 1) hp2 (by omega)) fun x _ => ?_
      exact nf_bind (mkConj_nf _) fun _ _ => by simp [pure, Except.pure]
    · intro allow acc s p hp hn
      rw [andLoop]
      split
      · refine nf_bind (consume_nf _ _) fun x h1 => ?_
        obtain ⟨hp1, _⟩ := hp.consume h1
        refine nf_bind (ih.single _ _ (p - 1) hp1 (by omega)) fun x h2 => ?_
        obtain ⟨hp2, _⟩ := hp1.single h2
        exact ih.andLoop _ _ _ (p - 1 - 1) hp2 (by omega)
      · simp

theorem skipFree_nf (s : PS) : skipFree s ≠ .error .fuel := by
  unfold skipFree
  repeat' split
  all_goals simp [pure, Except.pure]

theorem exampleRange_nf (d : String) (v : Nat) (r : String) : exampleRange d v r ≠ .error .fuel := by
  unfold exampleRange
  repeat' split
  all_goals simp [pure, Except.pure]

theorem parseExample_nf (s : PS) : parseExample s ≠ .error .fuel := by
  unfold parseExample mkExample
  refine nf_bind (consume_nf _ _) fun _ _ => ?_
  refine nf_bind (consumeId_nf _) fun _ _ => ?_
  refine nf_bind (consumeId_nf _) fun _ _ => ?_
  refine nf_bind (consume_nf _ _) fun _ _ => ?_
  refine nf_bind (consumeInt_nf _) fun _ _ => ?_
  refine nf_bind (consume_nf _ _) fun _ _ => ?_
  refine nf_bind (skipFree_nf _) fun _ _ => ?_
  refine nf_bind ?_ fun _ _ => by simp [pure, Except.pure]
  exact nf_bind (exampleRange_nf _ _ _) fun _ _ => by simp [pure, Except.pure]

theorem examplesLoop_nf : ∀ (n : Nat) (acc : List Example) (s : PS) (p : Nat), AF s p → p + 1 ≤ n →
    examplesLoop n acc s ≠ .error .fuel := by
  intro n
  induction n with
  | zero => intro acc s p _ h; omega
  | succ n ih =>
    intro acc s p hp hn
    rw [examplesLoop]
    split
    · simp
    · split
      · refine nf_bind (parseExample_nf _) fun x h1 => ?_
        obtain ⟨e, s1⟩ := x
        obtain ⟨new, a, hne⟩ := parseExample_adv h1
        have hl : 1 ≤ new.length := by cases new <;> simp_all
        have := a.pot hp.1
        have := hp.2
        exact ih _ s1 (p - 1) ((hp.step a).mono (by omega)) (by omega)
      · simp

theorem parseDescription_nf (s : PS) : parseDescription s ≠ .error .fuel := by
  unfold parseDescription
  refine nf_bind (consume_nf _ _) fun _ _ => ?_
  try simp only
  repeat' split
  all_goals simp [pure, Except.pure]

theorem parseRelated_nf {n : Nat} {s : PS} {p : Nat} (hp : AF s p) (hn : p + 1 ≤ n) :
    parseRelated n s ≠ .error .fuel := by
  unfold parseRelated
  split
  · refine nf_bind (consume_nf _ _) fun x h1 => ?_
    obtain ⟨hp1, _⟩ := hp.consume h1
    exact parseIds_nf hp1 (by omega)
  · simp [pure, Except.pure]

theorem parseSuperiors_nf {n : Nat} {s : PS} {p : Nat} (hp : AF s p) (hn : p + 1 ≤ n) :
    parseSuperiors n s ≠ .error .fuel := by
  rw [parseSuperiors_eq]
  refine nf_bind (consume_nf _ _) fun x h1 => ?_
  obtain ⟨hp1, _⟩ := hp.consume h1
  refine nf_bind (parseIds_nf hp1 (by omega)) fun x _ => ?_
  try simp only
  split
  · simp
  · split <;> simp [pure, Except.pure]

theorem parseHead_nf (cfg : Cfg) (s : PS) : parseHead cfg s ≠ .error .fuel := by
  unfold parseHead
  refine nf_bind (consume_nf _ _) fun _ _ => ?_
  try simp only
  split
  · simp
  · refine nf_bind (consumeId_nf _) fun _ _ => ?_
    try simp only
    split
    · simp
    · refine nf_bind (consume_nf _ _) fun _ _ => ?_
      refine nf_bind (consumeId_nf _) fun _ _ => ?_
      try simp only
      repeat' split
      all_goals simp [pure, Except.pure]

theorem parseDistances_nf (s : PS) : parseDistances s ≠ .error .fuel := by
  unfold parseDistances
  refine nf_bind (consume_nf _ _) fun _ _ => ?_
  refine nf_bind (consumeInt_nf _) fun _ _ => ?_
  refine nf_bind (consume_nf _ _) fun _ _ => ?_
  refine nf_bind (consumeInt_nf _) fun _ _ => ?_
  simp [pure, Except.pure]

theorem parseMeta_nf {n : Nat} {s : PS} {p : Nat} (hp : AF s p) (hn : p + 1 ≤ n) :
    parseMeta n s ≠ .error .fuel := by
  unfold parseMeta
  refine nf_bind ?_ fun x h1 => ?_
  · split
    · exact parseDescription_nf _
    · simp [pure, Except.pure]
  obtain ⟨d, s1⟩ := x
  have hp1 : AF s1 p := by
    split at h1
    · obtain ⟨_, a⟩ := parseDescription_adv h1; exact (hp.step a).mono (by omega)
    · cases h1; exact hp
  refine nf_bind (examplesLoop_nf n _ s1 p hp1 hn) fun x h2 => ?_
  obtain ⟨ex, s2⟩ := x
  obtain ⟨_, a2⟩ := examplesLoop_adv n h2
  have hp2 : AF s2 p := (hp1.step a2).mono (by omega)
  refine nf_bind (parseRelated_nf hp2 hn) fun x h3 => ?_
  obtain ⟨rel, s3⟩ := x
  obtain ⟨_, a3⟩ := parseRelated_adv h3
  have hp3 : AF s3 p := (hp2.step a3).mono (by omega)
  try simp only
  split
  · simp
  · refine nf_bind ?_ fun _ _ => by simp [pure, Except.pure]
    split
    · exact parseSuperiors_nf hp3 hn
    · simp [pure, Except.pure]

theorem parseExtenders_nf {n : Nat} {s : PS} {p : Nat} (hp : AF s p) (hn : 3 * p + 2 ≤ n) :
    parseExtenders n s ≠ .error .fuel := by
  unfold parseExtenders
  split
  · refine nf_bind (consume_nf _ _) fun x h1 => ?_
    obtain ⟨hp1, _⟩ := hp.consume h1
    try simp only
    split
    · simp
    · split
      · refine nf_bind ((blockNF n).cds _ (p - 1) hp1 (by omega)) fun _ _ => ?_
        exact nf_bind (mkCds_nf _ _) fun _ _ => by simp [pure, Except.pure]
      · split
        · refine nf_bind ((blockNF n).single _ _ (p - 1) hp1 (by omega)) fun _ _ => ?_
          try simp only
          repeat' split
          all_goals simp [pure, Except.pure]
        · simp
  · simp [pure, Except.pure]

theorem ruleEnd_nf (s : PS) : ruleEnd s ≠ .error .fuel := by
  unfold ruleEnd
  repeat' split
  all_goals simp [pure, Except.pure]

/-- on an alias-free state with at most `p` unread tokens, fuel `3p + 3` suffices for a rule -/
theorem parseRuleWith_nf {n : Nat} {cfg : Cfg} {s : PS} {p : Nat} (hp : AF s p) (hn : 3 * p + 3 ≤ n) :
    parseRuleWith n cfg s ≠ .error .fuel := by
  unfold parseRuleWith
  refine nf_bind (parseHead_nf _ _) fun x h1 => ?_
  obtain ⟨⟨name, cat⟩, s1⟩ := x
  obtain ⟨⟨_, a1, _⟩, _⟩ := parseHead_post h1
  have hp1 : AF s1 p := (hp.step a1).mono (by omega)
  refine nf_bind (parseMeta_nf hp1 (by omega)) fun x h2 => ?_
  obtain ⟨m, s2⟩ := x
  obtain ⟨_, a2⟩ := parseMeta_adv h2
  have hp2 : AF s2 p := (hp1.step a2).mono (by omega)
  refine nf_bind (parseDistances_nf _) fun x h3 => ?_
  obtain ⟨d, s3⟩ := x
  obtain ⟨_, a3⟩ := parseDistances_adv h3
  have hp3 : AF s3 p := (hp2.step a3).mono (by omega)
  refine nf_bind (consume_nf _ _) fun x h4 => ?_
  obtain ⟨hp4, _⟩ := hp3.consume h4
  refine nf_bind ((blockNF n).conds _ _ _ (p - 1) hp4 (by omega)) fun x h5 => ?_
  have hp5 := hp4.conds h5
  refine nf_bind (mkGroup_nf _ _) fun _ _ => ?_
  refine nf_bind (parseExtenders_nf hp5 (by omega)) fun _ _ => ?_
  refine nf_bind (ruleEnd_nf _) fun _ _ => ?_
  repeat' split
  all_goals simp [pure, Except.pure]

end ASV.Parser
