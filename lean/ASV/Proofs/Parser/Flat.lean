/-
  C02: pure facts about the flattening `flatC` (which identifiers it mentions, that it holds no
  rule keyword), about `find_condition_identifiers`, `sorted(set(..))` and the SUPERIORS invariant.
-/
import ASV.Proofs.Parser.Post
namespace ASV.Parser
open ASV ASV.Rules ASV.Grammar

/-! ### identifiers and keywords in a flattening -/

theorem mem_flatIds {p : String} {opts : List String} (h : p ∈ opts) : kId p ∈ flatIds opts := by
  induction opts with
  | nil => cases h
  | cons a rest ih =>
    rw [flatIds_cons]
    rcases List.mem_cons.mp h with rfl | h
    · simp
    · cases rest with
      | nil => cases h
      | cons b r =>
        have := ih h
        rw [flatIds_cons] at this
        simp only [idsTail, List.flatMap_cons, List.mem_cons, List.mem_append] at this ⊢
        rcases this with h1 | h1
        · right; left; right; left; exact h1
        · right; right; simpa [idsTail] using h1

theorem flatIds_noKeyword {opts : List String} : ∀ k ∈ flatIds opts, k.type.isRuleKeyword = false := by
  induction opts with
  | nil => simp [flatIds]
  | cons a rest ih =>
    cases rest with
    | nil => simp [flatIds, kId, TT.isRuleKeyword]
    | cons b r =>
      intro k hk
      rw [flatIds] at hk
      · simp only [List.mem_cons] at hk
        rcases hk with rfl | rfl | hk
        · simp [kId, TT.isRuleKeyword]
        · simp [kOf, TT.isRuleKeyword]
        · exact ih k hk
      · simp

theorem flatNot_noKeyword {neg : Bool} : ∀ k ∈ flatNot neg, k.type.isRuleKeyword = false := by
  cases neg <;> simp [flatNot, kOf, TT.isRuleKeyword]

mutual
theorem profiles_in_flat (p : String) : ∀ c : Cond, p ∈ c.profiles → kId p ∈ flatC c
  | .single neg n, h => by simp [Cond.profiles] at h; subst h; simp [flatC]
  | .score neg n s, h => by simp [Cond.profiles] at h; subst h; simp [flatC]
  | .minimum neg c opts, h => by
      simp [Cond.profiles] at h
      simp [flatC, mem_flatIds h]
  | .cds neg subs, h => by
      simp [Cond.profiles] at h
      simp [flatC, profilesL_in_flat p .orOp subs h]
  | .group neg subs, h => by
      simp [Cond.profiles] at h
      simp [flatC, profilesL_in_flat p .orOp subs h]
  | .conj subs, h => by
      simp [Cond.profiles] at h
      simp [flatC, profilesL_in_flat p .andOp subs h]
theorem profilesL_in_flat (p : String) (op : TT) : ∀ cs : List Cond, p ∈ profilesL cs → kId p ∈ flatJoin op cs
  | [], h => by simp [profilesL] at h
  | c :: cs, h => by
      simp [profilesL] at h
      rw [flatJoin_cons]
      rcases h with h | h
      · exact List.mem_append_left _ (profiles_in_flat p c h)
      · have := profilesL_in_flat p op cs h
        cases cs with
        | nil => simp [profilesL] at h
        | cons d ds =>
          rw [joinTail_eq op (by simp)]
          exact List.mem_append_right _ (List.mem_cons_of_mem _ this)
end

mutual
theorem flatC_noKeyword : ∀ c : Cond, ∀ k ∈ flatC c, k.type.isRuleKeyword = false
  | .single neg n, k, h => by
      simp [flatC] at h
      rcases h with h | rfl
      · exact flatNot_noKeyword k h
      · simp [kId, TT.isRuleKeyword]
  | .score neg n s, k, h => by
      simp [flatC] at h
      rcases h with h | rfl | rfl | rfl | rfl | rfl | rfl <;>
        first | exact flatNot_noKeyword k h | simp [kId, kOf, kInt, TT.isRuleKeyword]
  | .minimum neg c opts, k, h => by
      simp [flatC] at h
      rcases h with h | rfl | rfl | rfl | rfl | rfl | h | rfl | rfl <;>
        first | exact flatNot_noKeyword k h | exact flatIds_noKeyword k h | simp [kId, kOf, kInt, TT.isRuleKeyword]
  | .cds neg subs, k, h => by
      simp [flatC] at h
      rcases h with h | rfl | rfl | h | rfl <;>
        first | exact flatNot_noKeyword k h | exact flatJoin_noKeyword .orOp (by decide) subs k h
              | simp [kOf, TT.isRuleKeyword]
  | .group neg subs, k, h => by
      simp [flatC] at h
      rcases h with h | rfl | h | rfl <;>
        first | exact flatNot_noKeyword k h | exact flatJoin_noKeyword .orOp (by decide) subs k h
              | simp [kOf, TT.isRuleKeyword]
  | .conj subs, k, h => by
      simp [flatC] at h
      exact flatJoin_noKeyword .andOp (by decide) subs k h
theorem flatJoin_noKeyword (op : TT) (hop : op.isRuleKeyword = false) :
    ∀ cs : List Cond, ∀ k ∈ flatJoin op cs, k.type.isRuleKeyword = false
  | [], k, h => by simp [flatJoin] at h
  | c :: cs, k, h => by
      rw [flatJoin_cons] at h
      rcases List.mem_append.mp h with h | h
      · exact flatC_noKeyword c k h
      · cases cs with
        | nil => simp [joinTail] at h
        | cons d ds =>
          rw [joinTail_eq op (by simp)] at h
          rcases List.mem_cons.mp h with rfl | h
          · simpa [kOf] using hop
          · exact flatJoin_noKeyword op hop (d :: ds) k h
end

/-! ### `find_condition_identifiers` -/

def idsOf (m : List Tok) : List String := (m.filter (·.type == .identifier)).map (·.text)

theorem idsOf_cons (t : Tok) (ts : List Tok) :
    idsOf (t :: ts) = if t.type == .identifier then t.text :: idsOf ts else idsOf ts := by
  simp only [idsOf, List.filter_cons]
  split <;> rfl

/-- over tokens that are no rule keywords the flag stays as it is, and identifiers are collected
    only while it is set -/
theorem condIds_append (m q : List Tok) (b : Bool) (h : ∀ t ∈ m, t.type.isRuleKeyword = false) :
    conditionIdentifiers (m ++ q) b = (if b then idsOf m else []) ++ conditionIdentifiers q b := by
  induction m with
  | nil => cases b <;> rfl
  | cons t ts ih =>
    have ht := h t List.mem_cons_self
    have hc : (t.type == .conditions) = false := by
      cases hb : t.type == .conditions with
      | false => rfl
      | true => rw [eq_of_beq hb] at ht; cases ht
    rw [List.cons_append, conditionIdentifiers, ih fun x hx => h x (List.mem_cons_of_mem t hx), idsOf_cons]
    simp only [hc, ht, Bool.false_eq_true, if_false]
    cases b <;> cases t.type == .identifier <;> rfl

theorem condIds_after (p : List Tok) (c : Tok) (rest : List Tok) (hc : c.type = .conditions) (b : Bool)
    (x : String) (hx : x ∈ conditionIdentifiers rest true) : x ∈ conditionIdentifiers (p ++ c :: rest) b := by
  induction p generalizing b with
  | nil => simpa [conditionIdentifiers, hc] using hx
  | cons t ts ih =>
    simp only [List.cons_append, conditionIdentifiers]
    split
    · exact ih true
    · split
      · exact ih false
      · split
        · exact List.mem_cons_of_mem _ (ih b)
        · exact ih b

/-- every profile of the parsed conditions is among the identifiers recorded for its section -/
theorem profiles_recorded {p q m : List Tok} {c : Tok} {subs : List Cond} {b : Bool}
    (hc : c.type = .conditions) (hm : m.map Tok.key = flatJoin .orOp subs) (x : String)
    (hx : x ∈ profilesL subs) : x ∈ conditionIdentifiers (p ++ c :: m ++ q) b := by
  have hk : ∀ t ∈ m, t.type.isRuleKeyword = false := by
    intro t ht
    have : t.key ∈ flatJoin .orOp subs := by rw [← hm]; exact List.mem_map_of_mem ht
    simpa [Tok.key] using flatJoin_noKeyword .orOp (by decide) subs _ this
  have : kId x ∈ m.map Tok.key := by rw [hm]; exact profilesL_in_flat x .orOp subs hx
  obtain ⟨t, ht, hkey⟩ := List.mem_map.mp this
  have hty : t.type = .identifier := by
    have := congrArg Key.type hkey; simpa [Tok.key, kId] using this
  have htx : t.text = x := by
    have := congrArg Key.text hkey; simpa [Tok.key, kId, hty] using this
  have : x ∈ idsOf m := by
    simp only [idsOf, List.mem_map, List.mem_filter]
    exact ⟨t, ⟨ht, by simp [hty]⟩, htx⟩
  have h1 : x ∈ conditionIdentifiers (m ++ q) true := by
    rw [condIds_append m q true hk]; exact List.mem_append_left _ this
  have := condIds_after p c (m ++ q) hc b x h1
  simpa using this

/-! ### `sorted(set(…))` -/

theorem mem_insertStr {x a : String} {l : List String} : x ∈ insertStr a l ↔ x = a ∨ x ∈ l := by
  induction l with
  | nil => simp [insertStr]
  | cons y ys ih =>
    simp only [insertStr]
    split
    · simp
    · split
      · rename_i h; have : a = y := by simpa using h
        subst this; simp
      · simp [ih]; constructor
        · rintro (h | h | h) <;> simp [h]
        · rintro (h | h | h) <;> simp [h]

theorem mem_sortDedupStr {x : String} {l : List String} : x ∈ sortDedupStr l ↔ x ∈ l := by
  induction l with
  | nil => simp [sortDedupStr]
  | cons a as ih =>
    have : sortDedupStr (a :: as) = insertStr a (sortDedupStr as) := rfl
    rw [this, mem_insertStr, ih]; simp

theorem hasDupStr_false_iff {l : List String} : hasDupStr l = false ↔ l.Nodup := by
  induction l with
  | nil => simp [hasDupStr]
  | cons a as ih => simp [hasDupStr, ih]

/-! ### SUPERIORS -/

def supOf (rules : List Rule) (n : String) : List String :=
  match rules.find? (·.name == n) with
  | some p => p.superiors
  | none => []

/-- the fold of `_parse_superiors` that gathers the parents' superiors -/
theorem supFold_eq (rules : List Rule) : ∀ (l acc : List String),
    l.foldlM (fun (acc : List String) name =>
      match rules.find? (·.name == name) with
      | none => (.error .value : Except Err (List String))
      | some r => .ok (acc ++ r.superiors)) acc =
    if l.all (fun n => (rules.find? (·.name == n)).isSome) then .ok (acc ++ l.flatMap (supOf rules))
    else .error .value := by
  intro l
  induction l with
  | nil => intro acc; simp [pure, Except.pure]
  | cons n ns ih =>
    intro acc
    rw [List.foldlM_cons]
    cases hf : rules.find? (·.name == n) with
    | none => simp [hf, bind, Except.bind]
    | some p =>
      simp only [bind, Except.bind, ih]
      simp [hf, supOf]

/-- `_parse_superiors`: the declared names, none twice, all of them rules stored before, closed by one step -/
theorem parseSuperiors_eq (fuel : Nat) (s : PS) :
    parseSuperiors fuel s = (do
      let (_, s) ← consume .superiors s
      let (sup, s) ← parseIds fuel s
      if hasDupStr sup then .error .value
      else if sup.all (fun n => (s.rules.find? (·.name == n)).isSome) then
        pure (sortDedupStr (sup ++ sup.flatMap (supOf s.rules)), s)
      else .error .value) := by
  unfold parseSuperiors
  refine bind_congr fun ⟨_, s1⟩ => bind_congr fun ⟨sup, s2⟩ => ?_
  simp only
  split
  · rfl
  · -- the `match` inside `parseSuperiors` is another auxiliary than the one in `supFold_eq`, so `rw` does not see it
    refine (congrArg (· >>= fun trans => pure (sortDedupStr (sup ++ trans), s2)) (supFold_eq s2.rules sup [])).trans ?_
    split <;> rfl

theorem supClosedFrom_append (e l : List Rule) (r : Rule) :
    supClosedFrom e (l ++ [r]) = (supClosedFrom e l && supOk (e ++ l) r) := by
  induction l generalizing e with
  | nil => simp [supClosedFrom]
  | cons x xs ih => simp [supClosedFrom, ih, Bool.and_assoc]

/-- the invariant in the form the proofs use -/
def SupInv (rules : List Rule) : Prop :=
  ∀ p ∈ rules, ∀ m ∈ p.superiors, ∃ q, rules.find? (·.name == m) = some q ∧ ∀ x ∈ q.superiors, x ∈ p.superiors

theorem supOk_iff {e : List Rule} {r : Rule} :
    supOk e r = true ↔ ∀ m ∈ r.superiors, ∃ q, e.find? (·.name == m) = some q ∧ ∀ x ∈ q.superiors, x ∈ r.superiors := by
  unfold supOk
  simp only [List.all_eq_true]
  constructor
  · intro h m hm
    have := h m hm
    split at this
    · rename_i q hq; exact ⟨q, hq, by simpa using this⟩
    · cases this
  · intro h m hm
    obtain ⟨q, hq, hs⟩ := h m hm
    simp [hq]; exact hs

theorem supInv_of_closedFrom (e l : List Rule) (h : supClosedFrom e l = true) :
    ∀ p ∈ l, ∀ m ∈ p.superiors, ∃ q, (e ++ l).find? (·.name == m) = some q ∧ ∀ x ∈ q.superiors, x ∈ p.superiors := by
  induction l generalizing e with
  | nil => intro p hp; cases hp
  | cons r rest ih =>
    simp only [supClosedFrom, Bool.and_eq_true] at h
    intro p hp m hm
    rcases List.mem_cons.mp hp with rfl | hp
    · obtain ⟨q, hq, hs⟩ := supOk_iff.mp h.1 m hm
      exact ⟨q, by simp [List.find?_append, hq], hs⟩
    · have := ih (e ++ [r]) (by simpa using h.2) p hp m hm
      simpa using this

theorem supInv_of_closed {rules : List Rule} (h : supClosed rules = true) : SupInv rules := by
  have := supInv_of_closedFrom [] rules h
  simpa [SupInv] using this

end ASV.Parser
