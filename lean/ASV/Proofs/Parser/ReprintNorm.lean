/-
  C02 thm 7, the normal form: `normC c` prints exactly like `c`, has the documented shape and no
  repeated operand when `c` does, and has the same (C01) meaning as `c`.
-/
import ASV.Proofs.Parser.ReprintTokens

namespace ASV.Reprint
open ASV ASV.Rules ASV.Parser ASV.Grammar

@[simp] theorem printJoin_single (sep : List Char) (x : Cond) : printJoin sep [x] = printChars x := by
  simp [printJoin]
@[simp] theorem joinTexts_single (op : String) (x : Cond) : joinTexts op [x] = printTexts x := by
  simp [joinTexts]
@[simp] theorem normL_single (x : Cond) : normL [x] = [normC x] := by simp [normL]
theorem printJoin_cons2 (sep : List Char) (c d : Cond) (r : List Cond) :
    printJoin sep (c :: d :: r) = printChars c ++ sep ++ printJoin sep (d :: r) := by
  rw [printJoin]; simp
theorem normL_cons (x : Cond) (l : List Cond) : normL (x :: l) = normC x :: normL l := by simp [normL]

/-- `normC` on a group of one operand, by the cases of the printer -/
theorem normC_group_one (neg : Bool) (x : Cond) :
    normC (.group neg [x]) =
      if Cond.isConj x then .group neg [normC x]
      else if neg && (printTexts x).head? == some "not" then .group true [normC x]
      else if neg then setNeg (normC x) else normC x := by
  cases hc : Cond.isConj x <;>
    simp [normC, isSingleton, hc, normL, unwrap, joinTexts]

theorem notParC_eq : notParC = notSp ++ ['('] := by decide

/-- a group object that the printer would not print without its parentheses -/
def tight : Cond → Bool
  | .group false [y] => Cond.isConj y
  | _ => true

theorem tight_setNeg (a : Cond) : tight (setNeg a) = true := by
  cases a <;> simp [setNeg, tight]

theorem printChars_setNeg {a : Cond} (hc : Cond.isConj a = false) (hn : negFlag a = false) (ht : tight a = true) :
    printChars (setNeg a) = notSpC ++ printChars a := by
  cases a with
  | conj l => simp [Cond.isConj] at hc
  | single neg n => simp only [negFlag] at hn; subst hn; simp [setNeg, printChars, notPrefix]
  | score neg n s => simp only [negFlag] at hn; subst hn; simp [setNeg, printChars, notPrefix]
  | minimum neg c o => simp only [negFlag] at hn; subst hn; simp [setNeg, printChars, notPrefix]
  | cds neg l => simp only [negFlag] at hn; subst hn; simp [setNeg, printChars, notPrefix]
  | group neg l =>
    simp only [negFlag] at hn; subst hn
    have hcond : (isSingleton l && !(l.all Cond.isConj)) = false := by
      match l, ht with
      | [], _ => rfl
      | [y], ht => simp only [tight] at ht; simp [isSingleton, ht]
      | _ :: _ :: _, _ => rfl
    simp [setNeg, printChars, hcond, notPrefix]

theorem str_lt_of_not {x y : String} (h1 : ¬ x < y) (h2 : x ≠ y) : y < x := by
  have hyx : y ≤ x := String.not_lt.mp h1
  cases Decidable.em (y < x) with
  | inl h => exact h
  | inr h => exact absurd (String.le_antisymm (String.not_lt.mp h) hyx) h2

theorem sorted_insertStr (x : String) : ∀ (l : List String), l.Pairwise (· < ·) → (insertStr x l).Pairwise (· < ·) := by
  intro l
  induction l with
  | nil => intro _; simp [insertStr]
  | cons y ys ih =>
    intro hs
    rw [List.pairwise_cons] at hs
    simp only [insertStr]
    split
    · rename_i hxy
      rw [List.pairwise_cons]
      refine ⟨?_, List.pairwise_cons.mpr hs⟩
      intro z hz
      rcases List.mem_cons.mp hz with rfl | hz
      · exact hxy
      · exact String.lt_trans hxy (hs.1 z hz)
    · rename_i hxy
      split
      · exact List.pairwise_cons.mpr hs
      · rename_i hne
        rw [List.pairwise_cons]
        refine ⟨?_, ih hs.2⟩
        intro z hz
        rcases mem_insertStr.mp hz with rfl | hz
        · exact str_lt_of_not hxy (by simpa using hne)
        · exact hs.1 z hz

theorem sortDedupStr_sorted (l : List String) : (sortDedupStr l).Pairwise (· < ·) := by
  induction l with
  | nil => simp [sortDedupStr]
  | cons a r ih => exact sorted_insertStr a _ ih

theorem sortDedupStr_of_sorted : ∀ (l : List String), l.Pairwise (· < ·) → sortDedupStr l = l := by
  intro l
  induction l with
  | nil => intro _; rfl
  | cons a r ih =>
    intro hs
    rw [List.pairwise_cons] at hs
    have : sortDedupStr (a :: r) = insertStr a (sortDedupStr r) := rfl
    rw [this, ih hs.2]
    cases r with
    | nil => rfl
    | cons y ys => simp [insertStr, hs.1 y (by simp)]

theorem sortDedup_idem (l : List String) : sortDedupStr (sortDedupStr l) = sortDedupStr l :=
  sortDedupStr_of_sorted _ (sortDedupStr_sorted l)

theorem isGroup_normC_of_not {g : Cond} (h : Cond.isGroup g = false) : Cond.isGroup (normC g) = false := by
  cases g with
  | group neg l => simp [Cond.isGroup] at h
  | cds neg l => simp only [normC]; split <;> rfl
  | single _ _ => rfl
  | score _ _ _ => rfl
  | minimum _ _ _ => rfl
  | conj _ => rfl

mutual
theorem print_norm : ∀ c : Cond, NamesOk c → printChars (normC c) = printChars c ∧ tight (normC c) = true
  | .single neg n, _ => ⟨rfl, rfl⟩
  | .score neg n s, _ => ⟨rfl, rfl⟩
  | .minimum neg c opts, _ => by
      refine ⟨?_, rfl⟩
      simp only [normC, printChars, sortDedup_idem]
  | .cds neg subs, h => by
      have hnl : NamesOkL subs := by simpa [NamesOk, NamesOkL, Cond.profiles] using h
      have hl := print_normL subs hnl orSep
      refine ⟨?_, by simp only [normC]; split <;> rfl⟩
      simp only [normC, ← cds_test_chars subs hnl]
      by_cases hcond : (isSingleton subs && subs.all Cond.isGroup && !((printJoin orSep subs).head? == some '(')) = true
      · simp only [hcond, ↓reduceIte]
        match subs, hcond, hl, hnl with
        | [g], hcond, hl, hnl =>
          simp only [isSingleton, List.all_cons, List.all_nil, Bool.and_true, Bool.true_and, Bool.and_eq_true,
            Bool.not_eq_true', printJoin_single] at hcond
          have hg : Cond.isConj g = false := by cases g <;> simp_all [Cond.isGroup, Cond.isConj]
          have hng : NamesOk g := by intro n hn; exact hnl n (by simp [profilesL, hn])
          have hncj : Cond.isConj (normC g) = false := ((keys_normC g hng).2 hg).2
          have hpg : printChars (normC g) = printChars g := by simpa using hl
          have hinner : printChars (.group false [normC g]) = printChars g := by
            simp only [printChars, isSingleton, List.all_cons, List.all_nil, Bool.and_true, hncj, Bool.not_false,
              Bool.true_and, ↓reduceIte, Bool.false_and, Bool.false_eq_true, notPrefix, List.nil_append,
              printJoin_single, hpg]
          simp only [normL_single]
          have hGg : Cond.isGroup (Cond.group false [normC g]) = true := rfl
          generalize Cond.group false [normC g] = G at hinner hGg ⊢
          simp only [printChars, printJoin_single, hinner, isSingleton, List.all_cons, List.all_nil,
            Bool.and_true, Bool.true_and, hGg, hcond.1, hcond.2, Bool.not_false, ↓reduceIte]
        | [], hcond, _, _ => simp [isSingleton] at hcond
        | _ :: _ :: _, hcond, _, _ => simp [isSingleton] at hcond
      · have hcond' : (isSingleton subs && subs.all Cond.isGroup && !((printJoin orSep subs).head? == some '(')) = false :=
          Bool.eq_false_iff.mpr hcond
        simp only [hcond', Bool.false_eq_true, ↓reduceIte]
        have hsame : (isSingleton (normL subs) && (normL subs).all Cond.isGroup &&
            !((printJoin orSep subs).head? == some '(')) = false := by
          match subs, hcond' with
          | [], _ => rfl
          | _ :: _ :: _, _ => rfl
          | [g], hcond' =>
            by_cases hgg : Cond.isGroup g = true
            · simp only [isSingleton, List.all_cons, List.all_nil, Bool.and_true, Bool.true_and, hgg] at hcond'
              simp only [normL_single, isSingleton, List.all_cons, List.all_nil, Bool.and_true, Bool.true_and, hcond',
                Bool.and_false]
            · have := isGroup_normC_of_not (Bool.eq_false_iff.mpr hgg)
              simp [isSingleton, this]
        simp only [printChars, hl, hsame, hcond', Bool.false_eq_true, ↓reduceIte]
  | .group neg [], _ => ⟨by simp [normC, isSingleton, normL], by cases neg <;> simp [normC, isSingleton, normL, tight]⟩
  | .group neg [x], h => by
      have hx : NamesOk x := by intro n hn; exact h n (by simp [Cond.profiles, profilesL, hn])
      obtain ⟨px, tx⟩ := print_norm x hx
      by_cases hc : Cond.isConj x = true
      · obtain ⟨l, rfl⟩ : ∃ l, x = .conj l := by cases x <;> simp [Cond.isConj] at hc ⊢
        refine ⟨?_, ?_⟩
        · simp only [normC, isSingleton, List.all_cons, List.all_nil, Cond.isConj, Bool.and_true, Bool.not_true,
            Bool.and_false, Bool.false_eq_true, ↓reduceIte, printChars, normL_single, printJoin_single] at px ⊢
          rw [px]
        · simp only [normC, isSingleton, List.all_cons, List.all_nil, Cond.isConj, Bool.and_true, Bool.not_true,
            Bool.and_false, Bool.false_eq_true, ↓reduceIte, normL_single]
          cases neg <;> simp [tight, Cond.isConj]
      · have hc' : Cond.isConj x = false := Bool.eq_false_iff.mpr hc
        obtain ⟨hhead, hnc⟩ := (keys_normC x hx).2 hc'
        have hfc := (first_chars x hx hc').1
        rw [← lit_notsp] at hfc
        cases neg with
        | false =>
          refine ⟨?_, ?_⟩
          · simp only [normC, isSingleton, List.all_cons, List.all_nil, hc', Bool.and_true, Bool.not_false, Bool.true_and,
              ↓reduceIte, Bool.false_and, Bool.false_eq_true, normL_single, unwrap, printChars, printJoin_single, notPrefix,
              List.nil_append, px]
          · simpa only [normC, isSingleton, List.all_cons, List.all_nil, hc', Bool.and_true, Bool.not_false, Bool.true_and,
              ↓reduceIte, Bool.false_and, Bool.false_eq_true, normL_single, unwrap] using tx
        | true =>
          by_cases hd : ((printTexts x).head? == some "not") = true
          · have hdc : notSpC.isPrefixOf (printChars x) = true := by rw [hfc]; exact hd
            refine ⟨?_, ?_⟩
            · simp only [normC, isSingleton, List.all_cons, List.all_nil, hc', Bool.and_true, Bool.not_false, Bool.true_and,
                ↓reduceIte, joinTexts_single, hd, normL_single, printChars, printJoin_single, hnc, px, hdc]
            · simp only [normC, isSingleton, List.all_cons, List.all_nil, hc', Bool.and_true, Bool.not_false, Bool.true_and,
                ↓reduceIte, joinTexts_single, hd, normL_single, tight]
          · have hd' : ((printTexts x).head? == some "not") = false := Bool.eq_false_iff.mpr hd
            have hdc : notSpC.isPrefixOf (printChars x) = false := by rw [hfc]; exact hd'
            have hflag : negFlag (normC x) = false := by rw [← hhead]; exact hd'
            refine ⟨?_, ?_⟩
            · simp only [normC, isSingleton, List.all_cons, List.all_nil, hc', Bool.and_true, Bool.not_false, Bool.true_and,
                ↓reduceIte, joinTexts_single, hd', Bool.and_false, Bool.false_eq_true, normL_single, unwrap,
                printChars_setNeg hnc hflag tx, px, printChars, printJoin_single, hdc, notPrefix]
            · simp only [normC, isSingleton, List.all_cons, List.all_nil, hc', Bool.and_true, Bool.not_false, Bool.true_and,
                ↓reduceIte, joinTexts_single, hd', Bool.and_false, Bool.false_eq_true, normL_single, unwrap, tight_setNeg]
  | .group neg (x :: y :: r), h => by
      have hl := print_normL (x :: y :: r) (by simpa [NamesOk, NamesOkL, Cond.profiles] using h) orSep
      refine ⟨?_, ?_⟩
      · simp only [normC, isSingleton, Bool.false_and, Bool.false_eq_true, ↓reduceIte, printChars, normL_cons] at hl ⊢
        rw [hl]
      · simp only [normC, isSingleton, Bool.false_and, Bool.false_eq_true, ↓reduceIte, normL_cons]
        cases neg <;> simp [tight]
  | .conj subs, h => by
      have hl := print_normL subs (by simpa [NamesOk, NamesOkL, Cond.profiles] using h) andSep
      exact ⟨by simp only [normC, printChars, hl], rfl⟩
theorem print_normL : ∀ (l : List Cond), NamesOkL l → ∀ sep : List Char, printJoin sep (normL l) = printJoin sep l
  | [], _, _ => rfl
  | [c], h, sep => by
      have := (print_norm c (by intro n hn; exact h n (by simp [profilesL, hn]))).1
      simp [this]
  | c :: d :: r, h, sep => by
      have h1 := (print_norm c (by intro n hn; exact h n (by simp [profilesL, hn]))).1
      have h2 := print_normL (d :: r) (by intro n hn; exact h n (by simp [profilesL] at hn ⊢; exact Or.inr hn)) sep
      simp only [normL_cons] at h2 ⊢
      rw [printJoin_cons2, printJoin_cons2, h1, h2]
end

/-- the normalised operands print like the originals, so they repeat nothing either -/
theorem printConds_normL (l : List Cond) (h : NamesOkL l) : printConds (normL l) = printConds l := by
  induction l with
  | nil => rfl
  | cons c r ih =>
    have h1 := (print_norm c (by intro n hn; exact h n (by simp [profilesL, hn]))).1
    have h2 := ih (by intro n hn; exact h n (by simp [profilesL] at hn ⊢; exact Or.inr hn))
    simp only [printConds, normL_cons, List.map_cons, printCond, h1] at h2 ⊢
    rw [h2]

theorem shapeOk_setNeg (allow : Bool) (a : Cond) : shapeOk allow (setNeg a) = shapeOk allow a := by
  cases a <;> simp [setNeg, shapeOk]
theorem noRepeat_setNeg (a : Cond) : noRepeat (setNeg a) = noRepeat a := by
  cases a <;> simp [setNeg, noRepeat]

theorem normL_length (l : List Cond) : (normL l).length = l.length := by
  induction l with
  | nil => rfl
  | cons c r ih => simp [normL_cons, ih]

theorem normL_isEmpty (l : List Cond) : (normL l).isEmpty = l.isEmpty := by
  cases l <;> simp [normL]

/-- only a lone identifier, or a parenthesised chain ending in one, normalises to an identifier -/
theorem lone_normL {subs : List Cond} (hn : NamesOkL subs) (h : loneIdentifier (normL subs) = true) :
    loneIdentifier subs = true ∨
      (isSingleton subs && subs.all Cond.isGroup && !((joinTexts "or" subs).head? == some "(")) = true := by
  match subs, hn, h with
  | [], _, h => simp [normL, loneIdentifier] at h
  | _ :: _ :: _, _, h => simp [normL_cons, loneIdentifier] at h
  | [g], hn, h =>
    have hng : NamesOk g := by intro n hx; exact hn n (by simp [profilesL, hx])
    simp only [normL_single] at h
    cases g with
    | single a b => left; rfl
    | score _ _ _ => simp [normC, loneIdentifier] at h
    | minimum _ _ _ => simp [normC, loneIdentifier] at h
    | conj _ => simp [normC, loneIdentifier] at h
    | cds neg l =>
      exfalso
      simp only [normC] at h
      split at h <;> simp [loneIdentifier] at h
    | group neg l =>
      right
      obtain ⟨a, b, hab⟩ : ∃ a b, normC (.group neg l) = .single a b := by
        cases hx : normC (.group neg l) <;> simp_all [loneIdentifier]
      have hk := (keys_normC _ hng).1
      rw [hab] at hk
      simp only [isSingleton, List.all_cons, List.all_nil, Cond.isGroup, Bool.and_true, Bool.true_and,
        joinTexts_single, Bool.not_eq_true']
      cases ht : printTexts (.group neg l) with
      | nil => rfl
      | cons t ts =>
        rw [ht] at hk
        simp only [List.map_cons, flatC] at hk
        cases hto : t == "(" with
        | false => simp [hto]
        | true =>
          exfalso
          have : t = "(" := by simpa using hto
          subst this
          cases a <;> simp [flatNot, tk_open, kOf, kId] at hk

mutual
theorem good_norm : ∀ (c : Cond) (allow : Bool), NamesOk c → shapeOk allow c = true → noRepeat c = true →
    shapeOk allow (normC c) = true ∧ noRepeat (normC c) = true
  | .single neg n, _, _, hs, hr => ⟨hs, hr⟩
  | .score neg n s, _, _, hs, hr => ⟨hs, hr⟩
  | .minimum neg c opts, allow, _, hs, hr => by
      simp only [shapeOk, Bool.and_eq_true, Bool.not_eq_true', List.isEmpty_eq_false_iff] at hs
      simp only [noRepeat, Bool.and_eq_true, Bool.not_eq_true', decide_eq_true_eq] at hr
      refine ⟨?_, ?_⟩
      · simp only [normC, shapeOk, hs.1, Bool.true_and, Bool.not_eq_true', List.isEmpty_eq_false_iff]
        obtain ⟨a, ha⟩ := List.exists_mem_of_ne_nil _ hs.2
        intro he
        have := mem_sortDedupStr.mpr ha
        rw [he] at this; cases this
      · simp only [normC, noRepeat, Bool.and_eq_true, Bool.not_eq_true', decide_eq_true_eq]
        refine ⟨?_, hr.2⟩
        rw [hasDupStr_false_iff]
        exact (sortDedupStr_sorted opts).imp (fun h => String.ne_of_lt h)
  | .cds neg subs, allow, h, hs, hr => by
      have hnl : NamesOkL subs := by simpa [NamesOk, NamesOkL, Cond.profiles] using h
      simp only [shapeOk, Bool.and_eq_true, Bool.not_eq_true', List.isEmpty_eq_false_iff] at hs
      simp only [noRepeat, Bool.and_eq_true, Bool.not_eq_true'] at hr
      obtain ⟨⟨⟨hal, hne⟩, hsub⟩, hlone⟩ := hs
      obtain ⟨gs, gr⟩ := goods_norm subs false hnl hsub hr.2
      have hemp : (normL subs).isEmpty = false := by
        rw [normL_isEmpty]; cases subs <;> simp_all
      have hdup : hasDupStr (printConds (normL subs)) = false := by rw [printConds_normL subs hnl]; exact hr.1
      simp only [normC]
      split
      · refine ⟨?_, ?_⟩
        · simp [shapeOk, shapeOks, hal, hemp, gs, loneIdentifier]
        · have hdup' : hasDupStr (List.map printCond (normL subs)) = false := hdup
          simp [noRepeat, noRepeats, hasDupStr, printConds, hdup', gr]
      · rename_i hcond
        refine ⟨?_, ?_⟩
        · have hl : loneIdentifier (normL subs) = false := by
            cases hx : loneIdentifier (normL subs) with
            | false => rfl
            | true =>
              rcases lone_normL hnl hx with h1 | h1
              · rw [hlone] at h1; cases h1
              · exact absurd h1 hcond
          simp [shapeOk, hal, hemp, gs, hl]
        · simp [noRepeat, hdup, gr]
  | .group neg [], _, _, hs, _ => by simp [shapeOk] at hs
  | .group neg [x], allow, h, hs, hr => by
      have hx : NamesOk x := by intro n hn; exact h n (by simp [Cond.profiles, profilesL, hn])
      simp only [shapeOk, shapeOks, Bool.and_eq_true, Bool.not_eq_true', List.isEmpty_cons, Bool.and_true, Bool.true_and]
        at hs
      simp only [noRepeat, noRepeats, Bool.and_eq_true, Bool.not_eq_true', Bool.and_true] at hr
      obtain ⟨sx, rx⟩ := good_norm x allow hx hs.2 hr.2
      rw [normC_group_one]
      split
      · exact ⟨by simp [shapeOk, shapeOks, sx], by simp [noRepeat, noRepeats, rx, hasDupStr, printConds]⟩
      · split
        · exact ⟨by simp [shapeOk, shapeOks, sx], by simp [noRepeat, noRepeats, rx, hasDupStr, printConds]⟩
        · split
          · exact ⟨by rw [shapeOk_setNeg]; exact sx, by rw [noRepeat_setNeg]; exact rx⟩
          · exact ⟨sx, rx⟩
  | .group neg (x :: y :: r), allow, h, hs, hr => by
      have hnl : NamesOkL (x :: y :: r) := by simpa [NamesOk, NamesOkL, Cond.profiles] using h
      simp only [shapeOk, Bool.and_eq_true, Bool.not_eq_true'] at hs
      simp only [noRepeat, Bool.and_eq_true, Bool.not_eq_true'] at hr
      obtain ⟨gs, gr⟩ := goods_norm (x :: y :: r) allow hnl hs.2 hr.2
      have hdup : hasDupStr (printConds (normL (x :: y :: r))) = false := by rw [printConds_normL _ hnl]; exact hr.1
      simp only [normC, isSingleton, Bool.false_and, Bool.false_eq_true, ↓reduceIte]
      exact ⟨by simp only [normL_cons] at gs ⊢; simp [shapeOk, gs], by simp [noRepeat, hdup, gr]⟩
  | .conj subs, allow, h, hs, hr => by
      have hnl : NamesOkL subs := by simpa [NamesOk, NamesOkL, Cond.profiles] using h
      simp only [shapeOk, Bool.and_eq_true, decide_eq_true_eq] at hs
      simp only [noRepeat, Bool.and_eq_true, Bool.not_eq_true'] at hr
      obtain ⟨gs, gr⟩ := goods_norm subs allow hnl hs.2 hr.2
      have hdup : hasDupStr (printConds (normL subs)) = false := by rw [printConds_normL subs hnl]; exact hr.1
      have hat : (normL subs).all Cond.isAtomish = true := atomish_normL subs hnl hs.1.2
      simp only [normC]
      exact ⟨by simp [shapeOk, normL_length, hs.1.1, hat, gs], by simp [noRepeat, hdup, gr]⟩
theorem goods_norm : ∀ (l : List Cond) (allow : Bool), NamesOkL l → shapeOks allow l = true → noRepeats l = true →
    shapeOks allow (normL l) = true ∧ noRepeats (normL l) = true
  | [], _, _, _, _ => ⟨rfl, rfl⟩
  | c :: r, allow, h, hs, hr => by
      simp only [shapeOks, Bool.and_eq_true] at hs
      simp only [noRepeats, Bool.and_eq_true] at hr
      obtain ⟨s1, r1⟩ := good_norm c allow (by intro n hn; exact h n (by simp [profilesL, hn])) hs.1 hr.1
      obtain ⟨s2, r2⟩ := goods_norm r allow (by intro n hn; exact h n (by simp [profilesL, hn])) hs.2 hr.2
      exact ⟨by simp [normL_cons, shapeOks, s1, s2], by simp [normL_cons, noRepeats, r1, r2]⟩
theorem atomish_normL : ∀ (l : List Cond), NamesOkL l → l.all Cond.isAtomish = true → (normL l).all Cond.isAtomish = true
  | [], _, _ => rfl
  | c :: r, h, hat => by
      simp only [List.all_cons, Bool.and_eq_true] at hat
      have hc : Cond.isConj c = false := by cases c <;> simp_all [Cond.isAtomish, Cond.isConj]
      have := ((keys_normC c (by intro n hn; exact h n (by simp [profilesL, hn]))).2 hc).2
      have h2 := atomish_normL r (by intro n hn; exact h n (by simp [profilesL, hn])) hat.2
      have hna : Cond.isAtomish (normC c) = true := by cases hx : normC c <;> simp_all [Cond.isAtomish, Cond.isConj]
      simp [normL_cons, hna, h2]
end

theorem perm_insertStr {x : String} {l : List String} (h : x ∉ l) : (insertStr x l).Perm (x :: l) := by
  induction l with
  | nil => simp [insertStr]
  | cons y ys ih =>
    simp only [insertStr]
    split
    · exact List.Perm.refl _
    · split
      · rename_i hxy
        have : x = y := by simpa using hxy
        subst this
        exact absurd (List.mem_cons_self) h
      · have hx : x ∉ ys := fun hm => h (List.mem_cons_of_mem _ hm)
        exact ((ih hx).cons y).trans (List.Perm.swap x y ys)

theorem perm_sortDedupStr : ∀ (l : List String), l.Nodup → (sortDedupStr l).Perm l := by
  intro l
  induction l with
  | nil => intro _; exact List.Perm.refl _
  | cons a r ih =>
    intro hn
    rw [List.nodup_cons] at hn
    have h1 : sortDedupStr (a :: r) = insertStr a (sortDedupStr r) := rfl
    rw [h1]
    have hnot : a ∉ sortDedupStr r := fun hm => hn.1 (mem_sortDedupStr.mp hm)
    exact (perm_insertStr hnot).trans ((ih hn.2).cons a)

theorem filter_length_sortDedup (p : String → Bool) (l : List String) (h : hasDupStr l = false) :
    ((sortDedupStr l).filter p).length = (l.filter p).length :=
  ((perm_sortDedupStr l (hasDupStr_false_iff.mp h)).filter p).length_eq

theorem sem_setNeg (e : Env) (g : Gene) {a : Cond} (hc : Cond.isConj a = false) (hn : negFlag a = false) :
    sem e g (setNeg a) = !sem e g a ∧ semLocal e g (setNeg a) = !semLocal e g a := by
  cases a <;> simp_all [negFlag, setNeg, sem, semLocal, Cond.isConj]

mutual
theorem sem_norm (e : Env) (g : Gene) : ∀ c : Cond, NamesOk c → noRepeat c = true →
    sem e g (normC c) = sem e g c ∧ semLocal e g (normC c) = semLocal e g c
  | .single neg n, _, _ => ⟨rfl, rfl⟩
  | .score neg n s, _, _ => ⟨rfl, rfl⟩
  | .minimum neg c opts, _, hr => by
      simp only [noRepeat, Bool.and_eq_true, Bool.not_eq_true'] at hr
      simp only [normC, sem, semLocal, filter_length_sortDedup _ opts hr.1]
      exact ⟨trivial, trivial⟩
  | .cds neg subs, h, hr => by
      have hnl : NamesOkL subs := by simpa [NamesOk, NamesOkL, Cond.profiles] using h
      simp only [noRepeat, Bool.and_eq_true] at hr
      have hl : ∀ g', semLocalAny e g' (normL subs) = semLocalAny e g' subs := fun g' =>
        (sem_normL e g' subs hnl hr.2).2.2.1
      simp only [normC]
      split
      · simp [sem, semLocal, semLocalAny, hl]
      · simp [sem, semLocal, hl]
  | .group neg [], _, _ => by simp [normC, isSingleton, normL]
  | .group neg [x], h, hr => by
      have hx : NamesOk x := by intro n hn; exact h n (by simp [Cond.profiles, profilesL, hn])
      simp only [noRepeat, noRepeats, Bool.and_eq_true, Bool.and_true] at hr
      obtain ⟨s1, s2⟩ := sem_norm e g x hx hr.2
      rw [normC_group_one]
      split
      · simp [sem, semLocal, semAny, semLocalAny, s1, s2]
      · rename_i hc
        obtain ⟨hhead, hnc⟩ := (keys_normC x hx).2 (Bool.eq_false_iff.mpr hc)
        split
        · rename_i hd
          simp only [Bool.and_eq_true] at hd
          obtain ⟨rfl, _⟩ := hd
          simp [sem, semLocal, semAny, semLocalAny, s1, s2]
        · rename_i hd
          split
          · rename_i hneg
            subst hneg
            have hd' : ((printTexts x).head? == some "not") = false := by
              simpa using hd
            have hflag : negFlag (normC x) = false := by rw [← hhead]; exact hd'
            obtain ⟨t1, t2⟩ := sem_setNeg e g hnc hflag
            simp [t1, t2, sem, semLocal, semAny, semLocalAny, s1, s2]
          · rename_i hneg
            have : neg = false := by simpa using hneg
            subst this
            simp [sem, semLocal, semAny, semLocalAny, s1, s2]
  | .group neg (x :: y :: r), h, hr => by
      have hnl : NamesOkL (x :: y :: r) := by simpa [NamesOk, NamesOkL, Cond.profiles] using h
      simp only [noRepeat, Bool.and_eq_true] at hr
      obtain ⟨a1, _, a3, _⟩ := sem_normL e g (x :: y :: r) hnl hr.2
      simp only [normC, isSingleton, Bool.false_and, Bool.false_eq_true, ↓reduceIte, sem, semLocal, a1, a3]
      exact ⟨trivial, trivial⟩
  | .conj subs, h, hr => by
      have hnl : NamesOkL subs := by simpa [NamesOk, NamesOkL, Cond.profiles] using h
      simp only [noRepeat, Bool.and_eq_true] at hr
      obtain ⟨_, a2, _, a4⟩ := sem_normL e g subs hnl hr.2
      simp only [normC, sem, semLocal, a2, a4]
      exact ⟨trivial, trivial⟩
theorem sem_normL (e : Env) (g : Gene) : ∀ l : List Cond, NamesOkL l → noRepeats l = true →
    semAny e g (normL l) = semAny e g l ∧ semAll e g (normL l) = semAll e g l ∧
    semLocalAny e g (normL l) = semLocalAny e g l ∧ semLocalAll e g (normL l) = semLocalAll e g l
  | [], _, _ => ⟨rfl, rfl, rfl, rfl⟩
  | c :: r, h, hr => by
      simp only [noRepeats, Bool.and_eq_true] at hr
      obtain ⟨s1, s2⟩ := sem_norm e g c (by intro n hn; exact h n (by simp [profilesL, hn])) hr.1
      obtain ⟨a1, a2, a3, a4⟩ := sem_normL e g r (by intro n hn; exact h n (by simp [profilesL, hn])) hr.2
      simp [normL_cons, semAny, semAll, semLocalAny, semLocalAll, s1, s2, a1, a2, a3, a4]
end

end ASV.Reprint
