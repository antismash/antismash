/-
  C02 thm 7, the printed condition and the tokeniser: the keys of the printed token sequence are
  the flattening of `normC c`; the first characters of a printed condition (the tests
  `startswith("not ")` and `startswith("(")` of the repaired `__str__`) agree with its first token;
  `printChars c` is the rendering of well-spaced layout items (written tokens with the filler before
  each) whose texts are `printTexts c`, hence the tokeniser returns exactly those tokens.
-/
import ASV.Spec.Reprint
import ASV.Proofs.Parser.Grammar
import ASV.Proofs.Parser.Tokeniser

namespace ASV.Reprint
open ASV ASV.Rules ASV.Parser ASV.Grammar

/-- the key of the token the tokeniser makes of a text -/
def tk (t : String) : Key := (mkTok t).key

/-- every profile name is an identifier for the tokeniser -/
def NamesOk (c : Cond) : Prop := ∀ n ∈ c.profiles, classify n = .identifier
def NamesOkL (l : List Cond) : Prop := ∀ n ∈ profilesL l, classify n = .identifier

theorem tk_not : tk "not" = kOf .notOp := by decide +kernel
theorem tk_and : tk "and" = kOf .andOp := by decide +kernel
theorem tk_or : tk "or" = kOf .orOp := by decide +kernel
theorem tk_open : tk "(" = kOf .groupOpen := by decide +kernel
theorem tk_close : tk ")" = kOf .groupClose := by decide +kernel
theorem tk_lopen : tk "[" = kOf .listOpen := by decide +kernel
theorem tk_lclose : tk "]" = kOf .listClose := by decide +kernel
theorem tk_comma : tk "," = kOf .comma := by decide +kernel
theorem tk_cds : tk "cds" = kOf .cds := by decide +kernel
theorem tk_minimum : tk "minimum" = kOf .minimum := by decide +kernel
theorem tk_minscore : tk "minscore" = kOf .score := by decide +kernel

theorem tk_name {n : String} (h : classify n = .identifier) : tk n = kId n := by
  simp [tk, mkTok, Tok.key, kId, h]

theorem name_ne_not {n : String} (h : classify n = .identifier) : (n == "not") = false := by
  cases hn : n == "not" with
  | false => rfl
  | true =>
    have : n = "not" := by simpa using hn
    subst this
    exact absurd h (by decide +kernel)

/-- no key of the symbol table consists of digits only -/
theorem mapping_keys_not_digits :
    Generated.RuleTokens.mapping.all (fun p => p.1.toList.any (fun c => !c.isDigit)) = true := by decide +kernel

theorem lookup_digits_none (d : String) (hd : d.toList.all Char.isDigit = true) :
    Generated.RuleTokens.mapping.lookup d = none := by
  have h := mapping_keys_not_digits
  generalize Generated.RuleTokens.mapping = l at h
  induction l with
  | nil => rfl
  | cons p ps ih =>
    obtain ⟨a, b⟩ := p
    simp only [List.all_cons, Bool.and_eq_true] at h
    simp only [List.lookup]
    have hne : (d == a) = false := by
      cases hda : d == a with
      | false => rfl
      | true =>
        have : d = a := by simpa using hda
        subst this
        obtain ⟨c, hc, hnd⟩ := List.any_eq_true.mp h.1
        have := List.all_eq_true.mp hd c hc
        simp [this] at hnd
    simp only [hne]
    exact ih h.2

theorem toDigits_ne_nil (v : Nat) : Nat.toDigits 10 v ≠ [] := by
  intro h
  have := congrArg List.length h
  have hl := Nat.length_toDigits_pos (b := 10) (n := v)
  simp at this

theorem tk_digits (d : String) (v : Nat) (hl : d.toList = Nat.toDigits 10 v) : tk d = kInt v := by
  have hd : d.toList.all Char.isDigit = true := by
    rw [hl, List.all_eq_true]
    intro c hc
    exact Nat.isDigit_of_mem_toDigits (by decide) (by decide) hc
  have hdig : isDigits d.toList = true := by
    simp only [isDigits, Bool.and_eq_true, Bool.not_eq_true', hd, and_true]
    rw [hl]
    cases h : Nat.toDigits 10 v with
    | nil => exact absurd h (toDigits_ne_nil v)
    | cons _ _ => rfl
  have hc : classify d = .int := by
    unfold classify keywordOf
    rw [lookup_digits_none _ hd]
    simp only [Option.bind_none, hdig, ↓reduceIte]
  have hv : digitsVal d.toList = v := by rw [hl]; exact digitsVal_toDigits v
  simp only [tk, mkTok, Tok.key, kInt, hc]
  simp [hv]

theorem tk_nat (v : Nat) : tk (toString v) = kInt v := tk_digits _ v Nat.toList_repr
theorem tk_repr (v : Nat) : tk v.repr = kInt v := tk_nat v

def negFlag : Cond → Bool
  | .single n _ => n
  | .score n _ _ => n
  | .minimum n _ _ => n
  | .cds n _ => n
  | .group n _ => n
  | .conj _ => false

theorem notT_keys (neg : Bool) : (notT neg).map tk = flatNot neg := by
  cases neg <;> simp [notT, flatNot, tk_not]

theorem idsT_keys (l : List String) (h : ∀ n ∈ l, classify n = .identifier) : (idsT l).map tk = flatIds l := by
  induction l with
  | nil => rfl
  | cons a rest ih =>
    cases rest with
    | nil => simp [idsT, flatIds, tk_name (h a (by simp))]
    | cons b r =>
      have := ih (fun n hn => h n (by simp [hn]))
      rw [idsT, flatIds]
      · simp [tk_name (h a (by simp)), tk_comma, this]
      · simp
      · simp

theorem flatC_setNeg {a : Cond} (hc : Cond.isConj a = false) (hn : negFlag a = false) :
    flatC (setNeg a) = kOf .notOp :: flatC a := by
  cases a <;> simp_all [negFlag, setNeg, flatC, flatNot, Cond.isConj]

theorem negFlag_setNeg {a : Cond} (hc : Cond.isConj a = false) : negFlag (setNeg a) = true := by
  cases a <;> simp_all [negFlag, setNeg, Cond.isConj]

theorem isConj_setNeg (a : Cond) : Cond.isConj (setNeg a) = Cond.isConj a := by
  cases a <;> rfl

theorem head_beq_cons (a : String) (l : List String) (b : String) : ((a :: l).head? == some b) = (a == b) := by
  simp

theorem head_notT_append (neg : Bool) (a : String) (l : List String) (ha : (a == "not") = false) :
    ((notT neg ++ a :: l).head? == some "not") = neg := by
  cases neg <;> simp [notT, ha]

theorem flatJoin_single (op : TT) (c : Cond) : flatJoin op [c] = flatC c := by simp [flatJoin]

mutual
theorem keys_normC : ∀ c : Cond, NamesOk c →
    (printTexts c).map tk = flatC (normC c) ∧
    (Cond.isConj c = false →
      ((printTexts c).head? == some "not") = negFlag (normC c) ∧ Cond.isConj (normC c) = false)
  | .single neg n, h => by
      have hn : classify n = .identifier := h n (by simp [Cond.profiles])
      refine ⟨by simp [printTexts, normC, flatC, notT_keys, tk_name hn], fun _ => ⟨?_, rfl⟩⟩
      simp only [printTexts, normC, negFlag]
      exact head_notT_append neg n [] (name_ne_not hn)
  | .score neg n s, h => by
      have hn : classify n = .identifier := h n (by simp [Cond.profiles])
      refine ⟨by simp [printTexts, normC, flatC, notT_keys, tk_name hn, tk_minscore, tk_open, tk_comma, tk_nat, tk_repr, tk_close],
        fun _ => ⟨?_, rfl⟩⟩
      simp only [printTexts, normC, negFlag]
      exact head_notT_append neg "minscore" _ (by decide)
  | .minimum neg c opts, h => by
      have hn : ∀ n ∈ sortDedupStr opts, classify n = .identifier := fun n hn =>
        h n (by simpa [Cond.profiles] using mem_sortDedupStr.mp hn)
      refine ⟨by simp [printTexts, normC, flatC, notT_keys, tk_minimum, tk_open, tk_comma, tk_nat, tk_repr, tk_close,
          tk_lopen, tk_lclose, idsT_keys _ hn], fun _ => ⟨?_, rfl⟩⟩
      simp only [printTexts, normC, negFlag, List.append_assoc, List.cons_append]
      exact head_notT_append neg "minimum" _ (by decide)
  | .cds neg subs, h => by
      have hl := keys_normL subs (by simpa [NamesOk, NamesOkL, Cond.profiles] using h) "or" .orOp tk_or
      refine ⟨?_, fun _ => ⟨?_, ?_⟩⟩
      · simp only [printTexts, normC]
        split
        · simp [flatC, notT_keys, tk_cds, tk_open, tk_close, hl, flatJoin_single, flatNot]
        · simp [flatC, notT_keys, tk_cds, tk_open, tk_close, hl]
      · have : ((printTexts (.cds neg subs)).head? == some "not") = neg := by
          simp only [printTexts, List.append_assoc, List.cons_append]
          exact head_notT_append neg "cds" _ (by decide)
        rw [this]
        simp only [normC]; split <;> rfl
      · simp only [normC]; split <;> rfl
  | .group neg [], h => by
      refine ⟨by simp [printTexts, normC, normL, joinTexts, isSingleton, flatC, flatJoin, notT_keys, tk_open, tk_close],
        fun _ => ⟨?_, rfl⟩⟩
      simp only [printTexts, normC, isSingleton, Bool.false_and, Bool.false_eq_true, ↓reduceIte, negFlag]
      simp only [List.append_assoc, List.cons_append]
      exact head_notT_append neg "(" _ (by decide)
  | .group neg [x], h => by
      have hx : NamesOk x := by
        intro n hn; exact h n (by simp [Cond.profiles, profilesL, hn])
      obtain ⟨kx, hxh⟩ := keys_normC x hx
      by_cases hc : Cond.isConj x = true
      · -- a single `and`-chain keeps its parentheses
        obtain ⟨l, rfl⟩ : ∃ l, x = .conj l := by
          cases x <;> simp [Cond.isConj] at hc ⊢
        refine ⟨?_, fun _ => ⟨?_, ?_⟩⟩
        · simp [printTexts, normC, normL, joinTexts, isSingleton, Cond.isConj, flatC, flatJoin, notT_keys, tk_open,
            tk_close] at kx ⊢
          rw [kx]
        · simp only [printTexts, normC, isSingleton, List.all_cons, List.all_nil, Cond.isConj, Bool.and_true, Bool.not_true,
            Bool.and_false, Bool.false_eq_true, ↓reduceIte, negFlag]
          simp only [List.append_assoc, List.cons_append]
          exact head_notT_append neg "(" _ (by decide)
        · simp [normC, isSingleton, Cond.isConj]
      · have hc' : Cond.isConj x = false := by simpa using hc
        obtain ⟨hhead, hnc⟩ := hxh hc'
        have hcond : (isSingleton [x] && !([x].all Cond.isConj)) = true := by simp [isSingleton, hc']
        have hjt : joinTexts "or" [x] = printTexts x := by simp [joinTexts]
        have hnl : normL [x] = [normC x] := by simp [normL]
        cases neg with
        | false =>
          refine ⟨?_, fun _ => ⟨?_, ?_⟩⟩
          · simp [printTexts, normC, isSingleton, hc', hjt, hnl, unwrap, notT, kx]
          · simp [printTexts, normC, isSingleton, hc', hjt, hnl, unwrap, notT, hhead]
          · simp [normC, isSingleton, hc', hnl, unwrap, hnc]
        | true =>
          by_cases hd : ((printTexts x).head? == some "not") = true
          · refine ⟨?_, fun _ => ⟨?_, ?_⟩⟩
            · simp [printTexts, normC, isSingleton, hc', hjt, hnl, hd, flatC, flatNot, flatJoin, tk_not, tk_open, tk_close, kx]
            · simp [printTexts, normC, isSingleton, hc', hjt, hnl, hd, negFlag]
            · simp [normC, isSingleton, hc', hjt, hd, Cond.isConj]
          · have hd' : ((printTexts x).head? == some "not") = false := by simpa using hd
            have hflag : negFlag (normC x) = false := by rw [← hhead]; exact hd'
            refine ⟨?_, fun _ => ⟨?_, ?_⟩⟩
            · simp [printTexts, normC, isSingleton, hc', hjt, hnl, hd', unwrap, notT, tk_not, kx, flatC_setNeg hnc hflag]
            · simp [printTexts, normC, isSingleton, hc', hjt, hnl, hd', unwrap, notT, negFlag_setNeg hnc]
            · simp [normC, isSingleton, hc', hjt, hnl, hd', unwrap, isConj_setNeg, hnc]
  | .group neg (x :: y :: r), h => by
      have hl := keys_normL (x :: y :: r) (by simpa [NamesOk, NamesOkL, Cond.profiles] using h) "or" .orOp tk_or
      refine ⟨?_, fun _ => ⟨?_, rfl⟩⟩
      · simp only [printTexts, normC, isSingleton, Bool.false_and, Bool.false_eq_true, ↓reduceIte]
        simp [flatC, notT_keys, tk_open, tk_close, hl]
      · simp only [printTexts, normC, isSingleton, Bool.false_and, Bool.false_eq_true, ↓reduceIte, negFlag]
        simp only [List.append_assoc, List.cons_append]
        exact head_notT_append neg "(" _ (by decide)
  | .conj subs, h => by
      have hl := keys_normL subs (by simpa [NamesOk, NamesOkL, Cond.profiles] using h) "and" .andOp tk_and
      exact ⟨by simp [printTexts, normC, flatC, hl], fun hc => by simp [Cond.isConj] at hc⟩
theorem keys_normL : ∀ (l : List Cond), NamesOkL l → ∀ (opT : String) (op : TT), tk opT = kOf op →
    (joinTexts opT l).map tk = flatJoin op (normL l)
  | [], _, _, _, _ => by simp [joinTexts, normL, flatJoin]
  | [c], h, opT, op, _ => by
      have := (keys_normC c (by intro n hn; exact h n (by simp [profilesL, hn]))).1
      simp [joinTexts, normL, flatJoin, this]
  | c :: d :: r, h, opT, op, hop => by
      have h1 := (keys_normC c (by intro n hn; exact h n (by simp [profilesL, hn]))).1
      have h2 := keys_normL (d :: r) (by intro n hn; exact h n (by simp [profilesL] at hn ⊢; exact Or.inr hn)) opT op hop
      rw [joinTexts, normL, flatJoin_cons, List.map_append, h1, List.map_cons, hop, h2]
      · rw [joinTail_eq op (by simp [normL])]
      · simp
end

theorem mapping_no_identifier :
    Generated.RuleTokens.mapping.all (fun p => TT.ofName p.2 != some .identifier) = true := by decide +kernel

/-- an identifier for the tokeniser is a legal identifier: letters, digits, `_`, `-`, one letter -/
theorem legal_of_identifier {n : String} (h : classify n = .identifier) : isLegalIdentifier n = true := by
  unfold classify at h
  cases hk : keywordOf n with
  | some t =>
    rw [hk] at h
    simp only at h
    subst h
    unfold keywordOf at hk
    cases hl : Generated.RuleTokens.mapping.lookup n with
    | none => rw [hl] at hk; cases hk
    | some v =>
      rw [hl] at hk
      obtain ⟨k', hm⟩ := lookup_mem hl
      have := List.all_eq_true.mp mapping_no_identifier _ hm
      simp only [Option.bind_some] at hk
      simp [hk] at this
  | none =>
    rw [hk] at h
    simp only at h
    split at h
    · cases h
    · split at h
      · assumption
      · cases h

theorem name_chars {n : String} (h : classify n = .identifier) :
    n.toList ≠ [] ∧ ∀ c ∈ n.toList, isIdChar c = true := by
  have := legal_of_identifier h
  simp only [isLegalIdentifier, Bool.and_eq_true, List.any_eq_true, List.all_eq_true] at this
  obtain ⟨⟨⟨hany, hall⟩, _⟩, _⟩ := this
  obtain ⟨c, hc, _⟩ := hany
  exact ⟨fun hn => (by rw [hn] at hc; cases hc), hall⟩

/-- the characters `startswith("not ")` looks for -/
def notSp : List Char := ['n', 'o', 't', ' ']

theorem notSp_eq : notSpC = notSp := by decide

theorem notSp_prefix_false (w rest : List Char) (hw : ∀ c ∈ w, c ≠ ' ') (hne : w ≠ [])
    (h3 : w ≠ ['n', 'o', 't']) (hr : ∀ x xs, rest = x :: xs → x ≠ 'o' ∧ x ≠ 't') :
    notSp.isPrefixOf (w ++ rest) = false := by
  cases hp : notSp.isPrefixOf (w ++ rest) with
  | false => rfl
  | true =>
    exfalso
    unfold notSp at hp
    match w, hne, hw, h3 with
    | [a], _, _, _ =>
      cases rest with
      | nil => simp [List.isPrefixOf] at hp
      | cons x xs =>
        simp only [List.cons_append, List.nil_append, List.isPrefixOf, Bool.and_eq_true, beq_iff_eq] at hp
        exact (hr x xs rfl).1 hp.2.1.symm
    | [a, b], _, _, _ =>
      cases rest with
      | nil => simp [List.isPrefixOf] at hp
      | cons x xs =>
        simp only [List.cons_append, List.nil_append, List.isPrefixOf, Bool.and_eq_true, beq_iff_eq] at hp
        exact (hr x xs rfl).2 hp.2.2.1.symm
    | [a, b, c], _, _, h3 =>
      cases rest with
      | nil => simp [List.isPrefixOf] at hp
      | cons x xs =>
        simp only [List.cons_append, List.nil_append, List.isPrefixOf, Bool.and_eq_true, beq_iff_eq] at hp
        obtain ⟨h1, h2, h4, _⟩ := hp
        exact h3 (by rw [← h1, ← h2, ← h4])
    | a :: b :: c :: d :: e, _, hw, _ =>
      simp only [List.cons_append, List.isPrefixOf, Bool.and_eq_true, beq_iff_eq] at hp
      exact hw d (by simp) hp.2.2.2.1.symm

theorem idChar_ne {c : Char} (h : isIdChar c = true) : c ≠ ' ' ∧ c ≠ '(' := by
  refine ⟨?_, ?_⟩ <;> (intro hc; rw [hc] at h; revert h; decide)

/-- a name, followed by the end, a blank or a closing symbol, does not start with `not␣` -/
theorem name_not_prefix {n : String} (h : classify n = .identifier) (rest : List Char)
    (hr : ∀ x xs, rest = x :: xs → x ≠ 'o' ∧ x ≠ 't') : notSp.isPrefixOf (n.toList ++ rest) = false := by
  obtain ⟨hne, hall⟩ := name_chars h
  refine notSp_prefix_false _ _ (fun c hc => (idChar_ne (hall c hc)).1) hne ?_ hr
  intro h3
  have : n = "not" := by
    apply String.toList_inj.mp
    rw [h3]; decide
  subst this
  exact absurd h (by decide +kernel)

theorem name_head_ne_open {n : String} (h : classify n = .identifier) (rest : List Char) :
    ((n.toList ++ rest).head? == some '(') = false := by
  obtain ⟨hne, hall⟩ := name_chars h
  cases hl : n.toList with
  | nil => exact absurd hl hne
  | cons a as =>
    have := (idChar_ne (hall a (by rw [hl]; simp))).2
    simp [this]

theorem lit_notsp : notSpC = notSp := by decide
theorem lit_notpar : notParC = notSp ++ ['('] := by decide
theorem lit_minscore : "minscore(".toList = 'm' :: "inscore(".toList := by decide
theorem lit_minimum : "minimum(".toList = 'm' :: "inimum(".toList := by decide
theorem lit_cds : "cds(".toList = 'c' :: "ds(".toList := by decide

theorem notSp_prefix_self (l : List Char) : notSp.isPrefixOf (notSp ++ l) = true := by
  simp [notSp, List.isPrefixOf]

theorem notPrefix_true : notPrefix true = notSp := by simp [notPrefix, lit_notsp]
theorem notPrefix_false : notPrefix false = [] := by simp [notPrefix]

theorem name_ne_open {n : String} (h : classify n = .identifier) : (n == "(") = false := by
  cases hn : n == "(" with
  | false => rfl
  | true =>
    have : n = "(" := by simpa using hn
    subst this
    exact absurd h (by decide +kernel)

/-- L: the tests of the repaired `__str__` on characters are tests on the first token -/
theorem first_chars : ∀ c : Cond, NamesOk c → Cond.isConj c = false →
    notSp.isPrefixOf (printChars c) = ((printTexts c).head? == some "not") ∧
    ((printChars c).head? == some '(') = ((printTexts c).head? == some "(")
  | .single neg n, h, _ => by
      have hn : classify n = .identifier := h n (by simp [Cond.profiles])
      cases neg with
      | true =>
        simp only [printChars, printTexts, notPrefix_true, notT]
        exact ⟨by (try simp only [List.append_assoc]); rw [notSp_prefix_self]; rfl, by simp [notSp]⟩
      | false =>
        simp only [printChars, printTexts, notPrefix_false, notT, List.nil_append]
        have h1 := name_not_prefix hn [] (by intro x xs h; cases h)
        have h2 := name_head_ne_open hn []
        simp only [List.append_nil] at h1 h2
        rw [h1, h2]
        simp [name_ne_not hn, name_ne_open hn]
  | .score neg n s, _, _ => by
      cases neg with
      | true =>
        simp only [printChars, printTexts, notPrefix_true, notT, List.append_assoc]
        exact ⟨by (try simp only [List.append_assoc]); rw [notSp_prefix_self]; rfl, by simp [notSp]⟩
      | false =>
        simp only [printChars, printTexts, notPrefix_false, notT, List.nil_append, lit_minscore, List.cons_append]
        exact ⟨by simp [notSp, List.isPrefixOf], by simp⟩
  | .minimum neg c opts, _, _ => by
      cases neg with
      | true =>
        simp only [printChars, printTexts, notPrefix_true, notT, List.append_assoc]
        exact ⟨by (try simp only [List.append_assoc]); rw [notSp_prefix_self]; rfl, by simp [notSp]⟩
      | false =>
        simp only [printChars, printTexts, notPrefix_false, notT, List.nil_append, lit_minimum, List.cons_append]
        exact ⟨by simp [notSp, List.isPrefixOf], by simp⟩
  | .cds neg subs, _, _ => by
      cases neg with
      | true =>
        simp only [printChars, printTexts, notPrefix_true, notT, List.append_assoc]
        exact ⟨by (try simp only [List.append_assoc]); rw [notSp_prefix_self]; rfl, by simp [notSp]⟩
      | false =>
        simp only [printChars, printTexts, notPrefix_false, notT, List.nil_append, lit_cds, List.cons_append]
        exact ⟨by simp [notSp, List.isPrefixOf], by simp⟩
  | .group neg [], _, _ => by
      cases neg with
      | true =>
        simp only [printChars, printTexts, isSingleton, Bool.false_and, Bool.false_eq_true, ↓reduceIte, notPrefix_true,
          notT]
        exact ⟨by (try simp only [List.append_assoc]); rw [notSp_prefix_self]; rfl, by simp [notSp]⟩
      | false =>
        simp only [printChars, printTexts, isSingleton, Bool.false_and, Bool.false_eq_true, ↓reduceIte, notPrefix_false,
          notT, List.nil_append]
        exact ⟨by simp [notSp, List.isPrefixOf], by simp⟩
  | .group neg [x], h, _ => by
      have hx : NamesOk x := by
        intro n hn; exact h n (by simp [Cond.profiles, profilesL, hn])
      by_cases hc : Cond.isConj x = true
      · cases neg with
        | true =>
          simp only [printChars, printTexts, isSingleton, List.all_cons, List.all_nil, hc, Bool.and_true, Bool.not_true,
            Bool.and_false, Bool.false_eq_true, ↓reduceIte, notPrefix_true, notT]
          exact ⟨by (try simp only [List.append_assoc]); rw [notSp_prefix_self]; rfl, by simp [notSp]⟩
        | false =>
          simp only [printChars, printTexts, isSingleton, List.all_cons, List.all_nil, hc, Bool.and_true, Bool.not_true,
            Bool.and_false, Bool.false_eq_true, ↓reduceIte, notPrefix_false, notT, List.nil_append]
          exact ⟨by simp [notSp, List.isPrefixOf], by simp⟩
      · have hc' : Cond.isConj x = false := by simpa using hc
        obtain ⟨i1, i2⟩ := first_chars x hx hc'
        have hpj : printJoin orSep [x] = printChars x := by simp [printJoin]
        have hjt : joinTexts "or" [x] = printTexts x := by simp [joinTexts]
        cases neg with
        | false =>
          simp only [printChars, printTexts, isSingleton, List.all_cons, List.all_nil, hc', Bool.and_true, Bool.not_false,
            Bool.true_and, ↓reduceIte, Bool.false_and, Bool.false_eq_true, notPrefix_false, notT, List.nil_append, hpj, hjt]
          exact ⟨i1, i2⟩
        | true =>
          simp only [printChars, printTexts, isSingleton, List.all_cons, List.all_nil, hc', Bool.and_true, Bool.not_false,
            Bool.true_and, ↓reduceIte, hpj, hjt, lit_notsp, lit_notpar, notPrefix_true, notT]
          split <;> split <;>
            first
              | exact ⟨by (try simp only [List.append_assoc]); rw [notSp_prefix_self]; rfl, by simp [notSp]⟩
  | .group neg (x :: y :: r), _, _ => by
      cases neg with
      | true =>
        simp only [printChars, printTexts, isSingleton, Bool.false_and, Bool.false_eq_true, ↓reduceIte, notPrefix_true,
          notT]
        exact ⟨by (try simp only [List.append_assoc]); rw [notSp_prefix_self]; rfl, by simp [notSp]⟩
      | false =>
        simp only [printChars, printTexts, isSingleton, Bool.false_and, Bool.false_eq_true, ↓reduceIte, notPrefix_false,
          notT, List.nil_append]
        exact ⟨by simp [notSp, List.isPrefixOf], by simp⟩
  | .conj _, _, hc => by simp [Cond.isConj] at hc

end ASV.Reprint

namespace ASV.Reprint
open ASV ASV.Rules ASV.Parser ASV.Grammar ASV.Layout

abbrev Item := List Filler × Word

def sp : List Filler := [.ws ' ']

/-- a multi-character word with the given text -/
def W (t : String) : Word :=
  match t.toList with
  | [] => .sym ' '
  | f :: m => .word f m

def S (c : Char) : Word := .sym c

/-- set the filler before the first item -/
def lead (g : List Filler) : List Item → List Item
  | [] => []
  | (_, w) :: r => (g, w) :: r

def texts (I : List Item) : List String := I.map (·.2.text)

def firstEmpty (I : List Item) : Prop := ∃ w r, I = ([], w) :: r

theorem render_append (A B : List Item) : render (A ++ B) = render A ++ render B := by
  induction A with
  | nil => rfl
  | cons it r ih => obtain ⟨g, w⟩ := it; simp [render, ih]

theorem render_lead {I : List Item} (h : firstEmpty I) (g : List Filler) :
    render (lead g I) = gapChars g ++ render I := by
  obtain ⟨w, r, rfl⟩ := h
  simp [lead, render, gapChars]

theorem render_lead_sp {I : List Item} (h : firstEmpty I) : render (lead sp I) = ' ' :: render I := by
  rw [render_lead h]; simp [sp, gapChars, Filler.chars]

theorem texts_lead (g : List Filler) (I : List Item) : texts (lead g I) = texts I := by
  cases I with
  | nil => rfl
  | cons it r => obtain ⟨_, w⟩ := it; rfl

theorem texts_append (A B : List Item) : texts (A ++ B) = texts A ++ texts B := by simp [texts]

theorem W_word {t : String} {f : Char} {m : List Char} (h : t.toList = f :: m) : W t = .word f m := by
  simp [W, h]

theorem W_chars {t : String} (h : t.toList ≠ []) : (W t).chars = t.toList := by
  cases ht : t.toList with
  | nil => exact absurd ht h
  | cons f m => simp [W_word ht, Word.chars]

theorem W_text {t : String} (h : t.toList ≠ []) : (W t).text = t := by
  cases ht : t.toList with
  | nil => exact absurd ht h
  | cons f m =>
    rw [W_word ht, Word.text, ← ht]
    exact String.toList_inj.mp (by simp)

theorem W_isWord {t : String} (h : t.toList ≠ []) : (W t).isWord = true := by
  cases ht : t.toList with
  | nil => exact absurd ht h
  | cons f m => simp [W_word ht, Word.isWord]

theorem W_ok {t : String} (h : t.toList ≠ []) (hc : ∀ c ∈ t.toList, symChar c = true) : (W t).ok = true := by
  cases ht : t.toList with
  | nil => exact absurd ht h
  | cons f m =>
    rw [ht] at hc
    simp only [W_word ht, Word.ok, Bool.and_eq_true, List.all_eq_true]
    exact ⟨hc f (by simp), fun c hcm => by simp [contChar, hc c (by simp [hcm])]⟩

theorem symChar_of_idChar {c : Char} (h : isIdChar c = true) : symChar c = true := by
  simp only [isIdChar, Bool.or_eq_true] at h
  simp only [symChar, Char.isAlphanum, Bool.or_eq_true]
  rcases h with ((h | h) | h) | h
  · exact Or.inl (Or.inl (Or.inl h))
  · exact Or.inl (Or.inl (Or.inr h))
  · exact Or.inr h
  · exact Or.inl (Or.inr h)

theorem W_name {n : String} (h : classify n = .identifier) :
    n.toList ≠ [] ∧ (W n).ok = true ∧ (W n).isWord = true ∧ (W n).chars = n.toList ∧ (W n).text = n := by
  obtain ⟨hne, hall⟩ := name_chars h
  exact ⟨hne, W_ok hne (fun c hc => symChar_of_idChar (hall c hc)), W_isWord hne, W_chars hne, W_text hne⟩

theorem digits_ne (v : Nat) : (toString v).toList ≠ [] := by
  have : (toString v).toList = Nat.toDigits 10 v := Nat.toList_repr
  rw [this]; exact toDigits_ne_nil v

theorem W_digits (v : Nat) :
    (W (toString v)).ok = true ∧ (W (toString v)).isWord = true ∧ (W (toString v)).chars = (toString v).toList ∧
      (W (toString v)).text = toString v := by
  have hne := digits_ne v
  refine ⟨W_ok hne ?_, W_isWord hne, W_chars hne, W_text hne⟩
  intro c hc
  have hl : (toString v).toList = Nat.toDigits 10 v := Nat.toList_repr
  rw [hl] at hc
  have := Nat.isDigit_of_mem_toDigits (by decide) (by decide) hc
  simp [symChar, Char.isAlphanum, this]

/-! ### well-spaced item lists -/

def itemOk (it : Item) : Bool := it.1.all Filler.ok && it.2.ok

/-- the first item may follow a word: it has filler before it or is a symbol -/
def fs : List Item → Bool
  | [] => true
  | (g, w) :: _ => !g.isEmpty || !w.isWord

def chain : List Item → Bool
  | [] => true
  | (g, w) :: r => itemOk (g, w) && (!w.isWord || fs r) && chain r

def lastWord : List Item → Bool
  | [] => false
  | [it] => it.2.isWord
  | _ :: r => lastWord r

theorem okSeq_of_chain : ∀ (I : List Item) (p : Bool), chain I = true → (p = false ∨ fs I = true) → okSeq p I = true := by
  intro I
  induction I with
  | nil => intro p _ _; rfl
  | cons it r ih =>
    intro p hc hp
    obtain ⟨g, w⟩ := it
    simp only [chain, itemOk, Bool.and_eq_true, Bool.or_eq_true, Bool.not_eq_true'] at hc
    obtain ⟨⟨⟨hg, hw⟩, hnext⟩, hr⟩ := hc
    simp only [okSeq, Bool.and_eq_true, Bool.not_eq_true', Bool.and_eq_false_iff]
    refine ⟨⟨⟨hg, hw⟩, ?_⟩, ih _ hr ?_⟩
    · rcases hp with hp | hp
      · exact Or.inl (Or.inl hp)
      · simp only [fs, Bool.or_eq_true, Bool.not_eq_true'] at hp
        rcases hp with hp | hp
        · exact Or.inr hp
        · exact Or.inl (Or.inr hp)
    · rcases hnext with h | h
      · exact Or.inl h
      · exact Or.inr h

theorem fs_append (A B : List Item) (hA : A ≠ []) : fs (A ++ B) = fs A := by
  cases A with
  | nil => exact absurd rfl hA
  | cons it r => rfl

theorem chain_append : ∀ (A B : List Item), chain A = true → chain B = true →
    (lastWord A = false ∨ fs B = true) → chain (A ++ B) = true := by
  intro A
  induction A with
  | nil => intro B _ hB _; exact hB
  | cons it r ih =>
    intro B hA hB hb
    obtain ⟨g, w⟩ := it
    simp only [chain, Bool.and_eq_true, Bool.or_eq_true, Bool.not_eq_true'] at hA
    obtain ⟨⟨hi, hn⟩, hr⟩ := hA
    simp only [List.cons_append, chain, Bool.and_eq_true, Bool.or_eq_true, Bool.not_eq_true']
    cases r with
    | nil =>
      refine ⟨⟨hi, ?_⟩, by simpa using hB⟩
      simp only [List.nil_append]
      rcases hb with hb | hb
      · exact Or.inl (by simpa [lastWord] using hb)
      · exact Or.inr hb
    | cons it2 r2 =>
      refine ⟨⟨hi, ?_⟩, ih B hr hB (by simpa [lastWord] using hb)⟩
      rw [fs_append _ _ (by simp)]
      exact hn

theorem chain_lead {I : List Item} (h : chain I = true) : chain (lead sp I) = true := by
  cases I with
  | nil => rfl
  | cons it r =>
    obtain ⟨g, w⟩ := it
    simp only [chain, itemOk, Bool.and_eq_true] at h
    simp only [lead, chain, itemOk, sp, Bool.and_eq_true]
    exact ⟨⟨⟨by simp [Filler.ok, isWs], h.1.1.2⟩, h.1.2⟩, h.2⟩

theorem fs_lead {I : List Item} : fs (lead sp I) = true := by
  cases I with
  | nil => rfl
  | cons it r => obtain ⟨g, w⟩ := it; simp [lead, fs, sp]

theorem firstEmpty_lead_ne {I : List Item} (h : firstEmpty I) : lead sp I ≠ [] := by
  obtain ⟨w, r, rfl⟩ := h; simp [lead]

/-- `I` is a well-spaced item list starting without filler, rendering to `chars`, with texts `ts` -/
structure Inv (I : List Item) (chars : List Char) (ts : List String) : Prop where
  first : firstEmpty I
  chain : chain I = true
  render : render I = chars
  texts : texts I = ts

theorem Inv.append {A B : List Item} {ca cb : List Char} {ta tb : List String} (a : Inv A ca ta) (b : Inv B cb tb)
    (h : lastWord A = false ∨ fs B = true) : Inv (A ++ B) (ca ++ cb) (ta ++ tb) := by
  obtain ⟨w, r, rfl⟩ := a.first
  exact ⟨⟨w, r ++ B, rfl⟩, chain_append _ _ a.chain b.chain h, by rw [render_append, a.render, b.render],
    by rw [texts_append, a.texts, b.texts]⟩

/-- `B` after a blank -/
theorem Inv.append_sp {A B : List Item} {ca cb : List Char} {ta tb : List String} (a : Inv A ca ta) (b : Inv B cb tb) :
    Inv (A ++ lead sp B) (ca ++ ' ' :: cb) (ta ++ tb) := by
  obtain ⟨w, r, rfl⟩ := a.first
  exact ⟨⟨w, r ++ lead sp B, rfl⟩, chain_append _ _ a.chain (chain_lead b.chain) (Or.inr fs_lead),
    by rw [render_append, a.render, render_lead_sp b.first, b.render],
    by rw [texts_append, a.texts, texts_lead, b.texts]⟩

def preI (neg : Bool) (I : List Item) : List Item := if neg then ([], W "not") :: lead sp I else I

theorem inv_not : Inv [([], W "not")] notSp.dropLast ["not"] :=
  ⟨⟨_, _, rfl⟩, by decide +kernel, by decide +kernel, by decide +kernel⟩

theorem Inv.pre {I : List Item} {c : List Char} {t : List String} (neg : Bool) (a : Inv I c t) :
    Inv (preI neg I) (notPrefix neg ++ c) (notT neg ++ t) := by
  cases neg with
  | false => simpa [preI, notPrefix_false, notT] using a
  | true =>
    have := inv_not.append_sp a
    simpa [preI, notPrefix_true, notT, notSp] using this

theorem inv_sym (c : Char) (h : isSingleCharToken c = true) : Inv [([], S c)] [c] [String.singleton c] :=
  ⟨⟨_, _, rfl⟩, by simp [chain, itemOk, S, Word.ok, h, Word.isWord, fs], by simp [render, gapChars, S, Word.chars],
    by simp [texts, S, Word.text]⟩

theorem inv_open : Inv [([], S '(')] ['('] ["("] := by
  have := inv_sym '(' (by decide +kernel); simpa using this
theorem inv_close : Inv [([], S ')')] [')'] [")"] := by
  have := inv_sym ')' (by decide +kernel); simpa using this
theorem inv_comma : Inv [([], S ',')] [','] [","] := by
  have := inv_sym ',' (by decide +kernel); simpa using this
theorem inv_lopen : Inv [([], S '[')] ['['] ["["] := by
  have := inv_sym '[' (by decide +kernel); simpa using this
theorem inv_lclose : Inv [([], S ']')] [']'] ["]"] := by
  have := inv_sym ']' (by decide +kernel); simpa using this

theorem inv_word {t : String} (hne : t.toList ≠ []) (hok : (W t).ok = true) : Inv [([], W t)] t.toList [t] :=
  ⟨⟨_, _, rfl⟩, by simp [chain, itemOk, hok, fs], by simp [render, gapChars, W_chars hne], by simp [texts, W_text hne]⟩

theorem inv_name {n : String} (h : classify n = .identifier) : Inv [([], W n)] n.toList [n] :=
  inv_word (W_name h).1 (W_name h).2.1

theorem inv_digits (v : Nat) : Inv [([], W (toString v))] (toString v).toList [toString v] :=
  inv_word (digits_ne v) (W_digits v).1

theorem inv_kw (t : String) (hne : t.toList ≠ []) (hok : (W t).ok = true) : Inv [([], W t)] t.toList [t] :=
  inv_word hne hok

theorem fs_sym (c : Char) (r : List Item) : fs (([], S c) :: r) = true := by simp [fs, S, Word.isWord]
theorem lastWord_symg (A : List Item) (g : List Filler) (c : Char) : lastWord (A ++ [(g, S c)]) = false := by
  induction A with
  | nil => simp [lastWord, S, Word.isWord]
  | cons it r ih =>
    cases r with
    | nil => simp [lastWord, S, Word.isWord]
    | cons it2 r2 => simpa [lastWord] using ih
theorem lastWord_sym (A : List Item) (c : Char) : lastWord (A ++ [([], S c)]) = false := lastWord_symg A [] c

def idsI : List String → List Item
  | [] => []
  | [a] => [([], W a)]
  | a :: rest => ([], W a) :: ([], S ',') :: lead sp (idsI rest)

theorem inv_ids : ∀ (l : List String), l ≠ [] → (∀ n ∈ l, classify n = .identifier) →
    Inv (idsI l) (joinChars ", ".toList (l.map String.toList)) (idsT l)
  | [], h, _ => absurd rfl h
  | [a], _, hn => by simpa [idsI, joinChars, idsT] using inv_name (hn a (by simp))
  | a :: b :: r, _, hn => by
      have ha := inv_name (hn a (by simp))
      have hr := inv_ids (b :: r) (by simp) (fun n h => hn n (by simp [h]))
      have := (ha.append inv_comma (Or.inr (fs_sym _ _))).append_sp hr
      have hs : ", ".toList = [',', ' '] := by decide
      simpa [idsI, joinChars, idsT, hs] using this

mutual
def items : Cond → List Item
  | .single neg n => preI neg [([], W n)]
  | .score neg n s =>
      preI neg ([([], W "minscore"), ([], S '('), ([], W n), ([], S ',')] ++ lead sp [([], W (toString s.toNat))]
        ++ [([], S ')')])
  | .minimum neg c opts =>
      preI neg ([([], W "minimum"), ([], S '('), ([], W (toString c)), ([], S ',')] ++ lead sp [([], S '[')]
        ++ idsI (sortDedupStr opts) ++ [([], S ']'), ([], S ')')])
  | .cds neg subs =>
      let J := joinI "or" subs
      let t := printJoin orSep subs
      let B := if isSingleton subs && subs.all Cond.isGroup && !(t.head? == some '(') then
        ([], S '(') :: J ++ [([], S ')')] else J
      preI neg ([([], W "cds"), ([], S '(')] ++ B ++ [([], S ')')])
  | .group neg subs =>
      let J := joinI "or" subs
      let t := printJoin orSep subs
      if isSingleton subs && !(subs.all Cond.isConj) then
        if neg && notSpC.isPrefixOf t then [([], W "not")] ++ lead sp (([], S '(') :: J ++ [([], S ')')])
        else preI neg J
      else preI neg (([], S '(') :: J ++ [([], S ')')])
  | .conj subs => joinI "and" subs
def joinI (op : String) : List Cond → List Item
  | [] => []
  | [c] => items c
  | c :: cs => items c ++ lead sp [([], W op)] ++ lead sp (joinI op cs)
end

mutual
/-- what the printer needs: scores are not negative, no empty operand or option list -/
def printable : Cond → Bool
  | .single _ _ => true
  | .score _ _ s => decide (0 ≤ s)
  | .minimum _ _ opts => !opts.isEmpty
  | .cds _ subs => !subs.isEmpty && printableL subs
  | .group _ subs => !subs.isEmpty && printableL subs
  | .conj subs => !subs.isEmpty && printableL subs
def printableL : List Cond → Bool
  | [] => true
  | c :: cs => printable c && printableL cs
end

theorem inv_ms : Inv [([], W "minscore"), ([], S '(')] "minscore(".toList ["minscore", "("] :=
  ⟨⟨_, _, rfl⟩, by decide +kernel, by decide +kernel, by decide +kernel⟩
theorem inv_min : Inv [([], W "minimum"), ([], S '(')] "minimum(".toList ["minimum", "("] :=
  ⟨⟨_, _, rfl⟩, by decide +kernel, by decide +kernel, by decide +kernel⟩
theorem inv_cds : Inv [([], W "cds"), ([], S '(')] "cds(".toList ["cds", "("] :=
  ⟨⟨_, _, rfl⟩, by decide +kernel, by decide +kernel, by decide +kernel⟩
theorem inv_or : Inv [([], W "or")] "or".toList ["or"] :=
  ⟨⟨_, _, rfl⟩, by decide +kernel, by decide +kernel, by decide +kernel⟩
theorem inv_and : Inv [([], W "and")] "and".toList ["and"] :=
  ⟨⟨_, _, rfl⟩, by decide +kernel, by decide +kernel, by decide +kernel⟩

theorem lw2 (a : Item) (c : Char) : lastWord [a, ([], S c)] = false := by simp [lastWord, S, Word.isWord]

theorem toString_int_nonneg {s : Int} (h : 0 ≤ s) : toString s = toString s.toNat := by
  obtain ⟨n, rfl⟩ := Int.eq_ofNat_of_zero_le h
  rfl

theorem sep_or : orSep = ' ' :: "or".toList ++ [' '] := by decide
theorem sep_and : andSep = ' ' :: "and".toList ++ [' '] := by decide
theorem lit_comma_sp : ", ".toList = [',', ' '] := by decide
theorem lit_comma_sp_l : ", [".toList = [',', ' ', '['] := by decide
theorem lit_close2 : "])".toList = [']', ')'] := by decide

/-- the D43 test of the printer (a lone parenthesised operand of `cds`) on characters is the test on the first token -/
theorem cds_test_chars (subs : List Cond) (h : NamesOkL subs) :
    (isSingleton subs && subs.all Cond.isGroup && !((printJoin orSep subs).head? == some '(')) =
      (isSingleton subs && subs.all Cond.isGroup && !((joinTexts "or" subs).head? == some "(")) := by
  match subs, h with
  | [], _ => rfl
  | _ :: _ :: _, _ => rfl
  | [g], h =>
    cases hgg : Cond.isGroup g with
    | false => simp [isSingleton, hgg]
    | true =>
      have hg : Cond.isConj g = false := by cases g <;> simp_all [Cond.isGroup, Cond.isConj]
      have hng : NamesOk g := fun n hn => h n (by simp [profilesL, hn])
      simp only [printJoin, joinTexts, (first_chars g hng hg).2]

theorem namesOk_sub {neg : Bool} {x : Cond} {f : Bool → List Cond → Cond} (hf : ∀ l, (f neg l).profiles = profilesL l)
    (h : NamesOk (f neg [x])) : NamesOk x := by
  intro n hn; exact h n (by rw [hf]; simp [profilesL, hn])

mutual
theorem inv_items : ∀ c : Cond, NamesOk c → printable c = true → Inv (items c) (printChars c) (printTexts c)
  | .single neg n, h, _ => by
      have hn : classify n = .identifier := h n (by simp [Cond.profiles])
      simpa [items, printChars, printTexts] using (inv_name hn).pre neg
  | .score neg n s, h, hp => by
      have hn : classify n = .identifier := h n (by simp [Cond.profiles])
      have hs : 0 ≤ s := by simpa [printable] using hp
      have := ((((inv_ms.append (inv_name hn) (Or.inl (lw2 _ _))).append inv_comma (Or.inr (fs_sym _ _))).append_sp
        (inv_digits s.toNat)).append inv_close (Or.inr (fs_sym _ _))).pre neg
      simp only [items, printChars, printTexts, toString_int_nonneg hs, lit_comma_sp]
      simpa using this
  | .minimum neg c opts, h, hp => by
      have hne : sortDedupStr opts ≠ [] := by
        have : opts ≠ [] := by simpa [printable] using hp
        cases opts with
        | nil => exact absurd rfl this
        | cons a r => intro he; have := mem_sortDedupStr.mpr (List.mem_cons_self (a := a) (l := r)); rw [he] at this; cases this
      have hn : ∀ n ∈ sortDedupStr opts, classify n = .identifier := fun n hn =>
        h n (by simpa [Cond.profiles] using mem_sortDedupStr.mp hn)
      have hi := inv_ids _ hne hn
      have := ((((((inv_min.append (inv_digits c) (Or.inl (lw2 _ _))).append inv_comma (Or.inr (fs_sym _ _))).append_sp
        inv_lopen).append hi (Or.inl (by simp [lead, lastWord, S, Word.isWord]))).append inv_lclose (Or.inr (fs_sym _ _))).append inv_close
          (Or.inr (fs_sym _ _))).pre neg
      simp only [items, printChars, printTexts, lit_comma_sp_l, lit_close2]
      simpa using this
  | .cds neg subs, h, hp => by
      have hne : subs ≠ [] := by
        simp only [printable, Bool.and_eq_true, Bool.not_eq_true', List.isEmpty_eq_false_iff] at hp; exact hp.1
      have hpl : printableL subs = true := by simp only [printable, Bool.and_eq_true] at hp; exact hp.2
      have hj := inv_join subs hne (by simpa [NamesOk, NamesOkL, Cond.profiles] using h) hpl "or" orSep sep_or
        inv_or
      simp only [items, printChars, printTexts]
      rw [cds_test_chars subs (by simpa [NamesOk, NamesOkL, Cond.profiles] using h)]
      by_cases htest : (isSingleton subs && subs.all Cond.isGroup && !((joinTexts "or" subs).head? == some "(")) = true
      · -- D43: a lone group keeps its parentheses
        have := (((inv_cds.append ((inv_open.append hj (Or.inl (by simp [lastWord, S, Word.isWord]))).append inv_close
          (Or.inr (fs_sym _ _))) (Or.inl (lw2 _ _))).append inv_close (Or.inr (fs_sym _ _)))).pre neg
        simp only [htest, ↓reduceIte]
        simpa using this
      · have := ((inv_cds.append hj (Or.inl (lw2 _ _))).append inv_close (Or.inr (fs_sym _ _))).pre neg
        simp only [Bool.eq_false_iff.mpr htest, Bool.false_eq_true, ↓reduceIte]
        simpa using this
  | .group neg [], _, hp => by simp [printable] at hp
  | .group neg [x], h, hp => by
      have hx : NamesOk x := by intro n hn; exact h n (by simp [Cond.profiles, profilesL, hn])
      have hpx : printable x = true := by simpa [printable, printableL] using hp
      have ix := inv_items x hx hpx
      have hpj : printJoin orSep [x] = printChars x := by simp [printJoin]
      have hjt : joinTexts "or" [x] = printTexts x := by simp [joinTexts]
      have hji : joinI "or" [x] = items x := by simp [joinI]
      by_cases hc : Cond.isConj x = true
      · have := ((inv_open.append ix (Or.inl (by simp [lastWord, S, Word.isWord]))).append inv_close
          (Or.inr (fs_sym _ _))).pre neg
        simp only [items, printChars, printTexts, isSingleton, List.all_cons, List.all_nil, hc, Bool.and_true, Bool.not_true,
          Bool.and_false, Bool.false_eq_true, ↓reduceIte, hpj, hjt, hji]
        simpa using this
      · have hc' : Cond.isConj x = false := by simpa using hc
        have hfc := (first_chars x hx hc').1
        rw [← lit_notsp] at hfc
        simp only [items, printChars, printTexts, isSingleton, List.all_cons, List.all_nil, hc', Bool.and_true,
          Bool.not_false, Bool.true_and, ↓reduceIte, hpj, hjt, hji]
        by_cases hd : (neg && notSpC.isPrefixOf (printChars x)) = true
        · have hd2 : (neg && (printTexts x).head? == some "not") = true := by rw [← hfc]; exact hd
          have hneg : neg = true := by simp only [Bool.and_eq_true] at hd; exact hd.1
          subst hneg
          have := inv_not.append_sp ((inv_open.append ix (Or.inl (by simp [lastWord, S, Word.isWord]))).append inv_close
            (Or.inr (fs_sym _ _)))
          simp only [hd, hd2, ↓reduceIte, lit_notpar]
          simpa [notSp] using this
        · have hd' : (neg && notSpC.isPrefixOf (printChars x)) = false := Bool.eq_false_iff.mpr hd
          have hd2 : (neg && (printTexts x).head? == some "not") = false := by rw [← hfc]; exact hd'
          simp only [hd', hd2, Bool.false_eq_true, ↓reduceIte]
          exact ix.pre neg
  | .group neg (x :: y :: r), h, hp => by
      have hpl : printableL (x :: y :: r) = true := by simp only [printable, Bool.and_eq_true] at hp; exact hp.2
      have hj := inv_join (x :: y :: r) (by simp) (by simpa [NamesOk, NamesOkL, Cond.profiles] using h) hpl "or"
        orSep sep_or inv_or
      have := ((inv_open.append hj (Or.inl (by simp [lastWord, S, Word.isWord]))).append inv_close
        (Or.inr (fs_sym _ _))).pre neg
      simp only [items, printChars, printTexts, isSingleton, Bool.false_and, Bool.false_eq_true, ↓reduceIte]
      simpa using this
  | .conj subs, h, hp => by
      have hne : subs ≠ [] := by
        simp only [printable, Bool.and_eq_true, Bool.not_eq_true', List.isEmpty_eq_false_iff] at hp; exact hp.1
      have hpl : printableL subs = true := by simp only [printable, Bool.and_eq_true] at hp; exact hp.2
      have hj := inv_join subs hne (by simpa [NamesOk, NamesOkL, Cond.profiles] using h) hpl "and" andSep sep_and
        inv_and
      simpa [items, printChars, printTexts] using hj
theorem inv_join : ∀ (l : List Cond), l ≠ [] → NamesOkL l → printableL l = true → ∀ (op : String) (sep : List Char),
    sep = ' ' :: op.toList ++ [' '] → Inv [([], W op)] op.toList [op] →
    Inv (joinI op l) (printJoin sep l) (joinTexts op l)
  | [], h, _, _, _, _, _, _ => absurd rfl h
  | [c], _, hn, hp, op, sep, _, _ => by
      have := inv_items c (by intro n h; exact hn n (by simp [profilesL, h])) (by simpa [printableL] using hp)
      simpa [joinI, printJoin, joinTexts] using this
  | c :: d :: r, _, hn, hp, op, sep, hsep, hop => by
      simp only [printableL, Bool.and_eq_true] at hp
      have h1 := inv_items c (by intro n h; exact hn n (by simp [profilesL, h])) hp.1
      have h2 := inv_join (d :: r) (by simp) (by intro n h; exact hn n (by simp [profilesL] at h ⊢; exact Or.inr h))
        (by simpa [printableL] using hp.2) op sep hsep hop
      have := (h1.append_sp hop).append_sp h2
      subst hsep
      rw [joinI, printJoin, joinTexts]
      · simpa using this
      all_goals simp
end

end ASV.Reprint
