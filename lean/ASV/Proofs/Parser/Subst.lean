/-
  C02 thm 4: aliases are token substitution.  `strip s` is the alias-free parser state whose
  remaining input is the current token followed by `subst A rest`.  With a flat table every parser
  function commutes with `strip` (same fuel on both sides): it returns on the aliased state what
  it returns on the substituted, alias-free one.
-/
import ASV.Proofs.Parser.Alias
namespace ASV.Parser
open ASV ASV.Rules ASV.Grammar

/-- forget the alias table after substituting it into the unread input -/
def strip (s : PS) : PS :=
  { cur := s.cur, rest := subst s.aliases s.rest, aliases := [], rules := s.rules, consumed := s.consumed }

/-- map `strip` over the state a parser function returns -/
def mapS {α} (r : Except Err (α × PS)) : Except Err (α × PS) :=
  match r with
  | .ok (a, s) => .ok (a, strip s)
  | .error e => .error e

@[simp] theorem mapS_ok {α} (a : α) (s : PS) : mapS (.ok (a, s)) = .ok (a, strip s) := rfl
@[simp] theorem mapS_error {α} (e : Err) : mapS (.error e : Except Err (α × PS)) = .error e := rfl
@[simp] theorem mapS_pure {α} (a : α) (s : PS) : mapS (pure (a, s)) = pure (a, strip s) := rfl

@[simp] theorem strip_cur (s : PS) : (strip s).cur = s.cur := rfl
@[simp] theorem strip_rules (s : PS) : (strip s).rules = s.rules := rfl
@[simp] theorem strip_consumed (s : PS) : (strip s).consumed = s.consumed := rfl
@[simp] theorem strip_curIs (s : PS) (t : TT) : (strip s).curIs t = s.curIs t := rfl
@[simp] theorem strip_curAliased (s : PS) : (strip s).curAliased = s.curAliased := rfl
@[simp] theorem strip_ruleByName (s : PS) (n : String) : (strip s).ruleByName n = s.ruleByName n := rfl

/-- results related by `R` on the value and by `strip` on the state; equal errors -/
def RelS {α} (R : α → α → Prop) (x' x : Except Err (α × PS)) : Prop :=
  match x', x with
  | .ok (a', t), .ok (a, s1) => R a' a ∧ t = strip s1
  | .error e', .error e => e' = e
  | _, _ => False

theorem RelS.to_eq {α} {x' x : Except Err (α × PS)} (h : RelS Eq x' x) : x' = mapS x := by
  cases x with
  | error e => cases x' with
    | error e' => simp only [RelS] at h; subst h; rfl
    | ok p => exact absurd h (by simp [RelS])
  | ok p => cases x' with
    | error e' => exact absurd h (by simp [RelS])
    | ok p' =>
      obtain ⟨a, s⟩ := p; obtain ⟨a', s'⟩ := p'
      simp only [RelS] at h
      obtain ⟨rfl, rfl⟩ := h; rfl

theorem advance_strip {s : PS} (hf : Flat s.aliases) :
    (strip s).advance = (match s.advance with | .ok s' => .ok (strip s') | .error e => .error e) := by
  unfold PS.advance
  cases hr : s.rest with
  | nil => simp [strip, hr, subst]
  | cons n r =>
    by_cases hid : n.type = .identifier
    · cases hl : s.aliases.lookup n.text with
      | none =>
        simp only [strip, hr, subst, hid, beq_self_eq_true, ↓reduceIte, hl, List.lookup]
      | some body =>
        obtain ⟨k', hmem⟩ := lookup_mem hl
        have hne := hf.nonEmpty _ hmem
        have hnr := hf.noRef _ hmem
        cases body with
        | nil => exact absurd rfl hne
        | cons b more =>
          have hs : subst s.aliases more = more := subst_id _ more (fun t ht => hnr t (by simp [ht]))
          simp only [strip, hr, subst, hid, beq_self_eq_true, ↓reduceIte, hl, List.cons_append, List.lookup,
            subst_append, hs]
          split <;> rfl
    · simp [strip, hr, subst, hid]

theorem consume_aliases {s s' : PS} {exp : TT} {c : Tok} (h : consume exp s = .ok (c, s')) :
    s'.aliases = s.aliases := (consume_post h).1.aliases

theorem consume_strip {s : PS} (hf : Flat s.aliases) (exp : TT) :
    consume exp (strip s) = mapS (consume exp s) := by
  obtain ⟨cur, rest, A, rules, cons⟩ := s
  unfold consume
  simp only [strip]
  cases cur with
  | none => rfl
  | some c =>
    simp only
    split
    · rfl
    · have h := advance_strip (s := ⟨some c, rest, A, rules, c :: cons⟩) hf
      simp only [strip] at h
      simp only [bind, Except.bind, h]
      cases (⟨some c, rest, A, rules, c :: cons⟩ : PS).advance <;> rfl

theorem endCheck_strip (g : Bool) (s : PS) : endCheck g (strip s) = endCheck g s := rfl

/-- the seven mutually recursive functions commute with `strip` -/
structure BlockSim (fuel : Nat) : Prop where
  single : ∀ (allow : Bool) (s : PS), Flat s.aliases → parseSingle fuel allow (strip s) = mapS (parseSingle fuel allow s)
  group : ∀ (allow : Bool) (s : PS), Flat s.aliases → parseGroup fuel allow (strip s) = mapS (parseGroup fuel allow s)
  cds : ∀ (s : PS), Flat s.aliases → parseCds fuel (strip s) = mapS (parseCds fuel s)
  conds : ∀ (allow g : Bool) (s : PS), Flat s.aliases →
    parseConditions fuel allow g (strip s) = mapS (parseConditions fuel allow g s)
  loop : ∀ (allow : Bool) (acc : List Cond) (lv : Cond) (p : Bool) (s : PS), Flat s.aliases →
    condLoop fuel allow acc lv p (strip s) = mapS (condLoop fuel allow acc lv p s)
  ands : ∀ (lv : Cond) (allow : Bool) (s : PS), Flat s.aliases →
    parseAnds fuel lv allow (strip s) = mapS (parseAnds fuel lv allow s)
  andLoop : ∀ (allow : Bool) (acc : List Cond) (s : PS), Flat s.aliases →
    andLoop fuel allow acc (strip s) = mapS (andLoop fuel allow acc s)

theorem group_aliases {fuel : Nat} {allow : Bool} {s s' : PS} {c : List Cond}
    (h : parseGroup fuel allow s = .ok (c, s')) : s'.aliases = s.aliases := by
  obtain ⟨_, a, _⟩ := (blockPost fuel).group _ _ _ _ h; exact a.aliases
theorem cds_aliases {fuel : Nat} {s s' : PS} {c : List Cond}
    (h : parseCds fuel s = .ok (c, s')) : s'.aliases = s.aliases := by
  obtain ⟨_, a, _⟩ := (blockPost fuel).cds _ _ _ h; exact a.aliases
/-! ### the instance of `Res`: the alias table substituted, same fuel -/

/-- `t` is `s` with its (flat) alias table substituted into the unread input -/
def Stripped (t s : PS) : Prop := t = strip s ∧ Flat s.aliases

theorem readsStripped : Reads False Stripped := by
  refine ⟨fun h => h.1 ▸ rfl, ?_, fun h _ _ => ⟨h.1 ▸ rfl, h.2⟩⟩
  rintro t s ⟨rfl, hf⟩ x
  rw [consume_strip hf]
  cases h : consume x s with
  | error e => exact Res.error e
  | ok p => exact Res.ok rfl ⟨rfl, consume_aliases h ▸ hf⟩

theorem Res.relS {α} {R : α → α → Prop} {x' x : Except Err (α × PS)} (h : Res False Stripped R x' x) :
    RelS R x' x := by
  rcases h with ⟨h, _⟩ | h
  · exact h.elim
  · cases x' with
    | error e' => cases x with
      | error e => exact h
      | ok p => exact h.elim
    | ok p' => cases x with
      | error e => exact h.elim
      | ok p => exact ⟨h.1, h.2.1⟩

theorem blockSim (fuel : Nat) : BlockSim fuel :=
  have b := blockRes readsStripped fuel fuel (Fu.same fuel)
  ⟨fun allow _ hf => (b.single allow ⟨rfl, hf⟩).relS.to_eq, fun allow _ hf => (b.group allow ⟨rfl, hf⟩).relS.to_eq,
   fun _ hf => (b.cds ⟨rfl, hf⟩).relS.to_eq, fun allow g _ hf => (b.conds allow g ⟨rfl, hf⟩).relS.to_eq,
   fun allow acc lv p _ hf => (b.loop allow acc lv p ⟨rfl, hf⟩).relS.to_eq,
   fun lv allow _ hf => (b.ands lv allow ⟨rfl, hf⟩).relS.to_eq,
   fun allow acc _ hf => (b.andLoop allow acc ⟨rfl, hf⟩).relS.to_eq⟩

end ASV.Parser
