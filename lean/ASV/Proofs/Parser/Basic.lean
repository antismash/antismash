/-
  Helper lemmas for C02: how the primitive parser steps move the state
  (`consumed` only grows, `rules`/`aliases` are untouched) and which keys they record.
-/
import ASV.Spec.Grammar
import ASV.Proofs.Base.Except
namespace ASV.Parser
open ASV ASV.Rules ASV.Grammar

theorem bind_ok {ε α β} {x : Except ε α} {f : α → Except ε β} {b : β} :
    (x >>= f) = .ok b ↔ ∃ a, x = .ok a ∧ f a = .ok b := Base.bind_eq_ok

/-- the keys of the tokens consumed by a step, in reading order (`new` is newest-first) -/
def ks (new : List Tok) : List Key := new.reverse.map Tok.key

@[simp] theorem ks_nil : ks [] = [] := rfl
@[simp] theorem ks_single (c : Tok) : ks [c] = [c.key] := rfl
theorem ks_append (a b : List Tok) : ks (a ++ b) = ks b ++ ks a := by simp [ks]
@[simp] theorem ks_cons (c : Tok) (a : List Tok) : ks (c :: a) = ks a ++ [c.key] := by simp [ks]

/-- tokens not yet consumed (alias-free reading) -/
def PS.pending (s : PS) : Nat := (if s.cur.isSome then 1 else 0) + s.rest.length

def isStarter (t : Tok) : Bool := t.type == .rule || t.type == .define

/-- `RULE`/`DEFINE` tokens not yet consumed -/
def PS.starters (s : PS) : Nat := (s.cur.toList ++ s.rest).countP isStarter

/-- no alias definition contains a rule keyword -/
def NoKwA (A : Aliases) : Prop := ∀ p ∈ A, ∀ t ∈ p.2, t.type.isRuleKeyword = false

/-- a step from `s` to `s'` that consumed exactly `new` and left rules and aliases alone; it never
    adds unread tokens (without aliases) nor unread `RULE`/`DEFINE` tokens -/
structure Adv (s s' : PS) (new : List Tok) : Prop where
  consumed : s'.consumed = new ++ s.consumed
  rules : s'.rules = s.rules
  aliases : s'.aliases = s.aliases
  pot : s.aliases = [] → s'.pending + new.length ≤ s.pending
  starters : NoKwA s.aliases → s'.starters + new.countP isStarter ≤ s.starters

theorem Adv.refl (s : PS) : Adv s s [] := ⟨rfl, rfl, rfl, fun _ => by simp, fun _ => by simp⟩

theorem Adv.trans {s s1 s2 : PS} {n1 n2 : List Tok} (a : Adv s s1 n1) (b : Adv s1 s2 n2) :
    Adv s s2 (n2 ++ n1) :=
  ⟨by rw [b.consumed, a.consumed, List.append_assoc], by rw [b.rules, a.rules], by rw [b.aliases, a.aliases],
   fun h => by
     have h1 := a.pot h
     have h2 := b.pot (by rw [a.aliases, h])
     simp only [List.length_append]; omega,
   fun h => by
     have h1 := a.starters h
     have h2 := b.starters (by rw [a.aliases]; exact h)
     simp only [List.countP_append]; omega⟩

theorem isStarter_kw {t : Tok} (h : isStarter t = true) : t.type.isRuleKeyword = true := by
  simp only [isStarter, Bool.or_eq_true, beq_iff_eq] at h
  rcases h with h | h <;> rw [h] <;> rfl

theorem countP_starter_nokw {l : List Tok} (h : ∀ t ∈ l, t.type.isRuleKeyword = false) : l.countP isStarter = 0 := by
  rw [List.countP_eq_zero]
  intro t ht hs
  have := isStarter_kw hs
  rw [h t ht] at this; cases this

/-- skipping raw tokens: the new position is a suffix of the old stream -/
theorem Adv.of_suffix {s : PS} {c c' : Tok} {pre rest' : List Tok} (hc : s.cur = some c)
    (h : c :: s.rest = pre ++ c' :: rest') : Adv s { s with cur := some c', rest := rest' } [] := by
  refine ⟨rfl, rfl, rfl, fun _ => ?_, fun _ => ?_⟩
  · have := congrArg List.length h
    simp only [PS.pending, hc, List.length_cons, List.length_append] at this ⊢
    simp; omega
  · have := congrArg (List.countP isStarter) h
    simp only [PS.starters, hc, Option.toList_some, List.cons_append, List.nil_append, List.countP_append] at this ⊢
    simp only [List.countP_nil, Nat.add_zero]
    omega

/-- re-flagging the current token -/
theorem Adv.of_flag {s : PS} {c : Tok} (hc : s.cur = some c) :
    Adv s { s with cur := some { c with aliased := true } } [] := by
  refine ⟨rfl, rfl, rfl, fun _ => ?_, fun _ => ?_⟩
  · simp [PS.pending, hc]
  · simp [PS.starters, hc, List.countP_cons, isStarter]

/-- a value found by `List.lookup` stands in the list -/
theorem lookup_mem {α β} [BEq α] {l : List (α × β)} {k : α} {v : β} (h : l.lookup k = some v) : ∃ k', (k', v) ∈ l := by
  induction l with
  | nil => cases h
  | cons p ps ih =>
    obtain ⟨a, b⟩ := p
    simp only [List.lookup] at h
    split at h
    · cases h; exact ⟨a, by simp⟩
    · obtain ⟨k', hk⟩ := ih h; exact ⟨k', by simp [hk]⟩

theorem advance_adv {s s' : PS} (h : s.advance = .ok s') :
    Adv s s' [] ∧ (s.aliases = [] → s'.pending = s.rest.length) ∧
      (NoKwA s.aliases → s'.starters ≤ s.rest.countP isStarter) := by
  unfold PS.advance at h
  split at h
  · rename_i hr
    cases h
    refine ⟨⟨rfl, rfl, rfl, fun _ => by simp [PS.pending], fun _ => by simp [PS.starters, hr]⟩,
      fun _ => by simp [PS.pending, hr], fun _ => by simp [PS.starters, hr]⟩
  · rename_i n r hr
    have key : ∀ (b : Tok) (more : List Tok), (NoKwA s.aliases → (b :: more).countP isStarter ≤ (n :: r).countP isStarter) →
        (s.aliases = [] → more.length = r.length) →
        Adv s { s with cur := some b, rest := more } [] ∧
          (s.aliases = [] → ({ s with cur := some b, rest := more } : PS).pending = s.rest.length) ∧
          (NoKwA s.aliases → ({ s with cur := some b, rest := more } : PS).starters ≤ s.rest.countP isStarter) := by
      intro b more hst hlen
      refine ⟨⟨rfl, rfl, rfl, fun ha => ?_, fun hk => ?_⟩, fun ha => ?_, fun hk => ?_⟩
      · have := hlen ha
        simp only [PS.pending, hr, List.length_cons, List.length_nil]
        simp; split <;> omega
      · have := hst hk
        simp only [PS.starters, hr, Option.toList_some, List.cons_append, List.nil_append, List.countP_nil] at this ⊢
        cases s.cur <;> simp [List.countP_cons] at this ⊢ <;> omega
      · have := hlen ha
        simp [PS.pending, hr, this]; omega
      · have := hst hk
        simpa [PS.starters, hr] using this
    split at h
    · rename_i hid
      split at h
      · rename_i body hl
        split at h
        · cases h
        · rename_i b more hbm
          cases h
          refine key b more (fun hk => ?_) (fun ha => ?_)
          · rw [← hbm, List.countP_append]
            obtain ⟨k', hm⟩ := lookup_mem hl
            rw [countP_starter_nokw (hk _ hm)]
            simp [List.countP_cons]
          · rw [ha] at hl; cases hl
      · cases h
        exact key n r (fun _ => Nat.le_refl _) (fun _ => rfl)
    · cases h
      exact key n r (fun _ => Nat.le_refl _) (fun _ => rfl)

theorem consume_post {t : TT} {s s' : PS} {c : Tok} (h : consume t s = .ok (c, s')) :
    Adv s s' [c] ∧ c.type = t ∧ s.cur = some c := by
  unfold consume at h
  split at h
  · cases h
  · rename_i c' hc
    split at h
    · cases h
    · rename_i hne
      rw [Base.bind_eq_ok] at h
      obtain ⟨s1, h1, h⟩ := h
      cases h
      obtain ⟨this, hp, hs⟩ := advance_adv h1
      refine ⟨⟨by simpa using this.consumed, this.rules, this.aliases, fun ha => ?_, fun hk => ?_⟩,
        by simpa using hne, hc⟩
      · have := hp ha
        simp only at this
        simp only [PS.pending] at this
        simp only [PS.pending, hc, Option.isSome_some, ↓reduceIte, List.length_cons, List.length_nil]
        omega
      · have := hs hk
        simp only at this
        simp only [PS.starters, hc, Option.toList_some, List.cons_append, List.nil_append, List.countP_cons,
          List.countP_nil] at this ⊢
        omega

theorem skipText_spec (rest : List Tok) : ∀ (c : Tok) (acc sk : List Tok) (c' : Tok) (rest' : List Tok),
    skipText c rest acc = some (sk, c', rest') → ∃ pre, c :: rest = pre ++ c' :: rest' := by
  induction rest with
  | nil =>
    intro c acc sk c' rest' h
    unfold skipText at h
    split at h
    · cases h; exact ⟨[], rfl⟩
    · cases h
  | cons n r ih =>
    intro c acc sk c' rest' h
    unfold skipText at h
    split at h
    · cases h; exact ⟨[], rfl⟩
    · obtain ⟨pre, hp⟩ := ih n _ _ _ _ h
      exact ⟨c :: pre, by rw [hp]; rfl⟩

theorem key_of_type {c : Tok} {t : TT} (h : c.type = t) (h1 : t ≠ .identifier) (h2 : t ≠ .int) :
    c.key = kOf t := by
  subst h; simp [Tok.key, kOf, h1, h2]

theorem consumeId_post {s s' : PS} {n : String} (h : consumeId s = .ok (n, s')) :
    ∃ c, Adv s s' [c] ∧ c.key = kId n ∧ s.cur = some c := by
  unfold consumeId at h
  simp only [Base.bind_eq_ok, Prod.exists] at h
  obtain ⟨c, s1, h1, h⟩ := h
  cases h
  obtain ⟨a, ht, hc⟩ := consume_post h1
  exact ⟨c, a, by simp [Tok.key, kId, ht], hc⟩

theorem consumeInt_post {s s' : PS} {v : Nat} (h : consumeInt s = .ok (v, s')) :
    ∃ c, Adv s s' [c] ∧ c.key = kInt v ∧ s.cur = some c := by
  unfold consumeInt at h
  simp only [Base.bind_eq_ok, Prod.exists] at h
  obtain ⟨c, s1, h1, h⟩ := h
  cases h
  obtain ⟨a, ht, hc⟩ := consume_post h1
  exact ⟨c, a, by simp [Tok.key, kInt, ht], hc⟩

theorem curIs_iff {s : PS} {t : TT} : s.curIs t = true ↔ ∃ c, s.cur = some c ∧ c.type = t := by
  unfold PS.curIs
  cases s.cur <;> simp

theorem isNot_post {s s' : PS} {neg : Bool} (h : isNot s = .ok (neg, s')) :
    ∃ new, Adv s s' new ∧ ks new = flatNot neg := by
  unfold isNot at h
  split at h
  · simp only [Base.bind_eq_ok, Prod.exists] at h
    obtain ⟨c, s1, h1, h⟩ := h
    cases h
    obtain ⟨a, ht, _⟩ := consume_post h1
    exact ⟨[c], a, by simp [flatNot, key_of_type ht]⟩
  · cases h
    exact ⟨[], Adv.refl _, by simp [flatNot]⟩

/-! ### identifier lists -/

def idsTail (more : List String) : List Key := more.flatMap fun n => [kOf .comma, kId n]

theorem flatIds_cons (a : String) (more : List String) : flatIds (a :: more) = kId a :: idsTail more := by
  induction more generalizing a with
  | nil => simp [flatIds, idsTail]
  | cons b rest ih => simp [flatIds, idsTail, ih b]

theorem idsTail_append (a b : List String) : idsTail (a ++ b) = idsTail a ++ idsTail b := by
  simp [idsTail]

theorem idsLoop_post (fuel : Nat) : ∀ {acc : List String} {s s' : PS} {ids : List String},
    idsLoop fuel acc s = .ok (ids, s') →
    ∃ new more, ids = acc ++ more ∧ Adv s s' new ∧ ks new = idsTail more := by
  induction fuel with
  | zero => intro acc s s' ids h; simp [idsLoop] at h
  | succ n ih =>
    intro acc s s' ids h
    rw [idsLoop] at h
    split at h
    · simp only [Base.bind_eq_ok, Prod.exists] at h
      obtain ⟨c, s1, h1, m, s2, h2, h⟩ := h
      obtain ⟨a1, t1, _⟩ := consume_post h1
      obtain ⟨c2, a2, k2, _⟩ := consumeId_post h2
      obtain ⟨new, more, rfl, a3, k3⟩ := ih h
      refine ⟨new ++ ([c2] ++ [c]), m :: more, by simp, (a1.trans a2).trans a3, ?_⟩
      simp [ks_append, k3, k2, key_of_type t1, idsTail]
    · cases h
      exact ⟨[], [], by simp, Adv.refl _, by simp [idsTail]⟩

theorem parseIds_post {fuel : Nat} {s s' : PS} {ids : List String} (h : parseIds fuel s = .ok (ids, s')) :
    ∃ new, Adv s s' new ∧ ks new = flatIds ids ∧ ids ≠ [] := by
  unfold parseIds at h
  simp only [Base.bind_eq_ok, Prod.exists] at h
  obtain ⟨n, s1, h1, h⟩ := h
  obtain ⟨c, a1, k1, _⟩ := consumeId_post h1
  obtain ⟨new, more, rfl, a2, k2⟩ := idsLoop_post fuel h
  refine ⟨new ++ [c], a1.trans a2, ?_, by simp⟩
  simp [ks_append, k1, k2, flatIds_cons]

theorem parseList_post {fuel : Nat} {s s' : PS} {ids : List String} (h : parseList fuel s = .ok (ids, s')) :
    ∃ new, Adv s s' new ∧ ks new = kOf .listOpen :: flatIds ids ++ [kOf .listClose] ∧ ids ≠ [] := by
  unfold parseList at h
  simp only [Base.bind_eq_ok, Prod.exists] at h
  obtain ⟨c1, s1, h1, ids', s2, h2, c3, s3, h3, h⟩ := h
  cases h
  obtain ⟨a1, t1, _⟩ := consume_post h1
  obtain ⟨new, a2, k2, ne⟩ := parseIds_post h2
  obtain ⟨a3, t3, _⟩ := consume_post h3
  refine ⟨[c3] ++ (new ++ [c1]), (a1.trans a2).trans a3, ?_, ne⟩
  simp [ks_append, k2, key_of_type t1, key_of_type t3]

theorem mkMinimum_ok {neg : Bool} {count : Nat} {opts : List String} {c : Cond}
    (h : mkMinimum neg count opts = .ok c) :
    c = .minimum neg count opts ∧ hasDupStr opts = false ∧ 1 ≤ count := by
  unfold mkMinimum at h
  split at h
  · cases h
  · split at h
    · cases h
    · cases h
      rename_i h1 h2
      exact ⟨rfl, by simpa using h1, by omega⟩

theorem parseMinimum_post {fuel : Nat} {neg : Bool} {s s' : PS} {c : Cond}
    (h : parseMinimum fuel neg s = .ok (c, s')) :
    ∃ new count opts, c = .minimum neg count opts ∧ Adv s s' new ∧
      ks new = [kOf .minimum, kOf .groupOpen, kInt count, kOf .comma, kOf .listOpen] ++ flatIds opts
        ++ [kOf .listClose, kOf .groupClose] ∧
      opts ≠ [] ∧ hasDupStr opts = false ∧ 1 ≤ count := by
  unfold parseMinimum at h
  simp only [Base.bind_eq_ok, Prod.exists] at h
  obtain ⟨c1, s1, h1, c2, s2, h2, count, s3, h3, c4, s4, h4, opts, s5, h5, c6, s6, h6,
    c', h7, h⟩ := h
  cases h
  obtain ⟨a1, t1, _⟩ := consume_post h1
  obtain ⟨a2, t2, _⟩ := consume_post h2
  obtain ⟨c3, a3, k3, _⟩ := consumeInt_post h3
  obtain ⟨a4, t4, _⟩ := consume_post h4
  obtain ⟨new, a5, k5, ne⟩ := parseList_post h5
  obtain ⟨a6, t6, _⟩ := consume_post h6
  obtain ⟨rfl, nd, pos⟩ := mkMinimum_ok h7
  refine ⟨_, count, opts, rfl, ((((a1.trans a2).trans a3).trans a4).trans a5).trans a6, ?_, ne, nd, pos⟩
  simp [ks_append, k3, k5, key_of_type t1, key_of_type t2, key_of_type t4, key_of_type t6]

theorem parseScore_post {neg : Bool} {s s' : PS} {c : Cond} (h : parseScore neg s = .ok (c, s')) :
    ∃ new n v, c = .score neg n (Int.ofNat v) ∧ Adv s s' new ∧
      ks new = [kOf .score, kOf .groupOpen, kId n, kOf .comma, kInt v, kOf .groupClose] := by
  unfold parseScore at h
  simp only [Base.bind_eq_ok, Prod.exists] at h
  obtain ⟨c1, s1, h1, c2, s2, h2, n, s3, h3, c4, s4, h4, v, s5, h5, c6, s6, h6, h⟩ := h
  cases h
  obtain ⟨a1, t1, _⟩ := consume_post h1
  obtain ⟨a2, t2, _⟩ := consume_post h2
  obtain ⟨c3, a3, k3, _⟩ := consumeId_post h3
  obtain ⟨a4, t4, _⟩ := consume_post h4
  obtain ⟨c5, a5, k5, _⟩ := consumeInt_post h5
  obtain ⟨a6, t6, _⟩ := consume_post h6
  refine ⟨_, n, v, rfl, ((((a1.trans a2).trans a3).trans a4).trans a5).trans a6, ?_⟩
  simp [k3, k5, key_of_type t1, key_of_type t2, key_of_type t4, key_of_type t6]

end ASV.Parser
