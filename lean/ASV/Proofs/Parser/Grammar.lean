/-
  C02: the stratified grammar of the spec (`OrE`/`AndE`/`Atom`) against the condition objects:
  its token rendering has the keys of the flattening of its shape, legal syntax has a legal shape,
  and the C01 meaning of the shape is the grammar's denotation.
-/
import ASV.Proofs.Parser.Complete
namespace ASV.Parser
open ASV ASV.Rules ASV.Grammar

theorem digitsVal_toDigits (v : Nat) : digitsVal (Nat.toDigits 10 v) = v := by
  rw [digitsVal, ← Nat.ofDigitChars_eq_foldl]
  exact Nat.ofDigitChars_ten_toDigits

theorem digitsVal_toString (v : Nat) : digitsVal (toString v).toList = v := by
  have h1 : (toString v).toList = Nat.toDigits 10 v := Nat.toList_repr
  rw [h1, digitsVal_toDigits]

@[simp] theorem key_kw (s : String) (t : TT) (h1 : t ≠ .identifier) (h2 : t ≠ .int) : (kw s t).key = kOf t := by
  simp [kw, Tok.key, kOf, h1, h2]
@[simp] theorem key_tId (n : String) : (tId n).key = kId n := by simp [tId, Tok.key, kId]
@[simp] theorem key_tInt (v : Nat) : (tInt v).key = kInt v := by
  simp [tInt, Tok.key, kInt, digitsVal_toString, digitsVal_toDigits]
@[simp] theorem key_tOpen : tOpen.key = kOf .groupOpen := by simp [tOpen]
@[simp] theorem key_tClose : tClose.key = kOf .groupClose := by simp [tClose]
@[simp] theorem key_tComma : tComma.key = kOf .comma := by simp [tComma]

theorem tNot_keys (neg : Bool) : (tNot neg).map Tok.key = flatNot neg := by
  cases neg <;> simp [tNot, flatNot]

theorem ppIds_keys (opts : List String) : (ppIds opts).map Tok.key = flatIds opts := by
  induction opts with
  | nil => simp [ppIds, flatIds]
  | cons a rest ih =>
    cases rest with
    | nil => simp [ppIds, flatIds]
    | cons b r => rw [ppIds, flatIds] <;> simp [ih]

mutual
theorem ppOr_keys : ∀ t : OrE, (ppOr t).map Tok.key = flatJoin .orOp (shapeOr t)
  | .one a => by simp [ppOr, shapeOr, flatJoin, ppAnd_keys a]
  | .or a rest => by
      rw [ppOr, shapeOr, flatJoin_cons, List.map_append, ppAnd_keys a, List.map_cons, ppOr_keys rest]
      rw [joinTail_eq .orOp (shapeOr_ne_nil rest)]
      simp
theorem ppAnd_keys : ∀ a : AndE, (ppAnd a).map Tok.key = flatC (shapeAnd a)
  | .one a => by simp [ppAnd, shapeAnd, ppAtom_keys a]
  | .and a rest => by
      rw [ppAnd, shapeAnd, flatC, flatJoin_cons, List.map_append, ppAtom_keys a, List.map_cons, ppAnds_keys rest]
      rw [joinTail_eq .andOp (shapeAtoms_ne_nil rest)]
      simp
theorem ppAnds_keys : ∀ a : AndE, (ppAnd a).map Tok.key = flatJoin .andOp (shapeAtoms a)
  | .one a => by simp [ppAnd, shapeAtoms, flatJoin, ppAtom_keys a]
  | .and a rest => by
      rw [ppAnd, shapeAtoms, flatJoin_cons, List.map_append, ppAtom_keys a, List.map_cons, ppAnds_keys rest]
      rw [joinTail_eq .andOp (shapeAtoms_ne_nil rest)]
      simp
theorem ppAtom_keys : ∀ a : Atom, (ppAtom a).map Tok.key = flatC (shapeAtom a)
  | .id neg n => by simp [ppAtom, shapeAtom, flatC, tNot_keys]
  | .paren neg e => by simp [ppAtom, shapeAtom, flatC, tNot_keys, ppOr_keys e]
  | .cds neg e => by simp [ppAtom, shapeAtom, flatC, tNot_keys, ppOr_keys e]
  | .minimum neg c opts => by simp [ppAtom, shapeAtom, flatC, tNot_keys, ppIds_keys]
  | .minscore neg n s => by simp [ppAtom, shapeAtom, flatC, tNot_keys]
theorem shapeOr_ne_nil : ∀ t : OrE, shapeOr t ≠ []
  | .one _ => by simp [shapeOr]
  | .or _ _ => by simp [shapeOr]
theorem shapeAtoms_ne_nil : ∀ a : AndE, shapeAtoms a ≠ []
  | .one _ => by simp [shapeAtoms]
  | .and _ _ => by simp [shapeAtoms]
end

theorem isEmpty_false_of_ne {α} {l : List α} (h : l ≠ []) : l.isEmpty = false := by
  cases l with
  | nil => exact absurd rfl h
  | cons _ _ => rfl

mutual
theorem okOr_goods (b : Bool) : ∀ t : OrE, okOr b t = true → distinctOr t = true → Goods (!b) (shapeOr t)
  | .one a, h, d => by
      simp only [okOr] at h; simp only [distinctOr] at d
      exact Goods.single (okAnd_good b a h d)
  | .or a rest, h, d => by
      simp only [okOr, Bool.and_eq_true] at h; simp only [distinctOr, Bool.and_eq_true] at d
      exact Goods.cons (okAnd_good b a h.1 d.1) (okOr_goods b rest h.2 d.2)
theorem okAnd_good (b : Bool) : ∀ a : AndE, okAnd b a = true → distinctAnd a = true → Good (!b) (shapeAnd a)
  | .one a, h, d => by
      simp only [okAnd] at h; simp only [distinctAnd] at d
      exact (okAtom_good b a h d).1
  | .and a rest, h, d => by
      simp only [okAnd, Bool.and_eq_true] at h
      simp only [distinctAnd, andDistinct, Bool.and_eq_true, Bool.not_eq_true'] at d
      obtain ⟨ga, ata⟩ := okAtom_good b a h.1 d.1.2
      obtain ⟨gr, atr⟩ := okAnds_goods b rest h.2 d.2
      have ne := shapeAtoms_ne_nil rest
      have hl : 2 ≤ (shapeAtom a :: shapeAtoms rest).length := by
        cases hsr : shapeAtoms rest with
        | nil => exact absurd hsr ne
        | cons _ _ => simp
      refine ⟨?_, ?_⟩
      · simp only [shapeAnd, shapeOk, shapeOks, Bool.and_eq_true, decide_eq_true_eq, List.all_cons]
        exact ⟨⟨hl, ata, atr⟩, ga.shape, gr.shape⟩
      · simp only [shapeAnd, noRepeat, noRepeats, Bool.and_eq_true, Bool.not_eq_true']
        exact ⟨d.1.1, ga.norep, gr.norep⟩
theorem okAnds_goods (b : Bool) : ∀ a : AndE, okAnd b a = true → distinctAnds a = true →
    Goods (!b) (shapeAtoms a) ∧ (shapeAtoms a).all Cond.isAtomish = true
  | .one a, h, d => by
      simp only [okAnd] at h; simp only [distinctAnds] at d
      obtain ⟨ga, ata⟩ := okAtom_good b a h d
      exact ⟨Goods.single ga, by simp [shapeAtoms, ata]⟩
  | .and a rest, h, d => by
      simp only [okAnd, Bool.and_eq_true] at h; simp only [distinctAnds, Bool.and_eq_true] at d
      obtain ⟨ga, ata⟩ := okAtom_good b a h.1 d.1
      obtain ⟨gr, atr⟩ := okAnds_goods b rest h.2 d.2
      exact ⟨Goods.cons ga gr, by simp only [shapeAtoms, List.all_cons, ata, atr, Bool.and_self]⟩
theorem okAtom_good (b : Bool) : ∀ a : Atom, okAtom b a = true → distinctAtom a = true →
    Good (!b) (shapeAtom a) ∧ (shapeAtom a).isAtomish = true
  | .id neg n, _, _ => ⟨⟨by simp [shapeAtom, shapeOk], by simp [shapeAtom, noRepeat]⟩, rfl⟩
  | .minscore neg n s, _, _ => ⟨⟨by simp [shapeAtom, shapeOk], by simp [shapeAtom, noRepeat]⟩, rfl⟩
  | .minimum neg c opts, h, _ => by
      simp only [okAtom, Bool.and_eq_true, Bool.not_eq_true', decide_eq_true_eq] at h
      obtain ⟨⟨⟨hb, hc⟩, he⟩, hd⟩ := h
      refine ⟨⟨?_, ?_⟩, rfl⟩
      · simp [shapeAtom, shapeOk, hb, he]
      · simp [shapeAtom, noRepeat, hd, hc]
  | .paren neg e, h, d => by
      simp only [okAtom, Bool.and_eq_true, Bool.not_eq_true'] at h
      simp only [distinctAtom] at d
      have g := okOr_goods b e h.1 d
      refine ⟨⟨?_, ?_⟩, rfl⟩
      · simp [shapeAtom, shapeOk, g.shape, isEmpty_false_of_ne (shapeOr_ne_nil e)]
      · simp [shapeAtom, noRepeat, g.norep, h.2]
  | .cds neg e, h, d => by
      simp only [okAtom, Bool.and_eq_true, Bool.not_eq_true'] at h
      simp only [distinctAtom] at d
      obtain ⟨⟨⟨hb, ho⟩, hd⟩, hl⟩ := h
      have g := okOr_goods true e ho d
      subst hb
      refine ⟨⟨?_, ?_⟩, rfl⟩
      · have := g.shape
        simp only [Bool.not_true] at this
        simp [shapeAtom, shapeOk, this, isEmpty_false_of_ne (shapeOr_ne_nil e), hl]
      · simp [shapeAtom, noRepeat, g.norep, hd]
end

/-! ### thm 3: the C01 meaning of the shape is the grammar's denotation -/

mutual
theorem semLocalAny_shapeOr (e : Env) (g : Gene) : ∀ t : OrE, semLocalAny e g (shapeOr t) = locOr e g t
  | .one a => by simp [shapeOr, semLocalAny, locOr, semLocal_shapeAnd e g a]
  | .or a r => by simp [shapeOr, semLocalAny, locOr, semLocal_shapeAnd e g a, semLocalAny_shapeOr e g r]
theorem semLocal_shapeAnd (e : Env) (g : Gene) : ∀ a : AndE, semLocal e g (shapeAnd a) = locAnd e g a
  | .one a => by simp [shapeAnd, locAnd, semLocal_shapeAtom e g a]
  | .and a r => by
      simp [shapeAnd, semLocal, semLocalAll, locAnd, semLocal_shapeAtom e g a, semLocalAll_shapeAtoms e g r]
theorem semLocalAll_shapeAtoms (e : Env) (g : Gene) : ∀ a : AndE, semLocalAll e g (shapeAtoms a) = locAnd e g a
  | .one a => by simp [shapeAtoms, semLocalAll, locAnd, semLocal_shapeAtom e g a]
  | .and a r => by
      simp [shapeAtoms, semLocalAll, locAnd, semLocal_shapeAtom e g a, semLocalAll_shapeAtoms e g r]
theorem semLocal_shapeAtom (e : Env) (g : Gene) : ∀ a : Atom, semLocal e g (shapeAtom a) = locAtom e g a
  | .id neg n => by simp [shapeAtom, semLocal, locAtom]
  | .paren neg x => by simp [shapeAtom, semLocal, locAtom, semLocalAny_shapeOr e g x]
  | .cds neg x => by simp [shapeAtom, semLocal, locAtom, semLocalAny_shapeOr e g x]
  | .minimum neg c opts => by simp [shapeAtom, semLocal, locAtom]
  | .minscore neg n s => by simp [shapeAtom, semLocal, locAtom]
end

mutual
theorem semAny_shapeOr (e : Env) (g : Gene) : ∀ t : OrE, semAny e g (shapeOr t) = denOr e g t
  | .one a => by simp [shapeOr, semAny, denOr, sem_shapeAnd e g a]
  | .or a r => by simp [shapeOr, semAny, denOr, sem_shapeAnd e g a, semAny_shapeOr e g r]
theorem sem_shapeAnd (e : Env) (g : Gene) : ∀ a : AndE, sem e g (shapeAnd a) = denAnd e g a
  | .one a => by simp [shapeAnd, denAnd, sem_shapeAtom e g a]
  | .and a r => by simp [shapeAnd, sem, semAll, denAnd, sem_shapeAtom e g a, semAll_shapeAtoms e g r]
theorem semAll_shapeAtoms (e : Env) (g : Gene) : ∀ a : AndE, semAll e g (shapeAtoms a) = denAnd e g a
  | .one a => by simp [shapeAtoms, semAll, denAnd, sem_shapeAtom e g a]
  | .and a r => by simp [shapeAtoms, semAll, denAnd, sem_shapeAtom e g a, semAll_shapeAtoms e g r]
theorem sem_shapeAtom (e : Env) (g : Gene) : ∀ a : Atom, sem e g (shapeAtom a) = denAtom e g a
  | .id neg n => by simp [shapeAtom, sem, denAtom]
  | .paren neg x => by simp [shapeAtom, sem, denAtom, semAny_shapeOr e g x]
  | .cds neg x => by
      simp only [shapeAtom, sem, denAtom, semLocalAny_shapeOr]
  | .minimum neg c opts => by simp [shapeAtom, sem, denAtom]
  | .minscore neg n s => by simp [shapeAtom, sem, denAtom]
end

/-- what `okTop` says of the shape of a piece of syntax -/
theorem okTop_goods {t : OrE} (ht : okTop t = true) :
    Goods true (shapeOr t) ∧ hasDupStr (printConds (shapeOr t)) = false := by
  simp only [okTop, Bool.and_eq_true, Bool.not_eq_true'] at ht
  exact ⟨okOr_goods false t ht.1.1 ht.1.2, ht.2⟩

/-- `parse_pp` of `Props/C02.lean`: completeness for the rendering of a piece of syntax -/
theorem parse_pp_aux (t : OrE) (ht : okTop t = true) (fuel : Nat) (k consumed : List Tok) (rules : List Rule)
    (hk : NotBinop k) (hend : ∀ c r, endCheck false (ofStream k c r) = .ok ())
    (hf : 3 * (ppOr t).length + 2 ≤ fuel) :
    parseConditions fuel true false (ofStream (ppOr t ++ k) consumed rules) =
      .ok (shapeOr t, ofStream k ((ppOr t).reverse ++ consumed) rules) := by
  have g := (okTop_goods ht).1
  exact parseConditions_complete true false (shapeOr t) fuel (ppOr t) k consumed rules (shapeOr_ne_nil t)
    g.shape g.norep (ppOr_keys t) hk hend hf

end ASV.Parser
