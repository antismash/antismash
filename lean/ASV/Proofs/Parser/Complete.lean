/-
  C02, completeness direction (parse_pp): every token string whose keys are the flattening of a
  well-shaped condition list without repeated operands is parsed into exactly that list —
  for every nesting depth and operator mix: `not` binds tighter than `and`, `and` tighter than `or`,
  parentheses and `cds(...)` group.  Strong induction on the number of tokens.
-/
import ASV.Proofs.Parser.Stream
namespace ASV.Parser
open ASV ASV.Rules ASV.Grammar

/-- an operand of an `or`: a lone atom, or the `and`-chain of `a` and `atoms` -/
def operand (a : Cond) (atoms : List Cond) : Cond :=
  match atoms with
  | [] => a
  | _ :: _ => .conj (a :: atoms)

def NotBinop (k : List Tok) : Prop := headType k ≠ some .andOp ∧ headType k ≠ some .orOp

theorem flatC_operand (a : Cond) (atoms : List Cond) :
    flatC (operand a atoms) = flatC a ++ joinTail .andOp atoms := by
  cases atoms with
  | nil => simp [operand, joinTail]
  | cons b more => simp only [operand, flatC]; rw [flatJoin_cons]

/-- an `or`-operand of the documented shape is an atom or an `and`-chain of at least two atoms -/
theorem operand_of_shape {allow : Bool} {c : Cond} (h : shapeOk allow c = true) (hn : noRepeat c = true) :
    ∃ a atoms, c = operand a atoms ∧ Good allow a ∧ a.isAtomish = true ∧ Goods allow atoms ∧
      atoms.all Cond.isAtomish = true ∧ (atoms ≠ [] → hasDupStr (printConds (a :: atoms)) = false) := by
  cases c with
  | conj subs =>
    simp only [shapeOk, Bool.and_eq_true, decide_eq_true_eq] at h
    obtain ⟨⟨hl, hat⟩, hs⟩ := h
    simp only [noRepeat, Bool.and_eq_true, Bool.not_eq_true'] at hn
    match subs, hl with
    | a :: b :: more, _ =>
      simp only [List.all_cons, Bool.and_eq_true] at hat
      simp only [shapeOks, Bool.and_eq_true] at hs
      simp only [noRepeats, Bool.and_eq_true] at hn
      refine ⟨a, b :: more, rfl, ⟨hs.1, hn.2.1⟩, hat.1, ⟨?_, ?_⟩, ?_, fun _ => hn.1⟩
      · simp [shapeOks, hs.2.1, hs.2.2]
      · simp [noRepeats, hn.2.2.1, hn.2.2.2]
      · simp [hat.2.1, hat.2.2]
  | single neg n => exact ⟨_, [], rfl, ⟨h, hn⟩, rfl, Goods.nil _, rfl, fun h => absurd rfl h⟩
  | score neg n s => exact ⟨_, [], rfl, ⟨h, hn⟩, rfl, Goods.nil _, rfl, fun h => absurd rfl h⟩
  | minimum neg n o => exact ⟨_, [], rfl, ⟨h, hn⟩, rfl, Goods.nil _, rfl, fun h => absurd rfl h⟩
  | cds neg s => exact ⟨_, [], rfl, ⟨h, hn⟩, rfl, Goods.nil _, rfl, fun h => absurd rfl h⟩
  | group neg s => exact ⟨_, [], rfl, ⟨h, hn⟩, rfl, Goods.nil _, rfl, fun h => absurd rfl h⟩

theorem Goods.of_cons {al : Bool} {c : Cond} {cs : List Cond} (h : Goods al (c :: cs)) : Good al c ∧ Goods al cs := by
  obtain ⟨h1, h2⟩ := h
  simp only [shapeOks, Bool.and_eq_true] at h1
  simp only [noRepeats, Bool.and_eq_true] at h2
  exact ⟨⟨h1.1, h2.1⟩, ⟨h1.2, h2.2⟩⟩

/-- the four statements, for token strings of at most `n` tokens -/
def SC (n : Nat) : Prop :=
  ∀ (allow : Bool) (c : Cond) (fuel : Nat) (w k cons : List Tok) (r : List Rule), w.length ≤ n →
    Good allow c → c.isAtomish = true → w.map Tok.key = flatC c → 3 * w.length + 1 ≤ fuel →
    parseSingle fuel allow (ofStream (w ++ k) cons r) = .ok (c, ofStream k (w.reverse ++ cons) r)

def CC (n : Nat) : Prop :=
  ∀ (allow isGroup : Bool) (L : List Cond) (fuel : Nat) (w k cons : List Tok) (r : List Rule), w.length ≤ n →
    L ≠ [] → Goods allow L → w.map Tok.key = flatJoin .orOp L → NotBinop k →
    (∀ c r, endCheck isGroup (ofStream k c r) = .ok ()) → 3 * w.length + 2 ≤ fuel →
    parseConditions fuel allow isGroup (ofStream (w ++ k) cons r) = .ok (L, ofStream k (w.reverse ++ cons) r)

def LC (n : Nat) : Prop :=
  ∀ (allow : Bool) (a : Cond) (atoms cs : List Cond) (fuel : Nat) (acc : List Cond) (w k cons : List Tok)
    (r : List Rule), w.length ≤ n → Goods allow atoms → atoms.all Cond.isAtomish = true →
    (atoms ≠ [] → hasDupStr (printConds (a :: atoms)) = false) → Goods allow cs →
    w.map Tok.key = joinTail .andOp atoms ++ joinTail .orOp cs → NotBinop k → 3 * w.length + 2 ≤ fuel →
    condLoop fuel allow acc a true (ofStream (w ++ k) cons r) =
      .ok (acc ++ operand a atoms :: cs, ofStream k (w.reverse ++ cons) r)

def AC (n : Nat) : Prop :=
  ∀ (allow : Bool) (more : List Cond) (fuel : Nat) (acc : List Cond) (w k cons : List Tok) (r : List Rule),
    w.length ≤ n → Goods allow more → more.all Cond.isAtomish = true → w.map Tok.key = joinTail .andOp more →
    headType k ≠ some .andOp → 3 * w.length + 1 ≤ fuel →
    andLoop fuel allow acc (ofStream (w ++ k) cons r) = .ok (acc ++ more, ofStream k (w.reverse ++ cons) r)

theorem SC.mono {n m : Nat} (h : SC n) (hm : m ≤ n) : SC m :=
  fun al c f w k cons r hw => h al c f w k cons r (Nat.le_trans hw hm)
theorem CC.mono {n m : Nat} (h : CC n) (hm : m ≤ n) : CC m :=
  fun al g L f w k cons r hw => h al g L f w k cons r (Nat.le_trans hw hm)
theorem LC.mono {n m : Nat} (h : LC n) (hm : m ≤ n) : LC m :=
  fun al a ats cs f acc w k cons r hw => h al a ats cs f acc w k cons r (Nat.le_trans hw hm)
theorem AC.mono {n m : Nat} (h : AC n) (hm : m ≤ n) : AC m :=
  fun al more f acc w k cons r hw => h al more f acc w k cons r (Nat.le_trans hw hm)

theorem headType_append_of_ne {w k : List Tok} (h : w ≠ []) : headType (w ++ k) = headType w := by
  cases w with
  | nil => exact absurd rfl h
  | cons t ts => rfl

theorem map_key_ne_nil {w : List Tok} {ks : List Key} (h : w.map Tok.key = ks) (hk : ks ≠ []) : w ≠ [] := by
  intro hw; subst hw; simp at h; exact hk h

/-- the type of the first token of `w`, read off its keys -/
theorem headType_of_keys {w : List Tok} {k0 : Key} {ks : List Key} (h : w.map Tok.key = k0 :: ks) :
    headType w = some k0.type := by
  obtain ⟨t, w', rfl, ht, _⟩ := List.map_eq_cons_iff.mp h
  simp [key_type ht]

theorem flatIds_length (opts : List String) : opts.length ≤ (flatIds opts).length := by
  induction opts with
  | nil => simp
  | cons a rest ih =>
    rw [flatIds_cons]
    cases rest with
    | nil => simp
    | cons b r => rw [flatIds_cons] at ih; simp [idsTail] at ih ⊢; omega

theorem flatNot_length (neg : Bool) : (flatNot neg).length ≤ 1 := by cases neg <;> simp [flatNot]

theorem flatC_atom_ne_nil {c : Cond} (h : c.isAtomish = true) : flatC c ≠ [] := by
  cases c <;> simp [flatC, Cond.isAtomish] at h ⊢

theorem ac_step (n : Nat) (hS : ∀ m < n, SC m) (hA : ∀ m < n, AC m) : AC n := by
  intro allow more fuel acc w k cons r hwn g hat hw hk hf
  obtain ⟨f, rfl⟩ : ∃ f, fuel = f + 1 := ⟨fuel - 1, by omega⟩
  cases more with
  | nil =>
    simp [joinTail] at hw; subst hw
    simp [andLoop, curIs_ofStream, hk]
  | cons m ms =>
    simp only [joinTail, List.flatMap_cons, List.cons_append] at hw
    obtain ⟨t, w1, rfl, ht, hw⟩ := List.map_eq_cons_iff.mp hw
    obtain ⟨wm, w', rfl, hm, hw'⟩ := List.map_eq_append_iff.mp hw
    obtain ⟨gm, gms⟩ := g.of_cons
    simp only [List.all_cons, Bool.and_eq_true] at hat
    simp only [List.length_cons, List.length_append] at hwn hf
    have h1 := hS wm.length (by omega) allow m f wm (w' ++ k) (t :: cons) r (Nat.le_refl _) gm hat.1 hm (by omega)
    have h2 := hA w'.length (by omega) allow ms f (acc ++ [m]) w' k (wm.reverse ++ t :: cons) r (Nat.le_refl _) gms hat.2
      (by simpa [joinTail] using hw') hk (by omega)
    rw [andLoop]
    simp only [List.cons_append, List.append_assoc, curIs_ofStream, headType_cons, key_kOf ht, beq_self_eq_true,
      ↓reduceIte, consumeKw_ofStream ht, bind, Except.bind, h1, h2]
    simp

/-- one `or` step of the loop of `_parse_conditions` -/
theorem or_step (n : Nat) (hS : ∀ m < n, SC m) (hL : ∀ m < n, LC m)
    (allow : Bool) (lv : Cond) (pending : Bool) (c' : Cond) (cs' : List Cond) (f : Nat) (acc : List Cond)
    (w k cons : List Tok) (r : List Rule) (hwn : w.length ≤ n) (g : Goods allow (c' :: cs'))
    (hw : w.map Tok.key = joinTail .orOp (c' :: cs')) (hk : NotBinop k) (hf : 3 * w.length + 2 ≤ f + 1) :
    condLoop (f + 1) allow acc lv pending (ofStream (w ++ k) cons r) =
      .ok ((if pending then acc ++ [lv] else acc) ++ c' :: cs', ofStream k (w.reverse ++ cons) r) := by
  obtain ⟨gc, gcs⟩ := g.of_cons
  obtain ⟨a', atoms', rfl, ga, hata, gat, hatat, hdup⟩ := operand_of_shape gc.shape gc.norep
  simp only [joinTail, List.flatMap_cons, List.cons_append] at hw
  obtain ⟨t, w1, rfl, ht, hw⟩ := List.map_eq_cons_iff.mp hw
  obtain ⟨wc, wr, rfl, hc, hr⟩ := List.map_eq_append_iff.mp hw
  rw [flatC_operand] at hc
  obtain ⟨wa, wt, rfl, ha, hta⟩ := List.map_eq_append_iff.mp hc
  simp only [List.length_cons, List.length_append] at hwn hf
  have h1 := hS wa.length (by omega) allow a' f wa (wt ++ wr ++ k) (t :: cons) r (Nat.le_refl _) ga hata ha (by omega)
  have h2 := hL (wt ++ wr).length (by simp; omega) allow a' atoms' cs' f (if pending then acc ++ [lv] else acc)
    (wt ++ wr) k (wa.reverse ++ t :: cons) r (Nat.le_refl _) gat hatat hdup gcs
    (by rw [List.map_append, hta]; simp [joinTail, hr]) hk (by simp; omega)
  simp only [List.append_assoc] at h1 h2
  rw [condLoop]
  simp only [List.cons_append, List.append_assoc, curIs_ofStream, headType_cons, key_kOf ht, beq_self_eq_true,
    ↓reduceIte, consumeKw_ofStream ht, bind, Except.bind, h1]
  simp [h2]

theorem lc_step (n : Nat) (hS : ∀ m < n, SC m) (hA : ∀ m < n, AC m) (hL : ∀ m < n, LC m) : LC n := by
  intro allow a atoms cs fuel acc w k cons r hwn gat hatat hdup gcs hw hk hf
  obtain ⟨f, rfl⟩ : ∃ f, fuel = f + 1 := ⟨fuel - 1, by omega⟩
  cases atoms with
  | nil =>
    simp only [joinTail, List.flatMap_nil, List.nil_append] at hw
    cases cs with
    | nil =>
      simp at hw; subst hw
      simp [condLoop, curIs_ofStream, hk.1, hk.2, operand]
    | cons c' cs' =>
      have := or_step n hS hL allow a true c' cs' f acc w k cons r hwn gcs (by simpa [joinTail] using hw) hk hf
      simpa [operand] using this
  | cons b more =>
    simp only [joinTail, List.flatMap_cons, List.cons_append, List.append_assoc] at hw
    obtain ⟨t, w1, rfl, ht, hw⟩ := List.map_eq_cons_iff.mp hw
    obtain ⟨wb, w2, rfl, hb, hw⟩ := List.map_eq_append_iff.mp hw
    obtain ⟨wm, wo, rfl, hm, ho⟩ := List.map_eq_append_iff.mp hw
    obtain ⟨gb, gmore⟩ := gat.of_cons
    simp only [List.all_cons, Bool.and_eq_true] at hatat
    simp only [List.length_cons, List.length_append] at hwn hf
    obtain ⟨g, rfl⟩ : ∃ g, f = g + 1 := ⟨f - 1, by omega⟩
    have hko : headType (wo ++ k) ≠ some .andOp := by
      cases cs with
      | nil => simp at ho; subst ho; simpa using hk.1
      | cons c' cs' =>
        simp only [List.flatMap_cons, List.cons_append] at ho
        obtain ⟨t', wo', rfl, ht', _⟩ := List.map_eq_cons_iff.mp ho
        simp [key_kOf ht']
    have h1 := hS wb.length (by omega) allow b g wb (wm ++ (wo ++ k)) (t :: cons) r (Nat.le_refl _) gb hatat.1 hb (by omega)
    have h2 := hA wm.length (by omega) allow more g [a, b] wm (wo ++ k) (wb.reverse ++ t :: cons) r (Nat.le_refl _)
      gmore hatat.2 (by simpa [joinTail] using hm) hko (by omega)
    have hmk : mkConj ([a, b] ++ more) = .ok (.conj (a :: b :: more)) := by
      have := hdup (by simp)
      simp [mkConj, checkOperands, this, bind, Except.bind, pure, Except.pure]
    -- what follows the `and`-chain
    have h3 : condLoop (g + 1) allow (acc ++ [.conj (a :: b :: more)]) a false
        (ofStream (wo ++ k) (wm.reverse ++ (wb.reverse ++ t :: cons)) r) =
        .ok (acc ++ [.conj (a :: b :: more)] ++ cs, ofStream k (wo.reverse ++ (wm.reverse ++ (wb.reverse ++ t :: cons))) r) := by
      cases cs with
      | nil =>
        simp at ho; subst ho
        simp [condLoop, curIs_ofStream, hk.1, hk.2]
      | cons c' cs' =>
        have := or_step n hS hL allow a false c' cs' g (acc ++ [.conj (a :: b :: more)]) wo k
          (wm.reverse ++ (wb.reverse ++ t :: cons)) r (by omega) gcs (by simpa [joinTail] using ho) hk (by omega)
        simpa using this
    rw [condLoop]
    simp only [List.cons_append, List.append_assoc, curIs_ofStream, headType_cons, key_kOf ht, beq_self_eq_true,
      ↓reduceIte, bind, Except.bind]
    rw [parseAnds]
    simp only [consumeKw_ofStream ht, bind, Except.bind, h1, h2, hmk, pure, Except.pure, h3]
    simp [operand]

theorem cc_step (n : Nat) (hS : SC n) (hL : ∀ m < n, LC m) : CC n := by
  intro allow isGroup L fuel w k cons r hwn ne g hw hk hend hf
  obtain ⟨f, rfl⟩ : ∃ f, fuel = f + 1 := ⟨fuel - 1, by omega⟩
  cases L with
  | nil => exact absurd rfl ne
  | cons c cs =>
    obtain ⟨gc, gcs⟩ := g.of_cons
    obtain ⟨a, atoms, rfl, ga, hata, gat, hatat, hdup⟩ := operand_of_shape gc.shape gc.norep
    rw [flatJoin_cons, flatC_operand] at hw
    obtain ⟨wc, wr, rfl, hc, hr⟩ := List.map_eq_append_iff.mp hw
    obtain ⟨wa, wt, rfl, ha, hta⟩ := List.map_eq_append_iff.mp hc
    have hane : wa ≠ [] := map_key_ne_nil ha (flatC_atom_ne_nil hata)
    simp only [List.length_append] at hwn hf
    have hapos : 1 ≤ wa.length := by
      cases wa with
      | nil => exact absurd rfl hane
      | cons _ _ => simp
    have h1 := hS allow a f wa (wt ++ wr ++ k) cons r (by omega) ga hata ha (by omega)
    have h2 := hL (wt ++ wr).length (by simp; omega) allow a atoms cs f [] (wt ++ wr) k (wa.reverse ++ cons) r
      (Nat.le_refl _) gat hatat hdup gcs (by rw [List.map_append, hta, hr]) hk (by simp; omega)
    simp only [List.append_assoc] at h1 h2
    have hcur : (ofStream (wa ++ (wt ++ (wr ++ k))) cons r).cur.isNone = false := by
      cases wa with
      | nil => exact absurd rfl hane
      | cons t ts => simp
    rw [parseConditions]
    simp only [List.append_assoc, hcur, Bool.false_eq_true, ↓reduceIte, bind, Except.bind, h1, h2]
    simp [hend, pure, Except.pure]

theorem sc_step (n : Nat) (hC : ∀ m < n, CC m) : SC n := by
  intro allow c fuel w k cons r hwn g hat hw hf
  obtain ⟨f, rfl⟩ : ∃ f, fuel = f + 1 := ⟨fuel - 1, by omega⟩
  cases c with
  | conj subs => simp [Cond.isAtomish] at hat
  | single neg nm =>
    simp only [flatC] at hw
    obtain ⟨wn, wi, rfl, hn, hi⟩ := List.map_eq_append_iff.mp hw
    obtain ⟨t, w', rfl, ht, hw'⟩ := List.map_eq_cons_iff.mp hi
    simp at hw'; subst hw'
    obtain ⟨hty, htx⟩ := key_kId ht
    have h0 := isNot_ofStream (k := t :: k) (c := cons) (r := r) hn (by simp [hty])
    rw [parseSingle]
    simp only [List.append_assoc, List.cons_append, List.nil_append, bind, Except.bind, h0, ofStream_cur_cons, hty]
    simp [consumeId_ofStream ht, bind, Except.bind, pure, Except.pure]
  | score neg nm sc =>
    simp only [flatC] at hw
    obtain ⟨wn, wi, rfl, hn, hi⟩ := List.map_eq_append_iff.mp hw
    obtain ⟨t, w', rfl, ht, hw'⟩ := List.map_eq_cons_iff.mp hi
    have hty := key_kOf ht
    have h0 := isNot_ofStream (k := (t :: w') ++ k) (c := cons) (r := r) hn (by simp [hty])
    have h1 := parseScore_ofStream (neg := neg) (k := k) (c := wn.reverse ++ cons) (r := r) hi
    have hsc : 0 ≤ sc := by
      have := g.shape
      simpa only [shapeOk, decide_eq_true_eq] using this
    rw [parseSingle]
    simp only [List.append_assoc, bind, Except.bind, h0]
    simp only [List.cons_append, ofStream_cur_cons, hty]
    simp only [List.cons_append] at h1
    simp [h1]
    omega
  | minimum neg count opts =>
    have hs := g.shape
    have hr := g.norep
    simp only [shapeOk, Bool.and_eq_true, Bool.not_eq_true', List.isEmpty_eq_false_iff] at hs
    simp only [noRepeat, Bool.and_eq_true, Bool.not_eq_true', decide_eq_true_eq] at hr
    obtain ⟨rfl, hne⟩ := hs
    simp only [flatC, List.append_assoc] at hw
    obtain ⟨wn, wi, rfl, hn, hi⟩ := List.map_eq_append_iff.mp hw
    have hi' : wi.map Tok.key = [kOf .minimum, kOf .groupOpen, kInt count, kOf .comma, kOf .listOpen] ++ flatIds opts
        ++ [kOf .listClose, kOf .groupClose] := by simpa using hi
    obtain ⟨t, w', rfl, ht, hw'⟩ := List.map_eq_cons_iff.mp hi
    have hty := key_kOf ht
    have h0 := isNot_ofStream (k := (t :: w') ++ k) (c := cons) (r := r) hn (by simp [hty])
    have hlen : opts.length ≤ f := by
      have h1 := flatIds_length opts
      have h2 : (List.map Tok.key (t :: w')).length = (t :: w').length := List.length_map _
      rw [hi'] at h2
      simp only [List.length_append, List.length_cons, List.length_nil] at h2 hf
      omega
    have h1 := parseMinimum_ofStream (neg := neg) (count := count) hne hr.1 hr.2 (fuel := f) (k := k)
      (c := wn.reverse ++ cons) (r := r) hi' hlen
    rw [parseSingle]
    simp only [List.append_assoc, bind, Except.bind, h0]
    simp only [List.cons_append, ofStream_cur_cons, hty]
    simp only [List.cons_append] at h1
    simp [h1]
  | cds neg subs =>
    have hs := g.shape
    have hr := g.norep
    simp only [shapeOk, Bool.and_eq_true, Bool.not_eq_true', List.isEmpty_eq_false_iff] at hs
    simp only [noRepeat, Bool.and_eq_true, Bool.not_eq_true'] at hr
    obtain ⟨⟨⟨rfl, hne⟩, hsubs⟩, hlone⟩ := hs
    simp only [flatC, List.append_assoc, List.cons_append, List.nil_append] at hw
    obtain ⟨wn, wi, rfl, hn, hi⟩ := List.map_eq_append_iff.mp hw
    obtain ⟨t1, w1, rfl, ht1, hi⟩ := List.map_eq_cons_iff.mp hi
    obtain ⟨t2, w2, rfl, ht2, hi⟩ := List.map_eq_cons_iff.mp hi
    obtain ⟨wb, we, rfl, hb, he⟩ := List.map_eq_append_iff.mp hi
    obtain ⟨t3, w3, rfl, ht3, he⟩ := List.map_eq_cons_iff.mp he
    simp at he; subst he
    have hty1 := key_kOf ht1
    have h0 := isNot_ofStream (k := (t1 :: t2 :: (wb ++ [t3])) ++ k) (c := cons) (r := r) hn (by simp [hty1])
    simp only [List.length_cons, List.length_append, List.length_nil] at hwn hf
    obtain ⟨f', rfl⟩ : ∃ f', f = f' + 1 := ⟨f - 1, by omega⟩
    have h1 := hC wb.length (by omega) false true subs f' wb (t3 :: k) (t2 :: t1 :: (wn.reverse ++ cons)) r
      (Nat.le_refl _) hne ⟨hsubs, hr.2⟩ hb (by simp [NotBinop, key_kOf ht3])
      (by intro c r; simp [endCheck, key_kOf ht3]) (by omega)
    have hmk : mkCds neg subs = .ok (.cds neg subs) := by
      simp [mkCds, checkOperands, hr.1, bind, Except.bind, pure, Except.pure]
    rw [parseSingle]
    simp only [List.append_assoc, bind, Except.bind, h0]
    simp only [List.cons_append, ofStream_cur_cons, hty1]
    rw [parseCds]
    simp only [List.cons_append, List.nil_append, List.append_assoc] at h1 ⊢
    simp [consumeKw_ofStream ht1, consumeKw_ofStream ht2, bind, Except.bind, h1, hlone, consumeKw_ofStream ht3, hmk,
      pure, Except.pure]
  | group neg subs =>
    have hs := g.shape
    have hr := g.norep
    simp only [shapeOk, Bool.and_eq_true, Bool.not_eq_true', List.isEmpty_eq_false_iff] at hs
    simp only [noRepeat, Bool.and_eq_true, Bool.not_eq_true'] at hr
    obtain ⟨hne, hsubs⟩ := hs
    simp only [flatC, List.append_assoc, List.cons_append, List.nil_append] at hw
    obtain ⟨wn, wi, rfl, hn, hi⟩ := List.map_eq_append_iff.mp hw
    obtain ⟨t1, w1, rfl, ht1, hi⟩ := List.map_eq_cons_iff.mp hi
    obtain ⟨wb, we, rfl, hb, he⟩ := List.map_eq_append_iff.mp hi
    obtain ⟨t3, w3, rfl, ht3, he⟩ := List.map_eq_cons_iff.mp he
    simp at he; subst he
    have hty1 := key_kOf ht1
    have h0 := isNot_ofStream (k := (t1 :: (wb ++ [t3])) ++ k) (c := cons) (r := r) hn (by simp [hty1])
    simp only [List.length_cons, List.length_append, List.length_nil] at hwn hf
    obtain ⟨f', rfl⟩ : ∃ f', f = f' + 1 := ⟨f - 1, by omega⟩
    have h1 := hC wb.length (by omega) allow true subs f' wb (t3 :: k) (t1 :: (wn.reverse ++ cons)) r
      (Nat.le_refl _) hne ⟨hsubs, hr.2⟩ hb (by simp [NotBinop, key_kOf ht3])
      (by intro c r; simp [endCheck, key_kOf ht3]) (by omega)
    have hmk : mkGroup neg subs = .ok (.group neg subs) := by
      simp [mkGroup, checkOperands, hr.1, bind, Except.bind, pure, Except.pure]
    rw [parseSingle]
    simp only [List.append_assoc, bind, Except.bind, h0]
    simp only [List.cons_append, ofStream_cur_cons, hty1]
    rw [parseGroup]
    simp only [List.cons_append, List.nil_append, List.append_assoc] at h1 ⊢
    simp [consumeKw_ofStream ht1, bind, Except.bind, h1, consumeKw_ofStream ht3, hmk, pure, Except.pure]

theorem all_complete : ∀ n, SC n ∧ CC n ∧ LC n ∧ AC n := by
  intro n
  induction n using Nat.strongRecOn with
  | _ n ih =>
    have hS : ∀ m < n, SC m := fun m h => (ih m h).1
    have hC : ∀ m < n, CC m := fun m h => (ih m h).2.1
    have hL : ∀ m < n, LC m := fun m h => (ih m h).2.2.1
    have hA : ∀ m < n, AC m := fun m h => (ih m h).2.2.2
    have s := sc_step n hC
    exact ⟨s, cc_step n s hL, lc_step n hS hA hL, ac_step n hS hA⟩

/-- completeness of `_parse_conditions` on alias-free input, at the level of keys -/
theorem parseConditions_complete (allow isGroup : Bool) (L : List Cond) (fuel : Nat) (w k cons : List Tok)
    (r : List Rule) (ne : L ≠ []) (hs : shapeOks allow L = true) (hr : noRepeats L = true)
    (hw : w.map Tok.key = flatJoin .orOp L) (hk : NotBinop k)
    (hend : ∀ c r, endCheck isGroup (ofStream k c r) = .ok ()) (hf : 3 * w.length + 2 ≤ fuel) :
    parseConditions fuel allow isGroup (ofStream (w ++ k) cons r) = .ok (L, ofStream k (w.reverse ++ cons) r) :=
  (all_complete w.length).2.1 allow isGroup L fuel w k cons r (Nat.le_refl _) ne ⟨hs, hr⟩ hw hk hend hf

end ASV.Parser
