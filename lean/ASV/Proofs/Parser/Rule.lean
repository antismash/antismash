/-
  C02: what a successful run of each section of a rule, and of `parseRule` as a whole, guarantees
  about the state it leaves and the rule it returns.
-/
import ASV.Proofs.Parser.Flat
import ASV.Proofs.Parser.Natural
namespace ASV.Parser
open ASV ASV.Rules ASV.Grammar

theorem skipFree_adv {s s' : PS} {x : List Tok} (h : skipFree s = .ok (x, s')) : Adv s s' [] := by
  unfold skipFree at h
  split at h
  · cases h; exact Adv.refl _
  · rename_i c0 hc0
    split at h
    · cases h
    · rename_i sk c' rest' hsk
      cases h
      obtain ⟨pre, hp⟩ := skipText_spec _ _ _ _ _ _ hsk
      exact Adv.of_suffix hc0 hp

/-- DESCRIPTION skips its free text as EXAMPLE does, but must find a keyword after it -/
theorem parseDescription_eq (s : PS) :
    parseDescription s = (do
      let (_, s) ← consume .description s
      if s.cur.isNone then .error .syntax else do
        let (sk, s) ← skipFree s
        pure (sk.map (·.text), s)) := by
  unfold parseDescription skipFree
  refine bind_congr fun ⟨_, s1⟩ => ?_
  simp only
  cases s1.cur with
  | none => rfl
  | some c =>
    simp only [Option.isNone_some, Bool.false_eq_true, ↓reduceIte]
    cases skipText c s1.rest [] <;> rfl

theorem parseDescription_adv {s s' : PS} {d : List String} (h : parseDescription s = .ok (d, s')) :
    ∃ new, Adv s s' new := by
  rw [parseDescription_eq] at h
  simp only [Base.bind_eq_ok, Prod.exists] at h
  obtain ⟨c, s1, h1, h⟩ := h
  split at h
  · cases h
  · simp only [Base.bind_eq_ok, Prod.exists] at h
    obtain ⟨sk, s2, h2, h⟩ := h
    cases h
    exact ⟨_, (consume_post h1).1.trans (skipFree_adv h2)⟩

theorem parseExample_adv {s s' : PS} {e : Example} (h : parseExample s = .ok (e, s')) :
    ∃ new, Adv s s' new ∧ new ≠ [] := by
  unfold parseExample at h
  simp only [Base.bind_eq_ok, Prod.exists] at h
  obtain ⟨c1, s1, h1, db, s2, h2, acc, s3, h3, c4, s4, h4, v, s5, h5, c6, s6, h6, comp, s7, h7, e', _, h⟩ := h
  obtain ⟨a1, _, _⟩ := consume_post h1
  obtain ⟨_, a2, _, _⟩ := consumeId_post h2
  obtain ⟨_, a3, _, _⟩ := consumeId_post h3
  obtain ⟨a4, _, _⟩ := consume_post h4
  obtain ⟨_, a5, _, _⟩ := consumeInt_post h5
  obtain ⟨a6, _, _⟩ := consume_post h6
  cases h
  exact ⟨_, (((((a1.trans a2).trans a3).trans a4).trans a5).trans a6).trans (skipFree_adv h7), by simp⟩

/-! ### every parser function moves forward, since `consume` and the two raw skips do -/

def Fwd (s s' : PS) : Prop := ∃ new, Adv s s' new

theorem readsFwd (s₀ : PS) : ReadsRaw False (Diag Fwd s₀) Eq Eq :=
  readsRawDiag (fun ⟨_, a⟩ ⟨_, b⟩ => ⟨_, a.trans b⟩) (fun h => ⟨_, (consume_post h).1⟩) (fun hc => ⟨_, Adv.of_flag hc⟩)
    parseDescription_adv (fun h => (parseExample_adv h).elim fun _ a => ⟨_, a.1⟩) s₀

theorem Fwd.of_res {α} {R : α → α → Prop} {s s' : PS} {a : α} {f : PS → Except Err (α × PS)}
    (h : ∀ {t}, Diag Fwd s t s → Res False (Diag Fwd s) R (f t) (f s)) (hx : f s = .ok (a, s')) :
    ∃ new, Adv s s' new :=
  Res.diag_elim (fun s => ⟨_, Adv.refl s⟩) h hx

theorem examplesLoop_adv (fuel : Nat) {acc : List Example} {s s' : PS} {ex : List Example}
    (h : examplesLoop fuel acc s = .ok (ex, s')) : ∃ new, Adv s s' new :=
  Fwd.of_res (fun hS => examplesLoop_res (readsFwd s) fuel fuel (Fu.same _) hS (Exs.refl (fun _ => rfl) acc)) h

theorem parseRelated_adv {fuel : Nat} {s s' : PS} {rel : List String}
    (h : parseRelated fuel s = .ok (rel, s')) : ∃ new, Adv s s' new :=
  Fwd.of_res (parseRelated_res (readsFwd s) (Fu.same _)) h

theorem parseMeta_adv {fuel : Nat} {s s' : PS} {x : List String × List Example × List String × List String}
    (h : parseMeta fuel s = .ok (x, s')) : ∃ new, Adv s s' new :=
  Fwd.of_res (fun hS => parseMeta_res (readsFwd s) (Fu.same _) hS rfl) h

theorem parseDistances_adv {s s' : PS} {d : Nat × Nat} (h : parseDistances s = .ok (d, s')) :
    ∃ new, Adv s s' new :=
  Fwd.of_res (parseDistances_res (readsFwd s).toReads) h

theorem parseSuperiors_post {fuel : Nat} {s s' : PS} {sup : List String}
    (h : parseSuperiors fuel s = .ok (sup, s')) (inv : SupInv s.rules) :
    ∀ m ∈ sup, ∃ q, s.rules.find? (·.name == m) = some q ∧ ∀ x ∈ q.superiors, x ∈ sup := by
  rw [parseSuperiors_eq] at h
  simp only [Base.bind_eq_ok, Prod.exists] at h
  obtain ⟨c1, s1, h1, decl, s2, h2, h⟩ := h
  obtain ⟨_, a2, _, _⟩ := parseIds_post h2
  have a := (consume_post h1).1.trans a2
  split at h
  · cases h
  · split at h
    · rename_i hall
      cases h
      rw [a.rules] at hall ⊢
      intro m hm
      -- a declared name is a stored rule, whose superiors were added; an added name is a superior of a
      -- declared rule, and the stored rules are closed
      have found : ∀ n ∈ decl, ∃ p, s.rules.find? (·.name == n) = some p ∧ supOf s.rules n = p.superiors := by
        intro n hn
        obtain ⟨p, hp⟩ := Option.isSome_iff_exists.mp (List.all_eq_true.mp hall n hn)
        exact ⟨p, hp, by rw [supOf, hp]⟩
      simp only [mem_sortDedupStr, List.mem_append, List.mem_flatMap] at hm ⊢
      rcases hm with hm | ⟨n, hn, hm⟩
      · obtain ⟨p, hp, e⟩ := found m hm
        exact ⟨p, hp, fun x hx => Or.inr ⟨m, hm, e ▸ hx⟩⟩
      · obtain ⟨p, hp, e⟩ := found n hn
        obtain ⟨q, hq, hs⟩ := inv p (List.mem_of_find?_eq_some hp) m (e ▸ hm)
        exact ⟨q, hq, fun x hx => Or.inr ⟨n, hn, e ▸ hs x hx⟩⟩
    · cases h

theorem parseHead_post {cfg : Cfg} {s s' : PS} {name category : String}
    (h : parseHead cfg s = .ok ((name, category), s')) :
    (∃ new, Adv s s' new ∧ 1 ≤ new.countP isStarter) ∧ cfg.cats.contains category = true := by
  unfold parseHead at h
  simp only [Base.bind_eq_ok, Prod.exists] at h
  obtain ⟨c1, s1, h1, h⟩ := h
  split at h
  · cases h
  · simp only [Base.bind_eq_ok, Prod.exists] at h
    obtain ⟨nm, s2, h2, h⟩ := h
    split at h
    · cases h
    · simp only [Base.bind_eq_ok, Prod.exists] at h
      obtain ⟨c3, s3, h3, cat, s4, h4, h⟩ := h
      split at h
      · cases h
      · rename_i hcat
        split at h
        · cases h
        · cases h
          obtain ⟨a1, t1, _⟩ := consume_post h1
          obtain ⟨_, a2, _, _⟩ := consumeId_post h2
          obtain ⟨a3, _, _⟩ := consume_post h3
          obtain ⟨_, a4, _, _⟩ := consumeId_post h4
          refine ⟨⟨_, ((a1.trans a2).trans a3).trans a4, ?_⟩, by simpa using hcat⟩
          simp [List.countP_cons, isStarter, t1]
          omega

theorem parseMeta_post {fuel : Nat} {s s' : PS} {d : List String} {ex : List Example} {rel sup : List String}
    (h : parseMeta fuel s = .ok ((d, ex, rel, sup), s')) (inv : SupInv s.rules) :
    ∀ m ∈ sup, ∃ q, s.rules.find? (·.name == m) = some q ∧ ∀ x ∈ q.superiors, x ∈ sup := by
  unfold parseMeta at h
  simp only [Base.bind_eq_ok, Prod.exists] at h
  obtain ⟨d', s1, h1, ex', s2, h2, rel', s3, h3, h⟩ := h
  have ⟨n1, a1⟩ : ∃ new, Adv s s1 new := by
    split at h1
    · exact parseDescription_adv h1
    · cases h1; exact ⟨_, Adv.refl _⟩
  obtain ⟨n2, a2⟩ := examplesLoop_adv fuel h2
  obtain ⟨n3, a3⟩ := parseRelated_adv h3
  split at h
  · cases h
  · simp only [Base.bind_eq_ok, Prod.exists] at h
    obtain ⟨sup', s4, h4, h⟩ := h
    cases h
    -- the sections before SUPERIORS leave the stored rules alone
    rw [← ((a1.trans a2).trans a3).rules] at inv ⊢
    split at h4
    · exact parseSuperiors_post h4 inv
    · cases h4; simp

theorem parseExtenders_adv {fuel : Nat} {s s' : PS} {ext : Option Cond}
    (h : parseExtenders fuel s = .ok (ext, s')) : ∃ new, Adv s s' new :=
  Fwd.of_res (parseExtenders_res (readsFwd s) (Fu.same _)) h

theorem parseExtenders_post {fuel : Nat} {s s' : PS} {ext : Option Cond}
    (h : parseExtenders fuel s = .ok (ext, s')) : ∀ e, ext = some e → noRepeat e = true := by
  unfold parseExtenders at h
  split at h
  · simp only [Base.bind_eq_ok, Prod.exists] at h
    obtain ⟨c1, s1, h1, h⟩ := h
    split at h
    · cases h
    · split at h
      · simp only [Base.bind_eq_ok, Prod.exists] at h
        obtain ⟨body, s2, h2, e, h3, h⟩ := h
        cases h
        obtain ⟨_, _, _, gs, _, _⟩ := (blockPost fuel).cds _ _ _ h2
        obtain ⟨rfl, nd⟩ := mkCds_ok h3
        intro e he; cases he
        simp [noRepeat, nd, gs.norep]
      · split at h
        · simp only [Base.bind_eq_ok, Prod.exists] at h
          obtain ⟨e, s2, h2, h⟩ := h
          obtain ⟨_, _, _, g, _⟩ := (blockPost fuel).single _ _ _ _ h2
          have : ext = some e := by
            split at h
            · split at h
              · cases h
              · cases h; rfl
            · cases h; rfl
          intro e' he; rw [this] at he; cases he; exact g.norep
        · cases h
  · cases h
    intro e he; cases he

/-- the CONDITIONS section of `r` sits in the consumed tokens (`consumed` is newest-first) -/
def Recorded (consumed : List Tok) (r : Rule) : Prop :=
  ∃ p c m q subs, consumed.reverse = p ++ c :: m ++ q ∧ c.type = .conditions ∧
    r.conditions = .group false subs ∧ m.map Tok.key = flatJoin .orOp subs

theorem Recorded.mono {consumed new : List Tok} {r : Rule} (h : Recorded consumed r) :
    Recorded (new ++ consumed) r := by
  obtain ⟨p, c, m, q, subs, h1, h2, h3, h4⟩ := h
  exact ⟨p, c, m, q ++ new.reverse, subs, by simp [h1], h2, h3, h4⟩

/-- rule-local well-formedness without the profile check (that one is global, at the end) -/
def ruleOkW (cfg : Cfg) (r : Rule) : Prop :=
  cfg.cats.contains r.category = true ∧ noRepeat r.conditions = true ∧ positive r.conditions = true ∧
    ∀ e, r.extenders = some e → positive e = true ∧ noRepeat e = true

/-- what a successful `parseRuleWith` went through, section by section -/
theorem parseRuleWith_ok {fuel : Nat} {cfg : Cfg} {s s' : PS} {r : Rule} (h : parseRuleWith fuel cfg s = .ok (r, s')) :
    ∃ s1 s2 s3 c4 s4 subs s5,
      parseHead cfg s = .ok ((r.name, r.category), s1) ∧
      parseMeta fuel s1 = .ok ((r.description, r.examples, r.related, r.superiors), s2) ∧
      parseDistances s2 = .ok ((r.cutoff, r.neighbourhood), s3) ∧ consume .conditions s3 = .ok (c4, s4) ∧
      parseConditions fuel true false s4 = .ok (subs, s5) ∧ mkGroup false subs = .ok r.conditions ∧
      parseExtenders fuel s5 = .ok (r.extenders, s') ∧ positive r.conditions = true ∧
      extendersNegative r.extenders = false := by
  unfold parseRuleWith at h
  obtain ⟨⟨⟨name, cat⟩, s1⟩, h1, h⟩ := Base.bind_eq_ok.mp h
  obtain ⟨⟨⟨d, ex, rel, sup⟩, s2⟩, h2, h⟩ := Base.bind_eq_ok.mp h
  obtain ⟨⟨⟨cut, nb⟩, s3⟩, h3, h⟩ := Base.bind_eq_ok.mp h
  obtain ⟨⟨c4, s4⟩, h4, h⟩ := Base.bind_eq_ok.mp h
  obtain ⟨⟨subs, s5⟩, h5, h⟩ := Base.bind_eq_ok.mp h
  obtain ⟨conds, h6, h⟩ := Base.bind_eq_ok.mp h
  obtain ⟨⟨ext, s6⟩, h7, h⟩ := Base.bind_eq_ok.mp h
  obtain ⟨_, _, h⟩ := Base.bind_eq_ok.mp h
  split at h
  · cases h
  · rename_i hpos
    split at h
    · cases h
    · rename_i hepos
      cases h
      exact ⟨s1, s2, s3, c4, s4, subs, s5, h1, h2, h3, h4, h5, h6, h7, by simpa using hpos, by simpa using hepos⟩

/-- a rule parse consumes what it reads, its `RULE` keyword among it -/
theorem parseRuleWith_adv {fuel : Nat} {cfg : Cfg} {s s' : PS} {r : Rule}
    (h : parseRuleWith fuel cfg s = .ok (r, s')) : ∃ new, Adv s s' new ∧ 1 ≤ new.countP isStarter := by
  obtain ⟨_, _, _, _, _, _, _, h1, h2, h3, h4, h5, _, h7, _⟩ := parseRuleWith_ok h
  obtain ⟨⟨n1, a1, k1⟩, _⟩ := parseHead_post h1
  obtain ⟨n2, a2⟩ := parseMeta_adv h2
  obtain ⟨n3, a3⟩ := parseDistances_adv h3
  obtain ⟨a4, _, _⟩ := consume_post h4
  obtain ⟨n5, a5, _⟩ := (blockPost _).conds _ _ _ _ _ h5
  obtain ⟨n7, a7⟩ := parseExtenders_adv h7
  refine ⟨_, (((((a1.trans a2).trans a3).trans a4).trans a5).trans a7), ?_⟩
  simp only [List.countP_append]; omega

theorem parseRule_post {cfg : Cfg} {s s' : PS} {r : Rule} (h : parseRule cfg s = .ok (r, s'))
    (inv : SupInv s.rules) :
    ∃ new, Adv s s' new ∧ ruleOkW cfg r ∧ supOk s.rules r = true ∧ Recorded s'.consumed r := by
  obtain ⟨s1, s2, s3, c4, s4, subs, s5, h1, h2, h3, h4, h5, h6, h7, hpos, hepos⟩ := parseRuleWith_ok h
  obtain ⟨⟨n1, a1, _⟩, hcat⟩ := parseHead_post h1
  have inv1 : SupInv s1.rules := by rw [a1.rules]; exact inv
  obtain ⟨n2, a2⟩ := parseMeta_adv h2
  have hsup := parseMeta_post h2 inv1
  rw [a1.rules] at hsup
  obtain ⟨n3, a3⟩ := parseDistances_adv h3
  obtain ⟨a4, t4, _⟩ := consume_post h4
  obtain ⟨n5, a5, k5, gs, ne, _⟩ := (blockPost _).conds _ _ _ _ _ h5
  obtain ⟨hc, nd⟩ := mkGroup_ok h6
  obtain ⟨n7, a7⟩ := parseExtenders_adv h7
  have hext := parseExtenders_post h7
  have a14 := ((a1.trans a2).trans a3).trans a4
  refine ⟨_, (a14.trans a5).trans a7, ⟨hcat, ?_, hpos, ?_⟩, ?_, ?_⟩
  · simp [hc, noRepeat, nd, gs.norep]
  · intro e he
    exact ⟨by simpa [extendersNegative, he] using hepos, hext e he⟩
  · exact supOk_iff.mpr hsup
  · refine ⟨(([c4] ++ (n3 ++ (n2 ++ n1))) ++ s.consumed).reverse.dropLast, c4, n5.reverse, n7.reverse, subs, ?_, t4, hc, k5⟩
    rw [a7.consumed, a5.consumed, a14.consumed]
    simp

end ASV.Parser
