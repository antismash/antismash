/-
  C18: the list comprehension a worker runs on one chunk, the completion indices of an event
  list, and CPython's chunking (`_get_tasks`, chunk size, number of chunks).  Core Lean only.
-/
import ASV.Spec.Parallel
import ASV.Proofs.Base.Except

/-! for Base/Except -/

namespace ASV.Base

/-- a failed `mapM` failed with the error of one of its calls -/
theorem mapM_error_mem {ε : Type u} {α β : Type v} {f : α → Except ε β} {e : ε} :
    ∀ {l : List α}, l.mapM f = .error e → ∃ a ∈ l, f a = .error e
  | [], h => nomatch h
  | a :: l, h => by
    rw [List.mapM_cons] at h
    cases hb : f a with
    | error e' =>
      rw [hb, error_bind] at h
      exact ⟨a, List.mem_cons_self, Except.error.inj h ▸ hb⟩
    | ok b =>
      rw [hb, ok_bind] at h
      cases hbs : l.mapM f with
      | error e' =>
        rw [hbs, error_bind] at h
        obtain ⟨x, hx, hfx⟩ := mapM_error_mem hbs
        exact ⟨x, List.mem_cons_of_mem a hx, Except.error.inj h ▸ hfx⟩
      | ok bs =>
        rw [hbs] at h
        cases h

end ASV.Base

namespace ASV.Parallel

variable {α ε β : Type}

/-! ### the list comprehension -/

/-- the comprehension is the library `mapM` of the exception monad; what follows about it is `ASV.Base.mapM_*` -/
theorem comprehension_eq_mapM (f : α → Except ε β) : ∀ l : List α, comprehension f l = l.mapM f
  | [] => rfl
  | a :: rest => by
    rw [comprehension, comprehension_eq_mapM f rest, List.mapM_cons]
    cases f a with
    | error e => rfl
    | ok b => cases List.mapM f rest <;> rfl

theorem comprehension_eq_sequential (f : α → Except ε β) (l : List α) :
    comprehension f l = sequential f l :=
  comprehension_eq_mapM f l

theorem comprehension_cons_ok {f : α → Except ε β} {a : α} {rest : List α} {r : List β}
    (h : comprehension f (a :: rest) = .ok r) :
    ∃ b bs, f a = .ok b ∧ comprehension f rest = .ok bs ∧ r = b :: bs := by
  simp only [comprehension_eq_mapM] at h ⊢
  exact Base.mapM_cons_eq_ok.1 h

theorem sequential_error_of_failing (f : α → Except ε β) (args : List α)
    (h : ∃ a ∈ args, ∃ e, f a = .error e) : ∃ e₀, sequential f args = .error e₀ := by
  obtain ⟨a, ha, e, hfa⟩ := h
  cases hseq : sequential f args with
  | error e₀ => exact ⟨e₀, rfl⟩
  | ok l =>
    obtain ⟨b, hb⟩ := Base.mapM_ok_iff_forall.1 ⟨l, hseq⟩ a ha
    rw [hfa] at hb
    cases hb

theorem comprehension_error_mem (f : α → Except ε β) (l : List α) (e : ε) (h : comprehension f l = .error e) :
    ∃ a ∈ l, f a = .error e :=
  Base.mapM_error_mem ((comprehension_eq_mapM f l).symm.trans h)

theorem comprehension_congr (f f' : α → Except ε β) (l : List α) (h : ∀ a ∈ l, f a = f' a) :
    comprehension f l = comprehension f' l := by
  rw [comprehension_eq_mapM, comprehension_eq_mapM]
  exact Base.mapM_congr h

theorem comprehension_append (f : α → Except ε β) (l₁ l₂ : List α) :
    comprehension f (l₁ ++ l₂) =
      match comprehension f l₁ with
      | .error e => .error e
      | .ok r₁ =>
        match comprehension f l₂ with
        | .error e => .error e
        | .ok r₂ => .ok (r₁ ++ r₂) := by
  rw [comprehension_eq_mapM, comprehension_eq_mapM, comprehension_eq_mapM, List.mapM_append]
  cases List.mapM f l₁ with
  | error e => rfl
  | ok r₁ => cases List.mapM f l₂ <;> rfl

/-- running the chunks one after another is running the calls one after another -/
theorem comprehension_flatten (f : α → Except ε β) :
    ∀ (tasks : List (List α)), comprehension f tasks.flatten =
      match comprehension (comprehension f) tasks with
      | .error e => .error e
      | .ok rs => .ok rs.flatten
  | [] => rfl
  | t :: rest => by
    simp only [List.flatten_cons, comprehension_append, comprehension_flatten f rest, comprehension]
    cases comprehension f t with
    | error e => rfl
    | ok r => cases comprehension (comprehension f) rest <;> rfl

/-! ### the completion indices of an event list -/

theorem doneIdxs_done (i : Nat) (rest : List Event) : doneIdxs (.done i :: rest) = i :: doneIdxs rest := rfl
theorem doneIdxs_timeout (rest : List Event) : doneIdxs (.timeout :: rest) = doneIdxs rest := rfl
theorem doneIdxs_died (w : Nat) (rest : List Event) : doneIdxs (.died w :: rest) = doneIdxs rest := rfl
theorem doneIdxs_bystander (p : Nat) (rest : List Event) : doneIdxs (.bystander p :: rest) = doneIdxs rest := rfl

/-! ### `_get_tasks` -/

/-- block lengths: all `cs` except possibly the last, which is at most `cs` -/
def Uniform (cs : Nat) : List Nat → Prop
  | [] => True
  | [n] => n ≤ cs
  | n :: n' :: rest => n = cs ∧ Uniform cs (n' :: rest)

theorem Uniform_nil (cs : Nat) : Uniform cs [] := trivial
theorem Uniform_singleton {cs n : Nat} : Uniform cs [n] ↔ n ≤ cs := Iff.rfl
theorem Uniform_cons_cons {cs n n' : Nat} {rest : List Nat} :
    Uniform cs (n :: n' :: rest) ↔ n = cs ∧ Uniform cs (n' :: rest) := Iff.rfl

theorem ceilDiv_zero (b : Nat) (hb : 0 < b) : ceilDiv 0 b = 0 :=
  Nat.div_eq_of_lt (by omega)

theorem ceilDiv_pos (a b : Nat) (ha : 0 < a) (hb : 0 < b) : ceilDiv a b = (a - 1) / b + 1 := by
  unfold ceilDiv
  rw [Nat.sub_add_comm ha, Nat.add_div_right _ hb]

theorem ceilDiv_add (a b : Nat) (hb : 0 < b) : ceilDiv (a + b) b = ceilDiv a b + 1 := by
  unfold ceilDiv
  rw [Nat.sub_add_comm (Nat.le_trans hb (Nat.le_add_left b a)), Nat.add_div_right _ hb]

/-- one more slice for the first `b` elements -/
theorem ceilDiv_step (a b : Nat) (ha : 0 < a) (hb : 0 < b) : ceilDiv a b = ceilDiv (a - b) b + 1 := by
  by_cases h : b ≤ a
  · have := ceilDiv_add (a - b) b hb
    rw [Nat.sub_add_cancel h] at this
    exact this
  · have hlt : a < b := Nat.lt_of_not_le h
    rw [ceilDiv_pos a b ha hb, Nat.sub_eq_zero_of_le (Nat.le_of_lt hlt), ceilDiv_zero b hb,
      Nat.div_eq_of_lt (Nat.lt_of_le_of_lt (Nat.sub_le a 1) hlt)]

theorem getTasksAux_nil (size fuel : Nat) : getTasksAux size fuel ([] : List α) = [] := by
  cases fuel <;> simp [getTasksAux]

theorem getTasksAux_cons (size fuel : Nat) (hs : 0 < size) (l : List α) (hl : l ≠ []) :
    getTasksAux size (fuel + 1) l = l.take size :: getTasksAux size fuel (l.drop size) := by
  cases l with
  | nil => exact absurd rfl hl
  | cons a t =>
    obtain ⟨s, rfl⟩ : ∃ s, size = s + 1 := ⟨size - 1, by omega⟩
    rfl

/-- `_get_tasks` cuts `l` into consecutive slices of `size` elements, the last one possibly
    shorter, `⌈|l| / size⌉` of them -/
theorem getTasksAux_spec (size : Nat) (hs : 0 < size) :
    ∀ (fuel : Nat) (l : List α), l.length ≤ fuel →
      (getTasksAux size fuel l).flatten = l ∧
      Uniform size ((getTasksAux size fuel l).map List.length) ∧
      (getTasksAux size fuel l).length = ceilDiv l.length size
  | 0, l, h => by
    have : l = [] := List.eq_nil_of_length_eq_zero (Nat.le_zero.mp h)
    subst this
    exact ⟨rfl, Uniform_nil size, (ceilDiv_zero size hs).symm⟩
  | fuel + 1, l, h => by
    by_cases hl : l = []
    · subst hl
      rw [getTasksAux_nil]
      exact ⟨rfl, Uniform_nil size, (ceilDiv_zero size hs).symm⟩
    · have hpos : 0 < l.length := List.length_pos_iff.mpr hl
      obtain ⟨ihf, ihu, ihl⟩ := getTasksAux_spec size hs fuel (l.drop size)
        (by rw [List.length_drop]
            exact Nat.sub_le_of_le_add (Nat.le_trans h (Nat.add_le_add_left hs fuel)))
      rw [getTasksAux_cons size fuel hs l hl]
      refine ⟨by rw [List.flatten_cons, ihf, List.take_append_drop], ?_, ?_⟩
      · cases hrest : getTasksAux size fuel (l.drop size) with
        | nil =>
          apply Uniform_singleton.mpr
          rw [List.length_take]
          exact Nat.min_le_left _ _
        | cons b rest' =>
          rw [hrest] at ihu
          -- the remainder is non-empty, so the slice was full
          have hdrop : 0 < (l.drop size).length := by
            apply List.length_pos_iff.mpr
            intro hd
            rw [hd, getTasksAux_nil] at hrest
            cases hrest
          rw [List.length_drop] at hdrop
          exact Uniform_cons_cons.mpr ⟨by rw [List.length_take, Nat.min_eq_left (Nat.le_of_lt (Nat.lt_of_sub_pos hdrop))], ihu⟩
      · rw [List.length_cons, ihl, List.length_drop, ← ceilDiv_step l.length size hpos hs]

theorem getTasks_flatten (size : Nat) (hs : 0 < size) (l : List α) : (getTasks size l).flatten = l :=
  (getTasksAux_spec size hs l.length l (Nat.le_refl _)).1

theorem getTasks_uniform (size : Nat) (hs : 0 < size) (l : List α) :
    Uniform size ((getTasks size l).map List.length) :=
  (getTasksAux_spec size hs l.length l (Nat.le_refl _)).2.1

theorem getTasks_length (size : Nat) (hs : 0 < size) (l : List α) :
    (getTasks size l).length = ceilDiv l.length size :=
  (getTasksAux_spec size hs l.length l (Nat.le_refl _)).2.2

theorem mem_of_mem_getTasksAux (size : Nat) :
    ∀ (fuel : Nat) (l : List α) (t : List α) (a : α), t ∈ getTasksAux size fuel l → a ∈ t → a ∈ l
  | 0, _, _, _, h, _ => by cases h
  | fuel + 1, l, t, a, h, ha => by
    simp only [getTasksAux] at h
    split at h
    · cases h
    · rcases List.mem_cons.mp h with rfl | h
      · exact List.mem_of_mem_take ha
      · exact List.mem_of_mem_drop (mem_of_mem_getTasksAux size fuel (l.drop size) t a h ha)

/-! ### chunk size / number of chunks -/

theorem ceilDiv_eq (a b : Nat) (hb : 0 < b) :
    ceilDiv a b = a / b + (if a % b ≠ 0 then 1 else 0) := by
  cases a with
  | zero => simp [ceilDiv_zero b hb]
  | succ a =>
    rw [ceilDiv_pos (a + 1) b (Nat.succ_pos a) hb, Nat.add_sub_cancel]
    by_cases hd : b ∣ a + 1
    · rw [Nat.succ_div_of_dvd hd, if_neg (not_not_intro (Nat.dvd_iff_mod_eq_zero.mp hd))]
    · rw [Nat.succ_div_of_not_dvd hd, if_pos fun h => hd (Nat.dvd_iff_mod_eq_zero.mpr h)]

theorem chunkSize_eq_ceilDiv (n workers : Nat) (hw : 0 < workers) :
    chunkSize n workers = ceilDiv n (4 * workers) := by
  rw [ceilDiv_eq n (4 * workers) (Nat.mul_pos (by decide) hw), Nat.mul_comm 4 workers]
  unfold chunkSize
  by_cases hn : n = 0
  · subst hn; simp
  · simp only [hn, if_false]
    split <;> rfl

theorem chunkSize_pos (n workers : Nat) (hn : 0 < n) : 0 < chunkSize n workers := by
  unfold chunkSize
  simp only [Nat.ne_of_gt hn, if_false]
  by_cases hr : n % (workers * 4) = 0
  · rw [if_neg (not_not_intro hr)]
    -- no remainder: the quotient cannot vanish for `n > 0`
    apply Nat.pos_of_ne_zero
    intro hq
    have := Nat.div_add_mod n (workers * 4)
    rw [hq, hr, Nat.mul_zero, Nat.add_zero] at this
    exact Nat.ne_of_gt hn this.symm
  · rw [if_pos hr]
    exact Nat.succ_pos _

theorem tasks_length_eq_numChunks (args : List α) (workers : Nat) (hw : 0 < workers) :
    (getTasks (chunkSize args.length workers) args).length = numChunks args.length workers := by
  unfold numChunks
  rw [← chunkSize_eq_ceilDiv _ _ hw]
  by_cases hn : args.length = 0
  · have : args = [] := List.eq_nil_of_length_eq_zero hn
    subst this
    simp [getTasks, getTasksAux, ceilDiv, chunkSize]
  · exact getTasks_length _ (chunkSize_pos args.length workers (Nat.pos_of_ne_zero hn)) args

end ASV.Parallel
