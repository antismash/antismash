/-
  C20: the names `prepare_output_directory` and `_run_antismash` derive (`canonical_base_filename`, the empty
  `--output-dir`, the results file's name) and the invariants that hold at every call (`CallIn.envOk`).
-/
import ASV.Spec.WriteSafety
import ASV.Proofs.PosixPath
namespace ASV.WriteSafety
open ASV.PosixPath (Path Plain)

/-- the results file's name always ends in `.json` -/
theorem jsonName_shape (r : RunIn) : ∃ pre : List Char, r.jsonName.toList = pre ++ ".json".toList := by
  unfold RunIn.jsonName
  exact ⟨_, by rw [String.toList_append]⟩

/-- with an empty `name` argument the directory used is `abspath` of the derived prefix: absolute, so
    in particular not empty -/
theorem effective_empty_name (c : CallIn) (h : c.nameArg = "") (hcwd : PosixPath.isabs c.cwd.toList = true) :
    (effective c).1.name.toList ≠ [] ∧ PosixPath.isabs (effective c).1.name.toList = true ∧
      (effective c).2.outputDir = (effective c).1.name := by
  have hb : (c.nameArg == "") = true := by simp [h]
  simp only [effective, hb, if_true, String.toList_ofList]
  exact ⟨PosixPath.normpath_abs_ne_nil _ (PosixPath.isabs_absArg _ _ hcwd),
         PosixPath.normpath_abs_isabs _ (PosixPath.isabs_absArg _ _ hcwd), trivial⟩

theorem effective_given_name (c : CallIn) (h : c.nameArg ≠ "") :
    (effective c).1.name = c.nameArg ∧ (effective c).2.outputDir = c.opts.outputDir := by
  have hb : (c.nameArg == "") = false := by simpa using h
  unfold effective canonicalBaseFilename
  simp only [hb, Bool.false_eq_true, if_false]
  split <;> simp

/-- an explicit `--output-basename` is never replaced by a name derived from the input -/
theorem option_basename_kept (inputFile directory : String) (o : Options) (h : o.outputBasename ≠ "") :
    canonicalBaseFilename inputFile directory o =
      (String.ofList (PosixPath.join directory.toList o.outputBasename.toList), o) := by
  have hb : (o.outputBasename != "") = true := by simpa using h
  simp [canonicalBaseFilename, hb]

theorem effective_target (c : CallIn) (t : Target) :
    effective { c with target := t } = ({ (effective c).1 with target := t }, (effective c).2) := by
  unfold effective
  split <;> rfl

/-- what the operating system guarantees at a call of `prepare_output_directory`: the working
    directory is absolute and a directory listing consists of plain names.  Nothing about the `name`
    argument: the function's own guard takes care of the empty one. -/
def CallIn.envOk (c : CallIn) : Bool :=
  PosixPath.isabs c.cwd.toList &&
    match c.target with
    | .dir es => es.all fun e => plainName e.name.toList
    | _ => true

theorem effective_fields (c : CallIn) :
    (effective c).1.target = c.target ∧ (effective c).1.cwd = c.cwd := by
  unfold effective; split <;> exact ⟨rfl, rfl⟩

/-- for every call, whatever the `name` argument, `PrepIn.WF` follows from `envOk`: an empty name is replaced by
    an absolute path -/
theorem effective_wf (c : CallIn) (h : c.envOk = true) : (effective c).1.WF = true := by
  simp only [CallIn.envOk, Bool.and_eq_true] at h
  obtain ⟨ht, hc⟩ := effective_fields c
  have hname : (effective c).1.name.toList ≠ [] := by
    by_cases he : c.nameArg = ""
    · exact (effective_empty_name c he h.1).1
    · rw [(effective_given_name c he).1]
      intro h0
      exact he (String.toList_inj.1 (by rw [h0]; rfl))
  simp only [PrepIn.WF, Bool.and_eq_true, Bool.not_eq_true', List.isEmpty_eq_false_iff, ht, hc]
  exact ⟨⟨h.1, hname⟩, h.2⟩

end ASV.WriteSafety
