/-
  Chain partitions for any item type and relation: `Linked` is an equivalence on the members, a partition into
  maximal chains is unique and is carried along by a map that keeps the relation, and the sorted sweep of
  `ChainSweep` computes it for any relation that is `reach` on the items.  C03, C06 and C07 rest on this.
-/
import ASV.Spec.ChainPartition
import ASV.Proofs.ChainSweep
namespace ASV.Chains
open ASV ASV.ChainSweep

variable {α β : Type}

theorem Linked.mono {rel : α → α → Prop} {g g' : List α} (hsub : ∀ x ∈ g, x ∈ g') {a b : α}
    (h : Linked rel g a b) : Linked rel g' a b := by
  induction h with
  | refl ha => exact Linked.refl (hsub a ha)
  | step _ hc hr ih => exact Linked.step ih (hsub _ hc) hr

theorem Linked.left_mem {rel : α → α → Prop} {g : List α} {a b : α} (h : Linked rel g a b) : a ∈ g := by
  induction h with
  | refl ha => exact ha
  | step _ _ _ ih => exact ih

theorem Linked.right_mem {rel : α → α → Prop} {g : List α} {a b : α} (h : Linked rel g a b) : b ∈ g := by
  cases h with
  | refl ha => exact ha
  | step _ hc _ => exact hc

theorem Linked.trans {rel : α → α → Prop} {g : List α} {a b c : α} (h1 : Linked rel g a b)
    (h2 : Linked rel g b c) : Linked rel g a c := by
  induction h2 with
  | refl _ => exact h1
  | step _ hc hr ih => exact Linked.step ih hc hr

theorem Linked.symm {rel : α → α → Prop} {g : List α} {a b : α} (h : Linked rel g a b) : Linked rel g b a := by
  induction h with
  | refl ha => exact Linked.refl ha
  | @step c' d' hab hc hr ih =>
    -- d' — c' … a : first the step back from d' to c', then the reversed chain
    have hb : c' ∈ g := hab.right_mem
    have h1 : Linked rel g d' c' := Linked.step (Linked.refl hc) hb (hr.symm)
    exact h1.trans ih

theorem linked_of_chained {lo hi : α → Int} {c : Int} {l : List α} (h : Chained lo hi c l) :
    ∀ a ∈ l, ∀ b ∈ l, Linked (reach lo hi c) l a b := by
  induction h with
  | single x =>
    intro a ha b hb
    simp at ha hb; subst ha; subst hb
    exact Linked.refl (by simp)
  | @snoc l y _ hex ih =>
    obtain ⟨m, hm, hr⟩ := hex
    have hsub : ∀ x ∈ l, x ∈ l ++ [y] := fun x hx => by simp [hx]
    have hmy : Linked (reach lo hi c) (l ++ [y]) m y :=
      Linked.step (Linked.refl (hsub m hm)) (by simp) (Or.inl hr)
    have toY : ∀ a ∈ l, Linked (reach lo hi c) (l ++ [y]) a y := fun a ha =>
      ((ih a ha m hm).mono hsub).trans hmy
    intro a ha b hb
    simp only [List.mem_append, List.mem_singleton] at ha hb
    rcases ha with ha | rfl <;> rcases hb with hb | rfl
    · exact (ih a ha b hb).mono hsub
    · exact toY a ha
    · exact (toY b hb).symm
    · exact Linked.refl (by simp)

theorem Linked.imp {rel rel' : α → α → Prop} {g : List α} (himp : ∀ x ∈ g, ∀ y ∈ g, rel x y → rel' x y)
    {a b : α} (h : Linked rel g a b) : Linked rel' g a b := by
  induction h with
  | refl ha => exact Linked.refl ha
  | step hab hc hr ih =>
    have hb := hab.right_mem
    exact Linked.step ih hc (hr.imp (himp _ hb _ hc) (himp _ hc _ hb))

theorem IsChainPartition.mem_of_mem_group {rel : α → α → Prop} {xs : List α} {groups : List (List α)}
    (h : IsChainPartition rel xs groups) {g : List α} (hg : g ∈ groups) {m : α} (hm : m ∈ g) : m ∈ xs :=
  h.perm.mem_iff.1 (List.mem_flatten.2 ⟨g, hg, hm⟩)

/-- the groups of the sorted sweep are the maximal chains of any relation that coincides with `reach` on the
    items, and each group's hull is the least start / greatest end of its members -/
theorem sweep_is_chain_partition_of {lo hi : α → Int} (rel : α → α → Prop) (c : Int) (hc : 0 ≤ c) (xs sorted : List α)
    (hperm : sorted.Perm xs) (hsorted : Sorted lo sorted) (hwf : ∀ l ∈ xs, lo l < hi l)
    (hrel : ∀ a ∈ xs, ∀ b ∈ xs, rel a b ↔ reach lo hi c a b) :
    IsChainPartition rel xs ((sweep lo hi c sorted).map Grp.members) ∧
      ∀ g ∈ sweep lo hi c sorted, GInv lo hi c g := by
  have hwf' : ∀ x ∈ sorted, lo x < hi x := fun x hx => hwf x (hperm.mem_iff.1 hx)
  have hinv := sweep_inv lo hi c hc sorted hsorted hwf'
  have hflat := sweep_flatten lo hi c sorted
  have hmem : ∀ g ∈ sweep lo hi c sorted, ∀ m ∈ g.members, m ∈ xs := fun g hg m hm =>
    hperm.mem_iff.1 (hflat ▸ List.mem_flatten.2 ⟨_, List.mem_map_of_mem hg, hm⟩)
  refine ⟨⟨by rw [hflat]; exact hperm, ?_, ?_, ?_⟩, hinv⟩
  · intro g hg
    obtain ⟨G, hG, rfl⟩ := List.mem_map.1 hg
    exact (hinv G hG).ne
  · intro g hg a ha b hb
    obtain ⟨G, hG, rfl⟩ := List.mem_map.1 hg
    exact (linked_of_chained (hinv G hG).chained a ha b hb).imp fun x hx y hy hr =>
      (hrel x (hmem G hG x hx) y (hmem G hG y hy)).2 hr
  · have hP : ((sweep lo hi c sorted).map Grp.members).Pairwise fun g g' => ∀ a ∈ g, ∀ b ∈ g', ¬ rel a b ∧ ¬ rel b a := by
      refine List.pairwise_map.2 ((sweep_apart lo hi c sorted hsorted).imp_of_mem ?_)
      intro G G' hG hG' h a ha b hb
      rw [hrel a (hmem G hG a ha) b (hmem G' hG' b hb), hrel b (hmem G' hG' b hb) a (hmem G hG a ha)]
      have := h a ha b hb
      exact ⟨fun hr => by have := hr.2; omega, fun hr => by have := hr.1; omega⟩
    exact fun gs₁ g gs₂ e a ha g' hg' b hb => pairwise_iff_split.1 hP gs₁ g gs₂ e g' hg' a ha b hb

/-- a step out of a member of a group of a separated family covering `xs` stays in the group -/
theorem stays_of_separated {rel : α → α → Prop} {xs : List α} {G : List (List α)} (hperm : G.flatten.Perm xs)
    (hsep : ∀ gs₁ g gs₂, G = gs₁ ++ g :: gs₂ → ∀ a ∈ g, ∀ g' ∈ gs₂, ∀ b ∈ g', ¬ rel a b ∧ ¬ rel b a)
    {g : List α} (hg : g ∈ G) {b c : α} (hb : b ∈ g) (hc : c ∈ xs) (hr : rel b c ∨ rel c b) : c ∈ g := by
  obtain ⟨k, hk, hck⟩ := List.mem_flatten.1 (hperm.mem_iff.2 hc)
  have hP : G.Pairwise fun g g' => ∀ a ∈ g, ∀ b ∈ g', ¬ rel a b ∧ ¬ rel b a :=
    pairwise_iff_split.2 fun gs₁ g gs₂ e g' hg' a ha b hb => hsep gs₁ g gs₂ e a ha g' hg' b hb
  rcases pairwise_mem hP hg hk with rfl | h1 | h1
  · exact hck
  · exact (hr.elim (h1 b hb c hck).1 (h1 b hb c hck).2).elim
  · exact (hr.elim (h1 c hck b hb).2 (h1 c hck b hb).1).elim

/-- it is enough to chain through all of `xs`: a chain that starts in a group is a chain through that group -/
theorem linked_in_of_separated {rel : α → α → Prop} {xs : List α} {G : List (List α)} (hperm : G.flatten.Perm xs)
    (hsep : ∀ gs₁ g gs₂, G = gs₁ ++ g :: gs₂ → ∀ a ∈ g, ∀ g' ∈ gs₂, ∀ b ∈ g', ¬ rel a b ∧ ¬ rel b a)
    {g : List α} (hg : g ∈ G) {a b : α} (ha : a ∈ g) (hl : Linked rel xs a b) : Linked rel g a b := by
  induction hl with
  | refl _ => exact Linked.refl ha
  | step _ hc hr ih => exact Linked.step ih (stays_of_separated hperm hsep hg ih.right_mem hc hr) hr

theorem chain_partition_unique {rel : α → α → Prop} {xs : List α} {G G' : List (List α)}
    (h : IsChainPartition rel xs G) (h' : IsChainPartition rel xs G') :
    ∀ g ∈ G, ∃ g' ∈ G', ∀ x, x ∈ g ↔ x ∈ g' := by
  intro g hg
  obtain ⟨a, ha⟩ := List.exists_mem_of_ne_nil g (h.nonempty g hg)
  have ha' : a ∈ G'.flatten := h'.perm.mem_iff.2 (h.mem_of_mem_group hg ha)
  simp only [List.mem_flatten] at ha'
  obtain ⟨g', hg', hag'⟩ := ha'
  refine ⟨g', hg', fun x => ⟨fun hx => ?_, fun hx => ?_⟩⟩
  · exact (linked_in_of_separated h'.perm h'.separated hg' hag'
      ((h.linked g hg a ha x hx).mono fun y hy => h.mem_of_mem_group hg hy)).right_mem
  · exact (linked_in_of_separated h.perm h.separated hg ha
      ((h'.linked g' hg' a hag' x hx).mono fun y hy => h'.mem_of_mem_group hg' hy)).right_mem

theorem Linked.map {rel : α → α → Prop} {rel' : β → β → Prop} (f : α → β) {g : List α}
    (hrel : ∀ a ∈ g, ∀ b ∈ g, rel a b → rel' (f a) (f b)) {a b : α} (h : Linked rel g a b) :
    Linked rel' (g.map f) (f a) (f b) := by
  induction h with
  | refl ha => exact Linked.refl (List.mem_map_of_mem ha)
  | step hab hc hr ih =>
    refine Linked.step ih (List.mem_map_of_mem hc) ?_
    rcases hr with hr | hr
    · exact Or.inl (hrel _ hab.right_mem _ hc hr)
    · exact Or.inr (hrel _ hc _ hab.right_mem hr)

theorem IsChainPartition.map {rel : α → α → Prop} {rel' : β → β → Prop} (f : α → β) {xs : List α}
    {G : List (List α)} (h : IsChainPartition rel xs G)
    (hrel : ∀ a ∈ xs, ∀ b ∈ xs, (rel' (f a) (f b) ↔ rel a b)) :
    IsChainPartition rel' (xs.map f) (G.map (·.map f)) := by
  refine ⟨?_, ?_, ?_, ?_⟩
  · rw [← List.map_flatten]
    exact h.perm.map f
  · intro g' hg'
    obtain ⟨g, hg, rfl⟩ := List.mem_map.1 hg'
    intro he
    exact h.nonempty g hg (List.map_eq_nil_iff.1 he)
  · intro g' hg' a' ha' b' hb'
    obtain ⟨g, hg, rfl⟩ := List.mem_map.1 hg'
    obtain ⟨a, ha, rfl⟩ := List.mem_map.1 ha'
    obtain ⟨b, hb, rfl⟩ := List.mem_map.1 hb'
    exact Linked.map f (fun x hx y hy hr => (hrel x (h.mem_of_mem_group hg hx) y (h.mem_of_mem_group hg hy)).2 hr)
      (h.linked g hg a ha b hb)
  · intro gs₁' g' gs₂' hsplit a' ha' k' hk' b' hb'
    obtain ⟨gs₁, rest, hG, h1, hrest⟩ := List.map_eq_append_iff.1 hsplit
    obtain ⟨g, gs₂, hrest', hg', hgs₂⟩ := List.map_eq_cons_iff.1 hrest
    subst hrest'
    subst hg'
    subst hgs₂
    obtain ⟨a, ha, rfl⟩ := List.mem_map.1 ha'
    obtain ⟨k, hk, rfl⟩ := List.mem_map.1 hk'
    obtain ⟨b, hb, rfl⟩ := List.mem_map.1 hb'
    have hgG : g ∈ G := by rw [hG]; simp
    have hkG : k ∈ G := by rw [hG]; simp [hk]
    have hs := h.separated gs₁ g gs₂ hG a ha k hk b hb
    have hax := h.mem_of_mem_group hgG ha
    have hbx := h.mem_of_mem_group hkG hb
    exact ⟨fun hr => hs.1 ((hrel a hax b hbx).1 hr), fun hr => hs.2 ((hrel b hbx a hax).1 hr)⟩

theorem Linked.congr_rel {rel rel' : α → α → Prop} {g : List α}
    (hrel : ∀ a ∈ g, ∀ b ∈ g, rel a b → rel' a b) {a b : α} (h : Linked rel g a b) : Linked rel' g a b := by
  have := Linked.map (rel' := rel') id hrel h
  rwa [List.map_id] at this

theorem IsChainPartition.of_perm {rel : α → α → Prop} {xs ys : List α} {G : List (List α)}
    (h : IsChainPartition rel xs G) (hp : xs.Perm ys) : IsChainPartition rel ys G :=
  ⟨h.perm.trans hp, h.nonempty, h.linked, h.separated⟩

/-- a chain partition of `xs` and one of a rearrangement of the image of `xs`, under a map that keeps the
    relation, have the same groups up to that map, in both directions -/
theorem IsChainPartition.images {rel : α → α → Prop} {rel' : β → β → Prop} (f : α → β) {xs : List α} {xs' : List β}
    {G : List (List α)} {G' : List (List β)} (h : IsChainPartition rel xs G) (h' : IsChainPartition rel' xs' G')
    (hperm : xs'.Perm (xs.map f)) (hrel : ∀ a ∈ xs, ∀ b ∈ xs, (rel' (f a) (f b) ↔ rel a b)) :
    (∀ g ∈ G, ∃ g' ∈ G', ∀ y, y ∈ g' ↔ ∃ x ∈ g, f x = y) ∧
    (∀ g' ∈ G', ∃ g ∈ G, ∀ y, y ∈ g' ↔ ∃ x ∈ g, f x = y) := by
  have P := (h.map f hrel).of_perm hperm.symm
  constructor
  · intro g hg
    obtain ⟨g', hg', hiff⟩ := chain_partition_unique P h' (g.map f) (List.mem_map_of_mem hg)
    exact ⟨g', hg', fun y => by rw [← hiff y, List.mem_map]⟩
  · intro g' hg'
    obtain ⟨gm, hgm, hiff⟩ := chain_partition_unique h' P g' hg'
    obtain ⟨g, hg, rfl⟩ := List.mem_map.1 hgm
    exact ⟨g, hg, fun y => by rw [hiff y, List.mem_map]⟩

end ASV.Chains
