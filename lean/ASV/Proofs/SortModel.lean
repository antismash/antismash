/-
  C05: the model of CPython's `list.sort` for short lists (`pySort`: `count_run`, then binary insertion) is the
  same function as C10's transcription `Serial.pySort`; so by C10's theorem it is THE stable sort whenever `<` is
  a strict weak order on the members: it returns the same list as the stable insertion sort `sortBy` — for
  consistent comparisons nothing depends on the algorithm (nor on the 64-element limit of the modelled variant).
-/
import ASV.Proofs.SerialSort
import ASV.Proofs.SortKeyed
namespace ASV.CC
open ASV.Serial (SWO eqv)

section
variable {α : Type}

/-- a strict weak order: irreflexive, transitive, incomparability transitive -/
structure WeakOrder (lt : α → α → Bool) : Prop where
  irr : ∀ a, lt a a = false
  trans : ∀ a b c, lt a b = true → lt b c = true → lt a c = true
  inc : ∀ a b c, lt a b = false → lt b a = false → lt b c = false → lt c b = false → lt a c = false ∧ lt c a = false

theorem WeakOrder.asymm {lt : α → α → Bool} (w : WeakOrder lt) {a b : α} (h : lt a b = true) : lt b a = false := by
  cases hb : lt b a
  · rfl
  · have := w.trans a b a h hb; rw [w.irr a] at this; cases this

theorem WeakOrder.le_trans {lt : α → α → Bool} (w : WeakOrder lt) {a b c : α} (h1 : lt b a = false) (h2 : lt c b = false) :
    lt c a = false := by
  cases hca : lt c a
  · rfl
  · exfalso
    cases hbc : lt b c
    · cases hab : lt a b
      · have := (w.inc a b c hab h1 hbc h2).2
        rw [hca] at this; cases this
      · have := w.trans c a b hca hab; rw [h2] at this; cases this
    · have := w.trans b c a hbc hca; rw [h1] at this; cases this

/-- C10 states the same notion relative to a set of members, by asymmetry and transitivity of `≥` -/
theorem WeakOrder.swo {lt : α → α → Bool} (w : WeakOrder lt) (S : α → Prop) : SWO lt S :=
  ⟨fun _ _ _ _ h => w.asymm h, fun _ _ _ _ _ _ h1 h2 => w.le_trans h2 h1⟩

end

/-! for Proofs/SerialSort -/

theorem _root_.ASV.Serial.SWO.congr {α : Type} {lt lt' : α → α → Bool} {S : α → Prop}
    (h : ∀ a b, S a → S b → lt a b = lt' a b) (w : SWO lt' S) : SWO lt S :=
  ⟨fun a b ha hb => by rw [h a b ha hb, h b a hb ha]; exact w.asymm a b ha hb,
   fun a b c ha hb hc => by rw [h a b ha hb, h b c hb hc, h a c ha hc]; exact w.negTrans a b c ha hb hc⟩

/-! ### the two transcriptions of CPython's sort are one function

They differ in the spelling of the midpoint (`l + (r - l) / 2`, `(lo + hi) / 2`) and in the bookkeeping of the
run detection: `countRun` returns the length of the run and `pySort` splits by `take`/`drop`, `takeAsc`/`takeDesc`
return the split. -/

section
variable {α : Type} (lt : α → α → Bool)

theorem binSearch_eq (s : List α) (p : α) : ∀ fuel l r, binSearch lt s p fuel l r = Serial.bisectGo lt p s fuel l r
  | 0, _, _ => rfl
  | fuel + 1, l, r => by
    rw [binSearch, Serial.bisectGo]
    split
    · have e : l + (r - l) / 2 = (l + r) / 2 := by omega
      simp only [e]
      -- the two `match`es on `s[mid]?` are different auxiliaries, equal only by cases
      cases s[(l + r) / 2]? with
      | none => rfl
      | some y => simp only [binSearch_eq s p fuel]
    · rfl

theorem binInsert_eq (s : List α) (p : α) : binInsert lt s p = Serial.binInsert lt s p := by
  simp only [binInsert, Serial.binInsert, Serial.insertAt, Serial.bisectR, binSearch_eq]

theorem countRunGo_asc : ∀ (rest : List α) (prev : α) (n : Nat),
    countRunGo lt false prev n rest = n + (Serial.takeAsc lt prev rest).1.length
  | [], _, _ => rfl
  | x :: rest, prev, n => by
    rw [countRunGo, Serial.takeAsc]
    cases lt x prev
    · simp only [Bool.false_eq_true, if_false, countRunGo_asc rest x (n + 1), List.length_cons]; omega
    · rfl

theorem countRunGo_desc : ∀ (rest : List α) (prev : α) (n : Nat),
    countRunGo lt true prev n rest = n + (Serial.takeDesc lt prev rest).1.length
  | [], _, _ => rfl
  | x :: rest, prev, n => by
    rw [countRunGo, Serial.takeDesc]
    cases lt x prev
    · rfl
    · simp only [if_true, countRunGo_desc rest x (n + 1), List.length_cons]; omega

theorem pySort_eq : ∀ l : List α, pySort lt l = Serial.pySort lt l
  | [] => rfl
  | [_] => rfl
  | x :: y :: rest => by
    have hb : binInsert lt = Serial.binInsert lt := funext fun s => funext fun p => binInsert_eq lt s p
    -- `take`/`drop` at the length of the run give back the split that `takeAsc`/`takeDesc` return
    have split : ∀ r : List α × List α, r.1 ++ r.2 = rest →
        (x :: y :: rest).take (2 + r.1.length) = x :: y :: r.1 ∧ (x :: y :: rest).drop (2 + r.1.length) = r.2 := by
      rintro ⟨a, b⟩ rfl
      rw [show 2 + a.length = (x :: y :: a).length by simp only [List.length_cons]; omega]
      exact ⟨List.take_left' (l₂ := b) rfl, List.drop_left' (l₂ := b) rfl⟩
    rw [pySort, Serial.pySort, countRun, hb]
    cases lt y x
    · obtain ⟨h1, h2⟩ := split _ (Serial.takeAsc_append lt rest y)
      simp only [Bool.false_eq_true, if_false, countRunGo_asc, h1, h2]
    · obtain ⟨h1, h2⟩ := split _ (Serial.takeDesc_append lt rest y)
      simp only [if_true, countRunGo_desc, h1, h2]

/-- CPython's short-list sort is the stable insertion sort whenever `<` is a strict weak order on the members;
    elements may repeat and the comparison may misbehave off the list.  Both results are ascending, and both keep
    every tie class in the order of the input (`Serial.pySort_spec`, `Refine.sortBy_filter`): such a list is unique. -/
theorem pySort_eq_sortBy_on (l : List α) (h : SWO lt (· ∈ l)) : pySort lt l = sortBy lt l := by
  rw [pySort_eq, Determinism.ccSortBy_eq_sortBy]
  obtain ⟨s1, p1, f1⟩ := Serial.pySort_spec l h
  refine Serial.sorted_unique h _ _ (fun e he => p1.mem_iff.1 he) (fun e he => (Refine.mem_sortBy _).1 he) s1 ?_ ?_
  · refine (Refine.sortBy_pairwise_on (· ∈ l) (fun a b ha hb => ?_) (fun a b c ha hb hc h1 h2 => ?_) l
      (fun _ hx => hx)).imp (fun h => by simpa using h)
    · cases hba : lt b a
      · exact Or.inl rfl
      · exact Or.inr (by rw [h.asymm b a hb ha hba]; rfl)
    · simp only [Bool.not_eq_true'] at h1 h2 ⊢
      exact h.negTrans c b a hc hb ha h2 h1
  · intro a ha
    rw [f1 a ha, Refine.sortBy_filter]
    -- the insertion of `x` passes `y` only when `y < x`: then `y` is not tied with `x`, so not with `a` either
    intro x hx hax y hy hxy
    simp only [Bool.not_eq_false'] at hxy
    cases hay : eqv lt a y
    · rfl
    · have := h.eqv_trans hx ha hy (by rw [SWO.eqv_symm]; exact hax) hay
      simp only [eqv, hxy, Bool.not_true, Bool.and_false, Bool.false_eq_true] at this

theorem pySort_eq_sortBy {lt : α → α → Bool} (w : WeakOrder lt) (l : List α) : pySort lt l = sortBy lt l :=
  pySort_eq_sortBy_on lt l (w.swo _)

end
end ASV.CC
