/-
  C17 helper lemmas, generic part: a sort whose key separates the members of a container gives
  one result for every enumeration of the container; sorting commutes with field-preserving
  relations.  (The sort is `ASV.Refine.sortBy`, the stable insertion sort modelling `sorted`.)
-/
import ASV.Proofs.Sort
import ASV.Model.Determinism
import ASV.Spec.Determinism
namespace ASV.Determinism
open ASV.Refine

variable {α : Type}

theorem leInt_total (a b : Int) : leInt a b = true ∨ leInt b a = true := by
  simp only [leInt, decide_eq_true_eq]; omega
theorem leInt_trans (a b c : Int) : leInt a b = true → leInt b c = true → leInt a c = true := by
  simp only [leInt, decide_eq_true_eq]; omega
theorem leInt_antisymm (a b : Int) : leInt a b = true → leInt b a = true → a = b := by
  simp only [leInt, decide_eq_true_eq]; omega

theorem sortedNames_perm {l₁ l₂ : List Int} (h : l₁.Perm l₂) : sortedNames l₁ = sortedNames l₂ :=
  sortBy_eq_of_perm leInt_total leInt_trans leInt_antisymm h

theorem mem_sortedNames {l : List Int} {x : Int} : x ∈ sortedNames l ↔ x ∈ l := mem_sortBy leInt

theorem keyLe_total (a b : Int × Int × Int × Int × Int) : keyLe a b = true ∨ keyLe b a = true := by
  simp only [keyLe, decide_eq_true_eq]
  exact lex_total (lex_total (lex_total (lex_total (Int.le_total _ _))))

theorem keyLe_trans (a b c : Int × Int × Int × Int × Int) : keyLe a b = true → keyLe b c = true → keyLe a c = true := by
  simp only [keyLe, decide_eq_true_eq]
  exact lex_trans (lex_trans (lex_trans (lex_trans Int.le_trans)))

theorem keyLe_antisymm (a b : Int × Int × Int × Int × Int) (h1 : keyLe a b = true) (h2 : keyLe b a = true) : a = b := by
  simp only [keyLe, decide_eq_true_eq] at h1 h2
  obtain ⟨e1, h1, h2⟩ := lex_antisymm h1 h2
  obtain ⟨e2, h1, h2⟩ := lex_antisymm h1 h2
  obtain ⟨e3, h1, h2⟩ := lex_antisymm h1 h2
  obtain ⟨e4, h1, h2⟩ := lex_antisymm h1 h2
  simp only [Prod.ext_iff]
  exact ⟨e1, e2, e3, e4, Int.le_antisymm h1 h2⟩

theorem insertBy_pointwise {β : Type} {R : α → β → Prop} {le : α → α → Bool} {le' : β → β → Bool}
    (hle : ∀ a a' b b', R a a' → R b b' → le a b = le' a' b') {a : α} {a' : β} (ha : R a a') :
    ∀ {l : List α} {l' : List β}, Pointwise R l l' → Pointwise R (insertBy le a l) (insertBy le' a' l')
  | _, _, .nil => by simp only [insertBy]; exact .cons ha .nil
  | _, _, .cons (a := b) (b := b') (l₁ := l) (l₂ := l') hb hl => by
    simp only [insertBy, hle a a' b b' ha hb]
    split
    · exact .cons ha (.cons hb hl)
    · exact .cons hb (insertBy_pointwise hle ha hl)

theorem sortBy_pointwise {β : Type} {R : α → β → Prop} {le : α → α → Bool} {le' : β → β → Bool}
    (hle : ∀ a a' b b', R a a' → R b b' → le a b = le' a' b') :
    ∀ {l : List α} {l' : List β}, Pointwise R l l' → Pointwise R (sortBy le l) (sortBy le' l')
  | _, _, .nil => by simp only [sortBy]; exact .nil
  | _, _, .cons ha hl => by
    simp only [sortBy]
    exact insertBy_pointwise hle ha (sortBy_pointwise hle hl)

theorem map_eq_of_pointwise {β γ : Type} {R : α → β → Prop} {f : α → γ} {g : β → γ}
    (hfg : ∀ a b, R a b → f a = g b) : ∀ {l : List α} {l' : List β}, Pointwise R l l' → l.map f = l'.map g
  | _, _, .nil => rfl
  | _, _, .cons ha hl => by simp only [List.map_cons, hfg _ _ ha, map_eq_of_pointwise hfg hl]

theorem flatten_pointwise {β : Type} {R : α → β → Prop} :
    ∀ {g : List (List α)} {g' : List (List β)}, Pointwise (Pointwise R) g g' →
      Pointwise R g.flatten g'.flatten
  | _, _, .nil => .nil
  | _, _, .cons h t => by
    simp only [List.flatten_cons]
    exact append_pointwise h (flatten_pointwise t)
where
  append_pointwise {β : Type} {R : α → β → Prop} : ∀ {l₁ : List α} {l₁' : List β} {l₂ : List α} {l₂' : List β},
      Pointwise R l₁ l₁' → Pointwise R l₂ l₂' → Pointwise R (l₁ ++ l₂) (l₁' ++ l₂')
    | _, _, _, _, .nil, h₂ => h₂
    | _, _, _, _, .cons h t, h₂ => .cons h (append_pointwise t h₂)

end ASV.Determinism
