/-
  C05: the executable reference's class computation (`Spec.classesOf`: grow a class by fixpoint
  union, remove it, repeat) returns the connected components of the symmetrised relation.
-/
import ASV.Proofs.Passes
namespace ASV.CC
open ASV.CC.Spec

section
variable {α : Type} [DecidableEq α]

/-- the relation read in both directions -/
def symRel (rel : α → α → Bool) (a b : α) : Bool := rel a b || rel b a

omit [DecidableEq α] in
theorem symRel_comm (rel : α → α → Bool) (a b : α) : symRel rel a b = symRel rel b a := by
  simp only [symRel, Bool.or_comm]

/-- `b` can be reached from `a` by steps of the relation through elements of `S` -/
inductive Walk (rel : α → α → Bool) (S : List α) : α → α → Prop
  | refl (a : α) : Walk rel S a a
  | step {a b c : α} : Walk rel S a b → c ∈ S → symRel rel b c = true → Walk rel S a c

omit [DecidableEq α] in
theorem Walk.mono {rel : α → α → Bool} {S T : List α} (h : ∀ x, x ∈ S → x ∈ T) {a b : α} (r : Walk rel S a b) :
    Walk rel T a b := by
  induction r with
  | refl => exact Walk.refl _
  | step _ hc hs ih => exact Walk.step ih (h _ hc) hs

omit [DecidableEq α] in
theorem Walk.trans {rel : α → α → Bool} {S : List α} {a b c : α} (r1 : Walk rel S a b) (r2 : Walk rel S b c) :
    Walk rel S a c := by
  induction r2 with
  | refl => exact r1
  | step _ hc hs ih => exact Walk.step ih hc hs

omit [DecidableEq α] in
theorem Walk.mem {rel : α → α → Bool} {S : List α} {a b : α} (r : Walk rel S a b) (ha : a ∈ S) : b ∈ S := by
  induction r with
  | refl => exact ha
  | step _ hc _ _ => exact hc

omit [DecidableEq α] in
theorem Walk.symm {rel : α → α → Bool} {S : List α} {a b : α} (r : Walk rel S a b) (ha : a ∈ S) : Walk rel S b a := by
  induction r with
  | refl => exact Walk.refl _
  | step r' hc hs ih =>
    have hb := r'.mem ha
    exact (Walk.step (Walk.refl _) hb (by rw [symRel_comm]; exact hs)).trans ih

omit [DecidableEq α] in
theorem filter_length_lt {l : List α} {p q : α → Bool} (hpq : ∀ x, p x = true → q x = true)
    (hex : ∃ x, x ∈ l ∧ q x = true ∧ p x = false) : (l.filter p).length < (l.filter q).length := by
  induction l with
  | nil => obtain ⟨x, hx, _⟩ := hex; cases hx
  | cons y ys ih =>
    have hle : (ys.filter p).length ≤ (ys.filter q).length := by
      clear ih hex
      induction ys with
      | nil => simp
      | cons z zs ih2 =>
        simp only [List.filter_cons]
        by_cases hp : p z = true
        · simp [hp, hpq z hp]; exact ih2
        · by_cases hq : q z = true
          · simp [hp, hq]; omega
          · simp [hp, hq]; exact ih2
    obtain ⟨x, hx, hqx, hpx⟩ := hex
    simp only [List.filter_cons]
    rcases List.mem_cons.1 hx with e | e
    · subst e
      simp [hqx, hpx]; omega
    · have := ih ⟨x, e, hqx, hpx⟩
      by_cases hp : p y = true
      · simp [hp, hpq y hp]; exact this
      · by_cases hq : q y = true
        · simp [hp, hq]; omega
        · simp [hp, hq]; exact this

/-! ### `grow` -/

/-- what a round keeps (adding the pool elements that are new and related to a member), `grow` keeps -/
theorem grow_inv (rel : α → α → Bool) (pool : List α) {I : List α → Prop}
    (hstep : ∀ acc, I acc → I (acc ++ pool.filter fun u => !acc.contains u && acc.any fun a => rel a u || rel u a)) :
    ∀ (n : Nat) (acc : List α), I acc → I (grow rel pool n acc) := by
  intro n
  induction n with
  | zero => exact fun _ h => h
  | succ n ih =>
    intro acc h
    simp only [grow]
    split
    · exact h
    · exact ih _ (hstep acc h)

theorem grow_sub (rel : α → α → Bool) (pool : List α) (n : Nat) (acc : List α) : ∀ x, x ∈ acc → x ∈ grow rel pool n acc :=
  grow_inv rel pool (I := fun acc' => ∀ x, x ∈ acc → x ∈ acc')
    (fun _ h x hx => List.mem_append.2 (Or.inl (h x hx))) n acc fun _ hx => hx

theorem grow_sound (rel : α → α → Bool) (pool : List α) (n : Nat) (acc : List α) :
    ∀ x, x ∈ grow rel pool n acc → (x ∈ acc ∨ x ∈ pool) ∧ ∃ a, a ∈ acc ∧ Walk rel pool a x := by
  refine grow_inv rel pool (I := fun acc' => ∀ x, x ∈ acc' → (x ∈ acc ∨ x ∈ pool) ∧ ∃ a, a ∈ acc ∧ Walk rel pool a x)
    (fun acc' h x hx => ?_) n acc fun x hx => ⟨Or.inl hx, x, hx, Walk.refl x⟩
  rcases List.mem_append.1 hx with h1 | h1
  · exact h x h1
  · -- a new element is in the pool, one step from a member
    obtain ⟨hxp, hc⟩ := List.mem_filter.1 h1
    simp only [Bool.and_eq_true, List.any_eq_true] at hc
    obtain ⟨_, b, hb, hs⟩ := hc
    obtain ⟨_, a, ha, hr⟩ := h b hb
    exact ⟨Or.inr hxp, a, ha, Walk.step hr hxp hs⟩

/-- adding elements to the class, one of them from the pool and new, leaves fewer pool elements outside -/
theorem outside_lt {pool acc more : List α} {m : α} (hm : m ∈ pool) (hma : m ∉ acc) (hmm : m ∈ more) :
    (pool.filter fun u => !(acc ++ more).contains u).length < (pool.filter fun u => !acc.contains u).length := by
  refine filter_length_lt (fun y hy => ?_) ⟨m, hm, ?_, ?_⟩
  · simp only [Bool.not_eq_true', List.contains_eq_mem, decide_eq_false_iff_not, List.mem_append, not_or] at hy ⊢
    exact hy.1
  · simpa using hma
  · simpa using fun _ => hmm

/-- with enough rounds the result is closed under the relation inside the pool -/
theorem grow_closed (rel : α → α → Bool) (pool : List α) (n : Nat) (acc : List α)
    (hn : (pool.filter fun u => !acc.contains u).length ≤ n) :
    ∀ x, x ∈ grow rel pool n acc → ∀ u, u ∈ pool → symRel rel x u = true → u ∈ grow rel pool n acc := by
  induction n generalizing acc with
  | zero =>
    intro x _ u hu _
    simp only [grow]
    have : pool.filter (fun u => !acc.contains u) = [] := List.eq_nil_of_length_eq_zero (by omega)
    by_cases hin : u ∈ acc
    · exact hin
    · exfalso
      have : u ∈ pool.filter (fun u => !acc.contains u) := List.mem_filter.2 ⟨hu, by simpa using hin⟩
      rw [‹pool.filter (fun u => !acc.contains u) = []›] at this
      cases this
  | succ n ih =>
    intro x hx u hu hs
    simp only [grow] at hx ⊢
    generalize hmore : (pool.filter fun u => !acc.contains u && acc.any fun a => rel a u || rel u a) = more at hx ⊢
    have hmem : ∀ v, v ∈ more ↔ v ∈ pool ∧ v ∉ acc ∧ ∃ a, a ∈ acc ∧ symRel rel a v = true := by
      intro v
      rw [← hmore, List.mem_filter, Bool.and_eq_true, List.any_eq_true]
      simp [symRel]
    by_cases hemp : more.isEmpty = true
    · rw [if_pos hemp] at hx ⊢
      refine Classical.byContradiction fun hin => ?_
      have : u ∈ more := (hmem u).2 ⟨hu, hin, x, hx, hs⟩
      rw [List.isEmpty_iff.1 hemp] at this; cases this
    · rw [if_neg hemp] at hx ⊢
      apply ih _ _ x hx u hu hs
      -- the count of pool elements outside the class went down
      obtain ⟨m, hm⟩ := List.exists_mem_of_ne_nil _ (fun (e : more = []) => hemp (by rw [e]; rfl))
      have hlt := outside_lt ((hmem m).1 hm).1 ((hmem m).1 hm).2.1 hm
      omega

/-! ### `classes` -/

/-- the classes are non-empty parts of the input, cover it, are internally connected, and are closed under
    the relation (in both directions) -/
theorem classes_spec (rel : α → α → Bool) (n : Nat) (l : List α) (hn : l.length ≤ n) :
    (∀ c, c ∈ classes rel n l → c ≠ [] ∧ ∀ x, x ∈ c → x ∈ l) ∧
    (∀ u, u ∈ l → ∃ c, c ∈ classes rel n l ∧ u ∈ c) ∧
    (∀ c, c ∈ classes rel n l → ∀ x, x ∈ c → ∀ y, y ∈ c → Walk rel l x y) ∧
    (∀ c, c ∈ classes rel n l → ∀ x, x ∈ c → ∀ y, y ∈ l → symRel rel x y = true → y ∈ c) := by
  induction n generalizing l with
  | zero =>
    have : l = [] := List.eq_nil_of_length_eq_zero (by omega)
    subst this
    simp [classes]
  | succ n ih =>
    cases l with
    | nil => simp [classes]
    | cons u rest =>
      simp only [classes]
      generalize hcls : grow rel rest rest.length [u] = cls
      have hu : u ∈ cls := by rw [← hcls]; exact grow_sub _ _ _ _ u (List.mem_singleton.2 rfl)
      have hsound := fun x (hx : x ∈ cls) => grow_sound rel rest rest.length [u] x (by rw [hcls]; exact hx)
      have hclosed : ∀ x, x ∈ cls → ∀ y, y ∈ rest → symRel rel x y = true → y ∈ cls := by
        intro x hx y hy hs
        rw [← hcls] at hx ⊢
        exact grow_closed rel rest rest.length [u] (List.length_filter_le _ _) x hx y hy hs
      have hlen : (rest.filter fun x => !cls.contains x).length ≤ n := by
        have := List.length_filter_le (fun x => !cls.contains x) rest
        simp only [List.length_cons] at hn
        omega
      obtain ⟨i1, i2, i3, i4⟩ := ih (rest.filter fun x => !cls.contains x) hlen
      have hsubr : ∀ x, x ∈ rest.filter (fun x => !cls.contains x) → x ∈ u :: rest :=
        fun x hx => List.mem_cons_of_mem _ (List.mem_filter.1 hx).1
      have hnot : ∀ x, x ∈ rest.filter (fun x => !cls.contains x) → x ∉ cls := by
        intro x hx; simpa using (List.mem_filter.1 hx).2
      refine ⟨?_, ?_, ?_, ?_⟩
      · intro c hc
        rcases List.mem_cons.1 hc with e | hc
        · subst e
          refine ⟨List.ne_nil_of_mem hu, ?_⟩
          intro x hx
          rcases (hsound x hx).1 with h | h
          · rw [List.mem_singleton.1 h]; exact List.mem_cons_self
          · exact List.mem_cons_of_mem _ h
        · exact ⟨(i1 c hc).1, fun x hx => hsubr x ((i1 c hc).2 x hx)⟩
      · intro v hv
        by_cases hvc : v ∈ cls
        · exact ⟨cls, List.mem_cons_self, hvc⟩
        · have hvr : v ∈ rest := by
            rcases List.mem_cons.1 hv with e | h
            · exact absurd (e ▸ hu) hvc
            · exact h
          obtain ⟨c, hc, hvc'⟩ := i2 v (List.mem_filter.2 ⟨hvr, by simpa using hvc⟩)
          exact ⟨c, List.mem_cons_of_mem _ hc, hvc'⟩
      · intro c hc x hx y hy
        rcases List.mem_cons.1 hc with e | hc
        · subst e
          have wx : Walk rel (u :: rest) u x := by
            obtain ⟨_, a, ha, r⟩ := hsound x hx
            rw [List.mem_singleton.1 ha] at r
            exact r.mono fun z hz => List.mem_cons_of_mem _ hz
          have wy : Walk rel (u :: rest) u y := by
            obtain ⟨_, a, ha, r⟩ := hsound y hy
            rw [List.mem_singleton.1 ha] at r
            exact r.mono fun z hz => List.mem_cons_of_mem _ hz
          exact (wx.symm List.mem_cons_self).trans wy
        · exact (i3 c hc x hx y hy).mono hsubr
      · intro c hc x hx y hy hs
        rcases List.mem_cons.1 hc with e | hc
        · subst e
          rcases List.mem_cons.1 hy with e | h
          · rw [e]; exact hu
          · exact hclosed x hx y h hs
        · have hxr := (i1 c hc).2 x hx
          have hycls : y ∉ cls := by
            intro hyc
            have hxrest : x ∈ rest := (List.mem_filter.1 hxr).1
            exact hnot x hxr (hclosed y hyc x hxrest (by rw [symRel_comm]; exact hs))
          have hyr : y ∈ rest := by
            rcases List.mem_cons.1 hy with e | h
            · exact absurd (e ▸ hu) hycls
            · exact h
          exact i4 c hc x hx y (List.mem_filter.2 ⟨hyr, by simpa using hycls⟩) hs

/-- `Spec.classesOf` returns the connected components: every element is in a class, classes are
    non-empty parts of the input, and two elements share a class exactly when a chain of related
    elements joins them. -/
theorem classesOf_components (rel : α → α → Bool) (l : List α) :
    (∀ c, c ∈ classesOf rel l → c ≠ [] ∧ ∀ x, x ∈ c → x ∈ l) ∧
    (∀ u, u ∈ l → ∃ c, c ∈ classesOf rel l ∧ u ∈ c) ∧
    (∀ c, c ∈ classesOf rel l → ∀ x, x ∈ c → ∀ y, (y ∈ c ↔ Walk rel l x y)) := by
  obtain ⟨h1, h2, h3, h4⟩ := classes_spec rel l.length l (Nat.le_refl _)
  refine ⟨h1, h2, ?_⟩
  intro c hc x hx y
  refine ⟨fun hy => h3 c hc x hx y hy, ?_⟩
  intro w
  induction w with
  | refl => exact hx
  | step _ hcm hs ih => exact h4 c hc _ ih _ hcm hs

/-- two classes with a common element have the same elements -/
theorem classesOf_disjoint (rel : α → α → Bool) (l : List α) (c d : List α)
    (hc : c ∈ classesOf rel l) (hd : d ∈ classesOf rel l) (x : α) (hxc : x ∈ c) (hxd : x ∈ d) :
    ∀ y, y ∈ c ↔ y ∈ d := by
  obtain ⟨_, _, h3⟩ := classesOf_components rel l
  intro y
  rw [h3 c hc x hxc y, h3 d hd x hxd y]

/-! ### classes have no repeated element -/

theorem grow_nodup (rel : α → α → Bool) (pool : List α) (hp : pool.Nodup) (n : Nat) (acc : List α) (ha : acc.Nodup) :
    (grow rel pool n acc).Nodup := by
  refine grow_inv rel pool (I := List.Nodup) (fun acc' h => ?_) n acc ha
  refine List.nodup_append.2 ⟨h, hp.filter _, fun a haa b hb e => ?_⟩
  have := (List.mem_filter.1 hb).2
  simp only [Bool.and_eq_true, Bool.not_eq_true', List.contains_eq_mem, decide_eq_false_iff_not] at this
  exact this.1 (e ▸ haa)

theorem classes_nodup (rel : α → α → Bool) (n : Nat) (l : List α) (hl : l.Nodup) :
    ∀ c, c ∈ classes rel n l → c.Nodup := by
  induction n generalizing l with
  | zero => intro c hc; simp [classes] at hc
  | succ n ih =>
    cases l with
    | nil => intro c hc; simp [classes] at hc
    | cons u rest =>
      intro c hc
      simp only [classes] at hc
      rcases List.mem_cons.1 hc with e | hc
      · rw [e]; exact grow_nodup rel rest (List.nodup_cons.1 hl).2 _ _ (by simp)
      · exact ih _ ((List.nodup_cons.1 hl).2.filter _) c hc

/-- the classes of at least two elements are the chain classes (`Linked`) of the related pairs -/
theorem bigClasses_linked (rel : α → α → Bool) (l : List α) (hl : l.Nodup) (G : List (List α))
    (hG : ∀ g, g ∈ G ↔ ∃ a b, Before a b l ∧ symRel rel a b = true ∧ g = [a, b]) (a b : α) :
    (∃ c, c ∈ (classesOf rel l).filter (fun c => c.length ≥ 2) ∧ a ∈ c ∧ b ∈ c) ↔ Linked G a b := by
  obtain ⟨h1, h2, h3⟩ := classesOf_components rel l
  have hstep : ∀ x y, x ∈ l → y ∈ l → x ≠ y → symRel rel x y = true → Linked G x y := by
    intro x y hx hy hne hs
    rcases before_total hx hy hne with hb | hb
    · exact Linked.base ((hG [x, y]).2 ⟨x, y, hb, hs, rfl⟩) (by simp) (by simp)
    · exact Linked.base ((hG [y, x]).2 ⟨y, x, hb, by rw [symRel_comm]; exact hs, rfl⟩) (by simp) (by simp)
  have hwalk : ∀ x y, Walk rel l x y → x ∈ l → x = y ∨ Linked G x y := by
    intro x y w hx
    induction w with
    | refl => exact Or.inl rfl
    | @step b' c' w' hc hs ih =>
      have hb' := w'.mem hx
      by_cases e : b' = c'
      · rw [← e]; exact ih
      · have hl' := hstep b' c' hb' hc e hs
        rcases ih with e2 | hlk
        · rw [e2]; exact Or.inr hl'
        · exact Or.inr (Linked.trans hlk hl')
  constructor
  · rintro ⟨c, hc, hac, hbc⟩
    obtain ⟨hc, hlen⟩ := List.mem_filter.1 hc
    have hlen : 2 ≤ c.length := by simpa using hlen
    have hcn := classes_nodup rel l.length l hl c hc
    have hal := (h1 c hc).2 a hac
    rcases hwalk a b ((h3 c hc a hac b).1 hbc) hal with e | hlk
    · subst e
      obtain ⟨a', ha', hne⟩ : ∃ b, b ∈ c ∧ b ≠ a := by
        obtain ⟨x, y, hx, hy, hxy⟩ := two_of_nodup hcn hlen
        by_cases e : x = a
        · exact ⟨y, hy, fun e2 => hxy (e.trans e2.symm)⟩
        · exact ⟨x, hx, e⟩
      rcases hwalk a a' ((h3 c hc a hac a').1 ha') hal with e | hlk
      · exact absurd e.symm hne
      · exact Linked.trans hlk (linked_symm hlk)
    · exact hlk
  · intro hlk
    induction hlk with
    | @base g x y hg hx hy =>
      obtain ⟨u, v, hb, hs, e⟩ := (hG g).1 hg
      subst e
      obtain ⟨hul, hvl⟩ := before_mem hb
      have hne := before_ne hl hb
      obtain ⟨c, hc, huc⟩ := h2 u hul
      have hvc : v ∈ c := (h3 c hc u huc v).2 (Walk.step (Walk.refl u) hvl hs)
      refine ⟨c, List.mem_filter.2 ⟨hc, by simpa using two_le_length ⟨_, _, huc, hvc, hne⟩⟩, ?_, ?_⟩
      · rcases List.mem_cons.1 hx with e | h
        · rw [e]; exact huc
        · rw [List.mem_singleton.1 h]; exact hvc
      · rcases List.mem_cons.1 hy with e | h
        · rw [e]; exact huc
        · rw [List.mem_singleton.1 h]; exact hvc
    | trans _ _ ih1 ih2 =>
      obtain ⟨c, hc, hac, hbc⟩ := ih1
      obtain ⟨d, hd, hbd, hcd⟩ := ih2
      refine ⟨c, hc, hac, ?_⟩
      exact (classesOf_disjoint rel l c d (List.mem_filter.1 hc).1 (List.mem_filter.1 hd).1 _ hbc hbd _).2 hcd

end

/-- the hybrid classes of the executable reference are the chain classes of "share a defining gene" -/
theorem reference_hybrid_classes (ps : List Proto) (hn : ps.Nodup) (a b : Proto) :
    (∃ c, c ∈ (classesOf shareGene ps).filter (fun c => c.length ≥ 2) ∧ a ∈ c ∧ b ∈ c) ↔
      Linked (shareGroups ps) a b := by
  apply bigClasses_linked shareGene ps hn
  intro g
  rw [mem_shareGroups]
  have : ∀ x y, symRel shareGene x y = shares x y := by
    intro x y
    show (shares x y || shares y x) = shares x y
    rw [shares_comm y x, Bool.or_self]
  simp only [this]

/-- the sharing pairs, as sets, do not depend on the order of the list; so neither do their chain classes -/
theorem shareGroups_in_of_sub {l l' : List Proto} (hl : l.Nodup) (hsub : ∀ x, x ∈ l → x ∈ l') :
    SetsIn (shareGroups l) (shareGroups l') := by
  intro g hg
  obtain ⟨p, q, hb, hs, rfl⟩ := mem_shareGroups.1 hg
  obtain ⟨hp, hq⟩ := before_mem hb
  rcases before_total (hsub p hp) (hsub q hq) (before_ne hl hb) with hb' | hb'
  · exact ⟨_, mem_shareGroups.2 ⟨p, q, hb', hs, rfl⟩, fun x => Iff.rfl⟩
  · exact ⟨_, mem_shareGroups.2 ⟨q, p, hb', by rw [shares_comm]; exact hs, rfl⟩, fun x => mem_pair_swap⟩

/-- the reference's hybrid classes (computed on the input order) are the chain classes of the model's
    own order (`sortProtos`) -/
theorem reference_hybrid_classes_sorted (ps : List Proto) (hn : ps.Nodup) (a b : Proto) :
    (∃ c, c ∈ (classesOf shareGene ps).filter (fun c => c.length ≥ 2) ∧ a ∈ c ∧ b ∈ c) ↔
      Linked (shareGroups (sortProtos ps)) a b := by
  rw [reference_hybrid_classes ps hn]
  constructor
  · exact (shareGroups_in_of_sub hn fun x hx => mem_sortProtos.2 hx).linked
  · exact (shareGroups_in_of_sub (nodup_sortProtos hn) fun x hx => mem_sortProtos.1 hx).linked

/-! ### the interleaved / neighbouring classes of the reference, as protocluster groups -/

theorem mem_specUnion {a b : List Proto} {x : Proto} : x ∈ Spec.union a b ↔ x ∈ a ∨ x ∈ b := by
  simp only [Spec.union, List.mem_append, List.mem_eraseDups, List.mem_filter, Bool.not_eq_true',
    List.contains_eq_mem, decide_eq_false_iff_not]
  constructor
  · rintro (h | ⟨h, _⟩)
    · exact Or.inl h
    · exact Or.inr h
  · rintro (h | h)
    · exact Or.inl h
    · by_cases hx : x ∈ a
      · exact Or.inl hx
      · exact Or.inr ⟨h, hx⟩

theorem mem_foldl_specUnion {β : Type} (f : β → List Proto) (c : List β) (acc : List Proto) (x : Proto) :
    x ∈ c.foldl (fun acc u => Spec.union acc (f u)) acc ↔ x ∈ acc ∨ ∃ u, u ∈ c ∧ x ∈ f u := by
  induction c generalizing acc with
  | nil => simp
  | cons v rest ih =>
    simp only [List.foldl_cons, ih, mem_specUnion, List.mem_cons, exists_eq_or_imp, or_assoc]

/-- the relation of the interleaved / neighbouring classes in the reference -/
def overlapRel (a b : U) : Bool := locationsOverlap a.span b.span

/-- The groups the executable reference forms from its unit classes (`bigClasses`, then the union of
    the members) are the chain classes of `overlapGroups`, the notion the stage theorems use — when no
    unit is listed twice, no unit is empty, and two units with a common protocluster overlap. -/
theorem reference_overlap_classes (us : List U) (hn : us.Nodup) (hne : ∀ u, u ∈ us → u.members ≠ [])
    (hshare : ∀ u v p, u ∈ us → v ∈ us → p ∈ u.members → p ∈ v.members →
      u = v ∨ locationsOverlap u.span v.span = true) (a b : Proto) :
    (∃ g, g ∈ (bigClasses us).map (fun c => c.foldl (fun acc u => Spec.union acc u.members) []) ∧ a ∈ g ∧ b ∈ g) ↔
      Linked (overlapGroups us) a b := by
  -- the unit-level pairs
  let G : List (List U) := ((allPairs us).filter fun x => overlapRel x.1 x.2).map fun x => [x.1, x.2]
  have hsym : ∀ x y, symRel overlapRel x y = overlapRel x y := by
    intro x y
    show (locationsOverlap x.span y.span || locationsOverlap y.span x.span) = locationsOverlap x.span y.span
    rw [locationsOverlap_comm y.span x.span, Bool.or_self]
  have hG : ∀ g, g ∈ G ↔ ∃ x y, Before x y us ∧ symRel overlapRel x y = true ∧ g = [x, y] := by
    intro g
    simp only [G, List.mem_map, List.mem_filter, mem_allPairs, hsym]
    constructor
    · rintro ⟨x, ⟨hb, ho⟩, e⟩; exact ⟨x.1, x.2, hb, ho, e.symm⟩
    · rintro ⟨u, v, hb, ho, e⟩; exact ⟨(u, v), ⟨hb, ho⟩, e.symm⟩
  have hunit := bigClasses_linked overlapRel us hn G hG
  obtain ⟨h1, h2, h3⟩ := classesOf_components overlapRel us
  -- unit chains give protocluster chains
  have hdown : ∀ u v, Linked G u v → ∀ a b, a ∈ u.members → b ∈ v.members → Linked (overlapGroups us) a b := by
    intro u v hl
    induction hl with
    | @base g x y hg hx hy =>
      obtain ⟨p, q, hb, hs, e⟩ := (hG g).1 hg
      subst e
      rw [hsym] at hs
      intro a b ha hb'
      have hmem : (p.members ++ q.members) ∈ overlapGroups us := mem_overlapGroups.2 ⟨p, q, hb, hs, rfl⟩
      refine Linked.base hmem ?_ ?_
      · rcases List.mem_cons.1 hx with e | h
        · rw [e] at ha; exact List.mem_append.2 (Or.inl ha)
        · rw [List.mem_singleton.1 h] at ha; exact List.mem_append.2 (Or.inr ha)
      · rcases List.mem_cons.1 hy with e | h
        · rw [e] at hb'; exact List.mem_append.2 (Or.inl hb')
        · rw [List.mem_singleton.1 h] at hb'; exact List.mem_append.2 (Or.inr hb')
    | @trans x w y hl1 _ ih1 ih2 =>
      intro a b ha hb
      have hw : w ∈ us := by
        obtain ⟨g, hg, hwg⟩ := linked_mem_left (linked_symm hl1)
        obtain ⟨p, q, hbf, _, e⟩ := (hG g).1 hg
        subst e
        rcases List.mem_cons.1 hwg with e | h
        · rw [e]; exact (before_mem hbf).1
        · rw [List.mem_singleton.1 h]; exact (before_mem hbf).2
      obtain ⟨m, hm⟩ := List.exists_mem_of_ne_nil _ (hne w hw)
      exact Linked.trans (ih1 a m ha hm) (ih2 m b hm hb)
  constructor
  · rintro ⟨g, hg, hag, hbg⟩
    obtain ⟨c, hc, e⟩ := List.mem_map.1 hg
    subst e
    rw [mem_foldl_specUnion U.members] at hag hbg
    simp only [List.not_mem_nil, false_or] at hag hbg
    obtain ⟨u, huc, hau⟩ := hag
    obtain ⟨v, hvc, hbv⟩ := hbg
    exact hdown u v ((hunit u v).1 ⟨c, hc, huc, hvc⟩) a b hau hbv
  · intro hl
    -- strengthen: the class and the two units
    have key : ∃ c, c ∈ bigClasses us ∧ (∃ u, u ∈ c ∧ a ∈ u.members) ∧ ∃ v, v ∈ c ∧ b ∈ v.members := by
      induction hl with
      | @base g x y hg hx hy =>
        obtain ⟨p, q, hb, ho, e⟩ := mem_overlapGroups.1 hg
        subst e
        obtain ⟨c, hc, hpc, hqc⟩ := (hunit p q).2
          (Linked.base ((hG [p, q]).2 ⟨p, q, hb, by rw [hsym]; exact ho, rfl⟩) (by simp) (by simp))
        refine ⟨c, hc, ?_, ?_⟩
        · rcases List.mem_append.1 hx with h | h
          · exact ⟨p, hpc, h⟩
          · exact ⟨q, hqc, h⟩
        · rcases List.mem_append.1 hy with h | h
          · exact ⟨p, hpc, h⟩
          · exact ⟨q, hqc, h⟩
      | trans _ _ ih1 ih2 =>
        obtain ⟨c, hc, hu, v, hvc, hbv⟩ := ih1
        obtain ⟨d, hd, ⟨v', hvd, hbv'⟩, w, hwd, hcw⟩ := ih2
        have hc' := (List.mem_filter.1 hc).1
        have hd' := (List.mem_filter.1 hd).1
        have hv'c : v' ∈ c := by
          rcases hshare v v' _ ((h1 c hc').2 v hvc) ((h1 d hd').2 v' hvd) hbv hbv' with e | ho
          · rw [← e]; exact hvc
          · exact (h3 c hc' v hvc v').2 (Walk.step (Walk.refl v) ((h1 d hd').2 v' hvd) (by rw [hsym]; exact ho))
        have hwc : w ∈ c := (classesOf_disjoint overlapRel us c d hc' hd' v' hv'c hvd w).2 hwd
        exact ⟨c, hc, hu, w, hwc, hcw⟩
    obtain ⟨c, hc, ⟨u, huc, hau⟩, v, hvc, hbv⟩ := key
    refine ⟨_, List.mem_map.2 ⟨c, hc, rfl⟩, ?_, ?_⟩
    · rw [mem_foldl_specUnion U.members]; exact Or.inr ⟨u, huc, hau⟩
    · rw [mem_foldl_specUnion U.members]; exact Or.inr ⟨v, hvc, hbv⟩

end ASV.CC
