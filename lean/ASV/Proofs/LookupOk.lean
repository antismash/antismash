/-
  Histories made of adding calls only: the state and the three relations are functions of the set of calls.
-/
import ASV.Proofs.LookupHist
namespace ASV.Lookup
open ASV

/-- `add_cds_feature` / `add_<area>` calls only (no clearing, no observing) -/
def Op.isAdd : Op → Bool
  | .cds _ => true
  | .area _ => true
  | _ => false

def AddsOnly (ops : List Op) : Prop := ∀ op ∈ ops, op.isAdd = true

theorem AddsOnly.perm {ops₁ ops₂ : List Op} (hp : ops₁.Perm ops₂) (h : AddsOnly ops₁) : AddsOnly ops₂ :=
  fun op hop => h op (hp.mem_iff.2 hop)

/-- what is alive after adding calls only: everything that was added -/
theorem live_adds : ∀ (ops : List Op) (L0 : Live), AddsOnly ops →
    (∀ g, g ∈ (ops.foldl Live.step L0).genes ↔ g ∈ L0.genes ∨ Op.cds g ∈ ops) ∧
    (∀ a, a ∈ (ops.foldl Live.step L0).regions ↔ a ∈ L0.regions ∨ (Op.area a ∈ ops ∧ a.kind = .region)) ∧
    (∀ a, a ∈ (ops.foldl Live.step L0).areas ↔ a ∈ L0.areas ∨ Op.area a ∈ ops)
  | [], L0, _ => by simp
  | op :: ops, L0, h => by
    obtain ⟨i1, i2, i3⟩ := live_adds ops (L0.step op) (fun o ho => h o (List.mem_cons_of_mem _ ho))
    have hop := h op List.mem_cons_self
    simp only [List.foldl_cons, List.mem_cons, i1, i2, i3]
    cases op with
    | cds g =>
      have e : L0.step (.cds g) = { L0 with genes := L0.genes ++ [g] } := rfl
      simp only [e, Live.areas, List.mem_append, List.mem_singleton, Op.cds.injEq, reduceCtorEq, false_or, or_assoc,
        implies_true, and_self]
    | area b =>
      refine ⟨fun x => ?_, fun a => ?_, fun a => ?_⟩
      · rw [Live.step_area]
        simp only [reduceCtorEq, false_or]
      · rw [Live.step_area]
        simp only [mem_ite_snoc, Op.area.injEq, or_assoc]
        refine or_congr Iff.rfl ?_
        constructor
        · rintro (⟨hk, rfl⟩ | ⟨h1, h2⟩)
          · exact ⟨Or.inl rfl, hk⟩
          · exact ⟨Or.inr h1, h2⟩
        · rintro ⟨rfl | h1, h2⟩
          · exact Or.inl ⟨h2, rfl⟩
          · exact Or.inr ⟨h1, h2⟩
      · rw [Live.step_area_areas]
        simp only [Op.area.injEq, or_assoc]
    | _ => cases hop

theorem opsAreas_adds {ops : List Op} (h : AddsOnly ops) (a : AreaT) : a ∈ opsAreas ops ↔ Op.area a ∈ ops := by
  simp only [opsAreas, List.mem_flatMap]
  constructor
  · rintro ⟨op, hop, ha⟩
    have := h op hop
    cases op <;> simp [Op.isAdd, opAreas] at this ha
    subst ha; exact hop
  · intro ha; exact ⟨.area a, ha, by simp [opAreas]⟩

/-- the state after adding calls only, in terms of the calls -/
theorem adds_state_of_inv {S : Prop} {ops : List Op} {r : Rec} (hadd : AddsOnly ops)
    (inv : InvCore S (liveAfter ops) (opsAreas ops) r) :
    (∀ g, g ∈ r.genes ↔ Op.cds g ∈ ops) ∧ (∀ a, a ∈ r.regions ↔ (Op.area a ∈ ops ∧ a.kind = .region)) ∧
    (∀ a, a ∈ registered r ↔ Op.area a ∈ ops) := by
  obtain ⟨l1, l2, l3⟩ := live_adds ops {} hadd
  refine ⟨fun g => ?_, fun a => ?_, fun a => ?_⟩
  · rw [inv.genesLive]; exact (l1 g).trans (or_iff_right List.not_mem_nil)
  · rw [inv.regionsEq]; exact (l2 a).trans (or_iff_right List.not_mem_nil)
  · rw [registered_eq_live inv]; exact (l3 a).trans (or_iff_right List.not_mem_nil)

/-- after adding calls only the three relations are exactly "linked through what was added" -/
theorem adds_relations {len : Int} {ops : List Op} {r : Rec} (hadd : AddsOnly ops) (hok : ∀ op ∈ ops, OpOK op)
    (hrun : run len ops = .ok r) :
    (∀ x, x ∈ r.members ↔ ∃ g ∈ r.genes, ∃ d, Linked (registered r) g d ∧ x = (d.id, g.id)) ∧
    (∀ x, x ∈ r.defs ↔ ∃ g ∈ r.genes, ∃ d, Linked (registered r) g d ∧ defines g d = true ∧ x = (d.id, g.id)) ∧
    (∀ x, x ∈ r.sections ↔ ∃ g ∈ r.genes, ∃ d s, LinkedS (registered r) g d s ∧ x = ((d.id, s), g.id)) := by
  have inv := (run_inv hok hrun).core
  obtain ⟨_, _, s3⟩ := adds_state_of_inv hadd inv
  have hback : ∀ a ∈ opsAreas ops, a ∈ registered r := fun a ha => (s3 a).2 ((opsAreas_adds hadd a).1 ha)
  refine ⟨fun x => ⟨fun hx => ?_, ?_⟩, fun x => ⟨fun hx => ?_, ?_⟩, fun x => ⟨fun hx => ?_, ?_⟩⟩
  · obtain ⟨g, hg, d, hl, e⟩ := inv.membersSound x hx; exact ⟨g, hg, d, hl.mono hback, e⟩
  · rintro ⟨g, hg, d, hl, rfl⟩; exact inv.membersComplete g hg d hl
  · obtain ⟨g, hg, d, hl, hd, e⟩ := inv.defsSound trivial x hx; exact ⟨g, hg, d, hl.mono hback, hd, e⟩
  · rintro ⟨g, hg, d, hl, hd, rfl⟩; exact inv.defsComplete trivial g hg d hl hd
  · obtain ⟨g, hg, d, s, hl, e⟩ := inv.sectionsSound x hx; exact ⟨g, hg, d, s, hl.mono hback, e⟩
  · rintro ⟨g, hg, d, s, hl, rfl⟩; exact inv.sectionsComplete g hg d s hl

end ASV.Lookup
