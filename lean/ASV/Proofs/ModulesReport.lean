/-
  C14 helper lemmas: `add_to_record` on what the caller loop reports.  Every reported component
  comes from the gene whose name it carries, so the look-up finds the domain feature of the
  component's own gene; every component of a gene's modules lies on that gene's strand
  (`chainGo_strand`), so the feature constructor's one-strand guard is met (`report_total_mixed`).
-/
import ASV.Proofs.ModulesBlocks
import ASV.Proofs.ModulesFeature
namespace ASV.Modules
open T Spec

theorem mem_lineGo : ∀ (l : List (Bool × List Comp)) (acc : List Comp) (c : Comp),
    c ∈ lineGo l acc → c ∈ acc ∨ ∃ e ∈ l, c ∈ e.2
  | [], _, _, h => Or.inl h
  | (true, cs) :: rest, acc, c, h => by
    simp only [lineGo] at h
    rcases mem_lineGo rest _ c h with h | ⟨e, he, hc⟩
    · rcases List.mem_append.mp h with h | h
      · exact Or.inr ⟨(true, cs), List.mem_cons_self, h⟩
      · exact Or.inl h
    · exact Or.inr ⟨e, List.mem_cons_of_mem _ he, hc⟩
  | (false, cs) :: rest, acc, c, h => by
    simp only [lineGo] at h
    rcases List.mem_append.mp h with h | h
    · rcases List.mem_append.mp h with h | h
      · exact Or.inl h
      · exact Or.inr ⟨(false, cs), List.mem_cons_self, h⟩
    · rcases mem_lineGo rest [] c h with h | ⟨e, he, hc⟩
      · cases h
      · exact Or.inr ⟨e, List.mem_cons_of_mem _ he, hc⟩

theorem mem_keptComps (name : String) (ds : List Domain) (c : Comp) (h : c ∈ keptComps name ds) :
    c.locus = name ∧ c.domain ∈ ds := by
  unfold keptComps at h
  obtain ⟨d, hd, rfl⟩ := List.mem_map.mp h
  refine ⟨rfl, ?_⟩
  have := (List.mem_filter.mp hd).1
  have hd' : d ∈ ds := (mem_sortDomains ds d).mp this
  cases d; exact hd'

theorem find?_name_of_nodup : ∀ (genes : List Gene), (genes.map (·.name)).Nodup → ∀ g ∈ genes,
    genes.find? (fun x => x.name == g.name) = some g
  | [], _, _, h => by cases h
  | x :: xs, hn, g, h => by
    rw [List.map_cons, List.nodup_cons] at hn
    rcases List.mem_cons.mp h with h | h
    · subst h; simp
    · have hne : (x.name == g.name) = false := by
        rw [beq_eq_false_iff_ne]; intro he
        exact hn.1 (by rw [he]; exact List.mem_map.mpr ⟨g, h, rfl⟩)
      simp only [List.find?_cons, hne]
      exact find?_name_of_nodup xs hn.2 g h

theorem chain_provenance (genes : List Gene)
    (hg : ∀ g ∈ genes, g.name.isEmpty = false ∧ ∀ d ∈ g.domains, (classify d.label).isSome = true)
    (R : List GeneResult) (hR : chainGo genes [] false = .ok R) :
    ∀ r ∈ R, ∀ m ∈ r.modules, ∀ c ∈ m.components, ∃ g ∈ genes, c.locus = g.name ∧ c.domain ∈ g.domains := by
  obtain ⟨R', hR', _, _, hline, _⟩ := chain_line_spec genes hg
  rw [hR] at hR'; injection hR' with hR'; subst hR'
  intro r hr m hm c hc
  obtain ⟨a, b, hab⟩ := comps_infix_flatMap m r.modules hm
  have he : entry r ∈ R.map entry := List.mem_map.mpr ⟨r, hr, rfl⟩
  obtain ⟨a2, b2, hab2⟩ := lineGo_infix (R.map entry) [] (entry r) he
  have hcl : c ∈ assemblyLine (R.map entry) := by
    unfold assemblyLine; rw [hab2]
    show c ∈ a2 ++ r.modules.flatMap (·.components) ++ b2
    rw [hab]; simp [hc]
  rw [hline] at hcl
  unfold geneLine assemblyLine at hcl
  rcases mem_lineGo _ [] c hcl with h | ⟨e, he, hce⟩
  · cases h
  · obtain ⟨g, hgm, rfl⟩ := List.mem_map.mp he
    have hgg : g ∈ genes := (List.mem_filter.mp hgm).1
    obtain ⟨h1, h2⟩ := mem_keptComps g.name g.domains c hce
    exact ⟨g, hgg, h1, h2⟩

/-- the look-up of `add_to_record` on a reported module: succeeds, and the domains found are, in
    order, those of the components' own genes -/
theorem report_domains (genes : List Gene) (hn : (genes.map (·.name)).Nodup)
    (hg : ∀ g ∈ genes, g.name.isEmpty = false ∧ ∀ d ∈ g.domains, (classify d.label).isSome = true)
    (R : List GeneResult) (hR : chainGo genes [] false = .ok R) (holder : String) :
    ∀ r ∈ R, ∀ m ∈ r.modules, ∃ ds, lookupDomains (geneTables genes) holder m.components = .ok ds
      ∧ ds.map some = m.components.map (fun c => geneTables genes c.locus c.domain)
      ∧ ds.map (·.locus) = m.components.map (·.locus) := by
  intro r hr m hm
  apply lookupDomains_spec _ holder (geneTables_locus genes)
  intro c hc
  obtain ⟨g, hgg, h1, h2⟩ := chain_provenance genes hg R hR r hr m hm c hc
  unfold geneTables
  rw [h1, find?_name_of_nodup genes hn g hgg]
  exact tableOf_isSome _ _ (domainFeatures_mem g.name g.strand g.domains [] _ h2)


/-- a hit found in the tables belongs to the first gene of that name and carries its strand -/
theorem geneTables_some (genes : List Gene) (l : String) (hit : Domain) (d : FDomain)
    (h : geneTables genes l hit = some d) :
    ∃ g, genes.find? (fun g => g.name == l) = some g ∧ d.strand = g.strand := by
  unfold geneTables at h
  cases hf : genes.find? (fun g => g.name == l) with
  | none => rw [hf] at h; cases h
  | some g =>
    rw [hf] at h
    obtain ⟨e, he, hd⟩ := tableOf_mem _ _ _ h
    have := (domainFeatures_locus g.name g.strand g.domains [] e he).2
    exact ⟨g, rfl, by rw [← hd, this]⟩

theorem construct_same_strand (ds : List FDomain) (s : Int) (hne : ds ≠ []) (hs : ∀ d ∈ ds, d.strand = s)
    (t : ModType) (c st fi it : Bool) :
    ModFeature.construct ds t c st fi it = .ok ⟨ds, t, c, st, fi, it⟩ := by
  unfold ModFeature.construct
  cases ds with
  | nil => exact absurd rfl hne
  | cons d rest =>
    simp only
    have : rest.all (fun x => x.strand == d.strand) = true := by
      rw [List.all_eq_true]; intro x hx
      rw [hs x (List.mem_cons_of_mem _ hx), hs d (List.mem_cons_self)]; simp
    rw [if_pos this]

/-! ### merged modules only ever hold domains of genes on one strand -/

/-- the strand of the gene a locus names -/
def strandOfLocus (genes : List Gene) (l : String) : Int :=
  match genes.find? fun g => g.name == l with
  | some g => g.strand
  | none => 0

theorem geneTables_strandOf (genes : List Gene) (l : String) (hit : Domain) (d : FDomain)
    (h : geneTables genes l hit = some d) : d.strand = strandOfLocus genes l := by
  obtain ⟨g, hf, hs⟩ := geneTables_some genes l hit d h
  unfold strandOfLocus
  rw [hf]
  exact hs

/-- loop invariant: every component kept in a gene's module list comes from a gene on that gene's strand -/
theorem chainGo_strand (all : List Gene) (hn : (all.map (·.name)).Nodup) :
    ∀ (genes : List Gene) (results : List GeneResult) (live : Bool),
    (∀ g ∈ genes, g ∈ all) →
    (∀ g ∈ genes, g.name.isEmpty = false ∧ ∀ d ∈ g.domains, (classify d.label).isSome = true) →
    (∀ r ∈ results, ∀ m ∈ r.modules, Good m) →
    (∀ r ∈ results, ∀ m ∈ r.modules, ∀ c ∈ m.components, strandOfLocus all c.locus = r.strand) →
    ∃ out, chainGo genes results live = .ok out ∧ (∀ r ∈ out, ∀ m ∈ r.modules, Good m)
      ∧ ∀ r ∈ out, ∀ m ∈ r.modules, ∀ c ∈ m.components, strandOfLocus all c.locus = r.strand
  | [], results, _, _, _, hr, hs => ⟨results, rfl, hr, hs⟩
  | g :: rest, results, live, hall, hg, hr, hs => by
    obtain ⟨results', live', hround, hstep⟩ :=
      chainGo_round g results live (hg g (List.mem_cons_self)).1 (hg g (List.mem_cons_self)).2 hr
    rw [hstep]
    apply chainGo_strand all hn rest results' live' (fun x hx => hall x (List.mem_cons_of_mem _ hx))
      (fun x hx => hg x (List.mem_cons_of_mem _ hx)) (hround.good hr)
    have hgs : strandOfLocus all g.name = g.strand := by
      unfold strandOfLocus
      rw [find?_name_of_nodup all hn g (hall g (List.mem_cons_self))]
    -- the gene's own domains carry its name
    have hown : ∀ ms, Built g ms → ∀ c ∈ ms.flatMap (·.components), strandOfLocus all c.locus = g.strand := by
      intro ms hB c hc
      rw [hB.flat] at hc
      rw [(mem_keptComps g.name g.domains c hc).1]
      exact hgs
    have flat : ∀ (l : List Module) (s : Int),
        (∀ c ∈ l.flatMap (·.components), strandOfLocus all c.locus = s) →
        ∀ m ∈ l, ∀ c ∈ m.components, strandOfLocus all c.locus = s :=
      fun l s h m hm c hc => h c (List.mem_flatMap.mpr ⟨m, hm, hc⟩)
    cases hround with
    | skip _ => exact hs
    | append ms _ hB =>
      exact List.forall_mem_append.mpr ⟨hs, List.forall_mem_singleton.mpr (flat ms _ (hown ms hB))⟩
    | merge ms prev pm im _ hB _ hgl _ _ _ _ _ hx =>
      have hps := hs prev (List.mem_of_getLast? hgl)
      have hdl : ∀ r ∈ results.dropLast, ∀ m ∈ r.modules, ∀ c ∈ m.components,
          strandOfLocus all c.locus = r.strand := fun r h => hs r (List.dropLast_subset _ h)
      rcases hx with ⟨e1, e2⟩ | ⟨he, hflat⟩
      · rw [e1, e2]
        exact List.forall_mem_append.mpr ⟨hdl,
          List.forall_mem_cons.mpr ⟨hps, List.forall_mem_singleton.mpr (flat ms _ (hown ms hB))⟩⟩
      · -- the strands are equal, and both new lists only hold domains of the two old ones
        have hnew : ∀ c ∈ pm.flatMap (·.components) ++ im.flatMap (·.components),
            strandOfLocus all c.locus = g.strand := by
          intro c hc
          have hold : c ∈ prev.modules.flatMap (·.components) ++ ms.flatMap (·.components) := by
            split at hflat
            · have : c ∈ im.flatMap (·.components) ++ pm.flatMap (·.components) :=
                List.mem_append.mpr (List.mem_append.mp hc).symm
              rw [hflat] at this
              exact List.mem_append.mpr (List.mem_append.mp this).symm
            · rw [hflat] at hc
              exact hc
          rcases List.mem_append.mp hold with h | h
          · obtain ⟨m, hm, hcm⟩ := List.mem_flatMap.mp h
            rw [← he]
            exact hps m hm c hcm
          · exact hown ms hB c h
        exact List.forall_mem_append.mpr ⟨hdl, List.forall_mem_cons.mpr
          ⟨flat pm _ fun c hc => (hnew c (List.mem_append_left _ hc)).trans he.symm,
           List.forall_mem_singleton.mpr (flat im _ fun c hc => hnew c (List.mem_append_right _ hc))⟩⟩

/-- `add_to_record` for every reported module, any mixture of strands -/
theorem report_total_mixed (genes : List Gene) (hn : (genes.map (·.name)).Nodup)
    (hg : ∀ g ∈ genes, g.name.isEmpty = false ∧ ∀ d ∈ g.domains, (classify d.label).isSome = true)
    (out : List GeneResult) (ho : chain genes = .ok out) :
    ∀ r ∈ out, ∀ m ∈ r.modules, ∃ f, m.report (geneTables genes) r.name = .ok f
      ∧ f.domains.map (·.locus) = m.components.map (·.locus)
      ∧ (∀ d ∈ f.domains, d.strand = r.strand)
      ∧ f.complete = m.isComplete ∧ f.starter = m.isStarterModule ∧ f.final = m.isTerminationModule
      ∧ f.iterative = m.isIterative ∧ f.type = m.featureType := by
  unfold chain at ho
  cases hR : chainGo genes [] false with
  | error e => rw [hR] at ho; cases ho
  | ok R =>
    rw [hR] at ho
    injection ho with ho; subst ho
    obtain ⟨R', hR', _, hstrand⟩ := chainGo_strand genes hn genes [] false (fun g h => h) hg
      (fun r hr => by cases hr) (fun r hr => by cases hr)
    rw [hR] at hR'; injection hR' with hR'; subst hR'
    intro r hr m hm
    obtain ⟨r0, hr0, rfl⟩ := List.mem_map.mp hr
    simp only at hm
    obtain ⟨hm0, hbig⟩ := List.mem_filter.mp hm
    obtain ⟨ds, hl, hsome, hloc⟩ := report_domains genes hn hg R hR r0.name r0 hr0 m hm0
    have hlen : ds.length = m.components.length := by
      have := congrArg List.length hloc; simpa using this
    have hne : ds ≠ [] := by
      intro h; rw [h] at hlen; simp at hbig; simp at hlen; omega
    have hstr : ∀ d ∈ ds, d.strand = r0.strand := by
      intro d hd
      have : some d ∈ ds.map some := List.mem_map.mpr ⟨d, hd, rfl⟩
      rw [hsome] at this
      obtain ⟨c, hcm, hc⟩ := List.mem_map.mp this
      rw [geneTables_strandOf genes _ _ _ hc]
      exact hstrand r0 hr0 m hm0 c hcm
    refine ⟨⟨ds, m.featureType, m.isComplete, m.isStarterModule, m.isTerminationModule, m.isIterative⟩,
            ?_, hloc, hstr, rfl, rfl, rfl, rfl, rfl⟩
    unfold Module.report Module.toFeature
    simp only [hl]
    exact construct_same_strand ds r0.strand hne hstr _ _ _ _ _

end ASV.Modules
