/-
  C07 helper lemmas, rule order / sub-selection, over C03's model of `cluster_prediction.py`:
  what `apply_cluster_rules` records for a rule, and every later stage, looks at the other rules of the
  ruleset only through the rule's own superiors.
-/
import ASV.Props.C03
namespace ASV.Proto
open ASV ASV.Rules

/-- rule names identify rules (what `Parser` guarantees: duplicate names are a syntax error) -/
def NamesDistinct (rules : List RuleM) : Prop := ∀ x ∈ rules, ∀ y ∈ rules, x.name = y.name → x = y

theorem NamesDistinct.sub {rules sub : List RuleM} (h : NamesDistinct rules) (hs : ∀ x ∈ sub, x ∈ rules) :
    NamesDistinct sub := fun x hx y hy e => h x (hs x hx) y (hs y hy) e

/-- membership in `cluster_type_hits[rule]`, without any mention of the rest of the ruleset -/
def AnchorsOf (within : Lookup) (r : Rec) (rule : RuleM) (g : Gene) : Prop :=
  ∃ gene ∈ r.genes, gene.hasRes = true ∧ ∃ ni, nearInfo within r gene rule.cutoff = .ok ni ∧
    anchors (envOf ni rule.cutoff) gene.id rule.cond = true ∧
    (g = gene.id ∨ g ∈ (detect (envOf ni rule.cutoff) gene.id rule.cond).ancillary.map (·.1))

theorem mem_hitsFor_iff (within : Lookup) (r : Rec) (rules : List RuleM) (res : RuleResults)
    (h : ruleResults within r rules = .ok res) (hd : NamesDistinct rules) (rule : RuleM) (hr : rule ∈ rules)
    (g : Gene) : g ∈ hitsFor res rule.name ↔ AnchorsOf within r rule g := by
  rw [ASV.C03.anchor_set within r rules res h rule.name g]
  constructor
  · rintro ⟨gene, hg, hres, rule', hr', hn, ni, hni, ha, hm⟩
    have : rule' = rule := hd rule' hr' rule hr hn
    subst this
    exact ⟨gene, hg, hres, ni, hni, ha, hm⟩
  · rintro ⟨gene, hg, hres, ni, hni, ha, hm⟩
    exact ⟨gene, hg, hres, rule, hr, rfl, ni, hni, ha, hm⟩

theorem mapM_ok_of_forall {α β : Type} (f : α → E β) :
    ∀ (l : List α), (∀ a ∈ l, ∃ b, f a = .ok b) → ∃ out, l.mapM f = .ok out := by
  intro l
  induction l with
  | nil => intro _; exact ⟨[], rfl⟩
  | cons a l ih =>
    intro h
    obtain ⟨b, hb⟩ := h a (by simp)
    obtain ⟨out, ho⟩ := ih (fun x hx => h x (by simp [hx]))
    exact ⟨b :: out, by simp only [List.mapM_cons, hb, ho, bind, Except.bind, pure, Except.pure]⟩

/-- if rule evaluation runs through for a ruleset, it runs through for every selection / re-ordering
    of its rules (the only thing that can raise is the window computation of a gene and a cutoff) -/
theorem ruleResults_ok_of_subset (within : Lookup) (r : Rec) (rules rules' : List RuleM) (res : RuleResults)
    (h : ruleResults within r rules = .ok res) (hs : ∀ x ∈ rules', x ∈ rules) :
    ∃ res', ruleResults within r rules' = .ok res' := by
  obtain ⟨hmem, hall⟩ := ruleResults_mem within r rules res h
  apply mapM_ok_of_forall
  intro g hg
  simp only [List.mem_filter] at hg
  obtain ⟨x, hx, rfl⟩ := hall g hg.1 hg.2
  obtain ⟨_, _, hdir⟩ := hmem x hx
  have hstep : ∀ rule ∈ rules', ∃ y, (do
      let ni ← nearInfo within r x.1 rule.cutoff
      pure (rule, detect (envOf ni rule.cutoff) x.1.id rule.cond) : E (RuleM × Met)) = .ok y := by
    intro rule hr
    obtain ⟨y, _, hy⟩ := mapM_ok_mem' _ rules x.2 hdir rule (hs rule hr)
    exact ⟨y, hy⟩
  obtain ⟨out, ho⟩ := mapM_ok_of_forall _ rules' hstep
  refine ⟨(x.1, out), ?_⟩
  simp only [bind, Except.bind, pure, Except.pure, ASV.C03.cache_is_transparent within r x.1 rules']
  have : evalRulesDirect within r x.1 rules' = .ok out := ho
  rw [this]

theorem mem_dedupIds (l : List Gene) (g : Gene) : g ∈ dedupIds l ↔ g ∈ l := by
  induction l with
  | nil => simp [dedupIds]
  | cons x xs ih =>
    simp only [dedupIds, List.mem_cons, List.mem_filter, bne_iff_ne, ne_eq, ih]
    by_cases e : g = x
    · simp [e]
    · simp [e]

theorem clustersOfRule_congr (r : Rec) (rule : RuleM) (a a' : List Gene) (h : ∀ g, g ∈ a ↔ g ∈ a') :
    clustersOfRule r rule a = clustersOfRule r rule a' := by
  have hf : (r.genes.filter fun g => a.contains g.id) = (r.genes.filter fun g => a'.contains g.id) := by
    apply List.filter_congr
    intro g _
    rw [Bool.eq_iff_iff, List.contains_iff_mem, List.contains_iff_mem]
    exact h g.id
  simp only [clustersOfRule, hf]

theorem findRule_of_distinct (rules : List RuleM) (hd : NamesDistinct rules) (rule : RuleM) (hr : rule ∈ rules) :
    findRule rules rule.name = .ok rule := by
  simp only [findRule]
  cases hf : rules.find? (·.name == rule.name) with
  | none =>
    have := List.find?_eq_none.1 hf rule hr
    simp at this
  | some x =>
    have hx : x ∈ rules := List.mem_of_find?_eq_some hf
    have hn : x.name = rule.name := by simpa using List.find?_some hf
    rw [hd x hx rule hr hn]
    rfl

theorem extendCluster_independent (within : Lookup) (r : Rec) (rules rules' : List RuleM) (pc : PC) (rule : RuleM)
    (h : findRule rules pc.rule = .ok rule) (h' : findRule rules' pc.rule = .ok rule) :
    extendCluster within r rules pc = extendCluster within r rules' pc := by
  simp only [extendCluster, h, h']

theorem redundantOuter_congr (within : Lookup) (clusters clusters' : List PC) (pc : PC) (first last : Loc) :
    ∀ (sups : List String), (∀ s ∈ sups, clusters.filter (·.rule == s) = clusters'.filter (·.rule == s)) →
      redundantOuter within clusters pc first last sups = redundantOuter within clusters' pc first last sups := by
  intro sups
  induction sups with
  | nil => intro _; rfl
  | cons s more ih =>
    intro h
    simp only [redundantOuter, h s (by simp), ih (fun t ht => h t (by simp [ht]))]

theorem isRedundant_congr (within : Lookup) (rules rules' : List RuleM) (clusters clusters' : List PC) (pc : PC)
    (rule : RuleM) (h : findRule rules pc.rule = .ok rule) (h' : findRule rules' pc.rule = .ok rule)
    (hc : ∀ s ∈ rule.superiors, clusters.filter (·.rule == s) = clusters'.filter (·.rule == s)) :
    isRedundant within rules clusters pc = isRedundant within rules' clusters' pc := by
  simp only [isRedundant, h, h', bind, Except.bind]
  cases firstLast within pc with
  | error e => rfl
  | ok fl =>
    obtain ⟨first, last⟩ := fl
    exact redundantOuter_congr within clusters clusters' pc first last rule.superiors hc

theorem isRedundant_no_superiors (within : Lookup) (rules : List RuleM) (clusters : List PC) (pc : PC)
    (rule : RuleM) (h : findRule rules pc.rule = .ok rule) (hs : rule.superiors = [])
    (fl : Loc × Loc) (hfl : firstLast within pc = .ok fl) :
    isRedundant within rules clusters pc = .ok false := by
  obtain ⟨first, last⟩ := fl
  simp only [isRedundant, h, hfl, hs, bind, Except.bind, redundantOuter, pure, Except.pure]

theorem filterE_ok_self {α : Type} (p : α → E Bool) : ∀ (l : List α), (∀ x ∈ l, p x = .ok true) → filterE p l = .ok l
  | [], _ => rfl
  | a :: l, h => by
    simp only [filterE, h a List.mem_cons_self, filterE_ok_self p l fun x hx => h x (List.mem_cons_of_mem a hx),
      bind, Except.bind, pure, Except.pure, if_true]

theorem removeRedundant_no_superiors (within : Lookup) (rules : List RuleM) (clusters : List PC)
    (hr : ∀ pc ∈ clusters, ∃ rule, findRule rules pc.rule = .ok rule ∧ rule.superiors = [])
    (hf : ∀ pc ∈ clusters, ∃ fl, firstLast within pc = .ok fl) :
    removeRedundant within rules clusters = .ok clusters := by
  refine filterE_ok_self _ clusters fun pc hpc => ?_
  obtain ⟨rule, h1, h2⟩ := hr pc hpc
  obtain ⟨fl, h3⟩ := hf pc hpc
  simp only [isRedundant_no_superiors within rules clusters pc rule h1 h2 fl h3, bind, Except.bind, pure, Except.pure,
    Bool.not_false]

theorem find?_of_findRule {rules : List RuleM} {name : String} {rule : RuleM} (h : findRule rules name = .ok rule) :
    rules.find? (·.name == name) = some rule := by
  unfold findRule at h
  cases hf : rules.find? (·.name == name) with
  | none =>
    rw [hf] at h
    cases h
  | some x =>
    rw [hf] at h
    exact congrArg some (Except.ok.inj h)

theorem mem_stripInferior {rules : List RuleM} {d : Doms} {e : Gene × String × List Prof} {rule : RuleM}
    (hf : findRule rules e.2.1 = .ok rule) :
    e ∈ stripInferior rules d ↔ e ∈ d ∧ ∀ s ∈ rule.superiors, s ∉ d.keys e.1 := by
  simp only [stripInferior, List.mem_filter, find?_of_findRule hf, Bool.not_eq_eq_eq_not, Bool.not_true,
    List.any_eq_false, List.contains_iff_mem]

end ASV.Proto
