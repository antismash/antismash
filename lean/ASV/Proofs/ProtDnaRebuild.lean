/-
  Helper lemmas for C09: the prepeptide write-out / re-read cycle
  (`to_biopython` → `Prepeptide.from_biopython` → `to_biopython`).
-/
import ASV.Proofs.ProtDna
import ASV.Spec.ProtDnaRebuild
namespace ASV.ProtDna
open ASV

/-- an exon split in two at any point: the bases of the first piece (in transcription order), then the second's;
    `hcut` says where the cut lies, for either strand, so that a caller who knows the strand gives it by `⟨_, rfl, rfl⟩` -/
theorem split_bases (rev : Bool) (m p q : Part) (hm : (m.strand == .rev) = rev) (hp : (p.strand == .rev) = rev)
    (hq : (q.strand == .rev) = rev) (hpl : p.lo ≤ p.hi) (hql : q.lo ≤ q.hi)
    (hcut : if rev then q.hi = p.lo ∧ m.lo = q.lo ∧ m.hi = p.hi else q.lo = p.hi ∧ m.lo = p.lo ∧ m.hi = q.hi) :
    partBases m = partBases p ++ partBases q := by
  have hsum : m.hi - m.lo = (p.hi - p.lo) + (q.hi - q.lo) := by
    cases rev
    · simp only [Bool.false_eq_true, if_false] at hcut
      omega
    · simp only [if_true] at hcut
      omega
  rw [partBases_eq_ray rev m hm, partBases_eq_ray rev p hp, partBases_eq_ray rev q hq, hsum,
    Int.toNat_add (Int.sub_nonneg_of_le hpl) (Int.sub_nonneg_of_le hql), ray_append,
    Int.toNat_of_nonneg (Int.sub_nonneg_of_le hpl)]
  cases rev
  · simp only [Bool.false_eq_true, if_false] at hcut ⊢
    congr 2
    · exact hcut.2.1
    · omega
  · simp only [if_true] at hcut ⊢
    congr 2
    · rw [hcut.2.2]
    · omega

/-- the last kept part `a` and the first part `b` of the next section replaced by one part `m` with their bases -/
theorem PartsOK.merge_pair (st : Strand) (ys rest : List Part) (a b m : Part) (hys : PartsOK st ys) (hrest : PartsOK st rest)
    (hm : m.lo < m.hi ∧ m.strand = st) (hb : partBases m = partBases a ++ partBases b) :
    PartsOK st (ys ++ [m] ++ rest) ∧ ys ++ [m] ++ rest ≠ [] ∧
      (ys ++ [m] ++ rest).flatMap partBases = (ys ++ [a]).flatMap partBases ++ (b :: rest).flatMap partBases := by
  refine ⟨(hys.append ?_).append hrest, by simp, ?_⟩
  · intro q hq
    rw [List.mem_singleton.mp hq]
    exact hm
  · simp only [List.flatMap_append, List.flatMap_cons, List.flatMap_nil, List.append_nil, hb, List.append_assoc]

/-- one iteration of `_combine_sections`: the kept parts list the old bases followed by the section's -/
theorem combineStep_ok (st : Strand) (parts : List Part) (sec : Loc) (hp : PartsOK st parts)
    (hs : SectionOK st sec) :
    PartsOK st (combineStep parts sec) ∧ combineStep parts sec ≠ [] ∧
      (combineStep parts sec).flatMap partBases = parts.flatMap partBases ++ bases sec := by
  obtain ⟨hne, hsp⟩ := hs
  have hplain : PartsOK st (parts ++ sec.parts) ∧ parts ++ sec.parts ≠ [] ∧
      (parts ++ sec.parts).flatMap partBases = parts.flatMap partBases ++ bases sec := by
    refine ⟨hp.append hsp, by simp [hne], by simp [bases]⟩
  unfold combineStep
  cases hl : parts.getLast? with
  | none => simpa using hplain
  | some prev =>
    obtain ⟨first, rest, hsec⟩ := List.exists_cons_of_ne_nil hne
    obtain ⟨ys, rfl⟩ := List.getLast?_eq_some_iff.mp hl
    have hpv := hp prev (by simp)
    have hfi := hsp first (by simp [hsec])
    have hys : PartsOK st ys := fun q hq => hp q (by simp [hq])
    have hrest : PartsOK st rest := fun q hq => hsp q (by simp [hsec, hq])
    rw [bases, hsec] at hplain ⊢
    simp only [List.dropLast_concat]
    split
    · split
      · rename_i _ hc
        simp only [Bool.and_eq_true, decide_eq_true_eq, beq_iff_eq] at hc
        have hrv : (st == Strand.rev) = true := by rw [← hfi.2]; simp [hc.1]
        rw [hfi.2]
        exact PartsOK.merge_pair st ys rest prev first _ hys hrest ⟨by simp only; omega, rfl⟩
          (split_bases true _ prev first hrv (hpv.2 ▸ hrv) (hfi.2 ▸ hrv) (Int.le_of_lt hpv.1) (Int.le_of_lt hfi.1)
            ⟨hc.2, rfl, rfl⟩)
      · split
        · rename_i _ _ hc
          simp only [Bool.and_eq_true, decide_eq_true_eq, bne_iff_ne, ne_eq] at hc
          have hnr : (st == Strand.rev) = false := by rw [← hfi.2]; simpa using hc.1
          rw [hfi.2]
          exact PartsOK.merge_pair st ys rest prev first _ hys hrest ⟨by simp only; omega, rfl⟩
            (split_bases false _ prev first hnr (hpv.2 ▸ hnr) (hfi.2 ▸ hnr) (Int.le_of_lt hpv.1)
              (Int.le_of_lt hfi.1) ⟨hc.2, rfl, rfl⟩)
        · exact hplain
    · exact hplain

theorem strand_of_sectionOK (st : Strand) (r : Loc) (h : SectionOK st r) : r.strand = st := by
  obtain ⟨hne, hp⟩ := h
  cases r with
  | simple p => exact (hp p (by simp [Loc.parts])).2
  | compound ps =>
    match ps, hne with
    | p :: rest, _ =>
      have h1 := (hp p (by simp [Loc.parts])).2
      have : rest.all (fun q => q.strand == p.strand) = true := by
        simp only [List.all_eq_true, beq_iff_eq]
        intro q hq
        rw [(hp q (by simp [Loc.parts, hq])).2, h1]
      rw [h1] at this
      simp only [Loc.strand, h1, this, if_true]

theorem geneWF_of_sectionOK (st : Strand) (r : Loc) (h : SectionOK st r) : geneWF r = true := by
  rw [geneWF_iff]
  exact ⟨h.1, fun p hp => ⟨(h.2 p hp).1, by rw [strand_of_sectionOK st r h]; exact (h.2 p hp).2⟩⟩

theorem combineFold_ok (st : Strand) : ∀ (secs : List Loc) (parts : List Part), PartsOK st parts →
    (∀ r ∈ secs, SectionOK st r) →
    PartsOK st (secs.foldl combineStep parts) ∧ (secs ≠ [] → secs.foldl combineStep parts ≠ []) ∧
      (secs.foldl combineStep parts).flatMap partBases = parts.flatMap partBases ++ secs.flatMap bases := by
  intro secs
  induction secs with
  | nil => intro parts hp _; exact ⟨hp, by simp, by simp⟩
  | cons sec rest ih =>
    intro parts hp hs
    obtain ⟨h1, h2, h3⟩ := combineStep_ok st parts sec hp (hs sec (by simp))
    obtain ⟨i1, i2, i3⟩ := ih (combineStep parts sec) h1 (fun r hr => hs r (by simp [hr]))
    refine ⟨i1, fun _ => ?_, by simp only [List.foldl_cons, i3, h3, List.flatMap_cons, List.append_assoc]⟩
    cases rest with
    | nil => simpa using h2
    | cons r rs => exact i2 (by simp)

/-- `_combine_sections` on sections of one gene: succeeds, lists the sections' bases in order -/
theorem combineSections_ok (st : Strand) (secs : List Loc) (hne : secs ≠ []) (h : ∀ r ∈ secs, SectionOK st r) :
    ∃ r, combineSections secs = .ok r ∧ bases r = secs.flatMap bases ∧ SectionOK st r := by
  obtain ⟨h1, h2, h3⟩ := combineFold_ok st secs [] (by intro q hq; cases hq) h
  obtain ⟨r, hr, hrp⟩ := locOfNewParts_ok _ (h2 hne)
  refine ⟨r, by simp [combineSections, hr], ?_, ?_⟩
  · rw [bases_of_parts r _ hrp, h3]; simp
  · exact ⟨by rw [hrp]; exact h2 hne, by rw [hrp]; exact h1⟩

theorem buildLocationFromOthers_eq (l : Loc) (ls : List Loc) :
    buildLocationFromOthers (l :: ls) = .ok (ls.foldl blfoStep l) := rfl

/-- one step of `build_location_from_others` on sections of one gene, when the step is sound -/
theorem blfoStep_ok (st : Strand) (location loc : Loc) (h1 : SectionOK st location) (h2 : SectionOK st loc)
    (hs : stepSound location loc = true) :
    SectionOK st (blfoStep location loc) ∧ bases (blfoStep location loc) = bases location ++ bases loc := by
  have hstr := strand_of_sectionOK st location h1
  obtain ⟨hne1, hp1⟩ := h1
  obtain ⟨hne2, hp2⟩ := h2
  unfold blfoStep
  split
  · rename_i heq
    -- the coordinate test fired: soundness says the two parts really adjoin, upwards, not on the − strand
    obtain ⟨ys, lastP, hys⟩ : ∃ ys lastP, location.parts = ys ++ [lastP] :=
      ⟨_, _, (List.dropLast_concat_getLast hne1).symm⟩
    obtain ⟨firstP, rest, hfr⟩ := List.exists_cons_of_ne_nil hne2
    have hgl : location.parts.getLast? = some lastP := by rw [hys]; simp
    have hhd : loc.parts.head? = some firstP := by rw [hfr]; simp
    simp only [stepSound, heq, ne_eq, not_true_eq_false, decide_false, Bool.false_or, hgl, hhd,
      Bool.and_eq_true, bne_iff_ne, decide_eq_true_eq] at hs
    obtain ⟨hnr, hadj⟩ := hs
    have hl := hp1 lastP (by rw [hys]; simp)
    have hf := hp2 firstP (by rw [hfr]; simp)
    have hnr' : (st == Strand.rev) = false := by rw [hstr] at hnr; simpa using hnr
    have hm := split_bases false ⟨lastP.lo, firstP.hi, st⟩ lastP firstP hnr' (hl.2 ▸ hnr') (hf.2 ▸ hnr')
      (Int.le_of_lt hl.1) (Int.le_of_lt hf.1) ⟨hadj.symm, rfl, rfl⟩
    have hdl : location.parts.dropLast = ys := by rw [hys, List.dropLast_concat]
    have hd1 : loc.parts.drop 1 = rest := by rw [hfr]; rfl
    have hys_ok : PartsOK st ys := fun q hq => hp1 q (by rw [hys]; simp [hq])
    have hrest_ok : PartsOK st rest := fun q hq => hp2 q (by rw [hfr]; simp [hq])
    obtain ⟨hall, hne, hb⟩ := PartsOK.merge_pair st ys rest lastP firstP ⟨lastP.lo, firstP.hi, location.strand⟩ hys_ok hrest_ok
      ⟨by simp only; omega, hstr⟩ (by rw [hstr]; exact hm)
    rw [← hys, ← hfr] at hb
    -- either constructor: a location with these parts will do
    have key : ∀ r : Loc, r.parts = ys ++ [⟨lastP.lo, firstP.hi, location.strand⟩] ++ rest →
        SectionOK st r ∧ bases r = bases location ++ bases loc :=
      fun r hr => ⟨⟨hr ▸ hne, hr ▸ hall⟩, by rw [bases, hr]; exact hb⟩
    simp only [hgl, hhd, hdl, hd1]
    split
    · exact key _ rfl
    · rename_i hlen
      simp only [Bool.or_eq_true, decide_eq_true_eq, not_or, Nat.not_lt, hys, hfr, List.length_append,
        List.length_cons, List.length_nil] at hlen
      have hy0 : ys = [] := List.eq_nil_of_length_eq_zero (by omega)
      have hr0 : rest = [] := List.eq_nil_of_length_eq_zero (by omega)
      subst hy0 hr0
      exact key _ rfl
  · exact ⟨⟨by show location.parts ++ loc.parts ≠ []; simp [hne1], fun q hq => PartsOK.append hp1 hp2 q (by simpa [Loc.parts] using hq)⟩,
      by simp [bases, Loc.parts]⟩

theorem blfoFold_ok (st : Strand) : ∀ (secs : List Loc) (acc : Loc), SectionOK st acc →
    (∀ r ∈ secs, SectionOK st r) → foldSound acc secs = true →
    SectionOK st (secs.foldl blfoStep acc) ∧ bases (secs.foldl blfoStep acc) = bases acc ++ secs.flatMap bases := by
  intro secs
  induction secs with
  | nil => intro acc h _ _; exact ⟨h, by simp⟩
  | cons sec rest ih =>
    intro acc hacc hs hsound
    simp only [foldSound, Bool.and_eq_true] at hsound
    obtain ⟨h1, h2⟩ := blfoStep_ok st acc sec hacc (hs sec (by simp)) hsound.1
    obtain ⟨i1, i2⟩ := ih (blfoStep acc sec) h1 (fun r hr => hs r (by simp [hr])) hsound.2
    exact ⟨i1, by simp only [List.foldl_cons, i2, h2, List.flatMap_cons, List.append_assoc]⟩

/-- unrepaired `build_location_from_others` on sections of one gene, all steps sound -/
theorem rebuildUnrepaired_ok (st : Strand) (secs : List Loc) (hne : secs ≠ []) (h : ∀ r ∈ secs, SectionOK st r)
    (hs : sectionsSound secs = true) :
    ∃ r, rebuildUnrepaired secs = .ok r ∧ bases r = secs.flatMap bases ∧ SectionOK st r := by
  match secs, hne with
  | x :: xs, _ =>
    obtain ⟨h1, h2⟩ := blfoFold_ok st xs x (h x (by simp)) (fun r hr => h r (by simp [hr])) hs
    exact ⟨_, by simp [rebuildUnrepaired, buildLocationFromOthers_eq], by simpa using h2, h1⟩

theorem flatMap_sectionList (a : Option Loc) (c : Loc) (b : Option Loc) :
    (sectionList (a, c, b)).flatMap bases = optBases a ++ bases c ++ optBases b := by
  cases a <;> cases b <;> simp [sectionList, optBases]

theorem mem_sectionList (a : Option Loc) (c : Loc) (b : Option Loc) (r : Loc) (h : r ∈ sectionList (a, c, b)) :
    a = some r ∨ c = r ∨ b = some r := by
  cases a <;> cases b <;> simp [sectionList] at h <;> simp <;> grind

/-- a gene `r` that lists the translated bases of `l` (its first `3T`) has the same sections as `l` -/
theorem sections_of_prefix (l r : Loc) (hrwf : geneWF r = true) (T ld tl : Nat) (h : ld + tl < T)
    (hT : 3 * T ≤ (bases l).length) (hb : bases r = (bases l).take (3 * T)) :
    ∃ a c b, prepeptideSections r ld tl = .ok (a, c, b) ∧ SectionsAt l T ld tl a c b := by
  have hrlen : r.len = ((3 * T : Nat) : Int) := by
    rw [geneWF_len r hrwf, hb, List.length_take,
      Nat.min_eq_left hT]
  have hT' : (r.len / 3).toNat = T := by omega
  obtain ⟨a, c, b, hm, ha0, hb0, ha, hc, hb', _⟩ := prepeptide_sections r hrwf ld tl (by omega)
  rw [hT'] at hc hb'
  refine ⟨a, c, b, hm, ha0, hb0, ?_, ?_, ?_⟩
  · rw [ha, hb, sliceL_take _ _ _ _ (by omega)]
  · rw [hc, hb, sliceL_take _ _ _ _ (by omega)]
  · rw [hb', hb, sliceL_take _ _ _ _ (by omega)]

/-- the write-out / re-read cycle for any way `f` of rebuilding a location from the sections written for `l`, as
    long as on those sections `f` returns a well-formed location listing their bases in order: the constructor's
    refusal aside, the rebuilt gene lists the translated bases of `l` and has the sections of `l` -/
theorem rebuild_cycle (l : Loc) (hwf : geneWF l = true) (ld tl : Nat) (h : (ld : Int) + tl < l.len / 3)
    (f : List Loc → Res Loc)
    (hf : ∀ x, prepeptideSections l ld tl = .ok x → sectionList x ≠ [] →
      (∀ r ∈ sectionList x, SectionOK l.strand r) →
      ∃ r, f (sectionList x) = .ok r ∧ bases r = (sectionList x).flatMap bases ∧ SectionOK l.strand r) :
    ∃ r, bases r = (bases l).take (3 * (l.len / 3).toNat) ∧ geneWF r = true ∧
      ((prepeptideSections l ld tl).bind fun x => featureAt (f (sectionList x)))
        = (if containsOverlappingExons r then .valueError else .ok r) ∧
      ∃ a c b, prepeptideSections r ld tl = .ok (a, c, b) ∧ SectionsAt l (l.len / 3).toNat ld tl a c b := by
  obtain ⟨a, c, b, hm, _, _, ha, hc, hb, hok⟩ := prepeptide_sections l hwf ld tl h
  have hlen := geneWF_len l hwf
  generalize hTe : (l.len / 3).toNat = T at *
  have hT : ld + tl < T ∧ 3 * T ≤ (bases l).length := by omega
  clear h hlen hTe
  obtain ⟨r, hr, hrb, hrok⟩ := hf (a, c, b) hm (by cases a <;> simp [sectionList])
    (fun r hr => hok r (mem_sectionList a c b r hr))
  have hbases : bases r = (bases l).take (3 * T) := by
    rw [hrb, flatMap_sectionList, ha, hc, hb, sliceL_three _ _ _ _ (by omega) (by omega)]
  have hrwf := geneWF_of_sectionOK l.strand r hrok
  refine ⟨r, hbases, hrwf, ?_, sections_of_prefix l r hrwf T ld tl hT.1 hT.2 hbases⟩
  simp only [hm, Res.bind, hr, featureAt]

end ASV.ProtDna
