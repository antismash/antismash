/-
  C06: on a circular record a region with an origin-spanning member is the shortest
  covering arc of its members (when one shorter than half the record exists); the others are line hulls.
-/
import ASV.Proofs.RegionsRing
import ASV.Proofs.LocConnectRingSpec
namespace ASV.Regions
open ASV ASV.Components

theorem RingArea.strict {L : Int} {l : Loc} (h : RingArea L l) : RingInStrict L l := by
  rcases h with ⟨p, rfl, h0, h1, h2⟩ | ⟨x, y, rfl, hy0, hyx, hxL⟩
  · exact Or.inl ⟨p, rfl, h0, h1, h2⟩
  · exact Or.inr (Or.inl ⟨x, y, .fwd, by decide, rfl, hy0, hyx, hxL⟩)

/-- the location `Region.__init__` computes from areas of a circular record, one of them origin-spanning, is their
    shortest covering arc whenever a covering span shorter than half the record exists; without such an area it is
    their line hull -/
theorem region_shortest {L : Int} (hL : 0 < L) {fs : List Feat} (hne : fs ≠ []) (hch : ∀ f ∈ fs, RingArea L f.loc)
    {w : Option Int} {loc : Loc} (hw : regionWrap (fs.map (·.loc)) = .ok w) (hconn : connect (fs.map (·.loc)) w = .ok loc) :
    ((fs.map (·.loc)).any bridgesOrigin = true →
      ∀ c, areaWF L L c = true → 2 * c.len < L → (∀ f ∈ fs, ∀ i, f.loc.mem i = true → c.mem i = true) →
        loc.len ≤ c.len ∧ ∀ i, loc.mem i = true → c.mem i = true) ∧
    ((fs.map (·.loc)).any bridgesOrigin = false → loc = hullLoc fs) := by
  rcases region_loc_ring hL hne hch hw hconn with ⟨hany, _, hok, hloc⟩ | ⟨hany, _, hloc⟩
  · refine ⟨fun _ c hwf hlen hcov => ?_, fun hf => (by rw [hany] at hf; cases hf)⟩
    rw [hloc]
    apply connR_shortest _ L hL (by simpa using hne) hok c hwf hlen
    intro q hq i hi
    obtain ⟨l, hl, rfl⟩ := List.mem_map.1 hq
    obtain ⟨f, hf, rfl⟩ := List.mem_map.1 hl
    exact hcov f hf i ((toR_mem_iff L hL f.loc (hch f hf).strict i).1 hi)
  · exact ⟨fun ht => (by rw [hany] at ht; cases ht), fun _ => hloc⟩

/-- every region that lists an origin-spanning area is the shortest covering arc of the areas it lists, whenever
    a covering span shorter than half the record exists; the others are the line hull of theirs -/
def RegionsShortest (L : Int) (s : State) : Prop :=
  ∀ r ∈ s.regions,
    ((∃ f ∈ membersOf s r, bridgesOrigin f.loc = true) →
      ∀ c, areaWF L L c = true → 2 * c.len < L → (∀ f ∈ membersOf s r, ∀ i, f.loc.mem i = true → c.mem i = true) →
        r.loc.len ≤ c.len ∧ ∀ i, r.loc.mem i = true → c.mem i = true) ∧
    ((∀ f ∈ membersOf s r, bridgesOrigin f.loc = false) →
      ∃ fs, (∀ f, f ∈ fs ↔ f ∈ membersOf s r) ∧ r.loc = hullLoc fs)

/-- after `create_regions` on a circular record: every region listing an origin-spanning area is the shortest
    covering arc of its members whenever a covering span shorter than half the record exists; every other region
    is the line hull of its members -/
theorem createRegions_shortest (s s' : State) (hL : 0 < s.len) (hi : Inv s) (hreg : s.regions = [])
    (hring : ∀ f ∈ s.cands ++ s.subs, RingArea s.len f.loc) (h : createRegions s = .ok s') :
    RegionsShortest s.len s' := by
  have hsame := (createRegions_inv hi h).2
  intro r hr
  obtain ⟨_, _, sec, _, m⟩ := createRegions_made hi hreg h r hr
  obtain ⟨w, hw, hconn⟩ := m.loc
  obtain ⟨h1, h2⟩ := region_shortest hL m.ne (fun f hf => hring f (m.sub f hf)) hw hconn
  have hmem : ∀ f, f ∈ membersOf s' r ↔ f ∈ childrenOf sec.2 := fun f => by
    rw [← m.members]; simp only [membersOf, hsame.cands, hsame.subs]
  constructor
  · rintro ⟨f, hf, hb⟩ c hwf hlen hcov
    exact h1 (List.any_eq_true.2 ⟨f.loc, List.mem_map.2 ⟨f, (hmem f).1 hf, rfl⟩, hb⟩) c hwf hlen
      (fun g hg => hcov g ((hmem g).2 hg))
  · intro hnb
    refine ⟨childrenOf sec.2, fun f => (hmem f).symm, h2 (List.any_eq_false.2 fun l hl => ?_)⟩
    obtain ⟨f, hf, rfl⟩ := List.mem_map.1 hl
    simp [hnb f ((hmem f).2 hf)]

end ASV.Regions
