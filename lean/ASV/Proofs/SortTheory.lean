/-
  Lexicographic sort keys, and one theory for every linear insertion of the model: `Refine.insertBy c x l` puts `x`
  before the first `y` with `c x y`; every other insertion sort of the model is this function at some test `c`
  (`insertBy_unique`, `foldr_eq_sortBy` and their variants), and `bisect` on a list the test partitions finds the
  same place.
-/
import ASV.Model.Refine
import ASV.Proofs.Bisect

/-! The sort keys of the model are tuples compared as `x < y ∨ (x = y ∧ rest)`.  Totality, transitivity and
antisymmetry of such a comparison follow component by component from the same facts about `rest`. -/
namespace ASV
section lex
variable {α : Type} [LE α] [LT α] [Std.IsLinearOrder α] [Std.LawfulOrderLT α] {x y z : α} {r s t : Prop}

theorem lex_total (h : r ∨ s) : (x < y ∨ (x = y ∧ r)) ∨ (y < x ∨ (y = x ∧ s)) := by
  rcases Std.lt_trichotomy x y with h1 | rfl | h1
  · exact .inl (.inl h1)
  · exact h.imp (fun hr => .inr ⟨rfl, hr⟩) (fun hs => .inr ⟨rfl, hs⟩)
  · exact .inr (.inl h1)

theorem lex_trans (h : r → s → t) : x < y ∨ (x = y ∧ r) → y < z ∨ (y = z ∧ s) → x < z ∨ (x = z ∧ t)
  | .inl h1, .inl h2 => .inl (Std.lt_trans h1 h2)
  | .inl h1, .inr ⟨e, _⟩ => .inl (e ▸ h1)
  | .inr ⟨e, _⟩, .inl h2 => .inl (e ▸ h2)
  | .inr ⟨e1, hr⟩, .inr ⟨e2, hs⟩ => .inr ⟨e1.trans e2, h hr hs⟩

theorem lex_antisymm : x < y ∨ (x = y ∧ r) → y < x ∨ (y = x ∧ s) → x = y ∧ r ∧ s
  | .inl h1, .inl h2 => absurd (Std.lt_trans h1 h2) Std.lt_irrefl
  | .inl h1, .inr ⟨e, _⟩ => absurd (e ▸ h1) Std.lt_irrefl
  | .inr ⟨e, _⟩, .inl h2 => absurd (e ▸ h2) Std.lt_irrefl
  | .inr ⟨e, hr⟩, .inr ⟨_, hs⟩ => ⟨e, hr, hs⟩

theorem lex_tri {e : Prop} (h : r ∨ e ∨ s) : (x < y ∨ (x = y ∧ r)) ∨ (x = y ∧ e) ∨ (y < x ∨ (y = x ∧ s)) := by
  rcases Std.lt_trichotomy x y with h1 | rfl | h1
  · exact .inl (.inl h1)
  · rcases h with h | h | h
    · exact .inl (.inr ⟨rfl, h⟩)
    · exact .inr (.inl ⟨rfl, h⟩)
    · exact .inr (.inr (.inr ⟨rfl, h⟩))
  · exact .inr (.inr (.inl h1))

/-! The same with the first component compared downwards (`-length` in a key). -/

theorem lex_trans_desc (h : r → s → t) (h1 : y < x ∨ (x = y ∧ r)) (h2 : z < y ∨ (y = z ∧ s)) :
    z < x ∨ (x = z ∧ t) :=
  (lex_trans (fun hs hr => h hr hs) (h2.imp_right (And.imp_left Eq.symm))
    (h1.imp_right (And.imp_left Eq.symm))).imp_right (And.imp_left Eq.symm)

theorem lex_antisymm_desc (h1 : y < x ∨ (x = y ∧ r)) (h2 : x < y ∨ (y = x ∧ s)) : x = y ∧ r ∧ s :=
  have ⟨e, hs, hr⟩ := lex_antisymm (h2.imp_right (And.imp_left Eq.symm)) (h1.imp_right (And.imp_left Eq.symm))
  ⟨e, hr, hs⟩

theorem lex_not_lt (h : ¬ s ↔ r) : ¬ (y < x ∨ (y = x ∧ s)) ↔ x < y ∨ (x = y ∧ r) := by
  rcases Std.lt_trichotomy x y with h1 | rfl | h1
  · have h2 : ¬ y < x := fun h2 => Std.lt_irrefl (Std.lt_trans h1 h2)
    have h3 : y ≠ x := fun e => Std.lt_irrefl (e ▸ h1)
    simp only [h1, h2, h3, false_and, or_false, not_false_eq_true, true_or]
  · simp only [Std.lt_irrefl, true_and, false_or, h]
  · simp only [h1, true_or, not_true_eq_false, false_iff, not_or, not_and]
    exact ⟨fun h2 => Std.lt_irrefl (Std.lt_trans h1 h2), fun e => absurd (e ▸ h1) Std.lt_irrefl⟩

end lex

/-- putting `y` between two halves of a list that is pairwise `R` -/
theorem pairwise_insert_mid {α : Type} {R : α → α → Prop} {l₁ l₂ : List α} {y : α} (h1 : ∀ a ∈ l₁, R a y)
    (h2 : ∀ b ∈ l₂, R y b) (h : (l₁ ++ l₂).Pairwise R) : (l₁ ++ y :: l₂).Pairwise R := by
  rw [List.pairwise_append] at h ⊢
  exact ⟨h.1, List.pairwise_cons.2 ⟨h2, h.2.1⟩, fun a ha b hb =>
    (List.mem_cons.1 hb).elim (fun e => e ▸ h1 a ha) (h.2.2 a ha b)⟩

end ASV

namespace ASV.Refine

variable {α : Type} (le : α → α → Bool)

theorem insertBy_perm (a : α) : ∀ l : List α, (insertBy le a l).Perm (a :: l)
  | [] => by simp [insertBy]
  | b :: l => by
    simp only [insertBy]
    split
    · exact List.Perm.refl _
    · exact ((insertBy_perm a l).cons b).trans (List.Perm.swap a b l)

theorem sortBy_perm : ∀ l : List α, (sortBy le l).Perm l
  | [] => by simp [sortBy]
  | a :: l => by
    simp only [sortBy]
    exact (insertBy_perm le a _).trans ((sortBy_perm l).cons a)

theorem mem_insertBy {a x : α} {l : List α} : x ∈ insertBy le a l ↔ x = a ∨ x ∈ l := by
  rw [(insertBy_perm le a l).mem_iff]; simp

theorem mem_sortBy {x : α} {l : List α} : x ∈ sortBy le l ↔ x ∈ l :=
  (sortBy_perm le l).mem_iff

theorem length_sortBy (l : List α) : (sortBy le l).length = l.length := (sortBy_perm le l).length_eq

theorem sortBy_ne_nil {l : List α} (h : l ≠ []) : sortBy le l ≠ [] :=
  fun h' => h ((h' ▸ sortBy_perm le l).symm.eq_nil)

variable {le}

/-- the normal form: split at the first element the test accepts -/
theorem insertBy_eq_split (le : α → α → Bool) (x : α) :
    ∀ l : List α, insertBy le x l = l.takeWhile (fun y => !le x y) ++ x :: l.dropWhile (fun y => !le x y)
  | [] => rfl
  | y :: l => by
    rw [insertBy, List.takeWhile_cons, List.dropWhile_cons]
    cases h : le x y
    · simp only [Bool.false_eq_true, if_false, Bool.not_false, if_true, List.cons_append, insertBy_eq_split le x l]
    · simp only [if_true, Bool.not_true, Bool.false_eq_true, if_false, List.nil_append]

/-- inserting keeps a list ascending for any relation `R` that is transitive from `x` on and agrees with the
    test at `x`.  `R := (c · · = true)` with `c` total, `R := (c · · = false)` flipped with `c` a strict weak
    order, and "smaller, or tied and earlier in the input" are the three uses. -/
theorem insertBy_pairwise_gen {R : α → α → Prop} (x : α) : ∀ l : List α,
    (∀ y ∈ l, ∀ z ∈ l, R x y → R y z → R x z) → (∀ y ∈ l, le x y = true → R x y) →
    (∀ y ∈ l, le x y = false → R y x) → l.Pairwise R → (insertBy le x l).Pairwise R
  | [], _, _, _, _ => by simp [insertBy]
  | y :: l, ht, h1, h2, h => by
    have hc := List.pairwise_cons.1 h
    rw [insertBy]
    cases hxy : le x y
    · rw [if_neg Bool.false_ne_true]
      refine List.pairwise_cons.2 ⟨fun z hz => ?_, insertBy_pairwise_gen x l
        (fun a ha b hb => ht a (List.mem_cons_of_mem _ ha) b (List.mem_cons_of_mem _ hb))
        (fun a ha => h1 a (List.mem_cons_of_mem _ ha)) (fun a ha => h2 a (List.mem_cons_of_mem _ ha)) hc.2⟩
      rcases (mem_insertBy le).1 hz with rfl | hz
      · exact h2 y List.mem_cons_self hxy
      · exact hc.1 z hz
    · rw [if_pos rfl]
      have hR : R x y := h1 y List.mem_cons_self hxy
      refine List.pairwise_cons.2 ⟨fun z hz => ?_, h⟩
      rcases List.mem_cons.1 hz with rfl | hz
      · exact hR
      · exact ht y List.mem_cons_self z (List.mem_cons_of_mem _ hz) hR (hc.1 z hz)


/-! The sorted list is sorted; the comparison need be total and transitive only on the elements satisfying `P`. -/

theorem insertBy_pairwise_on (P : α → Prop) (total : ∀ a b, P a → P b → le a b = true ∨ le b a = true)
    (trans : ∀ a b c, P a → P b → P c → le a b = true → le b c = true → le a c = true) (a : α) (ha : P a)
    (l : List α) (hP : ∀ x ∈ l, P x) (h : l.Pairwise (fun x y => le x y = true)) :
    (insertBy le a l).Pairwise (fun x y => le x y = true) :=
  insertBy_pairwise_gen a l (fun y hy z hz => trans a y z ha (hP y hy) (hP z hz)) (fun _ _ h => h)
    (fun y hy hay => (total a y ha (hP y hy)).resolve_left (by rw [hay]; exact Bool.false_ne_true)) h

theorem sortBy_pairwise_on (P : α → Prop) (total : ∀ a b, P a → P b → le a b = true ∨ le b a = true)
    (trans : ∀ a b c, P a → P b → P c → le a b = true → le b c = true → le a c = true) :
    ∀ l : List α, (∀ x ∈ l, P x) → (sortBy le l).Pairwise (fun x y => le x y = true)
  | [], _ => by simp [sortBy]
  | a :: l, hP => by
    simp only [sortBy]
    have hl : ∀ x ∈ l, P x := fun x hx => hP x (List.mem_cons_of_mem _ hx)
    exact insertBy_pairwise_on P total trans a (hP a (by simp)) _
      (fun x hx => hl x ((mem_sortBy le).mp hx)) (sortBy_pairwise_on P total trans l hl)

theorem sortBy_pairwise (total : ∀ a b, le a b = true ∨ le b a = true)
    (trans : ∀ a b c, le a b = true → le b c = true → le a c = true) (l : List α) :
    (sortBy le l).Pairwise (fun x y => le x y = true) :=
  sortBy_pairwise_on (fun _ => True) (fun a b _ _ => total a b) (fun a b c _ _ _ => trans a b c) l (fun _ _ => trivial)

/-- uniqueness of sorted permutations: total + transitive order, antisymmetric on the members -/
theorem sortBy_eq_of_perm_on {le : α → α → Bool} (total : ∀ a b, le a b = true ∨ le b a = true)
    (trans : ∀ a b c, le a b = true → le b c = true → le a c = true) {l₁ l₂ : List α}
    (antisymm : ∀ a ∈ l₁, ∀ b ∈ l₁, le a b = true → le b a = true → a = b)
    (h : l₁.Perm l₂) : sortBy le l₁ = sortBy le l₂ := by
  apply List.Perm.eq_of_pairwise (le := fun x y => le x y = true)
  · intro a b ha hb hab hba
    exact antisymm a ((mem_sortBy le).mp ha) b (h.mem_iff.mpr ((mem_sortBy le).mp hb)) hab hba
  · exact sortBy_pairwise total trans l₁
  · exact sortBy_pairwise total trans l₂
  · exact (sortBy_perm le l₁).trans (h.trans (sortBy_perm le l₂).symm)

/-- the same for `sorted(container, key=key)`: a linear order on the keys and a key that is
    injective on the members -/
theorem sortBy_key_eq_of_perm {κ : Type} {leK : κ → κ → Bool} (key : α → κ)
    (total : ∀ a b, leK a b = true ∨ leK b a = true)
    (trans : ∀ a b c, leK a b = true → leK b c = true → leK a c = true)
    (antisymm : ∀ a b, leK a b = true → leK b a = true → a = b) {l₁ l₂ : List α}
    (inj : ∀ a ∈ l₁, ∀ b ∈ l₁, key a = key b → a = b) (h : l₁.Perm l₂) :
    sortBy (fun a b => leK (key a) (key b)) l₁ = sortBy (fun a b => leK (key a) (key b)) l₂ :=
  sortBy_eq_of_perm_on (fun a b => total (key a) (key b)) (fun a b c => trans (key a) (key b) (key c))
    (fun a ha b hb hab hba => inj a ha b hb (antisymm _ _ hab hba)) h

theorem sortBy_eq_of_perm (total : ∀ a b, le a b = true ∨ le b a = true)
    (trans : ∀ a b c, le a b = true → le b c = true → le a c = true)
    (antisymm : ∀ a b, le a b = true → le b a = true → a = b)
    {l₁ l₂ : List α} (h : l₁.Perm l₂) : sortBy le l₁ = sortBy le l₂ :=
  sortBy_eq_of_perm_on total trans (fun a _ b _ => antisymm a b) h

/-- an insertion step with `insertBy`'s two equations is `insertBy`, and folding it over a list is `sortBy` -/
theorem insertBy_unique {ins : α → List α → List α} (hnil : ∀ a, ins a [] = [a])
    (hcons : ∀ a b l, ins a (b :: l) = if le a b then a :: b :: l else b :: ins a l) (a : α) :
    ∀ l, ins a l = insertBy le a l
  | [] => hnil a
  | b :: l => by rw [hcons, insertBy, insertBy_unique hnil hcons a l]

theorem foldr_eq_sortBy {ins : α → List α → List α} (hnil : ∀ a, ins a [] = [a])
    (hcons : ∀ a b l, ins a (b :: l) = if le a b then a :: b :: l else b :: ins a l) :
    ∀ l, l.foldr ins [] = sortBy le l
  | [] => rfl
  | a :: l => by rw [List.foldr_cons, foldr_eq_sortBy hnil hcons l, insertBy_unique hnil hcons, sortBy]

section key
variable {κ : Type} [LE κ] [DecidableLE κ] [Std.IsLinearOrder κ] (f : α → κ)

theorem decide_le_total (a b : α) : decide (f a ≤ f b) = true ∨ decide (f b ≤ f a) = true := by
  simp only [decide_eq_true_eq]
  exact Std.le_total

theorem decide_le_trans (a b c : α) :
    decide (f a ≤ f b) = true → decide (f b ≤ f c) = true → decide (f a ≤ f c) = true := by
  simp only [decide_eq_true_eq]
  exact Std.le_trans

/-- `sorted(l, key=f)` is in key order -/
theorem sortBy_key_pairwise (l : List α) :
    (sortBy (fun a b => decide (f a ≤ f b)) l).Pairwise (fun a b => f a ≤ f b) :=
  (sortBy_pairwise (decide_le_total f) (decide_le_trans f) l).imp of_decide_eq_true

end key

/-- an already sorted list is left alone (stability is not even needed) -/
theorem sortBy_of_pairwise : ∀ {l : List α}, l.Pairwise (fun x y => le x y = true) → sortBy le l = l
  | [], _ => rfl
  | a :: l, h => by
    rw [List.pairwise_cons] at h
    simp only [sortBy, sortBy_of_pairwise h.2]
    cases l with
    | nil => rfl
    | cons b t => simp [insertBy, h.1 b (by simp)]

section test
variable {c : α → α → Bool}

/-- an insertion written with the test the other way round (`if lt y x then y :: … else x :: y :: ys`) -/
theorem insertBy_unique_flip {lt : α → α → Bool} {ins : α → List α → List α} (hnil : ∀ a, ins a [] = [a])
    (hcons : ∀ a b l, ins a (b :: l) = if lt b a then b :: ins a l else a :: b :: l) (a : α) (l : List α) :
    ins a l = insertBy (fun a b => !lt b a) a l :=
  insertBy_unique hnil (fun a b l => by rw [hcons]; cases lt b a <;> rfl) a l

theorem foldr_eq_sortBy_flip {lt : α → α → Bool} {ins : α → List α → List α} (hnil : ∀ a, ins a [] = [a])
    (hcons : ∀ a b l, ins a (b :: l) = if lt b a then b :: ins a l else a :: b :: l) (l : List α) :
    l.foldr ins [] = sortBy (fun a b => !lt b a) l :=
  foldr_eq_sortBy hnil (fun a b l => by rw [hcons]; cases lt b a <;> rfl) l

/-- the left fold that several model sorts use -/
theorem foldl_eq_sortBy {ins : α → List α → List α} (hnil : ∀ a, ins a [] = [a])
    (hcons : ∀ a b l, ins a (b :: l) = if c a b then a :: b :: l else b :: ins a l) (l : List α) :
    l.foldl (fun acc x => ins x acc) [] = sortBy c l.reverse := by
  rw [← foldr_eq_sortBy hnil hcons, List.foldr_reverse]

/-! ### the sort sees the test on the members only, and commutes with maps that respect it -/

theorem insertBy_congr {c' : α → α → Bool} (x : α) : ∀ l : List α, (∀ y ∈ l, c x y = c' x y) →
    insertBy c x l = insertBy c' x l
  | [], _ => rfl
  | y :: l, h => by
    rw [insertBy, insertBy, h y List.mem_cons_self, insertBy_congr x l fun z hz => h z (List.mem_cons_of_mem _ hz)]

theorem sortBy_congr {c' : α → α → Bool} : ∀ l : List α, (∀ x ∈ l, ∀ y ∈ l, c x y = c' x y) →
    sortBy c l = sortBy c' l
  | [], _ => rfl
  | x :: l, h => by
    rw [sortBy, sortBy, ← sortBy_congr l fun a ha b hb => h a (List.mem_cons_of_mem _ ha) b (List.mem_cons_of_mem _ hb)]
    exact insertBy_congr x _ fun y hy => h x List.mem_cons_self y (List.mem_cons_of_mem _ ((mem_sortBy c).1 hy))

theorem insertBy_map {β : Type} {c' : β → β → Bool} (f : α → β) (hf : ∀ a b, c' (f a) (f b) = c a b) (x : α) :
    ∀ l : List α, (insertBy c x l).map f = insertBy c' (f x) (l.map f)
  | [] => rfl
  | y :: l => by
    rw [insertBy, List.map_cons, insertBy, hf]
    cases c x y
    · simp only [Bool.false_eq_true, if_false, List.map_cons, insertBy_map f hf x l]
    · rfl

theorem sortBy_map {β : Type} {c' : β → β → Bool} (f : α → β) (hf : ∀ a b, c' (f a) (f b) = c a b) :
    ∀ l : List α, (sortBy c l).map f = sortBy c' (l.map f)
  | [] => rfl
  | x :: l => by rw [sortBy, insertBy_map f hf, sortBy_map f hf l, List.map_cons, sortBy]

/-! ### the strict reading: `c = lt`, ascending means `lt b a = false` -/

/-- strict weak order on the elements satisfying `S` (the hypotheses of `Serial.SWO`) -/
theorem insertBy_sorted_strict {lt : α → α → Bool} {S : α → Prop}
    (asymm : ∀ a b, S a → S b → lt a b = true → lt b a = false)
    (negTrans : ∀ a b c, S a → S b → S c → lt a b = false → lt b c = false → lt a c = false)
    (x : α) (hx : S x) (l : List α) (hl : ∀ y ∈ l, S y) (h : l.Pairwise fun a b => lt b a = false) :
    (insertBy lt x l).Pairwise fun a b => lt b a = false :=
  insertBy_pairwise_gen x l (fun y hy z hz h1 h2 => negTrans z y x (hl z hz) (hl y hy) hx h2 h1)
    (fun y hy => asymm x y hx (hl y hy)) (fun _ _ h => h) h

theorem sortBy_sorted_strict {lt : α → α → Bool} {S : α → Prop}
    (asymm : ∀ a b, S a → S b → lt a b = true → lt b a = false)
    (negTrans : ∀ a b c, S a → S b → S c → lt a b = false → lt b c = false → lt a c = false) :
    ∀ l : List α, (∀ y ∈ l, S y) → (sortBy lt l).Pairwise fun a b => lt b a = false
  | [], _ => List.Pairwise.nil
  | x :: l, hl => insertBy_sorted_strict asymm negTrans x (hl x List.mem_cons_self) _
      (fun y hy => hl y (List.mem_cons_of_mem _ ((mem_sortBy lt).1 hy)))
      (sortBy_sorted_strict asymm negTrans l fun y hy => hl y (List.mem_cons_of_mem _ hy))

/-! ### stability: the members of a class `p` keep their order -/

/-- `x` comes in front of the class members it does not pass (the `foldr` sorts: `x` was earlier in the input) -/
theorem insertBy_filter (p : α → Bool) (x : α) : ∀ l : List α,
    (p x = true → ∀ y ∈ l, c x y = false → p y = false) → (insertBy c x l).filter p = (x :: l).filter p
  | [], _ => rfl
  | y :: l, h => by
    rw [insertBy]
    cases hxy : c x y
    · rw [if_neg Bool.false_ne_true, List.filter_cons (x := y),
        insertBy_filter p x l (fun hx z hz => h hx z (List.mem_cons_of_mem _ hz))]
      cases hx : p x
      · simp only [List.filter_cons, hx, Bool.false_eq_true, if_false]
      · simp only [List.filter_cons, hx, h hx y List.mem_cons_self hxy, if_true, Bool.false_eq_true, if_false]
    · rw [if_pos rfl]

theorem sortBy_filter (p : α → Bool) : ∀ l : List α,
    (∀ x ∈ l, p x = true → ∀ y ∈ l, c x y = false → p y = false) → (sortBy c l).filter p = l.filter p
  | [], _ => rfl
  | x :: l, h => by
    rw [sortBy, insertBy_filter p x _ (fun hx y hy =>
        h x List.mem_cons_self hx y (List.mem_cons_of_mem _ ((mem_sortBy c).1 hy))),
      List.filter_cons, List.filter_cons,
      sortBy_filter p l (fun a ha ha' b hb => h a (List.mem_cons_of_mem _ ha) ha' b (List.mem_cons_of_mem _ hb))]

/-- `x` goes behind the class members when nothing after its place is in the class (the `foldl` sorts and `bisect_right`) -/
theorem insertBy_filter_back (p : α → Bool) (x : α) (l : List α)
    (h : p x = true → ∀ y ∈ l.dropWhile (fun y => !c x y), p y = false) :
    (insertBy c x l).filter p = (l ++ [x]).filter p := by
  rw [insertBy_eq_split]
  conv => rhs; rw [← List.takeWhile_append_dropWhile (p := fun y => !c x y) (l := l)]
  simp only [List.filter_append, List.filter_cons, List.filter_nil, List.append_assoc]
  cases hx : p x
  · simp only [Bool.false_eq_true, if_false, List.append_nil]
  · have hnil : (l.dropWhile fun y => !c x y).filter p = [] :=
      List.filter_eq_nil_iff.2 fun y hy => by rw [h hx y hy]; exact Bool.false_ne_true
    simp only [hnil, if_true, List.nil_append]

/-! ### bisection finds the place of the linear insertion -/

theorem take_length_takeWhile (p : α → Bool) (l : List α) : l.take (l.takeWhile p).length = l.takeWhile p := by
  conv => lhs; arg 2; rw [← List.takeWhile_append_dropWhile (p := p) (l := l)]
  exact List.take_left' rfl

theorem drop_length_takeWhile (p : α → Bool) (l : List α) : l.drop (l.takeWhile p).length = l.dropWhile p := by
  conv => lhs; arg 2; rw [← List.takeWhile_append_dropWhile (p := p) (l := l)]
  exact List.drop_left' rfl

/-- on a list the test partitions, inserting at `bisect` is the linear insertion -/
theorem insertAt_bisect_eq (keep : α → Bool) (x : α) (l : List α) (h : ∀ y ∈ l.dropWhile keep, keep y = false) :
    l.take (Bisect.bisect keep l) ++ x :: l.drop (Bisect.bisect keep l) = insertBy (fun _ y => !keep y) x l := by
  rw [Bisect.bisect_eq keep l _ 0 (Bisect.partitioned_takeWhile keep l h) (Nat.zero_le _), insertBy_eq_split,
    take_length_takeWhile, drop_length_takeWhile]
  simp only [Bool.not_not]

/-- the same for the loop with any sufficient fuel (the model's callers pass `length + 1`) -/
theorem insertAt_loop_eq (keep : α → Bool) (x : α) (l : List α) (h : ∀ y ∈ l.dropWhile keep, keep y = false)
    (fuel : Nat) (hf : l.length ≤ fuel) :
    l.take (Bisect.loop keep l fuel 0 l.length) ++ x :: l.drop (Bisect.loop keep l fuel 0 l.length)
      = insertBy (fun _ y => !keep y) x l := by
  have hp := Bisect.partitioned_takeWhile keep l h
  rw [Bisect.loop_eq keep l _ hp fuel 0 _ (Nat.zero_le _) hp.1 (Nat.le_refl _) (by omega), insertBy_eq_split,
    take_length_takeWhile, drop_length_takeWhile]
  simp only [Bool.not_not]


theorem insertBy_of_all_gt {a : α} : ∀ {l : List α}, (∀ y ∈ l, c a y = false) → insertBy c a l = l ++ [a]
  | [], _ => rfl
  | b :: l, h => by
    rw [insertBy, if_neg (by rw [h b List.mem_cons_self]; exact Bool.false_ne_true),
      insertBy_of_all_gt fun y hy => h y (List.mem_cons_of_mem _ hy)]
    rfl

/-- a list in strictly descending order is reversed -/
theorem sortBy_of_pairwise_gt : ∀ {l : List α}, l.Pairwise (fun x y => c x y = false) → sortBy c l = l.reverse
  | [], _ => rfl
  | a :: l, h => by
    rw [List.pairwise_cons] at h
    rw [sortBy, sortBy_of_pairwise_gt h.2, List.reverse_cons,
      insertBy_of_all_gt fun y hy => h.1 y (List.mem_reverse.mp hy)]

end test

end ASV.Refine
