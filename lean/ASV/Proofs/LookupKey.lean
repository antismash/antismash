/-
  The sort key of `Feature.__lt__` on well-formed gene locations.
    * a location that does not cross the origin sorts by its start coordinate (≥ 0)
    * a location that crosses the origin has a negative key, so it sorts before every other
-/
import ASV.Proofs.LocOrder
import ASV.Spec.Lookup
import ASV.Proofs.Base.Except
namespace ASV.Lookup
open ASV

/-- a gene location the record accepts: at least one part, every part non-empty and not below 0,
    and the sort key exists (`split_origin_bridging_location` does not raise) -/
def LocOK (l : Loc) : Prop :=
  l.parts ≠ [] ∧ (∀ p ∈ l.parts, 0 ≤ p.lo ∧ p.lo < p.hi) ∧ ∃ k, comparatorStart l = .ok k

theorem LocOK.nonEmpty {l : Loc} (h : LocOK l) : l.PartsNonEmpty := fun p hp => (h.2.1 p hp).2

theorem LocOK.parts_le {g : Gene} (h : LocOK g.loc) : ∀ p ∈ g.loc.parts, p.lo ≤ p.hi :=
  fun p hp => by have := (h.2.1 p hp).2; omega

/-! ### split sections are made of the location's own parts -/

theorem splitFwd_snd_mem (acc ps : List Part) : ∀ x ∈ (splitFwd acc ps).2, x ∈ acc ∨ x ∈ ps := by
  fun_induction splitFwd acc ps with
  | case1 acc => intro x hx; left; exact List.mem_reverse.1 hx
  | case2 p rest ih =>
    intro x hx
    rcases ih x hx with h | h
    · right; simp at h; simp [h]
    · right; simp [h]
  | case3 u us p rest hlt ih =>
    intro x hx
    rcases ih x hx with h | h
    · simp at h; rcases h with h | h | h
      · right; simp [h]
      · left; simp [h]
      · left; simp [h]
    · right; simp [h]
  | case4 u us p rest hlt =>
    intro x hx; left; exact List.mem_reverse.1 hx

theorem splitRev_snd_mem (acc ps : List Part) : ∀ x ∈ (splitRev acc ps).2, x ∈ ps := by
  fun_induction splitRev acc ps with
  | case1 acc => intro x hx; simp at hx
  | case2 p rest ih => intro x hx; simp [ih x hx]
  | case3 l ls p rest hlt ih => intro x hx; simp [ih x hx]
  | case4 l ls p rest hlt => intro x hx; simpa using hx

theorem splitBridging_compound_ok {ps lower upper : List Part} (h : splitBridging (.compound ps) = .ok (lower, upper)) :
    (if (Loc.compound ps).strand != Strand.rev then splitFwd [] ps else splitRev [] ps) = (lower, upper)
    ∧ upper ≠ [] := by
  unfold splitBridging at h
  simp only [ok_inv, Bool.or_eq_true, not_or] at h
  obtain ⟨_, ⟨_, hne⟩, _, rfl, rfl⟩ := h
  exact ⟨rfl, fun e => hne (by rw [e]; rfl)⟩

/-- the upper section `split_origin_bridging_location` returns is a non-empty selection of the parts -/
theorem splitBridging_upper {l : Loc} {lower upper : List Part} (h : splitBridging l = .ok (lower, upper))
    (hb : bridgesOrigin l = true) : upper ≠ [] ∧ ∀ x ∈ upper, x ∈ l.parts := by
  cases l with
  | simple p => simp [bridgesOrigin] at hb
  | compound ps =>
    obtain ⟨h1, h2⟩ := splitBridging_compound_ok h
    refine ⟨h2, ?_⟩
    intro x hx
    have h3 : (if (Loc.compound ps).strand != Strand.rev then splitFwd [] ps else splitRev [] ps).2 = upper := by
      rw [h1]
    rw [← h3] at hx
    simp only [Loc.parts]
    split at hx
    · rcases splitFwd_snd_mem [] ps x hx with h' | h'
      · simp at h'
      · exact h'
    · exact splitRev_snd_mem [] ps x hx

/-! ### the key -/

theorem cmpStart_linear {l : Loc} (hb : bridgesOrigin l = false) : cmpStart l = l.start := by
  simp [cmpStart, comparatorStart, hb, pure, Except.pure]

theorem comparatorStart_linear {l : Loc} (hb : bridgesOrigin l = false) : comparatorStart l = .ok l.start := by
  simp [comparatorStart, hb, pure, Except.pure]

theorem start_nonneg {l : Loc} (h : LocOK l) : 0 ≤ l.start := by
  cases l with
  | simple p => exact (h.2.1 p (by simp [Loc.parts])).1
  | compound ps =>
    have hne : ps.map (·.lo) ≠ [] := by
      have := h.1; simp [Loc.parts] at this; simpa using this
    obtain ⟨p, hp, e⟩ := List.mem_map.1 (minList_mem hne)
    have := (h.2.1 p (by simpa [Loc.parts] using hp)).1
    simp only [Loc.start]; omega

theorem start_lt_end {l : Loc} (h : LocOK l) : l.start < l.end := by
  obtain ⟨p, hp⟩ := List.exists_mem_of_ne_nil _ h.1
  have := start_le_part l p hp
  have := (h.2.1 p hp).2
  omega

/-- a well-formed location crossing the origin has a negative key -/
theorem cmpStart_crossing {l : Loc} (h : LocOK l) (hb : bridgesOrigin l = true) : cmpStart l < 0 := by
  obtain ⟨k, hk⟩ := h.2.2
  have hk' := hk
  simp only [comparatorStart, hb, if_true, ok_inv, Prod.exists] at hk
  obtain ⟨lower, upper, hv, hk⟩ := hk
  obtain ⟨hne, hsub⟩ := splitBridging_upper hv hb
  obtain ⟨u, hu⟩ := List.exists_mem_of_ne_nil _ hne
  have h1 : minList (upper.map (·.lo)) ≤ u.lo := minList_le_of_mem (List.mem_map.2 ⟨u, hu, rfl⟩)
  have h2 : u.hi ≤ maxList (upper.map (·.hi)) := le_maxList_of_mem (List.mem_map.2 ⟨u, hu, rfl⟩)
  have h3 := (h.2.1 u (hsub u hu)).2
  simp only [cmpStart, hk']
  omega

theorem cmpStart_nonneg_linear {l : Loc} (h : LocOK l) (hb : bridgesOrigin l = false) : 0 ≤ cmpStart l := by
  rw [cmpStart_linear hb]; exact start_nonneg h

/-- on well-formed locations a non-negative key means "does not cross the origin" -/
theorem linear_of_cmpStart_nonneg {l : Loc} (h : LocOK l) (hk : 0 ≤ cmpStart l) : bridgesOrigin l = false := by
  cases hb : bridgesOrigin l
  · rfl
  · have := cmpStart_crossing h hb; omega

/-- the model's tuple comparison is the key comparison of the shared location order -/
theorem pairLt_eq_keyLt : pairLt = keyLt := rfl

theorem pairLt_iff (a b : Int × Int) : pairLt a b = true ↔ a.1 < b.1 ∨ (a.1 = b.1 ∧ a.2 < b.2) := by
  simp only [pairLt, Bool.or_eq_true, Bool.and_eq_true, decide_eq_true_eq, beq_iff_eq]

theorem pairLt_irrefl (a : Int × Int) : pairLt a a = false := keyLt_irrefl a

theorem pairLt_trans {a b c : Int × Int} (h1 : pairLt a b = true) (h2 : pairLt b c = true) : pairLt a c = true :=
  keyLt_trans a b c h1 h2

/-- `a ≤ b` (i.e. `¬ b < a`) and `b < c` give `a < c` -/
theorem pairLt_of_le_of_lt {a b c : Int × Int} (h1 : pairLt b a = false) (h2 : pairLt b c = true) :
    pairLt a c = true := by
  rw [← Bool.not_eq_true, pairLt_iff] at h1
  rw [pairLt_iff] at h2 ⊢
  omega

theorem locLt_true_iff (a b : Loc) : locLt a b = true ↔
    cmpStart a < cmpStart b ∨ (cmpStart a = cmpStart b ∧ a.len < b.len) := by
  unfold locLt; rw [pairLt_iff]; exact Iff.rfl
theorem locLt_false_iff (a b : Loc) : locLt a b = false ↔
    cmpStart b < cmpStart a ∨ (cmpStart a = cmpStart b ∧ b.len ≤ a.len) := by
  rw [← Bool.not_eq_true, locLt_true_iff]; omega

theorem locLt_asymm {a b : Loc} (h : locLt a b = true) : locLt b a = false :=
  (locLt_false_iff b a).2 (((locLt_true_iff a b).1 h).imp id fun ⟨e, l⟩ => ⟨e.symm, Int.le_of_lt l⟩)

/-- `¬ a < b` is transitive: the order of locations is a strict weak one -/
theorem locLt_false_trans {a b c : Loc} (h1 : locLt a b = false) (h2 : locLt b c = false) : locLt a c = false := by
  rw [locLt_false_iff] at h1 h2 ⊢
  rcases h1 with h1 | ⟨e1, l1⟩ <;> rcases h2 with h2 | ⟨e2, l2⟩
  · exact .inl (Int.lt_trans h2 h1)
  · exact .inl (e2 ▸ h1)
  · exact .inl (e1 ▸ h2)
  · exact .inr ⟨e1.trans e2, Int.le_trans l2 l1⟩

end ASV.Lookup
