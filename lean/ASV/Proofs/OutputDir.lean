/-
  C20: `prepare_output_directory` (the emptiness test, the region-file pattern) and `runPipeline`, the tail of
  `_run_antismash` from there on.
-/
import ASV.Proofs.WriteSafety
import ASV.Proofs.PosixPath
namespace ASV.WriteSafety
open ASV.PosixPath (Path Plain)

/-! What a path denotes (`denotes cwd q`: the leading slashes kept, the components resolved) is the form in which
    paths are compared: nothing below this block looks into `normpath`. -/

/-- the model's `pathId` and the spec's `denotes` are the same function -/
theorem pathId_eq_denotes (cwd q : Path) : pathId cwd q = denotes cwd q := rfl

theorem abspath_eq_iff_denotes (cwd p q : Path) (hcwd : PosixPath.isabs cwd = true) :
    PosixPath.abspath cwd p = PosixPath.abspath cwd q ↔ denotes cwd p = denotes cwd q := by
  unfold PosixPath.abspath denotes
  rw [PosixPath.normpath_abs_eq_iff _ _ (PosixPath.isabs_absArg _ _ hcwd) (PosixPath.isabs_absArg _ _ hcwd),
    Prod.ext_iff]

/-- what an entry's path denotes: the directory's identity with the entry's name appended -/
theorem denotes_entry (cwd name n : Path) (hcwd : PosixPath.isabs cwd = true) (hname : name ≠ [])
    (hn : Plain n) :
    denotes cwd (PosixPath.join name n) = ((denotes cwd name).1, (denotes cwd name).2 ++ [n]) := by
  have habs := PosixPath.isabs_absArg cwd name hcwd
  have hne : PosixPath.absArg cwd name ≠ [] := by intro e; simp [e, PosixPath.isabs] at habs
  simp only [denotes, PosixPath.absArg_join_plain cwd name n hname hn,
    PosixPath.leadSlashes_join_plain _ n habs hn, PosixPath.normComps_join_plain true _ n hne hn]

theorem pathId_plain (cwd q : Path) : ∀ c ∈ (pathId cwd q).2, Plain c :=
  PosixPath.normComps_rooted_plain (PosixPath.absArg cwd q)

theorem join_plain_ne_nil (a n : Path) (ha : a ≠ []) (hn : Plain n) : PosixPath.join a n ≠ [] := by
  rw [PosixPath.join_plain _ n ha hn]; split <;> simp [ha]

/-- `abspath(join(name, n)) == abspath(join(name, m))` ⇔ `n == m`, for any working directory and any
    non-empty directory argument, absolute or relative, in any spelling -/
theorem abspath_entry_eq_iff (cwd name n m : Path) (hcwd : PosixPath.isabs cwd = true) (hname : name ≠ [])
    (hn : Plain n) (hm : Plain m) :
    PosixPath.abspath cwd (PosixPath.join name n) = PosixPath.abspath cwd (PosixPath.join name m) ↔ n = m := by
  simp [abspath_eq_iff_denotes _ _ _ hcwd, denotes_entry _ _ _ hcwd hname hn, denotes_entry _ _ _ hcwd hname hm]

/-- an entry is never the same path as something one level further down inside it -/
theorem abspath_entry_ne_deeper (cwd name n m : Path) (hcwd : PosixPath.isabs cwd = true) (hname : name ≠ [])
    (hn : Plain n) (hm : Plain m) :
    PosixPath.abspath cwd (PosixPath.join name n) ≠
      PosixPath.abspath cwd (PosixPath.join (PosixPath.join name n) m) := by
  simp [abspath_eq_iff_denotes _ _ _ hcwd, denotes_entry _ _ _ hcwd (join_plain_ne_nil _ _ hname hn) hm,
    denotes_entry _ _ _ hcwd hname hn]

theorem plainName_iff (n : Path) : plainName n = true ↔ Plain n := by
  simp [plainName, Plain, and_assoc]

/-- the listing at the output path (none unless it is a directory) -/
def Target.entries : Target → Dir
  | .dir es => es
  | _ => []

theorem wf_iff (p : PrepIn) :
    p.WF = true ↔
      PosixPath.isabs p.cwd.toList = true ∧ p.name.toList ≠ [] ∧ ∀ e ∈ p.target.entries, Plain e.name.toList := by
  simp only [PrepIn.WF, Bool.and_eq_true, Bool.not_eq_true', List.isEmpty_eq_false_iff, and_assoc]
  refine and_congr_right fun _ => and_congr_right fun _ => ?_
  cases p.target <;> simp [Target.entries, plainName_iff]

/-- `entry.endswith('/input')` is a test on the entry's own name -/
theorem input_clause (p : PrepIn) (e : Entry) (hname : p.name.toList ≠ []) (hn : Plain e.name.toList) :
    "/input".toList.isSuffixOf (entryPath p e) = (e.name == "input") := by
  have e1 : "/input".toList = '/' :: "input".toList := by decide
  rw [Bool.eq_iff_iff, beq_iff_eq, entryPath, e1,
    PosixPath.join_endswith_iff p.name.toList e.name.toList "input".toList hname hn (by decide)]
  exact String.toList_inj

/-- the path-equality test of the own-log clause is the identity of what the paths denote -/
theorem log_clause (p : PrepIn) (e : Entry) (hcwd : PosixPath.isabs p.cwd.toList = true) :
    (p.logfile != "" && PosixPath.abspath p.cwd.toList (entryPath p e) ==
        PosixPath.abspath p.cwd.toList p.logfile.toList) = isLogFile p e := by
  unfold isLogFile
  congr 1
  rw [Bool.eq_iff_iff, beq_iff_eq, decide_eq_true_eq, abspath_eq_iff_denotes _ _ _ hcwd]

theorem ignorePatterns_eq (p : PrepIn) (e : Entry) (hcwd : PosixPath.isabs p.cwd.toList = true)
    (hname : p.name.toList ≠ []) (hn : Plain e.name.toList) : ignorePatterns p e = !allowed p e := by
  unfold ignorePatterns allowed
  rw [input_clause p e hname hn, log_clause p e hcwd]
  by_cases h1 : (e.name == "input" && e.isDir) = true <;> by_cases h2 : isLogFile p e = true <;>
    simp [h1, h2]

/-- the log file sits directly in the output directory under the plain name `m`: an entry is the log
    file exactly when its name *is* `m` (a name that merely begins `m`, or that `m` begins with, is not) -/
theorem isLogFile_sibling (p : PrepIn) (e : Entry) (m : Path) (hcwd : PosixPath.isabs p.cwd.toList = true)
    (hname : p.name.toList ≠ []) (hn : Plain e.name.toList) (hm : Plain m)
    (hl : p.logfile.toList = PosixPath.join p.name.toList m) :
    isLogFile p e = true ↔ e.name.toList = m := by
  have hne : (p.logfile != "") = true := by
    rw [bne_iff_ne]
    intro h0
    exact join_plain_ne_nil _ m hname hm (by rw [← hl, h0]; rfl)
  simp [isLogFile, hne, hl, entryPath, denotes_entry _ _ _ hcwd hname hn, denotes_entry _ _ _ hcwd hname hm]

/-- the log file sits one level further down, inside the entry: the entry (the directory logging
    created for it, or any directory above the log file) is not the log file -/
theorem isLogFile_above (p : PrepIn) (e : Entry) (m : Path) (hcwd : PosixPath.isabs p.cwd.toList = true)
    (hname : p.name.toList ≠ []) (hn : Plain e.name.toList) (hm : Plain m)
    (hl : p.logfile.toList = PosixPath.join (entryPath p e) m) :
    isLogFile p e = false := by
  have hd := denotes_entry p.cwd.toList _ m hcwd (join_plain_ne_nil _ _ hname hn) hm
  rw [denotes_entry _ _ _ hcwd hname hn] at hd
  simp [isLogFile, hl, entryPath, hd, denotes_entry _ _ _ hcwd hname hn]

theorem others_empty_iff (p : PrepIn) (hcwd : PosixPath.isabs p.cwd.toList = true)
    (hname : p.name.toList ≠ []) : ∀ (es : Dir), (∀ e ∈ es, Plain e.name.toList) →
    (es.filter (ignorePatterns p)).isEmpty = es.all (allowed p)
  | [], _ => rfl
  | e :: es, h => by
      have ih := others_empty_iff p hcwd hname es fun x hx => h x (List.mem_cons_of_mem _ hx)
      simp only [List.filter_cons, List.all_cons,
        ignorePatterns_eq p e hcwd hname (h e (List.mem_cons_self ..))]
      cases allowed p e <;> simp [← ih]

theorem prepare_cases (p : PrepIn) :
    prepareOutputDir p = ⟨[], some inputError, p.target⟩ ∨
      ((prepareOutputDir p).err = none ∧ (prepareOutputDir p).target = .dir (preparedDir p) ∧
        ∀ ev ∈ (prepareOutputDir p).trace, ev = .mkdir ∨ ∃ n, ev = .remove n) := by
  unfold prepareOutputDir preparedDir
  cases ht : p.target with
  | absent => exact Or.inr ⟨rfl, rfl, fun ev hev => Or.inl (List.mem_singleton.1 hev)⟩
  | file => exact Or.inl rfl
  | dir es =>
    simp only []
    split
    · exact Or.inl rfl
    · refine Or.inr ⟨rfl, rfl, fun ev hev => ?_⟩
      obtain ⟨e, _, rfl⟩ := List.mem_map.1 hev
      exact Or.inr ⟨e.name, rfl⟩

/-- what an acceptance leaves, whatever made `prepare_output_directory` accept -/
theorem prepare_accepted (p : PrepIn) (h : (prepareOutputDir p).err = none) :
    (prepareOutputDir p).target = .dir (preparedDir p) ∧
      ∀ ev ∈ (prepareOutputDir p).trace, ev = .mkdir ∨ ∃ n, ev = .remove n := by
  rcases prepare_cases p with h1 | ⟨_, h2⟩
  · rw [h1] at h
    cases h
  · exact h2

/-- `prepare_output_directory` in one equation: the specification's decision, then either nothing or the clean-up -/
theorem prepare_eq (p : PrepIn) (wf : p.WF = true) :
    prepareOutputDir p =
      if specAccepts p then
        ⟨match p.target with
          | .dir es => (es.filter fun e => isRegionGbk e.name).map fun e => .remove e.name
          | _ => [.mkdir],
         none, .dir (preparedDir p)⟩
      else ⟨[], some inputError, p.target⟩ := by
  cases ht : p.target with
  | absent => simp [prepareOutputDir, specAccepts, preparedDir, ht]
  | file => simp [prepareOutputDir, specAccepts, ht]
  | dir es =>
    obtain ⟨hcwd, hname, hpl⟩ := (wf_iff p).1 wf
    rw [ht] at hpl
    simp only [prepareOutputDir, specAccepts, preparedDir, ht, others_empty_iff p hcwd hname es hpl]
    cases reuseMode p <;> cases es.all (allowed p) <;> simp

theorem prepare_accepts_iff (p : PrepIn) (wf : p.WF = true) : (prepareOutputDir p).err = none ↔ specAccepts p = true := by
  rw [prepare_eq p wf]
  cases specAccepts p <;> simp

theorem prepare_refused (p : PrepIn) (wf : p.WF = true) (h : specAccepts p = false) :
    prepareOutputDir p = ⟨[], some inputError, p.target⟩ := by
  rw [prepare_eq p wf, h]
  rfl

theorem prepare_meets_spec (p : PrepIn) (wf : p.WF = true) : specPrepare p (prepareOutputDir p) = true := by
  rw [prepare_eq p wf]
  unfold specPrepare
  cases ha : specAccepts p with
  | false => simp [refusedUntouched]
  | true =>
    cases ht : p.target with
    | absent => simp [acceptedCleanup, preparedDir, ht]
    | file => simp [specAccepts, ht] at ha
    | dir es => simp [acceptedCleanup, preparedDir, ht]

/-- the two windows `isRegionGbk` looks at, for any literal parts `a`, `b` and any number `m` of free characters -/
theorem ends_with_pattern (cs a b : List Char) (m : Nat) :
    (a.length + m + b.length ≤ cs.length ∧
      (cs.drop (cs.length - (a.length + m + b.length))).take a.length = a ∧ cs.drop (cs.length - b.length) = b) ↔
    ∃ pre mid : List Char, cs = pre ++ a ++ mid ++ b ∧ mid.length = m := by
  constructor
  · rintro ⟨hk, ha, hb⟩
    obtain ⟨k, hk'⟩ : ∃ k, cs.length = k + (a.length + m + b.length) := ⟨_, (Nat.sub_add_cancel hk).symm⟩
    rw [hk', Nat.add_sub_cancel] at ha
    rw [hk', ← Nat.add_assoc, ← Nat.add_assoc, Nat.add_sub_cancel] at hb
    have e1 := (List.take_append_drop k cs).symm
    have e2 := (List.take_append_drop a.length (cs.drop k)).symm
    have e3 := (List.take_append_drop m (cs.drop (k + a.length))).symm
    rw [List.drop_drop, ha] at e2
    rw [List.drop_drop, hb] at e3
    refine ⟨cs.take k, (cs.drop (k + a.length)).take m, ?_, ?_⟩
    · rw [e3] at e2
      rw [e2] at e1
      simp only [List.append_assoc]
      exact e1
    · rw [List.length_take, List.length_drop, hk']
      omega
  · rintro ⟨pre, mid, rfl, hm⟩
    have hl : (pre ++ a ++ mid ++ b).length = pre.length + (a.length + m + b.length) := by
      simp only [List.length_append, hm]
      omega
    refine ⟨by omega, ?_, ?_⟩
    · rw [hl, Nat.add_sub_cancel, List.append_assoc, List.append_assoc, List.drop_left, List.take_left]
    · rw [List.length_append, Nat.add_sub_cancel, List.drop_left]

theorem isRegionGbk_iff (n : String) : isRegionGbk n = true ↔ RegionGbkName n := by
  have h := ends_with_pattern n.toList ".region".toList ".gbk".toList 3
  unfold isRegionGbk RegionGbkName
  simp only [Bool.and_eq_true, Bool.not_eq_true', beq_eq_false_iff_ne, decide_eq_true_eq, beq_iff_eq, ne_eq,
    and_assoc]
  exact and_congr_right fun _ => h

theorem pipeline_refused (p : PipeIn) (wf : p.prep.WF = true) (h : specAccepts p.prep = false) :
    runPipeline p = ⟨[], some inputError, p.prep.target⟩ := by
  simp [runPipeline, prepare_refused p.prep wf h]

/-- the events that can only follow a successful conversion: opening and writing a file, then
    `annotate_records` and `write_outputs` -/
def Ev.afterConversion : Ev → Bool
  | .openW _ => true
  | .write _ => true
  | .annotated => true
  | .outputsWritten => true
  | _ => false

theorem Ev.ne_of_not_afterConversion {ev x : Ev} (h : ev.afterConversion = false) (hx : x.afterConversion = true) : ev ≠ x := by
  intro e
  rw [e, hx] at h
  cases h

theorem Ev.not_profiling_of_not_afterConversion (ev : Ev) (h : ev.afterConversion = false) : ev.isProfiling = false := by
  cases ev <;> simp_all [Ev.isProfiling, Ev.afterConversion]

theorem Ev.not_afterConversion_of_quiet (ev : Ev) (h : ev.isConversion = true ∨ ev = .logErr) : ev.afterConversion = false := by
  cases ev <;> simp_all [Ev.isConversion, Ev.afterConversion]

theorem dropWhile_not_afterConversion (tr rest : List Ev) (h : ∀ ev ∈ tr, ev.afterConversion = false) (n : String) :
    (tr ++ .openW n :: rest).dropWhile (fun e => e != .openW n) = .openW n :: rest := by
  rw [List.dropWhile_append_of_pos fun ev hev => bne_iff_ne.2 (Ev.ne_of_not_afterConversion (h ev hev) rfl)]
  simp

/-- everything that happens in an accepted run before `write_to_file` opens the results file (or
    fails): directory clean-up, the stage marker, conversions, an error log -/
theorem pipeline_prefix_events (p : PipeIn) (hacc : (prepareOutputDir p.prep).err = none) (tr : List Ev)
    (htr : Quiet tr) :
    ∀ ev ∈ (prepareOutputDir p.prep).trace ++ Ev.prepared :: tr, ev.afterConversion = false := by
  obtain ⟨_, hp⟩ := prepare_accepted p.prep hacc
  intro ev hev
  rcases List.mem_append.1 hev with hev | hev
  · rcases hp _ hev with rfl | ⟨n, rfl⟩
    · rfl
    · rfl
  · rcases List.mem_cons.1 hev with rfl | hev
    · rfl
    · exact Ev.not_afterConversion_of_quiet ev (htr ev hev)

/-- a conversion fault in an accepted directory ends the run before any such event, in the directory
    `prepare_output_directory` left -/
theorem pipeline_fault (p : PipeIn) (hacc : (prepareOutputDir p.prep).err = none) (hf : p.results.hasFault = true) :
    ∃ e tr, runPipeline p = ⟨tr, some e, .dir (preparedDir p.prep)⟩ ∧ ∀ ev ∈ tr, ev.afterConversion = false := by
  obtain ⟨h2, _⟩ := prepare_accepted p.prep hacc
  obtain ⟨e, he⟩ := writeToFile_fault p.results (.path p.jsonName) (preparedDir p.prep) hf
  exact ⟨e, _, by simp only [runPipeline, hacc, h2, he],
    pipeline_prefix_events p hacc _
      ((quiet_conversions 0 p.results.records p.results.results).maybe_logged (e == typeError))⟩

/-- without one, the run ends `open json, write json, annotate, write_outputs`, none of them earlier -/
theorem pipeline_clean (p : PipeIn) (hacc : (prepareOutputDir p.prep).err = none) (hf : p.results.hasFault = false) :
    ∃ tr, runPipeline p =
      ⟨tr ++ [.openW p.jsonName, .write p.jsonName, .annotated, .outputsWritten],
       none, .dir ((preparedDir p.prep).withFile p.jsonName (expectedFull p.results))⟩ ∧
      ∀ ev ∈ tr, ev.afterConversion = false := by
  obtain ⟨h2, _⟩ := prepare_accepted p.prep hacc
  have hw := writeToFile_clean p.results (.path p.jsonName) (preparedDir p.prep) hf
  exact ⟨_, by simp [runPipeline, hacc, h2, hw, emit, expectedAfter],
    pipeline_prefix_events p hacc _ (quiet_conversions 0 p.results.records p.results.results)⟩

theorem json_not_region (n : String) (pre : List Char) (h : n.toList = pre ++ ".json".toList) :
    isRegionGbk n = false := by
  cases hr : isRegionGbk n with
  | false => rfl
  | true =>
    obtain ⟨_, a, b, hab, _⟩ := (isRegionGbk_iff n).1 hr
    have h1 : ".gbk".toList <:+ n.toList := ⟨_, hab.symm⟩
    have h2 : ".json".toList <:+ n.toList := ⟨_, h.symm⟩
    have : ".gbk".toList <:+ ".json".toList := List.suffix_of_suffix_length_le h1 h2 (by decide)
    exact absurd this (by decide)

theorem pipeline_meets_spec' (p : PipeIn) (wf : p.prep.WF = true) : specPipeline p (runPipeline p) = true := by
  unfold specPipeline
  cases ha : specAccepts p.prep with
  | false => simp [pipeline_refused p wf ha, refusedUntouched]
  | true =>
    cases hf : p.results.hasFault with
    | true =>
      obtain ⟨e, tr, he, hall⟩ := pipeline_fault p ((prepare_accepts_iff p.prep wf).2 ha) hf
      have hA : Ev.annotated ∉ tr := fun h => Ev.ne_of_not_afterConversion (hall _ h) rfl rfl
      have hO : Ev.outputsWritten ∉ tr := fun h => Ev.ne_of_not_afterConversion (hall _ h) rfl rfl
      have hW : tr.any (fun e => e == .openW p.jsonName || e == .write p.jsonName) = false := by
        rw [List.any_eq_false]
        intro x hx
        simp [Ev.ne_of_not_afterConversion (hall x hx) (x := .openW p.jsonName) rfl,
          Ev.ne_of_not_afterConversion (hall x hx) (x := .write p.jsonName) rfl]
      simp [he, hA, hO, hW]
    | false =>
      obtain ⟨tr, he, hall⟩ := pipeline_clean p ((prepare_accepts_iff p.prep wf).2 ha) hf
      simp [he, dropWhile_not_afterConversion tr _ hall]

/-- `annotate_records` / `write_outputs` appear in a trace only at its end, after the results file has been
    opened and written with the whole document — whatever is at the output path -/
theorem annotate_after_json (p : PipeIn)
    (h : Ev.annotated ∈ (runPipeline p).trace ∨ Ev.outputsWritten ∈ (runPipeline p).trace) :
    (runPipeline p).err = none ∧
    (∃ es', (runPipeline p).target = .dir es' ∧ Dir.contentOf es' p.jsonName = some (expectedFull p.results)) ∧
    ∃ pre, (runPipeline p).trace = pre ++ [.openW p.jsonName, .write p.jsonName, .annotated, .outputsWritten]
      ∧ Ev.annotated ∉ pre ∧ Ev.outputsWritten ∉ pre := by
  rcases prepare_cases p.prep with h1 | ⟨hacc, _⟩
  · simp [runPipeline, h1] at h
  · cases hf : p.results.hasFault with
    | true =>
      obtain ⟨e, tr, he, hall⟩ := pipeline_fault p hacc hf
      rw [he] at h
      rcases h with h | h
      · exact absurd rfl (Ev.ne_of_not_afterConversion (hall _ h) rfl)
      · exact absurd rfl (Ev.ne_of_not_afterConversion (hall _ h) rfl)
    | false =>
      obtain ⟨tr, he, hall⟩ := pipeline_clean p hacc hf
      rw [he]
      exact ⟨rfl, ⟨_, rfl, contentOf_withFile _ _ _⟩, tr, rfl, fun h => Ev.ne_of_not_afterConversion (hall _ h) rfl rfl,
        fun h => Ev.ne_of_not_afterConversion (hall _ h) rfl rfl⟩

end ASV.WriteSafety
