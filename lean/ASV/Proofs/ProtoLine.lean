/-
  C03 helper lemmas: inside an arc `[A, B)` in which `_extend_area_location` and `connect_locations` behave as
  `ArcOps` says, `find_protoclusters`' core computation is the sorted sweep of `ASV.ChainSweep` over the spans
  of the anchoring genes.  A linear record is such an arc (`arcOps_line`); the arcs of a ring are in
  ProtoRingWide.lean.
-/
import ASV.Model.Protocluster
import ASV.Spec.Chains
import ASV.Proofs.LocOrder
import ASV.Proofs.ChainSweep
namespace ASV.Proto
open ASV ASV.ChainSweep

/-- an anchoring gene of a linear record: at least one exon, exons in order (not bridging the
    origin), every exon non-empty and inside the record -/
structure GeneOK (len : Int) (l : Loc) : Prop where
  ne : l.parts ≠ []
  nb : bridgesOrigin l = false
  parts : ∀ p ∈ l.parts, 0 ≤ p.lo ∧ p.lo < p.hi ∧ p.hi ≤ len

theorem start_attained (l : Loc) (hne : l.parts ≠ []) : ∃ p ∈ l.parts, p.lo = l.start := by
  cases l with
  | simple q => exact ⟨q, by simp [Loc.parts], rfl⟩
  | compound ps =>
    simp only [Loc.parts] at hne
    have hne' : ps.map (·.lo) ≠ [] := by simpa using hne
    obtain ⟨p, hp, e⟩ := List.mem_map.1 (minList_mem hne')
    exact ⟨p, hp, e⟩

theorem end_attained (l : Loc) (hne : l.parts ≠ []) : ∃ p ∈ l.parts, p.hi = l.end := by
  cases l with
  | simple q => exact ⟨q, by simp [Loc.parts], rfl⟩
  | compound ps =>
    simp only [Loc.parts] at hne
    have hne' : ps.map (·.hi) ≠ [] := by simpa using hne
    obtain ⟨p, hp, e⟩ := List.mem_map.1 (maxList_mem hne')
    exact ⟨p, hp, e⟩

theorem GeneOK.start_nonneg {len : Int} {l : Loc} (h : GeneOK len l) : 0 ≤ l.start := by
  obtain ⟨p, hp, e⟩ := start_attained l h.ne
  have := h.parts p hp
  omega

theorem GeneOK.end_le {len : Int} {l : Loc} (h : GeneOK len l) : l.end ≤ len := by
  obtain ⟨p, hp, e⟩ := end_attained l h.ne
  have := h.parts p hp
  omega

theorem GeneOK.start_lt_end {len : Int} {l : Loc} (h : GeneOK len l) : l.start < l.end := by
  obtain ⟨p, hp, e⟩ := start_attained l h.ne
  have := h.parts p hp
  have := (start_le_part l p hp).2
  omega

/-- a gene inside the arc `[A, B)` -/
structure GeneIn (len A B : Int) (l : Loc) : Prop where
  ok : GeneOK len l
  lo : A ≤ l.start
  hi : l.end ≤ B

theorem GeneOK.geneIn {len : Int} {l : Loc} (h : GeneOK len l) : GeneIn len 0 len l :=
  ⟨h, h.start_nonneg, h.end_le⟩

theorem makeForwards_simple (p : Part) : makeForwards (.simple p) = .simple ⟨p.lo, p.hi, .fwd⟩ := by
  cases hs : p.strand <;> simp [makeForwards, Loc.parts, Loc.strand, hs, Loc.ofParts, fl]

theorem connect_single_simple (p : Part) : connect [Loc.simple p] none = .ok (.simple p) := by
  rw [connect_line [Loc.simple p] (by simp) (by intro l hl; simp at hl; subst hl; simp [Loc.parts, bridgesOrigin])]
  cases p
  simp [minList, maxList, Loc.start, Loc.end, commonStrand, Loc.strand]

theorem extendArea_line (r : Rec) (hlin : r.circular = false) (p : Part) (d : Int) (force : Bool) :
    extendArea r (.simple p) d force = .ok (.simple ⟨max 0 (p.lo - d), min (p.hi + d) r.len, .fwd⟩) := by
  obtain ⟨lo, hi, st⟩ := p
  cases st <;>
  simp [extendArea, hlin, Rec.wrap, Loc.parts, bridgesOrigin, Loc.strand, makeForwards_simple,
    extend_simple_line, connect_single_simple, bind, Except.bind, pure, Except.pure]

theorem comparatorStart_nb (l : Loc) (h : bridgesOrigin l = false) : comparatorStart l = .ok l.start := by
  simp [comparatorStart, h, pure, Except.pure]

theorem featureLt_nb (a b : Loc) (ha : bridgesOrigin a = false) (hb : bridgesOrigin b = false) :
    featureLt a b = .ok (keyLt (a.start, a.len) (b.start, b.len)) :=
  featureLt_eq a b _ _ (comparatorStart_nb a ha) (comparatorStart_nb b hb)

theorem Sorted.cons_of_forall {lo : Loc → Int} {a : Loc} {l : List Loc} (h : ∀ x ∈ l, lo a ≤ lo x)
    (hs : Sorted lo l) : Sorted lo (a :: l) := by
  cases l with
  | nil => trivial
  | cons b t => exact ⟨h b (by simp), hs⟩

theorem insertFeat_ok (x : Loc) (hx : bridgesOrigin x = false) (ys : List Loc)
    (hys : ∀ y ∈ ys, bridgesOrigin y = false) (hs : Sorted Loc.start ys) :
    ∃ zs, insertFeat x ys = .ok zs ∧ zs.Perm (x :: ys) ∧ Sorted Loc.start zs := by
  induction ys with
  | nil => exact ⟨[x], rfl, List.Perm.refl _, trivial⟩
  | cons y ys ih =>
    have hy := hys y (by simp)
    simp only [insertFeat, featureLt_nb y x hy hx, bind, Except.bind]
    by_cases hk : keyLt (y.start, y.len) (x.start, x.len) = true
    · obtain ⟨zs, hz, hp, hsz⟩ := ih (fun z hz => hys z (by simp [hz])) hs.tail
      simp only [hk, if_true, hz, pure, Except.pure]
      refine ⟨y :: zs, rfl, ?_, ?_⟩
      · exact (List.Perm.cons y hp).trans (List.Perm.swap x y ys)
      · refine Sorted.cons_of_forall ?_ hsz
        intro z hz
        have hz' := hp.mem_iff.1 hz
        simp only [List.mem_cons] at hz'
        rcases hz' with rfl | hz'
        · simp only [keyLt, Bool.or_eq_true, Bool.and_eq_true, decide_eq_true_eq, beq_iff_eq] at hk
          omega
        · exact hs.head_le z hz'
    · simp only [hk, pure, Except.pure]
      refine ⟨x :: y :: ys, rfl, List.Perm.refl _, ?_⟩
      refine ⟨?_, hs⟩
      simp only [keyLt, Bool.or_eq_true, Bool.and_eq_true, decide_eq_true_eq, beq_iff_eq] at hk
      omega

theorem sortFeats_ok (ls : List Loc) (h : ∀ l ∈ ls, bridgesOrigin l = false) :
    ∃ s, sortFeats ls = .ok s ∧ s.Perm ls ∧ Sorted Loc.start s := by
  induction ls with
  | nil => exact ⟨[], rfl, List.Perm.refl _, trivial⟩
  | cons x xs ih =>
    obtain ⟨s, hs, hp, hsorted⟩ := ih (fun l hl => h l (by simp [hl]))
    obtain ⟨zs, hz, hpz, hsz⟩ := insertFeat_ok x (h x (by simp)) s
      (fun y hy => h y (by simp [hp.mem_iff.1 hy])) hsorted
    refine ⟨zs, ?_, hpz.trans (List.Perm.cons x hp), hsz⟩
    simp only [sortFeats, hs, bind, Except.bind, hz]

theorem insertFeat_perm_of_ok (x : Loc) : ∀ (ys zs : List Loc), insertFeat x ys = .ok zs → zs.Perm (x :: ys) := by
  intro ys
  induction ys with
  | nil => intro zs h; simp only [insertFeat, pure, Except.pure, Except.ok.injEq] at h; subst h; exact List.Perm.refl _
  | cons y ys ih =>
    intro zs h
    simp only [insertFeat, bind, Except.bind] at h
    cases hlt : featureLt y x with
    | error e => simp [hlt] at h
    | ok b =>
      simp only [hlt] at h
      cases b with
      | true =>
        simp only [if_true] at h
        cases hrec : insertFeat x ys with
        | error e => simp [hrec] at h
        | ok more =>
          simp only [hrec, pure, Except.pure, Except.ok.injEq] at h
          subst h
          exact (List.Perm.cons y (ih more hrec)).trans (List.Perm.swap x y ys)
      | false =>
        simp only [Bool.false_eq_true, if_false, pure, Except.pure, Except.ok.injEq] at h
        subst h; exact List.Perm.refl _

theorem sortFeats_perm_of_ok : ∀ (ls s : List Loc), sortFeats ls = .ok s → s.Perm ls := by
  intro ls
  induction ls with
  | nil => intro s h; simp only [sortFeats, pure, Except.pure, Except.ok.injEq] at h; subst h; exact List.Perm.refl _
  | cons x xs ih =>
    intro s h
    simp only [sortFeats, bind, Except.bind] at h
    cases hrec : sortFeats xs with
    | error e => simp [hrec] at h
    | ok s' =>
      simp only [hrec] at h
      exact (insertFeat_perm_of_ok x s' s h).trans (List.Perm.cons x (ih s' hrec))

/-- for a gene starting at or after the core, "shares a base with the core widened by the cutoff"
    is "starts fewer than `cutoff` positions after the core's end" -/
theorem overlap_window_iff (len c : Int) (hc : 0 ≤ c) (cds : Loc) (hcds : GeneOK len cds) (p : Part)
    (h0 : 0 ≤ p.lo) (h1 : p.lo < p.hi) (h2 : p.hi ≤ len) (hge : p.lo ≤ cds.start) :
    locationsOverlap cds (.simple ⟨max 0 (p.lo - c), min (p.hi + c) len, .fwd⟩) = true ↔ cds.start < p.hi + c := by
  have hwne : (Loc.simple ⟨max 0 (p.lo - c), min (p.hi + c) len, .fwd⟩).PartsNonEmpty := by
    intro q hq; simp [Loc.parts] at hq; subst hq; simp only; omega
  have hcne : cds.PartsNonEmpty := fun q hq => (hcds.parts q hq).2.1
  rw [locationsOverlap_iff cds _ hcne hwne]
  constructor
  · rintro ⟨i, hi, hj⟩
    simp only [Loc.mem, List.any_eq_true, Part.mem_iff] at hi
    obtain ⟨q, hq, h3, h4⟩ := hi
    simp only [Loc.mem, Loc.parts, List.any_cons, List.any_nil, Bool.or_false, Part.mem_iff] at hj
    have := (start_le_part cds q hq).1
    omega
  · intro hlt
    obtain ⟨q, hq, e⟩ := start_attained cds hcds.ne
    have hqq := hcds.parts q hq
    refine ⟨q.lo, ?_, ?_⟩
    · simp only [Loc.mem, List.any_eq_true, Part.mem_iff]
      exact ⟨q, hq, by omega, by omega⟩
    · simp only [Loc.mem, Loc.parts, List.any_cons, List.any_nil, Bool.or_false, Part.mem_iff]
      omega

/-! ### the sweep of the model is the abstract sweep -/

/-- the span of a location as a pair, to compare cores with the hulls `(glo, ghi)` of sweep groups -/
def ivOf (l : Loc) : Int × Int := (l.start, l.end)

/-- a single span -/
def IsSimple (l : Loc) : Prop := ∃ p, l = .simple p

theorem forall_mem_pair {α : Type} {P : α → Prop} {a b : α} (ha : P a) (hb : P b) : ∀ x ∈ [a, b], P x := by
  intro x hx
  simp only [List.mem_cons, List.mem_nil_iff, or_false] at hx
  rcases hx with rfl | rfl
  · exact ha
  · exact hb

theorem connect_gene_line (cds : Loc) (len : Int) (h : GeneOK len cds) :
    connect [cds] none = .ok (.simple ⟨cds.start, cds.end, cds.strand⟩) := by
  rw [connect_line [cds] (by simp) (List.forall_mem_singleton.2 ⟨h.ne, h.nb⟩)]
  simp [minList, maxList, commonStrand]

/-- on a line two non-bridging locations are joined into the span from the lesser start to the greater end -/
theorem connect_two_line (a b : Loc) (ha : a.parts ≠ [] ∧ bridgesOrigin a = false)
    (hb : b.parts ≠ [] ∧ bridgesOrigin b = false) :
    ∃ s, connect [a, b] none = .ok (.simple ⟨min a.start b.start, max a.end b.end, s⟩) := by
  rw [connect_line [a, b] (by simp) (forall_mem_pair ha hb)]
  exact ⟨commonStrand [a, b], by simp [minList, maxList]⟩

theorem simple_nb (p : Part) : (Loc.simple p).parts ≠ [] ∧ bridgesOrigin (Loc.simple p) = false :=
  ⟨by simp [Loc.parts], rfl⟩

/-- what the sweep needs from `_extend_area_location` and `connect_locations` inside the arc `[A, B)`:
    widening a core succeeds, does not shrink it, and a gene of the arc starting at or after the core
    shares a base with the widened core iff it starts fewer than `c` positions after the core's end -/
structure ArcOps (r : Rec) (c A B : Int) : Prop where
  ext : ∀ p : Part, A ≤ p.lo → p.lo < p.hi → p.hi ≤ B →
    ∃ W, extendArea r (.simple p) c false = .ok W ∧ ¬ (W.len < (Loc.simple p).len) ∧
      ∀ y, GeneIn r.len A B y → p.lo ≤ y.start → (locationsOverlap y W = true ↔ y.start < p.hi + c)
  conn1 : ∀ cds, GeneIn r.len A B cds → connect [cds] r.wrap = .ok (.simple ⟨cds.start, cds.end, cds.strand⟩)
  conn2 : ∀ (p : Part) cds, A ≤ p.lo → p.lo < p.hi → p.hi ≤ B → GeneIn r.len A B cds →
    ∃ s, connect [Loc.simple p, cds] r.wrap = .ok (.simple ⟨min p.lo cds.start, max p.hi cds.end, s⟩)

/-- the refinement step: the model's loop with last core `.simple p` runs as the abstract sweep with current group
    `cur` whose hull is `p`; cores older than the last one are not touched, and the cores come out last-first
    (hence the `.reverse`) -/
theorem sweepCores_arc (r : Rec) (c A B : Int) (ops : ArcOps r c A B) (rest : List Loc) :
    ∀ (cur : Grp Loc) (p : Part) (older : List Loc),
      p.lo = cur.glo → p.hi = cur.ghi → A ≤ p.lo → p.lo < p.hi → p.hi ≤ B →
      (∀ y ∈ rest, GeneIn r.len A B y) → (∀ y ∈ rest, p.lo ≤ y.start) → Sorted Loc.start rest →
      ∃ out, sweepCores r c (.simple p :: older) rest = .ok (out ++ older) ∧
        out.map ivOf = ((go Loc.start Loc.end c cur rest).map fun g => (g.glo, g.ghi)).reverse ∧
        ∀ l ∈ out, IsSimple l := by
  induction rest with
  | nil =>
    intro cur p older e1 e2 _ _ _ _ _ _
    refine ⟨[.simple p], by simp [sweepCores, pure, Except.pure], ?_, ?_⟩
    · simp [go, ivOf, Loc.start, Loc.end, e1, e2]
    · intro l hl; simp at hl; exact ⟨p, hl⟩
  | cons y ys ih =>
    intro cur p older e1 e2 h0 h1 h2 hok hge hsorted
    have hy := hok y (by simp)
    obtain ⟨W, hW, hlen, hwinAll⟩ := ops.ext p h0 h1 h2
    have hwin := hwinAll y hy (hge y (by simp))
    simp only [sweepCores, hW, bind, Except.bind, hlen, if_false]
    by_cases hlt : y.start < p.hi + c
    · have hov := hwin.2 hlt
      obtain ⟨s, hconn⟩ := ops.conn2 p y h0 h1 h2 hy
      simp only [hov, if_true, hconn]
      have hlt' : y.start < cur.ghi + c := by omega
      obtain ⟨out, ho, hm, hsimple⟩ := ih ⟨min cur.glo y.start, max cur.ghi y.end, cur.members ++ [y]⟩
        ⟨min p.lo y.start, max p.hi y.end, s⟩ older (by rw [e1]) (by rw [e2])
        (Int.le_min.2 ⟨h0, hy.lo⟩)
        (Int.lt_of_le_of_lt (Int.min_le_left _ _) (Int.lt_of_lt_of_le h1 (Int.le_max_left _ _)))
        (Int.max_le.2 ⟨h2, hy.hi⟩) (fun z hz => hok z (List.mem_cons_of_mem _ hz))
        (fun z hz => Int.le_trans (Int.min_le_left _ _) (hge z (List.mem_cons_of_mem _ hz))) hsorted.tail
      refine ⟨out, ho, ?_, hsimple⟩
      simp only [go, hlt', if_true]
      exact hm
    · have hov : locationsOverlap y W = false := by
        cases hb : locationsOverlap y W
        · rfl
        · exact absurd (hwin.1 hb) hlt
      simp only [hov, Bool.false_eq_true, if_false, ops.conn1 y hy]
      have hlt' : ¬ y.start < cur.ghi + c := by omega
      obtain ⟨out, ho, hm, hsimple⟩ := ih ⟨y.start, y.end, [y]⟩ ⟨y.start, y.end, y.strand⟩ (.simple p :: older)
        rfl rfl hy.lo hy.ok.start_lt_end hy.hi (fun z hz => hok z (by simp [hz]))
        (fun z hz => hsorted.head_le z hz) hsorted.tail
      refine ⟨out ++ [.simple p], by simpa using ho, ?_, ?_⟩
      · simp only [go, hlt', if_false, List.map_append, hm, List.map_cons, List.map_nil, List.reverse_cons]
        simp [ivOf, Loc.start, Loc.end, e1, e2]
      · intro l hl
        simp only [List.mem_append, List.mem_singleton] at hl
        rcases hl with hl | rfl
        · exact hsimple l hl
        · exact ⟨p, rfl⟩

theorem fixFirstLast_line (r : Rec) (hlin : r.circular = false) (c : Int) (cores : List Loc) (hne : cores ≠ []) :
    fixFirstLast r c cores = .ok cores := by
  cases cores with
  | nil => exact absurd rfl hne
  | cons first rest =>
    simp only [fixFirstLast]
    cases rest.getLast? with
    | none => rfl
    | some last => simp [hlin, pure, Except.pure]

/-- the first group of the sweep starts where the current group starts, and no group starts earlier -/
theorem go_glo (lo hi : Loc → Int) (c : Int) : ∀ (ys : List Loc) (cur : Grp Loc), (∀ y ∈ ys, cur.glo ≤ lo y) →
    Sorted lo ys → (∃ g rest, go lo hi c cur ys = g :: rest ∧ g.glo = cur.glo) ∧ ∀ g ∈ go lo hi c cur ys, cur.glo ≤ g.glo := by
  intro ys
  induction ys with
  | nil => intro cur _ _; exact ⟨⟨cur, [], rfl, rfl⟩, by intro g hg; simp [go] at hg; subst hg; exact Int.le_refl _⟩
  | cons y ys ih =>
    intro cur hs hsorted
    have hy := hs y (by simp)
    simp only [go]
    split
    · obtain ⟨⟨g, rest, e, eg⟩, hall⟩ := ih ⟨min cur.glo (lo y), max cur.ghi (hi y), cur.members ++ [y]⟩
        (fun z hz => Int.le_trans (Int.min_le_left _ _) (hs z (List.mem_cons_of_mem _ hz))) hsorted.tail
      refine ⟨⟨g, rest, e, eg.trans (Int.min_eq_left hy)⟩, ?_⟩
      intro g' hg'
      exact Int.le_trans (Int.le_of_eq (Int.min_eq_left hy).symm) (hall g' hg')
    · obtain ⟨_, hall⟩ := ih ⟨lo y, hi y, [y]⟩ (fun z hz => hsorted.head_le z hz) hsorted.tail
      refine ⟨⟨cur, _, rfl, rfl⟩, ?_⟩
      intro g' hg'
      simp only [List.mem_cons] at hg'
      rcases hg' with rfl | hg'
      · exact Int.le_refl _
      · have := hall g' hg'
        simp only at this; omega

theorem fixFirstLast_sorted (r : Rec) (c : Int) (cores : List Loc) (first : Loc) (rest : List Loc)
    (he : cores = first :: rest) (h : ∀ l ∈ cores, first.start ≤ l.start) : fixFirstLast r c cores = .ok cores := by
  subst he
  simp only [fixFirstLast]
  cases hl : rest.getLast? with
  | none => rfl
  | some last =>
    have hmem : last ∈ first :: rest := List.mem_cons_of_mem _ (List.mem_of_getLast? hl)
    have := h last hmem
    have hn : ¬ (first.start > last.start) := by omega
    simp [hn, pure, Except.pure]

/-- `find_protoclusters`' cores are the hulls of the sweep groups whenever the anchors lie in an arc
    on which widening and joining behave as on a line -/
theorem findCores_arc (r : Rec) (c A B : Int) (ops : ArcOps r c A B)
    (anchors : List Loc) (hne : anchors ≠ []) (hok : ∀ l ∈ anchors, GeneIn r.len A B l) :
    ∃ sorted cores, sorted.Perm anchors ∧ Sorted Loc.start sorted ∧ findCores r c anchors = .ok cores ∧
      cores.map ivOf = (sweep Loc.start Loc.end c sorted).map (fun g => (g.glo, g.ghi)) ∧
      ∀ l ∈ cores, IsSimple l := by
  obtain ⟨s1, h1, p1, _⟩ := sortFeats_ok anchors (fun l hl => (hok l hl).ok.nb)
  have hnb1 : ∀ l ∈ s1, bridgesOrigin l = false := fun l hl => (hok l (p1.mem_iff.1 hl)).ok.nb
  obtain ⟨s2, h2, p2, sorted2⟩ := sortFeats_ok s1 hnb1
  have hperm : s2.Perm anchors := p2.trans p1
  have hok2 : ∀ l ∈ s2, GeneIn r.len A B l := fun l hl => hok l (hperm.mem_iff.1 hl)
  have hf1 : s1.filter bridgesOrigin = [] := List.filter_eq_nil_iff.2 fun l hl => by simp [hnb1 l hl]
  have hf2 : (s1.filter fun l => !bridgesOrigin l) = s1 := List.filter_eq_self.2 fun l hl => by simp [hnb1 l hl]
  cases s2 with
  | nil => exact absurd (List.perm_nil.1 hperm.symm) hne
  | cons y ys =>
    have hy := hok2 y (by simp)
    obtain ⟨out, ho, hm, hsimple⟩ := sweepCores_arc r c A B ops ys ⟨y.start, y.end, [y]⟩
      ⟨y.start, y.end, y.strand⟩ [] rfl rfl hy.lo hy.ok.start_lt_end hy.hi
      (fun z hz => hok2 z (by simp [hz])) (fun z hz => sorted2.head_le z hz) sorted2.tail
    obtain ⟨⟨g0, grest, hgo, hg0⟩, hall⟩ := go_glo Loc.start Loc.end c ys ⟨y.start, y.end, [y]⟩
      (fun z hz => sorted2.head_le z hz) sorted2.tail
    have hrev : out.reverse.map ivOf = (go Loc.start Loc.end c ⟨y.start, y.end, [y]⟩ ys).map fun g => (g.glo, g.ghi) := by
      rw [List.map_reverse, hm, List.reverse_reverse]
    -- the one idea: the first group of the sweep has the least start (`go_glo`), so the first core starts before
    -- the last one and the first/last fix-up of `find_protoclusters` changes nothing (`fixFirstLast_sorted`)
    have hcores : ∃ first rest, out.reverse = first :: rest ∧ ∀ l ∈ out.reverse, first.start ≤ l.start := by
      rw [hgo] at hrev
      cases hor : out.reverse with
      | nil => rw [hor] at hrev; simp at hrev
      | cons first rest =>
        refine ⟨first, rest, rfl, ?_⟩
        rw [hor] at hrev
        simp only [List.map_cons, List.cons.injEq, ivOf, Prod.mk.injEq] at hrev
        intro l hl
        have hl' : ivOf l ∈ (first :: rest).map ivOf := List.mem_map.2 ⟨l, hl, rfl⟩
        have hl2 : ivOf l ∈ (g0 :: grest).map fun g => (g.glo, g.ghi) := by
          simp only [List.map_cons, ivOf]
          rw [← hrev.1.1, ← hrev.1.2, ← hrev.2]
          simpa [ivOf] using hl'
        obtain ⟨g, hg, e⟩ := List.mem_map.1 hl2
        have hge := hall g (by rw [hgo]; exact hg)
        simp only [ivOf, Prod.mk.injEq] at e
        have h1' := hrev.1.1
        have h2' := e.1
        have h3' := hg0
        simp only at hge h3'
        omega
    obtain ⟨first, rest', hfr, hasc⟩ := hcores
    refine ⟨y :: ys, out.reverse, hperm, sorted2, ?_, ?_, ?_⟩
    · simp only [findCores, h1, bind, Except.bind, hf1, hf2, h2, List.mapM_nil, pure, Except.pure, List.reverse_nil]
      simp only [sweepCores, ops.conn1 y hy, bind, Except.bind]
      rw [ho]
      simp only [List.append_nil]
      exact fixFirstLast_sorted r c out.reverse first rest' hfr hasc
    · rw [hrev]; rfl
    · intro l hl
      exact hsimple l (by simpa using hl)

/-! ### the line is an arc -/

theorem arcOps_line (r : Rec) (hlin : r.circular = false) (c : Int) (hc : 0 ≤ c) : ArcOps r c 0 r.len := by
  have hw : r.wrap = none := by simp [Rec.wrap, hlin]
  refine ⟨?_, ?_, ?_⟩
  · intro p h0 h1 h2
    refine ⟨_, extendArea_line r hlin p c false, ?_, fun y hy hge => overlap_window_iff r.len c hc y hy.ok p h0 h1 h2 hge⟩
    simp only [Loc.len, Loc.parts, List.map_cons, List.map_nil, List.sum_cons, List.sum_nil, Part.len]
    omega
  · intro cds h
    rw [hw]
    exact connect_gene_line cds r.len h.ok
  · intro p cds _ _ _ h
    rw [hw]
    exact connect_two_line _ cds (simple_nb p) ⟨h.ok.ne, h.ok.nb⟩

end ASV.Proto
