/-
  C06: `create_regions(candidate_clusters=…, subregions=…)` with explicitly passed lists
  builds its regions from exactly the given areas (an explicitly empty list is NOT replaced by the record's own
  areas), and behaves like a record that holds just those areas.
-/
import ASV.Proofs.RegionsMade
import ASV.Proofs.RegionsComponents
namespace ASV.Regions
open ASV ASV.Components

/-- `create_regions(candidate_clusters=cands, subregions=subs)` on a record without regions: the regions' children,
    concatenated, are a rearrangement of exactly the GIVEN areas — no area of the record that was not passed ends
    up in a region, every given area is in exactly one -/
theorem createRegionsOf_members_given {s s' : State} {cands subs : List Feat} (hreg : s.regions = [])
    (hnd : (ids (cands ++ subs)).Nodup) (h : createRegionsOf s cands subs = .ok s') :
    ((s'.regions.map memberIds).flatten).Perm (ids (cands ++ subs)) := by
  rcases createRegionsOf_ok h with ⟨hcn, hsn, rfl⟩ | ⟨secs, hsecs, h⟩
  · simp [hreg, hcn, hsn, ids]
  · have hp := sectionsOf_perm hnd hsecs
    obtain ⟨rs, hperm, hmap, _, _⟩ := addSections_built h
    rw [hreg, List.append_nil] at hperm
    refine ((hperm.map memberIds).flatten).trans ?_
    rw [hmap]
    exact (secIds_flatten_perm secs).trans (hp.map _)

/-- the same for the operation as the harness drives it -/
theorem createRegionsWith_members_given {s s' : State} {cs ss : List Nat} (hreg : s.regions = [])
    (h : step s (.createRegionsWith cs ss) = .ok s') :
    ((s'.regions.map memberIds).flatten).Perm (cs ++ ss) := by
  obtain ⟨cands, subs, e, hnd, _, _, h⟩ := step_createRegionsWith_ok h
  have := createRegionsOf_members_given hreg (by rw [e]; exact hnd) h
  rw [e] at this
  exact this

/-! `add_region(Region(…))` never looks at the record's own candidate cluster / subregion lists -/

def withAreas (c sb : List Feat) (t : State) : State := { t with cands := c, subs := sb }

theorem mkRegion_withAreas (s : State) (c sb cands subs : List Feat) :
    mkRegion (withAreas c sb s) cands subs = (mkRegion s cands subs).map (fun x => (withAreas c sb x.1, x.2)) := by
  simp only [mkRegion, bind, Except.bind, pure, Except.pure, withAreas]
  split
  · rfl
  · cases regionWrap (List.map (fun x => x.loc) (subs ++ cands)) with
    | error e => rfl
    | ok w =>
      simp only
      cases connect (List.map (fun x => x.loc) (subs ++ cands)) w with
      | error e => rfl
      | ok loc =>
        simp only
        cases collectionInitCheck loc with
        | error e => rfl
        | ok u =>
          simp only
          cases setParents s.parent { id := s.nextRid, kind := .region, loc := loc, kids := cands.map (·.id), subs := subs.map (·.id) } (subs ++ cands) with
          | error e => rfl
          | ok par => rfl

theorem addRegion_withAreas (s : State) (c sb : List Feat) (r : Feat) :
    addRegion (withAreas c sb s) r = (addRegion s r).map (withAreas c sb) := by
  have hci : checkInside (withAreas c sb s) r.loc = checkInside s r.loc := rfl
  have hreg : (withAreas c sb s).regions = s.regions := rfl
  simp only [addRegion, bind, Except.bind, hci, hreg]
  cases checkInside s r.loc with
  | error e => rfl
  | ok u =>
    simp only
    cases regionIndex r 0 s.regions with
    | error e => rfl
    | ok i => rfl

theorem addSections_withAreas (c sb : List Feat) (secs : List Sec) (s : State) :
    addSections (withAreas c sb s) secs = (addSections s secs).map (withAreas c sb) := by
  induction secs generalizing s with
  | nil => rfl
  | cons sec secs ih =>
    obtain ⟨l, areas⟩ := sec
    rw [addSections_cons, addSections_cons, mkRegion_withAreas]
    cases mkRegion s (candsOf areas) (subsOf areas) with
    | error e => rfl
    | ok v =>
      simp only [Except.map, bind, Except.bind]
      rw [addRegion_withAreas]
      cases addRegion v.1 v.2 with
      | error e => rfl
      | ok s2 =>
        simp only [Except.map]
        exact ih s2

/-- explicit lists behave exactly like a record holding just those areas -/
theorem createRegionsOf_eq (s : State) (cands subs : List Feat) :
    (createRegionsOf s cands subs).map (withAreas cands subs) = createRegions (withAreas cands subs s) := by
  have hw : State.wrap (withAreas cands subs s) = s.wrap := rfl
  have hc : (withAreas cands subs s).cands = cands := rfl
  have hs : (withAreas cands subs s).subs = subs := rfl
  unfold createRegions createRegionsOf
  rw [hw, hc, hs]
  by_cases hemp : (cands.isEmpty && subs.isEmpty) = true
  · rw [if_pos hemp, if_pos hemp]; rfl
  · rw [if_neg hemp, if_neg hemp]
    cases sectionsOf s.wrap cands subs with
    | error e => rfl
    | ok secs =>
      simp only [bind, Except.bind]
      rw [addSections_withAreas]

/-- **`create_regions(candidate_clusters=cands, subregions=subs)`** on a region-less record, linear or circular,
    whose GIVEN areas are non-empty single spans inside the record: it succeeds and the regions are exactly the
    connected components of the given areas — whatever other candidate clusters and subregions the record
    holds (they are in `s.cands` / `s.subs` and play no part) -/
theorem createRegionsOf_components (s : State) (cands subs : List Feat) (hreg : s.regions = [])
    (hareas : ∀ f ∈ cands ++ subs, LineArea s.len f.loc) :
    ∃ (s' : State) (groups : List (List Feat)), createRegionsOf s cands subs = .ok s' ∧
      IsComponents ((cands ++ subs).map toArea) (groups.map (·.map toArea)) ∧
      s'.regions.map view = groups.map expectedRegion ∧
      s'.regions.Pairwise (fun r r' => ¬ r.loc.SharesBase r'.loc) := by
  have hok : NoSpanOK (withAreas cands subs s) := ⟨hareas, hreg⟩
  obtain ⟨t', groups, h1, _, _, _, h5, h6, h7⟩ := createRegions_linear_components (withAreas cands subs s) hok
  rw [← createRegionsOf_eq] at h1
  cases hcr : createRegionsOf s cands subs with
  | error e => rw [hcr] at h1; cases h1
  | ok s' =>
    rw [hcr] at h1
    simp only [Except.map, Except.ok.injEq] at h1
    have hr : s'.regions = t'.regions := by rw [← h1]; rfl
    exact ⟨s', groups, rfl, h5, by rw [hr]; exact h6, by rw [hr]; exact h7⟩

end ASV.Regions
