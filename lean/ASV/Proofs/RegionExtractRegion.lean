/-
  C12: the two parts of `selfConsistent` that speak of canonical forms.  The written record has exactly one region
  feature, the image of the region's own feature, and it spans the whole file (`oneRegion`).  The canonical form
  of a set of bases (`canon`: separated, non-empty intervals, shared `canon_spec`) is determined by the set, so two
  locations covering the same bases have the same canonical form, and the pointwise statement `CoresAgree` gives the
  executable `coresAgree`.
-/
import ASV.Proofs.CanonIvs
import ASV.Proofs.RegionExtractFinal
namespace ASV.RegionExtract
open ASV

theorem canon_simple (a b : Int) (s : Strand) (h : a < b) : (Loc.simple ⟨a, b, s⟩).canon = [(a, b)] := by
  simp [Loc.canon, canon, Loc.parts, canonIvs, h, sortIvs, insertIv, mergeSorted]

theorem eq_singleton_of_nodup {α} (l : List α) (g : α) (hn : l.Nodup) (hg : g ∈ l) (hall : ∀ x ∈ l, x = g) : l = [g] := by
  match l, hn, hg, hall with
  | [x], _, _, hall => rw [hall x (by simp)]
  | x :: y :: rest, hn, _, hall =>
    exfalso
    have h1 := hall x (by simp)
    have h2 := hall y (by simp)
    have := (List.nodup_cons.1 hn).1
    rw [h1, ← h2] at this
    exact this (by simp)

/-- the written record has exactly one region feature, and it spans the file -/
theorem written_oneRegion (rd : RegionData) (rec : BioRecord) (w : Written) (h : writeToGenbank rd rec = .ok w)
    (hwf : wfInput rd rec = true) (htags : (rec.features.map (·.tag)).Nodup)
    (hspan : ∀ f ∈ rec.features, bridgesOrigin f.loc = true → f.loc.start = 0 ∧ f.loc.end = rec.length)
    (hreg : regionFeatureOK rd rec = true) : oneRegion rec.length rd w.extract.features = true := by
  obtain ⟨hL, hcross, hplain, hfeat⟩ := wf_unpack rd rec hwf
  unfold regionFeatureOK at hreg
  simp only at hreg
  generalize hfilter : (rec.features.filter fun f => f.type == "region" && mayBeWritten rd rec.length f) = cands at hreg
  match cands, hfilter, hreg with
  | [], _, hreg => cases hreg
  | _ :: _ :: _, _, hreg => cases hreg
  | [fr], hfilter, hreg =>
    -- `fr` is the only region feature that can be written
    have hfr : fr ∈ rec.features ∧ fr.type = "region" ∧ mayBeWritten rd rec.length fr = true := by
      have : fr ∈ rec.features.filter fun f => f.type == "region" && mayBeWritten rd rec.length f := by rw [hfilter]; simp
      simpa [List.mem_filter] using this
    have honly : ∀ f ∈ rec.features, f.type = "region" → mayBeWritten rd rec.length f = true → f = fr := by
      intro f hf ht hm
      have : f ∈ rec.features.filter fun f => f.type == "region" && mayBeWritten rd rec.length f := by
        simp [List.mem_filter, hf, ht, hm]
      rw [hfilter] at this
      simpa using this
    have hextags := written_tags_nodup rd rec w h hwf htags hspan
    -- every written region feature is the image of `fr`, with a known location
    have himage : ∀ g ∈ w.extract.features, g.type = "region" →
        g.tag = fr.tag ∧ g.loc.canon = [(0, regionLen rec.length rd)] := by
      intro g hg ht
      obtain ⟨g0, ho, hadj⟩ := written_origin rd rec w h g hg
      obtain ⟨htg, hty, hloc⟩ := adjustFeature_same rd _ _ g0 g hadj
      have ht0 : g0.type = "region" := by rw [← hty]; exact ht
      cases ho with
      | plain f hf hc h1 h2 hg0 =>
        have hft : f.type = "region" := by rw [← ht0, hg0]
        have := honly f hf hft (by simp [mayBeWritten, hc, h1, h2])
        subst this
        have hw : wraps rd = false := by rw [wraps_eq, hc]
        rw [hc] at hreg
        simp only [Bool.false_eq_true, if_false, beq_iff_eq] at hreg
        refine ⟨by rw [htg, hg0], ?_⟩
        rw [hloc, hg0, hreg]
        simp only [shiftLoc, regionLen, hw, Bool.false_eq_true, if_false]
        have hpi := (hfeat f hf).1.2 ⟨rd.start, rd.end, .fwd⟩ (by rw [hreg]; simp [Loc.parts])
        unfold PartIn at hpi
        simp only at hpi
        rw [canon_simple _ _ _ (by omega)]
        simp; omega
      | pre f hf hc h1 h2 hg0 =>
        exfalso
        have hft : f.type = "region" := by rw [← ht0, hg0]
        have := honly f hf hft (by simp [mayBeWritten, hc, h1, h2])
        subst this
        rw [hc] at hreg
        simp only [if_true, beq_iff_eq] at hreg
        rw [hreg, start_two] at h1
        simp only at h1
        have := hcross hc
        omega
      | post f hf hc h1 h2 l hl hg0 =>
        exfalso
        have hft : f.type = "region" := by rw [← ht0, hg0]
        have := honly f hf hft (by simp [mayBeWritten, hc, h1, h2])
        subst this
        rw [hc] at hreg
        simp only [if_true, beq_iff_eq] at hreg
        rw [hreg, end_two] at h2
        simp only at h2
        have := hcross hc
        omega
      | cross f hf hc hb l hl hk hnb hg0 =>
        have hft : f.type = "region" := by rw [← ht0, hg0]
        have := honly f hf hft (by simp [mayBeWritten, hc, hb])
        subst this
        obtain ⟨he0, hes, hsL⟩ := hcross hc
        have hw : wraps rd = true := by rw [wraps_eq, hc]
        rw [hc] at hreg
        simp only [if_true, beq_iff_eq] at hreg
        refine ⟨by rw [htg, hg0], ?_⟩
        rw [hreg] at hl
        obtain ⟨r, hr, hcase⟩ := cross_two_fwd_exact rd.start rd.end rd.start rec.length .fwd he0 hes hsL (by omega) hsL
        rw [hr] at hl; injection hl with hl; subst hl
        rw [hloc, hg0]
        simp only [regionLen, hw, if_true]
        rcases hcase with ⟨hlt, _, _, hr', hwf'⟩ | ⟨heq, _, hwf'⟩ | ⟨hno, _⟩
        · rw [hwf', hr', canon_simple _ _ _ (by omega)]
          simp; omega
        · rw [hwf', canon_simple _ _ _ hL]
          simp; omega
        · exfalso; omega
    -- `fr` is written
    have hfrin : insideRegion rec.length rd fr.loc = true := by
      unfold insideRegion
      cases hc : rd.crossesOrigin with
      | false =>
        have hw : wraps rd = false := by rw [wraps_eq, hc]
        rw [hc] at hreg
        simp only [Bool.false_eq_true, if_false, beq_iff_eq] at hreg
        simp [hw, hreg, Loc.parts]
      | true =>
        obtain ⟨he0, hes, hsL⟩ := hcross hc
        have hw : wraps rd = true := by rw [wraps_eq, hc]
        rw [hc] at hreg
        simp only [if_true, beq_iff_eq] at hreg
        have hbr := bridges_two_fwd rd.start rd.end rec.length .fwd (by decide) (by omega)
        simp [hw, hreg, Loc.parts, hbr]
    obtain ⟨g, hg, hgt⟩ := written_contains_inside rd rec w h (fun hc => ⟨(hcross hc).1, (hcross hc).2.2⟩) fr hfr.1
      (hfeat fr hfr.1).1.1 hfrin (fun hc hb => .inl (by
        rw [hc] at hreg
        simp only [if_true, beq_iff_eq] at hreg
        obtain ⟨he0, hes, hsL⟩ := hcross hc
        rw [hreg]
        simp [twoPart]
        omega))
    have hgty : g.type = "region" := by
      obtain ⟨f', hf', ht', hty', _⟩ := written_refs rd rec w h g hg
      have : f' = fr := nodup_map_inj (·.tag) rec.features htags f' fr hf' hfr.1 (by rw [← ht', hgt])
      rw [hty', this, hfr.2.1]
    -- so the list of written region features is `[g]`
    have hlist : ofType "region" w.extract.features = [g] := by
      apply eq_singleton_of_nodup
      · have h1 : (w.extract.features).Nodup :=
          List.Pairwise.of_map (fun (x : BioFeature) => x.tag) (fun a b hab e => hab (by rw [e])) hextags
        exact List.Nodup.sublist List.filter_sublist h1
      · simp [ofType, List.mem_filter, hg, hgty]
      · intro x hx
        have hx' : x ∈ w.extract.features ∧ x.type = "region" := by simpa [ofType, List.mem_filter] using hx
        exact nodup_map_inj (·.tag) _ hextags x g hx'.1 hg (by rw [(himage x hx'.1 hx'.2).1, hgt])
    unfold oneRegion
    rw [hlist]
    simp only [beq_iff_eq]
    exact (himage g hg hgty).2

/-- separated non-empty intervals are determined by the bases they hold -/
theorem sep_unique : ∀ (a b : List Iv), IvSep a → IvSep b → (∀ x ∈ a, x.1 < x.2) → (∀ x ∈ b, x.1 < x.2) →
    (∀ i, ivsMem a i = true ↔ ivsMem b i = true) → a = b
  | [], [], _, _, _, _, _ => rfl
  | [], y :: b, _, _, _, hb, h => by
    have := (h y.1).2 (by rw [ivsMem_iff]; exact ⟨y, by simp, Int.le_refl _, hb y (by simp)⟩)
    simp [ivsMem] at this
  | x :: a, [], _, _, ha, _, h => by
    have := (h x.1).1 (by rw [ivsMem_iff]; exact ⟨x, by simp, Int.le_refl _, ha x (by simp)⟩)
    simp [ivsMem] at this
  | x :: a, y :: b, sa, sb, ha, hb, h => by
    obtain ⟨sa1, sa2⟩ := List.pairwise_cons.1 sa
    obtain ⟨sb1, sb2⟩ := List.pairwise_cons.1 sb
    have hx := ha x (by simp)
    have hy := hb y (by simp)
    -- membership spelled out
    have ma : ∀ i, ivsMem (x :: a) i = true ↔ (x.1 ≤ i ∧ i < x.2) ∨ ivsMem a i = true := by
      intro i; simp [ivsMem]
    have mb : ∀ i, ivsMem (y :: b) i = true ↔ (y.1 ≤ i ∧ i < y.2) ∨ ivsMem b i = true := by
      intro i; simp [ivsMem]
    have la : ∀ i, ivsMem a i = true → x.2 < i := by
      intro i hi
      obtain ⟨z, hz, h1, _⟩ := (ivsMem_iff a i).1 hi
      have := sa1 z hz; omega
    have lb : ∀ i, ivsMem b i = true → y.2 < i := by
      intro i hi
      obtain ⟨z, hz, h1, _⟩ := (ivsMem_iff b i).1 hi
      have := sb1 z hz; omega
    -- the first base
    have e1 : x.1 = y.1 := by
      have h1 := (h x.1).1 ((ma x.1).2 (.inl ⟨Int.le_refl _, hx⟩))
      have h2 := (h y.1).2 ((mb y.1).2 (.inl ⟨Int.le_refl _, hy⟩))
      rcases (mb x.1).1 h1 with h1 | h1 <;> rcases (ma y.1).1 h2 with h2 | h2
      · omega
      · have := la _ h2; omega
      · have := lb _ h1; omega
      · have := la _ h2; have := lb _ h1; omega
    -- the end of the first interval
    have e2 : x.2 = y.2 := by
      rcases Int.lt_trichotomy x.2 y.2 with hlt | heq | hgt
      · exfalso
        have h1 := (h x.2).2 ((mb x.2).2 (.inl ⟨by omega, hlt⟩))
        rcases (ma x.2).1 h1 with h1 | h1
        · omega
        · have := la _ h1; omega
      · exact heq
      · exfalso
        have h1 := (h y.2).1 ((ma y.2).2 (.inl ⟨by omega, hgt⟩))
        rcases (mb y.2).1 h1 with h1 | h1
        · omega
        · have := lb _ h1; omega
    have exy : x = y := Prod.ext e1 e2
    subst exy
    congr 1
    apply sep_unique a b sa2 sb2 (fun z hz => ha z (by simp [hz])) (fun z hz => hb z (by simp [hz]))
    intro i
    constructor
    · intro hi
      have := la i hi
      rcases (mb i).1 ((h i).1 ((ma i).2 (.inr hi))) with h1 | h1
      · omega
      · exact h1
    · intro hi
      have := lb i hi
      rcases (ma i).1 ((h i).2 ((mb i).2 (.inr hi))) with h1 | h1
      · omega
      · exact h1

/-- locations covering the same bases have the same canonical form -/
theorem canon_eq_of_mem (l l' : Loc) (h : ∀ i, l.mem i = l'.mem i) : l.canon = l'.canon := by
  obtain ⟨s1, n1, m1⟩ := canon_spec l.parts
  obtain ⟨s2, n2, m2⟩ := canon_spec l'.parts
  apply sep_unique _ _ s1 s2 n1 n2
  intro i
  show ivsMem (canon l.parts) i = true ↔ ivsMem (canon l'.parts) i = true
  rw [m1 i, m2 i]
  have e : (l.parts.any (·.mem i)) = (l'.parts.any (·.mem i)) := h i
  constructor
  · intro hh
    have : l.parts.any (·.mem i) = true := List.any_eq_true.2 hh
    rw [e] at this
    exact List.any_eq_true.1 this
  · intro hh
    have : l'.parts.any (·.mem i) = true := List.any_eq_true.2 hh
    rw [← e] at this
    exact List.any_eq_true.1 this

/-- the pointwise statement gives the executable one -/
theorem coresAgree_of_CoresAgree (fs : List BioFeature) (h : CoresAgree fs) : coresAgree fs = true := by
  unfold coresAgree
  rw [List.all_eq_true]
  intro f hf
  simp only [ofType, List.mem_filter, beq_iff_eq] at hf
  obtain ⟨t, core, h1, h2, g', hg', h3, h4, h5⟩ := h f hf.1 hf.2
  simp only [h1, Option.bind_some, h2]
  rw [List.any_eq_true]
  refine ⟨g', ?_, ?_⟩
  · simp only [ofType, List.mem_filter, beq_iff_eq]; exact ⟨hg', h3⟩
  · simp only [Bool.and_eq_true, beq_iff_eq]
    exact ⟨h4, canon_eq_of_mem _ _ (fun i => (h5 i).symm)⟩

end ASV.RegionExtract
