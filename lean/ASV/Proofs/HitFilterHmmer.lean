/-
  Helper lemmas for C13: `hmmer.remove_overlapping` (total sort, grouping sweep, filter by rank).
-/
import ASV.Proofs.RefineIncomplete
import ASV.Spec.HitFilter
namespace ASV.HitFilter
open ASV.Refine

theorem leTotal_total (a b : HHit) : leTotal a b = true ∨ leTotal b a = true := by
  simp only [leTotal, decide_eq_true_eq]
  exact lex_total (lex_total (lex_total (Int.le_total _ _)))

theorem leTotal_trans (a b c : HHit) : leTotal a b = true → leTotal b c = true → leTotal a c = true := by
  simp only [leTotal, decide_eq_true_eq]
  exact lex_trans (lex_trans (lex_trans Int.le_trans))

theorem leTotal_antisymm (a b : HHit) (h1 : leTotal a b = true) (h2 : leTotal b a = true) : a = b := by
  simp only [leTotal, decide_eq_true_eq] at h1 h2
  obtain ⟨e1, h1, h2⟩ := lex_antisymm h1 h2
  obtain ⟨e2, h1, h2⟩ := lex_antisymm h1 h2
  obtain ⟨e3, h1, h2⟩ := lex_antisymm h1 h2
  have e4 := Int.le_antisymm h1 h2
  cases a
  cases b
  simp only [HHit.mk.injEq]
  exact ⟨e3, e1, e2, e4⟩

theorem leTotal_start {a b : HHit} (h : leTotal a b = true) : a.ps ≤ b.ps := by
  simp only [leTotal, decide_eq_true_eq] at h; omega

/-- scores and cut-offs are positive (the domain on which the model answers `.ok`) -/
def Valid (c : Int → Int) (h : HHit) : Prop := 0 < h.sc ∧ 0 < c h.ident

/- `rankLe` is lexicographic on (cutoff/score, −length, start, identifier); the first component is a
   fraction compared by cross-multiplication, hence the positivity assumptions. -/

theorem rankLe_total (c : Int → Int) (a b : HHit) : rankLe c a b = true ∨ rankLe c b a = true := by
  simp only [rankLe, decide_eq_true_eq]
  exact lex_total (by omega)

theorem rankLe_trans (c : Int → Int) (x y z : HHit) (hx : Valid c x) (hy : Valid c y) (hz : Valid c z)
    (h1 : rankLe c x y = true) (h2 : rankLe c y z = true) : rankLe c x z = true := by
  simp only [rankLe, decide_eq_true_eq] at h1 h2 ⊢
  obtain ⟨sx, cx⟩ := hx
  obtain ⟨sy, cy⟩ := hy
  obtain ⟨sz, cz⟩ := hz
  rcases h1 with h1 | ⟨e1, t1⟩
  · left
    rcases h2 with h2 | ⟨e2, -⟩
    · exact cross_lt_of_lt_of_le sy (Int.le_of_lt sx) sz h1 (Int.le_of_lt h2)
    · exact cross_lt_of_lt_of_le sy (Int.le_of_lt sx) sz h1 (Int.le_of_eq e2)
  · rcases h2 with h2 | ⟨e2, t2⟩
    · left
      exact cross_lt_of_le_of_lt sy sx (Int.le_of_lt sz) (Int.le_of_eq e1) h2
    · right
      constructor
      · exact Int.le_antisymm
          (cross_le_trans sy (Int.le_of_lt sx) (Int.le_of_lt sz) (Int.le_of_eq e1) (Int.le_of_eq e2))
          (cross_le_trans sy (Int.le_of_lt sz) (Int.le_of_lt sx) (Int.le_of_eq e2.symm) (Int.le_of_eq e1.symm))
      · exact lex_trans_desc (lex_trans Int.le_trans) t1 t2

theorem rankLe_antisymm (c : Int → Int) (a b : HHit) (ha : Valid c a)
    (h1 : rankLe c a b = true) (h2 : rankLe c b a = true) : a = b := by
  simp only [rankLe, decide_eq_true_eq] at h1 h2
  obtain ⟨e1, t1, t2⟩ := lex_antisymm h1 h2
  obtain ⟨el, t1, t2⟩ := lex_antisymm_desc t1 t2
  obtain ⟨e3, t1, t2⟩ := lex_antisymm t1 t2
  have e4 := Int.le_antisymm t1 t2
  have e2 : a.pe = b.pe := by
    simp only [HHit.length] at el
    omega
  rw [e4] at e1
  have hc : 0 < c b.ident := e4 ▸ ha.2
  have e5 : b.sc = a.sc := Int.eq_of_mul_eq_mul_left (Int.ne_of_gt hc) e1
  cases a
  cases b
  simp only [HHit.mk.injEq]
  exact ⟨e4, e3, e2, e5.symm⟩

theorem rankLe_iff_ranksAtLeast (c : Int → Int) (k d : HHit) : rankLe c k d = ranksAtLeast c k d := by
  rw [Bool.eq_iff_iff]
  simp only [rankLe, ranksAtLeast, Int.mul_comm k.sc, Int.mul_comm d.sc, eq_comm (a := c d.ident * k.sc),
    decide_eq_true_eq, Bool.or_eq_true, Bool.and_eq_true, beq_iff_eq]

theorem clash_eq_tooClose (limit : Int) (a b : HHit) : clash limit a b = tooClose limit a b := by
  have e : b.ps ≤ a.pe - limit ↔ b.ps + limit ≤ a.pe := by omega
  simp only [clash, tooClose, e, ge_iff_le, Bool.and_comm]

theorem tooClose_symm (limit : Int) (a b : HHit) : tooClose limit a b = tooClose limit b a := by
  simp only [tooClose, Bool.and_comm]

theorem mem_addNew {α} [DecidableEq α] {l : List α} {a x : α} : x ∈ addNew l a ↔ x ∈ l ∨ x = a := by
  simp only [addNew]
  split
  · rename_i h
    have : a ∈ l := by simpa using h
    constructor
    · exact Or.inl
    · rintro (h | rfl)
      · exact h
      · exact this
  · simp

theorem count_addNew_le {α} [DecidableEq α] (l : List α) (a x : α) :
    (addNew l a).count x ≤ l.count x + [a].count x := by
  simp only [addNew]
  split
  · omega
  · simp [List.count_append]

theorem mem_groupsFrom (limit : Int) : ∀ (cur : List HHit) (maxc : Int) (rest : List HHit) (x : HHit),
    (∃ g ∈ groupsFrom limit cur maxc rest, x ∈ g) ↔ x ∈ cur ∨ x ∈ rest
  | cur, maxc, [], x => by simp [groupsFrom]
  | cur, maxc, hit :: rest, x => by
    simp only [groupsFrom]
    split
    · simp only [List.mem_cons, exists_eq_or_imp]
      have ih := mem_groupsFrom limit [hit] hit.pe rest x
      simp only [List.mem_singleton] at ih
      rw [ih]
    · rw [mem_groupsFrom limit (addNew cur hit) (max maxc hit.pe) rest x, mem_addNew]
      simp only [List.mem_cons]
      exact or_assoc

theorem count_groupsFrom_le (limit : Int) (x : HHit) : ∀ (cur : List HHit) (maxc : Int) (rest : List HHit),
    (groupsFrom limit cur maxc rest).flatten.count x ≤ cur.count x + rest.count x
  | cur, maxc, [] => by simp [groupsFrom]
  | cur, maxc, hit :: rest => by
    simp only [groupsFrom]
    split
    · have ih := count_groupsFrom_le limit x [hit] hit.pe rest
      simp only [List.flatten_cons, List.count_append]
      have : (hit :: rest).count x = [hit].count x + rest.count x := by
        rw [show hit :: rest = [hit] ++ rest from rfl, List.count_append]
      omega
    · have ih := count_groupsFrom_le limit x (addNew cur hit) (max maxc hit.pe) rest
      have h1 := count_addNew_le cur hit x
      have : (hit :: rest).count x = [hit].count x + rest.count x := by
        rw [show hit :: rest = [hit] ++ rest from rfl, List.count_append]
      omega

/-- hits of a closed group end at most `limit` after any hit of a later group starts -/
theorem groupsFrom_separated (limit : Int) : ∀ (cur : List HHit) (maxc : Int) (rest : List HHit),
    (∀ a ∈ cur, a.pe ≤ maxc) → rest.Pairwise (fun a b => a.ps ≤ b.ps) →
    (groupsFrom limit cur maxc rest).Pairwise (fun g1 g2 => ∀ a ∈ g1, ∀ b ∈ g2, tooClose limit a b = false)
  | cur, maxc, [], _, _ => by simp [groupsFrom]
  | cur, maxc, hit :: rest, hc, hs => by
    have hsp := List.pairwise_cons.mp hs
    simp only [groupsFrom]
    split
    · rename_i hclose
      refine List.Pairwise.cons ?_ (groupsFrom_separated limit [hit] hit.pe rest
        (by intro a ha; simp at ha; subst ha; exact Int.le_refl _) hsp.2)
      intro g2 hg2 a ha b hb
      have hb' : b ∈ [hit] ∨ b ∈ rest := (mem_groupsFrom limit [hit] hit.pe rest b).mp ⟨g2, hg2, hb⟩
      have hbs : hit.ps ≤ b.ps := by
        rcases hb' with h | h
        · simp at h; subst h; exact Int.le_refl _
        · exact hsp.1 b h
      have hae := hc a ha
      simp only [tooClose, Bool.and_eq_false_iff, decide_eq_false_iff_not]
      right; omega
    · apply groupsFrom_separated limit (addNew cur hit) (max maxc hit.pe) rest _ hsp.2
      intro a ha
      rcases mem_addNew.mp ha with h | rfl
      · have := hc a h; omega
      · omega

theorem bestOf_eq_greedy (limit : Int) : ∀ (best l : List HHit), bestOf limit best l = greedy (clash limit) best l
  | best, [] => rfl
  | best, x :: rest => by
    simp only [bestOf, greedy, bestOf_eq_greedy limit best rest, bestOf_eq_greedy limit (best ++ [x]) rest]

theorem bestOf_sublist (limit : Int) (l : List HHit) : (bestOf limit [] l).Sublist l := by
  rw [bestOf_eq_greedy]
  exact greedy_sublist _ l

theorem bestOf_separated (limit : Int) (l : List HHit) :
    (bestOf limit [] l).Pairwise (fun a b => tooClose limit a b = false) := by
  rw [bestOf_eq_greedy]
  exact greedy_pairwise (fun a b h => by rw [← clash_eq_tooClose]; exact h) [] l .nil

/-- every hit of the (rank-sorted) group is kept or clashes with a kept hit ranked before it -/
theorem bestOf_justified (c : Int → Int) (limit : Int) (l : List HHit) (hl : l.Pairwise (fun a b => rankLe c a b = true)) :
    ∀ d ∈ l, d ∈ bestOf limit [] l ∨ ∃ k ∈ bestOf limit [] l, tooClose limit k d = true ∧ rankLe c k d = true := by
  intro d hd
  rw [bestOf_eq_greedy]
  rcases greedy_justified [] l hl d hd with h | ⟨k, hk, hc, hr⟩
  · exact Or.inl h
  · exact Or.inr ⟨k, hk, by rw [← clash_eq_tooClose]; exact hc, hr.resolve_left List.not_mem_nil⟩

/-- the pieces of `core`: sorted hits, groups, the hits before the final sort -/
structure Run (c : Int → Int) (limit : Int) (hits : List HHit) where
  h0 : HHit
  rest : List HHit
  sorted : sortBy leTotal hits = h0 :: rest
  out_eq : core c limit hits = sortBy leStart
    ((groupsFrom limit [h0] h0.pe rest).flatMap fun g => bestOf limit [] (sortBy (rankLe c) g))

def Run.groups {c : Int → Int} {limit : Int} {hits : List HHit} (r : Run c limit hits) : List (List HHit) :=
  groupsFrom limit [r.h0] r.h0.pe r.rest

def Run.cleaned {c : Int → Int} {limit : Int} {hits : List HHit} (r : Run c limit hits) : List HHit :=
  r.groups.flatMap fun g => bestOf limit [] (sortBy (rankLe c) g)

theorem run_of_ne_nil (c : Int → Int) (limit : Int) {hits : List HHit} (h : hits ≠ []) :
    Nonempty (Run c limit hits) := by
  cases hs : sortBy leTotal hits with
  | nil => exact absurd hs (sortBy_ne_nil leTotal h)
  | cons h0 rest => exact ⟨⟨h0, rest, hs, by simp only [core, hs]⟩⟩

theorem core_nil (c : Int → Int) (limit : Int) : core c limit [] = [] := by simp [core, sortBy]

theorem count_flatMap_le {f : List HHit → List HHit} (x : HHit) (hf : ∀ g, (f g).count x ≤ g.count x) :
    ∀ gs : List (List HHit), (gs.flatMap f).count x ≤ gs.flatten.count x
  | [] => by simp
  | g :: gs => by
    simp only [List.flatMap_cons, List.flatten_cons, List.count_append]
    have := count_flatMap_le x hf gs
    have := hf g
    omega

namespace Run
variable {c : Int → Int} {limit : Int} {hits : List HHit}

theorem out_perm (r : Run c limit hits) : (core c limit hits).Perm r.cleaned := by
  rw [r.out_eq]; exact sortBy_perm leStart _

theorem mem_sorted (r : Run c limit hits) {x : HHit} : x ∈ r.h0 :: r.rest ↔ x ∈ hits := by
  rw [← r.sorted, mem_sortBy]

theorem rest_sorted (r : Run c limit hits) : r.rest.Pairwise (fun a b => a.ps ≤ b.ps) := by
  have h := sortBy_pairwise leTotal_total leTotal_trans hits
  rw [r.sorted] at h
  exact (List.pairwise_cons.mp h).2.imp leTotal_start

theorem mem_group (r : Run c limit hits) {x : HHit} : (∃ g ∈ r.groups, x ∈ g) ↔ x ∈ hits := by
  rw [Run.groups, mem_groupsFrom, ← r.mem_sorted]; simp

theorem mem_cleaned (r : Run c limit hits) {x : HHit} (hx : x ∈ r.cleaned) : ∃ g ∈ r.groups, x ∈ g ∧ x ∈ bestOf limit [] (sortBy (rankLe c) g) := by
  simp only [Run.cleaned, List.mem_flatMap] at hx
  obtain ⟨g, hg, hxg⟩ := hx
  exact ⟨g, hg, (mem_sortBy _).mp ((bestOf_sublist limit _).subset hxg), hxg⟩

theorem cleaned_of_bestOf (r : Run c limit hits) {g : List HHit} {x : HHit} (hg : g ∈ r.groups)
    (hx : x ∈ bestOf limit [] (sortBy (rankLe c) g)) : x ∈ r.cleaned := by
  simp only [Run.cleaned, List.mem_flatMap]; exact ⟨g, hg, hx⟩

theorem mem_out (r : Run c limit hits) {x : HHit} : x ∈ core c limit hits ↔ x ∈ r.cleaned := r.out_perm.mem_iff

theorem out_subset (r : Run c limit hits) {x : HHit} (hx : x ∈ core c limit hits) : x ∈ hits := by
  obtain ⟨g, hg, hxg, _⟩ := r.mem_cleaned (r.mem_out.mp hx)
  exact r.mem_group.mp ⟨g, hg, hxg⟩

theorem out_count_le (r : Run c limit hits) (x : HHit) : (core c limit hits).count x ≤ hits.count x := by
  rw [r.out_perm.count_eq x]
  have h1 : r.cleaned.count x ≤ r.groups.flatten.count x := by
    apply count_flatMap_le x
    intro g
    rw [← (sortBy_perm (rankLe c) g).count_eq x]
    exact (bestOf_sublist limit _).count_le x
  have h2 := count_groupsFrom_le limit x [r.h0] r.h0.pe r.rest
  have h3 : hits.count x = (r.h0 :: r.rest).count x := by
    rw [← r.sorted, (sortBy_perm leTotal hits).count_eq x]
  have h4 : (r.h0 :: r.rest).count x = [r.h0].count x + r.rest.count x := by
    rw [show r.h0 :: r.rest = [r.h0] ++ r.rest from rfl, List.count_append]
  simp only [Run.groups] at h1
  omega

theorem cleaned_separated (r : Run c limit hits) : r.cleaned.Pairwise (fun a b => tooClose limit a b = false) := by
  simp only [Run.cleaned]
  rw [List.pairwise_flatMap]
  refine ⟨fun g _ => bestOf_separated limit _, ?_⟩
  have hsep := groupsFrom_separated limit [r.h0] r.h0.pe r.rest
    (by intro a ha; simp at ha; subst ha; exact Int.le_refl _) r.rest_sorted
  refine hsep.imp ?_
  intro g1 g2 h x hx y hy
  exact h x ((mem_sortBy _).mp ((bestOf_sublist limit _).subset hx)) y
    ((mem_sortBy _).mp ((bestOf_sublist limit _).subset hy))

theorem out_separated (r : Run c limit hits) : (core c limit hits).Pairwise (fun a b => tooClose limit a b = false) := by
  rw [List.Perm.pairwise_iff (fun {x y} h => by rw [tooClose_symm]; exact h) r.out_perm]
  exact r.cleaned_separated

theorem out_sorted (r : Run c limit hits) : (core c limit hits).Pairwise (fun a b => a.ps ≤ b.ps) := by
  rw [r.out_eq]
  exact sortBy_key_pairwise HHit.ps _

theorem group_sorted (r : Run c limit hits) (hv : ∀ h ∈ hits, Valid c h) {g : List HHit} (hg : g ∈ r.groups) :
    (sortBy (rankLe c) g).Pairwise (fun a b => rankLe c a b = true) := by
  apply sortBy_pairwise_on (Valid c) (fun a b _ _ => rankLe_total c a b)
    (fun a b d ha hb hd => rankLe_trans c a b d ha hb hd)
  intro x hx
  exact hv x (r.mem_group.mp ⟨g, hg, hx⟩)

theorem out_justified (r : Run c limit hits) (hv : ∀ h ∈ hits, Valid c h) : ∀ d ∈ hits,
    d ∈ core c limit hits ∨ ∃ k ∈ core c limit hits, tooClose limit k d = true ∧ rankLe c k d = true := by
  intro d hd
  obtain ⟨g, hg, hdg⟩ := r.mem_group.mpr hd
  rcases bestOf_justified c limit (sortBy (rankLe c) g) (r.group_sorted hv hg) d ((mem_sortBy _).mpr hdg) with
    h | ⟨k, hk, hc, hr⟩
  · exact Or.inl (r.mem_out.mpr (r.cleaned_of_bestOf hg h))
  · exact Or.inr ⟨k, r.mem_out.mpr (r.cleaned_of_bestOf hg hk), hc, hr⟩

theorem out_top (r : Run c limit hits) (hv : ∀ h ∈ hits, Valid c h) (t : HHit) (ht : t ∈ hits)
    (htop : ∀ o ∈ hits, rankLe c t o = true) : t ∈ core c limit hits := by
  obtain ⟨g, hg, htg⟩ := r.mem_group.mpr ht
  have hs := r.group_sorted hv hg
  have htm : t ∈ sortBy (rankLe c) g := (mem_sortBy _).mpr htg
  cases hsg : sortBy (rankLe c) g with
  | nil => rw [hsg] at htm; simp at htm
  | cons a tl =>
    rw [hsg] at hs htm
    have ha_g : a ∈ g := (mem_sortBy (rankLe c)).mp (by rw [hsg]; simp)
    have ha : a ∈ hits := r.mem_group.mp ⟨g, hg, ha_g⟩
    have hat : a = t := by
      rcases List.mem_cons.mp htm with h | h
      · exact h.symm
      · exact rankLe_antisymm c a t (hv a ha) ((List.pairwise_cons.mp hs).1 t h) (htop a ha)
    subst hat
    apply r.mem_out.mpr
    apply r.cleaned_of_bestOf hg
    rw [hsg, bestOf_eq_greedy]
    exact greedy_mono [a] tl List.mem_cons_self

end Run

/-! The clauses of the spec about `core` itself; the empty input is `core_nil`, any other has a `Run`. -/

theorem core_sorted (c : Int → Int) (limit : Int) (hits : List HHit) :
    (core c limit hits).Pairwise (fun a b => a.ps ≤ b.ps) := by
  by_cases h : hits = []
  · rw [h, core_nil]
    exact .nil
  · obtain ⟨r⟩ := run_of_ne_nil c limit h
    exact r.out_sorted

theorem core_separated (c : Int → Int) (limit : Int) (hits : List HHit) :
    (core c limit hits).Pairwise (fun a b => tooClose limit a b = false) := by
  by_cases h : hits = []
  · rw [h, core_nil]
    exact .nil
  · obtain ⟨r⟩ := run_of_ne_nil c limit h
    exact r.out_separated

theorem core_count_le (c : Int → Int) (limit : Int) (hits : List HHit) (x : HHit) :
    (core c limit hits).count x ≤ hits.count x := by
  by_cases h : hits = []
  · rw [h, core_nil]
    exact Nat.le_refl _
  · obtain ⟨r⟩ := run_of_ne_nil c limit h
    exact r.out_count_le x

theorem core_justified {c : Int → Int} (limit : Int) {hits : List HHit} (hv : ∀ h ∈ hits, Valid c h) : ∀ d ∈ hits,
    d ∈ core c limit hits ∨ ∃ k ∈ core c limit hits, tooClose limit k d = true ∧ rankLe c k d = true := by
  intro d hd
  obtain ⟨r⟩ := run_of_ne_nil c limit (List.ne_nil_of_mem hd)
  exact r.out_justified hv d hd

theorem core_top {c : Int → Int} (limit : Int) {hits : List HHit} (hv : ∀ h ∈ hits, Valid c h) (t : HHit) (ht : t ∈ hits)
    (htop : ∀ o ∈ hits, rankLe c t o = true) : t ∈ core c limit hits := by
  obtain ⟨r⟩ := run_of_ne_nil c limit (List.ne_nil_of_mem ht)
  exact r.out_top hv t ht htop

theorem core_perm (c : Int → Int) (limit : Int) {l₁ l₂ : List HHit} (h : l₁.Perm l₂) :
    core c limit l₁ = core c limit l₂ := by
  simp only [core, sortBy_eq_of_perm leTotal_total leTotal_trans leTotal_antisymm h]

/-- when the model answers `.ok`: non-empty input, every identifier has a cut-off, scores and
    cut-offs positive; the answer is `core` -/
theorem removeOverlapping_ok {cut : Int → Option Int} {limit : Int} {hits out : List HHit}
    (h : removeOverlapping cut limit hits = .ok out) :
    hits ≠ [] ∧ (∀ x ∈ hits, Valid (fun i => (cut i).getD 0) x ∧ (cut x.ident).isSome = true) ∧
    out = core (fun i => (cut i).getD 0) limit hits := by
  cases hits with
  | nil => simp [removeOverlapping] at h
  | cons a t =>
    simp only [removeOverlapping] at h
    split at h
    · split at h <;> simp at h
    · rename_i hfind
      split at h
      · simp at h
      · rename_i hany
        simp only [Except.ok.injEq] at h
        refine ⟨by simp, ?_, h.symm⟩
        intro x hx
        have h1 := List.find?_eq_none.mp hfind x hx
        have h2 : ¬ ((decide (x.sc < 0) || decide ((cut x.ident).getD 0 ≤ 0)) = true) := by
          intro hc
          exact hany (List.any_eq_true.mpr ⟨x, hx, hc⟩)
        simp only [Bool.or_eq_true, decide_eq_true_eq, beq_iff_eq, not_or] at h1 h2
        refine ⟨⟨by omega, by show 0 < (cut x.ident).getD 0; omega⟩, ?_⟩
        cases hc : cut x.ident with
        | none => simp [hc] at h1
        | some v => rfl

theorem removeOverlapping_perm {cut : Int → Option Int} {limit : Int} {l₁ l₂ out : List HHit}
    (hp : l₁.Perm l₂) (h : removeOverlapping cut limit l₁ = .ok out) :
    removeOverlapping cut limit l₂ = .ok out := by
  obtain ⟨hne, hv, ho⟩ := removeOverlapping_ok h
  have hne2 : l₂ ≠ [] := by
    intro e; subst e; exact hne (List.Perm.eq_nil hp)
  cases l₂ with
  | nil => exact absurd rfl hne2
  | cons a t =>
    have hfind : (a :: t).find? (fun h => (cut h.ident).isNone || h.sc == 0) = none := by
      rw [List.find?_eq_none]
      intro x hx
      have := hv x (hp.mem_iff.mpr hx)
      have h1 := this.1.1
      have h2 := this.2
      simp only [Bool.or_eq_true, beq_iff_eq, not_or]
      refine ⟨?_, by omega⟩
      cases hc : cut x.ident with
      | none => simp [hc] at h2
      | some v => simp
    have hany : ¬ ((a :: t).any (fun h => decide (h.sc < 0) || decide ((cut h.ident).getD 0 ≤ 0)) = true) := by
      rw [List.any_eq_true]
      rintro ⟨x, hx, hc⟩
      have := (hv x (hp.mem_iff.mpr hx)).1
      simp only [Valid] at this
      simp only [Bool.or_eq_true, decide_eq_true_eq] at hc
      omega
    simp only [removeOverlapping, hfind, hany, if_false, Bool.false_eq_true]
    rw [ho, core_perm _ _ hp]

end ASV.HitFilter
