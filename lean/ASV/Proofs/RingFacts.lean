/-
  C05 on circular records: what the C04 closed form of `connect_locations` on a ring gives for
  candidate clusters (shape of a connected span, origin-spanning spans, their union), and with it the
  group of the origin-crossing step of the interleaved pass.
-/
import ASV.Proofs.Passes
import ASV.Proofs.LocConnectRingArc
import ASV.Proofs.LocOffset
namespace ASV.CC
open ASV.CC.Spec

/-- the two shapes `connect_locations` returns on a ring: one part, or `[a, L) + [0, b)` forward -/
def Shaped (L : Int) (r : Loc) : Prop :=
  (∃ p, r = .simple p) ∨ ∃ a b, r = .compound [⟨a, L, .fwd⟩, ⟨0, b, .fwd⟩]

/-- an origin-spanning span `[a, L) + [0, b)`, forward, with `0 < b ≤ a < L` -/
def TwoArea (L : Int) (r : Loc) : Prop := ∃ a b, r = areaTwo a b L .fwd ∧ 0 < b ∧ b ≤ a ∧ a < L

theorem connect_ring_ok (ls : List Loc) (L : Int) (hne : ls ≠ []) (hL : 0 < L) (hin : ∀ l ∈ ls, RingIn L l) :
    ∃ r, connect ls (some L) = .ok r ∧ areaWF L L r = true ∧ Shaped L r ∧
      ∀ l ∈ ls, ∀ i, l.mem i = true → r.mem i = true := by
  have hrs : ls.map toR ≠ [] := by simpa using hne
  refine ⟨_, connect_ring_closed ls L hne hL hin, connR_wf _ L hL hrs (toR_ok L hL ls hin),
    connR_shape _ L hL hrs (toR_ok L hL ls hin), ?_⟩
  intro l hl i hi
  exact connR_covers _ L hL (toR_ok L hL ls hin) (toR l) (List.mem_map.2 ⟨l, hl, rfl⟩) i
    ((toR_spec L hL l (hin l hl)).2.2.2 i hi)

theorem twoParts_twoArea {L : Int} {r : Loc} (hs : Shaped L r) (hwf : areaWF L L r = true)
    (h2 : twoParts r = true) : TwoArea L r := by
  rcases hs with ⟨p, rfl⟩ | ⟨a, b, rfl⟩
  · simp [twoParts, Loc.parts] at h2
  · simp only [areaWF, Loc.parts, Bool.and_eq_true, decide_eq_true_eq] at hwf
    exact ⟨a, b, rfl, by omega, by omega, by omega⟩

theorem twoArea_strict {L : Int} {r : Loc} (h : TwoArea L r) : RingInStrict L r := by
  obtain ⟨a, b, rfl, h1, h2, h3⟩ := h
  exact Or.inr (Or.inl ⟨a, b, .fwd, by decide, rfl, h1, h2, h3⟩)

theorem twoArea_mem {L : Int} {a b : Int} (i : Int) :
    (areaTwo a b L .fwd).mem i = true ↔ (a ≤ i ∧ i < L) ∨ (0 ≤ i ∧ i < b) := by
  simp only [areaTwo]; rw [mem_two]

theorem twoArea_nonEmpty {L : Int} {r : Loc} (h : TwoArea L r) : r.PartsNonEmpty := by
  obtain ⟨a, b, rfl, h1, h2, h3⟩ := h
  intro p hp
  simp only [areaTwo, Loc.parts, List.mem_cons, List.mem_nil_iff, or_false] at hp
  rcases hp with rfl | rfl <;> simp <;> omega

/-- two origin-spanning spans always overlap (both contain the last base of the record) -/
theorem twoArea_overlap {L : Int} {r s : Loc} (hr : TwoArea L r) (hs : TwoArea L s) : locationsOverlap r s = true := by
  apply (locationsOverlap_iff r s (twoArea_nonEmpty hr) (twoArea_nonEmpty hs)).2
  obtain ⟨a, b, rfl, h1, h2, h3⟩ := hr
  obtain ⟨c, d, rfl, h4, h5, h6⟩ := hs
  exact ⟨L - 1, (twoArea_mem _).2 (Or.inl ⟨by omega, by omega⟩), (twoArea_mem _).2 (Or.inl ⟨by omega, by omega⟩)⟩

theorem toR_twoArea {L : Int} {a b : Int} (h1 : 0 < b) (h2 : b ≤ a) (h3 : a < L) :
    toR (areaTwo a b L .fwd) = .two a b := toR_areaTwo a b L .fwd (by decide) h1 h2 h3

/-- connecting origin-spanning spans gives exactly the union of their bases -/
theorem connect_twoAreas_union (ls : List Loc) (L : Int) (hne : ls ≠ []) (hL : 0 < L) (h : ∀ l ∈ ls, TwoArea L l) :
    ∃ r, connect ls (some L) = .ok r ∧ ∀ i, r.mem i = true → ∃ l ∈ ls, l.mem i = true := by
  have hin : ∀ l ∈ ls, RingIn L l := fun l hl => (twoArea_strict (h l hl)).ringIn
  refine ⟨_, connect_ring_closed ls L hne hL hin, ?_⟩
  have hok := toR_ok L hL ls hin
  -- every reduced input is a `two`
  have htwo : ∀ r ∈ ls.map toR, ∃ l ∈ ls, ∃ a b, l = areaTwo a b L .fwd ∧ r = .two a b ∧ 0 < b ∧ b ≤ a ∧ a < L := by
    intro r hr
    obtain ⟨l, hl, rfl⟩ := List.mem_map.1 hr
    obtain ⟨a, b, rfl, h1, h2, h3⟩ := h l hl
    exact ⟨_, hl, a, b, rfl, toR_twoArea h1 h2 h3, h1, h2, h3⟩
  have hany : (ls.map toR).any RLoc.isTwo = true := by
    obtain ⟨l, hl⟩ := List.exists_mem_of_ne_nil ls hne
    obtain ⟨_, _, a, b, _, e, _⟩ := htwo (toR l) (List.mem_map.2 ⟨l, hl, rfl⟩)
    exact List.any_eq_true.2 ⟨toR l, List.mem_map.2 ⟨l, hl, rfl⟩, by rw [e]; rfl⟩
  intro i hi
  unfold connR at hi
  rw [if_pos hany] at hi
  generalize hrs : ls.map toR = rs at hi htwo hok
  match rs, hi, htwo, hok with
  | [], hi, _, _ =>
    have : ls.map toR ≠ [] := by simpa using hne
    exact absurd hrs this
  | [r], hi, htwo, _ =>
    obtain ⟨l, hl, a, b, e1, e2, _⟩ := htwo r List.mem_cons_self
    refine ⟨l, hl, ?_⟩
    rw [e1]
    simp only [connB, e2, RLoc.toLoc, fl] at hi
    exact hi
  | r1 :: r2 :: rest, hi, htwo, hok =>
    rw [connB_many] at hi
    have hpre : preOf L (r1 :: r2 :: rest) ≠ [] := by
      obtain ⟨_, _, a, b, _, e, _⟩ := htwo r1 List.mem_cons_self
      simp [preOf, e, RLoc.pre]
    have hpost : postOf L (r1 :: r2 :: rest) ≠ [] := by
      obtain ⟨_, _, a, b, _, e, _⟩ := htwo r1 List.mem_cons_self
      simp [postOf, e, RLoc.post]
    obtain ⟨⟨q1, hq1, e1⟩, _⟩ := hullP_attained _ hpre
    obtain ⟨_, ⟨q2, hq2, e2⟩⟩ := hullP_attained _ hpost
    -- the span attaining the smallest start, and the one attaining the largest end
    obtain ⟨ra, hra, hqa⟩ := List.mem_flatMap.1 hq1
    obtain ⟨la, hla, a, b, ela, era, ha1, ha2, ha3⟩ := htwo ra hra
    have hq1lo : q1.lo = a := by
      rw [era] at hqa
      simp only [RLoc.pre, List.mem_singleton] at hqa
      rw [hqa]; rfl
    obtain ⟨rb, hrb, hqb⟩ := List.mem_flatMap.1 hq2
    obtain ⟨lb, hlb, c, d, elb, erb, hb1, hb2, hb3⟩ := htwo rb hrb
    have hq2hi : q2.hi = d := by
      rw [erb] at hqb
      simp only [RLoc.post, List.mem_singleton] at hqb
      rw [hqb]; rfl
    split at hi
    · rw [mem_two] at hi
      simp only at hi
      rcases hi with hi | hi
      · exact ⟨la, hla, by rw [ela]; exact (twoArea_mem i).2 (Or.inl ⟨by omega, hi.2⟩)⟩
      · exact ⟨lb, hlb, by rw [elb]; exact (twoArea_mem i).2 (Or.inr ⟨hi.1, by omega⟩)⟩
    · rename_i hcond
      rw [mem_simple] at hi
      simp only at hi
      have hgt : (hullP (preOf L (r1 :: r2 :: rest))).lo < (hullP (postOf L (r1 :: r2 :: rest))).hi := by
        have : 0 < (hullP (preOf L (r1 :: r2 :: rest))).lo := by omega
        by_cases hh : (hullP (postOf L (r1 :: r2 :: rest))).hi ≤ (hullP (preOf L (r1 :: r2 :: rest))).lo
        · exact absurd ⟨this, hh⟩ hcond
        · omega
      by_cases hia : a ≤ i
      · exact ⟨la, hla, by rw [ela]; exact (twoArea_mem i).2 (Or.inl ⟨hia, hi.2⟩)⟩
      · exact ⟨lb, hlb, by rw [elb]; exact (twoArea_mem i).2 (Or.inr ⟨hi.1, by omega⟩)⟩

/-! ### the interleaved pass on a circular record

The group added by the origin-crossing step consists of protoclusters that are linked by chains of
units with overlapping cores, so the interleaved groups are exactly the chain classes of "cores
overlap" on every record. -/

theorem connect_nil (wrap : Option Int) : connect [] wrap = .error "value-error" := by
  simp [connect, connectLocations, bind, Except.bind, throw, throwThe, MonadExceptOf.throw]

/-- on a linear record there is no origin-crossing group -/
theorem crossGroup_none {cc : List CandC} {clusters : List Proto} {wrap : Option Int} {g : List Proto}
    (hno : ∀ x, x ∈ cc → twoParts x.2 = false) (h : CrossGroup cc clusters wrap g) : False := by
  obtain ⟨core, _, hc, _⟩ := h
  have : (cc.filter fun c => twoParts c.2) = [] := by
    rw [List.filter_eq_nil_iff]; intro x hx; simp [hno x hx]
  rw [this, List.map_nil, connect_nil] at hc
  cases hc

/-- the combined core of a candidate on a ring is well-formed and of one of the two shapes -/
theorem candCore_ring {L : Int} (hL : 0 < L) {c : Cand} {k : Loc} (hne : c.members ≠ [])
    (hin : ∀ m, m ∈ c.members → RingIn L m.core) (h : candCore (some L) c = .ok k) :
    areaWF L L k = true ∧ Shaped L k := by
  obtain ⟨r, hr, hwf, hsh, _⟩ := connect_ring_ok (c.members.map (·.core)) L (by simpa using hne) hL
    (fun l hl => by obtain ⟨m, hm, e⟩ := List.mem_map.1 hl; rw [← e]; exact hin m hm)
  simp only [candCore] at h
  rw [hr] at h
  injection h with h
  subst h
  exact ⟨hwf, hsh⟩

/-- the group of the origin-crossing step is chain-connected by overlapping cores -/
theorem crossGroup_linked {L : Int} (hL : 0 < L) {clusters : List Proto} {cands : List Cand} {cc : List CandC}
    (hcc : withCores (some L) cands = .ok cc)
    (hcv : ∀ c, c ∈ cands → c.members ≠ [] ∧ ∀ m, m ∈ c.members → RingIn L m.core)
    (hne : ∀ p, p ∈ clusters → p.core.PartsNonEmpty)
    {g : List Proto} (h : CrossGroup cc clusters (some L) g) :
    ∀ a b, a ∈ g → b ∈ g → Linked (overlapGroups (interleaveUnits clusters cc)) a b := by
  obtain ⟨core, u0, hcore, hu0c, hu0o, hu0g, helem⟩ := h
  -- every origin-spanning combined core is an origin-spanning span
  have htwo : ∀ x, x ∈ cc → twoParts x.2 = true → TwoArea L x.2 := by
    intro x hx h2
    have hc := hcv x.1 (withCores_fst hcc x hx)
    obtain ⟨hwf, hsh⟩ := candCore_ring hL hc.1 hc.2 (withCores_snd hcc x hx)
    exact twoParts_twoArea hsh hwf h2
  have hmemne : ∀ x, x ∈ cc → x.1.members ≠ [] := fun x hx => (hcv x.1 (withCores_fst hcc x hx)).1
  -- overlapping the connected span means overlapping one of the spans
  have hcross : ∀ u : Proto, u ∈ clusters → locationsOverlap u.core core = true →
      ∃ x, x ∈ cc ∧ twoParts x.2 = true ∧ locationsOverlap x.2 u.core = true := by
    intro u hu ho
    have hls : ∀ l, l ∈ (cc.filter fun c => twoParts c.2).map (·.2) → TwoArea L l := by
      intro l hl
      obtain ⟨x, hx, e⟩ := List.mem_map.1 hl
      rw [← e]
      exact htwo x (List.mem_filter.1 hx).1 (List.mem_filter.1 hx).2
    have hnel : (cc.filter fun c => twoParts c.2).map (·.2) ≠ [] := by
      intro e; rw [e, connect_nil] at hcore; cases hcore
    obtain ⟨r, hr, hunion⟩ := connect_twoAreas_union _ L hnel hL hls
    rw [hcore] at hr
    injection hr with hr
    subst hr
    -- a shared base lies in one of the spans
    have hcne : core.PartsNonEmpty := by
      obtain ⟨r', hr', hwf, hsh, _⟩ := connect_ring_ok _ L hnel hL (fun l hl => (twoArea_strict (hls l hl)).ringIn)
      rw [hcore] at hr'; injection hr' with hr'; subst hr'
      rcases hsh with ⟨p, rfl⟩ | ⟨a, b, rfl⟩
      · simp only [areaWF, Loc.parts, Bool.and_eq_true, decide_eq_true_eq] at hwf
        intro q hq; simp only [Loc.parts, List.mem_singleton] at hq; subst hq; omega
      · simp only [areaWF, Loc.parts, Bool.and_eq_true, decide_eq_true_eq] at hwf
        intro q hq
        simp only [Loc.parts, List.mem_cons, List.mem_nil_iff, or_false] at hq
        rcases hq with rfl | rfl <;> simp <;> omega
    obtain ⟨i, hiu, hic⟩ := (locationsOverlap_iff u.core core (hne u hu) hcne).1 ho
    obtain ⟨l, hl, hil⟩ := hunion i hic
    obtain ⟨x, hx, e⟩ := List.mem_map.1 hl
    refine ⟨x, (List.mem_filter.1 hx).1, (List.mem_filter.1 hx).2, ?_⟩
    rw [e]
    exact (locationsOverlap_iff l u.core (twoArea_nonEmpty (hls l hl)) (hne u hu)).2 ⟨i, hil, hiu⟩
  -- candidate unit + protocluster unit with overlapping cores: one set of the spec family
  have hcu : ∀ (x : CandC) (u : Proto), x ∈ cc → u ∈ clusters → locationsOverlap x.2 u.core = true →
      (x.1.members ++ [u]) ∈ overlapGroups (interleaveUnits clusters cc) := by
    intro x u hx hu ho
    refine mem_overlapGroups.2 ⟨⟨x.1.members, x.2⟩, ⟨[u], u.core⟩, ?_, ho, rfl⟩
    exact before_append.2 (Or.inr (Or.inl ⟨List.mem_map.2 ⟨x, hx, rfl⟩, List.mem_map.2 ⟨u, hu, rfl⟩⟩))
  -- two different origin-spanning candidates: one set of the spec family contains both
  have hxx : ∀ (x y : CandC), x ∈ cc → y ∈ cc → twoParts x.2 = true → twoParts y.2 = true → x ≠ y →
      ∀ a b, a ∈ x.1.members → b ∈ y.1.members → Linked (overlapGroups (interleaveUnits clusters cc)) a b := by
    intro x y hx hy h2x h2y hxy a b ha hb
    have ho := twoArea_overlap (htwo x hx h2x) (htwo y hy h2y)
    rcases before_total hx hy hxy with hbf | hbf
    · refine Linked.base (g := x.1.members ++ y.1.members) (mem_overlapGroups.2 ⟨⟨x.1.members, x.2⟩, ⟨y.1.members, y.2⟩, ?_, ho, rfl⟩)
        (List.mem_append.2 (Or.inl ha)) (List.mem_append.2 (Or.inr hb))
      exact before_append.2 (Or.inl (before_map (fun x : CandC => (⟨x.1.members, x.2⟩ : U)) hbf))
    · refine Linked.base (g := y.1.members ++ x.1.members) (mem_overlapGroups.2 ⟨⟨y.1.members, y.2⟩, ⟨x.1.members, x.2⟩, ?_,
          (by rw [locationsOverlap_comm]; exact ho), rfl⟩)
        (List.mem_append.2 (Or.inr ha)) (List.mem_append.2 (Or.inl hb))
      exact before_append.2 (Or.inl (before_map (fun x : CandC => (⟨x.1.members, x.2⟩ : U)) hbf))
  -- the anchor: `u0` and an origin-spanning candidate `x0` it overlaps
  obtain ⟨x0, hx0, h2x0, hox0⟩ := hcross u0 hu0c hu0o
  have hG0 := hcu x0 u0 hx0 hu0c hox0
  -- every member of an origin-spanning candidate is linked to `u0`
  have hmem_u0 : ∀ (x : CandC), x ∈ cc → twoParts x.2 = true → ∀ e, e ∈ x.1.members →
      Linked (overlapGroups (interleaveUnits clusters cc)) e u0 := by
    intro x hx h2x e he
    by_cases hxe : x = x0
    · subst hxe
      exact Linked.base hG0 (List.mem_append.2 (Or.inl he)) (List.mem_append.2 (Or.inr (by simp)))
    · obtain ⟨m0, hm0⟩ := List.exists_mem_of_ne_nil _ (hmemne x0 hx0)
      exact Linked.trans (hxx x x0 hx hx0 h2x h2x0 hxe e m0 he hm0)
        (Linked.base hG0 (List.mem_append.2 (Or.inl hm0)) (List.mem_append.2 (Or.inr (by simp))))
  have hall : ∀ e, e ∈ g → Linked (overlapGroups (interleaveUnits clusters cc)) e u0 := by
    intro e he
    rcases helem e he with ⟨x, hx, h2x, hex⟩ | ⟨hec, heo⟩
    · exact hmem_u0 x hx h2x e hex
    · obtain ⟨x, hx, h2x, hox⟩ := hcross e hec heo
      obtain ⟨m, hm⟩ := List.exists_mem_of_ne_nil _ (hmemne x hx)
      exact Linked.trans
        (Linked.base (hcu x e hx hec hox) (List.mem_append.2 (Or.inr (by simp))) (List.mem_append.2 (Or.inl hm)))
        (hmem_u0 x hx h2x m hm)
  intro a b ha hb
  exact Linked.trans (hall a ha) (linked_symm (hall b hb))

/-- the interleaved groups are exactly the chain classes of "cores overlap", on every record on which
    the group of the origin-crossing step is chain-connected -/
theorem findInterleaved_classes {wrap : Option Int} {clusters : List Proto} {cands : List Cand} {cc : List CandC}
    {ig : List (List Proto)} {un : List Proto} (h : findInterleaved clusters cands wrap = .ok (ig, un))
    (hcc : withCores wrap cands = .ok cc) (hn : clusters.Nodup) (hne : ∀ p, p ∈ clusters → p.core.PartsNonEmpty)
    (hX : ∀ g, CrossGroup cc clusters wrap g → Conn (overlapGroups (interleaveUnits clusters cc)) g) :
    ∀ a b, (∃ r, r ∈ ig ∧ a ∈ r ∧ b ∈ r) ↔ Linked (overlapGroups (interleaveUnits clusters cc)) a b := by
  obtain ⟨G, hG, h1, h2⟩ := findInterleaved_groups h hcc hn hne
  intro a b
  rw [hG, mergeSets_linked]
  refine ⟨linked_of_conn ?_, h1.linked⟩
  intro g hg x y hx hy
  rcases h2 g hg with ⟨g', hg', hsub⟩ | hcross
  · exact Linked.base hg' ((hsub x).1 hx) ((hsub y).1 hy)
  · exact hX g hcross x y hx hy

/-- linear records: there is no origin-crossing group -/
theorem findInterleaved_classes_linear {clusters : List Proto} {cands : List Cand} {cc : List CandC}
    {ig : List (List Proto)} {un : List Proto} (h : findInterleaved clusters cands none = .ok (ig, un))
    (hcc : withCores none cands = .ok cc) (hn : clusters.Nodup) (hne : ∀ p, p ∈ clusters → p.core.PartsNonEmpty) :
    ∀ a b, (∃ r, r ∈ ig ∧ a ∈ r ∧ b ∈ r) ↔ Linked (overlapGroups (interleaveUnits clusters cc)) a b :=
  findInterleaved_classes h hcc hn hne fun _ hg => (crossGroup_none (withCores_none_simple hcc) hg).elim

/-- circular records: the origin-crossing group is chain-connected by overlapping cores -/
theorem findInterleaved_classes_ring {L : Int} (hL : 0 < L) {clusters : List Proto} {cands : List Cand} {cc : List CandC}
    {ig : List (List Proto)} {un : List Proto} (h : findInterleaved clusters cands (some L) = .ok (ig, un))
    (hcc : withCores (some L) cands = .ok cc) (hn : clusters.Nodup) (hne : ∀ p, p ∈ clusters → p.core.PartsNonEmpty)
    (hcv : ∀ c, c ∈ cands → c.members ≠ [] ∧ ∀ m, m ∈ c.members → RingIn L m.core) :
    ∀ a b, (∃ r, r ∈ ig ∧ a ∈ r ∧ b ∈ r) ↔ Linked (overlapGroups (interleaveUnits clusters cc)) a b :=
  findInterleaved_classes h hcc hn hne fun _ hg => crossGroup_linked hL hcc hcv hne hg

end ASV.CC
