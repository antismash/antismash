/-
  C19: `Region.get_unique_protoclusters` — gathering by identity yields each object once, in order of
  first insertion; the stable sort only reorders, and the result is sorted by the key; what is said of
  the drawing for one delivery order holds for every permutation of the protoclusters.
-/
import ASV.Proofs.PackingBase
import ASV.Proofs.SortTheory
namespace ASV.Packing
open ASV ASV.Packing.Spec

/-- the set filled in iteration order is the spec's list: what was there, then of each new identity
    the first object -/
theorem foldl_setAdd : ∀ (l acc : List PObj),
    l.foldl setAdd acc = acc ++ (dedupId l).filter fun p => !acc.any (·.id == p.id)
  | [], acc => by simp [dedupId]
  | p :: ps, acc => by
    rw [List.foldl_cons, foldl_setAdd ps, dedupId, List.filter_cons, List.filter_filter]
    unfold setAdd
    by_cases hp : acc.any (·.id == p.id) = true
    · rw [if_pos hp, hp]
      simp only [Bool.not_true, Bool.false_eq_true, ↓reduceIte]
      congr 1
      apply List.filter_congr
      intro x _
      by_cases hx : x.id = p.id
      · simp [hx, hp]
      · simp [hx]
    · rw [if_neg hp]
      simp only [Bool.not_eq_true] at hp
      rw [hp]
      simp only [Bool.not_false, ↓reduceIte, List.append_assoc, List.singleton_append]
      congr 2
      apply List.filter_congr
      intro x _
      by_cases hx : x.id = p.id
      · simp [hx]
      · simp [List.any_append, bne, beq_eq_false_iff_ne.2 hx, beq_eq_false_iff_ne.2 (Ne.symm hx)]

theorem gather_eq (cands : List Cand) : gatherProtoclusters cands = regionProtos cands := by
  simp [gatherProtoclusters, regionProtos, foldl_setAdd]

theorem keyLe_total (a b : Int × Int × String) : keyLe a b = true ∨ keyLe b a = true := by
  simp only [keyLe, Bool.or_eq_true, Bool.and_eq_true, decide_eq_true_eq, beq_iff_eq]
  exact lex_total (lex_total (String.le_total _ _))

theorem keyLe_trans (a b c : Int × Int × String) : keyLe a b = true → keyLe b c = true → keyLe a c = true := by
  simp only [keyLe, Bool.or_eq_true, Bool.and_eq_true, decide_eq_true_eq, beq_iff_eq]
  exact lex_trans (lex_trans String.le_trans)

/-- the comparison `sorted(clusters, key=reduction)` makes between two objects -/
def leByKey (c : Ctx) (p q : PObj) : Bool := keyLe (reductionKey c p.feat) (reductionKey c q.feat)

theorem insertByKey_eq (c : Ctx) (p : PObj) (l : List PObj) : insertByKey c p l = Refine.insertBy (leByKey c) p l :=
  Refine.insertBy_unique (ins := insertByKey c) (fun _ => rfl) (fun _ _ _ => rfl) p l

theorem sortByKey_eq (c : Ctx) (l : List PObj) : sortByKey c l = Refine.sortBy (leByKey c) l :=
  Refine.foldr_eq_sortBy (ins := insertByKey c) (fun _ => rfl) (fun _ _ _ => rfl) l

theorem sortByKey_perm (c : Ctx) (l : List PObj) : (sortByKey c l).Perm l :=
  sortByKey_eq c l ▸ Refine.sortBy_perm _ l

theorem sortedByKey_of_pairwise (c : Ctx) : ∀ l : List PObj,
    l.Pairwise (fun p q => leByKey c p q = true) → sortedByKey c (l.map (·.feat)) = true
  | [], _ => rfl
  | [_], _ => rfl
  | p :: q :: rest, h => by
    rw [List.pairwise_cons] at h
    simp only [List.map_cons, sortedByKey, Bool.and_eq_true]
    exact ⟨h.1 q (by simp), sortedByKey_of_pairwise c (q :: rest) h.2⟩

theorem sortByKey_sorted (c : Ctx) (l : List PObj) : sortedByKey c ((sortByKey c l).map (·.feat)) = true :=
  sortedByKey_of_pairwise c _ (sortByKey_eq c l ▸
    Refine.sortBy_pairwise (le := leByKey c) (fun _ _ => keyLe_total _ _) (fun _ _ _ => keyLe_trans _ _ _) l)

theorem uniqueProtoclusters_perm (c : Ctx) (cands : List Cand) :
    (uniqueProtoclusters c cands).Perm (regionProtos cands) :=
  gather_eq cands ▸ sortByKey_perm c _

/-- well-formedness only looks at membership, so it transfers along a permutation -/
theorem inputOK_of_perm {c : Ctx} {subs cs : List Feat} {ps qs : List Feat} (hp : ps.Perm qs)
    (h : inputOK c ⟨subs, cs, qs⟩ = true) : inputOK c ⟨subs, cs, ps⟩ = true := by
  simp only [inputOK, Bool.and_eq_true, List.all_eq_true] at h ⊢
  exact ⟨h.1, fun x hx => h.2 x (hp.subset hx)⟩

theorem toDraw_perm {subs cs ps qs : List Feat} (hp : ps.Perm qs) :
    (toDraw ⟨subs, cs, ps⟩).Perm (toDraw ⟨subs, cs, qs⟩) := by
  simp only [toDraw]
  exact List.Perm.append_left _ hp

theorem complete_of_perm {L : Int} {subs cs ps qs : List Feat} {out : List Area} (hp : ps.Perm qs)
    (h : Complete L ⟨subs, cs, ps⟩ out) : Complete L ⟨subs, cs, qs⟩ out := by
  obtain ⟨ds, h1, ⟨ss, h2, h3⟩, h4⟩ := h
  exact ⟨ds, h1, ⟨ss, h2, h3.trans ((toDraw_perm hp).map _)⟩, h4⟩

end ASV.Packing
