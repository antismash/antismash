/-
  C06: circular records with origin-spanning areas.  A region covers every base of its
  children (closed form of `connect_locations` on a ring, C04), hence overlapping areas can never sit in two
  different (non-overlapping) regions: connected components are never split.
-/
import ASV.Proofs.Base.Except
import ASV.Proofs.LocConnectRingPerm
import ASV.Proofs.RegionsMade
import ASV.Proofs.RegionsComponents
import ASV.Proofs.LocConnectRingSpec
namespace ASV.Regions
open ASV ASV.Components

/-- an area of a circular record of length `L`: a single non-empty span inside the record, or an
    origin-spanning span `[x, L) + [0, y)` on the forward strand -/
def RingArea (L : Int) (l : Loc) : Prop :=
  LineArea L l ∨ ∃ x y, l = areaTwo x y L .fwd ∧ 0 < y ∧ y ≤ x ∧ x < L

theorem RingArea.ringIn {L : Int} {l : Loc} (h : RingArea L l) : RingIn L l := by
  rcases h with ⟨p, rfl, h0, h1, h2⟩ | ⟨x, y, rfl, hy0, hyx, hxL⟩
  · exact ⟨by simp [Loc.parts], by intro q hq; simp [Loc.parts] at hq; subst hq; exact ⟨h0, h1, h2⟩,
      fun h => by simp [bridgesOrigin] at h⟩
  · exact (RingInSpan.ringIn (Or.inr (Or.inl ⟨x, y, .fwd, rfl, hy0, hyx, hxL⟩)))

theorem RingArea.wf {L : Int} {l : Loc} (h : RingArea L l) : areaWF L L l = true := by
  rcases h with ⟨p, rfl, h0, h1, h2⟩ | ⟨x, y, rfl, hy0, hyx, hxL⟩
  · simp only [areaWF, Loc.parts, Bool.and_eq_true, decide_eq_true_eq]
    exact ⟨⟨h0, h1⟩, h2⟩
  · simp [areaWF, areaTwo, Loc.parts]
    omega

theorem mem_areaTwo (x y L i : Int) : (areaTwo x y L .fwd).mem i = true ↔ (x ≤ i ∧ i < L) ∨ (0 ≤ i ∧ i < y) := by
  simp only [areaTwo, mem_two]

theorem len_areaTwo (x y L : Int) : (areaTwo x y L .fwd).len = L - x + y := by
  simp only [areaTwo, len_two]; omega

theorem RingArea.nonEmpty {L : Int} {l : Loc} (h : RingArea L l) : l.PartsNonEmpty := by
  rcases h with ⟨p, rfl, h0, h1, h2⟩ | ⟨x, y, rfl, hy0, hyx, hxL⟩
  · intro q hq; simp [Loc.parts] at hq; subst hq; exact h1
  · intro q hq
    simp only [areaTwo, Loc.parts, List.mem_cons, List.not_mem_nil, or_false] at hq
    rcases hq with rfl | rfl <;> simp only <;> omega

/-- `location.parts[0].end` -/
def headEnd (l : Loc) : E Int := match l.parts with
  | p :: _ => pure p.hi
  | [] => throw "IndexError"

theorem regionWrap_eq (locs : List Loc) :
    regionWrap locs = (if locs.any bridgesOrigin then (locs.mapM headEnd >>= fun ends => pure (some (maxList ends)))
                       else pure none) := rfl

theorem RingArea.headEnd {L : Int} {l : Loc} (h : RingArea L l) :
    ∃ e, Regions.headEnd l = .ok e ∧ e ≤ L ∧
      (bridgesOrigin l = true → e = L) := by
  rcases h with ⟨p, rfl, h0, h1, h2⟩ | ⟨x, y, rfl, hy0, hyx, hxL⟩
  · exact ⟨p.hi, rfl, h2, fun h => by simp [bridgesOrigin] at h⟩
  · exact ⟨L, rfl, Int.le_refl _, fun _ => rfl⟩

theorem RingArea.line_of_not_bridging {L : Int} {l : Loc} (h : RingArea L l) (hb : bridgesOrigin l = false) :
    LineArea L l := by
  rcases h with h | ⟨x, y, rfl, hy0, hyx, hxL⟩
  · exact h
  · have := bridges_areaTwo x y L .fwd (by decide) hy0 hyx
    rw [this] at hb; cases hb

/-- the wrap point `Region.__init__` infers is the record length as soon as a child spans the origin -/
theorem regionWrap_ring {L : Int} (locs : List Loc) (h : ∀ l ∈ locs, RingArea L l) (hany : locs.any bridgesOrigin = true) :
    regionWrap locs = .ok (some L) := by
  obtain ⟨ends, hends⟩ := Base.mapM_ok_iff_forall.2 (fun l hl => let ⟨e, he, _⟩ := (h l hl).headEnd; ⟨e, he⟩)
  have hle : ∀ e ∈ ends, e ≤ L := by
    intro e he
    obtain ⟨l, hl, hle⟩ := (Base.mapM_ok_mem hends).1 he
    obtain ⟨e', he', hle', _⟩ := (h l hl).headEnd
    rw [he'] at hle
    cases hle
    exact hle'
  have hmem : L ∈ ends := by
    obtain ⟨l, hl, hb⟩ := List.any_eq_true.1 hany
    obtain ⟨e, he, _, hbr⟩ := (h l hl).headEnd
    exact (Base.mapM_ok_mem hends).2 ⟨l, hl, hbr hb ▸ he⟩
  rw [regionWrap_eq, if_pos hany, hends]
  simp only [bind, Except.bind, pure, Except.pure]
  rw [maxList_eq hmem hle]

/-- The location `Region.__init__` computes from children that are well-formed areas of a ring: with an
    origin-spanning child the inferred wrap point is the record length and the location is the closed form `connR` of
    C04; without one all children are single spans and the location is their hull. -/
theorem region_loc_ring {L : Int} (hL : 0 < L) {fs : List Feat} (hne : fs ≠ []) (hch : ∀ f ∈ fs, RingArea L f.loc)
    {w : Option Int} {loc : Loc} (hw : regionWrap (fs.map (·.loc)) = .ok w)
    (hconn : connect (fs.map (·.loc)) w = .ok loc) :
    ((fs.map (·.loc)).any bridgesOrigin = true ∧ w = some L ∧ (∀ r ∈ (fs.map (·.loc)).map toR, r.OK L) ∧
      loc = connR ((fs.map (·.loc)).map toR) L) ∨
    ((fs.map (·.loc)).any bridgesOrigin = false ∧ (∀ f ∈ fs, LineArea L f.loc) ∧ loc = hullLoc fs) := by
  have hlocs : ∀ l ∈ fs.map (·.loc), RingArea L l := by
    intro l hl
    obtain ⟨f, hf, rfl⟩ := List.mem_map.1 hl
    exact hch f hf
  have hne' : fs.map (·.loc) ≠ [] := by simpa using hne
  cases hany : (fs.map (·.loc)).any bridgesOrigin with
  | true =>
    rw [regionWrap_ring _ hlocs hany] at hw
    cases hw
    rw [connect_ring_closed _ L hne' hL (fun l hl => (hlocs l hl).ringIn)] at hconn
    cases hconn
    exact Or.inl ⟨rfl, rfl, toR_ok L hL _ (fun l hl => (hlocs l hl).ringIn), rfl⟩
  | false =>
    rw [regionWrap_eq, if_neg (by simp [hany])] at hw
    simp only [pure, Except.pure, Except.ok.injEq] at hw
    subst hw
    have hline : ∀ f ∈ fs, LineArea L f.loc := by
      intro f hf
      refine (hch f hf).line_of_not_bridging ?_
      have := List.any_eq_false.1 hany f.loc (List.mem_map.2 ⟨f, hf, rfl⟩)
      simpa using this
    rw [connect_line _ hne' (by
      intro l hl
      obtain ⟨f, hf, rfl⟩ := List.mem_map.1 hl
      exact (hline f hf).parts)] at hconn
    cases hconn
    refine Or.inr ⟨rfl, hline, ?_⟩
    simp only [hullLoc, List.map_map]
    rfl

/-- the closed form of `connect_locations` on a ring is again a well-formed area of the ring -/
theorem connR_ringArea {L : Int} (hL : 0 < L) {rs : List RLoc} (hne : rs ≠ []) (hok : ∀ r ∈ rs, r.OK L) :
    RingArea L (connR rs L) := by
  have hwf := connR_wf rs L hL hne hok
  rcases connR_shape rs L hL hne hok with ⟨p, hp⟩ | ⟨a, b, hab⟩
  · rw [hp] at hwf ⊢
    simp only [areaWF, Loc.parts, Bool.and_eq_true, decide_eq_true_eq] at hwf
    exact Or.inl ⟨p, rfl, hwf.1.1, hwf.1.2, hwf.2⟩
  · rw [hab] at hwf ⊢
    simp only [areaWF, Loc.parts, Bool.and_eq_true, decide_eq_true_eq] at hwf
    exact Or.inr ⟨a, b, rfl, by omega, by omega, by omega⟩

theorem region_ringArea {L : Int} (hL : 0 < L) {fs : List Feat} (hne : fs ≠ []) (hch : ∀ f ∈ fs, RingArea L f.loc)
    {w : Option Int} {loc : Loc} (hw : regionWrap (fs.map (·.loc)) = .ok w) (hconn : connect (fs.map (·.loc)) w = .ok loc) :
    RingArea L loc := by
  rcases region_loc_ring hL hne hch hw hconn with ⟨_, _, hok, rfl⟩ | ⟨_, hline, rfl⟩
  · exact connR_ringArea hL (by simpa using hne) hok
  · have hb := hull_bounds _ hne hline
    exact Or.inl ⟨_, rfl, hb.1, hb.2.1, hb.2.2⟩

/-- the location `Region.__init__` computes from areas of a circular record covers every base of every one of them -/
theorem region_covers {L : Int} (hL : 0 < L) {fs : List Feat} (hne : fs ≠ []) (hch : ∀ f ∈ fs, RingArea L f.loc)
    {w : Option Int} {loc : Loc} (hw : regionWrap (fs.map (·.loc)) = .ok w) (hconn : connect (fs.map (·.loc)) w = .ok loc) :
    ∀ f ∈ fs, ∀ i, f.loc.mem i = true → loc.mem i = true := by
  intro f hf i hi
  rcases region_loc_ring hL hne hch hw hconn with ⟨_, _, hok, rfl⟩ | ⟨_, hline, rfl⟩
  · exact connR_covers _ L hL hok (toR f.loc) (List.mem_map.2 ⟨f.loc, List.mem_map.2 ⟨f, hf, rfl⟩, rfl⟩) i
      ((toR_spec L hL f.loc (hch f hf).ringIn).2.2.2 i hi)
  · exact contains_subset _ _ (hull_contains _ hline f hf) i hi

/-- **Circular records, origin-spanning areas included** (conditional on `create_regions` returning):
    areas linked by a chain of overlaps always end up in the same region — a connected component is never
    split over two regions.  (The converse — a region holds only one component — is what fails inside
    `KF-C06-half-record-component`.) -/
theorem ring_components_not_split (s s' : State) (hL : 0 < s.len) (hi : Inv s) (hreg : s.regions = [])
    (hring : ∀ f ∈ s.cands ++ s.subs, RingArea s.len f.loc) (h : createRegions s = .ok s')
    (a b : Feat) (ha : a ∈ s.cands ++ s.subs) (hl : Linked (areasOf s) (toArea a) (toArea b)) :
    ∀ r ∈ s'.regions, a.id ∈ memberIds r → b.id ∈ memberIds r := by
  obtain ⟨hi', hsame⟩ := createRegions_inv hi h
  have hcovers := createRegions_covers hi hreg h
  have hc : s'.cands = s.cands := hsame.cands
  have hs : s'.subs = s.subs := hsame.subs
  have hcov : ∀ r ∈ s'.regions, r.loc.PartsNonEmpty ∧
      ∀ f ∈ s.cands ++ s.subs, f.id ∈ memberIds r → ∀ i, f.loc.mem i = true → r.loc.mem i = true := by
    intro r hr
    obtain ⟨_, _, sec, _, m⟩ := createRegions_made hi hreg h r hr
    obtain ⟨w, hw, hconn⟩ := m.loc
    have hch : ∀ f ∈ childrenOf sec.2, RingArea s.len f.loc := fun f hf => hring f (m.sub f hf)
    exact ⟨(region_ringArea hL m.ne hch hw hconn).nonEmpty,
      fun f hf hm => region_covers hL m.ne hch hw hconn f (m.listed hf hm)⟩
  suffices hgen : ∀ A B, Linked (areasOf s) A B → ∀ r ∈ s'.regions, A.1 ∈ memberIds r → B.1 ∈ memberIds r from
    hgen _ _ hl
  intro A B hAB
  induction hAB with
  | refl _ => intro r _ h; exact h
  | step hab hcm hshare ih =>
    rename_i B' C
    intro r hr hA
    have hB := ih r hr hA
    obtain ⟨b', hb', rfl⟩ := List.mem_map.1 hab.mem_right
    obtain ⟨c, hc', rfl⟩ := List.mem_map.1 hcm
    obtain ⟨rc, hrc, _, hcin⟩ := hcovers.2 c (by rw [hc, hs]; exact hc')
    obtain ⟨i, hi1, hi2⟩ := hshare
    have h1 := (hcov r hr).2 b' hb' hB i hi1
    have h2 := (hcov rc hrc).2 c hc' hcin i hi2
    have hov : locationsOverlap r.loc rc.loc = true :=
      (locationsOverlap_iff _ _ (hcov r hr).1 (hcov rc hrc).1).2 ⟨i, h1, h2⟩
    rcases pairwise_mem hi'.disjointR hr hrc with rfl | h3 | h3
    · exact hcin
    · rw [h3] at hov; cases hov
    · rw [locationsOverlap_comm, h3] at hov; cases hov

end ASV.Regions
