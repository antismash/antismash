/-
  Helper lemmas for C13: `remove_incomplete` is the documented three-stage rule.
-/
import ASV.Proofs.RefineOrder
namespace ASV.Refine

/-! Shares and ranks are fractions compared by cross-multiplication: `a / La ≤ b / Lb` is written
    `a * Lb ≤ b * La`.  With positive denominators this order is transitive. -/

theorem cross_le_trans {a b c La Lb Lc : Int} (hb : 0 < Lb) (hLa : 0 ≤ La) (hLc : 0 ≤ Lc)
    (h1 : a * Lb ≤ b * La) (h2 : b * Lc ≤ c * Lb) : a * Lc ≤ c * La := by
  refine Int.le_of_mul_le_mul_right ?_ hb
  calc a * Lc * Lb = a * Lb * Lc := Int.mul_right_comm ..
    _ ≤ b * La * Lc := Int.mul_le_mul_of_nonneg_right h1 hLc
    _ = b * Lc * La := Int.mul_right_comm ..
    _ ≤ c * Lb * La := Int.mul_le_mul_of_nonneg_right h2 hLa
    _ = c * La * Lb := Int.mul_right_comm ..

theorem cross_lt_of_lt_of_le {a b c La Lb Lc : Int} (hb : 0 < Lb) (hLa : 0 ≤ La) (hLc : 0 < Lc)
    (h1 : a * Lb < b * La) (h2 : b * Lc ≤ c * Lb) : a * Lc < c * La :=
  Int.not_le.1 fun h => Int.not_le.2 h1 (cross_le_trans hLc (Int.le_of_lt hb) hLa h2 h)

theorem cross_lt_of_le_of_lt {a b c La Lb Lc : Int} (hb : 0 < Lb) (hLa : 0 < La) (hLc : 0 ≤ Lc)
    (h1 : a * Lb ≤ b * La) (h2 : b * Lc < c * Lb) : a * Lc < c * La :=
  Int.not_le.1 fun h => Int.not_le.2 h2 (cross_le_trans hLa hLc (Int.le_of_lt hb) h h1)

theorem pos_of_cross {h b Lh Lb : Int} (hLh : 0 < Lh) (hLb : 0 < Lb) (hh : 0 < h) (hlt : h * Lb < b * Lh) : 0 < b := by
  have : 0 < h * Lb := Int.mul_pos hh hLb
  apply Int.pos_of_mul_pos_left (a := b) (b := Lh) (by omega) (by omega)

/-- `a` covers a strictly smaller share of its profile than `b` -/
def ShareLt (env : Env) (a b : Hit) : Prop := a.length * env.len b.prof < b.length * env.len a.prof

theorem shareLe_iff (env : Env) (a b : Hit) :
    shareLe env a b = true ↔ a.length * env.len b.prof ≤ b.length * env.len a.prof := by
  simp [shareLe]

theorem ShareLt.not_le {env : Env} {a b : Hit} (h : ShareLt env a b) : shareLe env b a = false := by
  simp only [shareLe, decide_eq_false_iff_not]
  simp only [ShareLt] at h
  omega

theorem ShareLt.le {env : Env} {a b : Hit} (h : ShareLt env a b) : shareLe env a b = true := by
  simp only [shareLe, decide_eq_true_eq]
  simp only [ShareLt] at h
  omega

theorem longer_some_iff {env : Env} {h b : Hit} : longer env h (some b) = true ↔ ShareLt env b h := by
  simp only [longer, ShareLt, decide_eq_true_eq, gt_iff_lt]

theorem longer_some_false_iff {env : Env} {h b : Hit} : longer env h (some b) = false ↔ shareLe env h b = true := by
  simp only [longer, shareLe, decide_eq_false_iff_not, decide_eq_true_eq, gt_iff_lt, Int.not_lt]

theorem longer_none_iff {env : Env} {h : Hit} : longer env h none = true ↔ 0 < h.length := by
  simp only [longer, decide_eq_true_eq, gt_iff_lt]

theorem longestScan_none (env : Env) : ∀ (best : Option Hit) (l : List Hit),
    longestScan env best l = none → best = none ∧ ∀ h ∈ l, h.length ≤ 0
  | best, [], h => ⟨h, fun _ hh => absurd hh List.not_mem_nil⟩
  | best, x :: t, h => by
    simp only [longestScan] at h
    split at h
    · exact absurd (longestScan_none env (some x) t h).1 (Option.some_ne_none x)
    · rename_i hx
      have ih := longestScan_none env best t h
      refine ⟨ih.1, ?_⟩
      intro y hy
      rcases List.mem_cons.mp hy with rfl | hy
      · rw [ih.1, longer_none_iff] at hx
        exact Int.not_lt.mp hx
      · exact ih.2 y hy

/-- where the scan's answer sits: either the incoming best survived, or the answer is the first
    hit with the largest share -/
theorem longestScan_some (env : Env) : ∀ (best : Option Hit) (l : List Hit) (b : Hit),
    (∀ h ∈ l, 0 < env.len h.prof) → (∀ c, best = some c → 0 < env.len c.prof ∧ 0 < c.length) →
    longestScan env best l = some b →
    (best = some b ∧ ∀ d ∈ l, longer env d (some b) = false) ∨
    (∃ as bs, l = as ++ b :: bs ∧ (∀ a ∈ as, ShareLt env a b) ∧ (∀ c, best = some c → ShareLt env c b) ∧
      0 < b.length ∧ ∀ d ∈ bs, shareLe env d b = true)
  | best, [], b, _, _, h => Or.inl ⟨h, fun _ hd => absurd hd List.not_mem_nil⟩
  | best, x :: t, b, hl, hbest, h => by
    have hlx : 0 < env.len x.prof := hl x List.mem_cons_self
    have hlt : ∀ h ∈ t, 0 < env.len h.prof := fun h hh => hl h (List.mem_cons_of_mem _ hh)
    simp only [longestScan] at h
    split at h
    · rename_i hx
      -- `x` becomes the best so far
      have hxpos : 0 < x.length := by
        cases best with
        | none => exact longer_none_iff.mp hx
        | some c => exact pos_of_cross (hbest c rfl).1 hlx (hbest c rfl).2 (longer_some_iff.mp hx)
      have hbx : ∀ c, best = some c → ShareLt env c x := by
        intro c hc
        subst hc
        exact longer_some_iff.mp hx
      rcases longestScan_some env (some x) t b hlt
          (fun c hc => Option.some.inj hc ▸ ⟨hlx, hxpos⟩) h with
        ⟨hb, hrest⟩ | ⟨as, bs, e, has, hc, hpos, hbs⟩
      · obtain rfl := Option.some.inj hb
        exact Or.inr ⟨[], t, rfl, fun _ ha => absurd ha List.not_mem_nil, hbx, hxpos,
          fun d hd => longer_some_false_iff.mp (hrest d hd)⟩
      · have hxb : ShareLt env x b := hc x rfl
        have hlb : 0 < env.len b.prof := hlt b (e ▸ List.mem_append_right as List.mem_cons_self)
        refine Or.inr ⟨x :: as, bs, congrArg (x :: ·) e, List.forall_mem_cons.mpr ⟨hxb, has⟩, ?_, hpos, hbs⟩
        intro c hc'
        exact cross_lt_of_lt_of_le hlx (Int.le_of_lt (hbest c hc').1) hlb (hbx c hc') (Int.le_of_lt hxb)
    · rename_i hx
      rcases longestScan_some env best t b hlt hbest h with ⟨hb, hrest⟩ | ⟨as, bs, e, has, hc, hpos, hbs⟩
      · refine Or.inl ⟨hb, List.forall_mem_cons.mpr ⟨?_, hrest⟩⟩
        rw [hb] at hx
        exact Bool.not_eq_true _ ▸ hx
      · have hlb : 0 < env.len b.prof := hlt b (e ▸ List.mem_append_right as List.mem_cons_self)
        refine Or.inr ⟨x :: as, bs, congrArg (x :: ·) e, List.forall_mem_cons.mpr ⟨?_, has⟩, hc, hpos, hbs⟩
        -- `x` did not beat the best so far, which `b` later beat (or there was none and `x` is empty)
        cases best with
        | none =>
          have h0 : x.length ≤ 0 := Int.not_lt.mp (fun h0 => hx (longer_none_iff.mpr h0))
          exact Int.lt_of_le_of_lt (Int.mul_nonpos_of_nonpos_of_nonneg h0 (Int.le_of_lt hlb)) (Int.mul_pos hpos hlx)
        | some c =>
          have hxc : shareLe env x c = true := longer_some_false_iff.mp (Bool.not_eq_true _ ▸ hx)
          exact cross_lt_of_le_of_lt (hbest c rfl).1 hlx (Int.le_of_lt hlb) ((shareLe_iff env x c).mp hxc) (hc c rfl)

theorem removeIncomplete_eq_spec (env : Env) (l : List Hit) (hl : ∀ h ∈ l, 0 < env.len h.prof) :
    removeIncomplete env l = specIncomplete env l := by
  simp only [removeIncomplete, specIncomplete, filter_isEmpty_eq, Bool.not_not, isComplete_eq]
  split
  · rfl
  · cases hscan : longestScan env none l with
    | none =>
      have hall := (longestScan_none env none l hscan).2
      simp only
      cases hfind : l.find? (fun b => l.all fun d => shareLe env d b) with
      | none => simp only [firstRegulator]; rfl
      | some b =>
        have hb : b ∈ l := List.mem_of_find?_eq_some hfind
        have : overThird env b = false := by
          simp only [overThird, decide_eq_false_iff_not]
          have h1 := hall b hb
          have h2 := hl b hb
          omega
        simp only [this, firstRegulator]
        rfl
    | some b =>
      rcases longestScan_some env none l b hl (by intro c hc; simp at hc) hscan with
        ⟨hb, _⟩ | ⟨as, bs, e, has, _, _, hbs⟩
      · simp at hb
      · have hfind : l.find? (fun b => l.all fun d => shareLe env d b) = some b := by
          rw [List.find?_eq_some_iff_append]
          refine ⟨?_, as, bs, e, ?_⟩
          · rw [List.all_eq_true]
            intro d hd
            rw [e] at hd
            rcases List.mem_append.mp hd with hd | hd
            · exact (has d hd).le
            · rcases List.mem_cons.mp hd with rfl | hd
              · simp [shareLe]
              · exact hbs d hd
          · intro a ha
            have hbl : b ∈ l := by rw [e]; simp
            have : (l.all fun d => shareLe env d a) = false := by
              rw [List.all_eq_false]
              exact ⟨b, hbl, by rw [(has a ha).not_le]; simp⟩
            simp [this]
        simp only [hfind, overFallback_eq, firstRegulator]
        rfl

end ASV.Refine
