import ASV.Model.Continuations
import ASV.Proofs.Base.Except
namespace ASV.Continuations
open ASV ASV.Parser

/-- one `Parser(...)`: every list object that existed keeps its contents; the new object holds
    what parsing the text after the *value* of the given list yields -/
theorem parserRules_spec (cfg : Cfg) (st st' : Store) (ex : Option Nat) (text : String) (ref : Nat)
    (h : parserRules cfg st ex text = .ok (ref, st')) :
    ref = st.length ∧ (∀ i, i < st.length → st'[i]? = st[i]?) ∧
    ∃ given rules al, (match ex with | none => given = [] | some i => st[i]? = some given) ∧
      parseText cfg given [] text = .ok (rules, al) ∧ st'[ref]? = some rules ∧ st'.length = st.length + 1 := by
  unfold parserRules at h
  simp only [Base.bind_eq_ok, Prod.exists] at h
  obtain ⟨given, hg, rules, al, hp, h⟩ := h
  simp only [pure, Except.pure, Except.ok.injEq, Prod.mk.injEq] at h
  obtain ⟨rfl, rfl⟩ := h
  refine ⟨rfl, fun i hi => List.getElem?_append_left hi, given, rules, al, ?_, hp, by simp, by simp⟩
  cases ex with
  | none => simpa [pure, Except.pure] using hg.symm
  | some i =>
    simp only at hg ⊢
    cases hs : st[i]? with
    | none => rw [hs] at hg; cases hg
    | some l => rw [hs] at hg; simp [pure, Except.pure] at hg; rw [hg]

/-- any sequence of parses: list objects never change once they exist -/
theorem run_keeps (cfg : Cfg) : ∀ (steps : List (Option Nat × String)) (st : Store) (i : Nat),
    i < st.length → (run cfg steps st).2[i]? = st[i]? := by
  intro steps
  induction steps with
  | nil => intro st i _; rfl
  | cons s more ih =>
    intro st i hi
    obtain ⟨ex, text⟩ := s
    simp only [run]
    cases hp : parserRules cfg st ex text with
    | error e => simpa using ih st i hi
    | ok v =>
      obtain ⟨ref, st'⟩ := v
      obtain ⟨_, hkeep, _, _, _, _, _, _, hlen⟩ := parserRules_spec cfg st st' ex text ref hp
      simp only
      rw [ih st' i (by omega), hkeep i hi]

/-- what a parse continuing from the list object `b` hands back, read in store `st` -/
def outcome (st : Store) (o : Except Err Nat) : Except Err (List Rule) :=
  match o with
  | .ok ref => (match st[ref]? with | some l => .ok l | none => .error .attr)
  | .error e => .error e

theorem parserRules_value (cfg : Cfg) (st : Store) (b : Nat) (base : List Rule) (hb : st[b]? = some base)
    (text : String) :
    (match parserRules cfg st (some b) text with
     | .ok (ref, st') => st'[ref]? = ((parseText cfg base [] text).toOption.map (·.1)) ∧ st'[b]? = some base
         ∧ st.length < st'.length ∧ ref < st'.length
     | .error e => ∃ e', parseText cfg base [] text = .error e') := by
  cases hp : parserRules cfg st (some b) text with
  | ok v =>
    obtain ⟨ref, st'⟩ := v
    obtain ⟨hr, hkeep, given, rules, al, hg, hparse, hnew, hlen⟩ := parserRules_spec cfg st st' (some b) text ref hp
    simp only at hg
    rw [hb] at hg; cases hg
    have hbl : b < st.length := by
      rcases Nat.lt_or_ge b st.length with h | h
      · exact h
      · rw [List.getElem?_eq_none h] at hb; cases hb
    exact ⟨by rw [hnew, hparse]; rfl, by rw [hkeep b hbl, hb], by omega, by omega⟩
  | error e =>
    unfold parserRules at hp
    simp only [hb, bind, Except.bind, pure, Except.pure] at hp
    cases hq : parseText cfg base [] text with
    | error e' => exact ⟨e', rfl⟩
    | ok v => rw [hq] at hp; cases hp

/-- two continuations of the same base, one after the other: the second gives exactly what the text
    gives after the base rules — whatever the first continuation defined or whether it failed — and
    the base list still holds the base rules -/
theorem two_branches (cfg : Cfg) (st : Store) (b : Nat) (base : List Rule) (hb : st[b]? = some base) (x y : String) :
    ∃ ox oy fin, run cfg [(some b, x), (some b, y)] st = ([ox, oy], fin) ∧ fin[b]? = some base ∧
      (outcome fin oy).toOption = (parseText cfg base [] y).toOption.map (·.1) ∧
      (outcome fin ox).toOption = (parseText cfg base [] x).toOption.map (·.1) := by
  have hx := parserRules_value cfg st b base hb x
  simp only [run]
  cases hpx : parserRules cfg st (some b) x with
  | error e =>
    rw [hpx] at hx
    obtain ⟨e', he'⟩ := hx
    have hy := parserRules_value cfg st b base hb y
    cases hpy : parserRules cfg st (some b) y with
    | error e2 =>
      rw [hpy] at hy; obtain ⟨e2', he2⟩ := hy
      exact ⟨.error e, .error e2, st, rfl, hb, by simp [outcome, he2, Except.toOption], by simp [outcome, he', Except.toOption]⟩
    | ok v =>
      obtain ⟨ry, sty⟩ := v
      rw [hpy] at hy
      obtain ⟨h1, h2, _, _⟩ := hy
      refine ⟨.error e, .ok ry, sty, rfl, h2, ?_, by simp [outcome, he', Except.toOption]⟩
      simp only [outcome]
      rw [h1]
      cases parseText cfg base [] y <;> simp [Except.toOption]
  | ok vx =>
    obtain ⟨rx, stx⟩ := vx
    rw [hpx] at hx
    obtain ⟨hx1, hx2, hxl, hxr⟩ := hx
    have hy := parserRules_value cfg stx b base hx2 y
    cases hpy : parserRules cfg stx (some b) y with
    | error e2 =>
      rw [hpy] at hy; obtain ⟨e2', he2⟩ := hy
      refine ⟨.ok rx, .error e2, stx, by simp [hpy], hx2, by simp [outcome, he2, Except.toOption], ?_⟩
      simp only [outcome]
      rw [hx1]
      cases parseText cfg base [] x <;> simp [Except.toOption]
    | ok v =>
      obtain ⟨ry, sty⟩ := v
      rw [hpy] at hy
      obtain ⟨h1, h2, hyl, _⟩ := hy
      have hkeep : sty[rx]? = stx[rx]? := by
        obtain ⟨_, hk, _⟩ := parserRules_spec cfg stx sty (some b) y ry hpy
        exact hk rx hxr
      refine ⟨.ok rx, .ok ry, sty, by simp [hpy], h2, ?_, ?_⟩
      · simp only [outcome]; rw [h1]
        cases parseText cfg base [] y <;> simp [Except.toOption]
      · simp only [outcome]; rw [hkeep, hx1]
        cases parseText cfg base [] x <;> simp [Except.toOption]

end ASV.Continuations
