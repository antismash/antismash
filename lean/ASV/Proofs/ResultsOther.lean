/-
  C11: round trips of the sideloader annotations, the HMMer-based results and the TTA codon list;
  the PFAM database version the HMMer modules ask for.
-/
import ASV.Proofs.Results
import ASV.Proofs.SerialString
namespace ASV.Results
open ASV

attribute [results_json] optQMap optInt reqTool qmapJson

@[results_json]
theorem qualifierMapping_qmap (m : QMap) : qualifierMapping (m.map fun p => (p.1, jStrs p.2)) = .reuse m := by
  unfold qualifierMapping
  exact mapO_map (fun p : String × List String => (p.1, jStrs p.2)) _ m (fun p _ => by
    have := asStrs_jStrs p.2
    simp only [asStrs, jStrs] at this
    simp [jStrs, this])

theorem Tool.fromJson_toJson (t : Tool) (h : Tool.nameOk t.name = true) : Tool.fromJson t.toJson = .reuse t := by
  simp [results_json, Tool.toJson, Tool.fromJson, h]

theorem SubAnn.make_eq {start stop label tool details origin y}
    (h : SubAnn.make start stop label tool details origin = .reuse y) :
    y = ⟨origin, start, stop, label, details, tool⟩ := by
  unfold SubAnn.make at h
  have h := (refuse_guard_eq_reuse (refuse_guard_eq_reuse (refuse_guard_eq_reuse h).2).2).2
  cases h
  rfl

theorem SubAnn.fromJson_toJson (origin : Option Int) (s : SubAnn) (hv : s.valid origin = true) :
    SubAnn.fromJson origin s.toJson = .reuse s := by
  simp only [SubAnn.valid, Bool.and_eq_true, beq_iff_eq] at hv
  obtain ⟨⟨ho, hm⟩, hn⟩ := hv
  obtain ⟨y, hy⟩ := isReuse_elim hm
  have hy' := SubAnn.make_eq hy
  have ht := Tool.fromJson_toJson s.tool hn
  subst ho
  simp [results_json, SubAnn.toJson, SubAnn.fromJson, ht, hy, hy']

theorem ProtoAnn.make_eq {cs ce product tool details nl nr origin y}
    (h : ProtoAnn.make cs ce product tool details nl nr origin = .reuse y) :
    y = ⟨origin, cs, ce, product, tool, details, nl, nr⟩ := by
  unfold ProtoAnn.make at h
  by_cases ho : (!originOn origin) = true
  · rw [if_pos ho] at h
    have h := (refuse_guard_eq_reuse (refuse_guard_eq_reuse (refuse_guard_eq_reuse h).2).2).2
    cases h
    rfl
  · rw [if_neg ho] at h
    have h := (refuse_guard_eq_reuse (refuse_guard_eq_reuse h).2).2
    cases h
    rfl

theorem ProtoAnn.fromJson_toJson (origin : Option Int) (p : ProtoAnn) (hv : p.valid origin = true) :
    ProtoAnn.fromJson origin p.toJson = .reuse p := by
  simp only [ProtoAnn.valid, Bool.and_eq_true, beq_iff_eq] at hv
  obtain ⟨⟨ho, hn⟩, hm⟩ := hv
  obtain ⟨y, hy⟩ := isReuse_elim hm
  have hy' := ProtoAnn.make_eq hy
  have ht := Tool.fromJson_toJson p.tool hn
  subst ho
  simp [results_json, ProtoAnn.toJson, ProtoAnn.fromJson, ht, hy, hy']

theorem Sideloaded.fromJson_toJson (ctx : Ctx) (x : Sideloaded) (hv : x.valid ctx = true) :
    Sideloaded.fromJson ctx x.toJson = .reuse x := by
  simp only [Sideloaded.valid, Bool.and_eq_true, List.all_eq_true, beq_iff_eq] at hv
  obtain ⟨⟨hid, hs⟩, hp⟩ := hv
  have h1 := mapO_roundtrips (SubAnn.fromJson_toJson ctx.origin) x.subregions hs
  have h2 := mapO_roundtrips (ProtoAnn.fromJson_toJson ctx.origin) x.protoclusters hp
  simp [results_json, Sideloaded.toJson, Sideloaded.fromJson, Sideloaded.schemaVersion, h1, h2, ← hid]

theorem HmmerHit.make_eq {h y : HmmerHit} (hm : HmmerHit.make h = .reuse y) : y = h := by
  unfold HmmerHit.make at hm
  have h := (refuse_guard_eq_reuse (refuse_guard_eq_reuse hm).2).2
  cases h
  rfl

theorem HmmerHit.fromJson_toJson (h : HmmerHit) (hv : h.valid = true) : HmmerHit.fromJson h.toJson = .reuse h := by
  obtain ⟨y, hy⟩ := isReuse_elim hv
  have := HmmerHit.make_eq hy
  subst this
  cases y
  simpa [HmmerHit.toJson, HmmerHit.fromJson, HmmerHit.kwStr, HmmerHit.kwInt, HmmerHit.kwNum, lookup] using hy

theorem HmmerRes.fromJson_toJson (ctx : Ctx) (x : HmmerRes) (hid : x.recordId = ctx.recordId)
    (hh : ∀ h ∈ x.hits, HmmerHit.valid h = true) :
    HmmerRes.fromJson ctx x.toJson = .reuse x := by
  have h1 := mapO_roundtrips HmmerHit.fromJson_toJson x.hits hh
  simp [results_json, HmmerRes.toJson, HmmerRes.fromJson, HmmerRes.schemaVersion, h1, ← hid]

theorem TTA.codons_roundtrip (l : List Loc) (h : TTA.locsOk l = true) :
    mapO TTA.codonFromJson (l.map fun c => J.str (locToString c)) = .reuse l := by
  simp only [TTA.locsOk, List.all_eq_true] at h
  exact mapO_map _ _ l (fun c hc => by
    have : c.parts ≠ [] := by
      have := h c hc
      intro hn; rw [hn] at this; simp at this
    simp [TTA.codonFromJson, locFromString_locToString c this])

theorem versionKeys_mem : ∀ (l : List String) (r : List (List Nat × String)), versionKeys l = some r →
    ∀ p ∈ r, p.2 ∈ l
  | [], r, h, p, hp => by simp [versionKeys] at h; subst h; cases hp
  | v :: vs, r, h, p, hp => by
    simp only [versionKeys] at h
    split at h
    · rename_i k r' hk hr
      simp at h; subst h
      rcases List.mem_cons.mp hp with rfl | hp'
      · simp
      · exact List.mem_cons_of_mem _ (versionKeys_mem vs r' hr p hp')
    · simp at h

theorem foldl_pick_mem {α} (f : α → α → α) (hf : ∀ a b, f a b = a ∨ f a b = b) :
    ∀ (l : List α) (b : α), l.foldl f b ∈ b :: l
  | [], b => List.mem_singleton.mpr rfl
  | c :: cs, b => by
    rcases List.mem_cons.mp (foldl_pick_mem f hf cs (f b c)) with h | h
    · rw [List.foldl_cons, h]
      rcases hf b c with h' | h'
      · rw [h']; exact List.mem_cons_self
      · rw [h']; exact List.mem_cons_of_mem _ List.mem_cons_self
    · exact List.mem_cons_of_mem _ (List.mem_cons_of_mem _ h)

/-- each module resolves its own option only -/
theorem PfamOpts.wanted_cluster_ignores_full (o : PfamOpts) (other : String) :
    PfamOpts.wanted .cluster { o with fullVersion := other } = PfamOpts.wanted .cluster o := rfl

theorem PfamOpts.wanted_full_ignores_cluster (o : PfamOpts) (other : String) :
    PfamOpts.wanted .full { o with clusterVersion := other } = PfamOpts.wanted .full o := rfl

theorem pfamKeepAllowed_eq (m : HmmerModule) (o : PfamOpts) (v : String) :
    Spec.pfamKeepAllowed m o v = (o.wanted m == v) := by
  cases m <;> rfl

end ASV.Results
