/-
  C15 helper lemmas: `find_all_orfs` composed with the record's own gene lookup (C08's model of
  `Record.get_cds_features_within_location`): no ORF found shares more than `max_overlap` bases
  with ANY gene of the record — the genes the lookup hands over because the gap search steers
  clear of them, all the others because they share no base with the searched stretch.
-/
import ASV.Proofs.OrfGaps
import ASV.Proofs.OrfArea
import ASV.Proofs.LookupOk
import ASV.Proofs.LocConnect
namespace ASV.Orf
open ASV

/-- an exon shares with a stretch no more than the gene's hull `[location.start, location.end)` does -/
theorem exonOverlap_le_hull {g : Lookup.Gene} {gp : Part} (hgp : gp ∈ g.loc.parts) (x y : Int) :
    exonOverlap gp x y ≤ overlapSize (geneOf g) x y := by
  obtain ⟨h1, h2⟩ := start_le_part g.loc gp hgp
  unfold exonOverlap overlapSize geneOf
  exact Int.max_le.2 ⟨Int.le_max_left _ _, Int.le_trans
    (Int.sub_le_sub (Int.le_min.2 ⟨Int.min_le_left _ _, Int.le_trans (Int.min_le_right _ _) h2⟩)
      (Int.max_le.2 ⟨Int.le_max_left _ _, Int.le_trans h1 (Int.le_max_right _ _)⟩))
    (Int.le_max_right _ _)⟩

theorem exonOverlap_mono (gp : Part) {lo hi lo' hi' : Int} (h1 : lo ≤ lo') (h2 : hi' ≤ hi) :
    exonOverlap gp lo' hi' ≤ exonOverlap gp lo hi := by
  unfold exonOverlap
  exact Int.max_le.2 ⟨Int.le_max_left _ _, Int.le_trans
    (Int.sub_le_sub (Int.le_min.2 ⟨Int.le_trans (Int.min_le_left _ _) h2, Int.min_le_right _ _⟩)
      (Int.max_le.2 ⟨Int.le_trans h1 (Int.le_max_left _ _), Int.le_max_right _ _⟩))
    (Int.le_max_right _ _)⟩

/-- no exon of any gene of the record shares more than `pad` bases with any stretch inside `x` -/
def AreaClear (genes : List Lookup.Gene) (pad : Int) (x : Int × Int) : Prop :=
  ∀ lo hi, x.1 ≤ lo → hi ≤ x.2 → ∀ g ∈ genes, ∀ gp ∈ g.loc.parts, exonOverlap gp lo hi ≤ pad

theorem AreaClear.mono {genes : List Lookup.Gene} {pad : Int} {x y : Int × Int} (h : AreaClear genes pad x)
    (h1 : x.1 ≤ y.1) (h2 : y.2 ≤ x.2) : AreaClear genes pad y :=
  fun lo hi a b => h lo hi (Int.le_trans h1 a) (Int.le_trans b h2)

/-- the gap search reads the genes' hulls, so every area is clear of every exon of every gene
    handed to it -/
theorem findIntergenic_exons {start «end» minLen pad : Int} {genes : List Lookup.Gene} (hpad : 0 ≤ pad)
    {a : Int × Int} (ha : a ∈ findIntergenic start «end» (genes.map geneOf) minLen pad) :
    AreaClear genes pad a :=
  fun x y hx hy g hg _ hgp => Int.le_trans (exonOverlap_le_hull hgp x y)
    (findIntergenic_overlap hpad ha (List.mem_map.2 ⟨g, hg, rfl⟩) hx hy)

theorem within_simple_filter (genes : List Lookup.Gene) (hs : Lookup.Sorted genes) (hok : Lookup.GenesOK genes)
    (p : Part) (h0 : 0 ≤ p.lo) (h1 : p.lo < p.hi) :
    Lookup.within genes (.simple p) true = genes.filter fun g => Lookup.specKeeps true g.loc (.simple p) := by
  have hq : Lookup.QueryOK (.simple p) :=
    ⟨by simp [Loc.parts], fun x hx => by simp [Loc.parts] at hx; subst hx; exact ⟨h0, h1⟩⟩
  rw [Lookup.within_eq_spec hs hok _ true hq]
  simp [Lookup.specWithin, Loc.parts]

/-- one part of the search: the genes come from the record's lookup for `[st, en)`; every area is
    clear of every gene of the record -/
theorem part_search_clear {genes : List Lookup.Gene} (hs : Lookup.Sorted genes) (hok : Lookup.GenesOK genes)
    {st en minLen pad : Int} {strand : Strand} (hpad : 0 ≤ pad)
    (h0 : 0 ≤ st) (h1 : st < en) {a : Int × Int}
    (ha : a ∈ findIntergenic st en ((Lookup.within genes (.simple ⟨st, en, strand⟩) true).map geneOf) minLen pad) :
    AreaClear genes pad a := by
  intro x y hx hy g hg gp hgp
  rw [within_simple_filter genes hs hok ⟨st, en, strand⟩ h0 h1] at ha
  by_cases hk : Lookup.specKeeps true g.loc (.simple ⟨st, en, strand⟩) = true
  · exact findIntergenic_exons hpad ha x y hx hy g (List.mem_filter.2 ⟨hg, hk⟩) gp hgp
  · -- the lookup leaves `g` out: it shares no base with `[st, en)`, and the area lies inside
    obtain ⟨s1, s2, _⟩ := findIntergenic_bounds ha
    have hne : gp.lo < gp.hi := ((hok g hg).2.1 gp hgp).2
    have hdis : gp.hi ≤ st ∨ en ≤ gp.lo := by
      apply Classical.byContradiction
      intro hd
      apply hk
      simp only [Lookup.specKeeps, if_true, Lookup.specShares]
      rw [sharesPts_iff]
      refine ⟨max gp.lo st, ?_, ?_⟩
      · simp only [Loc.mem, List.any_eq_true]
        exact ⟨gp, hgp, by rw [Part.mem_iff]; omega⟩
      · simp only [Loc.mem, Loc.parts, List.any_cons, List.any_nil, Bool.or_false, Part.mem_iff]; omega
    unfold exonOverlap
    omega

/-- what the scanning loop needs of an area: well-formed, and clear of the genes — as it stands,
    or, reaching back over the origin, in both of the stretches it stands for -/
structure AreaGood (L : Int) (genes : List Lookup.Gene) (pad : Int) (x : Int × Int) : Prop where
  ok : AreaOk L x
  clear : x.1 ≥ 0 → AreaClear genes pad x
  clearOver : ¬ x.1 ≥ 0 → AreaClear genes pad (x.1 + L, L) ∧ AreaClear genes pad (0, x.2)

/-- a clear area found for a stretch `[st, en)` inside the record is good: it does not reach back
    over the origin -/
theorem findIntergenic_good {L st en minLen pad : Int} {W : List Gene} {genes : List Lookup.Gene}
    (h0 : 0 ≤ st) (hen : en ≤ L) (hmin : 0 ≤ minLen) {a : Int × Int}
    (ha : a ∈ findIntergenic st en W minLen pad) (hc : AreaClear genes pad a) : AreaGood L genes pad a := by
  obtain ⟨hok, hnn⟩ := findIntergenic_areaOk (L := L) h0 hen hmin ha
  exact ⟨hok, fun _ => hc, fun h => absurd hnn h⟩

/-- every ORF found in good areas shares at most `pad` bases with any gene of the record -/
theorem scanAreas_overlapOk {rec : Seq} {minLen pad : Int} {genes : List Lookup.Gene} (hL : 0 < rec.length)
    {areas : List (Int × Int)} {locs : List Loc} (hgood : ∀ x ∈ areas, AreaGood rec.length genes pad x)
    (h : scanAreas rec minLen areas = some locs) :
    ∀ l ∈ locs, locOverlapOk (genes.map (·.loc)) pad l = true := by
  intro l hl
  obtain ⟨x, hx, hin⟩ := scanAreas_in_areas hL (fun x hx => (hgood x hx).ok) h l hl
  simp only [locOverlapOk, List.all_eq_true, decide_eq_true_eq]
  intro q hq gl hgl gp hgp
  obtain ⟨g, hg, rfl⟩ := List.mem_map.1 hgl
  have hq2 := locInArea_part hin hq
  by_cases hx0 : x.1 ≥ 0
  · rw [if_pos hx0] at hq2
    exact (hgood x hx).clear hx0 q.lo q.hi hq2.1 hq2.2 g hg gp hgp
  · rw [if_neg hx0] at hq2
    rcases hq2 with ⟨c1, c2⟩ | ⟨c1, c2⟩
    · exact ((hgood x hx).clearOver hx0).1 q.lo q.hi c1 c2 g hg gp hgp
    · exact ((hgood x hx).clearOver hx0).2 q.lo q.hi c1 c2 g hg gp hgp

/-- whole-record search and search of a single-stretch area: no ORF found shares more than `pad`
    bases with any gene of the record -/
theorem findAllOrfsRec_overlap_linear {rec : Seq} {genes : List Lookup.Gene} (hs : Lookup.Sorted genes)
    (hok : Lookup.GenesOK genes) {area : Option Part} {minLen pad : Int}
    (hL : 0 < rec.length) (hpad : 0 ≤ pad) (hmin : 0 ≤ minLen)
    (harea : ∀ p, area = some p → 0 ≤ p.lo ∧ p.lo < p.hi ∧ p.hi ≤ rec.length)
    {locs : List Loc} (h : findAllOrfsRec rec genes (area.map Loc.simple) minLen pad = some locs) :
    ∀ l ∈ locs, locOverlapOk (genes.map (·.loc)) pad l = true := by
  cases area with
  | none =>
    have h' : scanAreas rec minLen (findIntergenic 0 rec.length (genes.map geneOf) minLen pad) = some locs := h
    exact scanAreas_overlapOk hL (fun x hx => findIntergenic_good (Int.le_refl _) (Int.le_refl _) hmin hx
      (findIntergenic_exons hpad hx)) h'
  | some p =>
    obtain ⟨p0, p1, p2⟩ := harea p rfl
    have h' : scanAreas rec minLen (findIntergenic p.lo p.hi
        ((Lookup.within genes (.simple ⟨p.lo, p.hi, p.strand⟩) true).map geneOf) minLen pad) = some locs := h
    exact scanAreas_overlapOk hL (fun x hx => findIntergenic_good p0 p2 hmin hx
      (part_search_clear hs hok hpad p0 p1 hx)) h'

/-- search of an origin-crossing area `join{[a, L), [0, b)}` (`0 < b ≤ a < L`): no ORF found shares
    more than `pad` bases with any gene of the record -/
theorem findAllOrfsRec_overlap_crossing {rec : Seq} {genes : List Lookup.Gene} (hs : Lookup.Sorted genes)
    (hok : Lookup.GenesOK genes) {a b : Int} {s1 s2 : Strand} {minLen pad : Int}
    (hpad : 0 ≤ pad) (hmin : 0 ≤ minLen) (hb : 0 < b) (hba : b ≤ a) (haL : a < rec.length)
    (hcross : Lookup.crosses (.compound [⟨a, rec.length, s1⟩, ⟨0, b, s2⟩]) = true)
    {locs : List Loc}
    (h : findAllOrfsRec rec genes (some (.compound [⟨a, rec.length, s1⟩, ⟨0, b, s2⟩])) minLen pad = some locs) :
    ∀ l ∈ locs, locOverlapOk (genes.map (·.loc)) pad l = true := by
  simp only [findAllOrfsRec, recordParts, hcross, if_true, Loc.parts, List.map_cons, List.map_nil, findAllOrfs,
    orfAreas] at h
  cases hareas : crossOriginIntergenic
      [(a, (rec.length : Int), (Lookup.within genes (.simple ⟨a, rec.length, s1⟩) true).map geneOf),
        (0, b, (Lookup.within genes (.simple ⟨0, b, s2⟩) true).map geneOf)] rec.length minLen pad with
  | none => rw [hareas] at h; simp only [Option.bind_none, reduceCtorEq] at h
  | some areas =>
    rw [hareas] at h
    refine scanAreas_overlapOk (by omega) (fun x hx => ?_) h
    -- an area of the part before the origin, of the part after it, or the join of one of each
    rcases crossOrigin_sound hareas x hx with ⟨p, hp, hm⟩ | ⟨p, hp, q, hq, pre, hpre, post, hpost, e1, e2, rfl⟩
    · simp only [List.mem_cons, List.not_mem_nil, or_false] at hp
      rcases hp with rfl | rfl
      · exact findIntergenic_good (st := a) (en := rec.length) (by omega) (Int.le_refl _) hmin hm
          (part_search_clear (st := a) (en := rec.length) hs hok hpad (by omega) haL hm)
      · exact findIntergenic_good (st := 0) (en := b) (Int.le_refl _) (by omega) hmin hm
          (part_search_clear (st := 0) (en := b) hs hok hpad (Int.le_refl _) hb hm)
    · simp only [List.mem_cons, List.not_mem_nil, or_false] at hp hq
      obtain ⟨h1, h2, h3⟩ := findIntergenic_bounds hpre
      obtain ⟨k1, k2, k3⟩ := findIntergenic_bounds hpost
      rcases hp with rfl | rfl
      · rcases hq with rfl | rfl
        · simp only at k1
          omega
        · have c1 := part_search_clear (st := a) (en := rec.length) hs hok hpad (by omega) haL hpre
          have c2 := part_search_clear (st := 0) (en := b) hs hok hpad (Int.le_refl _) hb hpost
          simp only at h1 h2 k1 k2
          exact ⟨⟨by simp only; omega, by simp only; omega, by simp only; omega, by simp only; omega⟩,
            fun _ => c2.mono (by simp only; omega) (Int.le_refl _),
            fun _ => ⟨c1.mono (by simp only; omega) (by simp only; omega),
              c2.mono (by simp only; omega) (Int.le_refl _)⟩⟩
      · simp only at h2
        omega

/-- a location made of pieces of another one overlaps genes no more than that one does -/
theorem locOverlapOk_mono {gs : List Loc} {pad : Int} {l r : Loc}
    (hin : ∀ q ∈ r.parts, ∃ p ∈ l.parts, p.lo ≤ q.lo ∧ q.lo < q.hi ∧ q.hi ≤ p.hi ∧ q.strand = p.strand)
    (h : locOverlapOk gs pad l = true) : locOverlapOk gs pad r = true := by
  simp only [locOverlapOk, List.all_eq_true, decide_eq_true_eq] at h ⊢
  intro q hq gl hgl gp hgp
  obtain ⟨p, hp, h1, _, h3, _⟩ := hin q hq
  exact Int.le_trans (exonOverlap_mono gp h1 h3) (h p hp gl hgl gp hgp)

/-- `return sorted(new_features)` is the stable sort by `Feature.__lt__` -/
theorem sortLocs_eq (l : List Loc) : sortLocs l = Refine.sortBy (fun a b => !Lookup.locLt b a) l :=
  Refine.foldr_eq_sortBy_flip (ins := insertLoc) (fun _ => rfl) (fun _ _ _ => rfl) l

theorem sortLocs_perm (l : List Loc) : (sortLocs l).Perm l := by
  rw [sortLocs_eq]
  exact Refine.sortBy_perm _ l

theorem sortLocs_sorted (l : List Loc) : (sortLocs l).Pairwise fun a b => Lookup.locLt b a = false := by
  rw [sortLocs_eq]
  refine (Refine.sortBy_pairwise ?_ ?_ l).imp fun h => by simpa using h
  · intro a b
    simp only [Bool.not_eq_true', Lookup.locLt_false_iff]
    omega
  · intro a b c
    simp only [Bool.not_eq_true', Lookup.locLt_false_iff]
    omega

end ASV.Orf
