/-
  `sorted(container, key)` of C05's model (`CC.sortBy`, `_sorted_protoclusters`) is one list for every enumeration
  of the container when the key separates the members: C05's sort is `Refine.sortBy` for `a ≤ b := ¬ b < a`.
-/
import ASV.Proofs.Sort
import ASV.Model.Candidates
namespace ASV.Determinism
open ASV.CC

/-- a strict linear order on keys, as a Boolean `<` -/
structure StrictLinear {κ : Type} (ltK : κ → κ → Bool) : Prop where
  irrefl : ∀ a, ltK a a = false
  trans : ∀ a b c, ltK a b = true → ltK b c = true → ltK a c = true
  tri : ∀ a b, ltK a b = true ∨ a = b ∨ ltK b a = true

variable {α κ : Type} {ltK : κ → κ → Bool}

theorem StrictLinear.asymm (h : StrictLinear ltK) {a b : κ} (hab : ltK a b = true) : ltK b a = false := by
  cases hba : ltK b a with
  | false => rfl
  | true => have := h.trans a b a hab hba; rw [h.irrefl] at this; cases this

/-- `¬ b < a` and `¬ c < b` give `¬ c < a` -/
theorem StrictLinear.le_trans (h : StrictLinear ltK) {a b c : κ} (hab : ltK b a = false) (hbc : ltK c b = false) :
    ltK c a = false := by
  rcases h.tri a b with h1 | h1 | h1
  · rcases h.tri b c with h2 | h2 | h2
    · exact h.asymm (h.trans a b c h1 h2)
    · subst h2; exact h.asymm h1
    · rw [hbc] at h2; cases h2
  · subst h1; exact hbc
  · rw [hab] at h1; cases h1

/-- C05's `sorted` (insert after the last smaller-or-equal element, `<` given) is the `sorted` of `Refine`
    for the comparison `a ≤ b := ¬ b < a` -/
theorem ccInsertBy_eq_insertBy (lt : α → α → Bool) (x : α) (l : List α) :
    CC.insertBy lt x l = Refine.insertBy (fun a b => !lt b a) x l :=
  Refine.insertBy_unique_flip (ins := CC.insertBy lt) (fun _ => rfl) (fun _ _ _ => rfl) x l

theorem ccSortBy_eq_sortBy (lt : α → α → Bool) (l : List α) :
    CC.sortBy lt l = Refine.sortBy (fun a b => !lt b a) l :=
  Refine.foldr_eq_sortBy_flip (ins := CC.insertBy lt) (fun _ => rfl) (fun _ _ _ => rfl) l

/-- `sorted(container, key)` in C05's model is one list for all enumerations when the key separates
    the members -/
theorem ccSortBy_eq_of_perm (key : α → κ) (h : StrictLinear ltK) {l₁ l₂ : List α}
    (inj : ∀ a ∈ l₁, ∀ b ∈ l₁, key a = key b → a = b) (hp : l₁.Perm l₂) :
    CC.sortBy (fun a b => ltK (key a) (key b)) l₁ = CC.sortBy (fun a b => ltK (key a) (key b)) l₂ := by
  rw [ccSortBy_eq_sortBy, ccSortBy_eq_sortBy]
  refine Refine.sortBy_eq_of_perm_on (fun a b => ?_) (fun a b c hab hbc => ?_) (fun a ha b hb hab hba => ?_) hp
  · rcases h.tri (key a) (key b) with h1 | h1 | h1
    · exact Or.inl (by simp [h.asymm h1])
    · exact Or.inl (by simp [h1, h.irrefl])
    · exact Or.inr (by simp [h.asymm h1])
  · simp only [Bool.not_eq_true'] at hab hbc ⊢
    exact h.le_trans hab hbc
  · simp only [Bool.not_eq_true'] at hab hba
    rcases h.tri (key a) (key b) with h1 | h1 | h1
    · rw [hba] at h1; cases h1
    · exact inj a ha b hb h1
    · rw [hab] at h1; cases h1

/-- `(cluster.product, core_location.start, core_location.end)` -/
def tieKey (p : Proto) : String × Int × Int := (p.product, p.core.start, p.core.end)

def tieKeyLt (a b : String × Int × Int) : Bool :=
  decide (a.1 < b.1) || (a.1 == b.1 &&
    (decide (a.2.1 < b.2.1) || (a.2.1 == b.2.1 && decide (a.2.2 < b.2.2))))

theorem tieLt_eq : tieLt = fun a b => tieKeyLt (tieKey a) (tieKey b) := rfl

theorem tieKeyLt_linear : StrictLinear tieKeyLt where
  irrefl := by
    intro a
    simp [tieKeyLt, String.lt_irrefl]
  trans := by
    intro a b c
    simp only [tieKeyLt, Bool.or_eq_true, Bool.and_eq_true, decide_eq_true_eq, beq_iff_eq]
    exact lex_trans (lex_trans Int.lt_trans)
  tri := by
    intro a b
    simp only [tieKeyLt, Bool.or_eq_true, Bool.and_eq_true, decide_eq_true_eq, beq_iff_eq, Prod.ext_iff]
    exact lex_tri (lex_tri (Int.lt_trichotomy _ _))

/-- no two different protoclusters of the container agree on product and core coordinates -/
def TieInj (l : List Proto) : Prop := ∀ a ∈ l, ∀ b ∈ l, tieKey a = tieKey b → a = b

theorem TieInj.subset {l m : List Proto} (h : TieInj m) (hs : ∀ x, x ∈ l → x ∈ m) : TieInj l :=
  fun a ha b hb e => h a (hs a ha) b (hs b hb) e

theorem sortProtos_eq_of_perm {l₁ l₂ : List Proto} (inj : TieInj l₁) (hp : l₁.Perm l₂) :
    sortProtos l₁ = sortProtos l₂ := by
  simp only [sortProtos, tieLt_eq, ccSortBy_eq_of_perm tieKey tieKeyLt_linear inj hp]

end ASV.Determinism
