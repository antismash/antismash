/-
  C14 helper lemmas: `Good` modules (sound + constructed components) are preserved by
  `combine`; what one round of the caller loop of generate_domains does to the genes handled so
  far (`Round`), so that the loop never fails and its invariants are inductions over the rounds.
-/
import ASV.Proofs.ModulesCombineTop
namespace ASV.Modules
open T Spec

/-- sound, and every component is a constructed Component -/
def Good (m : Module) : Prop := Sound m ∧ ∀ c ∈ m.components, Known c

theorem combineOK_flat {s : Bool} {prev cur prev' cur' : List Module} {mg : Option (List Comp × Bool)}
    (h : combineOK s (prev.map view) (cur.map view) (prev'.map view) (cur'.map view) mg = true) :
    (prev' ++ cur').flatMap (·.components) = (prev ++ cur).flatMap (·.components) := by
  unfold combineOK at h
  simp only [Bool.and_eq_true, beq_iff_eq] at h
  have := h.1
  rw [← List.map_append, ← List.map_append, flatMap_view, flatMap_view] at this
  exact this

/-- `combine_modules` on good module lists: never fails, lists stay good, spec holds -/
theorem combine_good (cs ps : Int) (cur prev : List Module)
    (hp : ∀ m ∈ prev, Good m) (hc : ∀ m ∈ cur, Good m) :
    ∃ r, combine cs ps cur prev = .ok r ∧ (∀ m ∈ r.prev, Good m) ∧ (∀ m ∈ r.cur, Good m) ∧
      (∀ m, r.merged = some m → r.prev.getLast? = some m) ∧
      combineOK (cs == ps) (prev.map view) (cur.map view) (r.prev.map view) (r.cur.map view)
        (r.merged.map view) = true := by
  obtain ⟨r, hr, h1, h2, h3, h4⟩ := combine_spec cs ps cur prev (fun m hm => (hp m hm).1) (fun m hm => (hc m hm).1)
  have hflat := combineOK_flat h4
  have hknown : ∀ m ∈ r.prev ++ r.cur, ∀ c ∈ m.components, Known c := by
    intro m hm c hcm
    have : c ∈ (r.prev ++ r.cur).flatMap (·.components) := List.mem_flatMap.mpr ⟨m, hm, hcm⟩
    rw [hflat] at this
    obtain ⟨m0, hm0, hc0⟩ := List.mem_flatMap.mp this
    rcases List.mem_append.mp hm0 with h | h
    · exact (hp m0 h).2 c hc0
    · exact (hc m0 h).2 c hc0
  exact ⟨r, hr, fun m hm => ⟨h1 m hm, hknown m (List.mem_append_left _ hm)⟩,
         fun m hm => ⟨h2 m hm, hknown m (List.mem_append_right _ hm)⟩, h3, h4⟩

theorem build_good (ds : List Domain) (name : String) (hn : name.isEmpty = false)
    (hc : ∀ d ∈ ds, (classify d.label).isSome = true) :
    ∃ ms, build ds name = .ok ms ∧ ∀ m ∈ ms, Good m := by
  obtain ⟨ms, hb, hs, hflat, _⟩ := build_spec ds name hn hc
  refine ⟨ms, hb, fun m hm => ⟨(hs m hm).1, ?_⟩⟩
  intro c hcm
  have hmem : c ∈ ms.flatMap (·.components) := List.mem_flatMap.mpr ⟨m, hm, hcm⟩
  rw [hflat] at hmem
  obtain ⟨d, hd, rfl⟩ := List.mem_map.mp (List.mem_filter.mp hmem).1
  exact ⟨hc d ((mem_sortDomains ds d).mp hd), hn⟩

/-- different strands: `combine_modules` changes nothing -/
theorem combine_diff_strand (cs ps : Int) (cur prev : List Module) (h : cs ≠ ps) :
    combine cs ps cur prev = .ok ⟨none, prev, cur⟩ := by
  unfold combine
  have : (cs != ps) = true := by simpa [bne_iff_ne] using h
  simp [this]

/-- the modules `build` makes of a gene: good, and together the gene's kept domains -/
structure Built (g : Gene) (ms : List Module) : Prop where
  good : ∀ m ∈ ms, Good m
  flat : ms.flatMap (·.components) = keptComps g.name g.domains
  empty : ms.isEmpty = (keptComps g.name g.domains).isEmpty

theorem build_built (g : Gene) (hn : g.name.isEmpty = false)
    (hc : ∀ d ∈ g.domains, (classify d.label).isSome = true) :
    ∃ ms, build g.domains g.name = .ok ms ∧ Built g ms := by
  obtain ⟨ms, hb, hms⟩ := build_good g.domains g.name hn hc
  obtain ⟨hs, hflat, _⟩ := build_facts hn hc hb
  rw [kept_eq] at hflat
  refine ⟨ms, hb, hms, hflat, ?_⟩
  rw [← hflat]
  cases ms with
  | nil => rfl
  | cons m ms' =>
    cases hc : m.components with
    | nil => exact absurd hc (hs m (List.mem_cons_self)).2
    | cons c cs => simp [hc]

/-- the entry the loop makes for a gene with module list `ms`; `bare` records whether the gene
    had modules when it was handled -/
def infoOf (g : Gene) (ms : List Module) (bare : Bool) : GeneResult :=
  ⟨g.name, g.strand, g.region, ms, g.index, bare⟩

/-- What one round of the loop does to the list of handled genes, on good module lists:
    a gene without hits is skipped; otherwise its entry is appended, and if the previous round's
    gene is a non-empty neighbour in the same region, the border modules of the two are handed to
    `combine_modules`: then either nothing changes, or both genes lie on one strand and the two
    genes' domains, read in transcription order, are the same before and after. -/
inductive Round (g : Gene) (results : List GeneResult) (live : Bool) :
    List GeneResult → Bool → Prop
  | skip : liveGene g = false → Round g results live results false
  | append (ms : List Module) : liveGene g = true → Built g ms →
      Round g results live (results ++ [infoOf g ms ms.isEmpty]) true
  | merge (ms : List Module) (prev : GeneResult) (pm im : List Module) :
      liveGene g = true → Built g ms → live = true → results.getLast? = some prev →
      prev.modules.isEmpty = false → ms.isEmpty = false → prev.region = g.region →
      (∀ m ∈ pm, Good m) → (∀ m ∈ im, Good m) →
      ((pm = prev.modules ∧ im = ms) ∨
       (prev.strand = g.strand ∧
        if isReverse g.strand
        then im.flatMap (·.components) ++ pm.flatMap (·.components)
              = ms.flatMap (·.components) ++ prev.modules.flatMap (·.components)
        else pm.flatMap (·.components) ++ im.flatMap (·.components)
              = prev.modules.flatMap (·.components) ++ ms.flatMap (·.components))) →
      Round g results live
        (results.dropLast ++ [{ prev with modules := pm }, infoOf g im ms.isEmpty]) true

/-- what `combine_modules` returns on good lists, as the last clause of `Round.merge` -/
theorem combine_exchange (cs ps : Int) (cur prev : List Module)
    (hp : ∀ m ∈ prev, Good m) (hc : ∀ m ∈ cur, Good m) :
    ∃ r, combine cs ps cur prev = .ok r ∧ (∀ m ∈ r.prev, Good m) ∧ (∀ m ∈ r.cur, Good m) ∧
      ((r.prev = prev ∧ r.cur = cur) ∨
       (cs = ps ∧ r.prev.flatMap (·.components) ++ r.cur.flatMap (·.components)
                  = prev.flatMap (·.components) ++ cur.flatMap (·.components))) := by
  obtain ⟨r, hr, h1, h2, _, h4⟩ := combine_good cs ps cur prev hp hc
  refine ⟨r, hr, h1, h2, ?_⟩
  by_cases hse : cs = ps
  · have hflat := combineOK_flat h4
    simp only [List.flatMap_append] at hflat
    exact Or.inr ⟨hse, hflat⟩
  · rw [combine_diff_strand _ _ _ _ hse] at hr
    injection hr with hr
    subst hr
    exact Or.inl ⟨rfl, rfl⟩

/-- one unfolding of `chainGo` on good module lists, classified as a `Round`; the two strand
    branches differ only in which gene is handed to `combine_modules` as `current` -/
theorem chainGo_round (g : Gene) (results : List GeneResult) (live : Bool)
    (hn : g.name.isEmpty = false) (hc : ∀ d ∈ g.domains, (classify d.label).isSome = true)
    (hr : ∀ r ∈ results, ∀ m ∈ r.modules, Good m) :
    ∃ results' live', Round g results live results' live' ∧
      ∀ rest, chainGo (g :: rest) results live = chainGo rest results' live' := by
  cases hskip : (g.domains.isEmpty && !g.hasMotifs) with
  | true =>
    refine ⟨results, false, .skip (by simp [liveGene, hskip]), ?_⟩
    intro rest
    simp only [chainGo, hskip, if_true]
  | false =>
    have hl : liveGene g = true := by simp [liveGene, hskip]
    obtain ⟨ms, hb, hB⟩ := build_built g hn hc
    have plain : (if live = true then results.getLast? else none) = none
        ∨ (∃ prev, (if live = true then results.getLast? else none) = some prev
            ∧ (!prev.modules.isEmpty && !ms.isEmpty && prev.region == g.region) = false) →
        ∃ results' live', Round g results live results' live' ∧
          ∀ rest, chainGo (g :: rest) results live = chainGo rest results' live' := by
      intro h
      refine ⟨_, true, .append ms hl hB, ?_⟩
      intro rest
      simp only [chainGo, hskip, Bool.false_eq_true, if_false, hb]
      rcases h with h | ⟨prev, h, hcond⟩
      · rw [h]
        rfl
      · rw [h]
        simp only [hcond, Bool.false_eq_true, if_false]
        rfl
    cases hprev : (if live = true then results.getLast? else none) with
    | none => exact plain (Or.inl hprev)
    | some prev =>
      cases hcond : (!prev.modules.isEmpty && !ms.isEmpty && prev.region == g.region) with
      | false => exact plain (Or.inr ⟨prev, hprev, hcond⟩)
      | true =>
        have hlive : live = true := by
          cases live with
          | false => simp at hprev
          | true => rfl
        have hgl : results.getLast? = some prev := by
          rw [hlive] at hprev
          simpa using hprev
        have hpg := hr prev (List.mem_of_getLast? hgl)
        have hcond' := hcond
        simp only [Bool.and_eq_true, Bool.not_eq_true', beq_iff_eq] at hcond'
        obtain ⟨⟨hpe, hme⟩, hreg⟩ := hcond'
        cases hstr : (g.strand == -1) with
        | true =>
          obtain ⟨r, hcomb, h1, h2, hx⟩ := combine_exchange prev.strand g.strand prev.modules ms hB.good hpg
          refine ⟨_, true, .merge ms prev r.cur r.prev hl hB hlive hgl hpe hme hreg h2 h1 ?_, ?_⟩
          · rcases hx with ⟨e1, e2⟩ | ⟨he, hflat⟩
            · exact Or.inl ⟨e2, e1⟩
            · exact Or.inr ⟨he, by simp only [isReverse, hstr, if_true]; exact hflat⟩
          · intro rest
            simp only [chainGo, hskip, Bool.false_eq_true, if_false, hb, hprev, hcond, hstr, if_true,
                       hcomb]
            rfl
        | false =>
          obtain ⟨r, hcomb, h1, h2, hx⟩ := combine_exchange g.strand prev.strand ms prev.modules hpg hB.good
          refine ⟨_, true, .merge ms prev r.prev r.cur hl hB hlive hgl hpe hme hreg h1 h2 ?_, ?_⟩
          · rcases hx with ⟨e1, e2⟩ | ⟨he, hflat⟩
            · exact Or.inl ⟨e1, e2⟩
            · exact Or.inr ⟨he.symm, by simp only [isReverse, hstr, Bool.false_eq_true, if_false]; exact hflat⟩
          · intro rest
            simp only [chainGo, hskip, Bool.false_eq_true, if_false, hb, hprev, hcond, hstr, if_true,
                       hcomb]
            rfl

theorem Round.good {g : Gene} {results results' : List GeneResult} {live live' : Bool}
    (h : Round g results live results' live') (hr : ∀ r ∈ results, ∀ m ∈ r.modules, Good m) :
    ∀ r ∈ results', ∀ m ∈ r.modules, Good m := by
  cases h with
  | skip _ => exact hr
  | append ms _ hB =>
    exact List.forall_mem_append.mpr ⟨hr, List.forall_mem_singleton.mpr hB.good⟩
  | merge ms prev pm im _ _ _ _ _ _ _ hpm him _ =>
    exact List.forall_mem_append.mpr ⟨fun r h => hr r (List.dropLast_subset _ h),
      List.forall_mem_cons.mpr ⟨hpm, List.forall_mem_singleton.mpr him⟩⟩

/-- the caller loop: never fails, every module it keeps is good -/
theorem chainGo_good : ∀ (genes : List Gene) (results : List GeneResult) (live : Bool),
    (∀ g ∈ genes, g.name.isEmpty = false ∧ ∀ d ∈ g.domains, (classify d.label).isSome = true) →
    (∀ r ∈ results, ∀ m ∈ r.modules, Good m) →
    ∃ out, chainGo genes results live = .ok out ∧ ∀ r ∈ out, ∀ m ∈ r.modules, Good m
  | [], results, _, _, hr => ⟨results, rfl, hr⟩
  | g :: rest, results, live, hg, hr => by
    obtain ⟨results', live', hround, hstep⟩ :=
      chainGo_round g results live (hg g (List.mem_cons_self)).1 (hg g (List.mem_cons_self)).2 hr
    rw [hstep]
    exact chainGo_good rest results' live' (fun x hx => hg x (List.mem_cons_of_mem _ hx)) (hround.good hr)

end ASV.Modules
