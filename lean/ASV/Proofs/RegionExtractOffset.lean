/-
  C12: what `offset_location` (shared model `offsetLocation`) does to the locations
  region extraction feeds it — the branch that needs no wrapping, for any number of parts; the general branch
  as a formula (`offsetLocation_general`: every shifted part brought back into the record by `wrapPart`, the
  pieces checked and merged by `finishOffset`); where one shifted part lands (`wrapPart_inside`, `_below`,
  `_straddle`); and the merge of two or three explicit pieces.
-/
import ASV.Proofs.RegionExtractNumbering
import ASV.Proofs.LocOffset
namespace ASV.RegionExtract
open ASV

theorem mapM_ok_of_forall {α β} (f : α → E β) (g : α → β) : ∀ (ps : List α), (∀ p ∈ ps, f p = .ok (g p)) →
    ps.mapM f = .ok (ps.map g)
  | [], _ => rfl
  | p :: ps, h => by
    have ih := mapM_ok_of_forall f g ps (fun q hq => h q (by simp [hq]))
    rw [List.mapM_cons, h p (by simp), ih]
    rfl

theorem shiftedParts_ok (l : Loc) (k : Int) (h : ∀ p ∈ l.parts, p.lo < p.hi) :
    shiftedParts l k true = .ok (l.parts.map fun p => ⟨p.lo + k, p.hi + k, p.strand⟩) := by
  unfold shiftedParts
  apply mapM_ok_of_forall
  intro p hp
  have := h p hp
  have h2 : ¬ p.hi ≤ p.lo := by omega
  simp [h2, pure, Except.pure]

theorem rebuild_shift (l : Loc) (k : Int) :
    rebuild l (l.parts.map fun p => ⟨p.lo + k, p.hi + k, p.strand⟩) = shiftLoc l k := by
  cases l <;> simp [rebuild, shiftLoc, Loc.parts]

/-- the branch of `offset_location` that needs no wrapping: every part is moved by the offset -/
theorem offset_no_wrap (l : Loc) (k L : Int) (hne : l.parts ≠ []) (hp : ∀ p ∈ l.parts, p.lo < p.hi)
    (hk : k ≠ 0) (hL : 0 < L) (hlen : l.len ≠ L) (h1 : 0 < l.start + k) (h2 : l.end + k < L) :
    offsetLocation l k L = .ok (shiftLoc l k) := by
  have hL0 : L ≠ 0 := by omega
  have hlt : ¬ L < 1 := by omega
  obtain ⟨p, hpm⟩ := List.exists_mem_of_ne_nil _ hne
  have hb := start_le_part l p hpm
  have hpp := hp p hpm
  have h3 : l.start + k < l.end + k := by omega
  simp [offsetLocation, offsetTrivial, hL0, hk, hlen, hlt, h1, h2, h3, shiftedParts_ok l k hp, rebuild_shift,
    bind, Except.bind, pure, Except.pure]

/-- the rest of `offset_location` after the parts were brought back into the record -/
def finishOffset (L : Int) (newParts : List Part) : E Loc := do
  if !(newParts.all fun p => 0 ≤ p.lo && p.lo < p.hi && p.hi ≤ L) then throw "assertion"
  match newParts with
  | [] => throw "assertion"
  | first :: rest =>
    let merged ← mergeAdjacent [first] first rest
    pure (Loc.ofParts merged)

/-- the general branch of `offset_location`, taken when the location is not as long as the record and the test for
    "no wrapping required" (`offsetTrivial`, spelt out in `hnt`) fails: every shifted part is brought back into the
    record by `wrapPart`, then `finishOffset` checks and merges the pieces -/
theorem offsetLocation_general (l : Loc) (k L : Int) (parts : List Part) (hL : 0 < L) (hk : k ≠ 0)
    (hlen : l.len ≠ L) (hnt : ¬ (0 < l.start + k ∧ l.start + k < l.end + k ∧ l.end + k < L))
    (hsp : shiftedParts l k true = .ok parts) :
    offsetLocation l k L = finishOffset L (parts.flatMap (wrapPart L)) := by
  have hL0 : L ≠ 0 := by omega
  have hlt : ¬ L < 1 := by omega
  have hnt' : offsetTrivial l k L = false := by
    simp only [offsetTrivial, Bool.and_eq_false_iff, decide_eq_false_iff_not]
    omega
  unfold offsetLocation wrapParts finishOffset
  simp only [hL0, hk, hlen, hlt, hnt', hsp, bind, Except.bind, pure, Except.pure, Bool.or_self, decide_false,
    if_false, Bool.false_eq_true]
  rfl


theorem emod_neg' (a L : Int) (h1 : -L ≤ a) (h2 : a < 0) : a % L = a + L := by
  have : a = (a + L) + (-1) * L := by omega
  rw [this, Int.add_mul_emod_self_right, Int.emod_eq_of_lt (by omega) (by omega)]
  omega

theorem emod_big' (a L : Int) (h1 : L ≤ a) (h2 : a < 2 * L) : a % L = a - L := by
  have : a = (a - L) + 1 * L := by omega
  rw [this, Int.add_mul_emod_self_right, Int.emod_eq_of_lt (by omega) (by omega)]
  omega

/-- a part not longer than the record, brought back into the record: from `lo mod L` on, in one piece if that fits
    before the record's end, otherwise up to the end and on from the origin -/
theorem wrapPart_eq (L lo hi : Int) (s : Strand) (hL : 0 < L) (h1 : lo < hi) (h2 : hi - lo ≤ L) :
    wrapPart L ⟨lo, hi, s⟩ =
      if lo % L + (hi - lo) ≤ L then [⟨lo % L, lo % L + (hi - lo), s⟩]
      else [⟨lo % L, L, s⟩, ⟨0, lo % L + (hi - lo) - L, s⟩] := by
  obtain ⟨c, hc, hs0, hs1⟩ := emod_shift lo L hL
  unfold wrapPart
  simp only
  generalize lo % L = a at hc hs0 hs1 ⊢
  by_cases hfit : a + (hi - lo) ≤ L
  · have e2 : (hi - 1) % L = a + (hi - lo) - 1 := by
      have : hi - 1 = (a + (hi - lo) - 1) + c * L := by omega
      rw [this, Int.add_mul_emod_self_right]
      exact Int.emod_eq_of_lt (by omega) (by omega)
    have hc' : (decide (0 ≤ a) && decide (a < a + (hi - lo) - 1 + 1) && decide (a + (hi - lo) - 1 + 1 ≤ L)) = true := by
      simp; omega
    rw [e2, if_pos hc', if_pos hfit, Int.sub_add_cancel]
  · have e2 : (hi - 1) % L = a + (hi - lo) - 1 - L := by
      have : hi - 1 = (a + (hi - lo) - 1 - L) + 1 * L + c * L := by omega
      rw [this, Int.add_mul_emod_self_right, Int.add_mul_emod_self_right]
      exact Int.emod_eq_of_lt (by omega) (by omega)
    have hc' : ¬ (decide (0 ≤ a) && decide (a < a + (hi - lo) - 1 - L + 1) && decide (a + (hi - lo) - 1 - L + 1 ≤ L)) = true := by
      simp; omega
    rw [e2, if_neg hc', if_neg hfit]
    have : a + (hi - lo) - 1 - L + 1 = a + (hi - lo) - L := by omega
    rw [this]

theorem wrapPart_inside (L lo hi : Int) (s : Strand) (h0 : 0 ≤ lo) (h1 : lo < hi) (h2 : hi ≤ L) :
    wrapPart L ⟨lo, hi, s⟩ = [⟨lo, hi, s⟩] := by
  rw [wrapPart_eq L lo hi s (by omega) h1 (by omega), Int.emod_eq_of_lt h0 (by omega), if_pos (by omega),
    (by omega : lo + (hi - lo) = hi)]

theorem wrapPart_below (L lo hi : Int) (s : Strand) (h0 : -L ≤ lo) (h1 : lo < hi) (h2 : hi ≤ 0) :
    wrapPart L ⟨lo, hi, s⟩ = [⟨lo + L, hi + L, s⟩] := by
  rw [wrapPart_eq L lo hi s (by omega) h1 (by omega), emod_neg' lo L h0 (by omega), if_pos (by omega),
    (by omega : lo + L + (hi - lo) = hi + L)]

theorem wrapPart_straddle (L lo hi : Int) (s : Strand) (h0 : -L ≤ lo) (h1 : lo < 0) (h2 : 0 < hi) (h3 : hi - lo ≤ L) :
    wrapPart L ⟨lo, hi, s⟩ = [⟨lo + L, L, s⟩, ⟨0, hi, s⟩] := by
  rw [wrapPart_eq L lo hi s (by omega) (by omega) h3, emod_neg' lo L h0 h1, if_neg (by omega),
    (by omega : lo + L + (hi - lo) - L = hi)]

theorem shiftedParts_two (a b : Part) (k : Int) (ha : a.lo < a.hi) (hb : b.lo < b.hi) :
    shiftedParts (.compound [a, b]) k true = .ok [⟨a.lo + k, a.hi + k, a.strand⟩, ⟨b.lo + k, b.hi + k, b.strand⟩] := by
  have h1 : ¬ a.hi ≤ a.lo := by omega
  have h2 : ¬ b.hi ≤ b.lo := by omega
  simp [shiftedParts, Loc.parts, h1, h2, pure, Except.pure, bind, Except.bind]

theorem start_two (a b : Part) : (Loc.compound [a, b]).start = min a.lo b.lo := by
  simp [Loc.start, minList]
theorem end_two (a b : Part) : (Loc.compound [a, b]).end = max a.hi b.hi := by
  simp [Loc.end, maxList]

theorem allIn_of (L : Int) (ps : List Part) (h : ∀ p ∈ ps, PartIn L p) :
    (ps.all fun p => decide (0 ≤ p.lo) && decide (p.lo < p.hi) && decide (p.hi ≤ L)) = true := by
  simp only [List.all_eq_true, Bool.and_eq_true, decide_eq_true_eq]
  intro p hp
  obtain ⟨h1, h2, h3⟩ := h p hp
  exact ⟨⟨h1, h2⟩, h3⟩

theorem partIn_mk (L a b : Int) (s : Strand) (h0 : 0 ≤ a) (h1 : a < b) (h2 : b ≤ L) : PartIn L ⟨a, b, s⟩ :=
  ⟨h0, h1, h2⟩

theorem allIn_nil (L : Int) : ∀ q ∈ ([] : List Part), PartIn L q := by
  intro q hq
  cases hq

theorem allIn_cons (L : Int) (p : Part) (ps : List Part) (hp : PartIn L p) (h : ∀ q ∈ ps, PartIn L q) :
    ∀ q ∈ p :: ps, PartIn L q := by
  intro q hq
  rcases List.mem_cons.1 hq with rfl | hq
  · exact hp
  · exact h q hq

theorem finishOffset_two_adj (L a b c : Int) (s : Strand) (h0 : 0 ≤ a) (h1 : a < b) (h2 : b < c) (h3 : c ≤ L) :
    finishOffset L [⟨a, b, s⟩, ⟨b, c, s⟩] = .ok (.simple ⟨a, c, s⟩) := by
  have hall := allIn_of L _ (allIn_cons L _ _ (partIn_mk L a b s h0 h1 (by omega))
    (allIn_cons L _ _ (partIn_mk L b c s (by omega) h2 h3) (allIn_nil L)))
  unfold finishOffset
  simp only [hall, Bool.not_true, Bool.false_eq_true, if_false, bind, Except.bind, pure, Except.pure]
  simp [mergeAdjacent, Loc.ofParts, pure, Except.pure]

theorem finishOffset_three_first (L a b c d e : Int) (s : Strand) (h0 : 0 ≤ a) (h1 : a < b) (h2 : b < c) (h3 : c ≤ L)
    (h4 : 0 ≤ d) (h5 : d < e) (h6 : e ≤ L) (hsep : c ≠ d) :
    finishOffset L [⟨a, b, s⟩, ⟨b, c, s⟩, ⟨d, e, s⟩] = .ok (.compound [⟨a, c, s⟩, ⟨d, e, s⟩]) := by
  have hall := allIn_of L _ (allIn_cons L _ _ (partIn_mk L a b s h0 h1 (by omega))
    (allIn_cons L _ _ (partIn_mk L b c s (by omega) h2 h3) (allIn_cons L _ _ (partIn_mk L d e s h4 h5 h6) (allIn_nil L))))
  unfold finishOffset
  simp only [hall, Bool.not_true, Bool.false_eq_true, if_false, bind, Except.bind, pure, Except.pure]
  simp [mergeAdjacent, hsep, Loc.ofParts, pure, Except.pure]

theorem finishOffset_three_last (L a b c d e : Int) (s : Strand) (h0 : 0 ≤ a) (h1 : a < b) (h2 : b ≤ L)
    (h3 : 0 ≤ c) (h4 : c < d) (h5 : d < e) (h6 : e ≤ L) (hsep : b ≠ c) :
    finishOffset L [⟨a, b, s⟩, ⟨c, d, s⟩, ⟨d, e, s⟩] = .ok (.compound [⟨a, b, s⟩, ⟨c, e, s⟩]) := by
  have hall := allIn_of L _ (allIn_cons L _ _ (partIn_mk L a b s h0 h1 h2)
    (allIn_cons L _ _ (partIn_mk L c d s h3 h4 (by omega)) (allIn_cons L _ _ (partIn_mk L d e s (by omega) h5 h6) (allIn_nil L))))
  unfold finishOffset
  simp only [hall, Bool.not_true, Bool.false_eq_true, if_false, bind, Except.bind, pure, Except.pure]
  simp [mergeAdjacent, hsep, Loc.ofParts, pure, Except.pure]

theorem finishOffset_one (L : Int) (a : Part) (ha : PartIn L a) : finishOffset L [a] = .ok (.simple a) := by
  have hall := allIn_of L [a] (by intro p hp; simp at hp; subst hp; exact ha)
  unfold finishOffset
  simp only [hall, Bool.not_true, Bool.false_eq_true, if_false, bind, Except.bind, pure, Except.pure]
  simp [mergeAdjacent, Loc.ofParts, pure, Except.pure]

/-- a single part moved by `k` that stays inside the record (its end may land exactly on the record's end) is
    just moved -/
theorem offset_simple_shift (p : Part) (k L : Int) (hk : k ≠ 0) (hL : 0 < L) (hp : p.lo < p.hi)
    (h1 : 0 < p.lo + k) (h2 : p.hi + k ≤ L) (hlen : p.hi - p.lo ≠ L) :
    offsetLocation (.simple p) k L = .ok (.simple (shiftPart k p)) := by
  have hlen' : (Loc.simple p).len ≠ L := by simpa [Loc.len, Loc.parts, Part.len] using hlen
  by_cases h3 : p.hi + k < L
  · have := offset_no_wrap (.simple p) k L (by simp [Loc.parts]) (by intro q hq; simp [Loc.parts] at hq; subst hq; exact hp)
      hk hL hlen' (by simpa [Loc.start] using h1) (by simpa [Loc.end] using h3)
    rw [this]; rfl
  · rw [offsetLocation_general (.simple p) k L [shiftPart k p] hL hk hlen' (by simp [Loc.start, Loc.end]; omega)
      (by have := shiftedParts_ok (.simple p) k (by intro q hq; simp [Loc.parts] at hq; subst hq; exact hp)
          simpa [Loc.parts, shiftPart] using this)]
    simp only [List.flatMap_cons, List.flatMap_nil, List.append_nil]
    rw [show wrapPart L (shiftPart k p) = [shiftPart k p] from
      wrapPart_inside L (p.lo + k) (p.hi + k) p.strand (by omega) (by omega) (by omega)]
    exact finishOffset_one L _ (by simp [PartIn, shiftPart]; omega)

end ASV.RegionExtract
