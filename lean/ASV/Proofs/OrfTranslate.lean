/-
  C15 helper lemmas: the translation given to the feature created for an ORF over unambiguous DNA
  is the protein the ORF encodes: a leading M, then one residue per codon up to (excluding) the stop.
-/
import ASV.Proofs.OrfScan
namespace ASV.Orf
open ASV

/-- what the proofs need to know about a codon table (checked by `decide` on the regenerated ones) -/
structure TableOk (tbl : List (Seq × Char)) (stops : List Seq) : Prop where
  total : ∀ a ∈ acgt, ∀ b ∈ acgt, ∀ c ∈ acgt, (lookupAa tbl [a, b, c]).isSome = true ∨ [a, b, c] ∈ stops
  stopsOut : ∀ c ∈ stops, lookupAa tbl c = none
  stopsDoc : ∀ c ∈ stops, c ∈ docStopCodons
  docStops : ∀ c ∈ docStopCodons, c ∈ stops
  valid : ∀ p ∈ tbl, ['*', 'B', 'J', 'O', 'U', 'Z'].contains p.2 = false

theorem table11_ok : TableOk Gen.forwardTable11 Gen.stopCodons11 :=
  ⟨by decide +kernel, by decide +kernel, by decide +kernel, by decide +kernel, by decide +kernel⟩

/-- Biopython's tables 1 and 11 differ only in their start codons, which the forward table and
    the stop codons do not hold -/
theorem table1_eq_table11 :
    Gen.forwardTable1 = Gen.forwardTable11 ∧ Gen.stopCodons1 = Gen.stopCodons11 := ⟨rfl, rfl⟩

theorem table1_ok : TableOk Gen.forwardTable1 Gen.stopCodons1 := by
  rw [table1_eq_table11.1, table1_eq_table11.2]
  exact table11_ok

theorem acgt_upper : ∀ c ∈ acgt, c.toUpper = c := by decide
theorem acgt_not_gap : ∀ c ∈ acgt, (c != '-') = true := by decide

theorem lookupAa_mem (tbl : List (Seq × Char)) (c : Seq) (aa : Char) (h : lookupAa tbl c = some aa) :
    (c, aa) ∈ tbl := by
  unfold lookupAa at h
  cases hf : tbl.find? (fun p => p.1 == c) with
  | none => rw [hf] at h; simp at h
  | some p =>
    rw [hf] at h
    have hp := List.find?_some hf
    have hm := List.mem_of_find?_eq_some hf
    simp only [Option.map_some, Option.some.injEq] at h
    simp only [beq_iff_eq] at hp
    rw [← hp, ← h]; exact hm

/-- codons that are all in the table, then a stop: translation to the stop is the residues of the first ones -/
theorem translateCodons_prefix (tbl : List (Seq × Char)) (stops : List Seq) (stop : Seq) (rest : List Seq)
    (hstop : stop ∈ stops) (hout : lookupAa tbl stop = none) :
    ∀ (pre : List Seq), (∀ c ∈ pre, (lookupAa tbl c).isSome = true) →
      translateCodons tbl stops true (pre ++ stop :: rest) = some (pre.map fun c => (lookupAa tbl c).getD 'X') := by
  intro pre
  induction pre with
  | nil =>
    intro _
    simp only [List.nil_append, translateCodons, hout, List.contains_eq_mem, hstop, decide_true, if_true, List.map_nil]
  | cons c cs ih =>
    intro h
    have hc := h c List.mem_cons_self
    obtain ⟨aa, haa⟩ := Option.isSome_iff_exists.1 hc
    simp only [List.cons_append, translateCodons, haa, ih (fun x hx => h x (List.mem_cons_of_mem _ hx)),
      Option.map_some, List.map_cons, Option.getD_some]

theorem codonAt_length (w : Seq) (i : Nat) (h : i + 3 ≤ w.length) : (codonAt w i).length = 3 := by
  simp only [codonAt, List.length_take, List.length_drop]; omega

theorem codonAt_orfSeq (w : Seq) (s e i : Nat) (h : 3 * i + 3 ≤ e + 3 - s) :
    codonAt (orfSeq w s e) (3 * i) = codonAt w (s + 3 * i) := by
  unfold codonAt orfSeq
  rw [List.drop_take, List.take_take, List.drop_drop]
  congr 1
  omega

theorem orfSeq_length (w : Seq) (s e : Nat) (h : e + 3 ≤ w.length) : (orfSeq w s e).length = e + 3 - s := by
  simp only [orfSeq, List.length_take, List.length_drop]; omega

theorem codonAt_subset_orfSeq (w : Seq) (s e i : Nat) (h : 3 * i + 3 ≤ e + 3 - s) :
    ∀ c ∈ codonAt w (s + 3 * i), c ∈ orfSeq w s e := by
  intro c hc
  rw [← codonAt_orfSeq w s e i h] at hc
  unfold codonAt at hc
  exact List.mem_of_mem_drop (List.mem_of_mem_take hc)

/-- three letters over ACGT that are not a stop codon have a residue -/
theorem lookup_of_acgt (tbl : List (Seq × Char)) (stops : List Seq) (hok : TableOk tbl stops) (codon : Seq)
    (hlen : codon.length = 3) (hacgt : ∀ c ∈ codon, c ∈ acgt) (hns : isStopDoc codon = false) :
    (lookupAa tbl codon).isSome = true := by
  match codon, hlen with
  | [a, b, c], _ =>
    rcases hok.total a (hacgt a (by simp)) b (hacgt b (by simp)) c (hacgt c (by simp)) with h | h
    · exact h
    · have := hok.stopsDoc _ h
      simp only [isStopDoc, List.contains_eq_mem, decide_eq_false_iff_not] at hns
      exact absurd this hns

theorem replaceInvalid_id (tbl : List (Seq × Char)) (stops : List Seq) (hok : TableOk tbl stops) (cs : List Seq)
    (h : ∀ c ∈ cs, (lookupAa tbl c).isSome = true) :
    replaceInvalid (cs.map fun c => (lookupAa tbl c).getD 'X') = cs.map fun c => (lookupAa tbl c).getD 'X' := by
  unfold replaceInvalid
  rw [List.map_map]
  apply List.map_congr_left
  intro c hc
  obtain ⟨aa, haa⟩ := Option.isSome_iff_exists.1 (h c hc)
  have := hok.valid _ (lookupAa_mem tbl c aa haa)
  simp only [Function.comp, haa, Option.getD_some]
  simp only at this
  rw [this]; rfl

/-- when the translation to the first stop is not empty, the feature gets it with the invalid
    residues replaced and a leading `M` -/
theorem featureTranslation_of_toStop (tbl : List (Seq × Char)) (stops : List Seq) (x : Seq) (a : Char)
    (rest : List Char) (h : bioTranslate tbl stops true (x.filter (· != '-')) = some (a :: rest)) :
    featureTranslation tbl stops x = some ('M' :: replaceInvalid rest) := by
  have haa : aaTranslation tbl stops x = some (replaceInvalid (a :: rest)) := by
    unfold aaTranslation
    simp only [h]
  unfold featureTranslation
  rw [haa]
  show (some (if _ then _ else _) : Option (List Char)) = _
  split
  · rfl
  · rename_i hM
    simp only [bne_iff_ne, ne_eq, Decidable.not_not] at hM
    exact congrArg (fun c => some (c :: replaceInvalid rest)) hM

/-- the codons of the ORF's own nucleotides: `k + 1` codons of the window from `s` on, then the stop -/
theorem codonsOf_orfSeq (w : Seq) (s k : Nat) (hin : s + 3 * (k + 1) + 3 ≤ w.length) :
    codonsOf (orfSeq w s (s + 3 * (k + 1))) =
      ((List.range (k + 1)).map fun i => codonAt w (s + 3 * i)) ++ [codonAt w (s + 3 * (k + 1))] := by
  unfold codonsOf
  rw [orfSeq_length w s _ hin, show (s + 3 * (k + 1) + 3 - s) / 3 = k + 1 + 1 by omega, List.range_succ,
    List.map_append, List.map_singleton, codonAt_orfSeq w s _ (k + 1) (by omega)]
  congr 1
  apply List.map_congr_left
  intro i hi
  rw [List.mem_range] at hi
  exact codonAt_orfSeq w s _ i (by omega)

/-- the protein of an ORF of `k + 2` codons: `M`, then the residues of codons `1 … k` -/
theorem specProtein_codons (tbl : List (Seq × Char)) (w : Seq) (s k : Nat) :
    specProtein tbl w s (s + 3 * (k + 1)) =
      'M' :: (List.range k).map fun i => (lookupAa tbl (codonAt w (s + 3 * (i + 1)))).getD 'X' := by
  rw [specProtein, Nat.add_sub_cancel_left, Nat.mul_div_cancel_left _ (by decide), Nat.add_sub_cancel]

/-- the feature created for an ORF over upper-case ACGT carries the protein the ORF encodes -/
theorem featureTranslation_orf {tbl : List (Seq × Char)} {stops : List Seq} (hok : TableOk tbl stops)
    {w : Seq} {s e : Nat} (horf : IsOrf w s e) (hacgt : ∀ c ∈ orfSeq w s e, c ∈ acgt) :
    featureTranslation tbl stops (orfSeq w s e) = some (specProtein tbl w s e) := by
  have hin := horf.inside
  obtain ⟨k, rfl⟩ := horf.codons
  -- no gaps, already upper case
  have hfilter : (orfSeq w s (s + 3 * (k + 1))).filter (· != '-') = orfSeq w s (s + 3 * (k + 1)) :=
    List.filter_eq_self.2 fun c hc => acgt_not_gap c (hacgt c hc)
  have hupper : upper (orfSeq w s (s + 3 * (k + 1))) = orfSeq w s (s + 3 * (k + 1)) := by
    unfold upper
    conv => rhs; rw [← List.map_id (orfSeq w s (s + 3 * (k + 1)))]
    exact List.map_congr_left fun c hc => acgt_upper c (hacgt c hc)
  -- every codon before the stop has a residue: it is over ACGT and not a stop
  have hpre : ∀ c ∈ (List.range (k + 1)).map (fun i => codonAt w (s + 3 * i)), (lookupAa tbl c).isSome = true := by
    intro c hc
    obtain ⟨i, hi, rfl⟩ := List.mem_map.1 hc
    rw [List.mem_range] at hi
    apply lookup_of_acgt tbl stops hok _ (codonAt_length w _ (by omega))
      (fun x hx => hacgt x (codonAt_subset_orfSeq w s _ i (by omega) x hx))
    cases hsd : isStopDoc (codonAt w (s + 3 * i)) with
    | false => rfl
    | true =>
      cases i with
      | zero => exact (not_start_and_stop _ horf.start hsd).elim
      | succ i => exact (horf.noStop (s + 3 * (i + 1)) (by omega) (by omega) (by omega) hsd).elim
  have hstop : codonAt w (s + 3 * (k + 1)) ∈ stops :=
    hok.docStops _ (by simpa [StopAt, isStopDoc] using horf.stop)
  have htrans : bioTranslate tbl stops true ((orfSeq w s (s + 3 * (k + 1))).filter (· != '-')) =
      some (((List.range (k + 1)).map fun i => codonAt w (s + 3 * i)).map fun c => (lookupAa tbl c).getD 'X') := by
    rw [hfilter, bioTranslate, hupper, codonsOf_orfSeq w s k hin]
    exact translateCodons_prefix tbl stops _ [] hstop (hok.stopsOut _ hstop) _ hpre
  have hvalid := replaceInvalid_id tbl stops hok _ hpre
  rw [List.range_succ_eq_map, List.map_cons, List.map_cons] at htrans hvalid
  rw [featureTranslation_of_toStop tbl stops _ _ _ htrans, specProtein_codons]
  have htail : replaceInvalid _ = _ := List.tail_eq_of_cons_eq hvalid
  rw [htail, List.map_map, List.map_map]
  rfl

end ASV.Orf
