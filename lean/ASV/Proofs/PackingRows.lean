/-
  C19: `pack` — nothing lost or duplicated, never refuses a well-formed
  area, and no two areas of one row share a base (for every input order).
-/
import ASV.Proofs.PackingBase
namespace ASV.Packing
open ASV ASV.Packing.Spec

/-- all areas held by a list of rows, row by row -/
def allContents (rows : List Row) : List Feat := rows.flatMap (·.contents)

@[simp] theorem allContents_nil : allContents [] = [] := rfl
@[simp] theorem allContents_cons (r : Row) (rs : List Row) :
    allContents (r :: rs) = r.contents ++ allContents rs := by
  simp [allContents]

theorem push_contents (r : Row) (a : Feat) : (r.push a).contents = r.contents ++ [a] := by
  unfold Row.push; split <;> rfl

theorem add_eq_some {r : Row} {a : Feat} {r' : Row} (h : r.add a = some r') :
    r.canFit a = true ∧ r' = r.push a := by
  unfold Row.add at h
  split at h
  · rename_i hc; exact ⟨hc, by simpa using h.symm⟩
  · simp at h

/-- where `placeIn` puts an area: into the first row that takes it, else into a new row at the end -/
theorem placeIn_some : ∀ {rows : List Row} {a : Feat} {rows' : List Row}, placeIn rows a = some rows' →
    ∃ pre r post, rows' = pre ++ r.push a :: post ∧ r.canFit a = true ∧
      (rows = pre ++ r :: post ∨ (rows = pre ∧ r = ({} : Row) ∧ post = []))
  | [], a, rows', h => by
    simp only [placeIn, Option.map_eq_some_iff] at h
    obtain ⟨r', hr, rfl⟩ := h
    obtain ⟨hf, rfl⟩ := add_eq_some hr
    exact ⟨[], {}, [], rfl, hf, Or.inr ⟨rfl, rfl, rfl⟩⟩
  | r :: rs, a, rows', h => by
    simp only [placeIn] at h
    split at h <;> simp only [Option.map_eq_some_iff] at h
    · obtain ⟨r', hr, rfl⟩ := h
      obtain ⟨hf, rfl⟩ := add_eq_some hr
      exact ⟨[], r, rs, rfl, hf, Or.inl rfl⟩
    · obtain ⟨rs', hrs, rfl⟩ := h
      obtain ⟨pre, r0, post, rfl, hf, hor⟩ := placeIn_some hrs
      exact ⟨r :: pre, r0, post, rfl, hf, hor.imp (congrArg (r :: ·)) (And.imp_left (congrArg (r :: ·)))⟩

theorem placeIn_perm {rows : List Row} {a : Feat} {rows' : List Row} (h : placeIn rows a = some rows') :
    (allContents rows').Perm (a :: allContents rows) := by
  obtain ⟨pre, r, post, rfl, _, rfl | ⟨rfl, rfl, rfl⟩⟩ := placeIn_some h
  · simp only [allContents, List.flatMap_append, List.flatMap_cons, push_contents, List.append_assoc,
      List.singleton_append]
    exact (List.perm_middle.append_left _).trans List.perm_middle
  · simp only [allContents, List.flatMap_append, List.flatMap_cons, List.flatMap_nil, push_contents,
      List.append_nil]
    exact List.perm_middle.trans (by simp)

theorem foldlM_placeIn_perm : ∀ (areas : List Feat) (rows0 rows : List Row),
    areas.foldlM placeIn rows0 = some rows → (allContents rows).Perm (areas ++ allContents rows0)
  | [], rows0, rows, h => by
    simp only [List.foldlM_nil, pure, Option.some.injEq] at h
    subst h; simp
  | a :: as, rows0, rows, h => by
    simp only [List.foldlM_cons, bind, Option.bind_eq_some_iff] at h
    obtain ⟨rows1, h1, h2⟩ := h
    have p1 := placeIn_perm h1
    have p2 := foldlM_placeIn_perm as rows1 rows h2
    refine p2.trans ?_
    refine (List.Perm.append_left as p1).trans ?_
    simp only [List.cons_append]
    exact List.perm_middle

theorem pack_perm (areas : List Feat) (length : Int) (rows : List Row)
    (h : pack areas length = some rows) : (allContents rows).Perm areas := by
  unfold pack at h
  split at h
  · rename_i he
    simp only [Option.some.injEq] at h
    subst h
    simp only [List.isEmpty_iff] at he
    subst he; simp
  · simpa using foldlM_placeIn_perm areas _ rows h

theorem placeIn_isSome : ∀ (rows : List Row) (a : Feat), 0 ≤ a.start →
    ∃ rows', placeIn rows a = some rows'
  | [], a, h => by
    have : (Row.canFit {} a) = true := by simp [Row.canFit, h]
    simp [placeIn, Row.add, this]
  | r :: rs, a, h => by
    simp only [placeIn]
    split
    · rename_i hc; simp [Row.add, hc]
    · obtain ⟨rs', hrs⟩ := placeIn_isSome rs a h
      simp [hrs]

theorem foldlM_placeIn_isSome : ∀ (areas : List Feat) (rows0 : List Row),
    (∀ a ∈ areas, 0 ≤ a.start) → ∃ rows, areas.foldlM placeIn rows0 = some rows
  | [], rows0, _ => ⟨rows0, rfl⟩
  | a :: as, rows0, h => by
    obtain ⟨rows1, h1⟩ := placeIn_isSome rows0 a (h a (by simp))
    obtain ⟨rows, h2⟩ := foldlM_placeIn_isSome as rows1 (fun x hx => h x (by simp [hx]))
    exact ⟨rows, by simp [List.foldlM_cons, h1, h2]⟩

theorem pack_isSome (areas : List Feat) (length : Int) (h : ∀ a ∈ areas, 0 ≤ a.start) :
    ∃ rows, pack areas length = some rows := by
  unfold pack
  split
  · exact ⟨[], rfl⟩
  · exact foldlM_placeIn_isSome areas _ h

theorem collOK_start_nonneg {L : Int} {f : Feat} (h : collOK L f.loc = true) : 0 ≤ f.start := by
  unfold Feat.start
  rcases collOK_cases h with ⟨p, hp, h1, _, _⟩ | ⟨s, e, hp, h1, h2, h3⟩
  · rw [hp]; simpa using h1
  · rw [hp]; simp; omega

/-- what a row guarantees: its areas are well-formed and pairwise apart, and either the row is
    closed (an origin-spanning area was added: nothing fits any more) or every area in it is
    simple and ends before the row's `start` -/
structure RowInv (L : Int) (r : Row) : Prop where
  ok : ∀ c ∈ r.contents, collOK L c.loc = true
  apart : r.contents.Pairwise fun a b => Apart a.loc b.loc
  state : (r.end ≠ -1 ∧ L ≤ r.start) ∨ (∀ c ∈ r.contents, c.crosses = false ∧ c.end < r.start)

theorem rowInv_empty (L s e : Int) : RowInv L { start := s, «end» := e, contents := [] } :=
  ⟨by simp, by simp, Or.inr (by simp)⟩

theorem simple_of_not_crosses {L : Int} {c : Feat} (hc : collOK L c.loc = true)
    (hx : c.crosses = false) : ∃ p, c.loc = .simple p ∧ 0 ≤ p.lo ∧ p.lo < p.hi ∧ p.hi ≤ L := by
  rcases collOK_cases hc with h | ⟨s, e, hp, _⟩
  · exact h
  · simp [Feat.crosses, hp, Loc.parts] at hx

theorem push_inv {L : Int} {r : Row} {a : Feat} (hr : RowInv L r) (ha : collOK L a.loc = true)
    (hf : r.canFit a = true) : RowInv L (r.push a) := by
  obtain ⟨hok, hap, hst⟩ := hr
  have hok' : ∀ c ∈ (r.push a).contents, collOK L c.loc = true := by
    intro c hc
    simp only [push_contents, List.mem_append, List.mem_singleton] at hc
    rcases hc with hc | rfl
    · exact hok c hc
    · exact ha
  -- it suffices to show the new area is apart from everything already there, and the state
  suffices h : (∀ c ∈ r.contents, Apart c.loc a.loc) ∧
      (((r.push a).end ≠ -1 ∧ L ≤ (r.push a).start) ∨
        (∀ c ∈ (r.push a).contents, c.crosses = false ∧ c.end < (r.push a).start)) by
    refine ⟨hok', ?_, h.2⟩
    rw [push_contents, List.pairwise_append]
    exact ⟨hap, by simp, fun c hc b hb => by
      simp only [List.mem_singleton] at hb; subst hb; exact h.1 c hc⟩
  rcases collOK_cases ha with ⟨p, hp, hp1, hp2, hp3⟩ | ⟨s, e, hp, he1, he2, he3⟩
  · -- a simple area
    have hcr : a.crosses = false := by simp [Feat.crosses, hp, Loc.parts]
    have hs : a.start = p.lo := by simp [Feat.start, hp]
    have he : a.end = p.hi := by simp [Feat.end, hp]
    simp only [Row.canFit, hcr] at hf
    by_cases hemp : r.contents = []
    · refine ⟨by simp [hemp], Or.inr ?_⟩
      intro c hc
      simp only [push_contents, hemp, List.nil_append, List.mem_singleton] at hc
      subst hc
      refine ⟨hcr, ?_⟩
      simp only [Row.push, hcr, Bool.false_eq_true, ↓reduceIte, he]
      omega
    · have hne : r.contents.isEmpty = false := by simpa [List.isEmpty_iff] using hemp
      simp only [hne, Bool.false_eq_true, ↓reduceIte, Bool.and_eq_true, decide_eq_true_eq, hs] at hf
      rcases hst with ⟨_, hcl⟩ | hopen
      · omega
      · refine ⟨?_, Or.inr ?_⟩
        · intro c hc
          obtain ⟨hcx, hce⟩ := hopen c hc
          obtain ⟨q, hq, _, _, _⟩ := simple_of_not_crosses (hok c hc) hcx
          have : c.end = q.hi := by simp [Feat.end, hq]
          intro x hx y hy
          simp only [hq, Loc.parts, List.mem_singleton] at hx
          simp only [hp, Loc.parts, List.mem_singleton] at hy
          subst hx hy
          omega
        · intro c hc
          simp only [push_contents, List.mem_append, List.mem_singleton] at hc
          simp only [Row.push, hcr, Bool.false_eq_true, ↓reduceIte]
          rcases hc with hc | rfl
          · obtain ⟨hcx, hce⟩ := hopen c hc
            exact ⟨hcx, by omega⟩
          · exact ⟨hcr, by omega⟩
  · -- an origin-spanning area: closes the row
    have hcr : a.crosses = true := by simp [Feat.crosses, hp, Loc.parts]
    have hs : a.start = s := by simp [Feat.start, hp]
    have hend : a.loc.end = L := by
      simp only [hp, Loc.end, maxList, List.map_cons, List.map_nil, List.foldl_cons, List.foldl_nil]
      omega
    have hclosed : (r.push a).end ≠ -1 ∧ L ≤ (r.push a).start := by
      simp only [Row.push, hcr, ↓reduceIte, hs, hend]
      omega
    refine ⟨?_, Or.inl hclosed⟩
    by_cases hemp : r.contents = []
    · simp [hemp]
    · have hne : r.contents.isEmpty = false := by simpa [List.isEmpty_iff] using hemp
      simp only [Row.canFit, hne, Bool.false_eq_true, ↓reduceIte, hcr] at hf
      split at hf
      · simp at hf
      · simp only [Bool.not_eq_eq_eq_not, Bool.not_true, List.any_eq_false] at hf
        intro c hc
        have := hf c hc
        exact (apart_of_noOverlap (by simpa using this)).symm

theorem placeIn_inv {L : Int} {rows : List Row} {a : Feat} {rows' : List Row}
    (hrows : ∀ r ∈ rows, RowInv L r) (ha : collOK L a.loc = true) (h : placeIn rows a = some rows') :
    ∀ r ∈ rows', RowInv L r := by
  obtain ⟨pre, r, post, rfl, hf, hor⟩ := placeIn_some h
  intro x hx
  simp only [List.mem_append, List.mem_cons] at hx
  rcases hor with rfl | ⟨rfl, rfl, rfl⟩
  · rcases hx with hx | rfl | hx
    · exact hrows x (by simp [hx])
    · exact push_inv (hrows r (by simp)) ha hf
    · exact hrows x (by simp [hx])
  · rcases hx with hx | rfl | hx
    · exact hrows x hx
    · exact push_inv (rowInv_empty L 0 (-1)) ha hf
    · cases hx

theorem foldlM_placeIn_inv {L : Int} : ∀ (areas : List Feat) (rows0 rows : List Row),
    (∀ r ∈ rows0, RowInv L r) → (∀ a ∈ areas, collOK L a.loc = true) →
    areas.foldlM placeIn rows0 = some rows → ∀ r ∈ rows, RowInv L r
  | [], rows0, rows, h0, _, h => by
    simp only [List.foldlM_nil, pure, Option.some.injEq] at h
    subst h; exact h0
  | a :: as, rows0, rows, h0, ha, h => by
    simp only [List.foldlM_cons, bind, Option.bind_eq_some_iff] at h
    obtain ⟨rows1, h1, h2⟩ := h
    exact foldlM_placeIn_inv as rows1 rows (placeIn_inv h0 (ha a (by simp)) h1)
      (fun x hx => ha x (by simp [hx])) h2

theorem pack_inv {L : Int} (areas : List Feat) (length : Int) (rows : List Row)
    (ha : ∀ a ∈ areas, collOK L a.loc = true) (h : pack areas length = some rows) :
    ∀ r ∈ rows, RowInv L r := by
  unfold pack at h
  split at h
  · simp only [Option.some.injEq] at h
    subst h; simp
  · refine foldlM_placeIn_inv areas _ rows ?_ ha h
    intro r hr
    simp only [List.mem_singleton] at hr
    subst hr
    exact rowInv_empty L 0 length

end ASV.Packing
