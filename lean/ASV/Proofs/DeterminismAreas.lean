/-
  C17 helper lemmas for area formation: `_sorted_protoclusters` is a function of the multiset it is
  given (tie key separating the members), hence so is candidate formation; the final loop of
  formation does not depend on how the `singles` set iterates.
-/
import ASV.Proofs.Members
import ASV.Proofs.RegionsSort
import ASV.Proofs.RegionsRingOrder
import ASV.Proofs.SortKeyed
import ASV.Model.DeterminismAreas
import ASV.Spec.Determinism
namespace ASV.Determinism
-- `Proto`, `Cand`, `sortBy` … below are C05's (`ASV.CC`), not the `Determinism.Proto` of the unique-protoclusters stage
open ASV.CC

/- The two definitions have the same text, but their `match`es were compiled separately; comparing them
   as they stand makes the unifier normalise every stuck scrutinee, so each is split on instead. -/
theorem formationCore_is_sorted_singles : formationCoreWith singlesOrder = formationCore := by
  funext ps wrap
  unfold formationCoreWith formationCore singlesOrder
  dsimp only
  split
  · rfl
  rcases findHybrids (sortProtos ps) wrap with e | ⟨hybridGroups, un1⟩
  · rfl
  dsimp only
  rcases buildCandidates wrap .hybrid ⟨[], []⟩ hybridGroups with e | t1
  · rfl
  dsimp only
  rcases findInterleaved un1 (sortCands t1.values) wrap with e | ⟨interleavedGroups, un2⟩
  · rfl
  dsimp only
  rcases buildCandidates wrap .interleaved t1 interleavedGroups with e | t2
  · rfl
  dsimp only
  rcases buildCandidates wrap .neighbouring t2 (findNeighbouring un2 (sortCands t2.values)) with e | t3
  · rfl
  dsimp only
  rcases addSingles wrap t3 (sortProtos (dedup (un2 ++ t3.singles))) with e | singles
  · rfl
  · rfl

theorem formation_is_sorted_singles : formationWith singlesOrder = formation := by
  funext ps wrap
  unfold formationWith formation
  rw [formationCore_is_sorted_singles]
  cases formationCore ps wrap with
  | error e => rfl
  | ok cs => rfl

/-- two final-loop orders that agree on every (unassigned, singles) pair drawn from the input give
    the same candidates.  Both sides unfold in lockstep and differ only in the argument of `addSingles`;
    C05's `*_wf` chain shows that `un2` and `t3.singles` are drawn from `ps`, which is what `hf` asks. -/
theorem formationCoreWith_congr {f₁ f₂ : List Proto → List Proto → List Proto} {ps : List Proto} (wrap : Option Int)
    (hn : ps.Nodup)
    (hf : ∀ un2 s, (∀ p, p ∈ un2 → p ∈ ps) → (∀ p, p ∈ s → p ∈ ps) → f₁ un2 s = f₂ un2 s) :
    formationCoreWith f₁ ps wrap = formationCoreWith f₂ ps wrap := by
  unfold formationCoreWith
  by_cases hE : ps.isEmpty = true
  · simp only [hE, if_true]
  · simp only [hE]
    cases hH : findHybrids (sortProtos ps) wrap with
    | error e => rfl
    | ok v =>
      obtain ⟨hgroups, un1⟩ := v
      simp only
      cases hB1 : buildCandidates wrap .hybrid ⟨[], []⟩ hgroups with
      | error e => rfl
      | ok t1 =>
        simp only
        cases hI : findInterleaved un1 (sortCands t1.values) wrap with
        | error e => rfl
        | ok w =>
          obtain ⟨igroups, un2⟩ := w
          simp only
          cases hB2 : buildCandidates wrap .interleaved t1 igroups with
          | error e => rfl
          | ok t2 =>
            simp only
            cases hB3 : buildCandidates wrap .neighbouring t2 (findNeighbouring un2 (sortCands t2.values)) with
            | error e => rfl
            | ok t3 =>
              simp only
              obtain ⟨_, _, hr3, _, _, hu1, hu2⟩ := stages_wf hn hH hB1 hI hB2 hB3
              rw [hf un2 t3.singles (fun p hp => hu1 p (hu2 p hp)) (reach_wf hr3).2]

theorem formationWith_congr {f₁ f₂ : List Proto → List Proto → List Proto} {ps : List Proto} (wrap : Option Int)
    (hn : ps.Nodup)
    (hf : ∀ un2 s, (∀ p, p ∈ un2 → p ∈ ps) → (∀ p, p ∈ s → p ∈ ps) → f₁ un2 s = f₂ un2 s) :
    formationWith f₁ ps wrap = formationWith f₂ ps wrap := by
  simp only [formationWith, formationCoreWith_congr wrap hn hf]

/-- `enum` iterates a set of protoclusters in some order -/
def EnumeratesProtos (enum : List Proto → List Proto) : Prop := ∀ s, (enum s).Perm s

theorem singlesOrder_eq_of_perm {un2 s₁ s₂ : List Proto} (inj : TieInj (un2 ++ s₁)) (hp : s₁.Perm s₂) :
    singlesOrder un2 s₁ = singlesOrder un2 s₂ := by
  unfold singlesOrder
  apply sortProtos_eq_of_perm
  · exact inj.subset (fun x hx => mem_dedup.1 hx)
  · apply (List.perm_ext_iff_of_nodup (nodup_dedup _) (nodup_dedup _)).2
    intro x
    simp only [mem_dedup, List.mem_append, hp.mem_iff]

section regions
open ASV.Regions

theorem appendNew_prefix (first last : List Feat) : ∃ t, appendNew first last = first ++ t := by
  unfold appendNew
  induction last generalizing first with
  | nil => exact ⟨[], by simp⟩
  | cons a rest ih =>
    simp only [List.foldl_cons]
    split
    · exact ih first
    · obtain ⟨t, ht⟩ := ih (first ++ [a])
      exact ⟨a :: t, by rw [ht]; simp⟩

/-- the code appends the new areas in the order of `last_areas` -/
theorem appendNew_is_list_order (first last : List Feat) : appendNewE id first last = appendNew first last := by
  obtain ⟨t, ht⟩ := appendNew_prefix first last
  simp only [appendNewE, newAreas, id, ht, List.drop_left]

theorem mergeFirstLast_is_list_order (wrap : Option Int) : ∀ (fuel : Nat) (secs : List Sec),
    mergeFirstLastE id wrap fuel secs = mergeFirstLast wrap fuel secs
  | 0, _ => rfl
  | fuel + 1, secs => by
    unfold mergeFirstLastE mergeFirstLast
    match secs with
    | first :: second :: more =>
      simp only
      cases hl : (second :: more).getLast? with
      | none => rfl
      | some last =>
        simp only
        by_cases ho : (!locationsOverlap first.1 last.1) = true
        · simp only [ho, if_true]
        · simp only [ho, appendNew_is_list_order, bind, Except.bind]
          cases connect [first.1, last.1] wrap with
          | error e => rfl
          | ok loc => exact mergeFirstLast_is_list_order wrap fuel _
    | [] => rfl
    | [_] => rfl

theorem sectionsOf_is_list_order (wrap : Option Int) (cands subs : List Feat) :
    sectionsOfE id wrap cands subs = sectionsOf wrap cands subs := by
  simp only [sectionsOfE, sectionsOf, mergeFirstLast_is_list_order]
  rfl

/-- uniqueness of the sorted area list: a comparison that is the strict order of a key separating
    the areas -/
theorem sortP_eq_of_perm {key : Feat → Int × Int} {lt : Feat → Feat → Bool} (hk : KeyOrder key lt) {l₁ l₂ : List Feat}
    (inj : ∀ a ∈ l₁, ∀ b ∈ l₁, key a = key b → a = b) (hp : l₁.Perm l₂) : sortP lt l₁ = sortP lt l₂ := by
  apply List.Perm.eq_of_pairwise (le := fun a b => keyLt (key b) (key a) = false)
  · intro a b ha hb hab hba
    have ha' : a ∈ l₁ := (sortP_perm lt l₁).mem_iff.1 ha
    have hb' : b ∈ l₁ := hp.mem_iff.2 ((sortP_perm lt l₂).mem_iff.1 hb)
    apply inj a ha' b hb'
    rw [keyLt_false_iff] at hab hba
    apply Prod.ext <;> omega
  · exact sortP_sorted hk l₁
  · exact sortP_sorted hk l₂
  · exact (sortP_perm lt l₁).trans (hp.trans (sortP_perm lt l₂).symm)

/-- `CDSCollection.__lt__` restricted to the areas of `l` is the strict order of the key, and the key
    separates them -/
structure SeparatingKey (key : Feat → Int × Int) (l : List Feat) : Prop where
  agrees : ∀ x ∈ l, ∀ y ∈ l, collectionLt y.loc x.loc = .ok (keyLt (key y) (key x))
  inj : ∀ a ∈ l, ∀ b ∈ l, key a = key b → a = b

theorem sortAreas_eq_of_perm {key : Feat → Int × Int} {l₁ l₂ : List Feat} (h : SeparatingKey key l₁) (hp : l₁.Perm l₂) :
    sortAreas l₁ = sortAreas l₂ := by
  have hk : KeyOrder key (fun a b => keyLt (key a) (key b)) := fun _ _ => rfl
  rw [sortAreas_eq (fun a b => keyLt (key a) (key b)) l₁ h.agrees,
    sortAreas_eq (fun a b => keyLt (key a) (key b)) l₂
      (fun x hx y hy => h.agrees x (hp.mem_iff.2 hx) y (hp.mem_iff.2 hy)),
    sortP_eq_of_perm hk h.inj hp]

/-- on a linear record `(start, −length)` is such a key as soon as no two areas have the same
    coordinates -/
theorem separatingKey_line {len : Int} {l : List Feat} (hl : ∀ a ∈ l, LineArea len a.loc)
    (hd : ∀ a ∈ l, ∀ b ∈ l, lineKey a.loc = lineKey b.loc → a = b) : SeparatingKey (fun a => lineKey a.loc) l :=
  ⟨fun x hx y hy => collectionLt_line (hl y hy) (hl x hx), hd⟩

/-- on a circular record (C06's `collectionLt_ring`): well-formed areas — single parts inside the record or
    origin-spanning two-part areas —, none of them a single part covering the whole record, no two with the same
    (first base going round from the origin, length) -/
theorem separatingKey_ring {L : Int} {l : List Feat} (hl : ∀ a ∈ l, RingArea L a.loc)
    (hfull : ∀ a ∈ l, ∀ p, a.loc = .simple p → ¬ (p.lo = 0 ∧ p.hi = L))
    (hd : ∀ a ∈ l, ∀ b ∈ l, ringKey L a.loc = ringKey L b.loc → a = b) : SeparatingKey (fun a => ringKey L a.loc) l :=
  ⟨fun x hx y hy => collectionLt_ring (hl y hy) (hl x hx) (hfull y hy), hd⟩

end regions

end ASV.Determinism
