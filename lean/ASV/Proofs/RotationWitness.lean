/-
  C07: the record of the extender chain on two origins, each run through detection and the whole pipeline in
  one kernel evaluation (the witnesses of Props/C07.lean about that record are the parts of these two facts).
-/
import ASV.Model.Pipeline
import ASV.Model.Rotate
namespace ASV.C07
open ASV ASV.Rules ASV.Proto

/-! ### a chain A – e1 – B – e2 – C that exists only through EXTENDERS (the layout of the seeded change C07_3) -/

def chainRules : List RuleM :=
  [⟨"R", 5000, 3000, .group false [.single false "pA"], [], some (.single false "pE")⟩,
   ⟨"Q", 5000, 3000, .group false [.single false "pQ"], [], none⟩]
/-- ring of 100 kb; anchors A, B, C 8 kb apart (cutoff 5 kb), extender genes e1, e2 between them -/
def chainRec : Rec := ⟨100000, true,
  [⟨0, .simple ⟨10000, 11000, .fwd⟩, [("pA", 0)], true⟩, ⟨1, .simple ⟨14000, 15000, .fwd⟩, [("pE", 0)], true⟩,
   ⟨2, .simple ⟨19000, 20000, .rev⟩, [("pA", 0)], true⟩, ⟨3, .simple ⟨23000, 24000, .fwd⟩, [("pE", 0)], true⟩,
   ⟨4, .simple ⟨28000, 29000, .fwd⟩, [("pA", 0)], true⟩, ⟨5, .simple ⟨60000, 61000, .rev⟩, [("pQ", 0)], true⟩]⟩
/-- the same record with base 21000 (between B and e2) as origin, genes in the new record order -/
def chainRecCut : Rec := ⟨100000, true,
  [⟨3, Rot.rotateLoc (.simple ⟨23000, 24000, .fwd⟩) 21000 100000, [("pE", 0)], true⟩,
   ⟨4, Rot.rotateLoc (.simple ⟨28000, 29000, .fwd⟩) 21000 100000, [("pA", 0)], true⟩,
   ⟨5, Rot.rotateLoc (.simple ⟨60000, 61000, .rev⟩) 21000 100000, [("pQ", 0)], true⟩,
   ⟨0, Rot.rotateLoc (.simple ⟨10000, 11000, .fwd⟩) 21000 100000, [("pA", 0)], true⟩,
   ⟨1, Rot.rotateLoc (.simple ⟨14000, 15000, .fwd⟩) 21000 100000, [("pE", 0)], true⟩,
   ⟨2, Rot.rotateLoc (.simple ⟨19000, 20000, .rev⟩) 21000 100000, [("pA", 0)], true⟩]⟩

/-- `chainRec` through detection and through the whole pipeline: the reported protoclusters by member genes,
    the candidate clusters by product and the regions by member genes.  One statement, so that the kernel
    runs detection once for both. -/
theorem chainRec_runs : membership chainRec chainRules = some [("R", [0, 1, 2, 3, 4]), ("Q", [5])] ∧
    ((Pipe.run chainRec chainRules).toOption.map fun res =>
      (res.cands.map (·.members.map (·.product)), res.regions.map fun x => Pipe.genesIn chainRec x.1)) =
    some ([["R"], ["Q"]], [[0, 1, 2, 3, 4], [5]]) := by
  decide +kernel

theorem chainRecCut_runs : membership chainRecCut chainRules = some [("R", [0, 1, 2, 3, 4]), ("Q", [5])] ∧
    ((Pipe.run chainRecCut chainRules).toOption.map fun res =>
      (res.cands.map (·.members.map (·.product)), res.regions.map fun x => Pipe.genesIn chainRecCut x.1)) =
    some ([["R"], ["Q"]], [[3, 4, 0, 1, 2], [5]]) := by
  decide +kernel

end ASV.C07
