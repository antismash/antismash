/-
  The chain notions the specifications of C03, C06 and C07 are stated with, for any item type and any relation:
  linked by a chain of steps, partition into maximal chains, lists related element by element.
-/
namespace ASV.Chains

/-- `a` and `b` are linked by a chain of `rel`-steps through members of `grp` -/
inductive Linked {α} (rel : α → α → Prop) (grp : List α) (a : α) : α → Prop
  | refl : a ∈ grp → Linked rel grp a a
  | step {b c : α} : Linked rel grp a b → c ∈ grp → (rel b c ∨ rel c b) → Linked rel grp a c

/-- `groups` are the maximal chains of `xs`: they partition `xs` (as a permutation of the input),
    none is empty, each is internally linked, and no step leads from one group to another -/
structure IsChainPartition {α} (rel : α → α → Prop) (xs : List α) (groups : List (List α)) : Prop where
  perm : groups.flatten.Perm xs
  nonempty : ∀ g ∈ groups, g ≠ []
  linked : ∀ g ∈ groups, ∀ a ∈ g, ∀ b ∈ g, Linked rel g a b
  separated : ∀ gs₁ g gs₂, groups = gs₁ ++ g :: gs₂ → ∀ a ∈ g, ∀ g' ∈ gs₂, ∀ b ∈ g', ¬ rel a b ∧ ¬ rel b a

/-- two lists related element by element, in order -/
inductive Paired {α β} (R : α → β → Prop) : List α → List β → Prop
  | nil : Paired R [] []
  | cons {a b l1 l2} : R a b → Paired R l1 l2 → Paired R (a :: l1) (b :: l2)

end ASV.Chains
