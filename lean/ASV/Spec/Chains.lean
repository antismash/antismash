/-
  Spec for C03, written without reference to how `cluster_prediction.py` computes it:

    anchoring genes of a rule : the genes at which the rule's formula holds with a reason profile
                                (C01's documented meaning over *all* genes of the record, distances
                                measured on the sets of bases, the shorter way round on a ring),
                                together with the neighbouring genes that supplied a profile
    chains                    : the connected components of "fewer than `cutoff` bases in between"
    core                      : the smallest span covering a chain (hull on a line, shortest arc on a ring)
    protocluster              : the bases within `neighbourhood` of the core (clipped on a line, wrapped on a ring)
    superiors                 : a chain is dropped iff the core of a chain of a superior rule covers its core

  Everything is executable: `verdict` evaluates the spec on the protoclusters the implementation
  reported.  The model (`ASV.Model.Protocluster`) is imported for the input types only.
-/
import ASV.Model.Protocluster
import ASV.Spec.Formula
import ASV.Spec.Bases
import ASV.Spec.ChainPartition
namespace ASV.Chains
open ASV ASV.Rules ASV.Proto

/-! ### chains: connected components of a relation, by absorption -/

/-- absorb into `grp` every element of `rest` related to a member, until nothing changes -/
def grow {α} (rel : α → α → Bool) : Nat → List α → List α → List α × List α
  | 0, grp, rest => (grp, rest)
  | n + 1, grp, rest =>
    let inn := rest.filter fun x => grp.any fun m => rel m x
    let out := rest.filter fun x => !(grp.any fun m => rel m x)
    if inn.isEmpty then (grp, rest) else grow rel n (grp ++ inn) out

def comps {α} (rel : α → α → Bool) : Nat → List α → List (List α)
  | 0, _ => []
  | _ + 1, [] => []
  | n + 1, x :: xs =>
    let gr := grow rel xs.length [x] xs
    gr.1 :: comps rel n gr.2

/-- the connected components of `rel` (taken symmetric) on `xs` -/
def components {α} (rel : α → α → Bool) (xs : List α) : List (List α) :=
  comps (fun a b => rel a b || rel b a) xs.length xs

/-! ### the chain relation and the chain properties the theorems are stated with -/

/-- a gene read as a span: a multi-exon gene covers its introns, an origin-spanning one covers the arc
    from its upper section over the origin to its lower section -/
def spanParts (w : Int) (l : Loc) : List Part :=
  if bridgesOrigin l then
    match splitBridging l with
    | .ok (lower, upper) => [fl (minList (upper.map (·.lo))) w, fl 0 (maxList (lower.map (·.hi)))]
    | .error _ => l.parts
  else [fl l.start l.end]

def spanLoc (w : Int) (l : Loc) : Loc := Loc.ofParts (spanParts w l)

/-- the chain relation: the two genes (as spans) share a base or have fewer than `c` bases strictly
    between them, the shorter way round on a ring of length `L` (`L = 0`: line) -/
def nearB (L c : Int) (a b : Loc) : Bool :=
  sharesPts (spanLoc L a) (spanLoc L b) || decide (specDistFull L (spanLoc L a) (spanLoc L b) < c)

/-! ### spans -/

abbrev Iv := ASV.Iv

def unionCanon (w : Int) (ls : List Loc) : List Iv := canon (ls.flatMap (spanParts w))

def subsetIvs (a b : List Iv) : Bool :=
  a.all fun x => b.any fun y => decide (y.1 ≤ x.1) && decide (x.2 ≤ y.2)

/-- hull of a chain on a line -/
def hullIv (ls : List Loc) : Iv := (minList (ls.map (·.start)), maxList (ls.map (·.end)))

/-- the bases within `d` of an area (one part, or two parts bridging the origin) -/
def withinDist (circ : Bool) (L d : Int) (a : Loc) : List Iv :=
  let ps := a.parts
  let n0 := (ps.head?.map (·.lo)).getD 0
  let n1 := (ps.getLast?.map (·.hi)).getD 0
  let base := ps.map fun p => (p.lo, p.hi)
  if circ then canonIvs (base ++ wrapIv L (n0 - d, n0) ++ wrapIv L (n1, n1 + d))
  else canonIvs (base ++ [(max 0 (n0 - d), n0), (n1, min L (n1 + d))])

/-! ### anchoring genes by the documented meaning -/

def ringL (r : Rec) : Int := if r.circular then r.len else 0

def specEnv (r : Rec) (cutoff : Int) : Env :=
  Env.ofLocsSpec (r.genes.map (·.id)) ((r.genes.filter (·.hasRes)).map (·.id))
    (fun h => match r.genes.find? (·.id == h) with | some x => x.hits | none => [])
    (fun h => match r.genes.find? (·.id == h) with | some x => x.loc | none => default)
    cutoff (ringL r)

def dedupNat : List Nat → List Nat
  | [] => []
  | g :: gs => g :: (dedupNat gs).filter (· != g)

/-- the anchoring genes of a rule -/
def anchorSet (r : Rec) (rule : RuleM) : List Gene :=
  let e := specEnv r rule.cutoff
  dedupNat ((r.genes.filter (·.hasRes)).flatMap fun g =>
    if specAnchors e g.id rule.cond then g.id :: (detect e g.id rule.cond).ancillary.map (·.1) else [])

/-- the chains of a rule, as lists of genes in record order -/
def chainsOf (r : Rec) (rule : RuleM) : List (List GeneInfo) :=
  let a := anchorSet r rule
  components (fun x y => nearB (ringL r) rule.cutoff x.loc y.loc) (r.genes.filter fun g => a.contains g.id)

/-! ### the verdict on reported protoclusters -/

structure ImplPC where
  rule : String
  core : Loc
  loc : Loc
deriving Repr, Inhabited

structure Verdict where
  ok : Bool
  why : String := ""
  known : String := ""
  groups : Nat := 0
  maxGroup : Nat := 0
  /-- some chain spans half of a ring or more: `connect_locations` may close such a span either way
      round (outside C04's guarantee); the rule is then left to the correspondence -/
  longChain : Bool := false
deriving Repr, Inhabited

def partOK (len : Int) (p : Part) : Bool := decide (0 ≤ p.lo) && decide (p.lo < p.hi) && decide (p.hi ≤ len)

/-- the inputs the property quantifies over: a positive record length, genes inside the record with
    non-empty parts and distinct names (exon order may cross the origin only on a circular record),
    non-negative distances, distinct rule names, conditions in the documented grammar -/
def inputsWF (r : Rec) (rules : List RuleM) : Bool :=
  decide (0 < r.len)
  && r.genes.all (fun g => !g.loc.parts.isEmpty && g.loc.parts.all (partOK r.len) && (r.circular || !bridgesOrigin g.loc)
                            && (!bridgesOrigin g.loc || (splitBridging g.loc).toOption.isSome))
  && (dedupNat (r.genes.map (·.id))).length == r.genes.length
  && rules.all (fun x => decide (0 ≤ x.cutoff) && decide (0 ≤ x.nbhd) && x.cond.WF
                          && (match x.extenders with | some c => c.WF | none => true))
  && (rules.map (·.name)).eraseDups.length == rules.length

/-- does the reported core cover the chain, and tightly? (line: it is the hull; ring: a well-formed
    area covering every member's span, of the shortest possible length whenever the chain spans less than
    half of the ring — longer chains may be closed either way round) -/
def coreCovers (r : Rec) (core : Loc) (chain : List GeneInfo) : Bool :=
  subsetIvs (unionCanon r.len (chain.map (·.loc))) core.canon

def coreTight (r : Rec) (core : Loc) (chain : List GeneInfo) : Bool :=
  if r.circular then
    let u := unionCanon r.len (chain.map (·.loc))
    areaWF r.len r.len core && (decide (2 * shortestArc r.len u ≥ r.len) || ivsLen core.canon == shortestArc r.len u)
  else
    match core.parts with
    | [p] => (p.lo, p.hi) == hullIv (chain.map (·.loc))
    | _ => false

/-- the reported protocluster is its own core widened by the neighbourhood; when that is the whole
    ring and the core spans the origin, the two ends meet leaving at most one base out -/
def nbhdOK (r : Rec) (nbhd : Int) (pc : ImplPC) : Bool :=
  let expected := withinDist r.circular r.len nbhd pc.core
  areaWF (ringL r) r.len pc.loc &&
  (pc.loc.canon == expected ||
    (r.circular && expected == [(0, r.len)] && bridgesOrigin pc.core && subsetIvs pc.core.canon pc.loc.canon
      && decide (ivsLen pc.loc.canon ≥ r.len - 1)))

/-- first and last gene (record order) inside a hull on a line -/
def firstLastIn (r : Rec) (h : Iv) : Option (Loc × Loc) :=
  let inside := r.genes.filter fun g => locationContainsOther (.simple ⟨h.1, h.2, .fwd⟩) g.loc
  match inside.head?, inside.getLast? with
  | some a, some b => some (a.loc, b.loc)
  | _, _ => none

def ltLoc (a b : Loc) : Bool := (featureLt a b).toOption.getD false

/-- on a linear record: is the chain's hull covered by the hull of a chain of a superior rule (the
    property's reading), and does a superior chain's gene range merely interleave with it (what the
    implementation additionally drops — KF-C03-superior-overlap)? -/
def superiorStatus (r : Rec) (rules : List RuleM) (rule : RuleM) (chain : List GeneInfo) : Bool × Bool :=
  let h := hullIv (chain.map (·.loc))
  let supChains := (rules.filter fun s => rule.superiors.contains s.name).flatMap fun s => chainsOf r s
  let covered := supChains.any fun c => let k := hullIv (c.map (·.loc)); decide (k.1 ≤ h.1) && decide (h.2 ≤ k.2)
  let interleaves := supChains.any fun c =>
    match firstLastIn r (hullIv (c.map (·.loc))), firstLastIn r h with
    | some (of, ol), some (f, l) => !(ltLoc ol f) && !(ltLoc l of)
    | _, _ => false
  (covered, interleaves)

/-! ### EXTENDERS: "plus any genes admitted by the rule's EXTENDERS clause" -/

/-- a record consisting of the gene alone (what `can_extend_to` evaluates the clause in) -/
def selfEnv (g : GeneInfo) (cutoff : Int) : Env :=
  Env.ofLocs [g.id] [g.id] (fun h => if h == g.id then g.hits else []) (fun _ => g.loc) cutoff 0

/-- the gene satisfies the EXTENDERS clause, by the documented meaning of the condition -/
def extOK (rule : RuleM) (g : GeneInfo) : Bool :=
  match rule.extenders with
  | some c => sem (selfEnv g rule.cutoff) g.id c
  | none => false

/-- the walk outwards from the core, as rules: genes inside the core are no candidates; the walk ends at
    the first gene further than the cutoff from the reference gene; a gene within the cutoff that
    satisfies the clause is admitted and becomes the reference; one that does not is stepped over -/
inductive ExtWalk (c : Int) (dist : GeneInfo → GeneInfo → Int) (ext inCore : GeneInfo → Bool) :
    GeneInfo → List GeneInfo → List GeneInfo → Prop
  | done (ref : GeneInfo) : ExtWalk c dist ext inCore ref [] []
  | inside {ref x rest adm} : inCore x = true → ExtWalk c dist ext inCore ref rest adm →
      ExtWalk c dist ext inCore ref (x :: rest) adm
  | stop {ref x rest} : inCore x = false → dist x ref > c → ExtWalk c dist ext inCore ref (x :: rest) []
  | accept {ref x rest adm} : inCore x = false → dist x ref ≤ c → ext x = true →
      ExtWalk c dist ext inCore x rest adm → ExtWalk c dist ext inCore ref (x :: rest) (x :: adm)
  | stepOver {ref x rest adm} : inCore x = false → dist x ref ≤ c → ext x = false →
      ExtWalk c dist ext inCore ref rest adm → ExtWalk c dist ext inCore ref (x :: rest) adm

/-- the admitted genes, computed -/
def specWalk (c : Int) (dist : GeneInfo → GeneInfo → Int) (ext inCore : GeneInfo → Bool) :
    GeneInfo → List GeneInfo → List GeneInfo
  | _, [] => []
  | ref, x :: rest =>
    if inCore x then specWalk c dist ext inCore ref rest
    else if dist x ref > c then []
    else if ext x then x :: specWalk c dist ext inCore x rest
    else specWalk c dist ext inCore ref rest

def ltLoc' (a b : Loc) : Bool := (featureLt a b).toOption.getD false

/-- the genes before (nearest first) and after the core in gene order -/
def walkBack (r : Rec) (core : Loc) : List GeneInfo :=
  (r.genes.take (r.genes.takeWhile fun g => ltLoc' g.loc core).length).reverse
def walkForward (r : Rec) (core : Loc) : List GeneInfo :=
  r.genes.drop (r.genes.takeWhile fun g => ltLoc' g.loc core).length

/-- on a linear record: the hull of a chain (`h`) together with the genes its rule's EXTENDERS clause
    admits, walking outwards from the first / last gene inside the hull -/
def extendedHull (r : Rec) (rule : RuleM) (h : Iv) : Option Iv :=
  let core : Loc := .simple ⟨h.1, h.2, .fwd⟩
  let inside := r.genes.filter fun g => locationContainsOther core g.loc
  match inside.head?, inside.getLast? with
  | some first, some last =>
    let dist := fun (a b : GeneInfo) => specDistFull 0 a.loc b.loc
    let back := specWalk rule.cutoff dist (extOK rule) (fun g => locationContainsOther core g.loc) first (walkBack r core)
    let h1 := hullIv (core :: back.map (·.loc))
    let core1 : Loc := .simple ⟨h1.1, h1.2, .fwd⟩
    let forw := specWalk rule.cutoff dist (extOK rule) (fun g => locationContainsOther core1 g.loc) last (walkForward r core)
    some (hullIv (core1 :: forw.map (·.loc)))
  | _, _ => none

def insIv (x : Iv) : List Iv → List Iv
  | [] => [x]
  | y :: ys => if x.1 < y.1 || (x.1 == y.1 && x.2 < y.2) then x :: y :: ys
               else if x == y then y :: ys else y :: insIv x ys
def sortIvSet (l : List Iv) : List Iv := l.foldr insIv []

/-- the cores expected for a rule with EXTENDERS on a linear record: every chain's hull extended by
    the admitted genes, extended cores within the cutoff of each other joined -/
def extendedHulls (r : Rec) (rule : RuleM) : Option (List Iv) :=
  let hulls := (chainsOf r rule).map fun c => extendedHull r rule (hullIv (c.map (·.loc)))
  if hulls.any (·.isNone) then none else some (hulls.filterMap id)

def expectedExtCores (r : Rec) (rule : RuleM) : Option (List Iv) :=
  (extendedHulls r rule).map fun hulls =>
    sortIvSet ((components (nearB 0 rule.cutoff) (hulls.map fun x => Loc.simple ⟨x.1, x.2, .fwd⟩)).map hullIv)

/-- are the reported cores of a rule with EXTENDERS the expected ones?  Without superiors exactly; with
    superiors (some extended cores may have been dropped before the joining) every reported core must be
    the span of the extended cores it contains -/
def extCoresOK (r : Rec) (rule : RuleM) (got : List Iv) : Bool :=
  match extendedHulls r rule, expectedExtCores r rule with
  | some hulls, some expected =>
    if rule.superiors.isEmpty then sortIvSet got == expected
    else got.all fun g =>
      let inside := hulls.filter fun h => decide (g.1 ≤ h.1) && decide (h.2 ≤ g.2)
      !inside.isEmpty && (minList (inside.map (·.1)), maxList (inside.map (·.2))) == g
  | _, _ => false

/-! #### EXTENDERS on a ring: the walk goes on round the record -/

/-- the genes before the core nearest first, continuing from the end of the record round to the core;
    the genes from the core on, continuing from the start of the record -/
def walkBackRing (r : Rec) (core : Loc) : List GeneInfo :=
  let idx := (r.genes.takeWhile fun g => ltLoc' g.loc core).length
  (r.genes.take idx).reverse ++ (r.genes.drop (idx + 1)).reverse
def walkForwardRing (r : Rec) (core : Loc) : List GeneInfo :=
  let idx := (r.genes.takeWhile fun g => ltLoc' g.loc core).length
  r.genes.drop idx ++ r.genes.take idx

/-- the span of a core and further genes on a ring (`connect_locations`, C04: covers its inputs, a
    well-formed area, the shortest arc when that is less than half of the ring) -/
def joinRing (r : Rec) (core : Loc) (gs : List GeneInfo) : Option Loc :=
  gs.foldlM (fun c g => (connect [g.loc, c] (some r.len)).toOption) core

/-- on a circular record: a chain's core together with the genes its rule's EXTENDERS clause admits,
    walking outwards both ways round the ring from the first / last gene inside the core, distances
    measured the shorter way round -/
def extendedCoreRing (r : Rec) (rule : RuleM) (chain : List GeneInfo) : Option Loc := do
  let core ← (connect (chain.map (·.loc)) (some r.len)).toOption
  let inside := withinSpec r core false
  let first ← inside.head?
  let last ← inside.getLast?
  let dist := fun (a b : GeneInfo) => specDistFull r.len a.loc b.loc
  let back := specWalk rule.cutoff dist (extOK rule) (fun g => locationContainsOther core g.loc) first (walkBackRing r core)
  let core1 ← joinRing r core back
  let forw := specWalk rule.cutoff dist (extOK rule) (fun g => locationContainsOther core1 g.loc) last (walkForwardRing r core)
  joinRing r core1 forw

/-- ring: every reported core of a rule with EXTENDERS is the span of the extended cores of the chains
    it covers -/
def extCoresRingOK (r : Rec) (rule : RuleM) (mine : List ImplPC) : Bool :=
  let chains := chainsOf r rule
  mine.all fun pc =>
    let covered := chains.filter fun c => subsetIvs (unionCanon r.len (c.map (·.loc))) pc.core.canon
    match covered.mapM (extendedCoreRing r rule) with
    | none => false
    | some [] => false
    | some exts =>
      match (connect exts (some r.len)).toOption with
      | some expected => expected.canon == pc.core.canon
      | none => false

def verdictRule (r : Rec) (rules : List RuleM) (impl : List ImplPC) (rule : RuleM) : Verdict :=
  let chains := chainsOf r rule
  let mine := impl.filter (·.rule == rule.name)
  let plain := rule.extenders.isNone
  let stats : Verdict := { ok := true, groups := chains.length, maxGroup := (chains.map (·.length)).foldl max 0 }
  if r.circular && (chains.any fun c => decide (2 * shortestArc r.len (unionCanon r.len (c.map (·.loc))) ≥ r.len)) then
    { stats with longChain := true }
  -- every reported protocluster is its core widened by the neighbourhood
  else if !(mine.all (nbhdOK r rule.nbhd)) then { stats with ok := false, why := s!"{rule.name}: protocluster is not its core widened by the neighbourhood" }
  -- no protocluster without a chain; without EXTENDERS exactly one chain per protocluster, tightly
  else if !(mine.all fun pc => chains.any fun c => coreCovers r pc.core c) then
    { stats with ok := false, why := s!"{rule.name}: a protocluster covers no chain of anchoring genes" }
  else if plain && !(mine.all fun pc => (chains.filter fun c => coreCovers r pc.core c).length == 1) then
    { stats with ok := false, why := s!"{rule.name}: a protocluster covers more than one chain" }
  else if plain && !(mine.all fun pc => chains.all fun c => !coreCovers r pc.core c || coreTight r pc.core c) then
    { stats with ok := false, why := s!"{rule.name}: a core is not the smallest span covering its chain" }
  else if !(chains.all fun c => (mine.filter fun pc => coreCovers r pc.core c).length ≤ 1) then
    { stats with ok := false, why := s!"{rule.name}: a chain lies in more than one protocluster" }
  else if !plain && !r.circular && !extCoresOK r rule (mine.map fun pc => (pc.core.start, pc.core.end)) then
    { stats with ok := false, why := s!"{rule.name}: a core is not its chain plus the genes admitted by EXTENDERS" }
  else if !plain && r.circular && !extCoresRingOK r rule mine then
    { stats with ok := false, why := s!"{rule.name}: a core is not its chain plus the genes admitted by EXTENDERS" }
  else
    -- chains without a protocluster / with one: the superiors clause
    let judgeable := !r.circular && (rules.all fun x => x.extenders.isNone)
    chains.foldl (fun (v : Verdict) c =>
      if !v.ok && v.known == "" then v else
      let kept := mine.any fun pc => coreCovers r pc.core c
      if rule.superiors.isEmpty then
        if kept then v else { v with ok := false, known := "", why := s!"{rule.name}: a chain has no protocluster" }
      else if !judgeable then v
      else
        let (covered, interleaves) := superiorStatus r rules rule c
        if kept && covered then { v with ok := false, known := "", why := s!"{rule.name}: kept although a superior covers its core" }
        else if !kept && !covered then
          if interleaves then { v with ok := false, known := "KF-C03-superior-overlap",
                                       why := s!"{rule.name}: dropped although no superior covers its core (a superior core intersects it)" }
          else { v with ok := false, known := "", why := s!"{rule.name}: dropped although no superior core touches it" }
        else v) stats

/-- output-level reading of "dropped when the cluster of one of its SUPERIORS covers its core genes", on
    lines and rings alike: no reported protocluster may have every base of its core inside the core of a
    reported protocluster of one of the superiors its rule lists (cores read as sets of bases) -/
def reportedUnderSuperior (rules : List RuleM) (pcs : List ImplPC) : Option (ImplPC × ImplPC) :=
  pcs.findSome? fun low =>
    match rules.find? (·.name == low.rule) with
    | none => none
    | some rule =>
      (pcs.find? fun high => rule.superiors.contains high.rule && subsetIvs low.core.canon high.core.canon).map
        fun high => (low, high)

/-- the spec evaluated on the reported protoclusters (`none`: the implementation raised) -/
def verdict (r : Rec) (rules : List RuleM) (impl : Option (List ImplPC)) : Verdict :=
  match impl with
  | none => { ok := false, why := "the implementation raised an exception" }
  | some pcs =>
    if !(pcs.all fun pc => rules.any (·.name == pc.rule)) then { ok := false, why := "protocluster of an unknown rule" }
    else if let some (low, high) := reportedUnderSuperior rules pcs then
      { ok := false, why := s!"a protocluster of {low.rule} is reported although the core of a protocluster of its superior {high.rule} covers its core" }
    else
      rules.foldl (fun (v : Verdict) rule =>
        let w := verdictRule r rules pcs rule
        if !v.ok && v.known == "" then v
        else if !w.ok then { w with groups := v.groups + w.groups, maxGroup := max v.maxGroup w.maxGroup, longChain := v.longChain || w.longChain,
                                     known := if w.known != "" then w.known else "", why := w.why }
        else { v with groups := v.groups + w.groups, maxGroup := max v.maxGroup w.maxGroup, longChain := v.longChain || w.longChain })
        { ok := true }

end ASV.Chains
